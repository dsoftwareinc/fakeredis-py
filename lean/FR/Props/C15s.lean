import FR.Proofs.ScanSys
/-!
# C15 (system level) — SCAN / SSCAN / HSCAN / ZSCAN as the server runs them

`FR/Props/C15.lean` is about the pure function `_scan`.  Here the commands are run the way a client reaches them:
`_process_command` (clean-up of closed sockets, clock refresh, arity check, MULTI queueing), `_run_command`
(`Signature.apply`, the gates, the body, write-back), the reply queue — and the client loop that follows the returned
cursors from 0 until 0 comes back.

Vocabulary (all in `FR.ScanSys`):
* `Hint`            : the clock reading a request takes under the lock (plus unused extra hints);
* `request mode c fields h` : the event "connection `c` sends `fields`" (`Ev.request`, run by `stepEv`);
* `iter mode c req hints 0 s` : the client loop — send `req cursor`, decode the reply, go on with the returned cursor
  until it is 0; one `Hint` per request; returns the pages, whether 0 came back, and the final state;
* `purgeAt t dict`   : the entries of `dict` not expired at clock `t` (what `list(db)` leaves behind);
* `dictType L`       : the stored type name of a key of `L` (what `TYPE` compares with);
* `scanPages`        : the list of pages of a complete iteration of the pure `_scan` (`scanAll` = their concatenation).

Results.
1. `scan_event` / `scan_iteration` : SCAN, one request and the complete iteration.
2. `kscan_event` / `sscan_iteration`, `hscan_iteration`, `zscan_iteration`, `kscan_missing`, `kscan_wrongtype`.
3. `scan_errors`, `kscan_errors`: the error replies, and that nothing but lazy expiry happens.
4. `interleaved_miss` (the guarantee "present for the whole iteration ⇒ returned" FAILS, documented deviation),
   `interleaved_guarantee` (what is guaranteed instead).

Two deviations from Redis are visible in the statements (both are faithful to the Python code, see the report):
a cursor that is not an integer is answered with `ERR value is not an integer or out of range`, and an odd number of
option words with `ERR wrong number of arguments for 'scan' command`, because `Signature.apply` rejects the request
before `_scan` could answer `ERR invalid cursor` / `ERR syntax error`.
-/
namespace FR.Props.C15s
open FR FR.M FR.Cmd FR.Spec FR.Proofs FR.ScanSys

/-! ## 1. SCAN -/

/-- **One SCAN request at system level.**  Connection `c` (not inside MULTI, not in subscriber mode, socket open)
sends `SCAN cb opts…` (`nameB` is any spelling of the command name) and nothing else happens.  Then
* exactly one reply is queued for `c`: `scanAnswer` computed on the selected database at the clock reading of the
  request (`scanAnswer` is `_scan` over the byte-wise sorted live keys, with every error path);
* the selected database is purged of its expired entries when the body was reached (`scanReaches`: even number of
  option words and an integer cursor), otherwise it is untouched; no other database changes;
* no model fault, no crash; the connection keeps its database, stays outside MULTI and subscriber mode. -/
theorem scan_event (mode : Mode) (c : Nat) (nameB cb : Bytes) (opts : List Bytes) (s : Sys) (h : Hint)
    (hname : lookupSig nameB = some scanSig) (htx : (s.conn c).tx = none) (hpub : (s.conn c).pubsub = 0)
    (hclosed : (s.conn c).closed = false) :
    let s' := stepEv s (request mode c (nameB :: cb :: opts) h)
    let db : Db := ⟨s.srv.dbs.getD (s.conn c).db [], h.time⟩
    s'.out = [(c, scanAnswer db cb opts)] ∧
    s'.srv.dbs = (if scanReaches cb opts then s.srv.dbs.set (s.conn c).db (Db.purge db).dict else s.srv.dbs) ∧
    s'.srv.time = h.time ∧ s'.fault = none ∧ s'.crashed = none ∧
    (s'.conn c).db = (s.conn c).db ∧ (s'.conn c).tx = none ∧ (s'.conn c).pubsub = 0 ∧
    (s'.conn c).closed = false :=
  FR.ScanSys.scan_event mode c nameB cb opts s h hname htx hpub hclosed

/-- the same for `_process_command` called directly, from any state (no reset of the per-event outputs):
the final state in closed form (`scanStep`) -/
theorem scan_processCommand (mode : Mode) (c : Nat) (nameB cb : Bytes) (opts : List Bytes) (s : Sys)
    (hname : lookupSig nameB = some scanSig) (htx : (s.conn c).tx = none) (hpub : (s.conn c).pubsub = 0) :
    processCommand mode c (nameB :: cb :: opts) s = ((), scanStep s c cb opts) :=
  processCommand_scan mode c nameB cb opts s hname htx hpub

/-- what a well-formed request is answered with: one `scanPage` over the sorted live keys, as the client decodes it -/
theorem scan_reply_is_page (db : Db) (cur : Int) (opts : List Bytes) (o : ScanOpts)
    (hp : parseScanOpts true opts {} = .ok o) (hc : 0 ≤ cur) (hb : cur < 2 ^ 63) :
    decodeScanReply (scanAnswer db (intBytes cur) opts) =
      some ((scanPage (scanKeys db) id (scanType db) cur o).1,
        ((scanPage (scanKeys db) id (scanType db) cur o).2).map .bulk) :=
  scanAnswer_decode db cur opts o hp hc (convInt_intBytes hc hb)

/-- **The complete SCAN iteration.**  State `s` satisfies `Sys.DataInv`; connection `c` has database `d` selected, is
outside MULTI and subscriber mode, its socket is open.  `c` sends `SCAN 0 opts…`, then `SCAN cursor opts…` with the
cursor it got back, and so on until 0 comes back; no other event happens in between.  Request `j` takes the clock
reading `hs[j].time`.

Hypothesis on the clock (`hL`): purging database `d` at any of the readings gives the same dictionary `L` —
equivalently (`stable_iff_same_live_keys`) the list of live keys is the same at every reading: no reading crosses a
deadline of a key that is live at another reading.  `hbound` (fewer than 2^63 live keys) is needed because the cursor
travels as a decimal string that must pass the `Int` converter on the way back.

Then, with `K` the byte-wise sorted list of the live keys (`scan_key_list`):
* cursor 0 comes back (`finished`), after exactly `scanCalls |K| COUNT` requests (`⌈|K| / COUNT⌉`, at least one);
* the pages are those of the pure `_scan` over `K`; concatenated they are exactly the keys of `K` that satisfy the
  MATCH glob and whose stored type is the TYPE argument — in sorted order, each exactly once (`K` has no duplicates);
* database `d` is now `L` (purged, otherwise unchanged, `purgeAt_sub`), all other databases are untouched;
* the invariant of the iteration (`ScanInv`: `DataInv`, the connection as before) holds in the final state. -/
theorem scan_iteration (mode : Mode) (c d : Nat) (nameB : Bytes) (opts : List Bytes) (o : ScanOpts) (L : Dict)
    (hs : List Hint) (s : Sys)
    (hname : lookupSig nameB = some scanSig) (hp : parseScanOpts true opts {} = .ok o)
    (hinv : s.DataInv) (htx : (s.conn c).tx = none) (hpub : (s.conn c).pubsub = 0)
    (hcl : (s.conn c).closed = false) (hdb : (s.conn c).db = d)
    (hL : ∀ h ∈ hs, purgeAt h.time (s.srv.dbs.getD d []) = L)
    (hbound : L.length ≤ 2 ^ 63) (hlen : scanCalls L.length o.count.toNat ≤ hs.length) :
    let K := sortBy bytesLt (L.map Prod.fst)
    let out := iter mode c (scanReq nameB opts) hs 0 s
    out.finished = true ∧
    out.pages = (scanPages K id (dictType L) o (K.length + 1) 0).map (fun p => p.map Reply.bulk) ∧
    out.pages.length = scanCalls L.length o.count.toNat ∧
    out.pages.flatten = (K.filter (matchPredicate id (dictType L) o)).map Reply.bulk ∧
    out.final.srv.dbs = s.srv.dbs.set d L ∧
    ScanInv c d L (hs.drop (scanCalls L.length o.count.toNat)) out.final :=
  FR.ScanSys.scan_iteration mode c d nameB opts o L hs s hname hp hinv htx hpub hcl hdb hL hbound hlen

/-- the list the iteration pages through: a duplicate-free, strictly increasing (byte-wise) list whose members are
exactly the keys that are live at the reading (`Db.live`: stored and not expired); the type the TYPE filter
compares with is the type of the live item -/
theorem scan_key_list (dict : Dict) (t : Int) (nd : NodupKeys dict) :
    let K := sortBy bytesLt ((purgeAt t dict).map Prod.fst)
    K.Nodup ∧ K.Pairwise (fun a b => bytesLt a b = true) ∧
    (∀ k, k ∈ K ↔ (Db.live ⟨dict, t⟩ k).isSome = true) ∧
    (∀ k it, Db.live ⟨dict, t⟩ k = some it → dictType (purgeAt t dict) k = strBytes it.value.ty.name) := by
  intro K
  have hn : ((purgeAt t dict).map Prod.fst).Nodup := Db.purge_nodup (db := ⟨dict, t⟩) nd
  refine ⟨nodup_sortBy _ hn, sortBy_bytes_strict hn, fun k => mem_scanKeys (db := ⟨dict, t⟩), ?_⟩
  intro k it h
  show typeNameOf ⟨(Db.purge ⟨dict, t⟩).dict, 0⟩ k = _
  unfold typeNameOf
  have : (Db.purge ⟨dict, t⟩).dict.lookup k = some it := h
  rw [this]

/-- purging only removes entries: `L` is `dict` without its expired entries, in the same order -/
theorem purgeAt_sub (dict : Dict) (t : Int) : (purgeAt t dict).Sublist dict := List.filter_sublist

/-- the clock hypothesis of `scan_iteration` is exactly "the live key list is the same at both readings" -/
theorem stable_iff_same_live_keys {dict : Dict} (nd : NodupKeys dict) (t t' : Int) :
    purgeAt t dict = purgeAt t' dict ↔ (purgeAt t dict).map Prod.fst = (purgeAt t' dict).map Prod.fst :=
  ⟨fun h => by rw [h], fun h => filter_eq_of_keys_eq _ _ nd h⟩

/-- … and it holds in particular when no stored deadline lies between the readings -/
theorem stable_of_no_deadline_crossed (dict : Dict) (t t' : Int)
    (h : ∀ p ∈ dict, ∀ e, p.2.expireat = some e → (e < t ↔ e < t')) : purgeAt t dict = purgeAt t' dict := by
  unfold purgeAt Db.purge
  simp only
  apply List.filter_congr
  intro p hp
  unfold Db.expired
  cases he : p.2.expireat with
  | none => rfl
  | some e =>
    have := h p hp e he
    simp only [Bool.not_eq_eq_eq_not, Bool.not_not]
    by_cases h1 : e < t
    · simp [h1, this.1 h1]
    · have h2 : ¬ e < t' := fun h' => h1 (this.2 h')
      simp [h1, h2]

/-! ### non-vacuity: a concrete iteration -/

def S (x : String) : Bytes := strBytes x
def str (v : String) (e : Option Int := none) : Item := ⟨.str (S v), e⟩

/-- database 1: six keys in insertion order; `ka` expired at 5, `kc` is a set that expires at 100 -/
def dict1 : Dict :=
  [(S "kd", str "4"), (S "kb", str "2"), (S "x", str "9"), (S "ka", str "1" (some 5)), (S "ke", str "5"),
   (S "kc", ⟨.set [S "m"], some 100⟩)]
/-- the same without the expired entry -/
def live1 : Dict :=
  [(S "kd", str "4"), (S "kb", str "2"), (S "x", str "9"), (S "ke", str "5"), (S "kc", ⟨.set [S "m"], some 100⟩)]
def s1 : Sys := { srv := { time := 7, dbs := [[], dict1], conns := [{ id := 1, db := 1 }] } }
def hints3 : List Hint := [⟨10, [], []⟩, ⟨11, [], []⟩, ⟨12, [], []⟩]
def bulkOf : Reply → Option Bytes | .bulk b => some b | _ => none

theorem s1_dataInv : s1.DataInv := by unfold Sys.DataInv NoEmpty; decide +kernel
theorem lookup_SCAN : lookupSig (S "SCAN") = some scanSig := by decide +kernel
theorem parse_count2_match : parseScanOpts true [S "COUNT", S "2", S "match", S "k*"] {} =
    .ok { count := 2, pattern := some (S "k*") } := by with_unfolding_all rfl

/-- the hypotheses of `scan_iteration` hold for `SCAN 0 COUNT 2 MATCH k*` on `s1` with readings 10, 11, 12 … -/
theorem s1_stable : ∀ h ∈ hints3, purgeAt h.time (s1.srv.dbs.getD 1 []) = live1 := by
  intro h hh
  simp only [hints3, List.mem_cons, List.not_mem_nil, or_false] at hh
  rcases hh with rfl | rfl | rfl <;> rfl

example : lookupSig (S "SCAN") = some scanSig ∧ s1.DataInv ∧ (s1.conn 1).tx = none ∧ (s1.conn 1).pubsub = 0 ∧
    (s1.conn 1).closed = false ∧ (s1.conn 1).db = 1 ∧
    (∀ h ∈ hints3, purgeAt h.time (s1.srv.dbs.getD 1 []) = live1) ∧
    scanCalls live1.length 2 = 3 :=
  ⟨lookup_SCAN, s1_dataInv, rfl, rfl, rfl, rfl, s1_stable, by decide⟩

/-- … and the loop really returns `kb kc | kd ke | (x is filtered out)` in three requests and leaves `live1` behind -/
example :
    (iter {} 1 (scanReq (S "SCAN") [S "COUNT", S "2", S "match", S "k*"]) hints3 0 s1).finished = true ∧
    (iter {} 1 (scanReq (S "SCAN") [S "COUNT", S "2", S "match", S "k*"]) hints3 0 s1).pages.map (·.map bulkOf) =
      [[some (S "kb"), some (S "kc")], [some (S "kd"), some (S "ke")], []] ∧
    (iter {} 1 (scanReq (S "SCAN") [S "COUNT", S "2", S "match", S "k*"]) hints3 0 s1).final.srv.dbs.map
      (·.map Prod.fst) = [[], live1.map Prod.fst] := by decide +kernel

/-- the theorem applied to the example -/
example : (iter {} 1 (scanReq (S "SCAN") [S "COUNT", S "2", S "match", S "k*"]) hints3 0 s1).pages.length = 3 :=
  (scan_iteration {} 1 1 (S "SCAN") _ _ live1 hints3 s1 lookup_SCAN parse_count2_match s1_dataInv rfl rfl rfl rfl
    s1_stable (by decide) (by decide)).2.2.1

/-! ## 2. SSCAN / HSCAN / ZSCAN -/

/-- **One SSCAN / HSCAN / ZSCAN request at system level** (`K` is `sscanK`, `hscanK` or `zscanK`; `K.Ok` is proved
for the three: `sscanK_ok`, `hscanK_ok`, `zscanK_ok`).  The reply is `kscanAnswer` on the item found under the key
in the selected database at the clock reading of the request (`none`: missing or expired); the only possible change
of any database is the lazy deletion of that key when it is stored but expired (`(db.get key).1`), and only when the
request got as far as the key look-up; nobody is notified, no fault, no crash. -/
theorem kscan_event (K : KScan) (hK : K.Ok) (mode : Mode) (c : Nat) (nameB key cb : Bytes) (opts : List Bytes)
    (s : Sys) (h : Hint)
    (hname : lookupSig nameB = some K.sig) (htx : (s.conn c).tx = none) (hpub : (s.conn c).pubsub = 0)
    (hclosed : (s.conn c).closed = false) :
    let s' := stepEv s (request mode c (nameB :: key :: cb :: opts) h)
    let db : Db := ⟨s.srv.dbs.getD (s.conn c).db [], h.time⟩
    s'.out = [(c, kscanAnswer K s.srv.version (db.get key).2 key cb opts)] ∧
    s'.srv.dbs = (if scanReaches cb opts then s.srv.dbs.set (s.conn c).db (db.get key).1.dict else s.srv.dbs) ∧
    s'.srv.time = h.time ∧ s'.srv.version = s.srv.version ∧ s'.fault = none ∧ s'.crashed = none ∧
    (s'.conn c).db = (s.conn c).db ∧ (s'.conn c).tx = none ∧ (s'.conn c).pubsub = 0 ∧
    (s'.conn c).closed = false :=
  FR.ScanSys.kscan_event K hK mode c nameB key cb opts s h hname htx hpub hclosed

/-- the three variants through the pure runner `runRegular` (for any database, no invariant needed) -/
theorem kscan_runRegular (K : KScan) (hK : K.Ok) (ctx : Ctx) (key cb : Bytes) (opts : List Bytes) (db : Db) :
    (runRegular K.sig K.body ctx none (key :: cb :: opts) db).db =
      (if scanReaches cb opts then (db.get key).1 else db) ∧
    (runRegular K.sig K.body ctx none (key :: cb :: opts) db).reply =
      kscanAnswer K ctx.version (db.get key).2 key cb opts ∧
    (runRegular K.sig K.body ctx none (key :: cb :: opts) db).notified = [] ∧
    (runRegular K.sig K.body ctx none (key :: cb :: opts) db).picksUsed = 0 ∧
    (runRegular K.sig K.body ctx none (key :: cb :: opts) db).fault = none :=
  runRegular_kscan K hK ctx key cb opts db

theorem kscan_processCommand (K : KScan) (hK : K.Ok) (mode : Mode) (c : Nat) (nameB key cb : Bytes)
    (opts : List Bytes) (s : Sys)
    (hname : lookupSig nameB = some K.sig) (htx : (s.conn c).tx = none) (hpub : (s.conn c).pubsub = 0) :
    processCommand mode c (nameB :: key :: cb :: opts) s = ((), kscanStep K s c key cb opts) :=
  processCommand_kscan K hK mode c nameB key cb opts s hname htx hpub

/-- **The complete iteration, generic form.**  The key holds the item `it` of the right type in database `d`, and
its deadline (if any) is not before any of the clock readings (`LiveAt`).  Then cursor 0 comes back after
`scanCalls |E| COUNT` requests, the pages are those of the pure `_scan` over the element list `E` of the variant,
concatenated they are the rendering of the elements of `E` whose MATCH key passes the glob, in the order of `E`;
all databases are literally unchanged. -/
theorem kscan_iteration (K : KScan) (hK : K.Ok) (mode : Mode) (c d : Nat) (nameB key : Bytes) (opts : List Bytes)
    (o : ScanOpts) (it : Item) (hs : List Hint) (s : Sys)
    (hname : lookupSig nameB = some K.sig) (hp : parseScanOpts false opts {} = .ok o)
    (htx : (s.conn c).tx = none) (hpub : (s.conn c).pubsub = 0)
    (hcl : (s.conn c).closed = false) (hdb : (s.conn c).db = d)
    (hlook : (s.srv.dbs.getD d []).lookup key = some it) (hty : it.value.ty = K.T)
    (hlive : ∀ h ∈ hs, LiveAt it h.time)
    (hbound : (K.elems (ciFor K.T key (some it))).length ≤ 2 ^ 63)
    (hlen : scanCalls (K.elems (ciFor K.T key (some it))).length o.count.toNat ≤ hs.length) :
    let ci := ciFor K.T key (some it)
    let E := K.elems ci
    let out := iter mode c (kscanReq nameB key opts) hs 0 s
    out.finished = true ∧
    out.pages = (scanPages E K.keyOf (fun _ => []) o (E.length + 1) 0).map (K.render s.srv.version ci) ∧
    out.pages.length = scanCalls E.length o.count.toNat ∧
    out.pages.flatten = K.render s.srv.version ci (E.filter (matchPredicate K.keyOf (fun _ => []) o)) ∧
    out.final.srv.dbs = s.srv.dbs ∧
    KInv c d key it s.srv.version s.srv.dbs (hs.drop (scanCalls E.length o.count.toNat)) out.final := by
  intro ci E out
  obtain ⟨h1, h2, h3, h4, h5, _⟩ := iter_complete mode c (kscanReq nameB key opts) (KInv c d key it s.srv.version s.srv.dbs)
    (fun _ => True) E K.keyOf (fun _ => []) o (K.render s.srv.version ci) (parse_count_pos' hp) (render_flatten K hK _ _)
    (fun h hs' cur s' hI hc hr =>
      have t := kscan_step K hK mode c d nameB key opts o it s.srv.version s.srv.dbs hname hp hty hbound h hs' cur s' hI hc hr
      ⟨t.1, t.2, trivial⟩)
    hs s ⟨htx, hpub, hcl, hdb, rfl, rfl, hlook, hlive⟩ hlen
  exact ⟨h1, h2, h3, h4, h5.2.2.2.2.2.1, h5⟩

/-- the MATCH filter of the keyed variants looks at the member / field only (there is no TYPE) -/
theorem kscan_filter {α : Type} (keyOf : α → Bytes) (o : ScanOpts) (ht : o.ty = none) (x : α) :
    matchPredicate keyOf (fun _ => []) o x =
      (match o.pattern with | some p => Glob.globMatch p (keyOf x) | none => true) := by
  unfold matchPredicate
  rw [ht]
  cases o.pattern <;> simp

/-- TYPE is not an option of the keyed variants, so the parsed options never carry one -/
theorem kscan_no_type : ∀ (opts : List Bytes) (o0 o : ScanOpts), parseScanOpts false opts o0 = .ok o →
    o0.ty = none → o.ty = none
  | [], o0, o, h, h0 => by simp only [parseScanOpts, Except.ok.injEq] at h; subst h; exact h0
  | [_], o0, o, h, h0 => by simp [parseScanOpts] at h
  | a :: v :: rest, o0, o, h, h0 => by
    rw [parseScanOpts] at h
    split at h
    · exact kscan_no_type rest _ o h h0
    · split at h
      · split at h
        · cases h
        · split at h
          · cases h
          · exact kscan_no_type rest _ o h h0
      · split at h
        · rename_i hc; simp at hc
        · cases h

/-- `kscan_iteration` with the number of elements given as `n`: what the three variants need of it -/
theorem kscan_iteration_of_length (K : KScan) (hK : K.Ok) (mode : Mode) (c d : Nat) (nameB key : Bytes)
    (opts : List Bytes) (o : ScanOpts) (it : Item) (hs : List Hint) (s : Sys)
    (hname : lookupSig nameB = some K.sig) (hp : parseScanOpts false opts {} = .ok o)
    (htx : (s.conn c).tx = none) (hpub : (s.conn c).pubsub = 0)
    (hcl : (s.conn c).closed = false) (hdb : (s.conn c).db = d)
    (hlook : (s.srv.dbs.getD d []).lookup key = some it) (hty : it.value.ty = K.T)
    (hlive : ∀ h ∈ hs, LiveAt it h.time) {n : Nat} (hn : (K.elems (ciFor K.T key (some it))).length = n)
    (hbound : n ≤ 2 ^ 63) (hlen : scanCalls n o.count.toNat ≤ hs.length) :
    let ci := ciFor K.T key (some it)
    let out := iter mode c (kscanReq nameB key opts) hs 0 s
    out.finished = true ∧ out.pages.length = scanCalls n o.count.toNat ∧
    out.pages.flatten = K.render s.srv.version ci ((K.elems ci).filter (matchPredicate K.keyOf (fun _ => []) o)) ∧
    out.final.srv.dbs = s.srv.dbs := by
  subst hn
  obtain ⟨h1, _, h3, h4, h5, _⟩ := kscan_iteration K hK mode c d nameB key opts o it hs s hname hp htx hpub hcl hdb
    hlook hty hlive hbound hlen
  exact ⟨h1, h3, h4, h5⟩

/-- **SSCAN**: the pages concatenate to the members of the set, sorted byte-wise, filtered by MATCH;
each exactly once when the stored set has no duplicate. -/
theorem sscan_iteration (mode : Mode) (c d : Nat) (nameB key : Bytes) (opts : List Bytes) (o : ScanOpts)
    (members : List Bytes) (e : Option Int) (hs : List Hint) (s : Sys)
    (hname : lookupSig nameB = some sscanK.sig) (hp : parseScanOpts false opts {} = .ok o)
    (htx : (s.conn c).tx = none) (hpub : (s.conn c).pubsub = 0)
    (hcl : (s.conn c).closed = false) (hdb : (s.conn c).db = d)
    (hlook : (s.srv.dbs.getD d []).lookup key = some ⟨.set members, e⟩)
    (hlive : ∀ h ∈ hs, LiveAt ⟨.set members, e⟩ h.time)
    (hbound : members.length ≤ 2 ^ 63) (hlen : scanCalls members.length o.count.toNat ≤ hs.length) :
    let out := iter mode c (kscanReq nameB key opts) hs 0 s
    out.finished = true ∧ out.pages.length = scanCalls members.length o.count.toNat ∧
    out.pages.flatten =
      ((sortBy bytesLt members).filter (matchPredicate id (fun _ => []) o)).map Reply.bulk ∧
    out.final.srv.dbs = s.srv.dbs ∧
    (members.Nodup → (sortBy bytesLt members).Pairwise (fun a b => bytesLt a b = true)) := by
  obtain ⟨h1, h2, h3, h4⟩ := kscan_iteration_of_length sscanK sscanK_ok mode c d nameB key opts o ⟨.set members, e⟩ hs s
    hname hp htx hpub hcl hdb hlook rfl hlive (length_sortBy _ _) hbound hlen
  exact ⟨h1, h2, h3, h4, sortBy_bytes_strict⟩

/-- **HSCAN**: the pages concatenate to `field, value, field, value, …` over the fields sorted byte-wise and
filtered by MATCH on the field; the value is the one stored under the field. -/
theorem hscan_iteration (mode : Mode) (c d : Nat) (nameB key : Bytes) (opts : List Bytes) (o : ScanOpts)
    (h : List (Bytes × Bytes)) (e : Option Int) (hs : List Hint) (s : Sys)
    (hname : lookupSig nameB = some hscanK.sig) (hp : parseScanOpts false opts {} = .ok o)
    (htx : (s.conn c).tx = none) (hpub : (s.conn c).pubsub = 0)
    (hcl : (s.conn c).closed = false) (hdb : (s.conn c).db = d)
    (hlook : (s.srv.dbs.getD d []).lookup key = some ⟨.hash h, e⟩)
    (hlive : ∀ x ∈ hs, LiveAt ⟨.hash h, e⟩ x.time)
    (hbound : h.length ≤ 2 ^ 63) (hlen : scanCalls h.length o.count.toNat ≤ hs.length) :
    let out := iter mode c (kscanReq nameB key opts) hs 0 s
    out.finished = true ∧ out.pages.length = scanCalls h.length o.count.toNat ∧
    out.pages.flatten =
      ((sortBy bytesLt (h.map Prod.fst)).filter (matchPredicate id (fun _ => []) o)).flatMap
        (fun f => [Reply.bulk f, Reply.bulk ((h.lookup f).getD [])]) ∧
    out.final.srv.dbs = s.srv.dbs ∧
    ((h.map Prod.fst).Nodup → (sortBy bytesLt (h.map Prod.fst)).Pairwise (fun a b => bytesLt a b = true)) := by
  obtain ⟨h1, h2, h3, h4⟩ := kscan_iteration_of_length hscanK hscanK_ok mode c d nameB key opts o ⟨.hash h, e⟩ hs s
    hname hp htx hpub hcl hdb hlook rfl hlive
    (show (sortBy bytesLt (h.map Prod.fst)).length = h.length by rw [length_sortBy, List.length_map]) hbound hlen
  exact ⟨h1, h2, h3, h4, sortBy_bytes_strict⟩

/-- **ZSCAN**: the order the model defines is BY MEMBER (byte-wise), not by score: the pages concatenate to
`member, score, member, score, …` over the `(member, score)` pairs sorted by member and filtered by MATCH on the
member; the score is rendered by `encodeFloat` for the emulated version. -/
theorem zscan_iteration (mode : Mode) (c d : Nat) (nameB key : Bytes) (opts : List Bytes) (o : ScanOpts)
    (z : ZSet) (e : Option Int) (hs : List Hint) (s : Sys)
    (hname : lookupSig nameB = some zscanK.sig) (hp : parseScanOpts false opts {} = .ok o)
    (htx : (s.conn c).tx = none) (hpub : (s.conn c).pubsub = 0)
    (hcl : (s.conn c).closed = false) (hdb : (s.conn c).db = d)
    (hlook : (s.srv.dbs.getD d []).lookup key = some ⟨.zset z, e⟩)
    (hlive : ∀ x ∈ hs, LiveAt ⟨.zset z, e⟩ x.time)
    (hbound : z.bylex.length ≤ 2 ^ 63) (hlen : scanCalls z.bylex.length o.count.toNat ≤ hs.length) :
    let E := sortBy (fun (a b : Bytes × Dbl) => bytesLt a.1 b.1) z.bylex
    let out := iter mode c (kscanReq nameB key opts) hs 0 s
    out.finished = true ∧ out.pages.length = scanCalls z.bylex.length o.count.toNat ∧
    out.pages.flatten =
      (E.filter (matchPredicate Prod.fst (fun _ => []) o)).flatMap
        (fun x => [Reply.bulk x.1, Reply.bulk (encodeFloat s.srv.version x.2 false)]) ∧
    out.final.srv.dbs = s.srv.dbs ∧ E.Perm z.bylex ∧
    ((z.bylex.map Prod.fst).Nodup → E.Pairwise (fun a b => bytesLt a.1 b.1 = true)) := by
  intro E
  obtain ⟨h1, h2, h3, h4⟩ := kscan_iteration_of_length zscanK zscanK_ok mode c d nameB key opts o ⟨.zset z, e⟩ hs s
    hname hp htx hpub hcl hdb hlook rfl hlive (show E.length = z.bylex.length from length_sortBy _ _) hbound hlen
  exact ⟨h1, h2, h3, h4, sortBy_perm _ _, sortBy_key_strict Prod.fst⟩

/-- **A missing (or expired) key** is scanned as an empty collection: `[0, []]`, for any cursor ≥ 0 and any valid
options. -/
theorem kscan_missing (K : KScan) (hK : K.Ok) (v : Nat) (key cb : Bytes) (opts : List Bytes) (cur : Int)
    (heven : opts.length % 2 = 0) (hint : Conv.int cb = .ok cur) (hc : 0 ≤ cur)
    (hok : allPairsOk false opts = true) :
    kscanAnswer K v none key cb opts = .arr [.bulk (intBytes 0), .arr []] := by
  rw [kscanAnswer_eq, if_neg (by omega), hint]
  simp only [Bool.false_eq_true, if_false]
  rw [hK.missing, scan_missing_empty _ _ _ _ _ _ hc heven hok]
  rfl

/-- **A key of another type** is refused with WRONGTYPE (once the cursor has passed the `Int` converter). -/
theorem kscan_wrongtype (K : KScan) (v : Nat) (it : Item) (hty : it.value.ty ≠ K.T) (key cb : Bytes)
    (opts : List Bytes) (cur : Int) (heven : opts.length % 2 = 0) (hint : Conv.int cb = .ok cur) :
    kscanAnswer K v (some it) key cb opts = .err (strBytes Msgs.WRONGTYPE_MSG) := by
  rw [kscanAnswer_eq, if_neg (by omega), hint]
  have : (it.value.ty != K.T) = true := by simp [hty]
  simp only [this, if_true]

/-- what "found under the key" means: with unique keys, `(db.get key).2` is the live entry -/
theorem kscan_item_is_live {db : Db} (nd : NodupKeys db.dict) (key : Bytes) : (db.get key).2 = db.live key :=
  get_snd_live nd key

/-! ### non-vacuity -/

def dictH : Dict :=
  [(S "h", ⟨.hash [(S "fb", S "2"), (S "fa", S "1"), (S "g", S "3")], none⟩), (S "s", ⟨.set [S "m2", S "m1"], none⟩),
   (S "z", ⟨.zset ((ZSet.empty.add (S "b") Dbl.one).1.add (S "a") (Dbl.ofInt 2)).1, none⟩)]
def s2 : Sys := { srv := { time := 7, dbs := [dictH], conns := [{ id := 1 }] } }

theorem lookup_HSCAN : lookupSig (S "HSCAN") = some hscanK.sig := by decide +kernel
theorem lookup_SSCAN : lookupSig (S "sscan") = some sscanK.sig := by decide +kernel
theorem lookup_ZSCAN : lookupSig (S "ZScan") = some zscanK.sig := by decide +kernel
theorem parse_count2 : parseScanOpts false [S "COUNT", S "2"] {} = .ok { count := 2 } := by with_unfolding_all rfl

/-- HSCAN h 0 COUNT 2, then HSCAN h 2 COUNT 2: `fa 1 fb 2 | g 3` -/
example :
    (iter {} 1 (kscanReq (S "HSCAN") (S "h") [S "COUNT", S "2"]) hints3 0 s2).finished = true ∧
    (iter {} 1 (kscanReq (S "HSCAN") (S "h") [S "COUNT", S "2"]) hints3 0 s2).pages.map (·.map bulkOf) =
      [[some (S "fa"), some (S "1"), some (S "fb"), some (S "2")], [some (S "g"), some (S "3")]] := by
  decide +kernel

example : (iter {} 1 (kscanReq (S "HSCAN") (S "h") [S "COUNT", S "2"]) hints3 0 s2).pages.length = 2 :=
  (hscan_iteration {} 1 0 (S "HSCAN") (S "h") _ _ [(S "fb", S "2"), (S "fa", S "1"), (S "g", S "3")] none hints3 s2
    lookup_HSCAN parse_count2 rfl rfl rfl rfl (by with_unfolding_all rfl) (fun _ _ _ h => by cases h) (by decide) (by decide)).2.1

/-- SSCAN of a set, of a missing key, of a key of another type; ZSCAN is ordered by member -/
example :
    ((iter {} 1 (kscanReq (S "sscan") (S "s") []) hints3 0 s2).pages.map (·.map bulkOf) =
      [[some (S "m1"), some (S "m2")]]) ∧
    ((iter {} 1 (kscanReq (S "sscan") (S "nokey") []) hints3 0 s2).pages.map (·.map bulkOf) = [[]]) ∧
    ((stepEv s2 (request {} 1 (kscanReq (S "sscan") (S "h") [] 0) ⟨10, [], []⟩)).out.map
        (fun p => p.2.isErr) = [true]) ∧
    ((iter {} 1 (kscanReq (S "ZScan") (S "z") []) hints3 0 s2).pages.map (·.map bulkOf) =
      [[some (S "a"), some (S "2"), some (S "b"), some (S "1")]]) := by decide +kernel

/-! ## 3. Errors at command level -/

/-- **SCAN: the error replies** (`D` is the selected database at the clock reading; by `scan_event` the state
changes by the purge of that database at most, and not at all in the first two cases).
1. an odd number of option words: `ERR wrong number of arguments for 'scan' command` (raised by `Signature.apply`);
2. a cursor that is not a canonical 64-bit integer: `ERR value is not an integer or out of range`;
3. a negative cursor: `ERR invalid cursor`;
4. the first bad option pair (unknown option, `COUNT` ≤ 0 or not an integer) decides: `optPairErr`
   (`ERR syntax error`, or the `Int` converter's message for a non-integer COUNT, see `C15.scan_bad_pair`);
5. there is no other error. -/
theorem scan_errors (D : Db) (cb : Bytes) (opts : List Bytes) :
    (opts.length % 2 = 1 → scanAnswer D cb opts = .err (strBytes (Msgs.fmt1 Msgs.WRONG_ARGS_MSG "scan")) ∧
      scanReaches cb opts = false) ∧
    (opts.length % 2 = 0 → ∀ e, Conv.int cb = .error e →
      scanAnswer D cb opts = .err (strBytes Msgs.INVALID_INT_MSG) ∧ scanReaches cb opts = false) ∧
    (opts.length % 2 = 0 → ∀ cur, Conv.int cb = .ok cur → cur < 0 →
      scanAnswer D cb opts = .err (strBytes Msgs.INVALID_CURSOR_MSG)) ∧
    (opts.length % 2 = 0 → ∀ cur, Conv.int cb = .ok cur → 0 ≤ cur →
      ∀ pre a v rest, opts = pre ++ a :: v :: rest → rest.length % 2 = 0 → pre.length % 2 = 0 →
        allPairsOk true pre = true → optPairOk true a v = false →
        scanAnswer D cb opts = .err (strBytes (optPairErr a v))) ∧
    ((scanAnswer D cb opts).isErr = true ↔
      (opts.length % 2 = 1 ∨ (∃ e, Conv.int cb = .error e) ∨
        ∃ cur, Conv.int cb = .ok cur ∧ (cur < 0 ∨ allPairsOk true opts = false))) := by
  rw [scanAnswer_eq]
  refine ⟨fun h => ?_, fun h e he => ?_, fun h cur hc hneg => ?_, fun h cur hc hpos pre a v rest e hr hp hok hbad => ?_, ?_⟩
  · have h0 : ¬ opts.length % 2 = 0 := by omega
    rw [if_pos h]; exact ⟨rfl, by simp [scanReaches, h0]⟩
  · rw [if_neg (by omega), he, Conv.int_error he]; exact ⟨rfl, by simp [scanReaches, he]⟩
  · rw [if_neg (by omega), hc]
    exact (replyOf_errors _ _ _ _ _ _ _).1 hneg
  · rw [if_neg (by omega), hc]
    exact (replyOf_errors _ _ _ _ _ _ _).2 pre a v rest e hpos hr hp hok hbad
  · by_cases hodd : opts.length % 2 = 1
    · rw [if_pos hodd]; simp [Reply.isErr, hodd]
    · rw [if_neg hodd]
      cases hc : Conv.int cb with
      | error e => simp [Reply.isErr, hodd]
      | ok cur =>
        simp only [scanResult, replyOf_isErr, hodd, false_or, reduceCtorEq, exists_false, Except.ok.injEq,
          exists_eq_left']

/-- **SSCAN / HSCAN / ZSCAN: the error replies**; as for SCAN, plus WRONGTYPE, and `TYPE` is not an option
(it is an unknown option: `ERR syntax error`, case 4 with `a = TYPE`, see `type_not_allowed`).  The order of the
checks: arity, cursor conversion, type of the key, then `_scan`'s own checks. -/
theorem kscan_errors (K : KScan) (v : Nat) (item : Option Item) (key cb : Bytes) (opts : List Bytes) :
    (opts.length % 2 = 1 → kscanAnswer K v item key cb opts = .err (strBytes (Msgs.fmt1 Msgs.WRONG_ARGS_MSG K.name))) ∧
    (opts.length % 2 = 0 → ∀ e, Conv.int cb = .error e →
      kscanAnswer K v item key cb opts = .err (strBytes Msgs.INVALID_INT_MSG)) ∧
    (opts.length % 2 = 0 → ∀ cur, Conv.int cb = .ok cur → ∀ it, item = some it → it.value.ty ≠ K.T →
      kscanAnswer K v item key cb opts = .err (strBytes Msgs.WRONGTYPE_MSG)) ∧
    (opts.length % 2 = 0 → ∀ cur, Conv.int cb = .ok cur → (∀ it, item = some it → it.value.ty = K.T) → cur < 0 →
      kscanAnswer K v item key cb opts = .err (strBytes Msgs.INVALID_CURSOR_MSG)) ∧
    (opts.length % 2 = 0 → ∀ cur, Conv.int cb = .ok cur → (∀ it, item = some it → it.value.ty = K.T) → 0 ≤ cur →
      ∀ pre a v' rest, opts = pre ++ a :: v' :: rest → rest.length % 2 = 0 → pre.length % 2 = 0 →
        allPairsOk false pre = true → optPairOk false a v' = false →
        kscanAnswer K v item key cb opts = .err (strBytes (optPairErr a v'))) := by
  rw [kscanAnswer_eq]
  refine ⟨fun h => ?_, fun h e he => ?_, fun h cur hc it hi hty => ?_, fun h cur hc hty hneg => ?_,
    fun h cur hc hty hpos pre a v' rest e hr hp hok hbad => ?_⟩
  · rw [if_pos h]; rfl
  · rw [if_neg (by omega), he, Conv.int_error he]
  · rw [if_neg (by omega), hc, hi]
    have : (it.value.ty != K.T) = true := by simp [hty]
    simp only [this, if_true]
  · rw [if_neg (by omega), hc]
    cases item with
    | none =>
      simp only [Bool.false_eq_true, if_false]
      exact (replyOf_errors _ _ _ _ _ _ _).1 hneg
    | some it =>
      simp only [hty it rfl, bne_self_eq_false, Bool.false_eq_true, if_false]
      exact (replyOf_errors _ _ _ _ _ _ _).1 hneg
  · rw [if_neg (by omega), hc]
    cases item with
    | none =>
      simp only [Bool.false_eq_true, if_false]
      exact (replyOf_errors _ _ _ _ _ _ _).2 pre a v' rest e hpos hr hp hok hbad
    | some it =>
      simp only [hty it rfl, bne_self_eq_false, Bool.false_eq_true, if_false]
      exact (replyOf_errors _ _ _ _ _ _ _).2 pre a v' rest e hpos hr hp hok hbad

/-- `TYPE x` is a bad option pair for the keyed variants (and a good one for SCAN) -/
theorem type_not_allowed (a v : Bytes) (h : casematch a "type" = true) :
    optPairOk false a v = false ∧ optPairErr a v = Msgs.SYNTAX_ERROR_MSG ∧ optPairOk true a v = true := by
  have h1 : casematch a "match" = false := by
    unfold casematch at h ⊢
    have : casenorm a = strBytes "type" := by simpa using h
    rw [this]; decide +kernel
  have h2 : casematch a "count" = false := by
    unfold casematch at h ⊢
    have : casenorm a = strBytes "type" := by simpa using h
    rw [this]; decide +kernel
  simp [optPairOk, optPairErr, h, h1, h2]

/-- the error paths change nothing but lazy expiry: this is `scan_event` / `kscan_event` (second component);
in particular a request refused for its arity or its cursor leaves every database literally unchanged -/
theorem scan_refused_unchanged (mode : Mode) (c : Nat) (nameB cb : Bytes) (opts : List Bytes) (s : Sys) (h : Hint)
    (hname : lookupSig nameB = some scanSig) (htx : (s.conn c).tx = none) (hpub : (s.conn c).pubsub = 0)
    (hclosed : (s.conn c).closed = false) (hr : scanReaches cb opts = false) :
    (stepEv s (request mode c (nameB :: cb :: opts) h)).srv.dbs = s.srv.dbs := by
  have := (scan_event mode c nameB cb opts s h hname htx hpub hclosed).2.1
  simp only [hr, Bool.false_eq_true, if_false] at this
  exact this

/-- the error message(s) connection 1 receives for the request `fields` sent in state `s1` -/
def errOf (fields : List Bytes) : List (Option Bytes) :=
  (stepEv s1 (request {} 1 fields ⟨10, [], []⟩)).out.map fun p => match p.2 with | .err m => some m | _ => none

/-- non-vacuity: the kinds of malformed requests, run through the server -/
example :
    (errOf [S "SCAN", S "0", S "COUNT"]).map Option.isSome = [true] ∧
    errOf [S "SCAN", S "x"] = [some (S "ERR value is not an integer or out of range")] ∧
    errOf [S "SCAN", S "-1"] = [some (S "ERR invalid cursor")] ∧
    errOf [S "SCAN", S "0", S "COUNT", S "0"] = [some (S "ERR syntax error")] ∧
    errOf [S "SCAN", S "0", S "COUNT", S "x"] = [some (S "ERR value is not an integer or out of range")] ∧
    errOf [S "SCAN", S "0", S "FOO", S "1"] = [some (S "ERR syntax error")] ∧
    errOf [S "SSCAN", S "kc", S "0", S "TYPE", S "set"] = [some (S "ERR syntax error")] ∧
    errOf [S "HSCAN", S "kc", S "0"] =
      [some (S "WRONGTYPE Operation against a key holding the wrong kind of value")] := by decide +kernel

/-! ## 4. Interleaved writes -/

/-- the history of the counter-example: three keys, `SCAN 0 COUNT 2`, `DEL a`, `SCAN 2 COUNT 2` -/
def missHistory : List Ev := [
  .open 1,
  .request {} 1 [S "SET", S "a", S "x"] [1] [],
  .request {} 1 [S "SET", S "b", S "x"] [2] [],
  .request {} 1 [S "SET", S "c", S "x"] [3] [],
  .request {} 1 [S "SCAN", S "0", S "COUNT", S "2"] [4] [],
  .request {} 1 [S "DEL", S "a"] [5] [],
  .request {} 1 [S "SCAN", S "2", S "COUNT", S "2"] [6] []]

/-- the replies of every event of a history, from the initial state -/
def replies (evs : List Ev) : List (List (Nat × Reply)) :=
  (evs.foldl (fun (p : Sys × List (List (Nat × Reply))) e => (stepEv p.1 e, p.2 ++ [(stepEv p.1 e).out])) ({}, [])).2

/-- the states before every event of a history, from the initial state -/
def statesBefore (evs : List Ev) : List Sys :=
  (evs.foldl (fun (p : Sys × List Sys) e => (stepEv p.1 e, p.2 ++ [p.1])) ({}, [])).2

def isLive (s : Sys) (k : Bytes) : Bool := ((s.srv.dbs.getD 0 []).lookup k).isSome

/-- a reply as a token list (for decidable comparison): bulk strings and integers as bytes, arrays bracketed -/
def toks : Reply → List Bytes
  | .bulk b => [b]
  | .int n => [intBytes n]
  | .arr [a, .arr page] => toks a ++ [S "["] ++ page.map (fun r => match r with | .bulk b => b | _ => S "?") ++ [S "]"]
  | _ => [S "?"]

/-- **The guarantee "a key present during the whole iteration is returned at least once" FAILS** for this cursor
scheme, as the docstring of `_scan` says.  Witness: keys `a b c`; `SCAN 0 COUNT 2` returns `a b` and cursor 2;
`DEL a` (a key other than `c`, smaller than `c`); `SCAN 2 COUNT 2` returns nothing and cursor 0.  The key `c` is live
before and after every one of these events and matches (no filter), yet it is on no page. -/
theorem interleaved_miss :
    ((replies missHistory).drop 4).map (·.map fun p => (p.1, toks p.2)) =
      [[(1, [S "2", S "[", S "a", S "b", S "]"])], [(1, [S "1"])], [(1, [S "0", S "[", S "]"])]] ∧
    ((statesBefore missHistory).drop 4).map (isLive · (S "c")) = [true, true, true] ∧
    isLive (missHistory.foldl stepEv {}) (S "c") = true ∧
    (missHistory.foldl stepEv {}).fault = none := by
  decide +kernel

/-- **What IS guaranteed.**  Connection `c` runs a SCAN dialogue (`sysDialogue`: call `j` is made with the cursor
returned by call `j-1`, from an ARBITRARY pre-state `calls[j].1` — whatever events happened in between).  If at
every call the connection is fit for SCAN, the pre-state satisfies `Sys.DataInv`, `k` is a live key of the selected
database at the clock reading of the call and passes MATCH and TYPE, and the number of live keys smaller than `k`
(`liveRank`) never decreases from a call to a later call, then a dialogue that reaches cursor 0 has returned `k` at
least once.  (Additions anywhere and removals of keys greater than `k` are harmless; only the removal of a smaller
key can make the scan miss `k`, as in `interleaved_miss`.) -/
theorem interleaved_guarantee (mode : Mode) (c : Nat) (nameB : Bytes) (opts : List Bytes) (o : ScanOpts) (k : Bytes)
    (hname : lookupSig nameB = some scanSig) (hp : parseScanOpts true opts {} = .ok o)
    (calls : List (Sys × Hint))
    (hok : ∀ p ∈ calls, CallOk c p) (hinv : ∀ p ∈ calls, p.1.DataInv)
    (hlive : ∀ p ∈ calls, ((callDb c p).live k).isSome = true)
    (hmatch : ∀ p ∈ calls, matchPredicate id (scanType (callDb c p)) o k = true)
    (hrank : calls.Pairwise (fun a b => liveRank k (callDb c a) ≤ liveRank k (callDb c b)))
    (hfin : ((sysDialogue mode c nameB opts calls 0).getLast?).map Prod.fst = some 0) :
    ∃ p ∈ sysDialogue mode c nameB opts calls 0, Reply.bulk k ∈ p.2 :=
  sys_cover mode c nameB opts o k hname hp calls hok hinv hlive hmatch hrank hfin

/-- the rank hypothesis in the words of the task: if no live key smaller than `k` disappears between two moments,
the rank of `k` does not decrease -/
theorem rank_mono_if_no_smaller_key_removed {k : Bytes} {a b : Db} (nd : NodupKeys a.dict)
    (h : ∀ x, bytesLt x k = true → (a.live x).isSome = true → (b.live x).isSome = true) :
    liveRank k a ≤ liveRank k b := by
  unfold liveRank
  apply List.Nodup.length_le_of_subset
  · exact (Db.purge_nodup nd : ((Db.purge a).dict.map Prod.fst).Nodup).filter _
  · intro x hx
    rw [List.mem_filter] at hx ⊢
    refine ⟨?_, hx.2⟩
    have ha : x ∈ scanKeys a := (mem_sortBy bytesLt).2 hx.1
    have hb : x ∈ scanKeys b := mem_scanKeys.2 (h x hx.2 (mem_scanKeys.1 ha))
    exact (mem_sortBy bytesLt).1 hb

/-- the dialogue over arbitrary pre-states is the pure cursor dialogue over what each call sees -/
theorem dialogue_is_pure (mode : Mode) (c : Nat) (nameB : Bytes) (opts : List Bytes) (o : ScanOpts)
    (hname : lookupSig nameB = some scanSig) (hp : parseScanOpts true opts {} = .ok o)
    (calls : List (Sys × Hint)) (hok : ∀ p ∈ calls, CallOk c p) :
    sysDialogue mode c nameB opts calls 0 =
      (pureDialogue o (calls.map (viewOf c)) 0).map (fun q => (q.1, q.2.map Reply.bulk)) :=
  sysDialogue_eq mode c nameB opts o hname hp calls 0 (by omega) (by omega) hok

/-- the pure core of the guarantee -/
theorem pure_guarantee (o : ScanOpts) (hc : 0 < o.count) (k : Bytes) (vs : List View)
    (hsort : ∀ v ∈ vs, v.keys.Pairwise (fun a b => bytesLt a b = true))
    (hmem : ∀ v ∈ vs, k ∈ v.keys) (hmatch : ∀ v ∈ vs, matchPredicate id v.ty o k = true)
    (hrank : vs.Pairwise (fun a b => rank k a.keys ≤ rank k b.keys))
    (hfin : ((pureDialogue o vs 0).getLast?).map Prod.fst = some 0) :
    ∃ p ∈ pureDialogue o vs 0, k ∈ p.2 :=
  cover_from o hc k vs 0 hsort hmem hmatch hrank (fun _ _ => Nat.zero_le _) hfin

/-- non-vacuity of `interleaved_guarantee`: the same three keys, but the key removed in between is GREATER than the
key we watch (`b`; `c` is deleted): the hypotheses hold (ranks 1, 1) and `b` is returned -/
def keepCalls : List (Sys × Hint) :=
  let s := (missHistory.take 4).foldl stepEv {}
  let s' := stepEv (stepEv s (.request {} 1 [S "SCAN", S "0", S "COUNT", S "1"] [4] []))
    (.request {} 1 [S "DEL", S "c"] [5] [])
  [(s, ⟨4, [], []⟩), (s', ⟨6, [], []⟩)]

example : keepCalls.map (fun p => liveRank (S "b") (callDb 1 p)) = [1, 1] ∧
    keepCalls.map (fun p => ((callDb 1 p).live (S "b")).isSome) = [true, true] ∧
    (sysDialogue {} 1 (S "SCAN") [S "COUNT", S "1"] keepCalls 0).map (fun p => (p.1, p.2.map bulkOf)) =
      [(1, [some (S "a")]), (0, [some (S "b")])] := by decide +kernel

end FR.Props.C15s

import FR.Proofs.Glob
/-!
# C16: `compile_pattern` (glob → regex) agrees with Redis's `stringmatchlen`

On every non-empty subject (`glob_correct`).  On the empty subject the two differ: Redis accepts only the empty pattern,
the compiled matcher every pattern of stars only (`empty_subject`, `empty_subject_model`, last example).
-/
namespace FR.Props.C16
open FR.Glob

/-- For every pattern and every non-empty subject the compiled matcher agrees with Redis. -/
theorem glob_correct (p s : FR.Glob.B) (hs : s ≠ []) :
    FR.Glob.globMatch p s = FR.Glob.rglob p s := by
  rw [globMatch, matchA_compile_eq_rtail, rtail, if_neg (by simpa using hs)]

/-- Redis on the empty subject: only the empty pattern matches. -/
theorem empty_subject (p : FR.Glob.B) : FR.Glob.rglob p [] = p.isEmpty := by
  cases p <;> simp [rglob]

/-- The model on the empty subject: exactly the all-star patterns match. -/
theorem empty_subject_model (p : FR.Glob.B) :
    FR.Glob.globMatch p [] = (FR.Glob.dropStars p).isEmpty :=
  matchA_compile_eq_rtail p []

/-- `*` matches every subject. -/
theorem star_matches_all (s : FR.Glob.B) : FR.Glob.globMatch [42] s = true := by
  show matchA (compile (cStar :: [])) s = true
  rw [compile_star, compile]; exact matchA_star_only s

/-- A pattern without metacharacters matches exactly itself. -/
theorem literal_pattern (p s : FR.Glob.B)
    (h : ∀ c ∈ p, c ≠ 42 ∧ c ≠ 63 ∧ c ≠ 91 ∧ c ≠ 92) :
    FR.Glob.globMatch p s = decide (p = s) := by
  show matchA (compile p) s = decide (p = s)
  induction p generalizing s with
  | nil => cases s <;> simp [compile, matchA_nil]
  | cons c r ih =>
    rw [compile_lit c r (h c (by simp))]
    cases s with
    | nil => rw [matchA_cons_nil _ _ (by simp)]; simp
    | cons x t =>
      rw [matchA_cons_cons _ _ _ _ (by simp), ih t (fun c hc => h c (by simp [hc]))]
      simp only [Atom.matches1, List.cons.injEq, Bool.decide_and]
      by_cases hcx : c = x <;> simp [hcx]

/-! ## non-vacuity / sanity examples

`matchA`, `compile`, `rglob` are defined by well-founded recursion, so they are evaluated here by
rewriting with their equation lemmas (no `native_decide`). -/

macro "glob_eval" : tactic =>
  `(tactic| (simp [globMatch, compile, classAtom, splitNeg, scanClass, rglob, rClass, rClassLoop,
      dropStars, cQ, cStar, cBS, cLB, cRB, cCaret, cDash, matchA, Atom.matches1, CItem.matches,
      u8_min, u8_max] <;> try decide))

-- "h[a-c]*o" compiles to  h [a-c] .* o
example : compile [104, 91, 97, 45, 99, 93, 42, 111] =
    [.lit 104, .cls false [.range 97 99], .star, .lit 111] := by glob_eval
-- "h[a-c]*o" matches "hbllo" (model and Redis)
example : globMatch [104, 91, 97, 45, 99, 93, 42, 111] [104, 98, 108, 108, 111] = true := by
  glob_eval
example : rglob [104, 91, 97, 45, 99, 93, 42, 111] [104, 98, 108, 108, 111] = true := by
  glob_eval
-- "h[a-c]*o" does not match "hdllo" nor "hbll"
example : globMatch [104, 91, 97, 45, 99, 93, 42, 111] [104, 100, 108, 108, 111] = false := by
  glob_eval
example : globMatch [104, 91, 97, 45, 99, 93, 42, 111] [104, 98, 108, 108] = false := by
  glob_eval
-- "[^a]?\*" matches "bc*" but not "ac*"
example : globMatch [91, 94, 97, 93, 63, 92, 42] [98, 99, 42] = true := by glob_eval
example : globMatch [91, 94, 97, 93, 63, 92, 42] [97, 99, 42] = false := by glob_eval
-- reversed range "[c-a]" still matches "b"
example : globMatch [91, 99, 45, 97, 93] [98] = true := by glob_eval
-- the hypothesis of `literal_pattern` is satisfiable: "key]" has no metacharacter
example : ∀ c ∈ ([107, 101, 121, 93] : B), c ≠ 42 ∧ c ≠ 63 ∧ c ≠ 91 ∧ c ≠ 92 := by decide
-- `hs : s ≠ []` in `glob_correct` is necessary: on the empty subject "*" differs
example : globMatch [42] [] = true ∧ rglob [42] [] = false := by
  rw [empty_subject_model, empty_subject]; exact ⟨by simp [dropStars, cStar], rfl⟩

end FR.Props.C16


import FR.Proofs.History
/-!
# C09 (continued) — no empty collection is ever stored, over ALL histories

`FR/Props/C09.lean` states the one-step fact for the generic runner.  Here the invariant
`Sys.DataInv` (every database dictionary has unique keys and stores no empty list / set / hash / zset) is
established for every state reachable from the initial state by any sequence of events `Ev`
(connections opening, closing and being collected, arbitrary bytes written to a socket, direct
`_process_command` steps, blocked connections being woken or timing out, in the threaded and in the asyncio
front-end, outages), for every choice of the hints (clock readings, random picks, script traces).

Nothing is excluded: the special bodies (SELECT, SWAPDB, MOVE, RANDOMKEY, SCAN, KEYS, DBSIZE, FLUSHDB, FLUSHALL,
SORT with and without STORE, ZUNIONSTORE / ZINTERSTORE, MULTI / EXEC / DISCARD / WATCH / UNWATCH, the pub/sub
commands, the blocking pops, SAVE / BGSAVE / LASTSAVE / TIME / ECHO / PING) and EVAL / EVALSHA / SCRIPT are
all covered.
-/
namespace FR.Props.C09
open FR

/-- the special bodies preserve the invariant, provided the nested runner (used by EXEC) does; the items they
return need no side condition, because `writebackAll` preserves the invariant for arbitrary items -/
theorem special_preserves (inner : Inner) (hinner : ∀ sig raw s, s.DataInv → (inner sig raw s).2.DataInv)
    (mode : Mode) (c : Nat) (name : String) (args : List Arg) (cis : List CI) (s : Sys) (h : s.DataInv) :
    (special inner mode c name args cis s).2.DataInv ∧
      ∀ (d : Nat) (cis' : List CI) (s' : Sys), s'.DataInv → (M.writebackAll d cis' s').2.DataInv :=
  ⟨(dataInv_whole.open mode c).special inner hinner name args cis s h,
    fun d cis' s' h' => pres_writebackAll d cis' s' h'⟩

/-- `_run_command` (regular or special command, script commands included) preserves the invariant -/
theorem runCommand_preserves (mode : Mode) (c : Nat) (sig : Sig) (raw : List Bytes) (fromScript : Bool)
    (s : Sys) (h : s.DataInv) : (runCommand mode c sig raw fromScript s).2.DataInv :=
  (dataInv_whole.open mode c).runCommand sig raw fromScript s h

/-- `_process_command` preserves the invariant, for every request (unknown commands, arity errors, queued
commands, EXEC, …) -/
theorem processCommand_preserves (mode : Mode) (c : Nat) (fields : List Bytes) (s : Sys) (h : s.DataInv) :
    (processCommand mode c fields s).2.DataInv :=
  dataInv_whole.processCommand mode c fields s h

/-- `sendall` of arbitrary bytes preserves the invariant -/
theorem sendall_preserves (mode : Mode) (c : Nat) (data : Bytes) (s : Sys) (h : s.DataInv) :
    (sendallGuarded mode c data s).2.DataInv :=
  dataInv_whole.sendallGuarded mode c data s h

/-- every event preserves the invariant -/
theorem stepEv_preserves (s : Sys) (e : Ev) (h : s.DataInv) : (stepEv s e).DataInv :=
  dataInv_whole.stepEv s e h

/-- **History theorem.**  At every point of every history, every database dictionary has unique keys and stores no
empty collection. -/
theorem no_empty_collections_all_histories (evs : List Ev) : (evs.foldl stepEv {}).DataInv :=
  dataInv_whole.foldl evs {} Sys.dataInv_init

/-- the same from any good starting state -/
theorem no_empty_collections_from (s : Sys) (h : s.DataInv) (evs : List Ev) : (evs.foldl stepEv s).DataInv :=
  dataInv_whole.foldl evs s h

/-- **Observable form.**  In every reachable state, for every database and key, a lookup returns an item only
if that item is a string or a non-empty collection: a key exists iff it holds a string or a non-empty
collection, and no command can leave an observable empty collection. -/
theorem lookup_never_empty (evs : List Ev) (i : Nat) (k : Bytes) (it : Item)
    (h : (((evs.foldl stepEv {}).dbAt i).get k).2 = some it) : it.value.isEmptyColl = false :=
  ((no_empty_collections_all_histories evs).dbAt i).get_snd h

/-- … the same for the live view (after purging expired keys), and the live view has unique keys -/
theorem live_never_empty (evs : List Ev) (i : Nat) (k : Bytes) (it : Item)
    (h : ((evs.foldl stepEv {}).dbAt i).live k = some it) : it.value.isEmptyColl = false :=
  ((no_empty_collections_all_histories evs).dbAt i).2 _ (live_some_mem h)

/-! ## non-vacuity -/

/-- open a connection; `RPUSH l a`; `LPOP l`; `DBSIZE` (requests written to the socket in RESP encoding) -/
def demo : List Ev :=
  [ .open 1,
    .cmd {} 1 [[82, 80, 85, 83, 72], [108], [97]] [100],
    .cmd {} 1 [[76, 80, 79, 80], [108]] [200],
    .cmd {} 1 [[68, 66, 83, 73, 90, 69]] [300] ]

/-- after the push the key `l` is stored; after the pop of its last element the key is gone from the
dictionary (not kept with an empty list), and DBSIZE answers one reply -/
example : ((runHistory (demo.take 2)).srv.dbs.getD 0 []).map Prod.fst = [[108]] ∧
    (runHistory (demo.take 3)).srv.dbs.getD 0 [] = [] ∧
    (runHistory demo).srv.dbs.getD 0 [] = [] ∧ (runHistory demo).out.length = 1 ∧
    (runHistory demo).fault = none ∧ (runHistory demo).crashed = none := by decide +kernel

/-- the history theorem applies to it (the theorem has no side condition on the events) -/
example : (runHistory demo).DataInv := no_empty_collections_all_histories demo

/-- the invariant is not trivially true: a state holding an empty list violates it -/
example : ¬ Sys.DataInv { srv := { dbs := [[([108], ⟨.list [], none⟩)]] } } := by
  intro h
  have := (h _ (List.mem_singleton.2 rfl)).2 _ (List.mem_singleton.2 rfl)
  exact absurd this (by decide)

end FR.Props.C09

import FR.Proofs.C04o
import FR.Props.C14p
/-!
# A connection receives its replies in the order of its requests (C04, "in request order")

`Sys.out` lists the emitted replies `(connection, reply)`, newest first.  `FR/Props/C04k.lean` has the reply count of
one request; this file has the order:

1. `processCommand_out_suffix` (and the same for the parser loop, `sendall`, the wake-up / time-out events, a whole
   event): processing only ever prepends to `out` - unconditionally; `drain_out_mono` without its hypothesis.
2. `replies_in_request_order`: one write of `n ≥ 1` complete requests to a live, un-paused connection `c` with an empty
   buffer, none of which parks: the replies `c` receives (oldest first) are `own r1 ++ own r2 ++ … ++ own rn`, `own ri`
   being what `_process_command` of `ri` alone emits for `c` in the state reached after `r1 … r(i-1)`.
3. `n_requests_n_replies`: with the counts of C04k - each request that is not (P)SUBSCRIBE / (P)UNSUBSCRIBE outside
   MULTI, not a blocking pop and not empty contributes `pushes ++ [answer]` where `pushes` are the pub/sub messages
   delivered to `c` itself while the command ran (PUBLISH on a channel the publisher listens to); when there are none,
   `n` requests give exactly `n` replies, the `i`-th being the answer to the `i`-th request.

Vocabulary: `repliesOf c out = ((out.filter (·.1 == c)).reverse).map (·.2)`; `next mode c r s` = the state after request
`r` (processed, input buffer of `c` empty again); `K s` the event invariant of `FR/Props/C04k.lean`.
-/
namespace FR.Props.C04o
open FR FR.M FR.C04k FR.BufIndep FR.C14p FR.C04o

/-! ## 1. processing only prepends to the reply list -/

/-- **`_process_command` only prepends to `out`**: every mode, connection, request, state -/
theorem processCommand_out_suffix (mode : Mode) (c : Nat) (fields : List Bytes) (s : Sys) :
    ∃ pre, (processCommand mode c fields s).2.out = pre ++ s.out :=
  PubSubHist.processCommand_pres (gr_hyps c) gr_clean mode fields s (Grows.refl s)

theorem drain_out_suffix (mode : Mode) (c : Nat) (fuel : Nat) (s : Sys) :
    ∃ pre, (drain mode c fuel s).2.out = pre ++ s.out :=
  PubSubHist.drain_pres (gr_hyps c) gr_clean mode fuel s (Grows.refl s)

theorem sendall_out_suffix (mode : Mode) (c : Nat) (data : Bytes) (s : Sys) :
    ∃ pre, (sendall mode c data s).2.out = pre ++ s.out :=
  PubSubHist.sendall_pres (gr_hyps c) gr_clean mode data s (Grows.refl s)

theorem sendallGuarded_out_suffix (mode : Mode) (c : Nat) (data : Bytes) (s : Sys) :
    ∃ pre, (sendallGuarded mode c data s).2.out = pre ++ s.out :=
  PubSubHist.sendallGuarded_pres (gr_hyps c) gr_clean mode data s (Grows.refl s)

theorem wakeConn_out_suffix (c : Nat) (s : Sys) : ∃ pre, (wakeConn c s).2.out = pre ++ s.out :=
  PubSubHist.wakeConn_pres (gr_emit c) s (Grows.refl s)

theorem timeoutConn_out_suffix (c : Nat) (s : Sys) : ∃ pre, (timeoutConn c s).2.out = pre ++ s.out :=
  PubSubHist.timeoutConn_pres (gr_emit c) s (Grows.refl s)

theorem wakeConnAsync_out_suffix (mode : Mode) (c : Nat) (s : Sys) :
    ∃ pre, (wakeConnAsync mode c s).2.out = pre ++ s.out :=
  PubSubHist.wakeConnAsync_pres (gr_hyps c) gr_clean mode s (Grows.refl s)

theorem timeoutConnAsync_out_suffix (mode : Mode) (c : Nat) (s : Sys) :
    ∃ pre, (timeoutConnAsync mode c s).2.out = pre ++ s.out :=
  PubSubHist.timeoutConnAsync_pres (gr_hyps c) gr_clean mode s (Grows.refl s)

/-- what an event does after the per-event reset `beginEvent` -/
def evBody (e : Ev) (s : Sys) : Sys :=
  match e with
  | .version v => { s with srv := { s.srv with version := v } }
  | .open c => (openConn c s).2
  | .close c => (closeConn c s).2
  | .gc c => (gcConn c s).2
  | .conn up => { s with srv := { s.srv with connected := up } }
  | .request mode c fields clocks picks => (processCommand mode c fields (s.withHints clocks picks)).2
  | .send mode c data clocks picks => (sendallGuarded mode c data (s.withHints clocks picks)).2
  | .wake c clocks => (wakeConn c (s.withHints clocks [])).2
  | .timeout c => (timeoutConn c s).2
  | .awake mode c clocks picks => (wakeConnAsync mode c (s.withHints clocks picks)).2
  | .atimeout mode c clocks picks => (timeoutConnAsync mode c (s.withHints clocks picks)).2

theorem stepEv_eq_evBody (s : Sys) (e : Ev) : stepEv s e = evBody e s.beginEvent := by
  cases e <;> rfl

/-- **every event only prepends to `out`** - modulo `beginEvent`, which resets `out` at the start of the event -/
theorem evBody_out_suffix (e : Ev) (s : Sys) : ∃ pre, (evBody e s).out = pre ++ s.out := by
  cases e with
  | version v => exact ⟨[], rfl⟩
  | «open» c => exact ⟨[], rfl⟩
  | close c => exact ⟨[], rfl⟩
  | gc c => exact ⟨[], rfl⟩
  | conn up => exact ⟨[], rfl⟩
  | request mode c fields clocks picks => exact processCommand_out_suffix mode c fields (s.withHints clocks picks)
  | send mode c data clocks picks => exact sendallGuarded_out_suffix mode c data (s.withHints clocks picks)
  | wake c clocks => exact wakeConn_out_suffix c (s.withHints clocks [])
  | timeout c => exact timeoutConn_out_suffix c s
  | awake mode c clocks picks => exact wakeConnAsync_out_suffix mode c (s.withHints clocks picks)
  | atimeout mode c clocks picks => exact timeoutConnAsync_out_suffix mode c (s.withHints clocks picks)

/-- `drain_out_mono` (`FR/Proofs/AsyncLife.lean`) with its hypothesis discharged -/
theorem drain_out_mono_unconditional (mode : Mode) (c : Nat) (n : Nat) (s : Sys) :
    ∃ l, (drain mode c n s).2.out = l ++ s.out :=
  drain_out_suffix mode c n s

/-! ## 2. replies in request order -/

/-- what `_process_command` of `r` alone pushes on the reply list in state `s` (newest first, all connections) -/
def ownOut (mode : Mode) (c : Nat) (r : List Bytes) (s : Sys) : List (Nat × Reply) :=
  (processCommand mode c r s).2.out.take ((processCommand mode c r s).2.out.length - s.out.length)

theorem ownOut_spec (mode : Mode) (c : Nat) (r : List Bytes) (s : Sys) :
    (processCommand mode c r s).2.out = ownOut mode c r s ++ s.out := by
  obtain ⟨pre, h⟩ := processCommand_out_suffix mode c r s
  unfold ownOut
  rw [h]; simp

/-- `ownOut` is the only `pre` with `out = pre ++ s.out` -/
theorem ownOut_unique (mode : Mode) (c : Nat) (r : List Bytes) (s : Sys) (pre : List (Nat × Reply))
    (h : (processCommand mode c r s).2.out = pre ++ s.out) : ownOut mode c r s = pre := by
  have := ownOut_spec mode c r s
  rw [h] at this
  exact (List.append_cancel_right this).symm

/-- the replies `c` itself receives for request `r` processed in state `s`, oldest first -/
def own (mode : Mode) (c : Nat) (r : List Bytes) (s : Sys) : List Reply := repliesOf c (ownOut mode c r s)

/-- the state after request `r`: processed, and the input buffer of `c` empty again -/
def next (mode : Mode) (c : Nat) (r : List Bytes) (s : Sys) : Sys := setBuf c [] (processCommand mode c r s).2

/-- the requests processed one after the other, threading the state -/
def runReqs (mode : Mode) (c : Nat) : List (List Bytes) → Sys → Sys
  | [], s => s
  | r :: rs, s => runReqs mode c rs (next mode c r s)

/-- `own r1 ++ own r2 ++ … ++ own rn`, each in the state reached after its predecessors -/
def ownAll (mode : Mode) (c : Nat) : List (List Bytes) → Sys → List Reply
  | [], _ => []
  | r :: rs, s => own mode c r s ++ ownAll mode c rs (next mode c r s)

/-- no request parks the connection (and it stays registered): after each request `c` is un-paused.  On the synchronous
front-end (`mode.async = false`) a connection is never paused. -/
def Flowing (mode : Mode) (c : Nat) : List (List Bytes) → Sys → Prop
  | [], _ => True
  | r :: rs, s => (next mode c r s).HasConn c ∧ ((next mode c r s).conn c).paused = false ∧
      Flowing mode c rs (next mode c r s)

theorem next_out (mode : Mode) (c : Nat) (r : List Bytes) (s : Sys) :
    (next mode c r s).out = ownOut mode c r s ++ s.out := ownOut_spec mode c r s

theorem next_K (mode : Mode) (c : Nat) (r : List Bytes) (s : Sys) (hk : K s) : K (next mode c r s) :=
  K_setBuf c [] _ (processCommand_K mode c r s hk)

theorem next_buf (mode : Mode) (c : Nat) (r : List Bytes) (s : Sys) (h : (next mode c r s).HasConn c) :
    ((next mode c r s).conn c).buf = [] := by
  unfold next at h ⊢
  rw [conn_setBuf [] ((hasConn_setBuf []).1 h)]

/-- **a pipelined write = the requests one after the other** (as states) -/
theorem pipelined_runReqs (mode : Mode) (c : Nat) (r : List Bytes) (rs : List (List Bytes)) (s : Sys) (hk : K s)
    (hc : s.HasConn c) (hb : (s.conn c).buf = []) (hpa : (s.conn c).paused = false)
    (hfl : Flowing mode c (r :: rs) s) :
    ((sendall mode c ((r :: rs).map encodeRequest).flatten).run s).2 = runReqs mode c (r :: rs) s := by
  induction rs generalizing r s with
  | nil =>
    have h := FR.Props.C14p.one_request mode c r s hc hb hpa (hk.healthy.2.conn c)
    simp only [List.map_cons, List.map_nil, List.flatten_cons, List.flatten_nil, List.append_nil]
    rw [h]; rfl
  | cons r' rs ih =>
    obtain ⟨h1, h2, h3⟩ := hfl
    have e : ((r :: r' :: rs).map encodeRequest).flatten =
        encodeRequest r ++ ((r' :: rs).map encodeRequest).flatten := by simp
    rw [e, FR.Props.C14p.pipelined_head_first mode c r _ s hk hc hb hpa]
    exact ih r' (next mode c r s) (next_K mode c r s hk) h1 (next_buf mode c r s h1) h2 h3

theorem repliesOf_runReqs (mode : Mode) (c : Nat) (reqs : List (List Bytes)) (s : Sys) :
    repliesOf c (runReqs mode c reqs s).out = repliesOf c s.out ++ ownAll mode c reqs s := by
  induction reqs generalizing s with
  | nil => simp [runReqs, ownAll]
  | cons r rs ih =>
    show repliesOf c (runReqs mode c rs (next mode c r s)).out = _
    rw [ih, next_out, repliesOf_append, List.append_assoc]
    rfl

/-- **Replies in request order.**  One write of the requests `r :: rs` (RESP-encoded, concatenated) to a registered,
un-paused connection `c` with an empty input buffer, in a state satisfying the event invariant, none of the requests
parking the connection: the replies connection `c` has received afterwards (oldest first) are those it had received
before, followed by `own r1 ++ own r2 ++ … ++ own rn` - the own replies of each request, in request order, each computed
in the state its predecessors left. -/
theorem replies_in_request_order (mode : Mode) (c : Nat) (r : List Bytes) (rs : List (List Bytes)) (s : Sys) (hk : K s)
    (hc : s.HasConn c) (hb : (s.conn c).buf = []) (hpa : (s.conn c).paused = false)
    (hfl : Flowing mode c (r :: rs) s) :
    repliesOf c ((sendall mode c ((r :: rs).map encodeRequest).flatten).run s).2.out =
      repliesOf c s.out ++ ownAll mode c (r :: rs) s := by
  rw [pipelined_runReqs mode c r rs s hk hc hb hpa hfl, repliesOf_runReqs]


/-! ### the connection stays registered: only "no request parks" is a hypothesis -/

/-- no request of the list leaves the connection paused (a blocking pop that parks on the asyncio front-end does) -/
def NoPark (mode : Mode) (c : Nat) : List (List Bytes) → Sys → Prop
  | [], _ => True
  | r :: rs, s => ((next mode c r s).conn c).paused = false ∧ NoPark mode c rs (next mode c r s)

theorem next_hasConn (mode : Mode) (c : Nat) (r : List Bytes) (s : Sys) (hc : s.HasConn c) :
    (next mode c r s).HasConn c :=
  (hasConn_setBuf []).2 (processCommand_hasConn mode c r s c hc)

theorem flowing_of_noPark (mode : Mode) (c : Nat) (reqs : List (List Bytes)) (s : Sys) (hc : s.HasConn c)
    (h : NoPark mode c reqs s) : Flowing mode c reqs s := by
  induction reqs generalizing s with
  | nil => trivial
  | cons r rs ih => exact ⟨next_hasConn mode c r s hc, h.1, ih _ (next_hasConn mode c r s hc) h.2⟩

/-- `replies_in_request_order` with the one hypothesis on the requests: none of them parks the connection -/
theorem replies_in_request_order_noPark (mode : Mode) (c : Nat) (r : List Bytes) (rs : List (List Bytes)) (s : Sys)
    (hk : K s) (hc : s.HasConn c) (hb : (s.conn c).buf = []) (hpa : (s.conn c).paused = false)
    (hnp : NoPark mode c (r :: rs) s) :
    repliesOf c ((sendall mode c ((r :: rs).map encodeRequest).flatten).run s).2.out =
      repliesOf c s.out ++ ownAll mode c (r :: rs) s :=
  replies_in_request_order mode c r rs s hk hc hb hpa (flowing_of_noPark mode c _ s hc hnp)

/-- the same as a `.send` event of a history (the event starts with an empty `out`) -/
theorem replies_in_request_order_event (mode : Mode) (c : Nat) (r : List Bytes) (rs : List (List Bytes)) (s : Sys)
    (cl : List Int) (pk : List (List Bytes)) (hk : K (s.beginEvent.withHints cl pk))
    (hup : s.srv.connected = true)
    (hc : s.HasConn c) (hb : (s.conn c).buf = []) (hpa : (s.conn c).paused = false)
    (hfl : Flowing mode c (r :: rs) (s.beginEvent.withHints cl pk)) :
    repliesOf c (stepEv s (.send mode c ((r :: rs).map encodeRequest).flatten cl pk)).out =
      ownAll mode c (r :: rs) (s.beginEvent.withHints cl pk) := by
  show repliesOf c (sendallGuarded mode c _ (s.beginEvent.withHints cl pk)).2.out = _
  rw [sendallGuarded_run_up mode c _ (s.beginEvent.withHints cl pk) hup]
  exact replies_in_request_order mode c r rs _ hk hc hb hpa hfl

/-! ## 3. with the counts: `n` requests, `n` replies -/

/-- the pub/sub messages delivered to `c` itself while its request `r` ran (oldest first) -/
def pushes (mode : Mode) (c : Nat) (r : List Bytes) (s : Sys) : List Reply := repliesOf c (ownOut mode c r s).tail

/-- the newest entry the request pushed: its answer, for a request with exactly one reply of its own -/
def answer (mode : Mode) (c : Nat) (r : List Bytes) (s : Sys) : Reply :=
  ((ownOut mode c r s).head?.map (·.2)).getD .nil

/-- **a request with exactly one reply of its own** (the cases of `FR/Props/C04k.lean`, (c)): unknown command; wrong
number of arguments; queued inside MULTI; (P)SUBSCRIBE / (P)UNSUBSCRIBE refused inside MULTI; any other command run at
once that is not (P)SUBSCRIBE / (P)UNSUBSCRIBE and not a blocking pop.  Not: the empty request. -/
inductive Plain (c : Nat) (s : Sys) : List Bytes → Prop
  | unknown (nameB : Bytes) (args : List Bytes) : lookupSig nameB = none → Plain c s (nameB :: args)
  | arity (nameB : Bytes) (args : List Bytes) (sig : Sig) : lookupSig nameB = some sig →
      sig.checkArity args.length = false → Plain c s (nameB :: args)
  | inMulti (nameB : Bytes) (args : List Bytes) (sig : Sig) : lookupSig nameB = some sig →
      sig.checkArity args.length = true →
      ((s.conn c).tx.isSome && !SigTable.notQueued.contains sig.name) = true → Plain c s (nameB :: args)
  | run (nameB : Bytes) (args : List Bytes) (sig : Sig) : lookupSig nameB = some sig →
      sig.checkArity args.length = true →
      ((s.conn c).tx.isSome && !SigTable.notQueued.contains sig.name) = false →
      sig.name ∉ SigTable.notInMulti → sig.name ∉ blockingNames → Plain c s (nameB :: args)

/-- **one plain request: the answer on top of the messages delivered meanwhile** (to whatever connection) -/
theorem plain_ownOut (mode : Mode) (c : Nat) (r : List Bytes) (s : Sys) (hwf : TxWf s)
    (hcl : (s.conn c).closed = false) (hp : Plain c s r) :
    ∃ a D, ownOut mode c r s = (c, a) :: D ∧ ∀ p ∈ D, IsMsg p.2 := by
  have nomsg : ∀ p ∈ ([] : List (Nat × Reply)), IsMsg p.2 := fun _ h => by cases h
  cases hp with
  | unknown nameB args hl =>
    exact ⟨_, [], ownOut_unique mode c _ s [_] (FR.Props.C04k.reply_count_unknown mode c nameB args s hl hcl), nomsg⟩
  | arity nameB args sig hl ha =>
    obtain ⟨e, he⟩ := FR.Props.C04k.reply_count_arity mode c nameB args s hl ha hcl
    exact ⟨_, [], ownOut_unique mode c _ s [_] he, nomsg⟩
  | inMulti nameB args sig hl ha hq =>
    cases hnm : SigTable.notInMulti.contains sig.name with
    | true =>
      exact ⟨_, [], ownOut_unique mode c _ s [_]
        (FR.Props.C04k.reply_count_refused mode c nameB args s hl ha hq hnm hcl), nomsg⟩
    | false =>
      exact ⟨_, [], ownOut_unique mode c _ s [_]
        (FR.Props.C04k.reply_count_queued mode c nameB args s hl ha hq hnm hcl), nomsg⟩
  | run nameB args sig hl ha hq hsub hb =>
    obtain ⟨a, D, h1, h2⟩ := FR.Props.C04k.reply_count_run mode c nameB args s hwf hcl hl ha hq hsub hb
    exact ⟨a, D, ownOut_unique mode c _ s ((c, a) :: D) h1, h2⟩

/-- what `c` itself receives for a plain request: the pushes to `c` (pub/sub messages - e.g. PUBLISH on a channel the
publisher itself listens to), then the answer, last -/
theorem plain_own (mode : Mode) (c : Nat) (r : List Bytes) (s : Sys) (hwf : TxWf s)
    (hcl : (s.conn c).closed = false) (hp : Plain c s r) :
    own mode c r s = pushes mode c r s ++ [answer mode c r s] ∧
    (ownOut mode c r s).head? = some (c, answer mode c r s) ∧
    ∀ p ∈ (ownOut mode c r s).tail, IsMsg p.2 := by
  obtain ⟨a, D, h1, h2⟩ := plain_ownOut mode c r s hwf hcl hp
  unfold own pushes answer
  rw [h1]
  exact ⟨repliesOf_cons_self c a D, rfl, h2⟩

/-- every request of the list is plain in the state it is processed in, on an open socket -/
def AllPlain (mode : Mode) (c : Nat) : List (List Bytes) → Sys → Prop
  | [], _ => True
  | r :: rs, s => (s.conn c).closed = false ∧ Plain c s r ∧ AllPlain mode c rs (next mode c r s)

/-- no request of the list had a pub/sub message delivered to its own connection while it ran (a condition on a request
list; `ErrSys.Quiet` relates two states, `WatchSys.Quiet` is a condition on one event) -/
def Quiet (mode : Mode) (c : Nat) : List (List Bytes) → Sys → Prop
  | [], _ => True
  | r :: rs, s => (pushes mode c r s).isEmpty = true ∧ Quiet mode c rs (next mode c r s)

/-- pushes and answer of each request, in request order -/
def expected (mode : Mode) (c : Nat) : List (List Bytes) → Sys → List Reply
  | [], _ => []
  | r :: rs, s => pushes mode c r s ++ answer mode c r s :: expected mode c rs (next mode c r s)

/-- the answers of the requests, in request order -/
def answers (mode : Mode) (c : Nat) : List (List Bytes) → Sys → List Reply
  | [], _ => []
  | r :: rs, s => answer mode c r s :: answers mode c rs (next mode c r s)

theorem answers_length (mode : Mode) (c : Nat) (reqs : List (List Bytes)) (s : Sys) :
    (answers mode c reqs s).length = reqs.length := by
  induction reqs generalizing s with
  | nil => rfl
  | cons r rs ih => simp [answers, ih]

theorem ownAll_plain (mode : Mode) (c : Nat) (reqs : List (List Bytes)) (s : Sys) (hk : K s)
    (hpl : AllPlain mode c reqs s) : ownAll mode c reqs s = expected mode c reqs s := by
  induction reqs generalizing s with
  | nil => rfl
  | cons r rs ih =>
    obtain ⟨hcl, hp, hrest⟩ := hpl
    show own mode c r s ++ ownAll mode c rs (next mode c r s) = _
    rw [(plain_own mode c r s hk.1 hcl hp).1, ih _ (next_K mode c r s hk) hrest]
    simp [expected]

theorem expected_quiet (mode : Mode) (c : Nat) (reqs : List (List Bytes)) (s : Sys)
    (hq : Quiet mode c reqs s) : expected mode c reqs s = answers mode c reqs s := by
  induction reqs generalizing s with
  | nil => rfl
  | cons r rs ih =>
    obtain ⟨h1, h2⟩ := hq
    have : pushes mode c r s = [] := List.isEmpty_iff.1 h1
    simp [expected, answers, this, ih _ h2]

/-- **The exact statement**: `n` plain requests in one write - the replies `c` receives are, request by request, the
pub/sub messages pushed to `c` itself while the request ran, then the request's answer -/
theorem n_requests_replies_exact (mode : Mode) (c : Nat) (r : List Bytes) (rs : List (List Bytes)) (s : Sys) (hk : K s)
    (hc : s.HasConn c) (hb : (s.conn c).buf = []) (hpa : (s.conn c).paused = false)
    (hfl : Flowing mode c (r :: rs) s) (hpl : AllPlain mode c (r :: rs) s) :
    repliesOf c ((sendall mode c ((r :: rs).map encodeRequest).flatten).run s).2.out =
      repliesOf c s.out ++ expected mode c (r :: rs) s := by
  rw [replies_in_request_order mode c r rs s hk hc hb hpa hfl, ownAll_plain mode c _ s hk hpl]

/-- **`n` requests, `n` replies, the `i`-th reply answering the `i`-th request**: `n ≥ 1` plain requests in one write,
no pub/sub message delivered to `c` itself meanwhile: the new replies of `c` are exactly `answers` - a list of length `n`
whose `i`-th element is the answer `_process_command` gives to the `i`-th request in the state after the first `i-1`. -/
theorem n_requests_n_replies (mode : Mode) (c : Nat) (r : List Bytes) (rs : List (List Bytes)) (s : Sys) (hk : K s)
    (hc : s.HasConn c) (hb : (s.conn c).buf = []) (hpa : (s.conn c).paused = false)
    (hfl : Flowing mode c (r :: rs) s) (hpl : AllPlain mode c (r :: rs) s) (hq : Quiet mode c (r :: rs) s) :
    repliesOf c ((sendall mode c ((r :: rs).map encodeRequest).flatten).run s).2.out =
      repliesOf c s.out ++ answers mode c (r :: rs) s ∧
    (answers mode c (r :: rs) s).length = (r :: rs).length ∧
    (repliesOf c ((sendall mode c ((r :: rs).map encodeRequest).flatten).run s).2.out).length =
      (repliesOf c s.out).length + (r :: rs).length := by
  have h := n_requests_replies_exact mode c r rs s hk hc hb hpa hfl hpl
  rw [expected_quiet mode c _ s hq] at h
  refine ⟨h, answers_length mode c _ s, ?_⟩
  rw [h, List.length_append, answers_length]

/-! ## non-vacuity -/

open FR.Props.C14p

/-- `PING`, `SET k v`, `GET k` -/
def reqs3 : List (List Bytes) := [pingReq, [strBytes "SET", [107], [118]], [strBytes "GET", [107]]]

/-- section 1 on a concrete state -/
example : ∃ pre, (processCommand {} 1 pingReq sInit).2.out = pre ++ sInit.out :=
  processCommand_out_suffix {} 1 pingReq sInit

example : (processCommand {} 1 pingReq sInit).2.out.map (fun p => (p.1, p.2.render)) = [(1, Reply.pong.render)] := by
  decide +kernel

example : ∃ l, (drain am 1 5 sA).2.out = l ++ sA.out := drain_out_mono_unconditional am 1 5 sA

example : ∃ pre, (stepEv sB (.awake am 1 [] [])).out = pre ++ sB.beginEvent.out := by
  rw [stepEv_eq_evBody]; exact evBody_out_suffix _ _

/-- the hypotheses of section 2 hold for the three requests written to connection 1 of `sInit` (sync front-end) -/
theorem reqs3_flowing : Flowing {} 1 reqs3 sInit := by
  simp only [reqs3, Flowing]; decide +kernel

theorem reqs3_noPark : NoPark {} 1 reqs3 sInit := by
  simp only [reqs3, NoPark]; decide +kernel

example : repliesOf 1 ((sendall {} 1 (reqs3.map encodeRequest).flatten).run sInit).2.out =
    repliesOf 1 sInit.out ++ ownAll {} 1 reqs3 sInit :=
  replies_in_request_order {} 1 _ _ sInit sInit_K (by decide +kernel) (by decide +kernel) (by decide +kernel)
    reqs3_flowing

example : repliesOf 1 ((sendall {} 1 (reqs3.map encodeRequest).flatten).run sInit).2.out =
    repliesOf 1 sInit.out ++ ownAll {} 1 reqs3 sInit :=
  replies_in_request_order_noPark {} 1 _ _ sInit sInit_K (by decide +kernel) (by decide +kernel) (by decide +kernel)
    reqs3_noPark

/-- for `reqs3` the concatenation `ownAll` is `PONG`, `OK`, `v` -/
example : (ownAll {} 1 reqs3 sInit).map Reply.render =
    [Reply.pong.render, Reply.ok.render, (Reply.bulk [118]).render] := by decide +kernel

/-- `Plain` is decided by the signature table and the transaction state of the connection -/
instance decPlain (c : Nat) (s : Sys) : ∀ r, Decidable (Plain c s r)
  | [] => isFalse (fun h => nomatch h)
  | nameB :: args =>
    match hl : lookupSig nameB with
    | none => isTrue (.unknown nameB args hl)
    | some sig =>
      if ha : sig.checkArity args.length = false then isTrue (.arity nameB args sig hl ha)
      else if hq : ((s.conn c).tx.isSome && !SigTable.notQueued.contains sig.name) = true then
        isTrue (.inMulti nameB args sig hl (Bool.not_eq_false _ ▸ ha) hq)
      else if hn : sig.name ∉ SigTable.notInMulti ∧ sig.name ∉ blockingNames then
        isTrue (.run nameB args sig hl (Bool.not_eq_false _ ▸ ha) (Bool.not_eq_true _ ▸ hq) hn.1 hn.2)
      else isFalse (by
        intro h
        cases h with
        | unknown _ _ hl' => rw [hl] at hl'; cases hl'
        | arity _ _ _ hl' ha' => rw [hl] at hl'; cases hl'; exact ha ha'
        | inMulti _ _ _ hl' _ hq' => rw [hl] at hl'; cases hl'; exact hq hq'
        | run _ _ _ hl' _ _ h1 h2 => rw [hl] at hl'; cases hl'; exact hn ⟨h1, h2⟩)

instance decAllPlain (mode : Mode) (c : Nat) : ∀ rs s, Decidable (AllPlain mode c rs s)
  | [], _ => isTrue trivial
  | r :: rs, s => @instDecidableAnd _ _ _ (@instDecidableAnd _ _ _ (decAllPlain mode c rs (next mode c r s)))

/-- the three requests are plain, each in the state it is processed in -/
theorem reqs3_plain : AllPlain {} 1 reqs3 sInit := by decide +kernel

theorem reqs3_quiet : Quiet {} 1 reqs3 sInit := by
  simp only [reqs3, Quiet]; decide +kernel

/-- three requests, three replies, in request order -/
example : (repliesOf 1 ((sendall {} 1 (reqs3.map encodeRequest).flatten).run sInit).2.out).length =
    (repliesOf 1 sInit.out).length + 3 :=
  (n_requests_n_replies {} 1 _ _ sInit sInit_K (by decide +kernel) (by decide +kernel) (by decide +kernel)
    reqs3_flowing reqs3_plain reqs3_quiet).2.2

example : repliesOf 1 ((sendall {} 1 (reqs3.map encodeRequest).flatten).run sInit).2.out =
    repliesOf 1 sInit.out ++ expected {} 1 reqs3 sInit :=
  n_requests_replies_exact {} 1 _ _ sInit sInit_K (by decide +kernel) (by decide +kernel) (by decide +kernel)
    reqs3_flowing reqs3_plain

example : (answers {} 1 reqs3 sInit).map Reply.render =
    [Reply.pong.render, Reply.ok.render, (Reply.bulk [118]).render] := by decide +kernel

/-- a request that is not plain: `SUBSCRIBE x y` has two replies of its own -/
example : (own {} 1 [strBytes "SUBSCRIBE", [120], [121]] sInit).length = 2 := by decide +kernel

/-- `NoPark` is a real hypothesis: on the asyncio front-end `BLPOP k 0` parks (and `PING` behind it is not answered) -/
example : ¬ NoPark am 1 [blpopReq, pingReq] sInit := by
  simp only [NoPark]; decide +kernel

end FR.Props.C04o

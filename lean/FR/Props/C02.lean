import FR.Proofs.Lists
import FR.Proofs.Lrem
import FR.Proofs.Sets
/-!
# C02 — lists, and the random set commands, as pure functions

The bodies of the list commands on `List` alone: LRANGE / LTRIM cut the declarative window `lrangeSpec`, LINDEX / LSET
follow Redis index normalisation `norm`; LPOP / RPOP with a count; RPOPLPUSH with source = destination; LREM (`lremRm` /
`lremKeep` by index, `lremSpec` index-free).  Then SRANDMEMBER / SPOP: every accepted random pick is a legal one.
The same commands on the key space, run through the generic runner: `FR.Props.C02l`.
-/
namespace FR.Props.C02
open FR FR.Spec FR.Proofs

/-- LRANGE: Redis index normalisation + Python slice = the declarative window -/
theorem lrange_eq_spec {α} (l : List α) (a b : Int) :
    (let (x, y) := fixRange a b l.length; Py.slice l x y) = lrangeSpec l a b :=
  FR.Proofs.lrange_eq_spec l a b
example : lrangeSpec [10, 20, 30, 40, 50] (-3) 100 = [30, 40, 50] := by decide

/-- the body of LRANGE replies with the declarative window -/
theorem lrange_body (ctx : Ctx) (cis : List CI) (k : Nat) (s e : Int) :
    Cmd.lrange ctx [.key k, .int s, .int e] cis =
      ret (Reply.bulks (lrangeSpec (Cmd.listOf (ciAt cis k)) s e)) cis :=
  FR.Proofs.lrange_body ctx cis k s e

/-- LTRIM keeps exactly the LRANGE window -/
theorem ltrim_eq_spec {α} (l : List α) (s e : Int) :
    (if e == -1 then Py.sliceFrom l s else Py.slice l s (e + 1)) = lrangeSpec l s e :=
  FR.Proofs.ltrim_eq_spec l s e
example : (if (-2 : Int) == -1 then Py.sliceFrom [1, 2, 3, 4] 1 else Py.slice [1, 2, 3, 4] 1 (-2 + 1))
    = [2, 3] := by decide

theorem ltrim_body (ctx : Ctx) (cis : List CI) (k : Nat) (s e : Int) :
    Cmd.ltrim ctx [.key k, .int s, .int e] cis =
      (let c := ciAt cis k
       if !c.truthy then ret .ok cis
       else
         let nv := lrangeSpec (Cmd.listOf c) s e
         if nv.length != (Cmd.listOf c).length then ret .ok (cis.set k (c.update (.list nv)))
         else ret .ok cis) :=
  FR.Proofs.ltrim_body ctx cis k s e

/-- LINDEX: the element at the normalised index, `none` outside the list -/
theorem lindex_spec {α} (l : List α) (i : Int) :
    Py.index? l i = (if 0 ≤ norm i l.length then l[(norm i l.length).toNat]? else none) :=
  FR.Proofs.lindex_spec l i
example : Py.index? [1, 2, 3] (-1) = some 3 ∧ Py.index? [1, 2, 3] (-4) = none ∧
    Py.index? [1, 2, 3] 3 = none := by decide

/-- LSET: updates exactly position `norm i`; `none` (index error) iff out of range -/
theorem lset_spec {α} (l : List α) (i : Int) (v : α) :
    Py.setIndex? l i v =
      (if 0 ≤ norm i l.length ∧ norm i l.length < l.length
       then some (l.set (norm i l.length).toNat v) else none) :=
  FR.Proofs.lset_spec l i v

theorem lset_some {α} (l l' : List α) (i : Int) (v : α) (h : Py.setIndex? l i v = some l') :
    0 ≤ norm i l.length ∧ norm i l.length < l.length ∧ l'.length = l.length ∧
    l'[(norm i l.length).toNat]? = some v ∧
    ∀ j : Nat, j ≠ (norm i l.length).toNat → l'[j]? = l[j]? := by
  rw [lset_spec] at h
  split at h
  next hr =>
    have h := Option.some.inj h
    subst h
    refine ⟨hr.1, hr.2, by simp, ?_, ?_⟩
    · rw [List.getElem?_set_self (by omega)]
    · intro j hj
      rw [List.getElem?_set_ne (by omega)]
  next => cases h
example : Py.setIndex? [1, 2, 3] (-1) 9 = some [1, 2, 9] ∧ Py.setIndex? [1, 2, 3] 3 9 = none := by
  decide

/-- LPOP/RPOP with COUNT: what is popped, what stays, nothing lost -/
theorem pop_count_semantics (l : List Bytes) (n : Nat) :
    Cmd.popLeftN l n = (l.take n, l.drop n) ∧
    (Cmd.popLeftN l n).1 ++ (Cmd.popLeftN l n).2 = l ∧
    (Cmd.popRightN l n).1 = l.reverse.take n ∧
    (Cmd.popRightN l n).2 ++ (Cmd.popRightN l n).1.reverse = l ∧
    (Cmd.popLeftN l n).1.length = min n l.length ∧
    (Cmd.popRightN l n).1.length = min n l.length ∧
    (Cmd.popLeftN l n).1.length + (Cmd.popLeftN l n).2.length = l.length ∧
    (Cmd.popRightN l n).1.length + (Cmd.popRightN l n).2.length = l.length :=
  ⟨rfl, popLeftN_conserve l n, popRightN_popped l n, popRightN_conserve l n,
   (popLeftN_length l n).1, (popRightN_length l n).1, (popLeftN_length l n).2,
   (popRightN_length l n).2⟩
example : Cmd.popRightN [[1], [2], [3]] 2 = ([[3], [2]], [[1]]) := by decide

/-- the body of LPOP / RPOP with a count applies `popLeftN` / `popRightN` to the stored list -/
theorem pop_count_body (left : Bool) (ctx : Ctx) (cis : List CI) (k : Nat) (n : Int)
    (l : List Bytes) (hv : (ciAt cis k).val = some (.list l)) (hne : l ≠ [])
    (hn : 0 ≤ n) (hver : ¬ (n = 0 ∧ ctx.version = 6)) :
    Cmd.listPop left ctx [.key k, .int n] cis =
      (let pr := if left then Cmd.popLeftN l n.toNat else Cmd.popRightN l n.toNat
       ret (Reply.bulks pr.1) (Cmd.setList cis k pr.2)) :=
  listPop_count_body left ctx cis k n l hv hne hn hver
example : ∃ (cis : List CI) (l : List Bytes), (ciAt cis 0).val = some (.list l) ∧ l ≠ [] :=
  ⟨[{ key := [1], val := some (.list [[7]]), expireat := none }], [[7]], rfl, by decide⟩

/-- RPOPLPUSH with source = destination rotates the list; both items see the rotated list -/
theorem rpoplpush_same_key_rotates (ctx : Ctx) (cis : List CI) (s d : Nat) (l : List Bytes)
    (hs : s < cis.length) (hd : d < cis.length)
    (hkey : (ciAt cis s).key = (ciAt cis d).key) (hl : Cmd.listOf (ciAt cis s) = l) (hne : l ≠ []) :
    ∃ o, Cmd.rpoplpush ctx [.key s, .key d] cis = .ok o ∧
      o.reply = .bulk (l.getLast hne) ∧
      Cmd.listOf (ciAt o.cis s) = l.getLast hne :: l.dropLast ∧
      Cmd.listOf (ciAt o.cis d) = l.getLast hne :: l.dropLast := by
  refine ⟨_, (rpoplpush_body ctx cis s d).trans
    (FR.Proofs.rpoplpush_same_key_rotates cis s d l hkey hl hne), rfl, ?_⟩
  exact listOf_setList_setList cis s d _ hs hd
example :
    let c : CI := { key := [1], val := some (.list [[1], [2], [3]]), expireat := none }
    (Cmd.rpoplpush default [.key 0, .key 1] [c, c]).toOption.map
      (fun o => (Cmd.listOf (ciAt o.cis 0), Cmd.listOf (ciAt o.cis 1)))
      = some ([[3], [1], [2]], [[3], [1], [2]]) := by decide

/-- LREM: number removed, length, what was removed, what is preserved -/
theorem lrem_count_semantics (l : List Bytes) (count : Int) (v : Bytes) :
    let rm := lremRm l count v
    let l' := lremKeep l rm
    rm.length = (if count = 0 then l.count v else min count.natAbs (l.count v)) ∧
    l'.length = l.length - rm.length ∧
    (∀ i ∈ rm, l[i]? = some v) ∧
    l'.filter (· != v) = l.filter (· != v) ∧
    l'.count v = l.count v - rm.length :=
  FR.Proofs.lrem_count_semantics l count v

/-- which occurrences go: the first `count`, the last `-count`, or all, of the ascending list of the
indices holding `v`; the result is `l` with exactly those indices deleted -/
theorem lrem_which (l : List Bytes) (count : Int) (v : Bytes) :
    (0 < count → lremRm l count v = (Cmd.occurrences l v).take count.natAbs) ∧
    (count < 0 → lremRm l count v = ((Cmd.occurrences l v).reverse.take count.natAbs).reverse) ∧
    (count = 0 → lremRm l count v = Cmd.occurrences l v) ∧
    (∀ i, i ∈ Cmd.occurrences l v ↔ l[i]? = some v) ∧
    (Cmd.occurrences l v).Pairwise (· < ·) ∧
    (∀ rm : List Nat, lremKeep l rm = (l.zipIdx.filter (fun p => !rm.contains p.2)).map Prod.fst) := by
  unfold lremRm
  simp only
  refine ⟨fun h => ?_, fun h => ?_, fun h => ?_, mem_occurrences l v, occurrences_sorted l v, fun _ => rfl⟩
  · rw [if_pos h]; congr 1; omega
  · rw [if_neg (by omega), if_pos h, List.reverse_take, List.reverse_reverse,
      List.length_reverse]
    congr 2
    omega
  · subst h; simp

/-- `lremRm` / `lremKeep` are what the body of LREM computes -/
theorem lrem_body (ctx : Ctx) (cis : List CI) (k : Nat) (count : Int) (v : Bytes) :
    Cmd.lrem ctx [.key k, .int count, .raw v] cis =
      (let l := Cmd.listOf (ciAt cis k)
       let rm := lremRm l count v
       if rm.isEmpty then ret (.int 0) cis
       else ret (.int rm.length) (Cmd.setList cis k (lremKeep l rm))) :=
  FR.Proofs.lrem_body ctx cis k count v
example : lremKeep [[1], [2], [1], [3], [1]] (lremRm [[1], [2], [1], [3], [1]] (-2) [1])
    = [[1], [2], [3]] := by decide

/-- LREM, index-free: the stored result is the structural specification `lremSpec`
(`eraseFirstN` for `count > 0`, "keep only the first `occ - |count|` occurrences" for `count < 0`,
`filter (· ≠ v)` for `count = 0`) and the reply is the number of deleted elements -/
theorem lrem_eq_spec (l : List Bytes) (count : Int) (v : Bytes) :
    lremKeep l (lremRm l count v) = lremSpec l count v ∧
    (lremRm l count v).length = l.length - (lremSpec l count v).length :=
  ⟨FR.Proofs.lrem_eq_spec l count v, lremRm_length_eq l count v⟩
example : lremSpec [[1], [2], [1], [3], [1]] 2 [1] = [[2], [3], [1]] ∧
    lremSpec [[1], [2], [1], [3], [1]] (-2) [1] = [[1], [2], [3]] ∧
    lremSpec [[1], [2], [1], [3], [1]] (-7) [1] = [[2], [3]] ∧
    lremSpec [[1], [2], [1], [3], [1]] 0 [1] = [[2], [3]] ∧
    lremSpec [[1], [2], [1], [3], [1]] (-1) [1]
      = (eraseFirstN [1] 1 ([[1], [2], [1], [3], [1]] : List Bytes).reverse).reverse := by decide

/-- the three cases of `lremSpec` in their familiar form -/
theorem lremSpec_cases (l : List Bytes) (count : Int) (v : Bytes) :
    (0 < count → lremSpec l count v = eraseFirstN v count.natAbs l) ∧
    (count < 0 → lremSpec l count v = (eraseFirstN v count.natAbs l.reverse).reverse) ∧
    (count = 0 → lremSpec l count v = l.filter (· != v)) := by
  refine ⟨fun h => ?_, fun h => ?_, fun h => ?_⟩
  · unfold lremSpec; rw [if_pos h]; congr 1; omega
  · unfold lremSpec
    rw [if_neg (by omega), if_pos h, eraseAfterK_eq_reverse]
    congr 3
    omega
  · subst h; rfl

/-- SRANDMEMBER / SPOP core: every accepted random pick is a legal one -/
theorem srandmember_valid_pick (ctx : Ctx) (s : List Bytes) (count : Option Int) (r : Reply)
    (used : Nat) (picked : List Bytes) (h : Cmd.srandCore ctx s count = some (r, used, picked)) :
    (∀ x ∈ picked, x ∈ s) ∧
    (match count with
     | none => picked.length ≤ 1 ∧ (s ≠ [] → picked.length = 1) ∧
               r = Reply.ofOptBulk picked.head?
     | some n =>
       r = Reply.bulks picked ∧
       (0 ≤ n → picked.length = min n.toNat s.length ∧ picked.Nodup) ∧
       (n < 0 → (s ≠ [] → picked.length = (-n).toNat) ∧ (s = [] → picked = []))) := by
  revert h
  cases count with
  | none =>
    intro h
    simp only [Cmd.srandCore] at h
    split at h
    next he =>
      cases h
      simp_all [Reply.ofOptBulk]
    next hne =>
      split at h
      next x rest hp =>
        split at h
        next hx =>
          cases h
          have hx : x ∈ s := by simpa using hx
          simp [hx, Reply.ofOptBulk]
        next => cases h
      next => cases h
  | some n =>
    intro h
    simp only [Cmd.srandCore] at h
    split at h
    next hn =>
      split at h
      next p rest hp =>
        split at h
        next hv =>
          cases h
          simp only [Bool.and_eq_true, beq_iff_eq] at hv
          have ⟨hsub, hnd⟩ := validSample_spec s _ hv.1
          exact ⟨hsub, rfl, fun _ => ⟨hv.2, hnd⟩, fun h => by omega⟩
        next => cases h
      next => cases h
    next hn =>
      split at h
      next he =>
        cases h
        have : s = [] := by simpa using he
        subst this
        simp [Reply.bulks]
      next hne =>
        split at h
        next hv =>
          cases h
          simp only [Bool.and_eq_true, beq_iff_eq] at hv
          have ⟨hsub, hlen⟩ := singletons_flatten s _ hv.2
          refine ⟨hsub, rfl, fun h => by omega, fun _ => ⟨fun _ => ?_, fun he => ?_⟩⟩
          · rw [hlen, hv.1]
          · subst he; simp at hne
        next => cases h
example : (Cmd.srandCore { version := 7, time := 0, picks := [[[2], [1]]] } [[1], [2], [3]] (some 2)).map
    (fun t => t.2) = some (1, [[2], [1]]) := by decide

/-- SPOP: the reply is an accepted pick and exactly the picked members leave the set -/
theorem spop_valid_pick (ctx : Ctx) (k : Nat) (rest : List Arg) (cis : List CI) (o : BodyOut)
    (h : Cmd.spop ctx (.key k :: rest) cis = .ok o) :
    ∃ r used picked,
      Cmd.srandCore ctx (Cmd.setOf (ciAt cis k)) (Cmd.intArgs rest).head? = some (r, used, picked) ∧
      o.reply = r ∧ o.picksUsed = used ∧
      (o.cis = if picked.isEmpty then cis
               else Cmd.putSet cis k (Cmd.setDiff (Cmd.setOf (ciAt cis k)) picked)) ∧
      (∀ x ∈ picked, x ∈ Cmd.setOf (ciAt cis k)) ∧
      (∀ x, x ∈ Cmd.setDiff (Cmd.setOf (ciAt cis k)) picked ↔ x ∈ Cmd.setOf (ciAt cis k) ∧ x ∉ picked) := by
  obtain ⟨r, used, picked, h1, h2, h3, h4⟩ := spop_spec ctx k rest cis o h
  exact ⟨r, used, picked, h1, h2, h3, h4, (srandmember_valid_pick _ _ _ _ _ _ h1).1, mem_setDiff _ _⟩
example :
    (Cmd.spop { version := 7, time := 0, picks := [[[2]]] } [.key 0]
      [{ key := [1], val := some (.set [[1], [2]]), expireat := none }]).toOption.map
      (fun o => (o.picksUsed, Cmd.setOf (ciAt o.cis 0))) = some (1, [[1]]) := by decide

end FR.Props.C02

import FR.Proofs.C12t
/-!
# C12 (link): executions of the static lock table generate well-locked traces

Property C12 has a trace model (`FR/Sys/Lockset.lean`, `FR/Props/C12.lean`: a trace that passes `wellLocked` is
serialisable and has a linearisation) and a static table of the socket classes (`FR/Sys/LockTable.lean`,
`FR/Props/C12l.lean`: if `disciplined benign t` then along every call path from a root every access is under the lock or
benign).  This file connects them for one thread executing one command.

Semantics (`FR/Proofs/C12t.lean`).  `Exec tid t f held tr` / `LExec tid t f held ltr` (the same with a label
`(function, atom)` on every event): function `f` of table `t`, run by thread `tid` while it holds (`held`) / does not hold
the lock, may - in any order, any number of times - perform one of its accesses `(a, l)` and follow one of its call edges
`(g, l)`.  An entry that is lexically inside `with lock:` (`l`) while the lock is not held is bracketed `acq tid … rel tid`;
the callee runs with `held || l`; an access with `¬l ∧ ¬held` is a bare `acc` - an access without the lock.  (`l ∧ held`,
a nested `with`, is treated as "already held"; the code never nests.)  Object ids and read/write flags are arbitrary.

Results, for a command entering at a root without the lock, scanned by `Lockset.bad` / `Lockset.next` from any state in
which the thread is inside a command and the lock is free:

* `exec_accesses_locked` - for a disciplined table every violation the scan reports is `acc-without-lock` at an access
  that the benign list names (by `(function, atom)` or `("*", atom)`); no other access is made without the lock, and
  `acq-while-held`, `acq-outside-command`, `rel-by-non-holder` are never reported; at the end the lock is free and the
  thread is still inside its command;
* `exec_violations` - the same for plain traces: all violations are `acc-without-lock`;
* `single_thread_wellLocked_partial` - with an empty benign list: `wellLocked (call :: tr ++ [ret]) = true`, which is the
  hypothesis of `FR.Props.C12.welllocked_serial` / `linearization_exists`.

For several threads only the two local ingredients are proved (`other_thread_frame`, `own_event_verdict`; the induction
over interleavings is not formalised, see at `single_thread_wellLocked_partial`).  At the end, executions of the small
tables of `FR/Props/C12l.lean`.
-/
namespace FR.Props.C12t
open FR.Lockset FR.LockTable FR.Props.C12l

/-- the scan state after `call tid cid` on a fresh server: `tid` inside `cid`, the lock free -/
def entry (tid : Tid) (cid : Cid) : St := next St.init (.call tid cid)

theorem entry_inv (tid : Tid) (cid : Cid) : Inv tid cid false (entry tid cid) :=
  ⟨rfl, false, by simp [entry, next, St.init, cget_cset]⟩

/-- **the link, labelled form.**  `st`: any scan state with the lock free and `tid` inside command `cid` (e.g. `entry`). -/
theorem exec_accesses_locked {b : List (String × String)} {t : Table} (hd : disciplined b t = true)
    {r : String} (hr : r ∈ roots t) {tid : Tid} {cid : Cid} {ltr : LTrace} (he : LExec tid t r false ltr)
    {st : St} (hst : Inv tid cid false st) :
    (∀ rep ∈ reports st ltr,
        rep.1 = "acc-without-lock" ∧ (rep.2 ∈ b ∨ ("*", rep.2.2) ∈ b)) ∧
      (∀ rep ∈ reports st ltr,
        rep.1 ≠ "acq-while-held" ∧ rep.1 ≠ "rel-by-non-holder" ∧ rep.1 ≠ "acq-outside-command") ∧
      Inv tid cid false (run st ltr) := by
  unfold disciplined at hd
  simp only [Bool.and_eq_true] at hd
  obtain ⟨h1, h2⟩ := exec_reports hd.1 hd.2 he st hst (.inr (closed_roots hd.1 hr))
  refine ⟨h1, ?_, h2⟩
  intro rep hrep
  rw [(h1 rep hrep).1]
  decide

/-- a non-benign access is never reported -/
theorem nonbenign_access_locked {b : List (String × String)} {t : Table} (hd : disciplined b t = true)
    {r : String} (hr : r ∈ roots t) {tid : Tid} {cid : Cid} {ltr : LTrace} (he : LExec tid t r false ltr)
    {st : St} (hst : Inv tid cid false st) {f a : String} (hb1 : (f, a) ∉ b) (hb2 : ("*", a) ∉ b) :
    ("acc-without-lock", (f, a)) ∉ reports st ltr := by
  intro hmem
  rcases ((exec_accesses_locked hd hr he hst).1 _ hmem).2 with h | h
  · exact hb1 h
  · exact hb2 h

/-- the violations along a plain trace -/
def violations (st : St) : Trace → List String
  | [] => []
  | e :: rest => (bad st e).toList ++ violations (next st e) rest

theorem violations_proj (st : St) (ltr : LTrace) : violations st (proj ltr) = (reports st ltr).map (·.1) := by
  induction ltr generalizing st with
  | nil => rfl
  | cons x xs ih =>
    obtain ⟨e, lab⟩ := x
    simp only [proj, List.map_cons, violations, reports, List.map_append]
    rw [← proj, ih]
    cases bad st e <;> rfl

/-- **the link, plain traces**: everything the scan can object to in an execution of a disciplined table is an access
outside the lock (one of the benign ones, see `exec_accesses_locked`); the lock is taken and released properly. -/
theorem exec_violations {b : List (String × String)} {t : Table} (hd : disciplined b t = true)
    {r : String} (hr : r ∈ roots t) {tid : Tid} {cid : Cid} {tr : Trace} (he : Exec tid t r false tr)
    {st : St} (hst : Inv tid cid false st) :
    ∀ v ∈ violations st tr, v = "acc-without-lock" := by
  obtain ⟨ltr, hl, rfl⟩ := exec_labelled he
  intro v hv
  rw [violations_proj, List.mem_map] at hv
  obtain ⟨rep, hrep, rfl⟩ := hv
  exact ((exec_accesses_locked hd hr hl hst).1 rep hrep).1

/-- **corollary: single-thread executions of a table that is disciplined without exemptions are well-locked.**
This is the hypothesis of `FR.Props.C12.welllocked_serial` and `linearization_exists`, established for every execution of
the table by one thread instead of for recorded traces.

Several threads.  A trace of several threads is an interleaving of such single-thread traces.  All checks of `bad` except
one look only at the acting thread's own state: `acc t` / `rel t` / `ret t` ask whether `t` itself holds the lock,
`call t` / `acq-outside-command` ask for `t`'s own current command - and `next` changes the holder only at `acq` / `rel`.
So if (i) every thread's projection is an execution as above (this theorem, per thread), (ii) command ids are fresh, and
(iii) no `acq t` is scheduled while another thread holds the lock - `acq-while-held`, which is exactly the mutual exclusion
that `threading.Lock` itself provides, not a property of the code - then the interleaving is `wellLocked`: by induction
over the interleaving with the invariant "the holder is the unique thread whose own scan is between `acq` and `rel`",
using that events of other threads do not change `st.holder = some t` for `t` between its `acq` and `rel` (they cannot
`acq` by (iii), cannot `rel` by their own discipline).  `Condition.wait` (a `rel` … `acq` inside a `with` block) is not in
the table semantics.  The induction over interleavings is not formalised; its two local ingredients are
`other_thread_frame` and `own_event_verdict` below. -/
theorem single_thread_wellLocked_partial {t : Table} (hd : disciplined [] t = true)
    {r : String} (hr : r ∈ roots t) {tid : Tid} {cid : Cid} {tr : Trace} (he : Exec tid t r false tr) :
    wellLocked ([.call tid cid] ++ tr ++ [.ret tid cid]) = true := by
  obtain ⟨ltr, hl, rfl⟩ := exec_labelled he
  obtain ⟨h1, -, hinv⟩ := exec_accesses_locked hd hr hl (entry_inv tid cid)
  have hnil : reports (entry tid cid) ltr = [] := by
    cases hrep : reports (entry tid cid) ltr with
    | nil => rfl
    | cons x xs =>
      have := (h1 x (by simp [hrep])).2
      simp at this
  have hcall : ok St.init (.call tid cid) = true := by simp [ok, bad, St.init, cget]
  obtain ⟨hh, bb, hc⟩ := hinv
  simp only [Bool.false_eq_true, if_false] at hh
  have hret : bad (run (entry tid cid) ltr) (.ret tid cid) = none := by simp [bad, hh, cmdOf, hc]
  simp only [wellLocked, List.cons_append, List.nil_append, wlFrom, hcall, Bool.true_and]
  rw [show next St.init (.call tid cid) = entry tid cid from rfl, wlFrom_of_reports_nil _ _ _ hnil]
  simp [wlFrom, ok, hret, next, hh]

/-! ## towards several threads (partial): the discipline is thread-local except for `acq-while-held` -/

/-- **thread locality of the discipline**: an event of another thread that the scan accepts leaves the part of the state
that the checks on `tid`'s events read (does `tid` hold the lock; `tid`'s current command) unchanged. -/
theorem other_thread_frame {tid : Tid} {cid : Cid} {held : Bool} {st : St} (h : LInv tid cid held st)
    {e : Ev} (hne : evTid e ≠ tid) (hok : bad st e = none) : LInv tid cid held (next st e) := by
  obtain ⟨hh, b, hc⟩ := h
  refine ⟨?_, b, by rw [cget_next_ne hne]; exact hc⟩
  -- the holder changes at `acq` and `rel` only, and then `tid` was not and is not the holder
  have hok' := (FR.Lockset.ok_iff st e).mp (by simp [ok, hok])
  cases e with
  | acq u =>
    simp only [evTid] at hne
    rw [hok'.1] at hh
    simpa [next, hne] using hh
  | rel u =>
    simp only [evTid] at hne
    rw [show st.holder = some u from hok'] at hh
    simpa [next, hne] using hh
  | _ => exact hh

/-- the verdict on `tid`'s own events other than `acq` depends only on the part `LInv` describes: two states that agree on it give
the same verdict (for `acq tid` the additional condition is that no other thread holds the lock - mutual exclusion). -/
theorem own_event_verdict {tid : Tid} {cid : Cid} {held : Bool} {st st' : St}
    (h : LInv tid cid held st) (h' : LInv tid cid held st') :
    (∀ o w, bad st (.acc tid o w) = bad st' (.acc tid o w)) ∧ bad st (.rel tid) = bad st' (.rel tid) ∧
      bad st (.ret tid cid) = bad st' (.ret tid cid) := by
  obtain ⟨hh, b, hc⟩ := h
  obtain ⟨hh', b', hc'⟩ := h'
  have hiff : st.holder = some tid ↔ st'.holder = some tid := hh.trans hh'.symm
  by_cases hx : st.holder = some tid
  · have hx' := hiff.mp hx
    exact ⟨fun o w => by simp [bad, hx, hx'], by simp [bad, hx, hx'], by simp [bad, hx, hx']⟩
  · have hx' : ¬ st'.holder = some tid := fun h => hx (hiff.mpr h)
    exact ⟨fun o w => by simp [bad, hx, hx'], by simp [bad, hx, hx'], by simp [bad, cmdOf, hc, hc', hx, hx']⟩

/-- non-vacuity: thread 2 runs a whole critical section while thread 1 is inside command 10 without the lock -/
example : LInv 1 10 false (entry 1 10) ∧ bad (entry 1 10) (.call 2 20) = none ∧
    LInv 1 10 false (next (next (next (entry 1 10) (.call 2 20)) (.acq 2)) (.rel 2)) := by
  refine ⟨⟨by decide, false, by decide⟩, by decide, ⟨by decide, false, by decide⟩⟩

/-! ## non-vacuity on the small tables of `FR/Props/C12l.lean` -/

/-- an execution of `good` (thread 1): the benign read of `connected`, the clock under the lock, the command body under
the lock through `dispatch → run → get`, the reply outside -/
def goodRun : LTrace :=
  [(.acc 1 7 false, ("sendall", "S:connected")),
   (.acq 1, ("dispatch", "")), (.acc 1 0 true, ("dispatch", "T")), (.rel 1, ("dispatch", "")),
   (.acq 1, ("dispatch", "")), (.acc 1 5 true, ("get", "body")), (.rel 1, ("dispatch", ""))]

theorem goodRun_tail_exec : LExec 1 good "sendall" false (goodRun.drop 1) :=
  .call (fn := good[0]) (g := "dispatch") (l := false) (by decide) rfl (by decide)
      (.access 0 true (fn := good[1]) (a := "T") (l := true) (by decide) rfl (by decide)
        (.call (fn := good[1]) (g := "run") (l := true) (by decide) rfl (by decide)
          (.call (fn := good[2]) (g := "get") (l := false) (by decide) rfl (by decide)
            (.access 5 true (fn := good[3]) (a := "body") (l := false) (by decide) rfl (by decide) (.done _ _))
            (.done _ _))
          (.call (fn := good[1]) (g := "reply") (l := false) (by decide) rfl (by decide) (.done _ _) (.done _ _))))
      (.done _ _)

theorem goodRun_exec : LExec 1 good "sendall" false goodRun :=
  .access 7 false (fn := good[0]) (a := "S:connected") (l := false) (by decide) rfl (by decide) goodRun_tail_exec

/-- the only thing the scan reports is the benign read -/
example : reports (entry 1 10) goodRun = [("acc-without-lock", ("sendall", "S:connected"))] := by decide
/-- the reports are as `exec_accesses_locked` says (its hypotheses hold for `good`) -/
example : ∀ rep ∈ reports (entry 1 10) goodRun, rep.1 = "acc-without-lock" ∧ (rep.2 ∈ benign ∨ ("*", rep.2.2) ∈ benign) :=
  (exec_accesses_locked (b := benign) (t := good) (by decide) (by decide) goodRun_exec (entry_inv 1 10)).1
example : ("acc-without-lock", ("get", "body")) ∉ reports (entry 1 10) goodRun :=
  nonbenign_access_locked (b := benign) (t := good) (by decide) (by decide) goodRun_exec (entry_inv 1 10)
    (by decide) (by decide)

/-- the same execution without the benign read is well-locked -/
example : Exec 1 good "sendall" false (proj (goodRun.drop 1)) ∧
    wellLocked ([.call 1 10] ++ proj (goodRun.drop 1) ++ [.ret 1 10]) = true :=
  ⟨lexec_proj goodRun_tail_exec, by decide⟩

/-- `good` without the unsynchronised read of `connected`: disciplined without exemptions -/
def good0 : Table :=
  [⟨"sendall", true, [], [("dispatch", false)]⟩,
   ⟨"dispatch", false, [("T", true)], [("run", true), ("reply", false)]⟩,
   ⟨"run", false, [], [("get", false)]⟩,
   ⟨"get", false, [("body", false)], []⟩,
   ⟨"reply", false, [], []⟩]

example : disciplined [] good0 = true := by decide
example : disciplined [] good = false := by decide

/-- `single_thread_wellLocked_partial` applies to `good0` and to a trace with two critical sections -/
example : Exec 1 good0 "sendall" false [.acq 1, .acc 1 0 true, .rel 1, .acq 1, .acc 1 5 true, .rel 1] :=
  .call (fn := good0[0]) (g := "dispatch") (l := false) (body := [.acq 1, .acc 1 0 true, .rel 1, .acq 1, .acc 1 5 true, .rel 1])
    (rest := []) (by decide) rfl (by decide)
    (.access 0 true (fn := good0[1]) (a := "T") (l := true) (rest := [.acq 1, .acc 1 5 true, .rel 1]) (by decide) rfl (by decide)
      (.call (fn := good0[1]) (g := "run") (l := true) (body := [.acc 1 5 true]) (rest := []) (by decide) rfl (by decide)
        (.call (fn := good0[2]) (g := "get") (l := false) (body := [.acc 1 5 true]) (rest := []) (by decide) rfl (by decide)
          (.access 5 true (fn := good0[3]) (a := "body") (l := false) (rest := []) (by decide) rfl (by decide) (.done _ _))
          (.done _ _))
        (.done _ _)))
    (.done _ _)
example : wellLocked ([.call 1 10] ++ [.acq 1, .acc 1 0 true, .rel 1, .acq 1, .acc 1 5 true, .rel 1] ++ [.ret 1 10]) = true := by
  decide

/-- sensitivity: in `clockBeforeLock` (rejected by the check) the clock is read before the `with` block - an execution
whose trace has a non-benign `acc-without-lock`, and which is not well-locked -/
def clockRun : LTrace :=
  [(.acc 1 0 true, ("dispatch", "T")), (.acq 1, ("dispatch", "")), (.acc 1 5 true, ("get", "body")), (.rel 1, ("dispatch", ""))]

theorem clockRun_exec : LExec 1 clockBeforeLock "sendall" false clockRun :=
  .call (fn := clockBeforeLock[0]) (g := "dispatch") (l := false) (by decide) rfl (by decide)
    (.access 0 true (fn := clockBeforeLock[1]) (a := "T") (l := false) (by decide) rfl (by decide)
      (.call (fn := clockBeforeLock[1]) (g := "run") (l := true) (by decide) rfl (by decide)
        (.call (fn := clockBeforeLock[2]) (g := "get") (l := false) (by decide) rfl (by decide)
          (.access 5 true (fn := clockBeforeLock[3]) (a := "body") (l := false) (by decide) rfl (by decide) (.done _ _))
          (.done _ _))
        (.done _ _)))
    (.done _ _)

example : reports (entry 1 10) clockRun = [("acc-without-lock", ("dispatch", "T"))] := by decide
example : ("dispatch", "T") ∉ benign ∧ ("*", "T") ∉ benign := by decide
example : wellLocked ([.call 1 10] ++ proj clockRun ++ [.ret 1 10]) = false := by decide
/-- so the conclusion of `exec_accesses_locked` fails for `clockBeforeLock`: the hypothesis `disciplined` is needed -/
example : ¬ ∀ rep ∈ reports (entry 1 10) clockRun, rep.1 = "acc-without-lock" ∧ (rep.2 ∈ benign ∨ ("*", rep.2.2) ∈ benign) := by
  decide

end FR.Props.C12t

import FR.Proofs.NotifyKeys
import FR.Props.C06s
/-!
# C06, completeness direction — "EXEC proceeds whenever no command addressed a watched key as a write target"

`FR/Props/C06s.lean` (`regular_flag_exact`, `request_regular_flag`) shows that a regular command sets the watch flag
of connection `c` exactly when one of the keys in `(regularOut …).notified` is watched by `c`.  Here the missing link
is supplied: the notified keys of a regular command are among its key arguments — the raw arguments at the positions
which the command's signature declares as keys (`keyArgs`), and they are notified in argument order.

1. `notified_sublist_keyArgs` / `notified_mem_keyArgs`: the statement for `runRegular` with any body that keeps the
   keys of its `CommandItem`s (`Body.KeepsKeys`: same `key` at the same index), and `regular_keepsKeys`: every one of
   the bodies of `Cmd.regular` does.  `read_notifies_nothing`: the read commands notify nothing at all.
2. `request_regular_unwatched` (one request, via C06s), `harmless_history` and `exec_proceeds` (histories, via C05).
3. the special commands: which keys each may notify (`SpecialAvoids`, one theorem per body, the dispatch
   `special_notifies_only`, the runner `runWith_notifies_only`), and the event-level theorem for any command other than
   SELECT / EXEC / DISCARD / WATCH / UNWATCH / EVAL / EVALSHA / SCRIPT: `request_any_unwatched(')`.
-/
namespace FR.Props.C06k
open FR FR.WatchSys FR.NotifyKeys FR.M

/-! ## 1. the notified keys of a regular command are key arguments -/

/-- The discipline holds for the whole table: every body of `Cmd.regular` returns a list of `CommandItem`s that has
the same `key` at the same index as the list it was given. -/
theorem regular_keepsKeys (name : String) (body : Body) (h : Cmd.regular name = some body) : Body.KeepsKeys body :=
  FR.NotifyKeys.regular_keepsKeys name body h

/-- `Signature.apply` creates one `CommandItem` per key argument, in argument order, keyed by that argument. -/
theorem apply_items_are_keyArgs (sig : Sig) (raw : List Bytes) (db : Db) (args : List Arg) (cis : List CI)
    (h : (sig.apply raw db).2 = .ok (.ok args cis)) : cis.map CI.key = keyArgs sig raw :=
  apply_keys sig raw db h

/-- Main theorem (generic runner, one database).  For any body that keeps the keys of its items, the keys for which
`runRegular` calls `notify_watch` form a sublist of the key arguments of the request: only key arguments are
notified, each position at most once, in argument order.  Holds on every path (argument error, gate refusal, body
error, success). -/
theorem notified_sublist_keyArgs (sig : Sig) (body : Body) (hb : Body.KeepsKeys body) (ctx : Ctx) (gate : Option Err)
    (raw : List Bytes) (db : Db) : (runRegular sig body ctx gate raw db).notified.Sublist (keyArgs sig raw) :=
  runRegular_notified_sublist sig body hb ctx gate raw db

/-- the membership form asked for -/
theorem notified_mem_keyArgs (sig : Sig) (body : Body) (hb : Body.KeepsKeys body) (ctx : Ctx) (gate : Option Err)
    (raw : List Bytes) (db : Db) : ∀ k ∈ (runRegular sig body ctx gate raw db).notified, k ∈ keyArgs sig raw :=
  runRegular_notified_mem sig body hb ctx gate raw db

/-- for the commands of the table -/
theorem regular_notified_mem_keyArgs (sig : Sig) (body : Body) (hreg : Cmd.regular sig.name = some body) (ctx : Ctx)
    (gate : Option Err) (raw : List Bytes) (db : Db) :
    ∀ k ∈ (runRegular sig body ctx gate raw db).notified, k ∈ keyArgs sig raw :=
  runRegular_notified_mem sig body (FR.NotifyKeys.regular_keepsKeys _ _ hreg) ctx gate raw db

/-- The read commands (`readNames`: GET, MGET, EXISTS, TTL, TYPE, HGET…, LRANGE, SMEMBERS, SINTER, ZRANGE…, the
SCAN family on one key, …) return the very items they were given, hence notify nothing — whatever keys they name. -/
theorem read_notifies_nothing (sig : Sig) (body : Body) (hreg : Cmd.regular sig.name = some body)
    (hr : sig.name ∈ readNames) (ctx : Ctx) (gate : Option Err) (raw : List Bytes) (db : Db) :
    (runRegular sig body ctx gate raw db).notified = [] :=
  runRegular_readOnly sig body (regular_readOnly _ hr _ hreg) ctx gate raw db

/-- the hypothesis `KeepsKeys` is needed: a body that hands back an item under another key notifies that key -/
def rogue : Body := fun _ _ _ => .ok { reply := .ok, cis := [⟨[120], some (.str [1]), none, true, false⟩] }

theorem keepsKeys_needed : ∃ sig, (runRegular sig rogue { version := 7, time := 0 } none [[107]] ⟨[], 0⟩).notified = [[120]] ∧
    keyArgs sig [[107]] = [[107]] :=
  ⟨⟨"get", [.key (some .str) .unspecified], [], false, 1, 0, false⟩, by decide +kernel⟩

/-! ### non-vacuity -/

/-- `MSET a 1 b 2`: key arguments `a`, `b`; both are notified -/
example : ∃ sig body, SigTable.find "mset" = some sig ∧ Cmd.regular sig.name = some body ∧
    keyArgs sig [[97], [49], [98], [50]] = [[97], [98]] ∧
    (runRegular sig body { version := 7, time := 0 } none [[97], [49], [98], [50]] ⟨[], 0⟩).notified = [[97], [98]] :=
  ⟨_, _, rfl, rfl, by decide +kernel, by decide +kernel⟩

/-- `RENAME a b` with `a` present: both key arguments are notified, in argument order (`a`, then `b`) — the body
stores the destination first, but the write-back walks the items in the order of the arguments. -/
example : ∃ sig body, SigTable.find "rename" = some sig ∧ Cmd.regular sig.name = some body ∧
    keyArgs sig [[97], [98]] = [[97], [98]] ∧
    (runRegular sig body { version := 7, time := 0 } none [[97], [98]] ⟨[([97], ⟨.str [1], none⟩)], 0⟩).notified =
      [[97], [98]] :=
  ⟨_, _, rfl, rfl, by decide +kernel, by decide +kernel⟩

/-- `SET k v EX 10`: the options are not key arguments; `DEL a b` with only `b` present notifies only `b` -/
example : ∃ sig body, SigTable.find "set" = some sig ∧ Cmd.regular sig.name = some body ∧
    keyArgs sig [[107], [118], [69, 88], [49, 48]] = [[107]] ∧
    (runRegular sig body { version := 7, time := 0 } none [[107], [118], [69, 88], [49, 48]] ⟨[], 0⟩).notified = [[107]] :=
  ⟨_, _, rfl, rfl, by decide +kernel, by decide +kernel⟩

example : ∃ sig body, SigTable.find "del" = some sig ∧ Cmd.regular sig.name = some body ∧
    keyArgs sig [[97], [98]] = [[97], [98]] ∧
    (runRegular sig body { version := 7, time := 0 } none [[97], [98]] ⟨[([98], ⟨.str [1], none⟩)], 0⟩).notified = [[98]] :=
  ⟨_, _, rfl, rfl, by decide +kernel, by decide +kernel⟩

example : "get" ∈ readNames ∧ "zrangebyscore" ∈ readNames ∧ "set" ∉ readNames := by decide

/-! ## 2. system level -/

/-- in the system model: the keys a regular command of connection `c'` notifies are key arguments of the request -/
theorem regularOut_notified_keyArgs (s : Sys) (c' : Nat) (sig : Sig) (body : Body)
    (hreg : Cmd.regular sig.name = some body) (raw : List Bytes) (fs : Bool) :
    (s.regularOut c' sig body raw fs).notified.Sublist (keyArgs sig raw) :=
  regularOut_notified_sublist s c' sig body hreg raw fs

/-- Only-if direction of the flag (runner level, from `C06s.regular_flag_exact`): a regular command run by `c'` sets
the flag of `c` only if `c` watches, in the database selected by `c'`, one of the key arguments of the command. -/
theorem regular_flag_only_keyArgs (sp : SpecialFn) (mode : Mode) (c' : Nat) (sig : Sig) (raw : List Bytes)
    (fs : Bool) (body : Body) (hreg : Cmd.regular sig.name = some body) (s : Sys) (c : Nat)
    (h : ((runWith sp mode c' sig raw fs s).2.conn c).watchNotified = true) :
    (s.conn c).watchNotified = true ∨ ∃ k ∈ keyArgs sig raw, ((s.conn c').db, k) ∈ (s.conn c).watches := by
  rw [(FR.Props.C06s.regular_flag_exact sp mode c' sig raw fs body hreg s c).2, Bool.or_eq_true] at h
  rcases h with h | h
  · exact .inl h
  · obtain ⟨k, hk, hw⟩ := List.any_eq_true.1 h
    exact .inr ⟨k, (regularOut_notified_sublist s c' sig body hreg raw fs).subset hk, List.contains_iff_mem.1 hw⟩

theorem harmlessReq_of {W : List (Nat × Bytes)} {d' : Nat} {nameB : Bytes} {args : List Bytes} (sig : Sig)
    (hl : lookupSig nameB = some sig) (h1 : (Cmd.regular sig.name).isSome = true)
    (h2 : sig.name ∈ readNames ∨ ∀ k ∈ keyArgs sig args, (d', k) ∉ W) : HarmlessReq W d' (nameB :: args) := by
  simp only [HarmlessReq, hl]
  exact .inl ⟨h1, h2⟩

/-- a request that names a special command is harmless under the last clause of `HarmlessReq` -/
theorem harmlessReq_special {W : List (Nat × Bytes)} {d' : Nat} {nameB : Bytes} {args : List Bytes} (sig : Sig)
    (hl : lookupSig nameB = some sig) (h1 : Cmd.regular sig.name = none) (h2 : sig.name ∉ touchy)
    (h3 : ∀ k ∈ keyArgs sig args, (d', k) ∉ W)
    (h4 : ∀ cargs cis, (∃ db, (sig.apply args db).2 = .ok (.ok cargs cis)) → SpecialAvoids W d' sig.name cargs cis) :
    HarmlessReq W d' (nameB :: args) := by
  simp only [HarmlessReq, hl]
  exact .inr ⟨h1, h2, h3, h4⟩

/-- One request (event level, a case of `NotifyKeys.processCommand_harmless`).  Connection `c` (not closed) has some watch list;
connection `c'`, which has database `d'` selected, sends a request that names a regular command.  If for every pair
`(d, k)` watched by `c` either `d' ≠ d` or `k` is not a key argument of the request, then the watch list and the
`watchNotified` flag of `c` are the same after the request.  (`c' = c` is allowed, as is a request queued in MULTI.) -/
theorem request_regular_unwatched (s : Sys) (mode : Mode) (c c' : Nat) (nameB : Bytes) (args : List Bytes)
    (clocks : List Int) (picks : List (List Bytes)) (sig : Sig) (body : Body)
    (hl : lookupSig nameB = some sig) (hreg : Cmd.regular sig.name = some body)
    (hopen : c ∉ s.srv.closedSockets)
    (H : ∀ d k, (d, k) ∈ (s.conn c).watches → (s.conn c').db ≠ d ∨ k ∉ keyArgs sig args) :
    ((stepEv s (.request mode c' (nameB :: args) clocks picks)).conn c).watches = (s.conn c).watches ∧
    ((stepEv s (.request mode c' (nameB :: args) clocks picks)).conn c).watchNotified = (s.conn c).watchNotified := by
  have := processCommand_harmless mode c c' (nameB :: args) (s.beginEvent.withHints clocks picks) hopen
    (harmlessReq_of sig hl (by rw [hreg]; rfl)
      (.inr fun k hk hw => (H _ _ hw).elim (fun h => h rfl) (fun h => h hk)))
  exact this.2

/-- A read command of the table changes nothing of `c`'s watch state even when it names a watched key. -/
theorem request_read_unwatched (s : Sys) (mode : Mode) (c c' : Nat) (nameB : Bytes) (args : List Bytes)
    (clocks : List Int) (picks : List (List Bytes)) (sig : Sig) (body : Body)
    (hl : lookupSig nameB = some sig) (hreg : Cmd.regular sig.name = some body) (hr : sig.name ∈ readNames)
    (hopen : c ∉ s.srv.closedSockets) :
    ((stepEv s (.request mode c' (nameB :: args) clocks picks)).conn c).watches = (s.conn c).watches ∧
    ((stepEv s (.request mode c' (nameB :: args) clocks picks)).conn c).watchNotified = (s.conn c).watchNotified := by
  exact (processCommand_harmless mode c c' (nameB :: args) (s.beginEvent.withHints clocks picks) hopen
    (harmlessReq_of sig hl (by rw [hreg]; rfl) (.inl hr))).2

/-! ### histories

The events allowed between WATCH and EXEC are the `Harmless` ones (`FR/Proofs/NotifyKeys.lean`):

* `.request _ c' fields _ _` for any connection `c'` (also `c` itself; also while a MULTI is open, when the request
  is queued) where `fields` is empty, or names no known command, or — `d'` being the database that `c'` has selected
  when the request is made —
  - names a regular command that is a read command (`readNames`) or none of whose key arguments `k` makes `(d', k)` a
    watch of `c`;
  - names a special command other than SELECT, EXEC, DISCARD, WATCH, UNWATCH, EVAL, EVALSHA, SCRIPT (`touchy`), none
    of whose key arguments `k` makes `(d', k)` a watch of `c`, and the watch list of `c` avoids what the command may
    notify itself (`SpecialAvoids`: MOVE — the key in the target database; SORT — the STORE destination; FLUSHDB —
    database `d'`; FLUSHALL — databases 0…15; SWAPDB — both databases; BLPOP / BRPOP / BRPOPLPUSH — the listed keys);
* `.version`, `.conn`, `.open` (any connection id), and `.close c'` / `.gc c'` with `c' ≠ c`.

Not covered by these theorems: the `touchy` commands (SELECT changes the database the next condition refers to; EXEC
and the script commands run nested commands — each nested command goes through `runWith_notifies_only`; WATCH /
UNWATCH / DISCARD of `c` itself edit the watch list), raw `send` events (a `send` is the parser loop around the
`request`s it contains), wake-ups and time-outs of blocked connections (a wake-up runs one more pass:
`bpop_notifies_only_listed`). -/

/-- History form.  Through any history of harmless events, connection `c` stays open and keeps its watch list and its
flag. -/
theorem harmless_history (s : Sys) (evs : List Ev) (c : Nat) (hopen : c ∉ s.srv.closedSockets)
    (hh : HarmlessRun c s evs) :
    c ∉ (evs.foldl stepEv s).srv.closedSockets ∧
    ((evs.foldl stepEv s).conn c).watches = (s.conn c).watches ∧
    ((evs.foldl stepEv s).conn c).watchNotified = (s.conn c).watchNotified :=
  let h := history_harmless evs s ⟨hopen, rfl, rfl⟩ hh
  ⟨h.opened, h.watches, h.flag⟩

/-- "EXEC proceeds".  `c` is clean in `s` (flag not set — e.g. right after its WATCH); a harmless history follows,
during which `c` opens a MULTI and queues `q` without a queueing error.  Then the EXEC of `c` runs the queue: it is
the sequential run of the queued commands (`FR.C05.exec_eq_sequential`), not the nil reply. -/
theorem exec_proceeds (s : Sys) (evs : List Ev) (c : Nat) (hopen : c ∉ s.srv.closedSockets)
    (hclean : (s.conn c).watchNotified = false) (hh : HarmlessRun c s evs)
    (inner : Inner) (cis : List CI) (q : List (String × List Bytes))
    (htx : ((evs.foldl stepEv s).conn c).tx = some q) (hf : ((evs.foldl stepEv s).conn c).txFailed = false) :
    execCmd inner c cis (evs.foldl stepEv s) = (do
      modifyConn c fun x => { x with tx := none, txFailed := false }
      clearWatches c
      let results ← runQueue inner c q
      if results.any Option.isNone then
        modify fun s => { s with crashed := some "AssertionError" }
        return .ok (none, cis)
      else okR (.arr (results.map fun r => r.getD .nil)) cis : M SpecialOut) (evs.foldl stepEv s) :=
  FR.C05.exec_eq_sequential _ inner c cis q htx hf ((harmless_history s evs c hopen hh).2.2.trans hclean)

/-- the same from the initial state: `evs0` is any history after which `c` is open and clean -/
theorem exec_proceeds_reachable (evs0 evs : List Ev) (c : Nat)
    (hopen : c ∉ (runHistory evs0).srv.closedSockets)
    (hclean : ((runHistory evs0).conn c).watchNotified = false) (hh : HarmlessRun c (runHistory evs0) evs) :
    ((runHistory (evs0 ++ evs)).conn c).watchNotified = false ∧
    ((runHistory (evs0 ++ evs)).conn c).watches = ((runHistory evs0).conn c).watches := by
  have h := harmless_history (runHistory evs0) evs c hopen hh
  unfold runHistory at h hclean ⊢
  rw [List.foldl_append]
  exact ⟨h.2.2.trans hclean, h.2.1⟩

/-! ### non-vacuity of the history theorems

State `C06s.sSet`: connection 1 watches `k` in database 0.  Connection 2 runs `SET j v` (another key), `GET k` (a read
of the watched key), `DEL j x` and an unknown command; a third connection is opened, closed and collected. -/

def eGetK : Ev := .request {} 2 [[103, 101, 116], [107]] [8] []
def eDel : Ev := .request {} 2 [[100, 101, 108], [106], [120]] [9] []
def eUnknown : Ev := .request {} 2 [[110, 111, 112, 101]] [10] []

def quietEvs : List Ev := [FR.Props.C06s.eSetOther, eGetK, eDel, eUnknown, .open 3, .close 3, .gc 3]

theorem avoids_trivial {W : List (Nat × Bytes)} {d0 : Nat} {name : String} {args : List Arg} {cis : List CI}
    (h : name ∉ ["move", "sort", "flushdb", "flushall", "swapdb", "blpop", "brpop", "brpoplpush"]) :
    SpecialAvoids W d0 name args cis := by
  refine ⟨?_, ?_, ?_, ?_, ?_, ?_, ?_⟩
  all_goals intro e
  · exact absurd (by rw [e]; decide) h
  · exact absurd (by rw [e]; decide) h
  · exact absurd (by rw [e]; decide) h
  · exact absurd (by rw [e]; decide) h
  · exact absurd (by rw [e]; decide) h
  · rcases e with e | e <;> exact absurd (by rw [e]; decide) h
  · exact absurd (by rw [e]; decide) h

/-- a decidable condition under which a request is harmless: an unknown command; a regular command that only reads, or
none of whose key arguments is watched; a special command that is not `touchy`, notifies nothing by itself and has no
watched key argument -/
def HarmlessReqOk (W : List (Nat × Bytes)) (d' : Nat) : List Bytes → Prop
  | [] => True
  | nameB :: args =>
    match lookupSig nameB with
    | none => True
    | some sig =>
      ((Cmd.regular sig.name).isSome = true ∧ (sig.name ∈ readNames ∨ ∀ k ∈ keyArgs sig args, (d', k) ∉ W)) ∨
      (Cmd.regular sig.name = none ∧ sig.name ∉ touchy ∧ (∀ k ∈ keyArgs sig args, (d', k) ∉ W) ∧
        sig.name ∉ ["move", "sort", "flushdb", "flushall", "swapdb", "blpop", "brpop", "brpoplpush"])

instance (W : List (Nat × Bytes)) (d' : Nat) (fields : List Bytes) : Decidable (HarmlessReqOk W d' fields) := by
  unfold HarmlessReqOk
  split
  · infer_instance
  · split <;> infer_instance

theorem harmlessReq_of_ok {W : List (Nat × Bytes)} {d' : Nat} {fields : List Bytes} (h : HarmlessReqOk W d' fields) :
    HarmlessReq W d' fields := by
  unfold HarmlessReqOk at h
  split at h
  · trivial
  · split at h
    · next hl => simp only [HarmlessReq, hl]
    · next sig hl =>
      rcases h with ⟨h1, h2⟩ | ⟨h1, h2, h3, h4⟩
      · exact harmlessReq_of sig hl h1 h2
      · exact harmlessReq_special sig hl h1 h2 h3 fun _ _ _ => avoids_trivial h4

/-- a decidable condition under which an event is harmless: a request as in `HarmlessReqOk`, or one of the other events
`Harmless` admits -/
def HarmlessOk (c : Nat) (s : Sys) : Ev → Prop
  | .request _ c' fields _ _ => HarmlessReqOk (s.conn c).watches (s.conn c').db fields
  | .version _ => True
  | .conn _ => True
  | .open _ => True
  | .close c' => c' ≠ c
  | .gc c' => c' ≠ c
  | _ => False

instance (c : Nat) (s : Sys) (e : Ev) : Decidable (HarmlessOk c s e) := by
  cases e <;> unfold HarmlessOk <;> infer_instance

theorem harmless_of_ok {c : Nat} {s : Sys} {e : Ev} (h : HarmlessOk c s e) : Harmless c s e := by
  cases e <;> first | exact harmlessReq_of_ok h | exact h

theorem quietEvs_harmless : HarmlessRun 1 FR.Props.C06s.sSet quietEvs :=
  harmlessRun_iff_histAll.2 (HistAll.mono (P := HarmlessOk 1) (fun _ _ => harmless_of_ok) (by decide +kernel))

example : ((quietEvs.foldl stepEv FR.Props.C06s.sSet).conn 1).watchNotified = false ∧
    ((quietEvs.foldl stepEv FR.Props.C06s.sSet).conn 1).watches = [(0, [107])] := by
  have := harmless_history FR.Props.C06s.sSet quietEvs 1 (by decide) quietEvs_harmless
  exact ⟨this.2.2, this.2.1⟩

/-- the key-argument condition is sharp: `SET k v` by connection 2 (naming the watched key) does set the flag -/
example : ¬ Harmless 1 FR.Props.C06s.sSet FR.Props.C06s.eSet ∧
    ((stepEv FR.Props.C06s.sSet FR.Props.C06s.eSet).conn 1).watchNotified = true := by
  have hd : ((stepEv FR.Props.C06s.sSet FR.Props.C06s.eSet).conn 1).watchNotified = true ∧
      lookupSig [115, 101, 116] = some (SigTable.sigs.getD 89 default) ∧
      (SigTable.sigs.getD 89 default).name ∉ readNames ∧
      [107] ∈ keyArgs (SigTable.sigs.getD 89 default) [[107], [118]] ∧
      ((FR.Props.C06s.sSet.conn 2).db, [107]) ∈ (FR.Props.C06s.sSet.conn 1).watches ∧
      Cmd.regular (SigTable.sigs.getD 89 default).name ≠ none := by decide +kernel
  refine ⟨?_, hd.1⟩
  intro h
  simp only [Harmless, FR.Props.C06s.eSet, HarmlessReq, hd.2.1] at h
  rcases h with ⟨_, h | h⟩ | ⟨h, _⟩
  · exact hd.2.2.1 h
  · exact h [107] hd.2.2.2.1 hd.2.2.2.2.1
  · exact hd.2.2.2.2.2 h

/-! ## 3. the special commands: which keys each may notify

For a special command `_run_command` (`runWith`) converts the arguments with the same `Signature.apply`, runs the
special body, and writes back the `CommandItem`s the body returns.  Hence a special command can notify
(a) through the write-back: only key arguments again, because every special body hands back items with the keys it was
    given (`special_keepsKeys`; MOVE's source key, the destination of ZUNIONSTORE / ZINTERSTORE — a declared key in
    this model — and SORT's source key are of this kind), and
(b) through its own calls of `notify_watch`: what `SpecialAvoids` lists, one theorem per body below.

All statements have the form `Pres (FlagInv c c' W b d0) m`: a connection `c` with watch list `W` and flag `b` (not
closed) keeps both through `m`, under the stated hypothesis that `W` avoids the pairs `m` may notify. -/

section
variable {c c' : Nat} {W : List (Nat × Bytes)} {b : Bool} {d0 : Nat}

/-- (a) every special body returns items with the keys, index by index, of the items it was given -/
theorem special_keepsKeys (inner : Inner) : SpecialKK (special inner) := special_kk inner

/-- the write-back of a list of items notifies at most `(d, key)` for the keys of the items -/
theorem writeback_notifies_only_item_keys (d : Nat) (cis : List CI) (h : ∀ ci ∈ cis, (d, ci.key) ∉ W) :
    Pres (FlagInv c c' W b d0) (M.writebackAll d cis) := flag_writebackAll d cis h

/-- FLUSHDB: `Database.clear` of database `d` notifies only keys of database `d` (namely its live keys) -/
theorem clearDb_notifies_only_own_db (d : Nat) (h : ∀ k, (d, k) ∉ W) : Pres (FlagInv c c' W b d0) (M.clearDb d) :=
  flag_clearDb d h

/-- FLUSHALL notifies only keys of the databases 0 … 15 -/
theorem flushall_notifies_only_dbs (h : ∀ p ∈ W, 16 ≤ p.1) :
    Pres (FlagInv c c' W b d0) ((List.range 16).forM M.clearDb) := flag_flushall h

/-- SWAPDB `a b` notifies only keys of the databases `a` and `b` -/
theorem swapdb_notifies_only_both_dbs (args : List Arg) (cis : List CI)
    (h : ∀ i1 i2, args = [.int i1, .int i2] → ∀ k, (i1.toNat, k) ∉ W ∧ (i2.toNat, k) ∉ W) :
    Pres (FlagInv c c' W b d0) (swapdbCmd args cis) := flag_swapdbCmd args cis h

/-- MOVE itself notifies only the key in the target database (the key in the source database is notified by the
write-back of the item of its key argument) -/
theorem move_notifies_only_target (d : Nat) (args : List Arg) (cis : List CI)
    (h : ∀ k dst, args = [.key k, .int dst] → (dst.toNat, (ciAt cis k).key) ∉ W) :
    Pres (FlagInv c c' W b d0) (moveCmd d args cis) := flag_moveCmd d args cis h

/-- SORT notifies only the STORE destination, in the selected database (the items come back unchanged) -/
theorem sort_notifies_only_store (x d : Nat) (args : List Arg) (cis : List CI)
    (h : ∀ k rest o dst, args = .key k :: rest → parseSortOpts (Cmd.rawArgs rest) {} = .ok o → o.store = some dst →
      (d, dst) ∉ W) :
    Pres (FlagInv c c' W b d0) (sortCmd x d args cis) := flag_sortCmd x d args cis h

/-- ZUNIONSTORE / ZINTERSTORE call `notify_watch` for nothing themselves: the destination is a declared key argument,
stored through its `CommandItem`, hence covered by (a) -/
theorem zunioninter_notifies_nothing_itself (u : Bool) (d : Nat) (args : List Arg) (cis : List CI) :
    Pres (FlagInv c c' W b d0) (zunioninter u d args cis) := flag_zunioninter u d args cis

/-- one pass of BLPOP / BRPOP (at the command, or at a wake-up of the blocked connection) notifies only `(d, k)` for
the listed keys `k` — plain arguments, not declared keys -/
theorem bpop_notifies_only_listed (d : Nat) (left first : Bool) (keys : List Bytes) (h : ∀ k ∈ keys, (d, k) ∉ W) :
    Pres (FlagInv c c' W b d0) (bpopPass d left first keys) := flag_bpopPass d left first keys h

/-- one pass of BRPOPLPUSH notifies only source and destination -/
theorem brpoplpush_notifies_only_src_dst (d : Nat) (src dst : Bytes) (first : Bool) (h1 : (d, src) ∉ W)
    (h2 : (d, dst) ∉ W) : Pres (FlagInv c c' W b d0) (brpoplpushPass d src dst first) :=
  flag_brpoplpushPass d src dst first h1 h2

/-- any special command other than SELECT, EXEC, DISCARD, WATCH, UNWATCH, EVAL, EVALSHA, SCRIPT -/
theorem special_notifies_only (inner : Inner) (mode : Mode) (name : String) (args : List Arg) (cis : List CI)
    (hname : name ∉ touchy) (hav : SpecialAvoids W d0 name args cis) :
    Pres (FlagInv c c' W b d0) (special inner mode c' name args cis) := special_flag inner mode name args cis hname hav

/-- `_run_command` of any command of `c'` (regular or special; directly, inside EXEC, or from a script — for any
`special` function that keeps keys): it may notify only key arguments and what its special body notifies itself.
Inside a script each `redis.call` goes through this very runner (`from_script = true`), so a script notifies only
what its individual calls notify. -/
theorem runWith_notifies_only (sp : SpecialFn) (hkk : SpecialKK sp) (mode : Mode) (sig : Sig) (raw : List Bytes)
    (fs : Bool) (hkeys : ∀ k ∈ keyArgs sig raw, (d0, k) ∉ W)
    (hsp : Cmd.regular sig.name = none → ∀ args cis, (∃ db, (sig.apply raw db).2 = .ok (.ok args cis)) →
      Pres (FlagInv c c' W b d0) (sp mode c' sig.name args cis)) :
    Pres (FlagInv c c' W b d0) (runWith sp mode c' sig raw fs) := runWith_flag sp hkk mode sig raw fs hkeys hsp

end

/-- Event level, any command.  A request of `c'` naming a command other than the `touchy` ones, none of whose key
arguments is watched by `c` in the database selected by `c'`, and such that the watch list of `c` avoids what the
command (if special) may notify itself, leaves the watch list and the flag of `c` unchanged. -/
theorem request_any_unwatched (s : Sys) (mode : Mode) (c c' : Nat) (nameB : Bytes) (args : List Bytes)
    (clocks : List Int) (picks : List (List Bytes)) (sig : Sig) (hl : lookupSig nameB = some sig)
    (hopen : c ∉ s.srv.closedSockets) (hname : sig.name ∉ touchy)
    (hkeys : ∀ k ∈ keyArgs sig args, ((s.conn c').db, k) ∉ (s.conn c).watches)
    (hsp : Cmd.regular sig.name = none → ∀ cargs cis, (∃ db, (sig.apply args db).2 = .ok (.ok cargs cis)) →
      SpecialAvoids (s.conn c).watches (s.conn c').db sig.name cargs cis) :
    ((stepEv s (.request mode c' (nameB :: args) clocks picks)).conn c).watches = (s.conn c).watches ∧
    ((stepEv s (.request mode c' (nameB :: args) clocks picks)).conn c).watchNotified = (s.conn c).watchNotified := by
  have hh : HarmlessReq (s.conn c).watches (s.conn c').db (nameB :: args) := by
    cases hreg : Cmd.regular sig.name with
    | some _ => exact harmlessReq_of sig hl (by rw [hreg]; rfl) (.inr hkeys)
    | none => exact harmlessReq_special sig hl hreg hname hkeys (hsp hreg)
  exact (processCommand_harmless mode c c' (nameB :: args) (s.beginEvent.withHints clocks picks) hopen hh).2

/-! ### non-vacuity: special commands in a harmless history

From `C06s.sSet` (connection 1 watches `k` in database 0): connection 2 sends PING, DBSIZE and MULTI — harmless.
FLUSHDB by a connection that has database 0 selected is not (it notifies `k`), nor is `SORT j STORE k`, although `k`
is not a key argument of that request. -/

def ePing' : Ev := .request {} 2 [[112, 105, 110, 103]] [11] []
def eDbsize : Ev := .request {} 2 [[100, 98, 115, 105, 122, 101]] [12] []
def eMulti2 : Ev := .request {} 2 [[109, 117, 108, 116, 105]] [13] []

theorem specialEvs_harmless : HarmlessRun 1 FR.Props.C06s.sSet [ePing', eDbsize, eMulti2] :=
  harmlessRun_iff_histAll.2 (HistAll.mono (P := HarmlessOk 1) (fun _ _ => harmless_of_ok) (by decide +kernel))

example : (([ePing', eDbsize, eMulti2].foldl stepEv FR.Props.C06s.sSet).conn 1).watchNotified = false :=
  (harmless_history FR.Props.C06s.sSet _ 1 (by decide) specialEvs_harmless).2.2

/-- FLUSHDB in the watched database does set the flag (computed): the hypothesis of `clearDb_notifies_only_own_db`
cannot be dropped -/
example : ((stepEv FR.Props.C06s.sSet (.request {} 2 [[102, 108, 117, 115, 104, 100, 98]] [11] [])).conn 1).watchNotified
    = true := by decide +kernel

/-- The key-argument theorem does not extend to the special commands: `SORT j STORE k` has the single key argument
`j`, yet notifies `k` (computed) — exactly the pair `sort_notifies_only_store` names. -/
example : keyArgs (SigTable.sigs.getD 100 default) [[106], [83, 84, 79, 82, 69], [107]] = [[106]] ∧
    lookupSig [115, 111, 114, 116] = some (SigTable.sigs.getD 100 default) ∧
    ((stepEv FR.Props.C06s.sSet (.request {} 2 [[115, 111, 114, 116], [106], [83, 84, 79, 82, 69], [107]] [11] [])).conn 1).watchNotified
      = true := by decide +kernel

/-! ### the side condition on a special command, stated on the request alone -/

/-- the same with the side condition on the special command stated for `argsOf sig args` — the converted arguments as
a function of the request alone — and for items keyed by the key arguments -/
theorem request_any_unwatched' (s : Sys) (mode : Mode) (c c' : Nat) (nameB : Bytes) (args : List Bytes)
    (clocks : List Int) (picks : List (List Bytes)) (sig : Sig) (hl : lookupSig nameB = some sig)
    (hopen : c ∉ s.srv.closedSockets) (hname : sig.name ∉ touchy)
    (hkeys : ∀ k ∈ keyArgs sig args, ((s.conn c').db, k) ∉ (s.conn c).watches)
    (hsp : Cmd.regular sig.name = none → ∀ cargs cis, argsOf sig args = some cargs →
      cis.map CI.key = keyArgs sig args → SpecialAvoids (s.conn c).watches (s.conn c').db sig.name cargs cis) :
    ((stepEv s (.request mode c' (nameB :: args) clocks picks)).conn c).watches = (s.conn c).watches ∧
    ((stepEv s (.request mode c' (nameB :: args) clocks picks)).conn c).watchNotified = (s.conn c).watchNotified :=
  request_any_unwatched s mode c c' nameB args clocks picks sig hl hopen hname hkeys
    (fun hreg cargs cis ⟨db, h⟩ => hsp hreg cargs cis (apply_args sig args db h) (apply_keys sig args db h))

theorem harmlessReq_special' {W : List (Nat × Bytes)} {d' : Nat} {nameB : Bytes} {args : List Bytes} (sig : Sig)
    (hl : lookupSig nameB = some sig) (h1 : Cmd.regular sig.name = none) (h2 : sig.name ∉ touchy)
    (h3 : ∀ k ∈ keyArgs sig args, (d', k) ∉ W)
    (h4 : ∀ cargs cis, argsOf sig args = some cargs → cis.map CI.key = keyArgs sig args →
      SpecialAvoids W d' sig.name cargs cis) :
    HarmlessReq W d' (nameB :: args) :=
  harmlessReq_special sig hl h1 h2 h3
    (fun cargs cis ⟨db, h⟩ => h4 cargs cis (apply_args sig args db h) (apply_keys sig args db h))

/-- `MOVE j 1` and `BLPOP l 0` by connection 2 (database 0 selected), connection 1 watching `(0, k)` -/
def eMove : Ev := .request {} 2 [[109, 111, 118, 101], [106], [49]] [14] []
def eBlpop : Ev := .request {} 2 [[98, 108, 112, 111, 112], [108], [48]] [15, 16] []

example : argsOf (SigTable.sigs.getD 57 default) [[106], [49]] = some [.key 0, .int 1] := by rfl

/-- MOVE of an unwatched key into database 1, where `c` watches nothing: harmless -/
theorem eMove_harmless : Harmless 1 FR.Props.C06s.sSet eMove := by
  have hW : (FR.Props.C06s.sSet.conn 1).watches = [(0, [107])] := by decide
  show HarmlessReq _ _ ([109, 111, 118, 101] :: [[106], [49]])
  have h : lookupSig [109, 111, 118, 101] = some (SigTable.sigs.getD 57 default) ∧
      Cmd.regular (SigTable.sigs.getD 57 default).name = none ∧ (SigTable.sigs.getD 57 default).name ∉ touchy ∧
      ∀ k ∈ keyArgs (SigTable.sigs.getD 57 default) [[106], [49]],
        ((FR.Props.C06s.sSet.conn 2).db, k) ∉ (FR.Props.C06s.sSet.conn 1).watches := by decide +kernel
  refine harmlessReq_special' _ h.1 h.2.1 h.2.2.1 h.2.2.2 ?_
  intro cargs cis ha _
  have ha' : cargs = [.key 0, .int 1] :=
    Option.some.inj (ha.symm.trans (show argsOf _ _ = some [.key 0, .int 1] by rfl))
  subst ha'
  refine ⟨?_, fun e => absurd e (by decide), fun e => absurd e (by decide), fun e => absurd e (by decide),
    fun e => absurd e (by decide), fun e => e.elim (fun e => absurd e (by decide)) (fun e => absurd e (by decide)),
    fun e => absurd e (by decide)⟩
  intro _ k dst e hm
  cases e
  rw [hW] at hm
  have h1 : (Int.toNat 1) = 0 := congrArg Prod.fst (List.mem_singleton.1 hm)
  exact absurd h1 (by decide)

/-- BLPOP on an unwatched list key (a plain argument, not a declared key): harmless -/
theorem eBlpop_harmless : Harmless 1 FR.Props.C06s.sSet eBlpop := by
  have hW : (FR.Props.C06s.sSet.conn 1).watches = [(0, [107])] := by decide
  show HarmlessReq _ _ ([98, 108, 112, 111, 112] :: [[108], [48]])
  have h : lookupSig [98, 108, 112, 111, 112] = some (SigTable.sigs.getD 3 default) ∧
      Cmd.regular (SigTable.sigs.getD 3 default).name = none ∧ (SigTable.sigs.getD 3 default).name ∉ touchy ∧
      ∀ k ∈ keyArgs (SigTable.sigs.getD 3 default) [[108], [48]],
        ((FR.Props.C06s.sSet.conn 2).db, k) ∉ (FR.Props.C06s.sSet.conn 1).watches := by decide +kernel
  refine harmlessReq_special' _ h.1 h.2.1 h.2.2.1 h.2.2.2 ?_
  intro cargs cis ha _
  have ha' : cargs = [.raw [108], .raw [48]] :=
    Option.some.inj (ha.symm.trans (show argsOf _ _ = some [.raw [108], .raw [48]] by rfl))
  subst ha'
  refine ⟨fun e => absurd e (by decide), fun e => absurd e (by decide), fun e => absurd e (by decide),
    fun e => absurd e (by decide), fun e => absurd e (by decide), ?_, fun e => absurd e (by decide)⟩
  intro _ k hk hm
  have hk' : k = [108] := by simpa [Cmd.rawArgs] using hk
  rw [hW, hk'] at hm
  have h1 : ([108] : Bytes) = [107] := congrArg Prod.snd (List.mem_singleton.1 hm)
  exact absurd h1 (by decide)

example : ((stepEv FR.Props.C06s.sSet eMove).conn 1).watchNotified = false ∧
    ((stepEv FR.Props.C06s.sSet eBlpop).conn 1).watchNotified = false :=
  ⟨(harmless_history _ [eMove] 1 (by decide) ⟨eMove_harmless, trivial⟩).2.2,
   (harmless_history _ [eBlpop] 1 (by decide) ⟨eBlpop_harmless, trivial⟩).2.2⟩

end FR.Props.C06k

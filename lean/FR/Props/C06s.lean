import FR.Proofs.NotifyKeys
import FR.Props.C05
/-!
# C06 at system level — WATCH over all events and all histories

`FR/Props/C06.lean`, `C06b.lean` prove "a change of the live entry of `k` notifies `k`" for the generic runner on one
database.  Here the statement is lifted to the system model (`Sys`, `Ev`, `stepEv`): every event, including the special
commands (MOVE, SWAPDB, FLUSHDB / FLUSHALL, SORT … STORE, ZUNIONSTORE / ZINTERSTORE, the blocking pops and their
wake-ups, EXEC's inner commands, the script commands) and the watch bookkeeping.

Vocabulary (all from `FR/Proofs/WatchSys.lean`):

* `liveAt s d k` — the live entry of `k` in database `d` of `s` (value, deadline; an expired entry counts as absent);
  `rawAt s d k` — the entry as stored (lazy deletion not applied); `liveOf t a` — `a` seen through lazy expiry at
  clock reading `t`.
* `Base c d k s` — `s.DataInv`, 16 databases (both hold in every reachable state, `reachable_base`), `c` is not on
  the list of closed sockets, `c` watches `(d, k)`.
* `Quiet c s e` — event `e` run from `s` does not clear the watches of `c`: it is not `close c` / `gc c`, and no
  request it makes `c` itself process is EXEC, DISCARD or UNWATCH (`Clearing`; for a `send` / asyncio wake-up the
  requests are the ones the parser loop actually processes, `sendCmds` / `awakeCmds` / `atimeoutCmds`).  Every event of
  another connection is quiet for `c`.  The classification is conservative: an EXEC / DISCARD answered with
  "without MULTI" counts as clearing although it clears nothing.
* `NoCross R T` — no two clock readings in `T` lie on different sides of the deadline of the entry `R`: the precise
  form of the property's "the clock not crossing an expiry deadline between WATCH and EXEC".  `Times s evs` are the
  readings that can be in force during `evs`: the clock of `s`, its unread readings, the readings the events bring.
-/
namespace FR.Props.C06s
open FR FR.WatchSys

/-! ## 0. the side invariants hold in every reachable state -/

/-- `DataInv` and "16 databases" hold after every history from the initial state. -/
theorem reachable_base (evs : List Ev) : (runHistory evs).DataInv ∧ (runHistory evs).srv.dbs.length = 16 :=
  ⟨dataInv_whole.foldl evs {} Sys.dataInv_init, runHistory_len evs⟩

/-! ## 1. one step, soundness -/

/-- One event.  `c` watches `(d,k)`, the event does not clear the watches of `c`, and no clock reading available to
the event crosses the deadline of the entry stored under `k`.  Then `c` still watches `(d,k)`, and if the live entry of
`k` in database `d` (value, existence or deadline) differs between `s` and `stepEv s e`, `c.watchNotified` is set. -/
theorem step_sound (s : Sys) (e : Ev) (c d : Nat) (k : Bytes) (b : Base c d k s) (hq : Quiet c s e)
    (nc : NoCross (rawAt s d k) (Times s [e])) :
    Base c d k (stepEv s e) ∧
    (liveAt (stepEv s e) d k ≠ liveAt s d k → ((stepEv s e).conn c).watchNotified = true) :=
  history_sound s [e] b ⟨hq, trivial⟩ nc

/-- One request, sharp form: compare the dictionary of `s` and the dictionary of the new state both at the new state's
time.  For a request that brings one clock reading nothing at all is excluded. -/
theorem request_sound (s : Sys) (mode : Mode) (c c' d : Nat) (k nameB : Bytes) (args : List Bytes) (t : Int)
    (picks : List (List Bytes)) (sig : Sig) (hl : lookupSig nameB = some sig)
    (b : Base c d k s) (hq : c' ≠ c ∨ ¬ Clearing (nameB :: args)) :
    let s' := stepEv s (.request mode c' (nameB :: args) [t] picks)
    Base c d k s' ∧ (liveAt s' d k ≠ liveOf s'.srv.time (rawAt s d k) → (s'.conn c).watchNotified = true) :=
  request_sound_sharp s mode c' nameB args t [] picks sig hl b hq (noCross_single _ t)

/-- the same with further readings `rest` for the command's own use (TIME, SAVE, blocking pops) -/
theorem request_sound' (s : Sys) (mode : Mode) (c c' d : Nat) (k nameB : Bytes) (args : List Bytes) (t : Int)
    (rest : List Int) (picks : List (List Bytes)) (sig : Sig) (hl : lookupSig nameB = some sig)
    (b : Base c d k s) (hq : c' ≠ c ∨ ¬ Clearing (nameB :: args))
    (nc : NoCross (rawAt s d k) (· ∈ t :: rest)) :
    let s' := stepEv s (.request mode c' (nameB :: args) (t :: rest) picks)
    Base c d k s' ∧ (liveAt s' d k ≠ liveOf s'.srv.time (rawAt s d k) → (s'.conn c).watchNotified = true) :=
  request_sound_sharp s mode c' nameB args t rest picks sig hl b hq nc

/-! ### the exclusions are needed -/

/-- key `k` with deadline 5, clock 0; connection 1 watches it; connection 2 sends PING with clock reading 10 -/
def sCross : Sys :=
  { srv := { dbs := [([107], ⟨.str [1], some 5⟩)] :: List.replicate 15 [],
             conns := [{ id := 1, watches := [(0, [107])] }, { id := 2 }] } }
def ePing (t : Int) : Ev := .request {} 2 [[112, 105, 110, 103]] [t] []

theorem base_sCross : Base 1 0 [107] sCross :=
  ⟨by unfold Sys.DataInv NoEmpty; decide, by decide, by decide, by decide⟩

/-- Without `NoCross` the one-step statement is false: the clock advances past the deadline, the live entry
disappears, nobody is notified.  (This is exactly what the property's quantifier excludes.) -/
theorem step_sound_needs_noCross :
    ¬ ∀ (s : Sys) (e : Ev) (c d : Nat) (k : Bytes), Base c d k s → Quiet c s e →
        liveAt (stepEv s e) d k ≠ liveAt s d k → ((stepEv s e).conn c).watchNotified = true := by
  have hk : (liveAt (stepEv sCross (ePing 10)) 0 [107]).isSome ≠ (liveAt sCross 0 [107]).isSome ∧
      ((stepEv sCross (ePing 10)).conn 1).watchNotified ≠ true := by decide +kernel
  intro h
  exact hk.2 (h sCross (ePing 10) 1 0 [107] base_sCross (.inl (by decide))
    fun e => hk.1 (congrArg Option.isSome e))

/-- an expired, not yet deleted entry; the clock is set back before its deadline: the entry is live again -/
def sBack : Sys :=
  { srv := { time := 10, dbs := [([107], ⟨.str [1], some 5⟩)] :: List.replicate 15 [],
             conns := [{ id := 1, watches := [(0, [107])] }, { id := 2 }] } }

/-- `NoCross` is needed in the other direction too (a clock that goes backwards resurrects a dead entry). -/
theorem step_sound_needs_noCross_backward :
    Base 1 0 [107] sBack ∧ Quiet 1 sBack (ePing 3) ∧
    (liveAt sBack 0 [107]).isSome = false ∧ (liveAt (stepEv sBack (ePing 3)) 0 [107]).isSome = true ∧
    ((stepEv sBack (ePing 3)).conn 1).watchNotified = false :=
  have h : (liveAt sBack 0 [107]).isSome = false ∧ (liveAt (stepEv sBack (ePing 3)) 0 [107]).isSome = true ∧
      ((stepEv sBack (ePing 3)).conn 1).watchNotified = false := by decide +kernel
  ⟨⟨by unfold Sys.DataInv NoEmpty; decide, by decide, by decide, by decide⟩, .inl (by decide),
    h.1, h.2.1, h.2.2⟩

/-- connection 1 watches `k` and then pipelines `UNWATCH`, `SET k v`, `WATCH k` in one `sendall` -/
def sPipe : Sys :=
  { srv := { dbs := [([107], ⟨.str [1], none⟩)] :: List.replicate 15 [],
             conns := [{ id := 1, watches := [(0, [107])] }] } }
def ePipe : Ev :=
  .send {} 1 (encodeRequest [[117, 110, 119, 97, 116, 99, 104]] ++ encodeRequest [[115, 101, 116], [107], [118]] ++
    encodeRequest [[119, 97, 116, 99, 104], [107]]) [1, 2, 3] []

/-- The literal state-based one-step formulation ("`(d,k)` is watched in `s` and in `stepEv s e`") is false for a
pipelined `send`: the batch clears the watch, changes the key and watches it again.  No deadline is involved.  Hence
`Quiet` is phrased over the requests the event processes. -/
theorem statewise_step_false :
    Base 1 0 [107] sPipe ∧ (0, [107]) ∈ ((stepEv sPipe ePipe).conn 1).watches ∧
    liveAt (stepEv sPipe ePipe) 0 [107] ≠ liveAt sPipe 0 [107] ∧
    ((stepEv sPipe ePipe).conn 1).watchNotified = false ∧ (stepEv sPipe ePipe).fault = none := by
  have h : (0, [107]) ∈ ((stepEv sPipe ePipe).conn 1).watches ∧
      (liveAt (stepEv sPipe ePipe) 0 [107]).map (fun it => match it.value with | .str b => b | _ => []) ≠
        (liveAt sPipe 0 [107]).map (fun it => match it.value with | .str b => b | _ => []) ∧
      ((stepEv sPipe ePipe).conn 1).watchNotified = false ∧ (stepEv sPipe ePipe).fault = none := by decide +kernel
  exact ⟨⟨by unfold Sys.DataInv NoEmpty; decide, by decide, by decide, by decide⟩, h.1,
    fun e => h.2.1 (congrArg _ e), h.2.2⟩

/-- connection 1 is on the list of closed sockets, has a dirty watch on `k`, and sends `WATCH k`: the clean-up at the
start of the command clears its watches, the command watches `k` afresh.  State-wise `k` is watched before and after,
the request is not EXEC / DISCARD / UNWATCH, yet the flag is lost.  Hence `Base` asks for `c ∉ closedSockets`
(`close c` is a clearing event). -/
def sClosed : Sys :=
  { srv := { closedSockets := [1], dbs := [([107], ⟨.str [1], none⟩)] :: List.replicate 15 [],
             conns := [{ id := 1, watches := [(0, [107])], watchNotified := true }] } }
def eWatch : Ev := .request {} 1 [[119, 97, 116, 99, 104], [107]] [1] []

theorem sticky_needs_not_closed :
    (0, [107]) ∈ (sClosed.conn 1).watches ∧ (sClosed.conn 1).watchNotified = true ∧
    (0, [107]) ∈ ((stepEv sClosed eWatch).conn 1).watches ∧
    ((stepEv sClosed eWatch).conn 1).watchNotified = false :=
  ⟨by decide, by decide, by decide +kernel, by decide +kernel⟩

/-! ### non-vacuity of the one-step theorems -/

/-- connection 1 watches `k` (no deadline); connection 2 runs `SET k v` -/
def sSet : Sys :=
  { srv := { dbs := [([107], ⟨.str [1], none⟩)] :: List.replicate 15 [],
             conns := [{ id := 1, watches := [(0, [107])] }, { id := 2 }] } }
def eSet : Ev := .request {} 2 [[115, 101, 116], [107], [118]] [7] []

example : Base 1 0 [107] sSet ∧ Quiet 1 sSet eSet ∧ NoCross (rawAt sSet 0 [107]) (Times sSet [eSet]) ∧
    liveAt (stepEv sSet eSet) 0 [107] ≠ liveAt sSet 0 [107] := by
  refine ⟨⟨by unfold Sys.DataInv NoEmpty; decide, by decide, by decide, by decide⟩, .inl (by decide), ?_, ?_⟩
  · intro it hit t t' _ _ he
    have : rawAt sSet 0 [107] = some ⟨.str [1], none⟩ := rfl
    rw [this] at hit
    cases hit
    cases he
  · intro e
    have := congrArg (fun o => o.map (fun it => match it.value with | .str b => b | _ => [])) e
    revert this
    decide +kernel

/-- the flag is indeed set (computed) -/
example : ((stepEv sSet eSet).conn 1).watchNotified = true := by decide +kernel

example : lookupSig [115, 101, 116] = SigTable.find "set" := by decide +kernel

/-! ## 2. the flag is sticky -/

/-- `watchNotified` of `c` stays set under every event that does not clear the watches of `c`. -/
theorem step_sticky (s : Sys) (e : Ev) (c d : Nat) (k : Bytes) (b : Base c d k s) (hq : Quiet c s e)
    (hn : (s.conn c).watchNotified = true) :
    Base c d k (stepEv s e) ∧ ((stepEv s e).conn c).watchNotified = true :=
  history_sticky s [e] b ⟨hq, trivial⟩ hn

/-- the flag stays set over a whole history of such events -/
theorem sticky (s : Sys) (evs : List Ev) (c d : Nat) (k : Bytes) (b : Base c d k s) (hq : QuietRun c s evs)
    (hn : (s.conn c).watchNotified = true) :
    Base c d k (evs.foldl stepEv s) ∧ ((evs.foldl stepEv s).conn c).watchNotified = true :=
  history_sticky s evs b hq hn

example : Base 1 0 [107] (stepEv sSet eSet) ∧ Quiet 1 (stepEv sSet eSet) (ePing 9) :=
  ⟨(history_keeps_watch sSet [eSet] ⟨by unfold Sys.DataInv NoEmpty; decide, by decide, by decide, by decide⟩
      ⟨.inl (by decide), trivial⟩), .inl (by decide)⟩

/-! ## 3. which events clear the watches of `c`, which add -/

/-- Only the clearing events clear: a history all of whose events are quiet for `c` keeps every watch of `c`
(and `c` off the list of closed sockets).  No hypothesis on the clock. -/
theorem quiet_keeps_watch (s : Sys) (evs : List Ev) (c d : Nat) (k : Bytes) (b : Base c d k s)
    (hq : QuietRun c s evs) : Base c d k (evs.foldl stepEv s) :=
  history_keeps_watch s evs b hq

/-- UNWATCH clears the watches and the flag -/
theorem unwatch_clears (inner : Inner) (mode : Mode) (c : Nat) (args : List Arg) (cis : List CI) (s : Sys) :
    ((special inner mode c "unwatch" args cis s).2.conn c).watches = [] ∧
    ((special inner mode c "unwatch" args cis s).2.conn c).watchNotified = false := by
  have e : (special inner mode c "unwatch" args cis s).2 = (M.clearWatches c s).2 := rfl
  rw [e, clearWatches_run]
  exact conn_cleared s c

/-- EXEC (inside MULTI, any branch) and DISCARD (inside MULTI) clear: `FR.C05.after_exec_normal_mode`,
`FR.C05.after_discard_normal_mode`.  Restated for DISCARD: -/
theorem discard_clears (s : Sys) (c : Nat) (cis : List CI) (h : (s.conn c).tx.isSome) :
    ((discardCmd c cis s).2.conn c).watches = [] ∧ ((discardCmd c cis s).2.conn c).watchNotified = false :=
  ⟨(FR.C05.after_discard_normal_mode s c cis h).2.1, (FR.C05.after_discard_normal_mode s c cis h).2.2⟩

/-- garbage collection of the connection object drops its watches -/
theorem gc_clears (s : Sys) (c : Nat) :
    ((stepEv s (.gc c)).conn c).watches = [] ∧ ((stepEv s (.gc c)).conn c).watchNotified = false := by
  rw [show (stepEv s (.gc c)).conn c = _ from Sys.conn_of_not_hasConn (gcConn_not_hasConn c s.beginEvent)]
  exact ⟨rfl, rfl⟩

/-- after `close c`, the clean-up at the start of the next executed command (of any connection) clears them -/
theorem close_then_cleanup_clears (s : Sys) (c : Nat) (hc : c ∈ s.srv.closedSockets) :
    ((cleanupClosed s).2.conn c).watches = [] ∧ ((cleanupClosed s).2.conn c).watchNotified = false :=
  cleanup_clears s c hc

/-- WATCH (outside MULTI) adds `(d', key)` for each of its keys, `d'` the selected database -/
theorem watch_adds (c d' : Nat) (args : List Arg) (cis : List CI) (s : Sys) (hh : s.HasConn c)
    (htx : (s.conn c).tx = none) (i : Nat) (hi : i ∈ Cmd.keyIdxs args) :
    (d', (ciAt cis i).key) ∈ ((watchCmd c d' args cis s).2.conn c).watches := by
  have e : (watchCmd c d' args cis s).2 = s.updConn c fun x =>
      { x with watches := addWatches d' ((Cmd.keyIdxs args).map fun i => (ciAt cis i).key) x.watches } := by
    unfold watchCmd
    simp only [bind, StateT.bind, getConn_run, htx]
    rfl
  rw [e, Sys.conn_updConn_same (fun x =>
      { x with watches := addWatches d' ((Cmd.keyIdxs args).map fun i => (ciAt cis i).key) x.watches }) hh (fun _ => rfl)]
  exact mem_addWatches _ _ _ _ (List.mem_map.2 ⟨i, hi, rfl⟩)

example : (0, [107]) ∈ ((stepEv sClosed eWatch).conn 1).watches := by decide +kernel

/-! ## 4. history form -/

/-- Soundness over a history.  From a state in which `c` watches `(d,k)`, through any events none of which clears the
watches of `c`, no clock reading crossing the deadline of the entry stored under `k` at the start: if at the end the
live entry of `k` differs from the one at the start, `c.watchNotified` is set. -/
theorem history_sound (s : Sys) (evs : List Ev) (c d : Nat) (k : Bytes) (b : Base c d k s)
    (hq : QuietRun c s evs) (nc : NoCross (rawAt s d k) (Times s evs)) :
    Base c d k (evs.foldl stepEv s) ∧
    (liveAt (evs.foldl stepEv s) d k ≠ liveAt s d k → ((evs.foldl stepEv s).conn c).watchNotified = true) :=
  FR.WatchSys.history_sound s evs b hq nc

/-- "Even if it was later changed back".  If after the prefix `pre` the live entry of `k` differs from the one in `s`
(the readings of `pre` not crossing the deadline of the entry stored in `s`), then after `pre ++ post` the flag of `c`
is set — whatever `post` does to the key or to the clock, as long as it does not clear the watches of `c`. -/
theorem history_changed (s : Sys) (pre post : List Ev) (c d : Nat) (k : Bytes) (b : Base c d k s)
    (hq : QuietRun c s (pre ++ post)) (nc : NoCross (rawAt s d k) (Times s pre))
    (hch : liveAt (pre.foldl stepEv s) d k ≠ liveAt s d k) :
    Base c d k ((pre ++ post).foldl stepEv s) ∧ (((pre ++ post).foldl stepEv s).conn c).watchNotified = true :=
  FR.WatchSys.history_changed s pre post b hq nc hch

/-- EXEC then answers nil and applies nothing: in the state reached by `history_changed`, an EXEC of `c` (MULTI open, no queueing error)
replies nil, leaves every database as it is, and puts `c` back in normal mode (watches consumed). -/
theorem exec_nil_after_change (s : Sys) (pre post : List Ev) (c d : Nat) (k : Bytes) (b : Base c d k s)
    (hq : QuietRun c s (pre ++ post)) (nc : NoCross (rawAt s d k) (Times s pre))
    (hch : liveAt (pre.foldl stepEv s) d k ≠ liveAt s d k)
    (inner : Inner) (cis : List CI) (q : List (String × List Bytes))
    (htx : (((pre ++ post).foldl stepEv s).conn c).tx = some q)
    (hf : (((pre ++ post).foldl stepEv s).conn c).txFailed = false) :
    (execCmd inner c cis ((pre ++ post).foldl stepEv s)).1 = .ok (some .nil, cis) ∧
    ((execCmd inner c cis ((pre ++ post).foldl stepEv s)).2.conn c).normal ∧
    (execCmd inner c cis ((pre ++ post).foldl stepEv s)).2.srv.dbs = ((pre ++ post).foldl stepEv s).srv.dbs :=
  FR.C05.exec_watch_dirty_nil _ inner c cis q htx hf (FR.WatchSys.history_changed s pre post b hq nc hch).2

/-- the same from the initial state: `evs0` is any history after which `c` watches `(d,k)` and is not closed -/
theorem history_changed_reachable (evs0 pre post : List Ev) (c d : Nat) (k : Bytes)
    (hopen : c ∉ (runHistory evs0).srv.closedSockets) (hw : (d, k) ∈ ((runHistory evs0).conn c).watches)
    (hq : QuietRun c (runHistory evs0) (pre ++ post))
    (nc : NoCross (rawAt (runHistory evs0) d k) (Times (runHistory evs0) pre))
    (hch : liveAt (pre.foldl stepEv (runHistory evs0)) d k ≠ liveAt (runHistory evs0) d k) :
    ((runHistory (evs0 ++ (pre ++ post))).conn c).watchNotified = true := by
  have b : Base c d k (runHistory evs0) := ⟨(reachable_base evs0).1, (reachable_base evs0).2, hopen, hw⟩
  have := (FR.WatchSys.history_changed (runHistory evs0) pre post b hq nc hch).2
  unfold runHistory at this ⊢
  rw [List.foldl_append]
  exact this

/-- non-vacuity: 2 sets `k`, then sets it back; 1 is notified at the end although the entry is the old one again -/
def eSetBack : Ev := .request {} 2 [[115, 101, 116], [107], [1]] [8] []

/-- what the examples compare of an entry: its string value and its deadline -/
def view (o : Option Item) : Option (Bytes × Option Int) :=
  o.map fun it => (match it.value with | .str b => b | _ => [], it.expireat)

example : QuietRun 1 sSet ([eSet] ++ [eSetBack]) ∧
    view (liveAt ([eSet].foldl stepEv sSet) 0 [107]) ≠ view (liveAt sSet 0 [107]) ∧
    view (liveAt (([eSet] ++ [eSetBack]).foldl stepEv sSet) 0 [107]) = view (liveAt sSet 0 [107]) ∧
    ((([eSet] ++ [eSetBack]).foldl stepEv sSet).conn 1).watchNotified = true :=
  have h : view (liveAt ([eSet].foldl stepEv sSet) 0 [107]) ≠ view (liveAt sSet 0 [107]) ∧
      view (liveAt (([eSet] ++ [eSetBack]).foldl stepEv sSet) 0 [107]) = view (liveAt sSet 0 [107]) ∧
      ((([eSet] ++ [eSetBack]).foldl stepEv sSet).conn 1).watchNotified = true := by decide +kernel
  ⟨⟨.inl (by decide), .inl (by decide), trivial⟩, h.1, h.2.1, h.2.2⟩

/-! ## 5. completeness ("EXEC proceeds") for the regular commands -/

/-- A regular command (any of the 105 bodies of `Cmd.regular`) run by connection `c'` leaves every watch list alone and
sets the flag of `c` exactly when one of the keys it notifies is watched by `c` in the database selected by `c'`.
(The notified keys are the keys of the `CommandItem`s the body stored: `(s.regularOut …).notified`.) -/
theorem regular_flag_exact (sp : SpecialFn) (mode : Mode) (c' : Nat) (sig : Sig) (raw : List Bytes) (fs : Bool)
    (body : Body) (hreg : Cmd.regular sig.name = some body) (s : Sys) (c : Nat) :
    ((runWith sp mode c' sig raw fs s).2.conn c).watches = (s.conn c).watches ∧
    ((runWith sp mode c' sig raw fs s).2.conn c).watchNotified =
      ((s.conn c).watchNotified ||
        (s.regularOut c' sig body raw fs).notified.any fun key => (s.conn c).watches.contains ((s.conn c').db, key)) :=
  runWith_regular_flag sp mode c' sig raw fs hreg s c

/-- Event form: a request of `c'` running a regular command that notifies no key watched by `c` in the database
selected by `c'` leaves `c.watches` and `c.watchNotified` unchanged (so a clean `c` stays clean and its EXEC proceeds).
`H` is stated for every state in which `c'` has the same database selected, because the command runs after the
clean-up and the clock refresh of `_process_command`. -/
theorem request_regular_flag (s : Sys) (mode : Mode) (c c' : Nat) (nameB : Bytes) (args : List Bytes)
    (clocks : List Int) (picks : List (List Bytes)) (sig : Sig) (body : Body)
    (hl : lookupSig nameB = some sig) (hreg : Cmd.regular sig.name = some body)
    (hopen : c ∉ s.srv.closedSockets)
    (H : ∀ u : Sys, (u.conn c').db = (s.conn c').db →
      ∀ key ∈ (u.regularOut c' sig body args false).notified, ((s.conn c').db, key) ∉ (s.conn c).watches) :
    ((stepEv s (.request mode c' (nameB :: args) clocks picks)).conn c).watches = (s.conn c).watches ∧
    ((stepEv s (.request mode c' (nameB :: args) clocks picks)).conn c).watchNotified = (s.conn c).watchNotified := by
  have h0 : FlagInv c c' (s.conn c).watches (s.conn c).watchNotified (s.conn c').db
      (s.beginEvent.withHints clocks picks) := ⟨hopen, rfl, rfl, rfl⟩
  -- the prologue and epilogue of `_process_command` do not touch the watch state; the runner notifies what `H` allows
  have := FR.NotifyKeys.processCommand_flag_of_run (c := c) mode nameB args (fun sig' hl' => by
    obtain rfl : sig = sig' := Option.some.inj (hl.symm.trans hl')
    refine ⟨fun he => ?_, FR.NotifyKeys.runCommand_regular_flag mode sig body hreg args H⟩
    rw [he] at hreg
    cases hreg) _ h0
  exact ⟨this.watches, this.flag⟩

/-- non-vacuity: 2 sets another key `j`; the flag of 1 (watching `k`) stays clear -/
def eSetOther : Ev := .request {} 2 [[115, 101, 116], [106], [118]] [7] []

example : ((stepEv sSet eSetOther).conn 1).watchNotified = false ∧
    ((stepEv sSet eSetOther).conn 1).watches = [(0, [107])] := by decide +kernel

end FR.Props.C06s

import FR.Proofs.System
/-!
# C13 — isolation: databases, connections, servers

`s.conn c` abbreviates `(M.getConn c s).1`; `s.HasConn c` says a connection with id `c` is registered.
-/
namespace FR.C13
open FR FR.M

/-! ## 10. a regular command touches the selected database only -/

/-- frame: the other databases are untouched (whatever the `special` dispatcher is) -/
theorem regular_frame_other_dbs (special) (mode : Mode) (c : Nat) (sig : Sig) (raw : List Bytes)
    (fromScript : Bool) (body : Body) (hreg : Cmd.regular sig.name = some body) (s : Sys) :
    ∀ j, j ≠ (s.conn c).db →
      (runWith special mode c sig raw fromScript s).2.srv.dbs.getD j [] = s.srv.dbs.getD j [] := by
  intro j hj
  cases hr : s.refuses c sig with
  | true => rw [runWith_refused special mode c sig raw fromScript hr]
  | false =>
    rw [runWith_regular_run special mode c sig raw fromScript hreg s hr, Sys.afterRegular_dbs]
    exact getD_set_ne _ _ _ _ _ hj

/-- the number of databases does not change -/
theorem regular_dbs_length (special) (mode : Mode) (c : Nat) (sig : Sig) (raw : List Bytes)
    (fromScript : Bool) (body : Body) (hreg : Cmd.regular sig.name = some body) (s : Sys) :
    (runWith special mode c sig raw fromScript s).2.srv.dbs.length = s.srv.dbs.length := by
  cases hr : s.refuses c sig with
  | true => rw [runWith_refused special mode c sig raw fromScript hr]
  | false => rw [runWith_regular_run special mode c sig raw fromScript hreg s hr, Sys.afterRegular_dbs, List.length_set]

/-- independence: replacing the other databases changes neither the reply nor the new selected database -/
theorem regular_independent_of_other_dbs (special) (mode : Mode) (c : Nat) (sig : Sig) (raw : List Bytes)
    (fromScript : Bool) (body : Body) (hreg : Cmd.regular sig.name = some body) (s : Sys) (dbs2 : List Dict)
    (hd : (s.conn c).db < s.srv.dbs.length) (hd2 : (s.conn c).db < dbs2.length)
    (hsame : dbs2.getD (s.conn c).db [] = s.srv.dbs.getD (s.conn c).db []) :
    let s2 : Sys := { s with srv := { s.srv with dbs := dbs2 } }
    (runWith special mode c sig raw fromScript s2).1 = (runWith special mode c sig raw fromScript s).1 ∧
    (runWith special mode c sig raw fromScript s2).2.srv.dbs.getD (s.conn c).db []
      = (runWith special mode c sig raw fromScript s).2.srv.dbs.getD (s.conn c).db [] ∧
    (∀ j, j ≠ (s.conn c).db →
      (runWith special mode c sig raw fromScript s2).2.srv.dbs.getD j [] = dbs2.getD j []) := by
  intro s2
  have hconn : s2.conn c = s.conn c := rfl
  have ho : s2.regularOut c sig body raw fromScript = s.regularOut c sig body raw fromScript := by
    unfold Sys.regularOut
    rw [hconn]
    show runRegular _ _ _ _ _ ⟨dbs2.getD (s.conn c).db [], s.srv.time⟩ = _
    rw [hsame]
  have hr2 : s2.refuses c sig = s.refuses c sig := rfl
  cases hr : s.refuses c sig with
  | true =>
    -- refused in subscriber mode: the same error reply, no database is touched
    rw [runWith_refused special mode c sig raw fromScript (hr2.trans hr),
      runWith_refused special mode c sig raw fromScript hr]
    exact ⟨rfl, hsame, fun _ _ => rfl⟩
  | false =>
    rw [runWith_regular_run special mode c sig raw fromScript hreg s2 (hr2.trans hr),
      runWith_regular_run special mode c sig raw fromScript hreg s hr, ho, hconn]
    refine ⟨rfl, ?_, ?_⟩
    · rw [Sys.afterRegular_dbs, Sys.afterRegular_dbs, getD_set_self _ _ _ _ hd]
      exact getD_set_self _ _ _ _ hd2
    · intro j hj
      rw [Sys.afterRegular_dbs]
      exact getD_set_ne _ _ _ _ _ hj

example : ∃ (sig : Sig) (body : Body) (s : Sys), SigTable.find "get" = some sig ∧
    Cmd.regular sig.name = some body ∧ (s.conn 7).db < s.srv.dbs.length ∧ s.srv.dbs.length = 16 :=
  ⟨_, _, { srv := { conns := [{ id := 7, db := 3 }] } }, rfl, rfl, by decide, rfl⟩

/-! ## 11. SELECT -/

theorem select_persists (s : Sys) (c : Nat) (i : Int) (cis : List CI) (hc : s.HasConn c) :
    (selectCmd c [.int i] cis s).1 = .ok (some .ok, cis) ∧
    ((selectCmd c [.int i] cis s).2.conn c).db = i.toNat ∧
    (∀ c', c' ≠ c → (selectCmd c [.int i] cis s).2.conn c' = s.conn c') ∧
    (selectCmd c [.int i] cis s).2.srv.dbs = s.srv.dbs ∧
    (selectCmd c [.int i] cis s).2 =
      { s with srv := { s.srv with conns := (selectCmd c [.int i] cis s).2.srv.conns } } := by
  rw [selectCmd_run]
  refine ⟨rfl, ?_, ?_, rfl, rfl⟩
  · rw [Sys.conn_updConn_same (fun x => { x with db := i.toNat }) hc (fun _ => rfl)]
  · intro c' hne
    exact Sys.conn_updConn_ne (fun x => { x with db := i.toNat }) hne (fun _ => rfl)

/-- nothing but the `db` field of the record changes -/
theorem select_only_db (s : Sys) (c : Nat) (i : Int) (cis : List CI) (hc : s.HasConn c) :
    (selectCmd c [.int i] cis s).2.conn c = { s.conn c with db := i.toNat } := by
  rw [selectCmd_run, Sys.conn_updConn_same (fun x => { x with db := i.toNat }) hc (fun _ => rfl)]

example : ∃ s : Sys, s.HasConn 7 ∧ ((selectCmd 7 [.int 5] [] s).2.conn 7).db = 5 :=
  ⟨{ srv := { conns := [{ id := 7 }] } }, ⟨_, List.mem_singleton.2 rfl, rfl⟩, rfl⟩

/-! ## 12. a new connection starts in database 0, outside MULTI, without subscriptions -/

theorem openConn_fresh (s : Sys) (c : Nat) (h : ¬ s.HasConn c) :
    (openConn c s).2.HasConn c ∧
    ((openConn c s).2.conn c).db = 0 ∧ ((openConn c s).2.conn c).tx = none ∧
    ((openConn c s).2.conn c).pubsub = 0 ∧ ((openConn c s).2.conn c).watches = [] ∧
    (∀ c', c' ≠ c → (openConn c s).2.conn c' = s.conn c') ∧
    (openConn c s).2.srv.dbs = s.srv.dbs := by
  obtain ⟨h1, h2⟩ := openConn_conn_new c s h
  refine ⟨h1, ?_, ?_, ?_, ?_, fun c' _ => openConn_conn c s c', rfl⟩ <;> rw [h2]

example : ¬ ({} : Sys).HasConn 7 := by rintro ⟨x, hx, _⟩; cases hx

end FR.C13

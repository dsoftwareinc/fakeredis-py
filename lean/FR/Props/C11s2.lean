import FR.Proofs.C11s2
import FR.Props.C11r
import FR.Proofs.ReplyEq
/-!
# C11s2 — the exact reply count of BRPOPLPUSH run at once

The BRPOPLPUSH analogue of `FR.Props.C11r.reply_count_blocking`.  Differences from BLPOP / BRPOP: the time-out is
converted by the signature (`sigBrpoplpush` has a `.timeout` converter), so an invalid time-out is refused by
`Signature.apply`, before the body and without touching the state; the two keys are the source and the destination;
the pass is `brpoplpushPass d src dst true` (WRONGTYPE when the source or the destination holds another type).

`Outcome` / `expected` are those of C11r (`expected mode tb pass`: time-out error, pass error, served, parks / nil).
-/
namespace FR.Props.C11s2
open FR FR.M FR.C04k FR.C11c FR.C11r FR.C11s2 FR.ErrSys FR.Props.C11r

/-- `_run_command` level: the exact result of BRPOPLPUSH outside a transaction, not in subscriber mode.  The request
`[src, dst, tb]` is the only shape `check_arity` accepts (three fixed arguments, no repetition). -/
theorem runCommand_brpoplpush_exact (mode : Mode) (c : Nat) (src dst tb : Bytes) (s : Sys)
    (hps : (s.conn c).pubsub = 0) (hin : (s.conn c).inTx = false) (hc : s.HasConn c) :
    match expected mode tb (brpoplpushPass (s.conn c).db src dst true s).1 with
    | .reply r => (runCommand mode c sigBrpoplpush [src, dst, tb] false s).1 = some r
    | .parks =>
      (runCommand mode c sigBrpoplpush [src, dst, tb] false s).1 = none ∧
      (∃ p, ((runCommand mode c sigBrpoplpush [src, dst, tb] false s).2.conn c).parked = some p ∧
        p.kind = "brpoplpush" ∧ p.keys = [src, dst] ∧ p.db = (s.conn c).db) ∧
      (mode.async = true → ((runCommand mode c sigBrpoplpush [src, dst, tb] false s).2.conn c).paused = true) := by
  rw [runCommand_brpl mode c src dst tb s hps]
  cases hT : Conv.timeout tb with
  | error e => unfold expected; rw [hT]
  | ok t => exact blockBody_outcome mode c "brpoplpush" _ s hin hc rfl hT

/-- an invalid time-out is refused by `Signature.apply`: the error reply, and the state is untouched (no key of the
request is looked at, nothing is parked) -/
theorem runCommand_brpoplpush_bad_timeout (mode : Mode) (c : Nat) (src dst tb : Bytes) (s : Sys)
    (hps : (s.conn c).pubsub = 0) (e : Err) (ht : Conv.timeout tb = .error e) :
    runCommand mode c sigBrpoplpush [src, dst, tb] false s = (some (.err (strBytes e)), s) := by
  rw [runCommand_brpl mode c src dst tb s hps, ht]

/-- **C11s2 — `reply_count_brpoplpush`.**  As `FR.Props.C11r.reply_count_blocking`, for BRPOPLPUSH `src dst tb`
(with `P = s.prologue`):

* `expected … = .parks` (valid time-out, the source holds no live list, `mode.park` or `mode.async`): **no reply**, the
  connection is **parked** on `[src, dst]` and its database with kind "brpoplpush", and on the asyncio front-end
  **paused**;
* `expected … = .reply r`: **exactly one reply, `r`** — the time-out error, WRONGTYPE (source or destination), the
  moved element, or nil when the mode does not park. -/
theorem reply_count_brpoplpush (mode : Mode) (c : Nat) (nameB src dst tb : Bytes) (s : Sys)
    (hwf : TxWf s) (hcl : (s.conn c).closed = false) (hl : lookupSig nameB = some sigBrpoplpush)
    (hq : ((s.conn c).tx.isSome && !SigTable.notQueued.contains sigBrpoplpush.name) = false)
    (hc : s.HasConn c) (hps : (s.conn c).pubsub = 0) (hin : (s.conn c).inTx = false) :
    let s' := (processCommand mode c [nameB, src, dst, tb] s).2
    ∃ D, (∀ p ∈ D, IsMsg p.2) ∧
      match expected mode tb (brpoplpushPass (s.conn c).db src dst true s.prologue).1 with
      | .reply r => s'.out = (c, r) :: D ++ s.out
      | .parks =>
        s'.out = D ++ s.out ∧
        (∃ p, (s'.conn c).parked = some p ∧ p.kind = "brpoplpush" ∧ p.keys = [src, dst] ∧ p.db = (s.conn c).db) ∧
        (mode.async = true → (s'.conn c).paused = true) := by
  dsimp only
  have hex := runCommand_brpoplpush_exact mode c src dst tb s.prologue
    ((s.prologue_conn c Conn.pubsub (fun _ => rfl)).trans hps) ((s.prologue_conn c Conn.inTx (fun _ => rfl)).trans hin)
    ((s.prologue_hasConn c).2 hc)
  rw [s.prologue_conn c Conn.db (fun _ => rfl)] at hex
  exact reply_count_of_outcome mode c nameB [src, dst, tb] s hwf hcl hl rfl hq (by decide) _
    (fun p => p.kind = "brpoplpush" ∧ p.keys = [src, dst] ∧ p.db = (s.conn c).db) hex

/-! ## non-vacuity: every outcome occurs (`sData`: connection 1 open, `k` (107) = list `[a]`, `s` (115) = a string) -/

example : lookupSig (strBytes "BRPOPLPUSH") = some sigBrpoplpush := by decide +kernel

example :
    -- served: the moved element
    ((processCommand { park := true } 1 [strBytes "BRPOPLPUSH", [107], [100], [48]] sData).2.out.map
      (fun p => (p.1, p.2.render))) = [(1, (Reply.bulk [97]).render)] ∧
    -- destination of another type: WRONGTYPE
    ((processCommand { park := true } 1 [strBytes "BRPOPLPUSH", [107], [115], [48]] sData).2.out.map
      (fun p => (p.1, p.2.render))) = [(1, (Reply.err (strBytes Msgs.WRONGTYPE_MSG)).render)] ∧
    -- source of another type: WRONGTYPE
    ((processCommand { park := true } 1 [strBytes "BRPOPLPUSH", [115], [100], [48]] sData).2.out.map
      (fun p => (p.1, p.2.render))) = [(1, (Reply.err (strBytes Msgs.WRONGTYPE_MSG)).render)] ∧
    -- invalid time-out
    ((processCommand { park := true } 1 [strBytes "BRPOPLPUSH", [120], [100], [45, 49]] sData).2.out.map
      (fun p => (p.1, p.2.render))) = [(1, (Reply.err (strBytes Msgs.TIMEOUT_NEGATIVE_MSG)).render)] ∧
    -- a mode that does not park: nil at once
    ((processCommand {} 1 [strBytes "BRPOPLPUSH", [120], [100], [48]] sData).2.out.map
      (fun p => (p.1, p.2.render))) = [(1, Reply.nil.render)] ∧
    -- scheduler harness: no reply, parked on both keys
    (processCommand { park := true } 1 [strBytes "BRPOPLPUSH", [120], [100], [48]] sData).2.out = [] ∧
    (((processCommand { park := true } 1 [strBytes "BRPOPLPUSH", [120], [100], [48]] sData).2.conn 1).parked.map
      (fun p => (p.kind, p.keys))) = some ("brpoplpush", [[120], [100]]) ∧
    -- asyncio front-end: no reply, parked and paused
    (processCommand { async := true } 1 [strBytes "BRPOPLPUSH", [120], [100], [48]] sData).2.out = [] ∧
    ((processCommand { async := true } 1 [strBytes "BRPOPLPUSH", [120], [100], [48]] sData).2.conn 1).paused = true ∧
    ((processCommand { async := true } 1 [strBytes "BRPOPLPUSH", [120], [100], [48]] sData).2.conn 1).parked.isSome = true := by
  have h : (processCommand { park := true } 1 [strBytes "BRPOPLPUSH", [107], [100], [48]] sData).2.out =
        [(1, Reply.bulk [97])] ∧
      (processCommand { park := true } 1 [strBytes "BRPOPLPUSH", [107], [115], [48]] sData).2.out =
        [(1, Reply.err (strBytes Msgs.WRONGTYPE_MSG))] ∧
      (processCommand { park := true } 1 [strBytes "BRPOPLPUSH", [115], [100], [48]] sData).2.out =
        [(1, Reply.err (strBytes Msgs.WRONGTYPE_MSG))] ∧
      (processCommand { park := true } 1 [strBytes "BRPOPLPUSH", [120], [100], [45, 49]] sData).2.out =
        [(1, Reply.err (strBytes Msgs.TIMEOUT_NEGATIVE_MSG))] ∧
      (processCommand {} 1 [strBytes "BRPOPLPUSH", [120], [100], [48]] sData).2.out = [(1, Reply.nil)] ∧
      (processCommand { park := true } 1 [strBytes "BRPOPLPUSH", [120], [100], [48]] sData).2.out = [] ∧
      (((processCommand { park := true } 1 [strBytes "BRPOPLPUSH", [120], [100], [48]] sData).2.conn 1).parked.map
        (fun p => (p.kind, p.keys))) = some ("brpoplpush", [[120], [100]]) ∧
      (processCommand { async := true } 1 [strBytes "BRPOPLPUSH", [120], [100], [48]] sData).2.out = [] ∧
      ((processCommand { async := true } 1 [strBytes "BRPOPLPUSH", [120], [100], [48]] sData).2.conn 1).paused = true ∧
      ((processCommand { async := true } 1 [strBytes "BRPOPLPUSH", [120], [100], [48]] sData).2.conn 1).parked.isSome = true := by
    decide +kernel
  exact ⟨congrArg (List.map fun p => (p.1, p.2.render)) h.1, congrArg (List.map fun p => (p.1, p.2.render)) h.2.1,
    congrArg (List.map fun p => (p.1, p.2.render)) h.2.2.1, congrArg (List.map fun p => (p.1, p.2.render)) h.2.2.2.1,
    congrArg (List.map fun p => (p.1, p.2.render)) h.2.2.2.2.1, h.2.2.2.2.2⟩

/-- the theorem applies on `sData` and its `.parks` branch is the one taken (scheduler harness, no list under `x`) -/
example : (expected { park := true } [48]
    (brpoplpushPass (sData.conn 1).db [120] [100] true sData.prologue).1).isParks = true := by decide +kernel

example :=
  have h : (sData.conn 1).closed = false ∧ lookupSig (strBytes "BRPOPLPUSH") = some sigBrpoplpush ∧
      ((sData.conn 1).tx.isSome && !SigTable.notQueued.contains sigBrpoplpush.name) = false ∧ sData.HasConn 1 ∧
      (sData.conn 1).pubsub = 0 ∧ (sData.conn 1).inTx = false := by decide +kernel
  reply_count_brpoplpush { park := true } 1 (strBytes "BRPOPLPUSH") [120] [100] [48] sData sData_wf
    h.1 h.2.1 h.2.2.1 h.2.2.2.1 h.2.2.2.2.1 h.2.2.2.2.2

end FR.Props.C11s2

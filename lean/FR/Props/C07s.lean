import FR.Proofs.Twin
/-!
# C07 (system level) — once the clock is past a key's deadline, every command and every event treats the key
exactly as if it had been deleted

`FR/Props/C07.lean` proves this for the generic runner on one database.  Here it is proved for the whole system:
every event of a history (`Ev`, `stepEv` of `FR/Proofs/Invariant.lean`: requests, raw `sendall` with the parser loop,
MULTI/EXEC, scripts, SCAN/KEYS/DBSIZE/RANDOMKEY/MOVE/SWAPDB/FLUSH*/SORT/ZUNIONSTORE, blocking pops with their
wake-ups and time-outs on both front-ends, open/close/gc of connections, outages) maps *twins* to twins.

* `PurgeEq s₁ s₂` : the two states are identical except for the database dictionaries, and corresponding
  dictionaries are equal after purging the entries that are expired at the common server time.
* `Twin s₁ s₂`    : `PurgeEq` plus unique keys in every dictionary of both states (implied by `Sys.DataInv`).
* `EvClockOk t e`  : the clock hypothesis — the readings brought by an event that may run `_process_command` are
  non-decreasing and not before the server time `t`.  It is needed: `clock_backwards_resurrects`.

No command had to be excluded: no special command inspects an expired entry without going through a purging accessor.
-/
namespace FR.Props.C07s
open FR FR.Twin

/-! ## One event -/

/-- **Twin simulation.**  Twins stay twins under every event whose clock readings do not run backwards.
In particular `out`, `fault`, `crashed`, all connection records, pub/sub tables, the script cache and the
remaining hints are equal afterwards (`Twin.out_eq`, …), and the dictionaries are again purge-equal. -/
theorem twin_step {s₁ s₂ : Sys} (h : Twin s₁ s₂) (e : Ev) (hc : EvClockOk s₁.srv.time e) :
    Twin (stepEv s₁ e) (stepEv s₂ e) :=
  stepEv_twin h e hc

/-- the same in the vocabulary of the task: `PurgeEq` is preserved, given `Sys.DataInv` of both states
(which is itself preserved, `FR.dataInv_whole.stepEv`) -/
theorem purgeEq_step {s₁ s₂ : Sys} (h : PurgeEq s₁ s₂) (i₁ : s₁.DataInv) (i₂ : s₂.DataInv) (e : Ev)
    (hc : EvClockOk s₁.srv.time e) :
    PurgeEq (stepEv s₁ e) (stepEv s₂ e) ∧ (stepEv s₁ e).DataInv ∧ (stepEv s₂ e).DataInv :=
  ⟨(stepEv_twin ⟨h, KeysInv.of_dataInv i₁, KeysInv.of_dataInv i₂⟩ e hc).1,
    FR.dataInv_whole.stepEv s₁ e i₁, FR.dataInv_whole.stepEv s₂ e i₂⟩

/-- what the two runs show after the event is literally the same -/
theorem step_observables {s₁ s₂ : Sys} (h : Twin s₁ s₂) (e : Ev) (hc : EvClockOk s₁.srv.time e) :
    (stepEv s₂ e).out = (stepEv s₁ e).out ∧ (stepEv s₂ e).fault = (stepEv s₁ e).fault ∧
    (stepEv s₂ e).crashed = (stepEv s₁ e).crashed ∧ (stepEv s₂ e).srv.conns = (stepEv s₁ e).srv.conns ∧
    (stepEv s₂ e).srv.time = (stepEv s₁ e).srv.time :=
  have h' := stepEv_twin h e hc
  ⟨h'.out_eq, h'.fault_eq, h'.crashed_eq, h'.conns_eq, h'.time_eq⟩

/-- `_run_command` of any command (regular, special, EXEC, script) maps twins to twins at a fixed server time, whatever
the pending hints are -/
theorem runCommand_twin (fut : Option (List Int)) (t : Int) (mode : Mode) (c : Nat) (sig : Sig) (raw : List Bytes)
    (fromScript : Bool) :
    Sim (Tw fut t) Eq (runCommand mode c sig raw fromScript) (runCommand mode c sig raw fromScript) :=
  sim_runCommand mode c sig raw fromScript

/-- `_process_command` of any request maps twins to twins; this is where the server time moves -/
theorem processCommand_twin (fl : List Int) (mode : Mode) (c : Nat) (fields : List Bytes) :
    Sim (TwE (some fl)) Eq (processCommand mode c fields) (processCommand mode c fields) :=
  sim_processCommand mode c fields

/-! ## Histories -/

/-- **History form.**  Along any history whose events meet the clock hypothesis, twins stay twins and the two runs
emit the same replies and raise the same fault / crash flags after every single event. -/
theorem twin_history (evs : List Ev) {s₁ s₂ : Sys} (h : Twin s₁ s₂) (hc : HistClockOk s₁ evs) :
    Twin (evs.foldl stepEv s₁) (evs.foldl stepEv s₂) ∧ observe s₁ evs = observe s₂ evs :=
  history_twin evs h hc

/-- the state-free form of the clock hypothesis: all readings of the history, in order, are non-decreasing and not
before the current server time -/
theorem twin_history_sorted (evs : List Ev) {s₁ s₂ : Sys} (h : Twin s₁ s₂)
    (hc : (s₁.srv.time :: evs.flatMap Ev.clocks).Pairwise (· ≤ ·)) :
    Twin (evs.foldl stepEv s₁) (evs.foldl stepEv s₂) ∧ observe s₁ evs = observe s₂ evs :=
  history_twin evs h (histClockOk_of_sorted evs h.keys₁ hc)

/-! ## The property in its own words -/

/-- A state in which key `k` of database `d` is past its deadline and the same state with `k` deleted from `d`
are twins. -/
theorem expired_twin_deleted {s : Sys} (inv : s.DataInv) (d : Nat) (k : Bytes) (it : Item)
    (hl : (s.srv.dbs.getD d []).lookup k = some it) (he : (s.dbAt d).expired it = true) :
    Twin s (delKey s d k) :=
  FR.Twin.expired_twin_deleted (KeysInv.of_dataInv inv) d k it hl he

/-- No future history with a clock that does not run backwards can tell a state with an expired key from the state
with that key deleted: in any database, for every command, inside and outside MULTI/EXEC, from scripts, through blocked
connections. -/
theorem expired_eq_deleted_forever {s : Sys} (inv : s.DataInv) (d : Nat) (k : Bytes) (it : Item)
    (hl : (s.srv.dbs.getD d []).lookup k = some it) (he : (s.dbAt d).expired it = true)
    (evs : List Ev) (hc : (s.srv.time :: evs.flatMap Ev.clocks).Pairwise (· ≤ ·)) :
    observe s evs = observe (delKey s d k) evs ∧ Twin (evs.foldl stepEv s) (evs.foldl stepEv (delKey s d k)) :=
  have h := twin_history_sorted evs (expired_twin_deleted inv d k it hl he) hc
  ⟨h.2, h.1⟩

/-! ## The clock hypothesis is necessary -/

/-- key `a` of database 0 expired at 5, the server time is 10, the entry has not been purged yet -/
def wA : Sys := { srv := { time := 10, dbs := [[([97], ⟨.str [118], some 5⟩)]], conns := [{ id := 1 }] } }
/-- the same state with the key deleted -/
def wB : Sys := { srv := { time := 10, dbs := [[]], conns := [{ id := 1 }] } }
/-- `GET a` on connection 1; the lock-time clock reading is `clock` -/
def getA (clock : Int) : Ev := .request {} 1 [[71, 69, 84], [97]] [clock] []

def isNil : Reply → Bool | .nil => true | _ => false
def bulkOf : Reply → Option Bytes | .bulk b => some b | _ => none

theorem wA_dataInv : wA.DataInv := by
  intro d hd
  have : d = [([97], ⟨.str [118], some 5⟩)] := by simpa [wA] using hd
  subst this
  exact ⟨by decide, fun p hp => by
    have : p = ([97], ⟨.str [118], some 5⟩) := by simpa using hp
    subst this; rfl⟩

theorem wA_wB_twin : Twin wA wB := by
  have := expired_twin_deleted wA_dataInv 0 [97] ⟨.str [118], some 5⟩ rfl (by decide)
  exact this

/-- **Witness.**  A clock that runs backwards resurrects an expired but not yet purged key: with the reading 3 < 10
the state holding the stale entry answers `GET a` with the old value, its twin answers nil; the two states are
not twins any more.  (Replay: `SET a v PX …`, let it expire without touching it, then make `time.time()` return an
earlier instant and `GET a`.) -/
theorem clock_backwards_resurrects :
    Twin wA wB ∧ ¬ EvClockOk wA.srv.time (getA 3) ∧
    (stepEv wA (getA 3)).out.map (fun p => bulkOf p.2) = [some [118]] ∧
    (stepEv wB (getA 3)).out.map (fun p => isNil p.2) = [true] ∧
    (stepEv wB (getA 3)).out ≠ (stepEv wA (getA 3)).out ∧
    ¬ Twin (stepEv wA (getA 3)) (stepEv wB (getA 3)) := by
  have h : (stepEv wA (getA 3)).out.map (fun p => bulkOf p.2) = [some [118]] ∧
      (stepEv wB (getA 3)).out.map (fun p => isNil p.2) = [true] ∧
      (stepEv wA (getA 3)).out.map (fun p => isNil p.2) = [false] := by decide +kernel
  obtain ⟨h1, h2, h3⟩ := h
  have hne : (stepEv wB (getA 3)).out ≠ (stepEv wA (getA 3)).out := by
    intro e
    rw [e, h3] at h2
    exact absurd h2 (by decide)
  refine ⟨wA_wB_twin, by decide, h1, h2, hne, fun ht => hne ht.out_eq⟩

/-! ## Non-vacuity -/

/-- with a clock that moves on (12 ≥ 10) the hypotheses of `twin_step` hold for the pair above -/
example : Twin wA wB ∧ EvClockOk wA.srv.time (getA 12) := ⟨wA_wB_twin, by decide⟩

/-- both states then answer nil, as `twin_step` says -/
example : (stepEv wA (getA 12)).out.map (fun p => isNil p.2) = [true] ∧
    (stepEv wB (getA 12)).out.map (fun p => isNil p.2) = [true] := by decide +kernel

example : (stepEv wB (getA 12)).out = (stepEv wA (getA 12)).out :=
  (step_observables wA_wB_twin (getA 12) (by decide)).1

/-- the hypotheses of `purgeEq_step` are satisfiable (the theorem is about `PurgeEq` of two `DataInv` states) -/
example : PurgeEq wA wB ∧ wA.DataInv := ⟨wA_wB_twin.1, wA_dataInv⟩

/-- a history over the stale entry: a second connection, DBSIZE, KEYS *, MULTI / GET a / EXEC, SCAN 0, and an
`APPEND a x` that re-creates the key; clock readings 11 … 18 -/
def demo : List Ev :=
  [ .open 2,
    .cmd {} 2 [[68, 66, 83, 73, 90, 69]] [11],
    .cmd {} 1 [[75, 69, 89, 83], [42]] [12],
    .cmd {} 1 [[77, 85, 76, 84, 73]] [13],
    .cmd {} 1 [[71, 69, 84], [97]] [14],
    .cmd {} 1 [[69, 88, 69, 67]] [15],
    .cmd {} 2 [[83, 67, 65, 78], [48]] [16],
    .cmd {} 2 [[65, 80, 80, 69, 78, 68], [97], [120]] [17],
    .cmd {} 1 [[71, 69, 84], [97]] [18] ]

/-- the clock hypothesis of the history theorem holds for it -/
example : (wA.srv.time :: demo.flatMap Ev.clocks).Pairwise (· ≤ ·) := by decide

/-- the two runs of `demo` are indistinguishable -/
example : observe wA demo = observe wB demo := (twin_history_sorted demo wA_wB_twin (by decide)).2

/-- the runs are not trivial: nine events, every command answered, no fault, no crash; DBSIZE says 0 and the
final GET returns the re-created value `x` -/
example : (observe wA demo).length = 9 ∧
    (observe wA demo).map (fun o => o.1.length) = [0, 1, 1, 1, 1, 1, 1, 1, 1] ∧
    (observe wA demo).all (fun o => o.2.1.isNone && o.2.2.isNone) = true ∧
    ((demo.take 2).foldl stepEv wA).out.map (fun p => p.2 matches .int 0) = [true] ∧
    (demo.foldl stepEv wA).out.map (fun p => bulkOf p.2) = [some [120]] := by decide +kernel

/-- the corollary applies to `wA`: key `a` of database 0 is past its deadline -/
example : observe wA demo = observe (delKey wA 0 [97]) demo :=
  (expired_eq_deleted_forever wA_dataInv 0 [97] ⟨.str [118], some 5⟩ rfl (by decide) demo (by decide)).1

end FR.Props.C07s

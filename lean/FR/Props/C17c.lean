import FR.Proofs.C17cReply
/-!
# C17 (second half) — client-side reply decoding (`decode_responses`)

"With decode_responses enabled every bulk string at any nesting depth of any reply (including pub/sub messages and
blocking-pop results) that is valid in the configured encoding is decoded with it and nothing else is altered; with it
disabled replies are bytes."

The model is `FR/Sys/Client.lean`: `decodeReply cfg disable r` is `FakeConnection.read_response(disable_decoding)`
(sync and asyncio front-ends are the same code) applied to the object `r` taken from the reply queue — whatever put it
there (a command, EXEC, a pub/sub message, a blocking pop that was served later).  Vocabulary
(`FR/Proofs/C17cText.lean`, `FR/Proofs/C17cReply.lean`):

* `encodeText enc s` — Python `s.encode(enc)`; `ValidIn enc b` — `b` is the encoding of some text; that text is unique
  (`encodeText_injective`) and is what every error handler returns (`decodeText_encodeText`); for UTF-8 validity is
  core Lean's `ByteArray.IsValidUTF8` and strict decoding is `String.fromUTF8?` (`validIn_utf8_iff`,
  `decodeText_utf8_strict_eq_fromUTF8?`), for ascii "all bytes < 128", for latin-1 `True`;
* `subReply r p`, `subVal v p` — the node at position `p` (child indices from the root);
* `leaves r` — the payloads of all bulk and status nodes in depth-first order (`mem_leaves_iff`: exactly the bulks /
  status replies found at some position); `AllValid enc r` — all of them are valid;
* `Rel leaf r v` — `v` is `r` node by node: `nil ↦ nil`, `int n ↦ int n`, error reply ↦ its exception object
  (`errObj`), array ↦ list of the same length, element by element, and bulk / status `b ↦ w` with `leaf b w`;
* `Raises r` — `r` is an error reply whose exception object is a `ResponseError` (so `read_response` raises it);
* `seen r` — `r` with status replies turned into bulks and known error codes stripped: all the client can tell;
* `encodeBack enc v` — every text of `v` encoded with `enc`.

Section 0: what `read_response` raises and what it returns.  Sections 1–4 are the parts of the property
(`decode_disabled_identity`, `decode_structure`, `decode_every_bulk`, `decode_roundtrip`); 5: when decoding fails
(`decode_strict_fails_iff`, `latin1_total`); 6: status replies.  Two statements one might expect are false:
`connection_class_error_is_returned` (a finding) and `valid_bulk_lost_with_invalid_sibling`.
-/
namespace FR.Props.C17c
open FR FR.Client

/-- the top-level reply is an error object that `read_response` raises -/
def Raises (r : Reply) : Prop := ∃ m, r = .err m ∧ (parseError m).1.isResponseError = true

/-- every bulk / status payload at every depth is valid in the encoding -/
def AllValid (enc : Encoding) (r : Reply) : Prop := ∀ b ∈ leaves r, ValidIn enc b

/-! ## 0. `read_response`: what is raised, what is returned -/

/-- A top-level error reply: raised iff its class derives from `ResponseError`, otherwise the exception object is
returned (whatever `disable_decoding` and the configuration). -/
theorem read_response_error (cfg : Cfg) (disable : Bool) (m : Bytes) :
    decodeReply cfg disable (.err m) =
      if (parseError m).1.isResponseError then .error (.raised (parseError m).1 (parseError m).2)
      else .ok (errObj m) := rfl

/-- Any other reply: the queue object itself with `disable_decoding`, `_decode` of it without. -/
theorem read_response_other (cfg : Cfg) (disable : Bool) (r : Reply) (h : ∀ m, r ≠ .err m) :
    decodeReply cfg disable r = if disable then .ok (rawVal r) else decodeVal cfg r := by
  cases r with
  | err m => exact absurd rfl (h m)
  | _ => rfl

example : ∀ m, Reply.arr [.err [69], .bulk [255]] ≠ .err m := nofun

/-- an exception of `decodeBytes` is a `UnicodeDecodeError` about that very byte string, and can only happen with
decoding on, handler `strict`, and an invalid byte string -/
theorem decodeBytes_error (cfg : Cfg) (b : Bytes) (e : DecodeErr) (h : decodeBytes cfg b = .error e) :
    cfg.decodeResponses = true ∧ cfg.errors = .strict ∧ ¬ ValidIn cfg.encoding b ∧
      ∃ s t r, e = .unicode cfg.encoding b s t r := by
  unfold decodeBytes at h
  split at h
  next hd =>
    cases hx : decodeText cfg.encoding cfg.errors b with
    | ok s => rw [hx] at h; cases h
    | error e' =>
      rw [hx] at h
      simp only [Except.map, Except.error.injEq] at h
      subst h
      have hs : cfg.errors = .strict := by
        cases he : cfg.errors with
        | strict => rfl
        | replace =>
          obtain ⟨s, hs⟩ := decodeText_lenient_total cfg.encoding .replace (by decide) b
          rw [he, hs] at hx; cases hx
        | ignore =>
          obtain ⟨s, hs⟩ := decodeText_lenient_total cfg.encoding .ignore (by decide) b
          rw [he, hs] at hx; cases hx
      rw [hs] at hx
      obtain ⟨s, t, r, he, _⟩ := decodeText_strict_error_shape _ _ _ hx
      exact ⟨hd, hs, (decodeText_strict_error_iff _ _).1 ⟨_, hx⟩, s, t, r, he⟩
  next => cases h

example : decodeBytes { decodeResponses := true } [0xC3] = .error (.unicode .utf8 [0xC3] 0 1 .unexpectedEnd) := by
  decide +kernel

/-- The exception that surfaces is the one of the first bulk / status payload, in depth-first left-to-right order,
whose decoding fails (list comprehensions evaluate left to right). -/
theorem first_failure_surfaces (cfg : Cfg) (r : Reply) (hr : ∀ m, r ≠ .err m) (e : DecodeErr) :
    decodeReply cfg false r = .error e ↔ firstErr cfg (leaves r) = some e := by
  rw [read_response_other cfg false r hr, ← errOf_decodeVal, errOf_eq_some_iff]
  rfl

/-- `raise response` happens for a top-level `ResponseError` object and for nothing else: error replies nested in an
array (EXEC results, script results) are never raised by `read_response`. -/
theorem raised_iff_toplevel (cfg : Cfg) (disable : Bool) (r : Reply) :
    (∃ c msg, decodeReply cfg disable r = .error (.raised c msg)) ↔ Raises r := by
  constructor
  · rintro ⟨c, msg, h⟩
    rcases reply_err_or r with ⟨m, rfl⟩ | hne
    · rw [read_response_error] at h
      split at h
      next hc => exact ⟨m, rfl, hc⟩
      next => cases h
    · rw [read_response_other _ _ _ hne] at h
      cases disable with
      | true => cases h
      | false =>
        have h' : errOf (decodeVal cfg _) = some (.raised c msg) := (errOf_eq_some_iff _ _).2 h
        rw [errOf_decodeVal] at h'
        obtain ⟨b, _, hb⟩ := List.exists_of_findSome?_eq_some h'
        obtain ⟨_, _, _, s, t, rs, he⟩ := decodeBytes_error cfg b _ ((errOf_eq_some_iff _ _).1 hb)
        cases he
  · rintro ⟨m, rfl, hc⟩
    exact ⟨_, _, by rw [read_response_error, if_pos hc]⟩

/-- **Finding (contradiction with redis-py on a real server).**  An error reply whose class is `ConnectionError`,
`AuthenticationError` or `BusyLoadingError` (messages `LOADING …`, `NOAUTH …`, `ERR invalid password`,
`ERR max number of clients reached`, `ERR Client sent AUTH, but no password is set`) is not raised by
`read_response` but returned to the caller as a value.  redis-py's own parsers raise such an error at once
(`if isinstance(error, ConnectionError): raise error`), also when nested.  Reachable in fakeredis only through a Lua
script (`redis.error_reply('LOADING x')`). -/
theorem connection_class_error_is_returned :
    decodeReply {} false (.err (strBytes "LOADING x")) = .ok (.err .busyLoading (strBytes "x")) ∧
    decodeReply {} false (.err (strBytes "NOAUTH Authentication required.")) =
      .ok (.err .authentication (strBytes "Authentication required.")) ∧
    decodeReply {} true (.err (strBytes "ERR max number of clients reached")) =
      .ok (.err .connection (strBytes "max number of clients reached")) ∧
    decodeReply {} false (.err (strBytes "ERR no such key")) = .error (.raised .response (strBytes "no such key")) := by
  decide +kernel

/-- "every top-level error reply is raised" is false of the model (and of the code), by `connection_class_error_is_returned` -/
theorem toplevel_error_always_raised_false :
    ¬ ∀ (cfg : Cfg) (disable : Bool) (m : Bytes), ∃ e, decodeReply cfg disable (.err m) = .error e := by
  intro h
  obtain ⟨e, he⟩ := h {} false (strBytes "LOADING x")
  rw [connection_class_error_is_returned.1] at he
  cases he

/-! ## 1. `decode_disabled_identity` -/

/-- **With `decode_responses=False`, or with `disable_decoding=True`, the caller receives the queue object itself**:
`rawVal r`, which is `r` with bulk and status payloads as `bytes` — unless `r` is a top-level `ResponseError`, which is
raised (`raised_iff_toplevel`). -/
theorem decode_disabled_identity (cfg : Cfg) (disable : Bool) (r : Reply)
    (h : cfg.decodeResponses = false ∨ disable = true) (hr : ¬ Raises r) :
    decodeReply cfg disable r = .ok (rawVal r) := by
  rcases reply_err_or r with ⟨m, rfl⟩ | hne
  · rw [read_response_error, if_neg (fun hc => hr ⟨m, rfl, hc⟩)]
    rfl
  · rw [read_response_other _ _ _ hne]
    cases disable with
    | true => rfl
    | false =>
      rcases h with h | h
      · exact decodeVal_off cfg h _
      · cases h

example : ({ decodeResponses := true } : Cfg).decodeResponses = false ∨ true = true := Or.inr rfl
example : ¬ Raises (.arr [.err (strBytes "ERR x"), .bulk [0xFF]]) := by rintro ⟨m, h, _⟩; cases h

/-- `rawVal r` is `r`, node by node, every bulk / status payload `b` as `bytes b`: same nesting, same lengths, same
integers and nils, error replies as their exception objects -/
theorem rawVal_is_reply (r : Reply) : Rel (fun b w => w = .bytes b) r (rawVal r) := rawVal_rel r

/-- nothing is lost in `rawVal r`: re-reading `bytes` as bulks gives the reply back (as far as the client can tell: `seen`). -/
theorem rawVal_encodeBack (enc : Encoding) (r : Reply) : encodeBack enc (rawVal r) = some (seen r) :=
  encodeBack_of_rel enc _ (fun b w h => by subst h; rfl) r _ (rawVal_rel r)

/-- for replies without status and error nodes `rawVal r` encodes back to the reply itself -/
theorem rawVal_encodeBack_plain (enc : Encoding) (r : Reply) (h : Plain r) : encodeBack enc (rawVal r) = some r := by
  rw [rawVal_encodeBack, seen_eq_self r h]

example : decodeReply { decodeResponses := true } true (.arr [.bulk [0xFF], .arr [.int 3, .nil], .status [79, 75]]) =
    .ok (.list [.bytes [0xFF], .list [.int 3, .nil], .bytes [79, 75]]) := by decide +kernel

/-! ## 2. `decode_structure` -/

/-- a bulk / status payload comes out as `bytes` (that payload) or as some text -/
def IsStr (b : Bytes) (w : CVal) : Prop := w = .bytes b ∨ ∃ s, w = .text s

theorem decodeBytes_isStr (cfg : Cfg) (b : Bytes) (w : CVal) (h : decodeBytes cfg b = .ok w) : IsStr b w := by
  unfold decodeBytes at h
  split at h
  · cases hx : decodeText cfg.encoding cfg.errors b with
    | ok s => rw [hx] at h; cases h; exact Or.inr ⟨s, rfl⟩
    | error e => rw [hx] at h; cases h
  · cases h; exact Or.inl rfl

/-- **Whatever the configuration, a returned value has the shape of the reply**: same nesting, every array a list of
the same length in the same order, integers and nil unchanged, every error reply its exception object, every bulk /
status payload a `bytes` or `str` object. -/
theorem decode_structure (cfg : Cfg) (disable : Bool) (r : Reply) (v : CVal)
    (h : decodeReply cfg disable r = .ok v) : Rel IsStr r v := by
  rcases reply_err_or r with ⟨m, rfl⟩ | hne
  · rw [read_response_error] at h
    split at h
    · cases h
    · cases h; rfl
  · rw [read_response_other _ _ _ hne] at h
    cases disable with
    | true =>
      cases h
      exact rel_mono _ _ (fun b _ w hw => Or.inl hw) (rawVal_rel _)
    | false =>
      exact rel_mono _ _ (fun b _ w hw => decodeBytes_isStr cfg b w hw) ((decodeVal_ok_iff cfg _ v).1 h)

example : decodeReply { decodeResponses := true } false (.arr [.bulk [65], .arr [.int 3, .nil]]) =
    .ok (.list [.text "A", .list [.int 3, .nil]]) := by decide +kernel

/-- the shape, position by position: the value has a node exactly where the reply has one; under an array node sits a
list of the same length; integers, nil and error replies are what they were -/
theorem decode_structure_positions (cfg : Cfg) (disable : Bool) (r : Reply) (v : CVal)
    (h : decodeReply cfg disable r = .ok v) (p : List Nat) :
    ((subVal v p).isSome = (subReply r p).isSome) ∧
    (∀ xs, subReply r p = some (.arr xs) → ∃ vs, subVal v p = some (.list vs) ∧ vs.length = xs.length) ∧
    (∀ n, subReply r p = some (.int n) → subVal v p = some (.int n)) ∧
    (subReply r p = some .nil → subVal v p = some .nil) ∧
    (∀ m, subReply r p = some (.err m) → subVal v p = some (errObj m)) ∧
    (∀ b, (subReply r p = some (.bulk b) ∨ subReply r p = some (.status b)) →
      ∃ w, subVal v p = some w ∧ IsStr b w) := by
  have hrel := decode_structure cfg disable r v h
  have hleaf : ∀ b w, IsStr b w → ∀ vs, w ≠ .list vs := by
    intro b w hw vs e
    subst e
    rcases hw with hw | ⟨_, hw⟩ <;> cases hw
  refine ⟨?_, ?_, ?_, ?_, ?_, ?_⟩
  · cases hs : subReply r p with
    | some r' =>
      obtain ⟨v', hv', _⟩ := rel_path IsStr p r r' v hrel hs
      rw [hv']; rfl
    | none =>
      cases hv : subVal v p with
      | none => rfl
      | some v' =>
        obtain ⟨r', hr'⟩ := rel_path_back IsStr hleaf p r v v' hrel hv
        rw [hs] at hr'; cases hr'
  · intro xs hs
    obtain ⟨v', hv', hr⟩ := rel_path IsStr p r _ v hrel hs
    simp only [Rel] at hr
    obtain ⟨vs, rfl, hl⟩ := hr
    exact ⟨vs, hv', relL_length _ _ _ hl⟩
  · intro n hs
    obtain ⟨v', hv', hr⟩ := rel_path IsStr p r _ v hrel hs
    simp only [Rel] at hr
    rw [hv', hr]
  · intro hs
    obtain ⟨v', hv', hr⟩ := rel_path IsStr p r _ v hrel hs
    simp only [Rel] at hr
    rw [hv', hr]
  · intro m hs
    obtain ⟨v', hv', hr⟩ := rel_path IsStr p r _ v hrel hs
    simp only [Rel] at hr
    rw [hv', hr]
  · rintro b (hs | hs)
    · obtain ⟨v', hv', hr⟩ := rel_path IsStr p r _ v hrel hs
      exact ⟨v', hv', hr⟩
    · obtain ⟨v', hv', hr⟩ := rel_path IsStr p r _ v hrel hs
      exact ⟨v', hv', hr⟩

/-! ## 3. `decode_every_bulk` -/

/-- **With decoding on, the value returned is the reply with every bulk / status payload, at every depth, replaced by
`payload.decode(encoding, errors)` as a `str` — and that is an equivalence: nothing else is altered, nothing is left
undecoded.**  (`decodeVal_ok_iff` is this statement for `_decode` itself.) -/
theorem decode_every_bulk (cfg : Cfg) (hd : cfg.decodeResponses = true) (r : Reply) (hr : ∀ m, r ≠ .err m) (v : CVal) :
    decodeReply cfg false r = .ok v ↔
      Rel (fun b w => ∃ s, decodeText cfg.encoding cfg.errors b = .ok s ∧ w = .text s) r v := by
  rw [read_response_other cfg false r hr]
  show decodeVal cfg r = .ok v ↔ _
  rw [decodeVal_ok_iff]
  have key : ∀ b w, decodeBytes cfg b = .ok w ↔ ∃ s, decodeText cfg.encoding cfg.errors b = .ok s ∧ w = .text s := by
    intro b w
    unfold decodeBytes
    rw [if_pos hd]
    cases decodeText cfg.encoding cfg.errors b with
    | ok s =>
      simp only [Except.map, Except.ok.injEq]
      constructor
      · rintro rfl; exact ⟨s, rfl, rfl⟩
      · rintro ⟨s', rfl, rfl⟩; rfl
    | error e =>
      simp only [Except.map]
      constructor
      · intro h; cases h
      · rintro ⟨_, h, _⟩; cases h
  constructor
  · exact rel_mono _ _ fun b _ w => (key b w).1
  · exact rel_mono _ _ fun b _ w => (key b w).2

example : ({ decodeResponses := true, encoding := .latin1 } : Cfg).decodeResponses = true := rfl

/-- **Every bulk (or status reply) at any position that is valid in the encoding becomes exactly its decoding**: the
node at the same position of the value is the `str` `s` with `s.encode(encoding) = b` (unique: `encodeText_injective`),
under every error handler. -/
theorem decode_valid_bulk_at (cfg : Cfg) (hd : cfg.decodeResponses = true) (r : Reply) (v : CVal)
    (h : decodeReply cfg false r = .ok v) (p : List Nat) (b : Bytes)
    (hp : subReply r p = some (.bulk b) ∨ subReply r p = some (.status b)) (hv : ValidIn cfg.encoding b) :
    ∃ s, subVal v p = some (.text s) ∧ encodeText cfg.encoding s = some b := by
  have hr : ∀ m, r ≠ .err m := by
    rintro m rfl
    cases p with
    | nil => simp only [subReply, Option.some.injEq] at hp; rcases hp with hp | hp <;> cases hp
    | cons i p => simp [subReply] at hp
  have hrel := (decode_every_bulk cfg hd r hr v).1 h
  obtain ⟨s0, hs0, henc⟩ := decodeText_valid cfg.encoding cfg.errors b hv
  rcases hp with hp | hp
  · obtain ⟨w, hw, hr'⟩ := rel_path _ p r _ v hrel hp
    simp only [Rel] at hr'
    obtain ⟨s, hs, rfl⟩ := hr'
    rw [hs0] at hs; cases hs
    exact ⟨s0, hw, henc⟩
  · obtain ⟨w, hw, hr'⟩ := rel_path _ p r _ v hrel hp
    simp only [Rel] at hr'
    obtain ⟨s, hs, rfl⟩ := hr'
    rw [hs0] at hs; cases hs
    exact ⟨s0, hw, henc⟩

/-- a pub/sub message with a 3-byte and a 4-byte character in channel and payload, and a blocking-pop result -/
example : decodeReply { decodeResponses := true } false
      (.arr [.bulk (strBytes "message"), .bulk [0xE2, 0x82, 0xAC], .bulk [0xF0, 0x9F, 0x98, 0x80]]) =
    .ok (.list [.text "message", .text "€", .text "😀"]) := by decide +kernel
/-- all hypotheses of `decode_valid_bulk_at` at once: a nested reply (an EXEC result holding a blocking-pop result) -/
example : decodeReply { decodeResponses := true } false (.arr [.status [79, 75], .arr [.bulk [107], .bulk [0xE2, 0x82, 0xAC]]]) =
      .ok (.list [.text "OK", .list [.text "k", .text "€"]]) ∧
    subReply (.arr [.status [79, 75], .arr [.bulk [107], .bulk [0xE2, 0x82, 0xAC]]]) [1, 1] = some (.bulk [0xE2, 0x82, 0xAC]) ∧
    ValidIn .utf8 [0xE2, 0x82, 0xAC] :=
  ⟨by decide +kernel, rfl, "€", by decide +kernel⟩

/-- in UTF-8 under `strict` the text at a bulk's position is core Lean's `String.fromUTF8?` of the bytes -/
theorem decode_bulk_at_fromUTF8 (cfg : Cfg) (hd : cfg.decodeResponses = true) (he : cfg.encoding = .utf8)
    (hs : cfg.errors = .strict) (r : Reply) (v : CVal) (h : decodeReply cfg false r = .ok v) (p : List Nat) (b : Bytes)
    (hp : subReply r p = some (.bulk b)) :
    ∃ s, subVal v p = some (.text s) ∧ String.fromUTF8? b.toByteArray = some s := by
  have hr : ∀ m, r ≠ .err m := by
    rintro m rfl
    cases p with
    | nil => simp only [subReply, Option.some.injEq] at hp; cases hp
    | cons i p => simp [subReply] at hp
  have hrel := (decode_every_bulk cfg hd r hr v).1 h
  obtain ⟨w, hw, hr'⟩ := rel_path _ p r _ v hrel hp
  simp only [Rel] at hr'
  obtain ⟨s, hs', rfl⟩ := hr'
  rw [he, hs] at hs'
  exact ⟨s, hw, (decodeText_utf8_strict_eq_fromUTF8? b s).1 hs'⟩

/-- **The unconditional reading of the property is false under `strict`**: a valid bulk is not decoded when another
bulk of the same reply is invalid — the whole reply is lost in a `UnicodeDecodeError` (it has left the queue). -/
theorem valid_bulk_lost_with_invalid_sibling :
    ValidIn .utf8 [97] ∧
    decodeReply { decodeResponses := true } false (.arr [.bulk [97], .bulk [0xFF]]) =
      .error (.unicode .utf8 [0xFF] 0 1 .invalidStart) :=
  ⟨⟨"a", by decide +kernel⟩, by decide +kernel⟩

/-! ## 4. `decode_roundtrip` -/

/-- **Encoding the decoded value gives back the reply** (as far as a client can tell, `seen`): every text, at every
depth, encodes to the bytes it came from — provided all bulk / status payloads are valid in the encoding (needed only
when decoding actually happens). -/
theorem decode_roundtrip_partial (cfg : Cfg) (disable : Bool) (r : Reply) (v : CVal)
    (h : decodeReply cfg disable r = .ok v)
    (hv : cfg.decodeResponses = true → disable = false → AllValid cfg.encoding r) :
    encodeBack cfg.encoding v = some (seen r) := by
  rcases reply_err_or r with ⟨m, rfl⟩ | hne
  · rw [read_response_error] at h
    split at h
    · cases h
    · cases h; rfl
  · rw [read_response_other _ _ _ hne] at h
    cases disable with
    | true => cases h; exact rawVal_encodeBack _ _
    | false =>
      have hrel := (decodeVal_ok_iff cfg _ v).1 h
      refine encodeBack_of_rel cfg.encoding _ ?_ _ v
        (rel_mono (leaf' := fun b w => decodeBytes cfg b = .ok w ∧ (cfg.decodeResponses = true → ValidIn cfg.encoding b))
          _ v (fun b hb w hw => ⟨hw, fun hd => hv hd rfl b hb⟩) hrel)
      rintro b w ⟨hw, hval⟩
      unfold decodeBytes at hw
      split at hw
      next hd =>
        obtain ⟨s, hs, henc⟩ := decodeText_valid cfg.encoding cfg.errors b (hval hd)
        rw [hs] at hw
        cases hw
        simp only [encodeBack, henc]; rfl
      next => cases hw; rfl

example : AllValid .utf8 (.arr [.bulk [0xE2, 0x82, 0xAC], .status [79, 75], .arr [.int 1]]) := by
  intro b hb
  have : b = [0xE2, 0x82, 0xAC] ∨ b = [79, 75] := by simpa [leaves, leavesL] using hb
  rcases this with rfl | rfl
  · exact ⟨"€", by decide +kernel⟩
  · exact ⟨"OK", by decide +kernel⟩

/-- under `strict`, with decoding on, a reply that decodes has only valid payloads -/
theorem strict_ok_allValid (cfg : Cfg) (hd : cfg.decodeResponses = true) (hs : cfg.errors = .strict) (r : Reply)
    (hne : ∀ m, r ≠ .err m) (v : CVal) (h : decodeReply cfg false r = .ok v) : AllValid cfg.encoding r := by
  intro b hb
  rw [read_response_other _ _ _ hne] at h
  have hnone : firstErr cfg (leaves r) = none := by
    rw [← errOf_decodeVal, errOf_eq_none_iff]; exact ⟨v, h⟩
  have := List.findSome?_eq_none_iff.1 hnone b hb
  obtain ⟨w, hw⟩ := (errOf_eq_none_iff _).1 this
  unfold decodeBytes at hw
  rw [if_pos hd, hs] at hw
  cases hx : decodeText cfg.encoding .strict b with
  | ok s => exact ⟨s, (decodeText_strict_ok_iff _ _ _).1 hx⟩
  | error e => rw [hx] at hw; cases hw

/-- under `strict` a returned value always round-trips (success already means that all payloads were valid) -/
theorem decode_roundtrip (cfg : Cfg) (hs : cfg.errors = .strict) (disable : Bool) (r : Reply) (v : CVal)
    (h : decodeReply cfg disable r = .ok v) : encodeBack cfg.encoding v = some (seen r) := by
  refine decode_roundtrip_partial cfg disable r v h ?_
  rintro hd rfl
  rcases reply_err_or r with ⟨m, rfl⟩ | hne
  · intro b hb
    simp [leaves] at hb
  · exact strict_ok_allValid cfg hd hs r hne v h

example : decodeReply { decodeResponses := true } false (.arr [.bulk [0xE2, 0x82, 0xAC], .status [79, 75]]) =
    .ok (.list [.text "€", .text "OK"]) := by decide +kernel

/-- in latin-1 every returned value round-trips, under every handler. -/
theorem decode_roundtrip_latin1 (cfg : Cfg) (he : cfg.encoding = .latin1) (disable : Bool) (r : Reply) (v : CVal)
    (h : decodeReply cfg disable r = .ok v) : encodeBack .latin1 v = some (seen r) := by
  have := decode_roundtrip_partial cfg disable r v h (fun _ _ b _ => by rw [he]; exact validIn_latin1 b)
  rw [he] at this
  exact this

/-- **Without validity the round trip is false under `replace` and `ignore`**: an invalid bulk is altered for good
(and two different replies are handed to the caller as the same value). -/
theorem roundtrip_false_when_invalid :
    decodeReply { decodeResponses := true, errors := .replace } false (.bulk [0xFF]) = .ok (.text "�") ∧
    encodeBack .utf8 (.text "�") = some (.bulk [0xEF, 0xBF, 0xBD]) ∧
    decodeReply { decodeResponses := true, errors := .replace } false (.bulk [0xFE]) = .ok (.text "�") ∧
    decodeReply { decodeResponses := true, errors := .ignore } false (.bulk [0xFF]) = .ok (.text "") ∧
    encodeBack .utf8 (.text "") = some (.bulk []) := by
  decide +kernel

/-! ## 5. `decode_strict_fails_iff`, `latin1_total` -/

/-- **Under `strict`, with decoding on, `read_response` fails with a `UnicodeDecodeError` iff some bulk / status
payload at some depth is invalid in the encoding** -/
theorem decode_strict_fails_iff (cfg : Cfg) (hd : cfg.decodeResponses = true) (hs : cfg.errors = .strict) (r : Reply)
    (hr : ¬ Raises r) :
    (∃ e, decodeReply cfg false r = .error e) ↔ ¬ AllValid cfg.encoding r := by
  have hleaf : ∀ b, (∃ e, decodeBytes cfg b = .error e) ↔ ¬ ValidIn cfg.encoding b := by
    intro b
    rw [← decodeText_strict_error_iff]
    unfold decodeBytes
    rw [if_pos hd, hs]
    cases decodeText cfg.encoding .strict b with
    | ok s => simp [Except.map]
    | error e => simp [Except.map]
  rcases reply_err_or r with ⟨m, rfl⟩ | hne
  · rw [read_response_error, if_neg (fun hc => hr ⟨m, rfl, hc⟩)]
    simp [AllValid, leaves]
  · constructor
    · rintro ⟨e, he⟩ hall
      rw [first_failure_surfaces cfg _ hne] at he
      obtain ⟨b, hb, hbe⟩ := List.exists_of_findSome?_eq_some he
      exact (hleaf b).1 ⟨e, (errOf_eq_some_iff _ _).1 hbe⟩ (hall b hb)
    · intro hnot
      cases hx : decodeReply cfg false r with
      | error e => exact ⟨e, rfl⟩
      | ok v => exact absurd (strict_ok_allValid cfg hd hs r hne v hx) hnot

example : ¬ Raises (.arr [.arr [.bulk [0xED, 0xA0, 0x80]]]) := by rintro ⟨m, h, _⟩; cases h
example : ¬ AllValid .utf8 (.arr [.arr [.bulk [0xED, 0xA0, 0x80]]]) := by
  intro h
  have := (decodeText_strict_error_iff .utf8 [0xED, 0xA0, 0x80]).1 ⟨_, (by decide +kernel :
    decodeText .utf8 .strict [0xED, 0xA0, 0x80] = .error (.unicode .utf8 [0xED, 0xA0, 0x80] 0 1 .invalidContinuation))⟩
  exact this (h _ (by simp [leaves, leavesL]))

/-- when `read_response` fails the exception names, as its object, an invalid payload of the reply — the first one in depth-first order
(`first_failure_surfaces`). -/
theorem decode_strict_failure_object (cfg : Cfg) (r : Reply) (hr : ∀ m, r ≠ .err m) (e : DecodeErr)
    (h : decodeReply cfg false r = .error e) :
    cfg.decodeResponses = true ∧ cfg.errors = .strict ∧
      ∃ b ∈ leaves r, ¬ ValidIn cfg.encoding b ∧ ∃ s t rs, e = .unicode cfg.encoding b s t rs := by
  rw [first_failure_surfaces cfg r hr] at h
  obtain ⟨b, hb, hbe⟩ := List.exists_of_findSome?_eq_some h
  obtain ⟨hd, hs, hnv, hsh⟩ := decodeBytes_error cfg b e ((errOf_eq_some_iff _ _).1 hbe)
  exact ⟨hd, hs, b, hb, hnv, hsh⟩

example : decodeReply { decodeResponses := true } false (.arr [.bulk [97], .arr [.bulk [0xC0, 0x80]], .bulk [0xFF]]) =
    .error (.unicode .utf8 [0xC0, 0x80] 0 1 .invalidStart) := by decide +kernel

/-- **`replace` and `ignore` never fail**: every reply that is not a raised error is returned. -/
theorem decode_lenient_total (cfg : Cfg) (h : cfg.errors ≠ .strict) (disable : Bool) (r : Reply) (hr : ¬ Raises r) :
    ∃ v, decodeReply cfg disable r = .ok v := by
  cases hx : decodeReply cfg disable r with
  | ok v => exact ⟨v, rfl⟩
  | error e =>
    exfalso
    rcases reply_err_or r with ⟨m, rfl⟩ | hne
    · rw [read_response_error, if_neg (fun hc => hr ⟨m, rfl, hc⟩)] at hx
      cases hx
    · cases disable with
      | true => rw [read_response_other _ _ _ hne] at hx; cases hx
      | false => exact h (decode_strict_failure_object cfg _ hne e hx).2.1

example : ({ errors := .replace } : Cfg).errors ≠ .strict := by decide

/-- **latin-1 never fails**, whatever the handler: every byte string is valid latin-1. -/
theorem latin1_total (cfg : Cfg) (he : cfg.encoding = .latin1) (disable : Bool) (r : Reply) (hr : ¬ Raises r) :
    ∃ v, decodeReply cfg disable r = .ok v := by
  cases hx : decodeReply cfg disable r with
  | ok v => exact ⟨v, rfl⟩
  | error e =>
    exfalso
    rcases reply_err_or r with ⟨m, rfl⟩ | hne
    · rw [read_response_error, if_neg (fun hc => hr ⟨m, rfl, hc⟩)] at hx
      cases hx
    · cases disable with
      | true => rw [read_response_other _ _ _ hne] at hx; cases hx
      | false =>
        obtain ⟨_, _, b, _, hnv, _⟩ := decode_strict_failure_object cfg _ hne e hx
        exact hnv (he ▸ validIn_latin1 b)

example : decodeReply { decodeResponses := true, encoding := .latin1 } false (.arr [.bulk [0xFF, 0x80, 0x41]]) =
    .ok (.list [.text "ÿ\u0080A"]) := by decide +kernel

/-- in latin-1 and ascii a decoded text has one character per byte, with the byte's code point -/
theorem decodeText_bytewise (enc : Encoding) (he : enc ≠ .utf8) (errors : Errors) (b : Bytes) (hv : ValidIn enc b) :
    decodeText enc errors b = .ok (String.ofList (b.map fun c => Char.ofNat c.toNat)) := by
  obtain ⟨s, hs, henc⟩ := decodeText_valid enc errors b hv
  rw [hs]
  congr 1
  rw [encodeText_eq] at henc
  have : s.toList = b.map fun c => Char.ofNat c.toNat := by
    cases enc with
    | utf8 => exact absurd rfl he
    | latin1 => exact ((mapM_byte_eq_some (Nat.le_refl _) _ b).mp henc).1
    | ascii => exact ((mapM_byte_eq_some (by decide) _ b).mp henc).1
  rw [← this, String.ofList_toList]

example : ValidIn .ascii [72, 105] := (validIn_ascii_iff _).2 (by decide)

/-! ## 6. status replies -/

/-- **A status reply is decoded exactly like a bulk with the same payload** — always: in the queue it already is a
`bytes` object (`_decode_result` returns `SimpleString.value`), so `+OK` comes out as `'OK'` with decoding on and as
`b'OK'` without, at any depth. -/
theorem status_like_bulk (cfg : Cfg) (disable : Bool) (b : Bytes) :
    decodeReply cfg disable (.status b) = decodeReply cfg disable (.bulk b) ∧
    (∀ pre post, decodeReply cfg disable (.arr (pre ++ .status b :: post)) =
      decodeReply cfg disable (.arr (pre ++ .bulk b :: post))) := by
  refine ⟨by cases disable <;> rfl, fun pre post => ?_⟩
  have hraw : ∀ pre : List Reply, rawList (pre ++ .status b :: post) = rawList (pre ++ .bulk b :: post) := by
    intro pre
    induction pre with
    | nil => rfl
    | cons x xs ih => simp only [List.cons_append, rawList, ih]
  have hdec : ∀ pre : List Reply, decodeList cfg (pre ++ .status b :: post) = decodeList cfg (pre ++ .bulk b :: post) := by
    intro pre
    induction pre with
    | nil => simp only [List.nil_append, decodeList, decodeVal]
    | cons x xs ih => simp only [List.cons_append, decodeList, ih]
  cases disable with
  | true =>
    show Except.ok (rawVal (.arr (pre ++ .status b :: post))) = Except.ok (rawVal (.arr (pre ++ .bulk b :: post)))
    simp only [rawVal, hraw]
  | false =>
    show decodeVal cfg (.arr (pre ++ .status b :: post)) = decodeVal cfg (.arr (pre ++ .bulk b :: post))
    simp only [decodeVal, hdec]

example : decodeReply { decodeResponses := true } false (.arr [.status [79, 75], .bulk [79, 75]]) =
    .ok (.list [.text "OK", .text "OK"]) := by decide +kernel
example : decodeReply {} false (.status [79, 75]) = .ok (.bytes [79, 75]) := by decide +kernel

end FR.Props.C17c

import FR.Proofs.Wire
import FR.Props.C20
/-!
# C17, end to end — bytes in over the socket, the same bytes out

Every theorem below is about the socket interface of the model.  `Wire.after mode s (c, fields)` is the state after
connection `c` wrote the RESP encoding `encodeRequest fields` with `sendallGuarded` (`FakeSocket.sendall`), and
`Wire.run mode s [(c₁, fields₁), (c₂, fields₂), …]` the state after these writes, one `sendall` each (`run_def`).
The conclusions are about `Sys.out`, the list of emitted replies `(receiver, reply)`, newest first.

There is no hypothesis on the bytes of keys, values, fields, members, channels and messages: empty, NUL, CR LF,
`*3\r\n$…`, bytes ≥ 0x80 are all covered by the universally quantified `k v f m ch : Bytes`.

Standing hypotheses:
* `Wire.Ready s c` — `c` is an ordinary idle client connection: registered, open, alive, parser running, input buffer
  empty, not in MULTI, not subscribed, a valid database selected; the server is connected and no exception is pending;
* `s.DataInv` — every database has unique keys and stores no empty collection (an invariant of all histories,
  `FR.dataInv_whole.stepEv`);
* `Wire.Spells name "set"` — the command name is `set` in any letter case (§7: only the name is normalised).
No hypothesis on the clock hints: the theorems hold for every sequence of clock readings, even an exhausted or a
non-monotone one, because nothing written here carries a deadline (`keys_are_case_sensitive`, which speaks about a
key that is not live, is the one place where the clock must not run backwards).

The proofs (`FR/Proofs/Wire.lean`) compose: one encoded request = one `processCommand` on exactly its fields
(`Wire.sendallGuarded_encode`, from `tryParse_encode'` and `BufIndep.bufIndependent`, the facts behind C04); what
`processCommand` does with a regular command (`regular_ran`), with MULTI / EXEC (`Sys.dispatched_queued`, `execCmd_run`)
and with SUBSCRIBE / PUBLISH (`PubSubHist.process_subscribe`, `process_publish`); the run equations of the single
commands (`Props/C01k`, `HashSetAlg`, `C02lLists`, `C03zCmds`); `C17.processCommand_case_insensitive`.
A session of regular commands on one connection is a chain of triples `Wire.Step` (precondition, request, reply,
postcondition: what the keys hold without deadline), put together by `Wire.Steps.out`; the sessions through MULTI and
across two connections are composed by hand.
-/
namespace FR.Props.C17s
open FR FR.Wire

/-! ## 0. vocabulary -/

theorem run_def (mode : Mode) (s : Sys) (c : Nat) (fields : List Bytes) (rest : List (Nat × List Bytes)) :
    run mode s [] = s ∧
    run mode s ((c, fields) :: rest) = run mode ((sendallGuarded mode c (encodeRequest fields)).run s).2 rest :=
  ⟨rfl, rfl⟩

/-- one encoded request on an idle connection is one `processCommand` on exactly its fields, whatever the bytes -/
theorem one_request_one_command (mode : Mode) (c : Nat) (fields : List Bytes) (s : Sys) (hr : Ready s c) :
    (sendallGuarded mode c (encodeRequest fields)).run s =
      ((), setBuf c [] ((processCommand mode c fields).run s).2) :=
  sendallGuarded_encode mode c fields s hr.has hr.buf hr.dead hr.paused hr.connected

/-- the state used in the non-vacuity examples: a fresh server with two connections -/
def s0 : Sys := { srv := { conns := [{ id := 1 }, { id := 2 }] } }

theorem ready1 : Ready s0 1 :=
  ⟨⟨_, List.mem_cons_self, rfl⟩, rfl, rfl, rfl, rfl, rfl, rfl, by decide, rfl, rfl⟩
theorem ready2 : Ready s0 2 :=
  ⟨⟨_, List.mem_cons_of_mem _ List.mem_cons_self, rfl⟩, rfl, rfl, rfl, rfl, rfl, rfl, by decide, rfl, rfl⟩
theorem inv0 : s0.DataInv := Sys.dataInv_init.frame rfl

theorem bytes_0 : strBytes "0" = [48] := by decide +kernel
theorem bytes_m1 : strBytes "-1" = [45, 49] := by decide +kernel
theorem bytes_1 : strBytes "1" = [49] := by decide +kernel

/-- a key made of NUL, CR LF and 0xFF, a value that looks like a RESP header -/
def wk : Bytes := [0, 13, 10, 255]
def wv : Bytes := [42, 51, 13, 10, 36, 51, 13, 10]

/-- on the fresh server connection 1 sees no entry under `wk` -/
theorem wk_free : (view s0 1).live wk = none := by decide +kernel

/-! ## 1. strings -/

/-- `SET k v` (reply OK), then `GET k` replies `v` -/
theorem set_get (mode : Mode) (s : Sys) (c : Nat) (hr : Ready s c) (hi : s.DataInv) (nSet nGet : Bytes)
    (h1 : Spells nSet "set") (h2 : Spells nGet "get") (k v : Bytes) :
    (run mode s [(c, [nSet, k, v]), (c, [nGet, k])]).out = (c, .bulk v) :: (c, .ok) :: s.out :=
  (Steps.cons (set_step mode c h1 k v) (.cons (get_held mode c h2 k v) .nil)).out s hr hi trivial

example : (run {} s0 [(1, [strBytes "SeT", wk, wv]), (1, [strBytes "get", wk])]).out = [(1, .bulk wv), (1, .ok)] :=
  set_get {} s0 1 ready1 inv0 _ _ (by decide +kernel) (spells_self _) wk wv
/-- the empty key and the empty value -/
example : (run {} s0 [(1, [strBytes "SET", [], []]), (1, [strBytes "GET", []])]).out = [(1, .bulk []), (1, .ok)] :=
  set_get {} s0 1 ready1 inv0 _ _ (by decide +kernel) (by decide +kernel) [] []

/-- `SET k v; APPEND k w; GET k`: the new length, then `v ++ w` (within the 512 MB limit of a string) -/
theorem set_append_get (mode : Mode) (s : Sys) (c : Nat) (hr : Ready s c) (hi : s.DataInv) (nSet nApp nGet : Bytes)
    (h1 : Spells nSet "set") (h2 : Spells nApp "append") (h3 : Spells nGet "get") (k v w : Bytes)
    (hsz : v.length + w.length ≤ Conv.MAX_STRING_SIZE) :
    (run mode s [(c, [nSet, k, v]), (c, [nApp, k, w]), (c, [nGet, k])]).out =
      (c, .bulk (v ++ w)) :: (c, .int ((v ++ w).length : Nat)) :: (c, .ok) :: s.out :=
  (Steps.cons (set_step mode c h1 k v) (.cons (append_step mode c h2 k v w hsz)
    (.cons (get_held mode c h3 k (v ++ w)) .nil))).out s hr hi trivial

example : (run {} s0 [(1, [strBytes "set", wk, wv]), (1, [strBytes "APPEND", wk, [0]]), (1, [strBytes "get", wk])]).out =
    [(1, .bulk (wv ++ [0])), (1, .int 9), (1, .ok)] :=
  set_append_get {} s0 1 ready1 inv0 _ _ _ (spells_self _) (by decide +kernel) (spells_self _) wk wv [0]
    (by decide)

/-- `SET k v; GETRANGE k 0 -1; STRLEN k`: the whole value, and its length in bytes -/
theorem set_getrange_strlen (mode : Mode) (s : Sys) (c : Nat) (hr : Ready s c) (hi : s.DataInv)
    (nSet nGr nLen : Bytes) (h1 : Spells nSet "set") (h2 : Spells nGr "getrange") (h3 : Spells nLen "strlen")
    (k v : Bytes) :
    (run mode s [(c, [nSet, k, v]), (c, [nGr, k, strBytes "0", strBytes "-1"]), (c, [nLen, k])]).out =
      (c, .int (v.length : Nat)) :: (c, .bulk v) :: (c, .ok) :: s.out := by
  rw [bytes_0, bytes_m1]
  exact (Steps.cons (set_step mode c h1 k v) (.cons (getrange_all_step mode c h2 k v)
    (.cons (strlen_step mode c h3 k v) .nil))).out s hr hi trivial

example : (run {} s0 [(1, [strBytes "set", wk, wv]), (1, [strBytes "getrange", wk, strBytes "0", strBytes "-1"]),
    (1, [strBytes "strlen", wk])]).out = [(1, .int 8), (1, .bulk wv), (1, .ok)] :=
  set_getrange_strlen {} s0 1 ready1 inv0 _ _ _ (spells_self _) (spells_self _) (spells_self _) wk wv

/-- `MSET k₁ v₁ … kₙ vₙ` then `MGET k₁ … kₙ`: per key the value of the last pair naming it (`lastVal`) — arbitrary
keys, duplicates allowed -/
theorem mset_mget (mode : Mode) (s : Sys) (c : Nat) (hr : Ready s c) (hi : s.DataInv) (nMset nMget : Bytes)
    (h1 : Spells nMset "mset") (h2 : Spells nMget "mget") (p : Bytes × Bytes) (ps : List (Bytes × Bytes)) :
    (run mode s [(c, nMset :: FR.StrKeys.flat (p :: ps)), (c, nMget :: (p :: ps).map Prod.fst)]).out =
      (c, .arr ((p :: ps).map fun q => .bulk (lastVal (p :: ps) q.1))) :: (c, .ok) :: s.out := by
  obtain ⟨o1, r1, i1, hk1⟩ := mset_step mode hr hi h1 p ps
  obtain ⟨o2, _⟩ := mget_step mode r1 i1 h2 p.1 (ps.map Prod.fst)
  simp only [run_cons, run_nil, List.map_cons]
  rw [o2, o1]
  congr 2
  have : ∀ q ∈ p :: ps, FR.StrKeys.mgetOne ((view (after mode s (c, nMset :: FR.StrKeys.flat (p :: ps))) c).live q.1) =
      Reply.bulk (lastVal (p :: ps) q.1) := by
    intro q hq
    rw [(hk1 q hq).view]; rfl
  have h := List.map_congr_left this
  simpa [List.map_map, Function.comp] using h

/-- later duplicates win: `MSET k a k b` then `MGET k k` -/
example : (run {} s0 [(1, [strBytes "mset", wk, [1], wk, [2]]), (1, [strBytes "mget", wk, wk])]).out =
    [(1, .arr [.bulk [2], .bulk [2]]), (1, .ok)] := by
  have h := mset_mget {} s0 1 ready1 inv0 _ _ (spells_self "mset") (spells_self "mget") (wk, [1]) [(wk, [2])]
  have e : lastVal [(wk, [1]), (wk, [2])] wk = [2] := by decide
  have e0 : s0.out = [] := rfl
  simpa [FR.StrKeys.flat, e, e0] using h

/-! ## 2. lists -/

/-- `RPUSH k v₁ … vₙ` on a key that is not live, then `LRANGE k 0 -1`: exactly `[v₁, …, vₙ]`, in order -/
theorem rpush_lrange (mode : Mode) (s : Sys) (c : Nat) (hr : Ready s c) (hi : s.DataInv) (nPush nRange : Bytes)
    (h1 : Spells nPush "rpush") (h2 : Spells nRange "lrange") (k v : Bytes) (vs : List Bytes)
    (hk : (view s c).live k = none) :
    (run mode s [(c, nPush :: k :: v :: vs), (c, [nRange, k, strBytes "0", strBytes "-1"])]).out =
      (c, Reply.bulks (v :: vs)) :: (c, .int ((v :: vs).length : Nat)) :: s.out := by
  rw [bytes_0, bytes_m1]
  refine ((Steps.cons (rpush_step mode c h1 k [] v vs) (.cons (lrange_step mode c h2 k _ [48] [45, 49] 0 (-1) rfl rfl)
    .nil)).out s hr hi (FR.ListKeys.listView_missing hk)).trans ?_
  rw [lrangeSpec_all]
  rfl

example : (run {} s0 [(1, [strBytes "RPUSH", wk, wv, [], wv]), (1, [strBytes "lrange", wk, strBytes "0", strBytes "-1"])]).out =
    [(1, Reply.bulks [wv, [], wv]), (1, .int 3)] :=
  rpush_lrange {} s0 1 ready1 inv0 _ _ (by decide +kernel) (spells_self _) wk wv [[], wv] wk_free

/-- `LPUSH k v₁ … vₙ` on a key that is not live, then `LRANGE k 0 -1`: the values reversed -/
theorem lpush_lrange (mode : Mode) (s : Sys) (c : Nat) (hr : Ready s c) (hi : s.DataInv) (nPush nRange : Bytes)
    (h1 : Spells nPush "lpush") (h2 : Spells nRange "lrange") (k v : Bytes) (vs : List Bytes)
    (hk : (view s c).live k = none) :
    (run mode s [(c, nPush :: k :: v :: vs), (c, [nRange, k, strBytes "0", strBytes "-1"])]).out =
      (c, Reply.bulks (v :: vs).reverse) :: (c, .int ((v :: vs).length : Nat)) :: s.out := by
  rw [bytes_0, bytes_m1]
  refine ((Steps.cons (lpush_step mode c h1 k [] v vs) (.cons (lrange_step mode c h2 k _ [48] [45, 49] 0 (-1) rfl rfl)
    .nil)).out s hr hi (FR.ListKeys.listView_missing hk)).trans ?_
  rw [lrangeSpec_all]
  simp

example : (run {} s0 [(1, [strBytes "lpush", wk, [1], [2]]), (1, [strBytes "LRANGE", wk, strBytes "0", strBytes "-1"])]).out =
    [(1, Reply.bulks [[2], [1]]), (1, .int 2)] :=
  lpush_lrange {} s0 1 ready1 inv0 _ _ (spells_self _) (by decide +kernel) wk [1] [[2]] wk_free

/-- `RPUSH k v₁ … vₙ` on a key that is not live, then `LINDEX k i` (any index, Python-style negative indices) and
`LPOP k`: the element at `i` (nil when out of range), then `v₁` -/
theorem rpush_lindex_lpop (mode : Mode) (s : Sys) (c : Nat) (hr : Ready s c) (hi : s.DataInv)
    (nPush nIdx nPop : Bytes) (h1 : Spells nPush "rpush") (h2 : Spells nIdx "lindex") (h3 : Spells nPop "lpop")
    (k v : Bytes) (vs : List Bytes) (hk : (view s c).live k = none) (ib : Bytes) (i : Int)
    (hib : Conv.int ib = .ok i) :
    (run mode s [(c, nPush :: k :: v :: vs), (c, [nIdx, k, ib]), (c, [nPop, k])]).out =
      (c, .bulk v) :: (c, Reply.ofOptBulk (Py.index? (v :: vs) i)) :: (c, .int ((v :: vs).length : Nat)) :: s.out := by
  exact (Steps.cons (rpush_step mode c h1 k [] v vs) (.cons (lindex_step mode c h2 k ([] ++ v :: vs) ib i hib)
    (.cons (lpop_step mode c h3 k v vs) .nil))).out s hr hi (FR.ListKeys.listView_missing hk)

example : (run {} s0 [(1, [strBytes "rpush", wk, wv, [0]]), (1, [strBytes "lindex", wk, strBytes "-1"]),
    (1, [strBytes "lpop", wk])]).out = [(1, .bulk wv), (1, .bulk [0]), (1, .int 2)] :=
  rpush_lindex_lpop {} s0 1 ready1 inv0 _ _ _ (spells_self _) (spells_self _) (spells_self _) wk wv [[0]]
    wk_free _ (-1) (by rw [bytes_m1]; rfl)

/-! ## 3. hashes, sets, sorted sets -/

/-- `HSET k f v` on a key that is not live or holds a hash without deadline, then `HGET k f`: `v` -/
theorem hset_hget (mode : Mode) (s : Sys) (c : Nat) (hr : Ready s c) (hi : s.DataInv) (nSet nGet : Bytes)
    (h1 : Spells nSet "hset") (h2 : Spells nGet "hget") (k f v : Bytes) (h : FR.HashSet.HashV)
    (hv : FR.HashSet.hashView (view s c).live k = some (h, none)) :
    (run mode s [(c, [nSet, k, f, v]), (c, [nGet, k, f])]).out =
      (c, .bulk v) :: (c, .int (if (h.lookup f).isSome then 0 else 1)) :: s.out := by
  refine ((Steps.cons (hset_step mode c h1 k f v h) (.cons (hget_step mode c h2 k f _) .nil)).out s hr hi hv).trans ?_
  simp only [List.map, List.reverse_cons, List.reverse_nil, List.nil_append, List.cons_append]
  rw [hsetRec_single_lookup]
  have : (FR.HashSet.hsetRec h [(f, v)]).2 = if (h.lookup f).isSome then 0 else 1 := by
    simp only [FR.HashSet.hsetRec, FR.HashSet.any_eq_isSome]
    cases (h.lookup f).isSome <;> rfl
  rw [this]
  cases (h.lookup f).isSome <;> rfl

/-- `HSET k f v` on a key that is not live, then `HGETALL k`: exactly `[f, v]` -/
theorem hset_hgetall (mode : Mode) (s : Sys) (c : Nat) (hr : Ready s c) (hi : s.DataInv) (nSet nAll : Bytes)
    (h1 : Spells nSet "hset") (h2 : Spells nAll "hgetall") (k f v : Bytes) (hk : (view s c).live k = none) :
    (run mode s [(c, [nSet, k, f, v]), (c, [nAll, k])]).out = (c, .arr [.bulk f, .bulk v]) :: (c, .int 1) :: s.out := by
  exact (Steps.cons (hset_step mode c h1 k f v []) (.cons (hgetall_step mode c h2 k _) .nil)).out s hr hi
    (FR.HashSet.hashC.see_missing hk)

example : (run {} s0 [(1, [strBytes "HSET", wk, wv, wk]), (1, [strBytes "hgetall", wk])]).out =
    [(1, .arr [.bulk wv, .bulk wk]), (1, .int 1)] :=
  hset_hgetall {} s0 1 ready1 inv0 _ _ (by decide +kernel) (spells_self _) wk wv wk wk_free
example : (run {} s0 [(1, [strBytes "hset", wk, [], []]), (1, [strBytes "HGET", wk, []])]).out =
    [(1, .bulk []), (1, .int 1)] :=
  hset_hget {} s0 1 ready1 inv0 _ _ (spells_self _) (by decide +kernel) wk [] [] []
    (FR.HashSet.hashC.see_missing wk_free)

/-- `SADD k m` on a key that is not live, then `SISMEMBER k m` and `SMEMBERS k`: 1, and exactly `[m]` -/
theorem sadd_sismember_smembers (mode : Mode) (s : Sys) (c : Nat) (hr : Ready s c) (hi : s.DataInv)
    (nAdd nIs nMem : Bytes) (h1 : Spells nAdd "sadd") (h2 : Spells nIs "sismember") (h3 : Spells nMem "smembers")
    (k m : Bytes) (hk : (view s c).live k = none) :
    (run mode s [(c, [nAdd, k, m]), (c, [nIs, k, m]), (c, [nMem, k])]).out =
      (c, Reply.bulks [m]) :: (c, .int 1) :: (c, .int 1) :: s.out := by
  refine ((Steps.cons (sadd_step mode c h1 k m []) (.cons (sismember_step mode c h2 k m _)
    (.cons (smembers_step mode c h3 k _) .nil))).out s hr hi (FR.HashSet.setC.see_missing hk)).trans ?_
  have e : Cmd.setUnion [] [m] = [m] := rfl
  rw [e]
  simp

example : (run {} s0 [(1, [strBytes "sadd", wk, wv]), (1, [strBytes "SISMEMBER", wk, wv]), (1, [strBytes "smembers", wk])]).out =
    [(1, Reply.bulks [wv]), (1, .int 1), (1, .int 1)] :=
  sadd_sismember_smembers {} s0 1 ready1 inv0 _ _ _ (spells_self _) (by decide +kernel) (spells_self _) wk wv
    wk_free

/-- `ZADD k 1 m` on a key that is not live, then `ZRANGE k 0 -1` and `ZSCORE k m`: exactly `[m]`, and the score `1` -/
theorem zadd_zrange_zscore (mode : Mode) (s : Sys) (c : Nat) (hr : Ready s c) (hi : s.DataInv)
    (nAdd nRange nScore : Bytes) (h1 : Spells nAdd "zadd") (h2 : Spells nRange "zrange") (h3 : Spells nScore "zscore")
    (k m : Bytes) (hk : (view s c).live k = none) :
    (run mode s [(c, [nAdd, k, strBytes "1", m]), (c, [nRange, k, strBytes "0", strBytes "-1"]),
      (c, [nScore, k, m])]).out =
      (c, .bulk (strBytes "1")) :: (c, .arr [.bulk m]) :: (c, .int 1) :: s.out := by
  rw [bytes_0, bytes_m1, bytes_1]
  exact (Steps.cons (zadd_one_step mode c h1 k m) (.cons (zrange_one_step mode c h2 k m)
    (.cons (zscore_one_step mode c h3 k m) .nil))).out s hr hi hk

example : (run {} s0 [(1, [strBytes "ZADD", wk, strBytes "1", wv]), (1, [strBytes "zrange", wk, strBytes "0", strBytes "-1"]),
    (1, [strBytes "zscore", wk, wv])]).out = [(1, .bulk (strBytes "1")), (1, .arr [.bulk wv]), (1, .int 1)] :=
  zadd_zrange_zscore {} s0 1 ready1 inv0 _ _ _ (by decide +kernel) (spells_self _) (spells_self _) wk wv
    wk_free

/-! ## 4. key names -/

/-- `SET k v; EXISTS k; DEL k`: 1 and 1 -/
theorem set_exists_del (mode : Mode) (s : Sys) (c : Nat) (hr : Ready s c) (hi : s.DataInv) (nSet nEx nDel : Bytes)
    (h1 : Spells nSet "set") (h2 : Spells nEx "exists") (h3 : Spells nDel "del") (k v : Bytes) :
    (run mode s [(c, [nSet, k, v]), (c, [nEx, k]), (c, [nDel, k])]).out =
      (c, .int 1) :: (c, .int 1) :: (c, .ok) :: s.out := by
  exact (Steps.cons (set_step mode c h1 k v) (.cons (exists_step mode c h2 k _)
    (.cons (del_step mode c h3 k _) .nil))).out s hr hi trivial

/-- `SET k v; RENAME k k'; GET k'`: the value arrives under the new name (also for `k' = k`) -/
theorem set_rename_get (mode : Mode) (s : Sys) (c : Nat) (hr : Ready s c) (hi : s.DataInv) (nSet nRen nGet : Bytes)
    (h1 : Spells nSet "set") (h2 : Spells nRen "rename") (h3 : Spells nGet "get") (k k' v : Bytes) :
    (run mode s [(c, [nSet, k, v]), (c, [nRen, k, k']), (c, [nGet, k'])]).out =
      (c, .bulk v) :: (c, .ok) :: (c, .ok) :: s.out := by
  exact (Steps.cons (set_step mode c h1 k v) (.cons (rename_step mode c h2 k k' _)
    (.cons (get_held mode c h3 k' v) .nil))).out s hr hi trivial

/-- `SET k v; TYPE k`: `string` -/
theorem set_type (mode : Mode) (s : Sys) (c : Nat) (hr : Ready s c) (hi : s.DataInv) (nSet nType : Bytes)
    (h1 : Spells nSet "set") (h2 : Spells nType "type") (k v : Bytes) :
    (run mode s [(c, [nSet, k, v]), (c, [nType, k])]).out = (c, .status (strBytes "string")) :: (c, .ok) :: s.out := by
  exact (Steps.cons (set_step mode c h1 k v) (.cons (type_step mode c h2 k _) .nil)).out s hr hi trivial

example : (run {} s0 [(1, [strBytes "set", wk, wv]), (1, [strBytes "EXISTS", wk]), (1, [strBytes "del", wk])]).out =
    [(1, .int 1), (1, .int 1), (1, .ok)] :=
  set_exists_del {} s0 1 ready1 inv0 _ _ _ (spells_self _) (by decide +kernel) (spells_self _) wk wv
example : (run {} s0 [(1, [strBytes "set", wk, wv]), (1, [strBytes "rename", wk, []]), (1, [strBytes "get", []])]).out =
    [(1, .bulk wv), (1, .ok), (1, .ok)] :=
  set_rename_get {} s0 1 ready1 inv0 _ _ _ (spells_self _) (spells_self _) (spells_self _) wk [] wv
example : (run {} s0 [(1, [strBytes "set", wk, wv]), (1, [strBytes "type", wk])]).out =
    [(1, .status (strBytes "string")), (1, .ok)] :=
  set_type {} s0 1 ready1 inv0 _ _ (spells_self _) (spells_self _) wk wv

/-! ## 5. MULTI / EXEC -/

/-- `MULTI; SET k v; GET k; EXEC` (nothing watched was touched): OK, QUEUED, QUEUED and the array `[OK, v]` — the
argument bytes travel through the queue unchanged -/
theorem multi_set_get_exec (mode : Mode) (s : Sys) (c : Nat) (hr : Ready s c) (hi : s.DataInv)
    (hw : (s.conn c).watchNotified = false) (nMulti nSet nGet nExec : Bytes)
    (h1 : Spells nMulti "multi") (h2 : Spells nSet "set") (h3 : Spells nGet "get") (h4 : Spells nExec "exec")
    (k v : Bytes) :
    (run mode s [(c, [nMulti]), (c, [nSet, k, v]), (c, [nGet, k]), (c, [nExec])]).out =
      (c, .arr [.ok, .bulk v]) :: (c, .queued) :: (c, .queued) :: (c, .ok) :: s.out := by
  obtain ⟨o1, q1, d1, _⟩ := multi_step mode hr hw h1
  obtain ⟨o2, q2, d2, _⟩ := queued_step mode q1 nSet [k, v] (h2.lookup.trans reg_set.look)
    (show FR.StrKeys.sigSet.checkArity 2 = true by decide) (by decide) (by decide)
  obtain ⟨o3, q3, d3, _⟩ := queued_step mode q2 nGet [k] (h3.lookup.trans reg_get.look)
    (show FR.StrKeys.sigGet.checkArity 1 = true by decide) (by decide) (by decide)
  have i3 : (after mode (after mode (after mode s (c, [nMulti])) (c, [nSet, k, v])) (c, [nGet, k])).DataInv :=
    hi.frame (d3.trans (d2.trans d1))
  obtain ⟨o4, _⟩ := exec_set_get_step mode k v q3 i3 h4
  simp only [run_cons, run_nil]
  rw [o4, o3, o2, o1]

example : (run {} s0 [(1, [strBytes "MULTI"]), (1, [strBytes "set", wk, wv]), (1, [strBytes "GET", wk]),
    (1, [strBytes "exec"])]).out = [(1, .arr [.ok, .bulk wv]), (1, .queued), (1, .queued), (1, .ok)] :=
  multi_set_get_exec {} s0 1 ready1 inv0 rfl _ _ _ _ (by decide +kernel) (spells_self _) (by decide +kernel)
    (spells_self _) wk wv

/-! ## 6. pub/sub -/

/-- `PUBLISH ch m` from an idle connection (no closed socket waiting for clean-up), in general: the messages of
`deliveries` (C10: `["message", ch, m]` to the subscribers of `ch`, `["pmessage", pat, ch, m]` to the matching pattern
subscribers) go out first, then the publisher gets their number.  Channel and message bytes are copied, never
interpreted. -/
theorem publish_on_the_wire (mode : Mode) (s : Sys) (P : Nat) (hr : Ready s P) (hcs : s.srv.closedSockets = [])
    (nPub : Bytes) (h : Spells nPub "publish") (ch m : Bytes) :
    (run mode s [(P, [nPub, ch, m])]).out =
      (P, .int (deliveries s.srv ch m).length) ::
        (((deliveries s.srv ch m).filter fun d => !(s.conn d.1).closed).reverse ++ s.out) :=
  publish_step mode hr hcs h ch m

/-- On a server without subscriptions: `S` sends `SUBSCRIBE ch` and is acknowledged with the very bytes of `ch`; then
`PUBLISH ch m` from another connection `P` emits to `S` exactly `["message", ch, m]` and answers 1 to `P` -/
theorem subscribe_publish (mode : Mode) (s : Sys) (S P : Nat) (hS : Ready s S) (hP : Ready s P) (hne : P ≠ S)
    (hsubs : s.srv.subs = []) (hpsubs : s.srv.psubs = []) (nSub nPub : Bytes)
    (h1 : Spells nSub "subscribe") (h2 : Spells nPub "publish") (ch m : Bytes) :
    (run mode s [(S, [nSub, ch]), (P, [nPub, ch, m])]).out =
      (P, .int 1) :: (S, .arr [.bulk (strBytes "message"), .bulk ch, .bulk m]) ::
        (S, .arr [.bulk (strBytes "subscribe"), .bulk ch, .int 1]) :: s.out := by
  obtain ⟨o1, hs, hps, hcs, hcl, _, hready⟩ := subscribe_step mode hS hsubs hpsubs h1 ch
  have o2 := publish_step mode (hready P hne hP) hcs h2 ch m
  simp only [run_cons, run_nil]
  rw [o2, o1]
  have hd : deliveries (after mode s (S, [nSub, ch])).srv ch m =
      [(S, .arr [.bulk (strBytes "message"), .bulk ch, .bulk m])] := by
    unfold deliveries
    rw [hs, hps]
    simp
  rw [hd]
  simp [hcl]

example : (run {} s0 [(1, [strBytes "SUBSCRIBE", wk]), (2, [strBytes "publish", wk, wv])]).out =
    [(2, .int 1), (1, .arr [.bulk (strBytes "message"), .bulk wk, .bulk wv]),
      (1, .arr [.bulk (strBytes "subscribe"), .bulk wk, .int 1])] :=
  subscribe_publish {} s0 1 2 ready1 ready2 (by decide) rfl rfl _ _ (by decide +kernel) (spells_self _) wk wv

/-! ## 7. only the command name is case-normalised -/

/-- any letter case of the name spells the command; nothing else does -/
example : Spells (strBytes "SET") "set" ∧ Spells (strBytes "sEt") "set" ∧ Spells (strBytes "set") "SET" ∧
    ¬ Spells (strBytes "se") "set" ∧ ¬ Spells [83, 69, 84, 0] "set" := by
  refine ⟨by decide +kernel, by decide +kernel, by decide +kernel, ?_, ?_⟩ <;> (unfold Spells; decide +kernel)

/-- two requests whose names differ only in ASCII letter case and whose arguments are the same bytes leave the same
state (same replies, same data) — hence every theorem above holds for every spelling of the names -/
theorem name_case_irrelevant (mode : Mode) (s : Sys) (c : Nat) (hr : Ready s c) (n1 n2 : Bytes)
    (h : n1.map lowerByte = n2.map lowerByte) (args : List Bytes) :
    run mode s [(c, n1 :: args)] = run mode s [(c, n2 :: args)] :=
  after_case_insensitive mode hr.has hr.buf hr.dead hr.paused hr.connected n1 n2 h args

/-- keys are not normalised: after `SET K v`, a `GET k` for a key `k ≠ K` (for instance `K` in another letter
case) that was not live replies nil (clock readings `t1 ≤ t2` of the two commands) -/
theorem keys_are_case_sensitive (mode : Mode) (s : Sys) (c : Nat) (hr : Ready s c) (hi : s.DataInv)
    (nSet nGet : Bytes) (h1 : Spells nSet "set") (h2 : Spells nGet "get") (K k v : Bytes) (hne : k ≠ K)
    (t1 t2 : Int) (rest : List Int) (hclk : s.clocks = t1 :: t2 :: rest) (hmono : t1 ≤ t2)
    (hk : (view s c).live k = none) :
    (run mode s [(c, [nSet, K, v]), (c, [nGet, k])]).out = (c, .nil) :: (c, .ok) :: s.out := by
  obtain ⟨o1, r1, i1, _⟩ := set_step mode c h1 K v s hr hi trivial
  obtain ⟨o2, _⟩ := get_step mode r1 i1 h2 k
  have hk' := set_other_step mode hr hi h1 K v k hne hclk hmono hk
  simp only [run_cons, run_nil]
  rw [o2, o1, hk']

/-- `SET KEY v` then `GET key` on the fresh server: nil -/
example : (run {} { s0 with clocks := [5, 7] } [(1, [strBytes "set", strBytes "KEY", wv]), (1, [strBytes "get", strBytes "key"])]).out =
    [(1, .nil), (1, .ok)] :=
  keys_are_case_sensitive {} { s0 with clocks := [5, 7] } 1
    ⟨⟨_, List.mem_cons_self, rfl⟩, rfl, rfl, rfl, rfl, rfl, rfl, by decide, rfl, rfl⟩ (Sys.dataInv_init.frame rfl)
    _ _ (spells_self _) (spells_self _) (strBytes "KEY") (strBytes "key") wv (by decide +kernel) 5 7 [] rfl
    (by decide) (by decide +kernel)

/-! ## 8. pipelining: several requests in one write -/

/-- two requests written with one `sendall` leave the same state as two separate writes, when the
connection is alive (and the server up) after the first -/
theorem pipelined (mode : Mode) (s : Sys) (c : Nat) (r1 r2 : List Bytes) (hup : s.srv.connected = true)
    (hup1 : (after mode s (c, r1)).srv.connected = true)
    (halive : ((after mode s (c, r1)).conn c).dead = false) :
    ((sendallGuarded mode c (encodeRequest r1 ++ encodeRequest r2)).run s).2 = run mode s [(c, r1), (c, r2)] := by
  have e1 : after mode s (c, r1) = ((sendall mode c (encodeRequest r1)).run s).2 := by
    unfold after; rw [FR.Props.C20.connected_sendall mode c _ s hup]
  simp only [run_cons, run_nil]
  have e2 : after mode (after mode s (c, r1)) (c, r2) =
      ((sendall mode c (encodeRequest r2)).run (after mode s (c, r1))).2 := by
    show ((sendallGuarded mode c (encodeRequest r2)).run (after mode s (c, r1))).2 = _
    rw [FR.Props.C20.connected_sendall mode c _ _ hup1]
  rw [e2, e1, FR.Props.C20.connected_sendall mode c _ s hup]
  have h := FR.BufIndep.sendall_append mode c (encodeRequest r1) (encodeRequest r2) s (by rw [← e1]; exact halive)
  rw [← h]
  rfl

/-- `SET k v` and `GET k` pipelined in one write: same replies -/
theorem set_get_pipelined (mode : Mode) (s : Sys) (c : Nat) (hr : Ready s c) (hi : s.DataInv) (nSet nGet : Bytes)
    (h1 : Spells nSet "set") (h2 : Spells nGet "get") (k v : Bytes) :
    ((sendallGuarded mode c (encodeRequest [nSet, k, v] ++ encodeRequest [nGet, k])).run s).2.out =
      (c, .bulk v) :: (c, .ok) :: s.out := by
  obtain ⟨_, r1, _, _⟩ := set_step mode c h1 k v s hr hi trivial
  rw [pipelined mode s c _ _ hr.connected r1.connected r1.dead]
  exact set_get mode s c hr hi nSet nGet h1 h2 k v

example : ((sendallGuarded {} 1 (encodeRequest [strBytes "SET", wk, wv] ++ encodeRequest [strBytes "get", wk])).run s0).2.out =
    [(1, .bulk wv), (1, .ok)] :=
  set_get_pipelined {} s0 1 ready1 inv0 _ _ (by decide +kernel) (spells_self _) wk wv

end FR.Props.C17s

import FR.Proofs.ErrSys
/-!
# A command answered with an error changes nothing (C08 for `_process_command`, EXEC's queue, script calls); wrong type

`FR/Props/C08.lean` states C08 for the generic runner `runRegular` on one database.  This file states it for
`_process_command` (`processCommand`) and `_run_command` (`runCommand`, `runWith`), i.e. for *all* commands: the
regular ones, the special ones dispatched by `special` (SELECT, SWAPDB, MOVE, SCAN, SORT, ZUNIONSTORE/ZINTERSTORE,
MULTI/DISCARD/WATCH/UNWATCH, (P)SUBSCRIBE/(P)UNSUBSCRIBE/PUBLISH, the blocking pops, SCRIPT, FLUSHDB/FLUSHALL, …),
unknown commands, arity errors and the refusals of `runGate`; for EXEC itself, for each inner command of EXEC and
for each `redis.call` of a script.

Vocabulary (`Sys.prologue` in `FR/Proofs/Dispatch.lean`, the rest in `FR/Proofs/ErrSys.lean`):

* `s.prologue` — the state in which a *known* command is checked and run: `_cleanup` of the sockets closed meanwhile
  has run and the clock has been read (`srv.time` refreshed, one clock hint consumed).  The clock of course
  advances; `prologue_only_clock` says that nothing else does when no socket was closed.
* `ErrAnswered mode c fields s` — the request is answered with an error: unknown command, wrong arity,
  (P)SUBSCRIBE / (P)UNSUBSCRIBE while a MULTI is open ("Command not allowed inside a transaction"), or (run at
  once) `_run_command` refuses it in subscriber mode (`Sys.refuses`: before the arguments are looked at) / the generic
  runner ends on an error path (`failed`) / `_run_command` of a special command returns `.err`.
  "The reply list grows by exactly one error" implies it (`out_error_imp_errAnswered`).
* `ErrStep c r f s1 s'` — `s'` is `s1` where every database is **purge-equal** at the (unchanged) clock
  (`Db.purge`-equal: identical up to lazy deletion of already-expired entries; unique keys on both sides), every other
  server field (`subs`, `psubs`, `scripts`, `time`, `lastsave`, `closedSockets`, …) is identical, every connection
  record other than `c`'s is identical, `c`'s record is changed by `f`, and the reply list grows by `(c, r)`
  (by nothing if the socket is closed).  Only the replay bookkeeping (`clocks`, `picks`, `fault`, `crashed`) is free.
-/
namespace FR.Props.C08s
open FR FR.M FR.ErrSys

/-! ## 1. `_process_command`: an error answer changes nothing -/

/-- **Main theorem (1).**  If the request `nameB :: args` of connection `c` is answered with an error and the
command is not EXEC / EVAL / EVALSHA, then relative to `base` (`s` itself for an unknown command — no clean-up, no
clock refresh —, `s.prologue` for a known one):

* every database is purge-equal, `srv.subs`, `srv.psubs`, `srv.scripts` and all other server fields are identical,
* every other connection record is identical (`tx`, `txFailed`, `watches`, `watchNotified`, `parked`, `buf`, …),
* the record of `c` is unchanged (`f = id`), or gets `txFailed := true` — exactly when the error (unknown command,
  wrong arity, (P)SUBSCRIBE / (P)UNSUBSCRIBE refused) happens while a MULTI is open —, or gets `dead := true` — only when the `crashed` marker of the replay
  is set (never after `Sys.beginEvent`),
* exactly one reply, an error, is appended for `c`. -/
theorem error_answer_changes_nothing (mode : Mode) (c : Nat) (nameB : Bytes) (args : List Bytes) (s : Sys)
    (hnd : NodupDbs s) (herr : ErrAnswered mode c (nameB :: args) s)
    (hx : ∀ sig, lookupSig nameB = some sig → sig.name ≠ "exec" ∧ sig.name ≠ "eval" ∧ sig.name ≠ "evalsha") :
    ∃ e f, ErrStep c (.err e) f (if (lookupSig nameB).isSome then s.prologue else s)
        (processCommand mode c (nameB :: args) s).2 ∧
      (f = id ∨ (f = markTxFailed ∧ (s.conn c).tx.isSome = true) ∨
        (f = markDead ∧ (processCommand mode c (nameB :: args) s).2.crashed.isSome = true)) :=
  let ⟨e, f, h, _, hf⟩ := processCommand_errStep mode c nameB args s hnd herr (fun sig hl => (hx sig hl).2)
  ⟨e, f, h, hf fun sig hl => (hx sig hl).1⟩

/-- The same, with the hypothesis stated on the reply list as the property does: "the step emits an error reply for
this request" — `out` grows by exactly `(c, .err e)`. -/
theorem error_reply_changes_nothing (mode : Mode) (c : Nat) (nameB : Bytes) (args : List Bytes) (s : Sys) (e : Bytes)
    (hnd : NodupDbs s)
    (hout : (processCommand mode c (nameB :: args) s).2.out = (c, .err e) :: s.out)
    (hx : ∀ sig, lookupSig nameB = some sig → sig.name ≠ "exec" ∧ sig.name ≠ "eval" ∧ sig.name ≠ "evalsha") :
    ∃ e' f, ErrStep c (.err e') f (if (lookupSig nameB).isSome then s.prologue else s)
        (processCommand mode c (nameB :: args) s).2 ∧
      (f = id ∨ (f = markTxFailed ∧ (s.conn c).tx.isSome = true) ∨
        (f = markDead ∧ (processCommand mode c (nameB :: args) s).2.crashed.isSome = true)) :=
  let ⟨e', f, h, _, hf⟩ := processCommand_errStep mode c nameB args s hnd
    (errAnswered_of_out mode c nameB args s e hout fun sig body _ hreg => regular_noErrReply sig.name body hreg)
    (fun sig hl => (hx sig hl).2)
  ⟨e', f, h, hf fun sig hl => (hx sig hl).1⟩

/-- "the reply list grows by exactly one error" implies `ErrAnswered` (for all commands, EXEC and scripts included) -/
theorem out_error_imp_errAnswered (mode : Mode) (c : Nat) (nameB : Bytes) (args : List Bytes) (s : Sys) (e : Bytes)
    (hout : (processCommand mode c (nameB :: args) s).2.out = (c, .err e) :: s.out) :
    ErrAnswered mode c (nameB :: args) s :=
  errAnswered_of_out mode c nameB args s e hout (fun sig body _ hreg => regular_noErrReply sig.name body hreg)

/-- the bodies of all 103 regular commands raise their errors: none returns an error-shaped reply as a result, so
for a regular command "the reply is an error" and "the runner ended on an error path" coincide -/
theorem regular_bodies_raise (name : String) (body : Body) (h : Cmd.regular name = some body) : NoErrReply body :=
  regular_noErrReply name body h

/-- the prologue changes no database; when no socket was closed meanwhile it changes nothing but the clock -/
theorem prologue_only_clock (s : Sys) :
    s.prologue.srv.dbs = s.srv.dbs ∧ s.prologue.out = s.out ∧
      (s.srv.closedSockets = [] → s.prologue.srv = { s.srv with time := (nextClock s).1 }) :=
  ⟨s.prologue_dbs, s.prologue_out, fun h => (prologue_srv_of_no_closed h).1⟩

/-- what `ErrStep` means for one key: same live value and same expiry in every database -/
theorem error_keeps_every_live_item {c : Nat} {r : Reply} {f : Conn → Conn} {s1 s' : Sys} (h : ErrStep c r f s1 s')
    (i : Nat) (k : Bytes) : (s'.dbAt i).live k = (s1.dbAt i).live k :=
  h.live_eq i k

/-- what `ErrStep` means for the other clients: their whole connection record (transaction state included) is
identical -/
theorem error_keeps_other_connections {c : Nat} {r : Reply} {f : Conn → Conn} {s1 s' : Sys} (h : ErrStep c r f s1 s')
    (hid : ∀ x, (f x).id = x.id) {c' : Nat} (hne : c' ≠ c) : s'.conn c' = s1.conn c' := by
  have : s'.srv.conns = (s1.updConn c f).srv.conns := h.conns
  rw [conn_of_conns_eq this, Sys.conn_updConn_ne f hne hid]

/-! ### non-vacuity -/

/-- executable form of `badO` / `ErrAnswered` / `InnerErr` / `CallErr`, so that the examples can be decided -/
def badOB : Option Reply → Bool
  | some (.err _) => true
  | _ => false

theorem badO_iff (r : Option Reply) : badO r ↔ badOB r = true := by
  cases r with
  | none => exact ⟨fun h => h.elim, fun h => by cases h⟩
  | some r => cases r <;> first | exact ⟨fun _ => rfl, fun _ => trivial⟩ | exact ⟨fun h => h.elim, fun h => by cases h⟩

instance (priority := high) decErrAnswered (mode : Mode) (c : Nat) (fields : List Bytes) (s : Sys) :
    Decidable (ErrAnswered mode c fields s) :=
  match fields with
  | [] => isFalse (fun h => h)
  | nameB :: args =>
    match h : lookupSig nameB with
    | none => isTrue (by unfold ErrAnswered; simp only [h])
    | some sig =>
      if ha : (!sig.checkArity args.length) = true then
        isTrue (by unfold ErrAnswered; simp only [h]; rw [if_pos ha]; trivial)
      else if hq : ((s.conn c).tx.isSome && !SigTable.notQueued.contains sig.name) = true then
        decidable_of_iff (SigTable.notInMulti.contains sig.name = true)
          (by unfold ErrAnswered; simp only [h]; rw [if_neg ha, if_pos hq])
      else
        match hr : Cmd.regular sig.name with
        | some body =>
          decidable_of_iff
            (s.prologue.refuses c sig = true ∨ (s.prologue.regularOut c sig body args false).failed = true)
            (by unfold ErrAnswered; simp only [h]; rw [if_neg ha, if_neg hq]; simp only [hr])
        | none =>
          decidable_of_iff (badOB (runCommand mode c sig args false s.prologue).1 = true)
            (by unfold ErrAnswered; simp only [h]; rw [if_neg ha, if_neg hq]; simp only [hr]
                exact (badO_iff _).symm)

/-- one database with a list at `a` (and an expired string at `z`), one connection -/
def exSys : Sys :=
  { srv := { dbs := [[([97], ⟨.list [[1]], none⟩), ([122], ⟨.str [2], some 1⟩)]], conns := [{ id := 1 }] },
    clocks := [5] }

theorem exSys_nodup : NodupDbs exSys := by
  intro d hd
  simp only [exSys, List.mem_singleton] at hd
  subst hd
  unfold NodupKeys
  decide

/-- APPEND to a list key: a regular command failing with WRONGTYPE -/
example : ErrAnswered {} 1 [strBytes "append", [97], [120]] exSys := by decide +kernel

example : (processCommand {} 1 [strBytes "append", [97], [120]] exSys).2.out.map
    (fun p => (p.1, match p.2 with | .err m => some m | _ => none)) = [(1, some (strBytes Msgs.WRONGTYPE_MSG))] := by
  decide +kernel

/-- `SELECT x`: an argument error of a special command; `nosuch`: unknown command; `GET` without key: arity;
DISCARD without MULTI: a special body raising (the hypothesis of `special_spec`) -/
example : ErrAnswered {} 1 [strBytes "select", [120]] exSys := by decide +kernel
example : errS (special stubInner {} 1 "discard" [] [] exSys).1 := by
  have h : (special stubInner {} 1 "discard" [] [] exSys).1 = .error (Msgs.fmt1 Msgs.WITHOUT_MULTI_MSG "DISCARD") := rfl
  rw [h]; trivial
example : ErrAnswered {} 1 [strBytes "nosuch"] exSys := by decide +kernel
example : ErrAnswered {} 1 [strBytes "get"] exSys := by decide +kernel

/-- subscriber mode: `LINDEX nokey 0` on a subscribed connection is answered with the context error although the
generic runner, had it been entered, would have short-cut on the missing key (`failed = false`); `GET z` (`z` expired)
likewise, and the expired entry is not even deleted lazily -/
def exSysSub : Sys :=
  { exSys with srv := { exSys.srv with conns := [{ id := 1, pubsub := 1 }] } }

example : ErrAnswered {} 1 [strBytes "lindex", strBytes "nokey", strBytes "0"] exSysSub ∧
    ErrAnswered {} 1 [strBytes "get", [122]] exSysSub := by decide +kernel

example : (processCommand {} 1 [strBytes "lindex", strBytes "nokey", strBytes "0"] exSysSub).2.out.map
      (fun p => (p.1, match p.2 with | .err m => some m | _ => none)) =
      [(1, some (strBytes Msgs.BAD_COMMAND_IN_PUBSUB_MSG))] ∧
    (processCommand {} 1 [strBytes "get", [122]] exSysSub).2.out.map
      (fun p => (p.1, match p.2 with | .err m => some m | _ => none)) =
      [(1, some (strBytes Msgs.BAD_COMMAND_IN_PUBSUB_MSG))] ∧
    (processCommand {} 1 [strBytes "get", [122]] exSysSub).2.srv.time = 5 ∧
    (processCommand {} 1 [strBytes "get", [122]] exSysSub).2.srv.dbs.map (·.map fun p => (p.1, p.2.expireat)) =
      [[([97], none), ([122], some 1)]] := by
  decide +kernel

/-- an unknown command inside MULTI marks the transaction as failed (`f = markTxFailed`) -/
def exSysMulti : Sys :=
  { exSys with srv := { exSys.srv with conns := [{ id := 1, tx := some [] }] } }

example : ((processCommand {} 1 [strBytes "nosuch"] exSysMulti).2.conn 1).txFailed = true ∧
    (exSysMulti.conn 1).txFailed = false := by decide +kernel

/-- SUBSCRIBE inside MULTI is answered with an error (refused, not queued): `ErrAnswered`, the reply, `txFailed`,
the queue as it was -/
example : ErrAnswered {} 1 [strBytes "subscribe", [120]] exSysMulti ∧
    (processCommand {} 1 [strBytes "subscribe", [120]] exSysMulti).2.out.map
      (fun p => (p.1, match p.2 with | .err m => some m | _ => none)) =
      [(1, some (strBytes Msgs.COMMAND_IN_MULTI_MSG))] ∧
    ((processCommand {} 1 [strBytes "subscribe", [120]] exSysMulti).2.conn 1).txFailed = true ∧
    ((processCommand {} 1 [strBytes "subscribe", [120]] exSysMulti).2.conn 1).tx = some [] := by decide +kernel

/-! ## 2. EXEC, its inner commands, script calls -/

/-- **EXEC answered with an error runs nothing.**  (No MULTI, EXECABORT after a queueing error, wrong arity,
subscriber mode.)  The databases are purge-equal, everything else of the server and all other connection records are
identical; in the record of `c` only `tx`, `txFailed`, `watches`, `watchNotified` (and `dead` under the `crashed`
marker) may change — `OnlyTx f` says every other field is kept. -/
theorem exec_error_runs_nothing (mode : Mode) (c : Nat) (nameB : Bytes) (args : List Bytes) (s : Sys)
    (hnd : NodupDbs s) {sig : Sig} (hl : lookupSig nameB = some sig) (hname : sig.name = "exec")
    (herr : ErrAnswered mode c (nameB :: args) s) :
    ∃ e f, ErrStep c (.err e) f s.prologue (processCommand mode c (nameB :: args) s).2 ∧ OnlyTx f := by
  obtain ⟨e, f, h, hf, _⟩ := processCommand_errStep mode c nameB args s hnd herr
    (fun sig' hl' => by cases hl.symm.trans hl'; rw [hname]; decide)
  rw [hl] at h
  exact ⟨e, f, h, hf⟩

/-- non-vacuity: `EXEC x` (arity), and EXEC without MULTI raising in `execCmd` -/
example : ErrAnswered {} 1 [strBytes "exec", [120]] exSys := by decide +kernel
example : errS (execCmd stubInner 1 [] exSys).1 := by
  rw [execCmd_run_none stubInner [] (s := exSys) (c := 1) rfl]; trivial

/-- **Each inner command of EXEC** (`queueStep`: set `inTx`, run the nested `_run_command`, clear `inTx`): if it
answers an error — `InnerErr`: a regular command is refused in subscriber mode or its runner ends on an error path,
resp. the nested `_run_command` of a special command other than EVAL / EVALSHA (excluded as for a direct request:
a script that ends in an error may have written before; for the errors raised before the script starts see
`FR.Props.C19m`) returns `.err` — its reply is that error and the state after it is the state before it up to
purge-equality of the databases and the `inTx` flag of `c` (which EXEC leaves cleared): `subs`, `psubs`, `scripts`,
the clock, the reply list and every other connection record are identical. -/
theorem exec_inner_error_changes_nothing (mode : Mode) (c : Nat) (a : String × List Bytes) {sig : Sig}
    (hf : SigTable.find a.1 = some sig) (hne : sig.name ≠ "exec") (h1 : sig.name ≠ "eval") (h2 : sig.name ≠ "evalsha")
    (s : Sys) (hnd : NodupDbs s)
    (herr : InnerErr mode c sig a.2 (s.updConn c setInTx)) :
    (∃ e, (queueStep (runInner mode c) c a s).1 = some (.err e)) ∧
      QuietUpTo c clearInTx s (queueStep (runInner mode c) c a s).2 :=
  queueStep_error mode c a hf hne h1 h2 s hnd herr

/-- `exec_inner_error_changes_nothing` through `runQueue`: the run of `pre ++ a :: post` is the run of `pre`, the step
`a`, the run of `post`; if step `a` answers an error, the state after it is the state after `pre` up to
`QuietUpTo c clearInTx` -/
theorem exec_each_inner_error (mode : Mode) (c : Nat) (pre post : List (String × List Bytes))
    (a : String × List Bytes) {sig : Sig} (hf : SigTable.find a.1 = some sig) (hne : sig.name ≠ "exec")
    (h1 : sig.name ≠ "eval") (h2 : sig.name ≠ "evalsha") (s : Sys)
    (hinv : s.DataInv)
    (herr : InnerErr mode c sig a.2 ((runQueue (runInner mode c) c pre s).2.updConn c setInTx)) :
    runQueue (runInner mode c) c (pre ++ a :: post) s =
      (let r1 := runQueue (runInner mode c) c pre s
       let r2 := queueStep (runInner mode c) c a r1.2
       let r3 := runQueue (runInner mode c) c post r2.2
       (r1.1 ++ r2.1 :: r3.1, r3.2)) ∧
    QuietUpTo c clearInTx (runQueue (runInner mode c) c pre s).2
      (queueStep (runInner mode c) c a (runQueue (runInner mode c) c pre s).2).2 :=
  ⟨runQueue_split _ c pre post a s, runQueue_each_error mode c pre a hf hne h1 h2 s hinv herr⟩

def innerErrB (mode : Mode) (c : Nat) (sig : Sig) (fargs : List Bytes) (s1 : Sys) : Bool :=
  match Cmd.regular sig.name with
  | some body => s1.refuses c sig || (s1.regularOut c sig body fargs false).failed
  | none => badOB (runInner mode c sig fargs s1).1

theorem innerErr_iff (mode : Mode) (c : Nat) (sig : Sig) (fargs : List Bytes) (s1 : Sys) :
    InnerErr mode c sig fargs s1 ↔ innerErrB mode c sig fargs s1 = true := by
  unfold InnerErr innerErrB
  cases Cmd.regular sig.name with
  | none => exact badO_iff _
  | some body => simp only [Bool.or_eq_true]

instance (mode : Mode) (c : Nat) (sig : Sig) (fargs : List Bytes) (s1 : Sys) :
    Decidable (InnerErr mode c sig fargs s1) :=
  decidable_of_iff _ (innerErr_iff mode c sig fargs s1).symm

/-- non-vacuity: `APPEND a x` queued in a transaction fails on the list key `a` -/
example : InnerErr {} 1 ⟨"append", [.key (some .str) .unspecified, .bytes], [], false, 2, 0, false⟩ [[97], [120]]
    (exSys.updConn 1 setInTx) := by decide +kernel

/-- **Each `redis.call` / `redis.pcall` of a script**: when the called command ends on an error path (`CallErr`:
refused in subscriber mode, the runner of a regular command fails, `_run_command` of a special command returns `.err`)
the bridge raises in Lua and the state is quiet — every database purge-equal, every other field of the server,
every connection record and the reply list identical. -/
theorem script_call_error_changes_nothing (mode : Mode) (c : Nat) (nameB : Bytes) (largs : List LuaVal) (s : Sys)
    {sig : Sig} {raw : List Bytes} (hl : lookupSig nameB = some sig)
    (hraw : largs.mapM (luaToArg s.srv.version) = .ok raw) (hne : sig.name ≠ "exec") (hnd : NodupDbs s)
    (herr : CallErr stubInner mode c sig raw true s) :
    (∃ e, (runFromScript (special stubInner) mode c (.str nameB) largs s).1 = .error e) ∧
      Quiet s (runFromScript (special stubInner) mode c (.str nameB) largs s).2 :=
  runFromScript_error mode c nameB largs s hl hraw hne hnd herr

/-- the lemma underneath everything: `_run_command` at any nesting level, from a script or not -/
theorem run_command_error_changes_nothing (inner : Inner) (mode : Mode) (c : Nat) (sig : Sig) (raw : List Bytes)
    (fs : Bool) (s1 : Sys) (hnd : NodupDbs s1) (hne : sig.name ≠ "exec") (herr : CallErr inner mode c sig raw fs s1) :
    (∃ e, (runWith (special inner) mode c sig raw fs s1).1 = some (.err e)) ∧
      Quiet s1 (runWith (special inner) mode c sig raw fs s1).2 :=
  runWith_error inner mode c sig raw fs s1 hnd hne herr

def callErrB (inner : Inner) (mode : Mode) (c : Nat) (sig : Sig) (raw : List Bytes) (fs : Bool) (s1 : Sys) : Bool :=
  match Cmd.regular sig.name with
  | some body => s1.refuses c sig || (s1.regularOut c sig body raw fs).failed
  | none => badOB (runWith (special inner) mode c sig raw fs s1).1

theorem callErr_iff (inner : Inner) (mode : Mode) (c : Nat) (sig : Sig) (raw : List Bytes) (fs : Bool) (s1 : Sys) :
    CallErr inner mode c sig raw fs s1 ↔ callErrB inner mode c sig raw fs s1 = true := by
  unfold CallErr callErrB
  cases Cmd.regular sig.name with
  | none => exact badO_iff _
  | some body => simp only [Bool.or_eq_true]

instance (inner : Inner) (mode : Mode) (c : Nat) (sig : Sig) (raw : List Bytes) (fs : Bool) (s1 : Sys) :
    Decidable (CallErr inner mode c sig raw fs s1) :=
  decidable_of_iff _ (callErr_iff inner mode c sig raw fs s1).symm

/-- non-vacuity: `redis.call('incr', 'a')` on the list key, and `redis.call('subscribe', 'x')` (not allowed in scripts) -/
example : CallErr stubInner {} 1 ⟨"incr", [.key (some .str) .unspecified], [], false, 1, 0, false⟩ [[97]] true exSys := by
  decide +kernel
example : CallErr stubInner {} 1 ⟨"subscribe", [.bytes], [.bytes], true, 0, 0, true⟩ [[120]] true exSys := by
  decide +kernel

/-! ## 3. Wrong type -/

/-- **`Signature.apply`.**  When an argument is a key of declared type `T` and the key holds a live value of another
type, the body is never entered: `apply` fails, or — the one exception — another key of the command that has a
`missing_return` is missing and the command is answered at once with that value (first pass of `apply`). -/
theorem wrongtype_apply (sig : Sig) (raw : List Bytes) {db : Db} (nd : NodupKeys db.dict) {i : Nat} {k : Bytes}
    {T : Ty} {mr : MissingRet} {it : Item}
    (hi : (raw.zip (sig.types raw.length))[i]? = some (k, .key (some T) mr))
    (hl : db.live k = some it) (ht : it.value.ty ≠ T) :
    (∃ e, (sig.apply raw db).2 = .error e) ∨ (∃ r, (sig.apply raw db).2 = .ok (.short r)) :=
  apply_wrongtype sig raw nd hi hl ht

/-- when the first pass goes through (arity accepted, every non-key argument decodes, no key with a
`missing_return` is missing) the error is WRONGTYPE -/
theorem wrongtype_apply_msg (sig : Sig) (raw : List Bytes) {db : Db} (nd : NodupKeys db.dict) {i : Nat} {k : Bytes}
    {T : Ty} {mr : MissingRet} {it : Item}
    (hi : (raw.zip (sig.types raw.length))[i]? = some (k, .key (some T) mr))
    (hl : db.live k = some it) (ht : it.value.ty ≠ T) {db1 : Db} {args : List Arg}
    (harity : sig.checkArity raw.length = true)
    (hrep : (!sig.rep.isEmpty && (raw.length - sig.fixed.length) % sig.rep.length != 0) = false)
    (hp1 : Sig.pass1 db (raw.zip (sig.types raw.length)) [] = (db1, .ok (.inr args))) :
    (sig.apply raw db).2 = .error Msgs.WRONGTYPE_MSG := by
  have h1 := Ttl.pass1_seen (raw.zip (sig.types raw.length)) db []
  rw [hp1, Db.seen_eq_live nd] at h1
  rw [Ttl.apply_eq sig raw nd]
  exact applyL_wrongtype_msg hi hl ht harity hrep h1.symm

/-- **`_run_command`** (any connection; directly, inside EXEC or from a script): the regular command is answered
with an error (or short-circuited by a missing key), it is quiet, and the key still holds the very same item — the
value is never reinterpreted, truncated or overwritten. -/
theorem wrongtype_run_command (special : SpecialFn) (mode : Mode) (c : Nat) (sig : Sig) (raw : List Bytes) (fs : Bool)
    {body : Body} (hreg : Cmd.regular sig.name = some body) (s : Sys) (hnd : NodupDbs s)
    {i : Nat} {k : Bytes} {T : Ty} {mr : MissingRet} {it : Item}
    (hi : (raw.zip (sig.types raw.length))[i]? = some (k, .key (some T) mr))
    (hl : (s.dbAt (s.conn c).db).live k = some it) (ht : it.value.ty ≠ T) :
    ((∃ e, (runWith special mode c sig raw fs s).1 = some (.err e)) ∨
        ∃ r, (sig.apply raw (s.dbAt (s.conn c).db)).2 = .ok (.short r)) ∧
      Quiet s (runWith special mode c sig raw fs s).2 ∧
      ((runWith special mode c sig raw fs s).2.dbAt (s.conn c).db).live k = some it :=
  runWith_wrongtype special mode c sig raw fs hreg s hnd hi hl ht

/-- **`_process_command`.** -/
theorem wrongtype_request (mode : Mode) (c : Nat) (nameB : Bytes) (args : List Bytes) (s : Sys)
    (hnd : NodupDbs s) {sig : Sig} {body : Body} (hl : lookupSig nameB = some sig)
    (hreg : Cmd.regular sig.name = some body) (ha : sig.checkArity args.length = true)
    (hq : ((s.conn c).tx.isSome && !SigTable.notQueued.contains sig.name) = false)
    {i : Nat} {k : Bytes} {T : Ty} {mr : MissingRet} {it : Item}
    (hi : (args.zip (sig.types args.length))[i]? = some (k, .key (some T) mr))
    (hlive : (s.prologue.dbAt (s.prologue.conn c).db).live k = some it) (ht : it.value.ty ≠ T) :
    ∃ r f, ((∃ e, r = Reply.err e) ∨
          (sig.apply args (s.prologue.dbAt (s.prologue.conn c).db)).2 = .ok (.short r)) ∧
      ErrStep c r f s.prologue (processCommand mode c (nameB :: args) s).2 ∧
      (f = id ∨ (f = markDead ∧ (processCommand mode c (nameB :: args) s).2.crashed.isSome = true)) ∧
      ((processCommand mode c (nameB :: args) s).2.dbAt (s.prologue.conn c).db).live k = some it :=
  processCommand_wrongtype mode c nameB args s hnd hl hreg ha hq hi hlive ht

/-- non-vacuity of the hypotheses: APPEND's first argument is a key declared `str`; `a` holds a list -/
example : ([[97], [120]].zip ((⟨"append", [.key (some .str) .unspecified, .bytes], [], false, 2, 0, false⟩ : Sig).types 2))[0]?
      = some ([97], .key (some .str) .unspecified) ∧
    ((exSys.prologue.dbAt (exSys.prologue.conn 1).db).live [97]).map (fun it => (it.value.ty, it.expireat))
      = some (.list, none) := by decide +kernel

/-- **The literal statement "answered with an error" is false of the model** (and of Redis): the missing-key
short-circuit of the first pass wins.  `RPOPLPUSH nosuch a` — destination `a` holds a string, not a list — is
answered `nil`, because the source key is missing. -/
def exSysStr : Sys := { srv := { dbs := [[([97], ⟨.str [1], none⟩)]], conns := [{ id := 1 }] }, clocks := [5] }

theorem wrongtype_masked_by_missing_key :
    (processCommand {} 1 [strBytes "rpoplpush", [110], [97]] exSysStr).2.out.map
        (fun p => (p.1, match p.2 with | .nil => true | _ => false)) = [(1, true)] ∧
    (((processCommand {} 1 [strBytes "rpoplpush", [110], [97]] exSysStr).2.dbAt 0).live [97]).map
        (fun it => (it.value.ty, it.expireat)) = some (.str, none) := by decide +kernel

end FR.Props.C08s

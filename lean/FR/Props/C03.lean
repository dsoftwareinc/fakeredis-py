import FR.Proofs.ZSet
/-!
# C03 — sorted sets: the two indexes agree, stay sorted, never hold NaN, and the read commands agree

Only final property theorems and non-vacuity examples.  Helper lemmas and the definition of the
invariant `ZSet.Inv` live in `FR/Proofs/ZSet.lean`.
-/
namespace FR.Props.C03
open FR FR.Cmd

/-! ## 1. Orders -/

/-- Python bytes comparison is a strict total order -/
theorem bytesLt_strict_total :
    (∀ a : Bytes, bytesLt a a = false) ∧
    (∀ a b c : Bytes, bytesLt a b = true → bytesLt b c = true → bytesLt a c = true) ∧
    (∀ a b : Bytes, bytesLt a b = true ∨ a = b ∨ bytesLt b a = true) :=
  ⟨bytesLt_irrefl, fun _ _ _ => bytesLt_trans, bytesLt_trichotomy⟩

/-- IEEE `<` / `==` on non-NaN doubles: `==` is an equivalence, `<` is transitive and compatible
with `==`, and exactly one of `a < b`, `a == b`, `b < a` holds -/
theorem dbl_strict_weak_order :
    (∀ a : Dbl, a.isNaN = false → Dbl.eq a a = true) ∧
    (∀ a b : Dbl, Dbl.eq a b = true → Dbl.eq b a = true) ∧
    (∀ a b c : Dbl, Dbl.eq a b = true → Dbl.eq b c = true → Dbl.eq a c = true) ∧
    (∀ a : Dbl, Dbl.lt a a = false) ∧
    (∀ a b c : Dbl, Dbl.lt a b = true → Dbl.lt b c = true → Dbl.lt a c = true) ∧
    (∀ a b c : Dbl, Dbl.lt a b = true → Dbl.eq b c = true → Dbl.lt a c = true) ∧
    (∀ a b c : Dbl, Dbl.eq a b = true → Dbl.lt b c = true → Dbl.lt a c = true) ∧
    (∀ a b : Dbl, a.isNaN = false → b.isNaN = false →
      (Dbl.lt a b = true ∧ Dbl.eq a b = false ∧ Dbl.lt b a = false) ∨
      (Dbl.lt a b = false ∧ Dbl.eq a b = true ∧ Dbl.lt b a = false) ∨
      (Dbl.lt a b = false ∧ Dbl.eq a b = false ∧ Dbl.lt b a = true)) :=
  ⟨fun _ => Dbl.eq_refl, fun _ _ => Dbl.eq_symm, fun _ _ _ => Dbl.eq_trans, Dbl.lt_irrefl,
   fun _ _ _ => Dbl.lt_trans, fun _ _ _ => Dbl.lt_of_lt_of_eq, fun _ _ _ => Dbl.lt_of_eq_of_lt,
   fun _ _ => Dbl.trichotomy⟩

/-- Python tuple comparison `(s1, m1) < (s2, m2)`: irreflexive and transitive for all scores
(comparisons with NaN are false), total up to `Dbl.eq` of the scores when no score is NaN -/
theorem pairLt_strict_total :
    (∀ (s : Dbl) (m : LexB), pairLt s m s m = false) ∧
    (∀ (s1 s2 s3 : Dbl) (m1 m2 m3 : LexB),
      pairLt s1 m1 s2 m2 = true → pairLt s2 m2 s3 m3 = true → pairLt s1 m1 s3 m3 = true) ∧
    (∀ (s1 s2 : Dbl) (m1 m2 : LexB), s1.isNaN = false → s2.isNaN = false →
      pairLt s1 m1 s2 m2 = true ∨ (Dbl.eq s1 s2 = true ∧ m1 = m2) ∨ pairLt s2 m2 s1 m1 = true) ∧
    (∀ (s1 s2 : Dbl) (m1 m2 : Bytes), s1.isNaN = false → s2.isNaN = false → m1 ≠ m2 →
      pairLt s1 (.val m1) s2 (.val m2) = true ∨ pairLt s2 (.val m2) s1 (.val m1) = true) :=
  ⟨pairLt_irrefl, fun _ _ _ _ _ _ => pairLt_trans, fun _ _ m1 m2 h1 h2 => pairLt_trichotomy m1 m2 h1 h2,
   fun _ _ _ _ h1 h2 hne => pairLt_total_of_ne h1 h2 (fun e => hne (LexB.val.inj e))⟩

/-! ## 2. The invariant and the write operations -/

/-- what `ZSet.Inv` says (so that the statement is visible here) -/
theorem inv_iff (z : ZSet) : z.Inv ↔
    (z.byscore.Pairwise (fun a b => pairLt a.1 (.val a.2) b.1 (.val b.2) = true)
     ∧ (z.bylex.map Prod.fst).Nodup
     ∧ (∀ m s, (m, s) ∈ z.bylex ↔ (s, m) ∈ z.byscore)
     ∧ (∀ p ∈ z.byscore, p.1.isNaN = false)) := Iff.rfl

theorem empty_inv : ZSet.empty.Inv := ZSet.empty_inv

theorem add_inv (z : ZSet) (m : Bytes) (s : Dbl) (hz : z.Inv) (hs : s.isNaN = false) : (z.add m s).1.Inv :=
  ZSet.add_inv hz hs

theorem discard_inv (z : ZSet) (m : Bytes) (hz : z.Inv) : (z.discard m).Inv := ZSet.discard_inv hz

/-- scores after `add`: the added member gets the new score unless the old score is IEEE-equal
(then the old one is kept: `-0.0` does not overwrite `0.0`); every other member is untouched -/
theorem get_add (z : ZSet) (m : Bytes) (s : Dbl) (m' : Bytes) :
    (z.add m s).1.get m' =
      if m' = m then
        (match z.get m with
         | some old => if Dbl.eq s old then some old else some s
         | none => some s)
      else z.get m' := ZSet.get_add z m s m'

theorem get_add_self (z : ZSet) (m : Bytes) (s : Dbl) :
    ∃ s', (z.add m s).1.get m = some s' ∧ (s' = s ∨ Dbl.eq s s' = true) := ZSet.get_add_self_eq z m s

/-- the "changed" flag of `add` is false exactly when an IEEE-equal score was already stored,
and then the zset is unchanged -/
theorem add_changed (z : ZSet) (m : Bytes) (s : Dbl) :
    ((z.add m s).2 = match z.get m with
      | some old => !Dbl.eq s old
      | none => true) ∧ ((z.add m s).2 = false → (z.add m s).1 = z) :=
  ⟨ZSet.add_changed z m s, ZSet.add_unchanged⟩

theorem get_discard (z : ZSet) (m m' : Bytes) :
    (z.discard m).get m' = if m' = m then none else z.get m' := ZSet.get_discard z m m'

theorem len_add (z : ZSet) (m : Bytes) (s : Dbl) :
    (z.add m s).1.len = if z.get m = none then z.len + 1 else z.len := ZSet.len_add z m s

theorem len_discard (z : ZSet) (m : Bytes) (hz : z.Inv) :
    (z.discard m).len = if z.get m = none then z.len else z.len - 1 := ZSet.len_discard hz m

/-! ## 3. The read operations agree -/

theorem members_sorted (z : ZSet) (hz : z.Inv) :
    z.byscore.Pairwise (fun a b => pairLt a.1 (.val a.2) b.1 (.val b.2) = true) := ZSet.members_sorted hz

theorem members_nodup (z : ZSet) (hz : z.Inv) : (z.byscore.map Prod.snd).Nodup := ZSet.members_nodup hz

theorem byscore_length (z : ZSet) (hz : z.Inv) : z.byscore.length = z.len := ZSet.byscore_length hz

/-- `get` (ZSCORE) reads the same data as the sorted index -/
theorem get_iff_mem_byscore (z : ZSet) (hz : z.Inv) (m : Bytes) (s : Dbl) :
    z.get m = some s ↔ (s, m) ∈ z.byscore := ZSet.get_iff_mem_byscore hz

/-- ZRANK is the index of the member in ZRANGE order, and carries the ZSCORE score -/
theorem rank_is_index (z : ZSet) (hz : z.Inv) (m : Bytes) (i : Nat) (h : z.rank m = some i) :
    ∃ s, z.byscore[i]? = some (s, m) ∧ z.get m = some s := ZSet.rank_is_index hz h

theorem rank_of_index (z : ZSet) (hz : z.Inv) (m : Bytes) (s : Dbl) (i : Nat)
    (h : z.byscore[i]? = some (s, m)) : z.rank m = some i := by
  have hg := (ZSet.get_iff_mem_byscore hz).mpr (List.mem_of_getElem? h)
  obtain ⟨A, B, e, h1, _⟩ := ZSet.rank_split hz hg
  have h2 : z.byscore[A.length]? = some (s, m) := by rw [e]; simp
  -- `byscore` has no duplicates, so the entry has one position
  have hi := (List.getElem?_eq_some_iff.mp h).1
  rw [h1, (List.getElem?_inj hi (ZSet.byscore_nodup hz)).mp (h.trans h2.symm)]

theorem rank_none_iff (z : ZSet) (m : Bytes) : z.rank m = none ↔ z.get m = none := ZSet.rank_none_iff z m

/-- ZRANK = number of entries strictly below `(score, member)` -/
theorem rank_eq_bisectLeft (z : ZSet) (hz : z.Inv) (m : Bytes) (s : Dbl) (hg : z.get m = some s) :
    z.rank m = some (z.bisectLeft s (.val m)) := by
  obtain ⟨A, B, _, h1, h2⟩ := ZSet.rank_split hz hg
  rw [h1, h2]

/-- ZREVRANK replies `len - 1 - rank` -/
theorem zrevrank_mirror (ctx : Ctx) (k : Nat) (m : Bytes) (cis : List CI) :
    zrevrank ctx [.key k, .raw m] cis =
      match (zsetOf (ciAt cis k)).rank m with
      | some r => ret (.int (((zsetOf (ciAt cis k)).len : Int) - 1 - r)) cis
      | none => ret .nil cis := Cmd.zrevrank_mirror ctx k m cis

/-- `len - 1 - rank` is a valid index into the reversed list and holds the member there -/
theorem revrank_is_index (z : ZSet) (hz : z.Inv) (m : Bytes) (i : Nat) (h : z.rank m = some i) :
    i < z.len ∧ ∃ s, z.byscore.reverse[z.len - 1 - i]? = some (s, m) ∧ z.get m = some s := by
  obtain ⟨s, h1, h2⟩ := ZSet.rank_is_index hz h
  have hi := ZSet.rank_lt_len hz h
  have hl := ZSet.byscore_length hz
  refine ⟨hi, s, ?_, h2⟩
  rw [List.getElem?_reverse (by omega), hl]
  have : z.len - 1 - (z.len - 1 - i) = i := by omega
  rw [this]
  exact h1

/-- bisect window on the sorted list = filter (holds for all `s1 s2`, NaN included) -/
theorem irange_eq_filter (z : ZSet) (hz : z.Inv) (s1 : Dbl) (b1 : LexB) (s2 : Dbl) (b2 : LexB) :
    z.irange s1 b1 s2 b2 true true =
      z.byscore.filter (fun p => !pairLt p.1 (.val p.2) s1 b1 && !pairLt s2 b2 p.1 (.val p.2)) :=
  ZSet.irange_eq_filter hz s1 b1 s2 b2

/-- bisect window = filter for all four inclusive / exclusive flag combinations of `SortedList.irange` -/
theorem irange_eq_filter_gen (z : ZSet) (hz : z.Inv) (s1 : Dbl) (b1 : LexB) (s2 : Dbl) (b2 : LexB)
    (inc1 inc2 : Bool) :
    z.irange s1 b1 s2 b2 inc1 inc2 =
      z.byscore.filter (fun p =>
        !(if inc1 then pairLt p.1 (.val p.2) s1 b1 else !pairLt s1 b1 p.1 (.val p.2)) &&
         (if inc2 then !pairLt s2 b2 p.1 (.val p.2) else pairLt p.1 (.val p.2) s2 b2)) :=
  ZSet.irange_eq_filter_gen hz s1 b1 s2 b2 inc1 inc2

/-- ZCOUNT (two `bisect_left`s) = number of elements of the ZRANGEBYSCORE window;
only the upper score has to be non-NaN -/
theorem zcount_eq_length (z : ZSet) (hz : z.Inv) (s1 : Dbl) (e1 : Bool) (s2 : Dbl) (e2 : Bool)
    (h2 : s2.isNaN = false) :
    z.zcount s1 (lowerTail e1) s2 (upperTail e2) =
      (z.irange s1 (lowerTail e1) s2 (upperTail e2) true true).length :=
  ZSet.zcount_eq_length hz s1 e1 e2 h2

/-- inclusive / exclusive score bounds -/
theorem zrangebyscore_spec (z : ZSet) (hz : z.Inv) (mn mx : Dbl) (mne mxe : Bool)
    (hmn : mn.isNaN = false) (hmx : mx.isNaN = false) (s : Dbl) (m : Bytes) :
    (s, m) ∈ z.irange mn (lowerTail mne) mx (upperTail mxe) true true ↔
      (s, m) ∈ z.byscore ∧
      (if mne then Dbl.lt mn s else Dbl.le mn s) = true ∧
      (if mxe then Dbl.lt s mx else Dbl.le s mx) = true :=
  ZSet.zrangebyscore_spec hz mne mxe hmn hmx s m

/-- command bodies: ZCOUNT replies the number of members ZRANGEBYSCORE (no options) replies -/
theorem zcount_matches_zrangebyscore (ctx : Ctx) (cis : List CI) (hc : CIsInv cis) (k : Nat)
    (mn : Dbl) (mne : Bool) (mx : Dbl) (mxe : Bool) (hmx : mx.isNaN = false) :
    ∃ items : List (Dbl × Bytes),
      zrangebyscore ctx [.key k, .score mn mne, .score mx mxe] cis
        = ret (.arr (items.map fun p => .bulk p.2)) cis ∧
      zcount ctx [.key k, .score mn mne, .score mx mxe] cis = ret (.int items.length) cis := by
  refine ⟨(zsetOf (ciAt cis k)).irange mn (lowerTail mne) mx (upperTail mxe) true true, ?_, ?_⟩
  · simp only [zrangebyscore, rawArgs, zrangebyscoreGen, parseRbsOpts, withScores]
    rw [limitItems_all _ _ (by decide)]
    rfl
  · simp only [zcount]
    rw [ZSet.zcount_eq_length (zsetOf_all invKeeps hc k) mn mne mxe hmx]

/-! ## 4. Command bodies preserve the invariant; no NaN score is ever stored -/

/-- what `CIsInv` says -/
theorem cisInv_iff (cis : List CI) :
    CIsInv cis ↔ ∀ c ∈ cis, ∀ z, c.val = some (.zset z) → z.Inv := Iff.rfl

/-- `Conv.float` (the score / increment argument decoder) never yields NaN -/
theorem conv_float_never_nan (b : Bytes) (d : Dbl) (h : Conv.float b = .ok d) : d.isNaN = false :=
  Conv.float_not_nan h

/-- all write commands on sorted sets preserve the invariant of every sorted set in the items
(for every argument list, in particular for a NaN increment handed to ZINCRBY) -/
theorem zset_inv_preserved (ctx : Ctx) (args : List Arg) (cis : List CI) (out : BodyOut)
    (hc : CIsInv cis) (body : Body)
    (hb : body = zadd ∨ body = zincrby ∨ body = zrem ∨ body = zremrangebyrank ∨
          body = zremrangebyscore ∨ body = zremrangebylex)
    (h : body ctx args cis = .ok out) : CIsInv out.cis :=
  zwrite_all invKeeps hc body hb (fun _ _ h => h) h

/-- ZADD (all flag combinations, INCR included) never stores a NaN score -/
theorem zadd_never_nan (ctx : Ctx) (args : List Arg) (cis : List CI) (out : BodyOut)
    (hc : CIsInv cis) (h : zadd ctx args cis = .ok out) :
    ∀ c ∈ out.cis, ∀ z, c.val = some (.zset z) → ∀ m s, z.get m = some s → s.isNaN = false :=
  (zadd_inv hc h).no_nan

theorem zincrby_never_nan (ctx : Ctx) (args : List Arg) (cis : List CI) (out : BodyOut)
    (hc : CIsInv cis) (h : zincrby ctx args cis = .ok out) :
    ∀ c ∈ out.cis, ∀ z, c.val = some (.zset z) → ∀ m s, z.get m = some s → s.isNaN = false :=
  (zincrby_inv hc h).no_nan

/-! ## Non-vacuity witnesses -/

-- `ZSet.example3`: members `b ↦ 2`, `a ↦ 1`, `c ↦ 2` added in this order (defined in FR/Proofs/ZSet.lean)
example : ZSet.example3.Inv := ZSet.example3_inv

example : ZSet.example3.bylex.map Prod.fst = [[98], [97], [99]] := by decide
example : ZSet.example3.byscore = [(Dbl.ofInt 1, [97]), (Dbl.ofInt 2, [98]), (Dbl.ofInt 2, [99])] := by decide
-- 2 ≤ score ≤ 2
example : (ZSet.example3.irange (Dbl.ofInt 2) (lowerTail false) (Dbl.ofInt 2) (upperTail false) true true).map Prod.snd
    = [[98], [99]] := by decide
-- 1 < score ≤ 2
example : (ZSet.example3.irange (Dbl.ofInt 1) (lowerTail true) (Dbl.ofInt 2) (upperTail false) true true).map Prod.snd
    = [[98], [99]] := by decide
-- 1 ≤ score < 2
example : (ZSet.example3.irange (Dbl.ofInt 1) (lowerTail false) (Dbl.ofInt 2) (upperTail true) true true).map Prod.snd
    = [[97]] := by decide
example : ZSet.example3.zcount (Dbl.ofInt 1) (lowerTail false) (Dbl.ofInt 2) (upperTail true) = 1 := by decide
example : ZSet.example3.rank [99] = some 2 ∧ ZSet.example3.rank [100] = none := by decide
-- `-0.0` does not overwrite `0.0`; the call reports "unchanged"
example : ((ZSet.empty.add [97] Dbl.zero).1.add [97] (.fin true 0 (-1074))).1.get [97] = some Dbl.zero ∧
    ((ZSet.empty.add [97] Dbl.zero).1.add [97] (.fin true 0 (-1074))).2 = false := by decide
-- a NaN score would break the sortedness-based reads, hence the `isNaN = false` hypothesis of `add_inv`:
-- after inserting NaN, a later smaller element is placed after it
example : ((ZSet.empty.add [97] .nan).1.add [98] (Dbl.ofInt 1)).1.byscore = [(.nan, [97]), (Dbl.ofInt 1, [98])] ∧
    pairLt .nan (.val [97]) (Dbl.ofInt 1) (.val [98]) = false := by decide
-- discard
example : (ZSet.example3.discard [98]).byscore = [(Dbl.ofInt 1, [97]), (Dbl.ofInt 2, [99])] ∧ (ZSet.example3.discard [98]).len = 2 := by
  decide

end FR.Props.C03

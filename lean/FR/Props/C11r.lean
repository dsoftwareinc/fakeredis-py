import FR.Proofs.C11r
import FR.Props.C04k
import FR.Proofs.ReplyEq
/-!
# C11r — the exact reply count of a blocking pop (BLPOP / BRPOP) run at once

`FR.Props.C04k.reply_count_blocking_partial` says "no reply or one reply".  Here: exactly which, read off the state in
which `_run_command` starts (`s.prologue`: `s` after the clean-up of closed sockets and the clock refresh; its
databases are those of `s`, `Sys.prologue_dbs`).

Vocabulary: `Conv.timeout tb` is the conversion of the last argument; `bpopPass d left true keys` is the first pass
(`FR.Props.C11.bpopPass_served_in_key_order`, `bpopPass_none_iff`, `bpopPass_wrongtype_only_first_pass` describe its
three outcomes).
-/
namespace FR.Props.C11r
open FR FR.M FR.C04k FR.C11c FR.C11r FR.ErrSys

/-- the outcome of the request, as a function of the time-out conversion, the first pass and the mode -/
inductive Outcome where
  /-- no reply, the connection is parked -/
  | parks
  /-- exactly this reply -/
  | reply (r : Reply)

def Outcome.isParks : Outcome → Bool
  | .parks => true
  | .reply _ => false

/-- **the specification**: what a BLPOP / BRPOP run at once outside MULTI does -/
def expected (mode : Mode) (tb : Bytes) (pass : Except Err (Option Reply)) : Outcome :=
  match Conv.timeout tb with
  | .error e => .reply (.err (strBytes e))            -- invalid time-out: an error, the keys are not looked at
  | .ok _ =>
    match pass with
    | .error e => .reply (.err (strBytes e))          -- a wrong-type key before a servable one (WRONGTYPE)
    | .ok (some r) => .reply r                        -- served: the popped pair
    | .ok none => if mode.park || mode.async then .parks else .reply .nil

/-- the body of a blocking command that has read its arguments (`blockArgs`: keys, time-out `t`, pass), outside a
transaction, through the tail of `_run_command`: the outcome is `expected` of the first pass -/
theorem blockBody_outcome (mode : Mode) (c : Nat) (name : String) (args : List Arg) (s : Sys)
    (hin : (s.conn c).inTx = false) (hc : s.HasConn c) {keys : List Bytes} {t : Int} {pass : Pass}
    (h : blockArgs name (s.conn c).db args = .ok (keys, t, pass)) {tb : Bytes} (htb : Conv.timeout tb = .ok t) :
    match expected mode tb (pass true s).1 with
    | .reply r => (afterSpecial (s.conn c).db [] (blockBody mode c name args []) s).1 = some r
    | .parks =>
      (afterSpecial (s.conn c).db [] (blockBody mode c name args []) s).1 = none ∧
      (∃ p, ((afterSpecial (s.conn c).db [] (blockBody mode c name args []) s).2.conn c).parked = some p ∧
        p.kind = name ∧ p.keys = keys ∧ p.db = (s.conn c).db) ∧
      (mode.async = true → ((afterSpecial (s.conn c).db [] (blockBody mode c name args []) s).2.conn c).paused = true) := by
  have hb := blockBody_cases mode c name args [] s hin hc
  rw [h] at hb
  dsimp only at hb
  rw [afterSpecial_run]
  unfold expected
  rw [htb]
  revert hb
  generalize blockBody mode c name args [] s = X
  obtain ⟨br, s2⟩ := X
  cases (pass true s).1 with
  | error e => intro hb; cases hb; rfl
  | ok o =>
    cases o with
    | some r => intro hb; cases hb; rfl
    | none =>
      simp only
      split
      · rintro ⟨h1, ⟨p, hp1, hp2, hp3, hp4, _⟩, h3⟩
        cases h1
        exact ⟨rfl, ⟨p, hp1, hp2, hp3, hp4⟩, h3⟩
      · intro hb; cases hb; rfl

/-- `_run_command` level: the exact result of BLPOP / BRPOP outside a transaction, not in subscriber mode -/
theorem runCommand_bpop_exact (mode : Mode) (c : Nat) {sig : Sig} (hs : IsBSig sig) (raw : List Bytes) (s : Sys)
    (ha : sig.checkArity raw.length = true) (hps : (s.conn c).pubsub = 0) (hin : (s.conn c).inTx = false)
    (hc : s.HasConn c) :
    match expected mode (raw.getLast?.getD []) (bpopPass (s.conn c).db (sig.name == "blpop") true raw.dropLast s).1 with
    | .reply r => (runCommand mode c sig raw false s).1 = some r
    | .parks =>
      (runCommand mode c sig raw false s).1 = none ∧
      (∃ p, ((runCommand mode c sig raw false s).2.conn c).parked = some p ∧ p.kind = sig.name ∧
        p.keys = raw.dropLast ∧ p.db = (s.conn c).db) ∧
      (mode.async = true → ((runCommand mode c sig raw false s).2.conn c).paused = true) := by
  obtain ⟨tb, htb⟩ := bsig_arity_ne hs raw ha
  have hargs := blockArgs_bpop (isBPop_of_bsig hs) (s.conn c).db raw htb
  rw [runCommand_bsig mode c hs raw s ha hps]
  simp only [htb, Option.getD_some]
  cases hT : Conv.timeout tb with
  | error e =>
    rw [hT] at hargs
    rw [afterSpecial_run]
    unfold expected blockBody
    rw [hT, hargs]
  | ok t =>
    rw [hT] at hargs
    exact blockBody_outcome mode c sig.name _ s hin hc hargs hT

theorem isBSig_of_lookup {nameB : Bytes} {sig : Sig} (hl : lookupSig nameB = some sig)
    (hb : sig.name = "blpop" ∨ sig.name = "brpop") : IsBSig sig := by
  rcases hb with h | h
  · exact .inl (sig_of_find (find_of_lookup hl) h rfl).symm
  · exact .inr (sig_of_find (find_of_lookup hl) h rfl).symm

/-- from the exact outcome of `_run_command` in the state the prologue leaves to the reply count of the request: the
reply list grows by pub/sub messages and the reply if there is one, and a connection that `_run_command` parked (and
paused) is parked (and paused) -/
theorem reply_count_of_outcome (mode : Mode) (c : Nat) (nameB : Bytes) (args : List Bytes) (s : Sys)
    (hwf : TxWf s) (hcl : (s.conn c).closed = false) {sig : Sig} (hl : lookupSig nameB = some sig)
    (ha : sig.checkArity args.length = true)
    (hq : ((s.conn c).tx.isSome && !SigTable.notQueued.contains sig.name) = false)
    (hsub : sig.name ∉ SigTable.notInMulti) (E : Outcome) (K : Parked → Prop)
    (hex : match E with
      | .reply r => (runCommand mode c sig args false s.prologue).1 = some r
      | .parks =>
        (runCommand mode c sig args false s.prologue).1 = none ∧
        (∃ p, ((runCommand mode c sig args false s.prologue).2.conn c).parked = some p ∧ K p) ∧
        (mode.async = true → ((runCommand mode c sig args false s.prologue).2.conn c).paused = true)) :
    ∃ D, (∀ p ∈ D, IsMsg p.2) ∧
      match E with
      | .reply r => (processCommand mode c (nameB :: args) s).2.out = (c, r) :: D ++ s.out
      | .parks =>
        (processCommand mode c (nameB :: args) s).2.out = D ++ s.out ∧
        (∃ p, ((processCommand mode c (nameB :: args) s).2.conn c).parked = some p ∧ K p) ∧
        (mode.async = true → ((processCommand mode c (nameB :: args) s).2.conn c).paused = true) := by
  obtain ⟨D, hmsg, h⟩ := processCommand_reply mode c nameB args s hwf hcl hl ha hq hsub
  refine ⟨D, hmsg, ?_⟩
  cases E with
  | reply r =>
    dsimp only at hex ⊢
    rw [hex] at h
    exact h
  | parks =>
    dsimp only at hex ⊢
    obtain ⟨h1, ⟨p, hp1, hp2⟩, h3⟩ := hex
    rw [h1] at h
    obtain ⟨_, hD, hproj⟩ := h
    exact ⟨hD, ⟨p, (hproj Conn.parked (fun _ => rfl)).trans hp1, hp2⟩,
      fun hm => (hproj Conn.paused (fun _ => rfl)).trans (h3 hm)⟩

/-- **C11r — `reply_count_blocking` (BLPOP / BRPOP).**  Same hypotheses as `reply_count_blocking_partial`, plus: the
connection is registered, not in subscriber mode (else the request is refused: one error reply) and no EXEC is running
(`inTx`; see `blocking_in_exec_one_reply`).  With `P = s.prologue`, `keys` = all arguments but the last:

* `expected … = .parks` (valid time-out, first pass finds no live list under any key, `mode.park` or `mode.async`):
  **no reply** (the reply list grows by pub/sub messages only — in fact none), the connection is **parked** on `keys`
  and its database, and on the asyncio front-end **paused**;
* `expected … = .reply r`: **exactly one reply, `r`** — the time-out error, WRONGTYPE, the popped pair, or nil when
  the mode does not park. -/
theorem reply_count_blocking (mode : Mode) (c : Nat) (nameB : Bytes) (args : List Bytes) (s : Sys)
    (hwf : TxWf s) (hcl : (s.conn c).closed = false) {sig : Sig} (hl : lookupSig nameB = some sig)
    (ha : sig.checkArity args.length = true)
    (hq : ((s.conn c).tx.isSome && !SigTable.notQueued.contains sig.name) = false)
    (hb : sig.name = "blpop" ∨ sig.name = "brpop")
    (hc : s.HasConn c) (hps : (s.conn c).pubsub = 0) (hin : (s.conn c).inTx = false) :
    let s' := (processCommand mode c (nameB :: args) s).2
    ∃ D, (∀ p ∈ D, IsMsg p.2) ∧
      match expected mode (args.getLast?.getD [])
          (bpopPass (s.conn c).db (sig.name == "blpop") true args.dropLast s.prologue).1 with
      | .reply r => s'.out = (c, r) :: D ++ s.out
      | .parks =>
        s'.out = D ++ s.out ∧
        (∃ p, (s'.conn c).parked = some p ∧ p.kind = sig.name ∧ p.keys = args.dropLast ∧ p.db = (s.conn c).db) ∧
        (mode.async = true → (s'.conn c).paused = true) := by
  dsimp only
  have hs := isBSig_of_lookup hl hb
  have hex := runCommand_bpop_exact mode c hs args s.prologue ha
    ((s.prologue_conn c Conn.pubsub (fun _ => rfl)).trans hps) ((s.prologue_conn c Conn.inTx (fun _ => rfl)).trans hin)
    ((s.prologue_hasConn c).2 hc)
  rw [s.prologue_conn c Conn.db (fun _ => rfl)] at hex
  exact reply_count_of_outcome mode c nameB args s hwf hcl hl ha hq (by rcases hs with rfl | rfl <;> decide) _
    (fun p => p.kind = sig.name ∧ p.keys = args.dropLast ∧ p.db = (s.conn c).db) hex

/-- the reply of a BLPOP / BRPOP run by EXEC: as `expected`, with nil in place of parking (whatever the mode) -/
def expectedInTx (tb : Bytes) (pass : Except Err (Option Reply)) : Reply :=
  match Conv.timeout tb with
  | .error e => .err (strBytes e)
  | .ok _ =>
    match pass with
    | .error e => .err (strBytes e)
    | .ok (some r) => r
    | .ok none => .nil

/-- **C11r — `blocking_in_exec_one_reply` (BLPOP / BRPOP).**  Run as an inner command of EXEC (`runInner`, the
connection has `inTx = true`), in either mode and on either front-end, a blocking pop **never parks** and contributes
**exactly one element** to the EXEC reply: the time-out error, WRONGTYPE, the popped pair, or nil when nothing can be
served; with a valid time-out the state is that after the first pass alone, so nothing is parked or paused and no clock
is read (`FR.Props.C11.blocking_never_parks_in_tx`). -/
theorem blocking_in_exec_one_reply (mode : Mode) (c : Nat) {sig : Sig} (hs : IsBSig sig) (raw : List Bytes) (s : Sys)
    (ha : sig.checkArity raw.length = true) (hps : (s.conn c).pubsub = 0) (hin : (s.conn c).inTx = true) :
    (runInner mode c sig raw s).1 = some (expectedInTx (raw.getLast?.getD [])
      (bpopPass (s.conn c).db (sig.name == "blpop") true raw.dropLast s).1) ∧
    (∀ t, Conv.timeout (raw.getLast?.getD []) = .ok t →
      (∀ e, (bpopPass (s.conn c).db (sig.name == "blpop") true raw.dropLast s).1 ≠ .error e) →
      (runInner mode c sig raw s).2 = (bpopPass (s.conn c).db (sig.name == "blpop") true raw.dropLast s).2) := by
  obtain ⟨tb, htb⟩ := bsig_arity_ne hs raw ha
  rw [runInner_bsig mode c hs raw s ha hps, afterSpecial_run]
  unfold blockBody
  rw [blockArgs_bpop (isBPop_of_bsig hs) (s.conn c).db raw htb]
  simp only [htb, Option.getD_some]
  unfold expectedInTx
  cases Conv.timeout tb with
  | error e => exact ⟨rfl, fun t h => by cases h⟩
  | ok t =>
    simp only [blockCall_inTx mode c sig.name raw.dropLast t
      (fun first => bpopPass (s.conn c).db (sig.name == "blpop") first raw.dropLast) s
      ((((framed_bpopPass ..).frame s).inTx c).trans hin)]
    generalize bpopPass (s.conn c).db (sig.name == "blpop") true raw.dropLast s = X
    obtain ⟨res, s1⟩ := X
    cases res with
    | error e => exact ⟨rfl, fun _ _ h => absurd rfl (h e)⟩
    | ok o =>
      cases o with
      | some r => exact ⟨rfl, fun _ _ _ => rfl⟩
      | none => exact ⟨rfl, fun _ _ _ => rfl⟩

/-! ## non-vacuity: every outcome occurs -/

open FR.Props.C04k in
/-- a state with connection 1 open, key `k` (107) = list `[a]`, key `s` (115) = a string -/
def sData : Sys :=
  (runHistory [.open 1, .request {} 1 [strBytes "RPUSH", [107], [97]] [1] [],
    .request {} 1 [strBytes "SET", [115], [97]] [2] []]).beginEvent.withHints [5, 6] []

open FR.Props.C04k in
theorem sData_wf : TxWf sData := txWf_hints (txWf_reachable _) _ _

open FR.Props.C04k in
/-- parks (scheduler harness, no list under `x`): no reply, parked -/
example : ∃ D, (∀ p ∈ D, IsMsg p.2) ∧
    (processCommand { park := true } 1 [strBytes "BLPOP", [120], [48]] sIdle).2.out = D ++ sIdle.out ∧
    (∃ p, ((processCommand { park := true } 1 [strBytes "BLPOP", [120], [48]] sIdle).2.conn 1).parked = some p ∧
      p.kind = "blpop" ∧ p.keys = [[120]] ∧ p.db = (sIdle.conn 1).db) ∧
    (({ park := true } : Mode).async = true →
      ((processCommand { park := true } 1 [strBytes "BLPOP", [120], [48]] sIdle).2.conn 1).paused = true) := by
  have hd : (sIdle.conn 1).closed = false ∧ lookupSig (strBytes "BLPOP") = some (sigOf "blpop") ∧
      (sigOf "blpop").checkArity ([[120], [48]] : List Bytes).length = true ∧
      ((sIdle.conn 1).tx.isSome && !SigTable.notQueued.contains (sigOf "blpop").name) = false ∧
      (sigOf "blpop").name = "blpop" ∧ sIdle.HasConn 1 ∧ (sIdle.conn 1).pubsub = 0 ∧ (sIdle.conn 1).inTx = false ∧
      (expected { park := true } (([[120], [48]] : List Bytes).getLast?.getD [])
        (bpopPass (sIdle.conn 1).db ((sigOf "blpop").name == "blpop") true ([[120], [48]] : List Bytes).dropLast
          sIdle.prologue).1).isParks = true := by decide +kernel
  have h := reply_count_blocking { park := true } 1 (strBytes "BLPOP") [[120], [48]] sIdle sIdle_wf hd.1
    (sig := sigOf "blpop") hd.2.1 hd.2.2.1 hd.2.2.2.1 (.inl hd.2.2.2.2.1)
    hd.2.2.2.2.2.1 hd.2.2.2.2.2.2.1 hd.2.2.2.2.2.2.2.1
  cases hE : expected { park := true } (([[120], [48]] : List Bytes).getLast?.getD [])
      (bpopPass (sIdle.conn 1).db ((sigOf "blpop").name == "blpop") true ([[120], [48]] : List Bytes).dropLast
        sIdle.prologue).1 with
  | parks => rw [hE] at h; exact h
  | reply r =>
    have := hd.2.2.2.2.2.2.2.2
    rw [hE] at this
    cases this

/-- the four kinds of reply, and parking on both front-ends, computed on `sData` -/
example :
    -- served: the pair (key, element), `x` (missing) is skipped
    ((processCommand { park := true } 1 [strBytes "BLPOP", [120], [107], [48]] sData).2.out.map
      (fun p => (p.1, p.2.render))) = [(1, (Reply.arr [.bulk [107], .bulk [97]]).render)] ∧
    -- wrong-type key before the list: WRONGTYPE, nothing popped
    ((processCommand { park := true } 1 [strBytes "BLPOP", [115], [107], [48]] sData).2.out.map
      (fun p => (p.1, p.2.render))) = [(1, (Reply.err (strBytes Msgs.WRONGTYPE_MSG)).render)] ∧
    -- invalid time-out
    ((processCommand { park := true } 1 [strBytes "BLPOP", [120], [45, 49]] sData).2.out.map
      (fun p => (p.1, p.2.render))) = [(1, (Reply.err (strBytes Msgs.TIMEOUT_NEGATIVE_MSG)).render)] ∧
    -- a mode that does not park: nil at once
    ((processCommand {} 1 [strBytes "BLPOP", [120], [48]] sData).2.out.map
      (fun p => (p.1, p.2.render))) = [(1, Reply.nil.render)] ∧
    -- asyncio front-end: no reply, parked and paused
    (processCommand { async := true } 1 [strBytes "BRPOP", [120], [48]] sData).2.out = [] ∧
    ((processCommand { async := true } 1 [strBytes "BRPOP", [120], [48]] sData).2.conn 1).paused = true ∧
    ((processCommand { async := true } 1 [strBytes "BRPOP", [120], [48]] sData).2.conn 1).parked.isSome = true := by
  have h : (processCommand { park := true } 1 [strBytes "BLPOP", [120], [107], [48]] sData).2.out =
        [(1, Reply.arr [.bulk [107], .bulk [97]])] ∧
      (processCommand { park := true } 1 [strBytes "BLPOP", [115], [107], [48]] sData).2.out =
        [(1, Reply.err (strBytes Msgs.WRONGTYPE_MSG))] ∧
      (processCommand { park := true } 1 [strBytes "BLPOP", [120], [45, 49]] sData).2.out =
        [(1, Reply.err (strBytes Msgs.TIMEOUT_NEGATIVE_MSG))] ∧
      (processCommand {} 1 [strBytes "BLPOP", [120], [48]] sData).2.out = [(1, Reply.nil)] ∧
      (processCommand { async := true } 1 [strBytes "BRPOP", [120], [48]] sData).2.out = [] ∧
      ((processCommand { async := true } 1 [strBytes "BRPOP", [120], [48]] sData).2.conn 1).paused = true ∧
      ((processCommand { async := true } 1 [strBytes "BRPOP", [120], [48]] sData).2.conn 1).parked.isSome = true := by
    decide +kernel
  exact ⟨congrArg (List.map fun p => (p.1, p.2.render)) h.1, congrArg (List.map fun p => (p.1, p.2.render)) h.2.1,
    congrArg (List.map fun p => (p.1, p.2.render)) h.2.2.1, congrArg (List.map fun p => (p.1, p.2.render)) h.2.2.2.1,
    h.2.2.2.2⟩

/-- inside EXEC (`inTx` set), scheduler mode: nil at once, nothing parked -/
def sInTx : Sys := sData.updConn 1 fun x => { x with inTx := true }

example : (runInner { park := true } 1 sigBlpop [[120], [48]] sInTx).1.map Reply.render = some Reply.nil.render ∧
    ((runInner { park := true } 1 sigBlpop [[120], [48]] sInTx).2.conn 1).parked.isSome = false ∧
    (runInner { async := true } 1 sigBlpop [[120], [107], [48]] sInTx).1.map Reply.render =
      some (Reply.arr [.bulk [107], .bulk [97]]).render := by
  have h : (runInner { park := true } 1 sigBlpop [[120], [48]] sInTx).1 = some Reply.nil ∧
      ((runInner { park := true } 1 sigBlpop [[120], [48]] sInTx).2.conn 1).parked.isSome = false ∧
      (runInner { async := true } 1 sigBlpop [[120], [107], [48]] sInTx).1 =
        some (Reply.arr [.bulk [107], .bulk [97]]) := by decide +kernel
  exact ⟨congrArg (Option.map Reply.render) h.1, h.2.1, congrArg (Option.map Reply.render) h.2.2⟩

example : (runInner { park := true } 1 sigBlpop [[120], [48]] sInTx).1 =
    some (expectedInTx [48] (bpopPass (sInTx.conn 1).db true true [[120]] sInTx).1) :=
  have h : sigBlpop.checkArity ([[120], [48]] : List Bytes).length = true ∧ (sInTx.conn 1).pubsub = 0 ∧
      (sInTx.conn 1).inTx = true := by decide +kernel
  (blocking_in_exec_one_reply { park := true } 1 (.inl rfl) [[120], [48]] sInTx h.1 h.2.1 h.2.2).1

end FR.Props.C11r

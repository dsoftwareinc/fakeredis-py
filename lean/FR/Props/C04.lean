import FR.Proofs.Parser
/-!
# C04 — the request parser: binary safety, prefix stability, chunk-insensitivity
-/
namespace FR
namespace C04

/-- Binary safety: whatever bytes the fields contain (CR, LF, NUL, nothing at all), the encoded request
parses back to exactly those fields and leaves the following bytes untouched. -/
theorem tryParse_encode (fields : List Bytes) (rest : Bytes) :
    tryParse (encodeRequest fields ++ rest) = some (fields, rest) :=
  tryParse_encode' fields rest

/-- A complete request is not re-interpreted when more bytes arrive. -/
theorem tryParse_prefix_stable (buf x r : Bytes) (fs : List Bytes)
    (h : tryParse buf = some (fs, r)) : tryParse (buf ++ x) = some (fs, r ++ x) :=
  tryParse_append x h

/-- Each successful parse consumes at least one byte. -/
theorem tryParse_progress (buf r : Bytes) (fs : List Bytes) (h : tryParse buf = some (fs, r)) :
    r.length < buf.length :=
  tryParse_length_lt h

/-- A pipelined stream of encoded requests parses to exactly that list of requests. -/
theorem parseAll_requests (reqs : List (List Bytes)) (fuel : Nat) (hf : reqs.length ≤ fuel) :
    parseAll fuel ((reqs.map encodeRequest).flatten) = (reqs, []) := by
  have h := parseAll_encode_append reqs [] (fuel - reqs.length)
  rw [show reqs.length + (fuel - reqs.length) = fuel by omega, parseAll_nil] at h
  simpa [encodeStream] using h

/-- A pipelined stream of encoded requests followed by `tail` parses to those requests, and `tail` is handed back
untouched (`tail` here is anything that does not start with a complete request). -/
theorem parseAll_requests_tail (reqs : List (List Bytes)) (tail : Bytes) (fuel : Nat)
    (hf : reqs.length ≤ fuel) (ht : tryParse tail = none) :
    parseAll fuel ((reqs.map encodeRequest).flatten ++ tail) = (reqs, tail) := by
  have h := parseAll_encode_append reqs tail (fuel - reqs.length)
  rw [show reqs.length + (fuel - reqs.length) = fuel by omega] at h
  have : parseAll (fuel - reqs.length) tail = ([], tail) := by
    cases (fuel - reqs.length) with
    | zero => rfl
    | succ k => rw [parseAll, ht]
  rw [this] at h
  simpa [encodeStream] using h

/-- With `buf.length + 1` fuel the parse runs to exhaustion: no complete request is left behind. -/
theorem parseAll_exhaustive (buf : Bytes) (fuel : Nat) (h : buf.length < fuel) :
    tryParse (parseAll fuel buf).2 = none :=
  parseAll_exhausted fuel buf h

/-- Chunk-insensitivity for ARBITRARY byte streams: parsing `a`, then continuing on the left-over
followed by `b`, gives the same requests and the same left-over as parsing `a ++ b` in one go. -/
theorem parseAll_append_general (a b : Bytes) (fuel1 fuel2 : Nat) :
    parseAll ((parseAll fuel1 a).1.length + fuel2) (a ++ b) =
      ((parseAll fuel1 a).1 ++ (parseAll fuel2 ((parseAll fuel1 a).2 ++ b)).1,
        (parseAll fuel2 ((parseAll fuel1 a).2 ++ b)).2) :=
  parseAll_append_aux fuel1 a b fuel2

/-- Chunking theorem: for any split `a ++ b` of the encoding of `reqs`, parsing `a` (with any fuel)
and then continuing with `remaining ++ b` yields exactly `reqs` and an empty buffer. -/
theorem parseAll_append (reqs : List (List Bytes)) (a b : Bytes)
    (hsplit : a ++ b = (reqs.map encodeRequest).flatten) (fuel1 fuel2 : Nat)
    (hf : reqs.length ≤ fuel2) :
    (parseAll fuel1 a).1 ++ (parseAll fuel2 ((parseAll fuel1 a).2 ++ b)).1 = reqs ∧
      (parseAll fuel2 ((parseAll fuel1 a).2 ++ b)).2 = [] := by
  have h := parseAll_append_aux fuel1 a b fuel2
  rw [hsplit, parseAll_requests reqs _ (by omega)] at h
  simp only [Prod.mk.injEq] at h
  exact ⟨h.1.symm, h.2.symm⟩

/-- the same, phrased against the one-shot parse -/
theorem parseAll_append_eq (reqs : List (List Bytes)) (a b : Bytes)
    (hsplit : a ++ b = (reqs.map encodeRequest).flatten) (fuel fuel1 fuel2 : Nat)
    (hf : reqs.length ≤ fuel) (hf2 : reqs.length ≤ fuel2) :
    ((parseAll fuel1 a).1 ++ (parseAll fuel2 ((parseAll fuel1 a).2 ++ b)).1,
      (parseAll fuel2 ((parseAll fuel1 a).2 ++ b)).2) = parseAll fuel (a ++ b) := by
  obtain ⟨h1, h2⟩ := parseAll_append reqs a b hsplit fuel1 fuel2 hf2
  rw [hsplit, parseAll_requests reqs fuel hf, h1, h2]

/-! ## the same at the `drain` / `sendall` level — CONDITIONAL

`BufIndependent mode c` (defined in `FR/Proofs/Parser.lean`) says that `processCommand mode c fields`
commutes with overwriting connection `c`'s input buffer, i.e. that command processing neither reads nor
writes `Conn.buf`.  It is a HYPOTHESIS here: it is not proved for the model (it needs a non-interference
argument through every command body). -/

/-- Draining `buf ++ b` is draining `buf`, appending `b`, and draining again (any sufficient fuels). -/
theorem drain_append_conditional (mode : Mode) (c : Nat) (hNI : BufIndependent mode c) (b : Bytes)
    (fR : Nat) (R : Sys) (fL f2 : Nat) (hR : (connOf R c).buf.length < fR)
    (hL : (connOf R c).buf.length + b.length < fL)
    (h2 : (connOf ((drain mode c fR).run R).2 c).buf.length + b.length < f2) :
    (drain mode c fL).run (appendBuf c b R) =
      (drain mode c f2).run (appendBuf c b ((drain mode c fR).run R).2) :=
  drain_append hNI b fR R fL f2 hR hL h2

/-- `sendall a; sendall b = sendall (a ++ b)` on every state, for any split of any byte stream, provided
the connection is still alive after the first chunk (a dead connection makes the second `sendall`
raise instead of buffering). -/
theorem sendall_append_conditional (mode : Mode) (c : Nat) (hNI : BufIndependent mode c) (a b : Bytes)
    (s : Sys) (halive : (connOf ((sendall mode c a).run s).2 c).dead = false) :
    (do sendall mode c a; sendall mode c b : M Unit).run s = (sendall mode c (a ++ b)).run s :=
  sendall_append_aux hNI a b s halive

/-! ## non-vacuity -/

/-- `SET "\r\n" ""`, spelled out byte by byte -/
example : encodeRequest [[115, 101, 116], [13, 10], []] =
    [42, 51, 13, 10, 36, 51, 13, 10, 115, 101, 116, 13, 10, 36, 50, 13, 10, 13, 10, 13, 10,
      36, 48, 13, 10, 13, 10] := by
  simp [encodeRequest, natDigits_lt, digitByte]

example : tryParse [42, 51, 13, 10, 36, 51, 13, 10, 115, 101, 116, 13, 10, 36, 50, 13, 10, 13, 10, 13, 10,
      36, 48, 13, 10, 13, 10] = some ([[115, 101, 116], [13, 10], []], []) := by rfl

example : tryParse (encodeRequest [[115, 101, 116], [13, 10], []]) =
    some ([[115, 101, 116], [13, 10], []], []) := by
  simpa using tryParse_encode [[115, 101, 116], [13, 10], []] []

/-- empty request `*0\r\n` -/
example : tryParse [42, 48, 13, 10, 7] = some ([], [7]) := by rfl
/-- incomplete payload: nothing is consumed -/
example : tryParse [42, 49, 13, 10, 36, 51, 13, 10, 115, 101] = none := by rfl
/-- non-canonical length `$03` is not a header -/
example : tryParse [42, 49, 13, 10, 36, 48, 51, 13, 10, 115, 101, 116, 13, 10] = none := by rfl
/-- two pipelined `PING`s split in the middle of the second header -/
example :
    let a : Bytes := [42, 49, 13, 10, 36, 52, 13, 10, 112, 105, 110, 103, 13, 10, 42, 49, 13]
    let b : Bytes := [10, 36, 52, 13, 10, 112, 105, 110, 103, 13, 10]
    parseAll 5 a = ([[[112, 105, 110, 103]]], [42, 49, 13]) ∧
    parseAll 5 ((parseAll 5 a).2 ++ b) = ([[[112, 105, 110, 103]]], []) ∧
    parseAll 5 (a ++ b) = ([[[112, 105, 110, 103]], [[112, 105, 110, 103]]], []) := by
  refine ⟨by rfl, by rfl, by rfl⟩

end C04
end FR

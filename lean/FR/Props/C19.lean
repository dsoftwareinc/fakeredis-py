import FR.Proofs.Script
/-!
# C19 — the script bridge: value conversion tables, argument check, the script gate, numkeys, the script cache

`replyToLua` = `_convert_redis_result`, `luaToReply nested` = `_convert_lua_result(…, nested)`,
`luaToArg` = `_convert_redis_arg`, `runGate` = the refusals checked by `_run_command`,
`evalBody` = the body of EVAL after argument parsing, `scriptBody` = EVAL / EVALSHA / SCRIPT.
`Special` abbreviates the type of the table of special bodies handed to the nested runner.
`s.cacheScript more sha src` = `s` with the remaining hints `more` and `src` cached under `sha`.
Also here: a reply that goes through a script unchanged (section 3), and the codec of the Lua values recorded in the
hints (section 4, which stands after section 8).
-/
namespace FR.Props.C19
open FR FR.M

/-! ## 1. redis → Lua -/

theorem conversion_table_to_lua :
    (∀ b, replyToLua (.bulk b) = .ok (.str b)) ∧
    (∀ n, replyToLua (.int n) = .ok (.int n)) ∧
    (∀ s, replyToLua (.status s) = .ok (.table [] [(strBytes "ok", .str s)])) ∧
    replyToLua .nil = .ok (.bool false) ∧
    (∀ e, replyToLua (.err e) = .error (bytesStr e)) ∧
    (∀ xs, replyToLua (.arr xs) = (repliesToLua xs).map (LuaVal.table · [])) ∧
    (∀ xs vs, repliesToLua xs = .ok vs ↔ xs.map replyToLua = vs.map .ok) ∧
    (∀ xs vs, repliesToLua xs = .ok vs ↔
      vs.length = xs.length ∧ ∀ (i : Nat) (h₁ : i < xs.length) (h₂ : i < vs.length), replyToLua xs[i] = .ok vs[i]) :=
  ⟨replyToLua_bulk, replyToLua_int, replyToLua_status, replyToLua_nil, replyToLua_err, replyToLua_arr,
   repliesToLua_ok_iff, repliesToLua_ok_iff_get⟩

/-- an error reply anywhere inside an array makes the conversion raise: the value exists iff no error occurs -/
theorem to_lua_defined_iff (r : Reply) : (∃ v, replyToLua r = .ok v) ↔ r.errFree = true :=
  ⟨fun ⟨v, h⟩ => errFree_of_ok r v h, ok_of_errFree r⟩

/-- a nil reply travels as `false`, so the value handed to Lua holds no Lua nil anywhere and none of its arrays
is cut short (`LuaVal.table arr _` is the maximal nil-free array prefix the host reports; the cut at the first nil
is made by the host's table, before the value reaches `luaToReply`) -/
theorem to_lua_nil_free (r : Reply) (v : LuaVal) (h : replyToLua r = .ok v) : v.nilFree = true :=
  nilFree_of_replyToLua r v h

/-! ## 2. Lua → redis -/

theorem conversion_table_to_reply (nested : Bool) :
    luaToReply nested .nil = .ok .nil ∧
    luaToReply nested (.bool false) = .ok .nil ∧
    luaToReply nested (.bool true) = .ok (.int 1) ∧
    (∀ n, luaToReply nested (.int n) = .ok (.int n)) ∧
    (∀ d, luaToReply nested (.flt d) = .ok (.int d.truncToInt)) ∧
    (∀ b, luaToReply nested (.str b) = .ok (.bulk b)) ∧
    (∀ b, luaToReply nested (.pystr b) = .ok (.bulk b)) ∧
    -- {ok = m}
    (∀ arr hash m, hash.lookup (strBytes "ok") = some (.str m) →
      luaToReply nested (.table arr hash) = .ok (.status m)) ∧
    -- {err = m} without an "ok" field
    (∀ arr hash m, hash.lookup (strBytes "ok") = none → hash.lookup (strBytes "err") = some (.str m) →
      luaToReply nested (.table arr hash) = if nested then .ok (.err m) else .error (bytesStr m)) ∧
    -- "ok" / "err" holding nil, a boolean or a number
    (∀ arr hash v, hash.lookup (strBytes "ok") = some v → v.isPlainNonString = true →
      luaToReply nested (.table arr hash) = .error Msgs.LUA_WRONG_NUMBER_ARGS_MSG) ∧
    (∀ arr hash v, hash.lookup (strBytes "ok") = none → hash.lookup (strBytes "err") = some v →
      v.isPlainNonString = true →
      luaToReply nested (.table arr hash) = .error Msgs.LUA_WRONG_NUMBER_ARGS_MSG) ∧
    -- a table without ok / err: the array part, element-wise (nested)
    (∀ arr hash, hash.lookup (strBytes "ok") = none → hash.lookup (strBytes "err") = none →
      luaToReply nested (.table arr hash) = (arr.mapM (luaToReplyF 199 true)).map .arr) := by
  refine ⟨rfl, rfl, rfl, fun _ => rfl, fun _ => rfl, fun _ => rfl, fun _ => rfl, ?_, ?_, ?_, ?_, ?_⟩
  · intro arr hash m h
    exact luaToReplyF_table_ok h rfl
  · intro arr hash m hok h
    exact luaToReplyF_table_err hok h rfl
  · intro arr hash v h hv
    obtain ⟨r, hr, hb⟩ := luaToReplyF_nonString (f := 198) hv
    exact luaToReplyF_table_ok_bad h hr hb
  · intro arr hash v hok h hv
    obtain ⟨r, hr, hb⟩ := luaToReplyF_nonString (f := 198) hv
    exact luaToReplyF_table_err_bad hok h hr hb
  · intro arr hash hok herr
    exact luaToReplyF_table_plain hok herr

/-- the general row for "ok" / "err": whatever the field converts to must be a bulk string
(a `pystr` qualifies, a nested table never does) -/
theorem status_field_general (nested : Bool) (arr : List LuaVal) (hash : List (Bytes × LuaVal)) (v : LuaVal) (r : Reply)
    (hv : luaToReplyF 199 true v = .ok r) :
    (hash.lookup (strBytes "ok") = some v →
      luaToReply nested (.table arr hash) =
        match r with | .bulk m => .ok (.status m) | _ => .error Msgs.LUA_WRONG_NUMBER_ARGS_MSG) ∧
    (hash.lookup (strBytes "ok") = none → hash.lookup (strBytes "err") = some v →
      luaToReply nested (.table arr hash) =
        match r with
        | .bulk m => if nested then .ok (.err m) else .error (bytesStr m)
        | _ => .error Msgs.LUA_WRONG_NUMBER_ARGS_MSG) := by
  constructor
  · intro h
    cases r with
    | bulk m => exact luaToReplyF_table_ok h hv
    | nil | int _ | status _ | err _ | arr _ => exact luaToReplyF_table_ok_bad h hv (fun m hm => by cases hm)
  · intro hok h
    cases r with
    | bulk m => exact luaToReplyF_table_err hok h hv
    | nil | int _ | status _ | err _ | arr _ => exact luaToReplyF_table_err_bad hok h hv (fun m hm => by cases hm)

/-! ## 3. a reply handed to a script and returned unchanged comes back as the same reply -/

/-- fuel-parametric form; `Reply.depth`: scalars 1, a status 2 (it travels as `{ok=…}`), an array 1 + its deepest element -/
theorem roundtrip_reply_fuel (r : Reply) (v : LuaVal) (fuel : Nat) (nested : Bool)
    (h : replyToLua r = .ok v) (hd : r.depth ≤ fuel) : luaToReplyF fuel nested v = .ok r :=
  roundtripF r v fuel nested h hd

theorem roundtrip_reply (r : Reply) (v : LuaVal) (nested : Bool)
    (h : replyToLua r = .ok v) (hd : r.depth ≤ 200) : luaToReply nested v = .ok r :=
  roundtripF r v 200 nested h hd

/-- stated from the reply alone -/
theorem roundtrip_reply_errFree (r : Reply) (nested : Bool) (he : r.errFree = true) (hd : r.depth ≤ 200) :
    ∃ v, replyToLua r = .ok v ∧ luaToReply nested v = .ok r := by
  obtain ⟨v, hv⟩ := ok_of_errFree r he
  exact ⟨v, hv, roundtripF r v 200 nested hv hd⟩

/-! ## 5. arguments must be strings or numbers -/

theorem luaToArg_spec (version : Nat) :
    (∀ b, luaToArg version (.str b) = .ok b) ∧
    (∀ n, luaToArg version (.int n) = .ok (strBytes (Dbl.fmtG17 (Dbl.ofInt n)))) ∧
    (∀ d, luaToArg version (.flt d) = .ok (strBytes (Dbl.fmtG17 d))) ∧
    (∀ v, (∀ b, v ≠ .str b) → (∀ n, v ≠ .int n) → (∀ d, v ≠ .flt d) →
      luaToArg version v =
        .error (if version < 7 then Msgs.LUA_COMMAND_ARG_MSG6 else Msgs.LUA_COMMAND_ARG_MSG)) ∧
    luaToArg version .nil = .error (if version < 7 then Msgs.LUA_COMMAND_ARG_MSG6 else Msgs.LUA_COMMAND_ARG_MSG) ∧
    (∀ b, luaToArg version (.bool b) =
      .error (if version < 7 then Msgs.LUA_COMMAND_ARG_MSG6 else Msgs.LUA_COMMAND_ARG_MSG)) ∧
    (∀ b, luaToArg version (.pystr b) =
      .error (if version < 7 then Msgs.LUA_COMMAND_ARG_MSG6 else Msgs.LUA_COMMAND_ARG_MSG)) ∧
    (∀ a h, luaToArg version (.table a h) =
      .error (if version < 7 then Msgs.LUA_COMMAND_ARG_MSG6 else Msgs.LUA_COMMAND_ARG_MSG)) :=
  ⟨fun _ => rfl, fun _ => rfl, fun _ => rfl, luaToArg_other version, rfl, fun _ => rfl, fun _ => rfl, fun _ _ => rfl⟩

/-! ## 6. commands Redis forbids in scripts -/

theorem noscript_refused :
    (∀ sig subscribed, sig.noScript = true → runGate sig true subscribed = some Msgs.COMMAND_IN_SCRIPT_MSG) ∧
    (∀ sig, runGate sig false false = none) ∧
    (∀ sig, sig.noScript = false → runGate sig true false = none) ∧
    (∀ sig ∈ SigTable.sigs, sig.name ∈
        ["multi","exec","discard","watch","unwatch","eval","evalsha","script","subscribe","psubscribe","unsubscribe",
         "punsubscribe","blpop","brpop","brpoplpush","save","bgsave"] → sig.noScript = true) ∧
    (∀ sig ∈ SigTable.sigs, (sig.noScript = true ↔ sig.name ∈ forbiddenInScripts)) := by
  refine ⟨fun sig sub h => runGate_noScript sig sub h, runGate_direct, ?_, ?_, sigs_noScript_iff⟩
  · intro sig h
    simp [runGate, h]
  · intro sig hs hn
    exact ((sigs_noScript_iff sig hs).2 hn)

/-- inside `_run_command(…, from_script=True)`: the subscriber-mode check comes first (a subscribed connection issuing a
command outside the allow-list gets the context error and nothing changes); otherwise a forbidden command that passes its
argument checks is answered with the refusal, its body is never consulted (the right-hand side does not mention
`special`), and none of the forbidden commands is a regular (database-only) command -/
theorem noscript_refused_run (special : Special) (mode : Mode) (c : Nat) (sig : Sig) (raw : List Bytes) (s : Sys)
    (hs : sig ∈ SigTable.sigs) (h : sig.noScript = true) :
    runWith special mode c sig raw true s =
      if s.refuses c sig then (some refusalReply, s) else
      let d := (s.conn c).db
      let o := sig.apply raw ⟨s.srv.dbs.getD d [], s.srv.time⟩
      (some (match o.2 with
        | .error e => .err (strBytes e)
        | .ok (.short r) => r
        | .ok (.ok _ _) => .err (strBytes Msgs.COMMAND_IN_SCRIPT_MSG)),
       { s with srv := { s.srv with dbs := s.srv.dbs.set d o.1.dict } }) := by
  cases hr : s.refuses c sig with
  | true => rw [runWith_refused special mode c sig raw true hr]; rfl
  | false =>
    rw [runWith_noScript_run special mode c sig raw s h
      (Option.isNone_iff_eq_none.mp (noScript_not_regular sig hs h)) hr]
    rfl

/-- both branches occur: EVAL from a script on an ordinary connection is past the subscriber-mode check, on a
subscribed connection it is not; SUBSCRIBE is on the allow-list, so only the script refusal applies -/
example : ∃ (sig : Sig) (s : Sys), SigTable.find "eval" = some sig ∧ sig.noScript = true ∧ s.refuses 7 sig = false :=
  ⟨_, { srv := { conns := [{ id := 7 }] } }, rfl, rfl, by decide⟩
example : ∃ (sig : Sig) (s : Sys), SigTable.find "eval" = some sig ∧ sig.noScript = true ∧ s.refuses 7 sig = true :=
  ⟨_, { srv := { conns := [{ id := 7, pubsub := 1 }] } }, rfl, rfl, by decide⟩
example : ∃ (sig : Sig) (s : Sys), SigTable.find "subscribe" = some sig ∧ sig.noScript = true ∧ s.refuses 7 sig = false :=
  ⟨_, { srv := { conns := [{ id := 7, pubsub := 1 }] } }, rfl, rfl, by decide⟩

/-! ## 7. EVAL validates numkeys -/

theorem eval_numkeys_validation (special : Special) (mode : Mode) (c : Nat) (script : Bytes) (numkeys : Int)
    (rest : List Bytes) (sha : Bytes) (more : List (List Bytes)) (s : Sys)
    (h : s.picks = [strBytes "sha", sha] :: more) :
    (numkeys > rest.length →
      (evalBody special mode c script numkeys rest).run s =
        (.error Msgs.TOO_MANY_KEYS_MSG, { s with picks := more })) ∧
    (numkeys < 0 →
      (evalBody special mode c script numkeys rest).run s =
        (.error Msgs.NEGATIVE_KEYS_MSG, { s with picks := more })) ∧
    (numkeys > rest.length ∨ numkeys < 0 →
      ((evalBody special mode c script numkeys rest).run s).2.srv = s.srv) ∧
    (0 ≤ numkeys → numkeys ≤ rest.length →
      (evalBody special mode c script numkeys rest).run s =
        (runTrace special mode c sha 100000).run (s.cacheScript more sha script) ∧
      (s.cacheScript more sha script).srv.scripts.lookup sha = some script ∧
      (∀ sha', sha' ≠ sha → (s.cacheScript more sha script).srv.scripts.lookup sha' = s.srv.scripts.lookup sha')) := by
  have hr := evalBody_run special mode c script numkeys rest sha more s h
  refine ⟨?_, ?_, ?_, ?_⟩
  · intro h1; rw [hr, if_pos h1]
  · intro h2
    have h1 : ¬ numkeys > (rest.length : Int) := by omega
    rw [hr, if_neg h1, if_pos h2]
  · intro h12
    rw [hr]
    split
    · rfl
    · rw [if_pos (by omega)]
  · intro h0 h1
    refine ⟨?_, (Sys.cacheScript_lookup ..).trans (if_pos rfl),
      fun sha' hne => (Sys.cacheScript_lookup ..).trans (if_neg hne)⟩
    rw [hr, if_neg (by omega), if_neg (by omega)]

/-! ## 8. EVALSHA, SCRIPT LOAD, SCRIPT EXISTS and SCRIPT FLUSH agree on which scripts are cached -/

theorem cache_agreement (special : Special) (mode : Mode) (c : Nat) (s : Sys) :
    -- SCRIPT LOAD src (sub-command in any case), sha hint `h`
    (∀ sub src h more, casematch sub "load" = true → s.picks = [strBytes "sha", h] :: more →
      (scriptBody special mode c "script" [.raw sub, .raw src]).run s = (.ok (.bulk h), s.cacheScript more h src) ∧
      (s.cacheScript more h src).srv.scripts.lookup h = some src ∧
      (∀ h', h' ≠ h → (s.cacheScript more h src).srv.scripts.lookup h' = s.srv.scripts.lookup h')) ∧
    -- SCRIPT EXISTS h1 … hn
    (∀ sub hs, casematch sub "exists" = true → (s.srv.version ≥ 7 → hs ≠ []) →
      (scriptBody special mode c "script" (.raw sub :: hs.map .raw)).run s =
        (.ok (.arr (hs.map fun h => .int (if (s.srv.scripts.lookup h).isSome then 1 else 0))), s)) ∧
    -- SCRIPT FLUSH [SYNC|ASYNC]
    (∀ sub raw, casematch sub "flush" = true → flushArgOk raw →
      (scriptBody special mode c "script" (.raw sub :: raw.map .raw)).run s =
        (.ok .ok, { s with srv := { s.srv with scripts := [] } })) ∧
    -- … after which EXISTS answers 0 for everything and EVALSHA answers NOSCRIPT
    (∀ sub hs, casematch sub "exists" = true → (s.srv.version ≥ 7 → hs ≠ []) →
      (scriptBody special mode c "script" (.raw sub :: hs.map .raw)).run { s with srv := { s.srv with scripts := [] } } =
        (.ok (.arr (hs.map fun _ => .int 0)), { s with srv := { s.srv with scripts := [] } })) ∧
    (∀ sha numkeys rest,
      (scriptBody special mode c "evalsha" (.raw sha :: .int numkeys :: rest)).run
          { s with srv := { s.srv with scripts := [] } } =
        (.error Msgs.NO_MATCHING_SCRIPT_MSG, { s with srv := { s.srv with scripts := [] } })) ∧
    -- EVALSHA of an uncached sha: NOSCRIPT, nothing changes
    (∀ sha numkeys rest, s.srv.scripts.lookup sha = none →
      (scriptBody special mode c "evalsha" (.raw sha :: .int numkeys :: rest)).run s =
        (.error Msgs.NO_MATCHING_SCRIPT_MSG, s)) ∧
    -- EVALSHA of a cached sha is EVAL of the cached source
    (∀ sha src numkeys rest, s.srv.scripts.lookup sha = some src →
      (scriptBody special mode c "evalsha" (.raw sha :: .int numkeys :: rest)).run s =
        (scriptBody special mode c "eval" (.raw src :: .int numkeys :: rest)).run s ∧
      (scriptBody special mode c "eval" (.raw src :: .int numkeys :: rest)).run s =
        (evalBody special mode c src numkeys (Cmd.rawArgs rest)).run s) := by
  refine ⟨?_, ?_, ?_, ?_, ?_, ?_, ?_⟩
  · intro sub src h more hsub hp
    exact ⟨scriptBody_load_run special mode c sub src h more s hsub hp, (Sys.cacheScript_lookup ..).trans (if_pos rfl),
      fun h' hne => (Sys.cacheScript_lookup ..).trans (if_neg hne)⟩
  · intro sub hs hsub hv
    exact scriptBody_exists_run special mode c sub hs s hsub hv
  · intro sub raw hsub hraw
    exact scriptBody_flush_run special mode c sub raw s hsub hraw
  · intro sub hs hsub hv
    exact scriptBody_exists_run special mode c sub hs _ hsub hv
  · intro sha numkeys rest
    exact scriptBody_evalsha_run special mode c sha numkeys rest _
  · intro sha numkeys rest hl
    rw [scriptBody_evalsha_run, hl]
  · intro sha src numkeys rest hl
    rw [scriptBody_evalsha_run, hl, scriptBody_eval]
    exact ⟨rfl, rfl⟩

/-- LOAD, EXISTS and EVALSHA agree: what LOAD stored under `h` is reported by EXISTS and run by EVALSHA -/
theorem load_then_exists_evalsha (special : Special) (mode : Mode) (c : Nat) (s : Sys) (sub src h : Bytes)
    (more : List (List Bytes)) (hsub : casematch sub "load" = true) (hp : s.picks = [strBytes "sha", h] :: more) :
    let s' := ((scriptBody special mode c "script" [.raw sub, .raw src]).run s).2
    (∀ sub', casematch sub' "exists" = true →
      (scriptBody special mode c "script" [.raw sub', .raw h]).run s' = (.ok (.arr [.int 1]), s')) ∧
    (∀ numkeys rest, (scriptBody special mode c "evalsha" (.raw h :: .int numkeys :: rest)).run s' =
      (evalBody special mode c src numkeys (Cmd.rawArgs rest)).run s') := by
  intro s'
  have hs' : s' = s.cacheScript more h src := by
    show ((scriptBody special mode c "script" [.raw sub, .raw src]).run s).2 = _
    rw [scriptBody_load_run special mode c sub src h more s hsub hp]
  have hl : s'.srv.scripts.lookup h = some src := by rw [hs', Sys.cacheScript_lookup, if_pos rfl]
  constructor
  · intro sub' hsub'
    have := scriptBody_exists_run special mode c sub' [h] s' hsub' (fun _ => by simp)
    simpa [hl] using this
  · intro numkeys rest
    rw [scriptBody_evalsha_run, hl]

/-! ## 4. the textual codec of Lua values used by the hints

`v.fltOk`: every float inside `v` is in the representation `Dbl.ofBits` produces (`Dbl.ofBits d.toBits = d`);
the model's `Dbl` also has representations that `Dbl.ofBits` never produces (`.fin false 2 (-1075)`; `toBits` reads a
mantissa below `2^52` without looking at the exponent), and for those the codec returns `Dbl.ofBits d.toBits`
(`hint_codec_flt`; example at the end).  Strings and keys are arbitrary bytes. -/

theorem hint_codec_roundtrip (v : LuaVal) (h : v.fltOk) : LuaVal.ofBytes (LuaVal.ser v) = some v :=
  ofBytes_ser v h

/-- float-free values: no side condition -/
theorem hint_codec_roundtrip_noflt (v : LuaVal) (h : v.noFlt = true) : LuaVal.ofBytes (LuaVal.ser v) = some v :=
  ofBytes_ser v (fltOk_of_noFlt v h)

/-- a float comes back as the canonical representation of its bit pattern -/
theorem hint_codec_flt (d : Dbl) : LuaVal.ofBytes (LuaVal.ser (.flt d)) = some (.flt (Dbl.ofBits d.toBits)) := by
  unfold LuaVal.ofBytes
  rw [← List.append_nil (LuaVal.ser (.flt d)), parse_ser_flt]

/-- the encoding is self-delimiting: the parser reads exactly one value off the front of any input, with any fuel
that is at least the length of the encoding -/
theorem hint_codec_prefix (v : LuaVal) (h : v.fltOk) (fuel : Nat) (rest : Bytes) (hf : (LuaVal.ser v).length ≤ fuel) :
    LuaVal.parse fuel (LuaVal.ser v ++ rest) = some (v, rest) :=
  parse_ser v h fuel rest hf

/-! ## non-vacuity -/

example : (LuaVal.table [.flt (Dbl.ofDecimal true 25 (-1)), .flt (.inf true), .flt .nan, .flt (Dbl.ofInt 0),
    .str [0, 59, 255], .table [] [([], .nil), ([61, 44], .bool true)]] [([125], .int (-7))]).fltOk := by
  simp only [LuaVal.fltOk, LuaVal.fltOkL, LuaVal.fltOkH]; decide

/-- the excluded corner: a non-canonical float does not survive the codec -/
example : LuaVal.ofBytes (LuaVal.ser (.flt (.fin false 2 (-1075)))) = some (.flt (.fin false 2 (-1074))) := by
  rw [hint_codec_flt]
  exact congrArg (fun d => some (LuaVal.flt d)) (by decide)

example : luaToReply false (.table [.int 1, .flt (Dbl.ofDecimal false 37 (-1)), .str [120]] []) =
    .ok (.arr [.int 1, .int 3, .bulk [120]]) := by rfl

example : (Dbl.ofDecimal true 25 (-1)).truncToInt = -2 := by rfl

example : replyToLua (.arr [.status [79, 75], .nil, .bulk [97], .arr [.int 5]]) =
    .ok (.table [.table [] [(strBytes "ok", .str [79, 75])], .bool false, .str [97], .table [.int 5] []] []) := by rfl

example : luaToReply true (.table [.table [] [(strBytes "ok", .str [79, 75])], .bool false, .str [97], .table [.int 5] []] [])
    = .ok (.arr [.status [79, 75], .nil, .bulk [97], .arr [.int 5]]) :=
  roundtripF _ _ 200 true rfl (by decide)

example : replyToLua (.arr [.int 1, .arr [.err [120]]]) = .error "x" := by rfl

example : luaToReply true (.table [] [(strBytes "err", .str [120])]) = .ok (.err [120]) ∧
    luaToReply false (.table [] [(strBytes "err", .str [120])]) = .error "x" := by
  have h1 : List.lookup (strBytes "ok") [(strBytes "err", LuaVal.str [120])] = none := by
    simp [List.lookup, strBytes_eq]
    decide
  have h2 : List.lookup (strBytes "err") [(strBytes "err", LuaVal.str [120])] = some (.str [120]) := by
    simp [List.lookup]
  exact ⟨luaToReplyF_table_err (f := 199) h1 h2 rfl, luaToReplyF_table_err (f := 199) (nested := false) h1 h2 rfl⟩

example : luaToReply false (.table [.int 1, .nil, .int 3] []) = .ok (.arr [.int 1, .nil, .int 3]) := by rfl

example : luaToArg 7 (.bool true) = .error Msgs.LUA_COMMAND_ARG_MSG ∧ luaToArg 6 .nil = .error Msgs.LUA_COMMAND_ARG_MSG6 ∧
    luaToArg 7 (.str [97]) = .ok [97] := ⟨rfl, rfl, rfl⟩

example : (SigTable.find "eval").map (fun sig => runGate sig true false) = some (some Msgs.COMMAND_IN_SCRIPT_MSG) ∧
    (SigTable.find "get").map (fun sig => runGate sig true false) = some none := by decide

end FR.Props.C19

import FR.Proofs.C19m
import FR.Props.C04k
import FR.Props.C05
/-!
# C19 inside MULTI — script commands (EVAL / EVALSHA / SCRIPT) queued in a transaction

`FakeSocket.exec` runs every queued command with `self._run_command(func, sig, args, False)` while
`self._in_transaction` is set.  For a queued EVAL that is exactly what a direct EVAL does - the same `_run_command`,
`from_script = False` - only with `_in_transaction` set and inside the critical section of the EXEC.  The model's
nested runner `runInner` (the `inner` argument EXEC runs its queue with) dispatches a queued script command to
`runScriptCmd`, the runner of a direct script command; the hints a script needs (SHA-1 of the source, the recorded
call trace, the final Lua value) are consumed from the hint list in order, so several queued EVALs use them one after
the other.

* (a) **the nested runner is the direct runner, for every queueable command** (`runInner_eq_runCommand_all`), hence
  EXEC is the sequential composition of the queued commands' direct runs, script commands included
  (`exec_eq_sequential_with_scripts`, `exec_eq_sequential_with_scripts_wf`);
* (b) **no request crashes**, an EXEC of a queue holding script commands included
  (`processCommand_never_crashes'`, `event_never_crashes'`, `reachable_alive'`, `reachable_conn_alive'`: the theorems of
  `FR/Props/C04k.lean` (b) under the names this property is checked by).  The hypotheses: the queue invariant `TxWf`
  (holds in every reachable state), `crashed = none` before, for events that no connection is already dead and that
  the event is not a write during an outage (which raises the client library's `ConnectionError` by design).
  Nothing is assumed about the hints or the `fault` marker: a script whose recorded trace cannot be
  followed (missing / malformed / contradicting hints) sets the model's `fault` flag - "the replay could not follow
  this run" - which is not a crash (`unfollowed_script_is_not_a_crash`);
* (c) **atomicity**: the clean-up, the clock refresh, closing the transaction, every queued command - the
  `redis.call`s of the queued scripts included - and the one reply all happen within the single `processCommand` event
  of the EXEC (`exec_event_sequential`, `exec_event_dbs`); and an inner EVAL / EVALSHA that fails before its script
  starts (NOSCRIPT, `numkeys` out of range) is just that element of the EXEC array and changes nothing else
  (`exec_inner_script_error_changes_nothing`, `exec_each_inner_script_error`);
* (d) a queued EVAL whose script returns a value: its element of the EXEC array is the converted value
  (`exec_inner_eval_returns`), and the history `MULTI; EVAL "return 1" 0; EXEC` replies `[1]`
  (`multi_eval_return_exec`).

Vocabulary: `directInner mode c sig raw = runCommand mode c sig raw false` (the direct runner as a nested runner);
`TxWf s` / `QOk n` (the queue invariant of `FR/Props/C04k.lean`: every queued name is a known command, not
EXEC / DISCARD / MULTI / WATCH, not (P)SUBSCRIBE / (P)UNSUBSCRIBE); `AllAlive`, `UpFrom`, `Ev.up` as in C04k;
`prep s` (the state after the clean-up of closed sockets and the clock refresh that precede every known command);
`Sys.execStart s c` (`s` with the transaction of `c` closed and its watches dropped); `finish c s` (`s`, with `c`
marked dead iff `crashed` is set); `NotStarted name args scripts` (EVAL / EVALSHA whose converted arguments say the
script will not start); `Quiet`, `QuietUpTo`, `setInTx`, `clearInTx` as in `FR/Props/C08s.lean`.
-/
namespace FR.Props.C19m
open FR FR.M FR.C04k FR.ErrSys FR.C19m FR.PubSubHist

/-- the table entry of a command name (for the examples) -/
def sigOf (n : String) : Sig := (SigTable.find n).getD default

/-! ## (a) the nested runner of EXEC is the direct runner -/

/-- **For every command that can sit in a queue** - every command but EXEC (which is never queued) - **EXEC runs it
exactly as the client's direct request would be run**: the same function of the state, replies and effects; the
script commands are no exception (the same statement as `FR.C05.runInner_eq_runCommand`). -/
theorem runInner_eq_runCommand_all (mode : Mode) (c : Nat) (sig : Sig) (raw : List Bytes) (h : sig.name ≠ "exec") :
    runInner mode c sig raw = runCommand mode c sig raw false :=
  runInner_eq_runCommand' mode c sig raw h

/-- the same under the reachable-queue invariant: for every entry of a queue of a state with well-formed queues -/
theorem runInner_eq_runCommand_queued (mode : Mode) (c : Nat) (s : Sys) (hwf : TxWf s)
    {q : List (String × List Bytes)} (htx : (s.conn c).tx = some q) {a : String × List Bytes} (ha : a ∈ q) :
    ∃ sig, SigTable.find a.1 = some sig ∧ runInner mode c sig a.2 = runCommand mode c sig a.2 false := by
  have hok : QOk a.1 := TxAll.conn hwf c htx a ha
  obtain ⟨sig, hsig⟩ := hok.2.2
  exact ⟨sig, hsig, runInner_eq_runCommand_all mode c sig a.2 (by rw [SigTable.find_name hsig]; exact QOk.ne_exec hok)⟩

/-- in particular for the three script commands -/
theorem runInner_script_eq_direct (mode : Mode) (c : Nat) (sig : Sig) (raw : List Bytes)
    (hs : sig.name ∈ ["eval", "evalsha", "script"]) :
    runInner mode c sig raw = runCommand mode c sig raw false :=
  runInner_eq_runCommand_all mode c sig raw (by
    intro h; rw [h] at hs; revert hs; decide)

/-- non-vacuity: EVAL, EVALSHA and SCRIPT are in the table, are not EXEC, and may be queued -/
example : ∀ n ∈ ["eval", "evalsha", "script"], (SigTable.find n).isSome = true ∧ (sigOf n).name = n ∧
    (sigOf n).name ≠ "exec" ∧ QOk n := by decide +kernel

example (raw : List Bytes) : runInner {} 1 (sigOf "eval") raw = runCommand {} 1 (sigOf "eval") raw false :=
  runInner_script_eq_direct {} 1 (sigOf "eval") raw (by decide +kernel)

/-- **`exec_eq_sequential` with scripts.**  EXEC of a queue `q` (not aborted, no watched key touched) is: close the
transaction, drop the watches, run the queued commands one after the other - each with the direct runner
`runCommand … false`, script commands included, `inTx` set around each -, and answer the array of the inner replies.
(`FR.C05.exec_eq_sequential` states this for an arbitrary nested runner.) -/
theorem exec_eq_sequential_with_scripts (s : Sys) (mode : Mode) (c : Nat) (cis : List CI)
    (q : List (String × List Bytes))
    (h : (s.conn c).tx = some q) (hf : (s.conn c).txFailed = false) (hw : (s.conn c).watchNotified = false)
    (hq : ∀ a ∈ q, a.1 ≠ "exec") :
    execCmd (runInner mode c) c cis s = (do
      modifyConn c fun x => { x with tx := none, txFailed := false }
      clearWatches c
      let results ← runQueue (fun sig raw => runCommand mode c sig raw false) c q
      if results.any Option.isNone then
        modify fun s => { s with crashed := some "AssertionError" }
        return .ok (none, cis)
      else okR (.arr (results.map fun r => r.getD .nil)) cis : M SpecialOut) s := by
  rw [FR.C05.exec_eq_sequential s (runInner mode c) c cis q h hf hw, runQueue_eq_direct mode c q hq]
  rfl

/-- EXEC of a well-formed queue (every reachable one): the assertion branch is dead, the value is the array of the
inner replies, the state the one the sequential run of the direct commands leaves -/
theorem exec_eq_sequential_with_scripts_wf (s : Sys) (mode : Mode) (c : Nat) (cis : List CI)
    (q : List (String × List Bytes))
    (h : (s.conn c).tx = some q) (hf : (s.conn c).txFailed = false) (hw : (s.conn c).watchNotified = false)
    (hq : ∀ a ∈ q, QOk a.1) :
    execCmd (runInner mode c) c cis s =
      (.ok (some (.arr ((runQueue (directInner mode c) c q (Sys.execStart s c)).1.map fun r => r.getD .nil)), cis),
        (runQueue (directInner mode c) c q (Sys.execStart s c)).2) :=
  execCmd_sequential_direct s mode c cis q h hf hw hq

/-- no inner command of a well-formed queue answers `NoResponse`, script commands included -/
theorem exec_inner_always_replies (mode : Mode) (c : Nat) (q : List (String × List Bytes)) (s : Sys)
    (hc : s.HasConn c) (hq : ∀ a ∈ q, QOk a.1) :
    (runQueue (runInner mode c) c q s).1.any Option.isNone = false :=
  (runQueue_spec mode c q s hc hq).2

/-- `SET k v; EVAL "return 1" 0; SCRIPT LOAD "return 1"` -/
def qS : List (String × List Bytes) :=
  [("set", [[107], [118]]), ("eval", [strBytes "return 1", strBytes "0"]),
    ("script", [strBytes "load", strBytes "return 1"])]

/-- a connection inside MULTI with `qS` queued -/
def sQ : Sys := { srv := { conns := [{ id := 1, tx := some qS }] }, clocks := [5] }

theorem sQ_qok : ∀ a ∈ qS, QOk a.1 := by decide +kernel

/-- non-vacuity of the theorems above: the hypotheses hold for `sQ` -/
example : execCmd (runInner {} 1) 1 [] sQ =
    (.ok (some (.arr ((runQueue (directInner {} 1) 1 qS (Sys.execStart sQ 1)).1.map fun r => r.getD .nil)), []),
      (runQueue (directInner {} 1) 1 qS (Sys.execStart sQ 1)).2) :=
  exec_eq_sequential_with_scripts_wf sQ {} 1 [] qS rfl rfl rfl sQ_qok

example : execCmd (runInner {} 1) 1 [] sQ = (do
      modifyConn 1 fun x => { x with tx := none, txFailed := false }
      clearWatches 1
      let results ← runQueue (fun sig raw => runCommand {} 1 sig raw false) 1 qS
      if results.any Option.isNone then
        modify fun s => { s with crashed := some "AssertionError" }
        return .ok (none, [])
      else okR (.arr (results.map fun r => r.getD .nil)) [] : M SpecialOut) sQ :=
  exec_eq_sequential_with_scripts sQ {} 1 [] qS rfl rfl rfl (by decide +kernel)

example : (runQueue (runInner {} 1) 1 qS (Sys.execStart sQ 1)).1.any Option.isNone = false :=
  exec_inner_always_replies {} 1 qS _ (by decide +kernel) sQ_qok

/-! ## (b) no crash, without the exclusion of queued script commands -/

/-- **No crash.**  Any request — any name, arguments, mode; an EXEC whose queue holds script commands included — on any
connection of a state with well-formed queues and `crashed = none`: `crashed` is still `none`, no connection dies, the
queues stay well-formed.  Nothing is assumed about the hints in `s.picks` or about `fault`. -/
theorem processCommand_never_crashes' (mode : Mode) (c : Nat) (fields : List Bytes) (s : Sys) (h : TxWf s)
    (hcr : s.crashed = none) :
    (processCommand mode c fields s).2.crashed = none ∧
    (AllAlive s → AllAlive (processCommand mode c fields s).2) ∧
    TxWf (processCommand mode c fields s).2 :=
  ⟨(FR.Props.C04k.processCommand_never_crashes mode c fields s h hcr).1,
    (FR.Props.C04k.processCommand_never_crashes mode c fields s h hcr).2,
    (FR.Props.C04k.processCommand_keeps mode c fields s h).1⟩

/-- **One event** from a healthy state (queues well-formed, no dead connection) that is not a write during an outage:
`crashed = none` afterwards, no connection is dead, the queues are well-formed — whether or not the model could follow
the run -/
theorem event_never_crashes' (s : Sys) (e : Ev) (h : TxWf s) (ha : AllAlive s) (hup : e.up s) :
    (stepEv s e).crashed = none ∧ AllAlive (stepEv s e) ∧ TxWf (stepEv s e) :=
  FR.Props.C04k.event_never_crashes s e h ha hup

/-- **Over histories**: after every history without a write during an outage (`UpFrom`; nothing about `fault`) no
connection is dead, the queues are well-formed and the last event left `crashed = none` -/
theorem reachable_alive' (evs : List Ev) (hg : UpFrom {} evs) :
    AllAlive (runHistory evs) ∧ TxWf (runHistory evs) ∧ (evs ≠ [] → (runHistory evs).crashed = none) :=
  FR.Props.C04k.reachable_alive evs hg

/-- every connection read off a state reached by a history without a write during an outage is usable -/
theorem reachable_conn_alive' (evs : List Ev) (hg : UpFrom {} evs) (c : Nat) :
    ((runHistory evs).conn c).dead = false :=
  FR.Props.C04k.reachable_conn_alive evs hg c

/-- `MULTI; SET k v; EVAL "return 1" 0; EXEC; PING` as requests, the host's hints missing: the replay cannot follow
the script -/
def demoS : List Ev :=
  [.open 1, .request {} 1 [strBytes "MULTI"] [1] [], .request {} 1 [strBytes "SET", [107], [118]] [2] [],
   .request {} 1 [strBytes "EVAL", strBytes "return 1", strBytes "0"] [3] [],
   .request {} 1 [strBytes "EXEC"] [4] [], .request {} 1 [strBytes "PING"] [5] []]

/-- **A script whose recorded trace cannot be followed sets `fault`, which is not a crash**: on `demoS` the EXEC ends
with the `fault` marker set ("eval: sha hint missing"), `crashed = none`, the connection alive - and it answers the
following PING.  (`GoodFrom` fails for `demoS`, `UpFrom` holds: the theorems above apply.) -/
theorem unfollowed_script_is_not_a_crash :
    (runHistory (demoS.take 5)).fault = some "eval: sha hint missing" ∧
    (runHistory (demoS.take 5)).crashed = none ∧
    ((runHistory (demoS.take 5)).conn 1).dead = false ∧
    ¬ GoodFrom {} demoS ∧ UpFrom {} demoS ∧
    (runHistory demoS).out.map (fun p => (p.1, p.2.render)) = [(1, Reply.pong.render)] := by decide +kernel

/-- non-vacuity of (b) on `demoS` -/
example : ((runHistory demoS).conn 1).dead = false :=
  reachable_conn_alive' demoS unfollowed_script_is_not_a_crash.2.2.2.2.1 1

example : AllAlive (runHistory demoS) ∧ TxWf (runHistory demoS) ∧ (demoS ≠ [] → (runHistory demoS).crashed = none) :=
  reachable_alive' demoS unfollowed_script_is_not_a_crash.2.2.2.2.1

example : (stepEv (runHistory (demoS.take 4)) (.request {} 1 [strBytes "EXEC"] [4] [])).crashed = none ∧
    AllAlive (stepEv (runHistory (demoS.take 4)) (.request {} 1 [strBytes "EXEC"] [4] [])) ∧
    TxWf (stepEv (runHistory (demoS.take 4)) (.request {} 1 [strBytes "EXEC"] [4] [])) :=
  event_never_crashes' _ _ (FR.Props.C04k.txWf_reachable _) (reachable_alive' (demoS.take 4) (by decide +kernel)).1 trivial

/-- the state the EXEC of `demoS` is processed in has the script command in its queue -/
example : (((runHistory (demoS.take 4)).beginEvent.withHints [4] []).conn 1).tx =
    some [("set", [[107], [118]]), ("eval", [strBytes "return 1", strBytes "0"])] := by decide +kernel

example : (processCommand {} 1 [strBytes "EXEC"] ((runHistory (demoS.take 4)).beginEvent.withHints [4] [])).2.crashed = none :=
  (processCommand_never_crashes' {} 1 [strBytes "EXEC"] ((runHistory (demoS.take 4)).beginEvent.withHints [4] [])
    (FR.Props.C04k.txWf_hints (FR.Props.C04k.txWf_reachable (demoS.take 4)) _ _) rfl).1

/-! ## (c) atomicity of scripts inside EXEC -/

/-- **EXEC is one event.**  The request `EXEC` on a connection `c` with the well-formed queue `q` (not aborted, no
watched key touched, not in subscriber mode) is, as ONE `processCommand`: the clean-up / clock refresh (`prep`), closing
the transaction and dropping the watches (`Sys.execStart`), the sequential composition of the queued commands' direct
runs `execRun s mode c q = runQueue (directInner mode c) c q …` - a queued EVAL's `redis.call`s are part of its direct
run -, and the one reply, the array of the inner replies.  No other connection's request can come in between: there
is no event boundary inside. -/
theorem exec_event_sequential (s : Sys) (mode : Mode) (c : Nat) (nameB : Bytes) (q : List (String × List Bytes))
    (hname : commandName nameB = some "exec")
    (htx : (s.conn c).tx = some q) (hf : (s.conn c).txFailed = false) (hw : (s.conn c).watchNotified = false)
    (hps : (s.conn c).pubsub = 0) (hq : ∀ a ∈ q, QOk a.1) :
    processCommand mode c [nameB] s =
      ((), finish c ((execRun s mode c q).2.emitS c (.arr ((execRun s mode c q).1.map fun r => r.getD .nil)))) :=
  processCommand_exec_sequential s mode c nameB q hname htx hf hw hps hq

/-- `exec_event_sequential` from a state with well-formed queues: the hypothesis on `q` is free -/
theorem exec_event_sequential_wf (s : Sys) (hwf : TxWf s) (mode : Mode) (c : Nat) (nameB : Bytes)
    (q : List (String × List Bytes)) (hname : commandName nameB = some "exec")
    (htx : (s.conn c).tx = some q) (hf : (s.conn c).txFailed = false) (hw : (s.conn c).watchNotified = false)
    (hps : (s.conn c).pubsub = 0) :
    processCommand mode c [nameB] s =
      ((), finish c ((execRun s mode c q).2.emitS c (.arr ((execRun s mode c q).1.map fun r => r.getD .nil)))) :=
  exec_event_sequential s mode c nameB q hname htx hf hw hps (TxAll.conn hwf c htx)

/-- **the effect of the EXEC event on the databases = the sequential composition of the queued commands' direct
effects** (script commands included), started from the cleaned-up state -/
theorem exec_event_dbs (s : Sys) (mode : Mode) (c : Nat) (nameB : Bytes) (q : List (String × List Bytes))
    (hname : commandName nameB = some "exec")
    (htx : (s.conn c).tx = some q) (hf : (s.conn c).txFailed = false) (hw : (s.conn c).watchNotified = false)
    (hps : (s.conn c).pubsub = 0) (hq : ∀ a ∈ q, QOk a.1) :
    (processCommand mode c [nameB] s).2.srv.dbs = (execRun s mode c q).2.srv.dbs ∧
    (processCommand mode c [nameB] s).2.srv.scripts = (execRun s mode c q).2.srv.scripts := by
  rw [exec_event_sequential s mode c nameB q hname htx hf hw hps hq]
  exact ⟨afterRun_proj (·.srv.dbs) (fun _ _ _ => rfl) c _ _, afterRun_proj (·.srv.scripts) (fun _ _ _ => rfl) c _ _⟩

/-- `execRun` unfolds command by command: the run of `a :: rest` is the direct run of `a` (with `inTx` set around it)
followed by the run of `rest` from the state that leaves -/
theorem execRun_cons (mode : Mode) (c : Nat) (a : String × List Bytes) (rest : List (String × List Bytes)) (t : Sys) :
    runQueue (directInner mode c) c (a :: rest) t =
      ((queueStep (directInner mode c) c a t).1 :: (runQueue (directInner mode c) c rest (queueStep (directInner mode c) c a t).2).1,
        (runQueue (directInner mode c) c rest (queueStep (directInner mode c) c a t).2).2) := by
  rw [runQueue_cons]; rfl

/-- the state before the EXEC of `MULTI; SET k v; EVAL "return 1" 0` (`demoS`), as one request -/
def sE : Sys := (runHistory (demoS.take 4)).beginEvent.withHints [4] []

/-- its queue -/
def qE : List (String × List Bytes) := [("set", [[107], [118]]), ("eval", [strBytes "return 1", strBytes "0"])]

theorem sE_wf : TxWf sE := FR.Props.C04k.txWf_hints (FR.Props.C04k.txWf_reachable (demoS.take 4)) _ _

/-- the connection of `sE` holds the queue `qE`, unpoisoned and unwatched, outside subscriber mode; every queued name
may sit in a queue -/
theorem sE_conn : commandName (strBytes "EXEC") = some "exec" ∧ (sE.conn 1).tx = some qE ∧
    (sE.conn 1).txFailed = false ∧ (sE.conn 1).watchNotified = false ∧ (sE.conn 1).pubsub = 0 ∧
    ∀ a ∈ qE, QOk a.1 := by decide +kernel

/-- non-vacuity of the event theorems: their hypotheses hold in `sE` -/
example : processCommand {} 1 [strBytes "EXEC"] sE =
    ((), finish 1 ((execRun sE {} 1 qE).2.emitS 1 (.arr ((execRun sE {} 1 qE).1.map fun r => r.getD .nil)))) :=
  exec_event_sequential_wf sE sE_wf {} 1 (strBytes "EXEC") qE
    sE_conn.1 sE_conn.2.1 sE_conn.2.2.1 sE_conn.2.2.2.1 sE_conn.2.2.2.2.1

example : processCommand {} 1 [strBytes "EXEC"] sE =
    ((), finish 1 ((execRun sE {} 1 qE).2.emitS 1 (.arr ((execRun sE {} 1 qE).1.map fun r => r.getD .nil)))) :=
  exec_event_sequential sE {} 1 (strBytes "EXEC") qE
    sE_conn.1 sE_conn.2.1 sE_conn.2.2.1 sE_conn.2.2.2.1 sE_conn.2.2.2.2.1 sE_conn.2.2.2.2.2

example : (processCommand {} 1 [strBytes "EXEC"] sE).2.srv.dbs = (execRun sE {} 1 qE).2.srv.dbs :=
  (exec_event_dbs sE {} 1 (strBytes "EXEC") qE
    sE_conn.1 sE_conn.2.1 sE_conn.2.2.1 sE_conn.2.2.2.1 sE_conn.2.2.2.2.1 sE_conn.2.2.2.2.2).1

/-! ### an inner script command that fails before its script starts -/

/-- **NOSCRIPT / numkeys errors of a queued EVAL / EVALSHA change nothing.**  A queued EVAL / EVALSHA whose converted
arguments `args` say that the script will not start - `NotStarted`: the SHA of an EVALSHA is not in the script cache,
or `numkeys` exceeds the number of arguments, or `numkeys` is negative - run as an inner command of EXEC
(`queueStep`: set `inTx`, run, clear `inTx`): its reply - that element of the EXEC array - is an error, and the state
after it is the state before it up to purge-equality of the databases and the `inTx` flag of `c` (which EXEC leaves
cleared): `subs`, `psubs`, the script cache, the clock, the reply list and every other connection record are identical.
(`FR.Props.C08s.exec_inner_error_changes_nothing` covers every queued command except EVAL / EVALSHA - a script that
fails on the way may have written before; this theorem covers the failures before the script starts.) -/
theorem exec_inner_script_error_changes_nothing (mode : Mode) (c : Nat) (a : String × List Bytes) {sig : Sig}
    (hf : SigTable.find a.1 = some sig) (s : Sys) (hnd : NodupDbs s) {args : List Arg} {cis : List CI}
    (happ : (sig.apply a.2 ((s.updConn c setInTx).dbAt ((s.updConn c setInTx).conn c).db)).2 = .ok (.ok args cis))
    (hns : NotStarted sig.name args s.srv.scripts) :
    (∃ e, (queueStep (runInner mode c) c a s).1 = some (.err e)) ∧
      QuietUpTo c clearInTx s (queueStep (runInner mode c) c a s).2 :=
  queueStep_script_not_started mode c a hf s hnd happ hns

/-- `exec_inner_script_error_changes_nothing` lifted through `runQueue`: the run of `pre ++ a :: post` is the run of `pre`, the step `a`, the run of `post`;
if `a` is an EVAL / EVALSHA that does not start its script (judged in the state after `pre`), the result list holds
its error at position `pre.length` and the state after the step is the state after `pre` (in the sense above), from
which the commands of `post` run -/
theorem exec_each_inner_script_error (mode : Mode) (c : Nat) (pre post : List (String × List Bytes))
    (a : String × List Bytes) {sig : Sig} (hf : SigTable.find a.1 = some sig) (s : Sys) (hinv : s.DataInv)
    {args : List Arg} {cis : List CI}
    (happ : (sig.apply a.2 (((runQueue (runInner mode c) c pre s).2.updConn c setInTx).dbAt
      (((runQueue (runInner mode c) c pre s).2.updConn c setInTx).conn c).db)).2 = .ok (.ok args cis))
    (hns : NotStarted sig.name args (runQueue (runInner mode c) c pre s).2.srv.scripts) :
    runQueue (runInner mode c) c (pre ++ a :: post) s =
      (let r1 := runQueue (runInner mode c) c pre s
       let r2 := queueStep (runInner mode c) c a r1.2
       let r3 := runQueue (runInner mode c) c post r2.2
       (r1.1 ++ r2.1 :: r3.1, r3.2)) ∧
    (∃ e, (queueStep (runInner mode c) c a (runQueue (runInner mode c) c pre s).2).1 = some (.err e)) ∧
    QuietUpTo c clearInTx (runQueue (runInner mode c) c pre s).2
      (queueStep (runInner mode c) c a (runQueue (runInner mode c) c pre s).2).2 :=
  ⟨runQueue_split _ c pre post a s,
    queueStep_script_not_started mode c a hf _
      (NodupDbs.of_dataInv (runQueue_preserves _ (runInner_preserves mode c) c pre s hinv)) happ hns⟩

/-- the direct form (a script command issued by the client, outside MULTI): the same runner, the same statement -/
theorem script_not_started_changes_nothing (mode : Mode) (c : Nat) (sig : Sig) (raw : List Bytes) (s : Sys)
    (hnd : NodupDbs s) {args : List Arg} {cis : List CI}
    (happ : (sig.apply raw (s.dbAt (s.conn c).db)).2 = .ok (.ok args cis))
    (hns : NotStarted sig.name args s.srv.scripts) :
    (∃ e, (runCommand mode c sig raw false s).1 = some (.err e)) ∧ Quiet s (runCommand mode c sig raw false s).2 := by
  have : runCommand mode c sig raw false = runScriptCmd mode c sig raw false := by
    unfold runCommand; simp only [hns.script, if_true]
  rw [this]
  exact runScriptCmd_not_started mode c sig raw false s hnd happ hns

/-- one database with a list at `a`, one connection, an empty script cache -/
def exS : Sys :=
  { srv := { dbs := [[([97], ⟨.list [[1]], none⟩)]], conns := [{ id := 1 }] }, clocks := [5] }

theorem exS_nodup : NodupDbs exS := by
  intro d hd
  simp only [exS, List.mem_singleton] at hd
  subst hd
  unfold NodupKeys
  decide

def sha0 : Bytes := strBytes "e0e1f9fabfc9d4800c877a703b823ac0578ff8db"
def sigEvalsha : Sig := ⟨"evalsha", [.bytes, .int], [.bytes], true, 2, 0, true⟩
def sigEval : Sig := ⟨"eval", [.bytes, .int], [.bytes], true, 2, 0, true⟩

theorem find_evalsha : SigTable.find "evalsha" = some sigEvalsha := by decide +kernel
theorem find_eval : SigTable.find "eval" = some sigEval := by decide +kernel

/-- non-vacuity: `EVALSHA <unknown sha> 0` (NOSCRIPT), `EVAL "return 1" 5` (too many keys), `EVAL "return 1" -1`
(negative), as inner commands of EXEC in `exS` -/
example : (∃ e, (queueStep (runInner {} 1) 1 ("evalsha", [sha0, strBytes "0"]) exS).1 = some (.err e)) ∧
    QuietUpTo 1 clearInTx exS (queueStep (runInner {} 1) 1 ("evalsha", [sha0, strBytes "0"]) exS).2 :=
  exec_inner_script_error_changes_nothing {} 1 ("evalsha", [sha0, strBytes "0"]) find_evalsha exS exS_nodup
    (args := [.raw sha0, .int 0]) (cis := []) (by with_unfolding_all rfl)
    ⟨sha0, 0, [], rfl, .inl ⟨rfl, rfl⟩⟩

example : (∃ e, (queueStep (runInner {} 1) 1 ("eval", [strBytes "return 1", strBytes "5"]) exS).1 = some (.err e)) ∧
    QuietUpTo 1 clearInTx exS (queueStep (runInner {} 1) 1 ("eval", [strBytes "return 1", strBytes "5"]) exS).2 :=
  exec_inner_script_error_changes_nothing {} 1 ("eval", [strBytes "return 1", strBytes "5"]) find_eval exS exS_nodup
    (args := [.raw (strBytes "return 1"), .int 5]) (cis := []) (by with_unfolding_all rfl)
    ⟨strBytes "return 1", 5, [], rfl, .inr ⟨.inl rfl, .inl (by decide)⟩⟩

example : (∃ e, (queueStep (runInner {} 1) 1 ("eval", [strBytes "return 1", strBytes "-1"]) exS).1 = some (.err e)) ∧
    QuietUpTo 1 clearInTx exS (queueStep (runInner {} 1) 1 ("eval", [strBytes "return 1", strBytes "-1"]) exS).2 :=
  exec_inner_script_error_changes_nothing {} 1 ("eval", [strBytes "return 1", strBytes "-1"]) find_eval exS exS_nodup
    (args := [.raw (strBytes "return 1"), .int (-1)]) (cis := []) (by with_unfolding_all rfl)
    ⟨strBytes "return 1", -1, [], rfl, .inr ⟨.inl rfl, .inr (by decide)⟩⟩

/-- End to end, kernel-checked: `MULTI; SET k v; EVALSHA <unknown> 0; EVAL "return 1" 5; GET k; EXEC` - the EXEC
array is `[OK, NOSCRIPT…, ERR Number of keys…, v]`: the two script errors are just their elements, the commands around
them ran, nothing crashed, the run is one the model follows (the sha hint of the EVAL is supplied) -/
theorem exec_with_failing_scripts :
    let s := runHistory [.open 1, .request {} 1 [strBytes "MULTI"] [1] [],
      .request {} 1 [strBytes "SET", [107], [118]] [2] [],
      .request {} 1 [strBytes "EVALSHA", sha0, strBytes "0"] [3] [],
      .request {} 1 [strBytes "EVAL", strBytes "return 1", strBytes "5"] [4] [],
      .request {} 1 [strBytes "GET", [107]] [5] [],
      .request {} 1 [strBytes "EXEC"] [6] [[strBytes "sha", sha0]]]
    s.out.map (fun p => (p.1, p.2.render)) =
      [(1, (Reply.arr [.ok, .err (strBytes Msgs.NO_MATCHING_SCRIPT_MSG), .err (strBytes Msgs.TOO_MANY_KEYS_MSG),
        .bulk [118]]).render)] ∧
    s.crashed = none ∧ s.fault = none ∧ s.srv.scripts = [] ∧ (s.conn 1).tx = none := by
  decide +kernel

/-! ## (d) a queued EVAL whose script returns a value -/

/-- **a queued `EVAL script numkeys …` whose recorded run makes no call and returns the Lua value `lv`**, as EXEC runs
it (`queueStep`): its element of the EXEC array is the conversion of `lv` to a reply, the script is cached, exactly
the two hints (SHA-1, returned value) are consumed, `inTx` is set around the run and cleared again; nothing else
changes (the argument conversion may purge expired keys of the selected database).  Several queued EVALs use up the
hint list one after the other: the rest `more` is what the next command of the queue sees. -/
theorem exec_inner_eval_returns (mode : Mode) (c : Nat) (a : String × List Bytes) {sig : Sig}
    (hf : SigTable.find a.1 = some sig) (s : Sys)
    (hname : sig.name = "eval") (hrf : (s.updConn c setInTx).refuses c sig = false)
    {script : Bytes} {nk : Int} {rest : List Arg} {cis : List CI} {db' : Db}
    (happ : sig.apply a.2 ((s.updConn c setInTx).dbAt ((s.updConn c setInTx).conn c).db) =
      (db', .ok (.ok (.raw script :: .int nk :: rest) cis)))
    (hg : runGate sig false (decide (((s.updConn c setInTx).conn c).pubsub > 0)) = none)
    {sha v : Bytes} {lv : LuaVal} {more : List (List Bytes)}
    (hp : s.picks = [strBytes "sha", sha] :: [strBytes "return", v] :: more) (hv : LuaVal.ofBytes v = some lv)
    (h1 : ¬ nk > ((Cmd.rawArgs rest).length : Int)) (h2 : ¬ nk < 0) {r : Reply} (hr : luaToReply false lv = .ok r) :
    queueStep (runInner mode c) c a s =
      (some r, (Sys.evalDone ((s.updConn c setInTx).setDbS ((s.updConn c setInTx).conn c).db db') more sha script).updConn
        c clearInTx) :=
  queueStep_eval_return (runInner mode c) mode c a
    (runInner_script mode c sig a.2 (by rw [hname]; decide)) hf s hname hrf happ hg hp hv h1 h2 hr

/-- the hints of a run of `return 1`: the SHA-1 of the source, the returned Lua value -/
def retHints : List (List Bytes) := [[strBytes "sha", sha0], [strBytes "return", (LuaVal.int 1).ser]]

/-- the state in which the EXEC of `MULTI; EVAL "return 1" 0; EXEC` (`FR.Props.C04k.demoE`) is processed -/
def sR : Sys := (runHistory FR.Props.C04k.demoE).beginEvent.withHints [3] retHints

def qR : List (String × List Bytes) := [("eval", [strBytes "return 1", strBytes "0"])]

theorem sR_wf : TxWf sR := FR.Props.C04k.txWf_hints (FR.Props.C04k.txWf_reachable FR.Props.C04k.demoE) _ _

/-- the state after the queued EVAL has run: script cached, hints used up, `inTx` cleared again -/
def sRdone : Sys :=
  (Sys.evalDone (((Sys.execStart (prep sR) 1).updConn 1 setInTx).setDbS
      (((Sys.execStart (prep sR) 1).updConn 1 setInTx).conn 1).db
      (((Sys.execStart (prep sR) 1).updConn 1 setInTx).dbAt 0)) [] sha0 (strBytes "return 1")).updConn 1 clearInTx

/-- **`MULTI; EVAL "return 1" 0; EXEC` (`FR.Props.C04k.demoE`) with the hints of the host**: the EXEC replies the array `[1]`, the model follows the run (`fault = none`), nothing crashes, the
two hints are used up and the script is cached.  (Proved through the theorems of this file - `decide` cannot evaluate
the hint parser `LuaVal.parse`, which is defined by well-founded recursion.) -/
theorem multi_eval_return_exec :
    (processCommand {} 1 [strBytes "EXEC"] sR).2.out = [(1, .arr [.int 1])] ∧
    (processCommand {} 1 [strBytes "EXEC"] sR).2.fault = none ∧
    (processCommand {} 1 [strBytes "EXEC"] sR).2.crashed = none ∧
    (processCommand {} 1 [strBytes "EXEC"] sR).2.picks = [] ∧
    (processCommand {} 1 [strBytes "EXEC"] sR).2.srv.scripts = [(sha0, strBytes "return 1")] := by
  have hc : commandName (strBytes "EXEC") = some "exec" ∧ (sR.conn 1).tx = some qR ∧ (sR.conn 1).txFailed = false ∧
      (sR.conn 1).watchNotified = false ∧ (sR.conn 1).pubsub = 0 ∧
      ((Sys.execStart (prep sR) 1).updConn 1 setInTx).refuses 1 sigEval = false ∧
      runGate sigEval false (decide ((((Sys.execStart (prep sR) 1).updConn 1 setInTx).conn 1).pubsub > 0)) = none := by
    decide +kernel
  rw [exec_event_sequential_wf sR sR_wf {} 1 (strBytes "EXEC") qR hc.1 hc.2.1 hc.2.2.1 hc.2.2.2.1 hc.2.2.2.2.1]
  have hstep := queueStep_eval_return (directInner {} 1) {} 1 ("eval", [strBytes "return 1", strBytes "0"])
    (sig := sigEval) (directInner_script {} 1 sigEval _ (by decide)) find_eval (Sys.execStart (prep sR) 1) rfl
    hc.2.2.2.2.2.1 (script := strBytes "return 1") (nk := 0) (rest := []) (cis := [])
    (db' := (Sys.execStart (prep sR) 1 |>.updConn 1 setInTx).dbAt 0)
    (by with_unfolding_all rfl) hc.2.2.2.2.2.2 (sha := sha0) (v := (LuaVal.int 1).ser) (lv := .int 1) (more := [])
    (by with_unfolding_all rfl) (ofBytes_ser _ trivial) (by decide) (by decide) (r := .int 1) rfl
  have hrun : execRun sR {} 1 qR = ([some (.int 1)], sRdone) := by
    unfold execRun qR
    rw [execRun_cons, hstep]
    rfl
  rw [hrun]
  refine ⟨?_, ?_, ?_, ?_, ?_⟩ <;> with_unfolding_all rfl

/-- non-vacuity of `exec_inner_eval_returns`: the queued EVAL of `sR`, run by the nested runner of EXEC -/
example : queueStep (runInner {} 1) 1 ("eval", [strBytes "return 1", strBytes "0"]) (Sys.execStart (prep sR) 1) =
    (some (.int 1), sRdone) :=
  have h : ((Sys.execStart (prep sR) 1).updConn 1 setInTx).refuses 1 sigEval = false ∧
      runGate sigEval false (decide ((((Sys.execStart (prep sR) 1).updConn 1 setInTx).conn 1).pubsub > 0)) = none := by
    decide +kernel
  exec_inner_eval_returns {} 1 ("eval", [strBytes "return 1", strBytes "0"]) (sig := sigEval) find_eval
    (Sys.execStart (prep sR) 1) rfl h.1 (script := strBytes "return 1") (nk := 0) (rest := []) (cis := [])
    (db' := (Sys.execStart (prep sR) 1 |>.updConn 1 setInTx).dbAt 0)
    (by with_unfolding_all rfl) h.2 (sha := sha0) (v := (LuaVal.int 1).ser) (lv := .int 1) (more := [])
    (by with_unfolding_all rfl) (ofBytes_ser _ trivial) (by decide) (by decide) (r := .int 1) rfl

end FR.Props.C19m

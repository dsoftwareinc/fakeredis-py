import FR.Proofs.Runner
/-!
# C06 — every change of a key's live entry is accompanied by a watch notification

The unrestricted statement (arbitrary body) is false: `CommandItem.writeback` has a branch
`elif self._expireat_modified` that rewrites the deadline *without* `notify_watch`.  The branch is dead
for every `CommandItem` produced through the setters (`expMod → modified`), but an arbitrary `Body` can
return a `CI` with `expMod = true ∧ modified = false`.  `unrestricted_false` is the counterexample;
`step_notifies_partial` is the theorem under exactly that invariant (`Body.ExpModSound`).
-/
namespace FR.Props.C06
open FR

/-- Any change of the live entry of a key (value, existence or deadline) is accompanied by a watch
notification for that key — for bodies whose returned `CommandItem`s satisfy `expMod → modified`. -/
theorem step_notifies_partial (sig : Sig) (body : Body) (hb : body.ExpModSound) (ctx : Ctx)
    (gate : Option Err) (raw : List Bytes) (db : Db) (nd : NodupKeys db.dict) (k : Bytes) :
    let o := runRegular sig body ctx gate raw db
    (Db.purge o.db).dict.lookup k ≠ (Db.purge db).dict.lookup k → k ∈ o.notified := by
  intro o h
  apply Classical.byContradiction
  intro hk
  exact h (runRegular_live sig body hb ctx gate raw nd hk)

/-- The hypothesis `Body.ExpModSound` cannot be dropped: a body returning a `CommandItem` with
`expMod = true`, `modified = false` and a past deadline makes the key disappear without notification. -/
theorem unrestricted_false :
    ∃ (sig : Sig) (body : Body) (ctx : Ctx) (raw : List Bytes) (db : Db) (k : Bytes),
      NodupKeys db.dict ∧
      (Db.purge (runRegular sig body ctx none raw db).db).dict.lookup k ≠ (Db.purge db).dict.lookup k ∧
      k ∉ (runRegular sig body ctx none raw db).notified := by
  refine ⟨⟨"x", [.key none .unspecified], [], false, 1, 0, false⟩,
    fun _ _ cis => .ok { reply := .nil, cis := cis.map (fun c => { c with expireat := some 5, expMod := true }) },
    ⟨7, 10, 0, false, []⟩, [[97]], ⟨[([97], ⟨.str [], none⟩)], 10⟩, [97], by decide, ?_, by decide⟩
  intro h
  have := congrArg Option.isSome h
  revert this
  decide

/-- non-vacuity: APPEND changes key `a`; the theorem yields the notification -/
example :
    let sig : Sig := ⟨"append", [.key (some .str) .unspecified, .bytes], [], false, 2, 0, false⟩
    let body : Body := fun _ _ cis => .ok { reply := .nil, cis := cis.map (fun c => c.update (.str [9])) }
    let db : Db := ⟨[([97], ⟨.str [1], none⟩)], 10⟩
    [97] ∈ (runRegular sig body ⟨7, 10, 0, false, []⟩ none [[97], [120]] db).notified := by
  intro sig body db
  have hb : body.ExpModSound := by
    intro ctx args cis o _ ho c hc he
    simp only [body, Except.ok.injEq] at ho
    subst ho
    obtain ⟨c', _, rfl⟩ := List.mem_map.1 hc
    rfl
  apply step_notifies_partial sig body hb ⟨7, 10, 0, false, []⟩ none [[97], [120]] db (by decide) [97]
  intro h
  have := congrArg (fun o => o.map (fun it => match it.value with | .str b => b | _ => [])) h
  revert this
  decide

end FR.Props.C06

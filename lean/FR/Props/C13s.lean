import FR.Proofs.C13w
/-!
# C13 (system level) — the databases of a server are independent keyspaces

All statements are about `processCommand` (`_process_command`: clean-up of closed sockets, clock refresh, arity check,
MULTI queueing, `_run_command`, the special bodies, EXEC, write-back), i.e. about complete requests, for **every**
command of the signature table — not only the regular ones of `FR/Props/C13.lean`.

* `s.conn c` is the record `getConn c` returns; `(s.conn c).db` the database selected on connection `c`.
* `cmdName fields` is the lower-cased command name of the request.
* the exclusion lists are tight: `*_touches_other_db` give, for every excluded command, a concrete request that changes
  a database other than the selected one.
-/
namespace FR.Props.C13s
open FR FR.M FR.DbFrame
set_option linter.unusedVariables false

/-- the commands that may read or write a database other than the selected one -/
def crossDb : List String := ["swapdb", "move", "flushall", "exec", "eval", "evalsha"]

/-- a request that names none of these commands is covered whatever the databases `T` and the queue condition `A` are -/
theorem reqOkA_of_name {T : Nat → Prop} {A : String × List Bytes → Prop} {fields : List Bytes}
    (h : cmdName fields ∉ "select" :: crossDb) (hA : A (cmdName fields, fields.tail)) : ReqOkA T A fields := by
  simp only [crossDb, List.mem_cons, List.not_mem_nil, or_false, not_or] at h
  obtain ⟨h0, h1, h2, h3, h4, h5, h6⟩ := h
  exact ⟨⟨h1, h2, h3, fun h => absurd h h0, h5, h6⟩, h5, h6, hA, fun h => absurd h h4⟩

/-! ## 1. Frame: one request -/

/-- **Frame.**  A request of connection `c` whose command is none of SELECT, SWAPDB, MOVE, FLUSHALL, EXEC, EVAL, EVALSHA
(unknown commands, arity errors and commands queued by MULTI included) leaves every database other than the one
selected on `c` identical. -/
theorem request_frame (mode : Mode) (c : Nat) (fields : List Bytes) (s : Sys)
    (hname : cmdName fields ∉ "select" :: crossDb) :
    ∀ j, j ≠ (s.conn c).db →
      (processCommand mode c fields s).2.srv.dbs.getD j [] = s.srv.dbs.getD j [] :=
  processCommand_frame (A := fun _ => True) mode fields s rfl (fun _ _ _ _ => trivial) (reqOkA_of_name hname trivial)

example : cmdName [strBytes "FLUSHDB"] ∉ "select" :: crossDb := by decide +kernel


/-- **SELECT only changes the connection** (any target, valid or not, queued or not): two states that agree except for
the databases outside `T ∋` selected database give the same replies, agree afterwards, and every database outside `T`
is unchanged in both.  Afterwards the connection may be selected outside `T`. -/
theorem select_request (T : Nat → Prop) (mode : Mode) (c : Nat) (fields : List Bytes) (hname : cmdName fields = "select")
    {s1 s2 : Sys} (h : Agree T s1 s2) (hsel : T (s1.conn c).db) :
    (processCommand mode c fields s2).2.out = (processCommand mode c fields s1).2.out ∧
    Agree T (processCommand mode c fields s1).2 (processCommand mode c fields s2).2 ∧
    (∀ j, ¬ T j → (processCommand mode c fields s1).2.srv.dbs.getD j [] = s1.srv.dbs.getD j []) ∧
    (∀ j, ¬ T j → (processCommand mode c fields s2).2.srv.dbs.getD j [] = s2.srv.dbs.getD j []) := by
  have := Rel2.run (T := T) (c := c) (b := true) (b' := false) (A := fun _ => True)
    (fun D1 D2 => processCommand_select_rel2 mode fields hname trivial) h (fun _ => hsel) (fun _ _ _ _ => trivial)
  exact ⟨this.2.1.out, this.2.1, this.2.2.1, this.2.2.2.1⟩

/-- frame for SELECT: every database other than the one selected before the request is identical -/
theorem select_request_frame (mode : Mode) (c : Nat) (fields : List Bytes) (s : Sys) (hname : cmdName fields = "select") :
    ∀ j, j ≠ (s.conn c).db →
      (processCommand mode c fields s).2.srv.dbs.getD j [] = s.srv.dbs.getD j [] :=
  fun j hj => (select_request (fun j => j = (s.conn c).db) mode c fields hname (Agree.refl _ s) rfl).2.2.1 j hj

/-! ## 2. Exact effect of the cross-database commands (their bodies, as dispatched by `special`) -/

/-- **SWAPDB a b** (`a ≠ b`, both existing): answers OK; database `a` holds the (purged) former dictionary of `b` and
vice versa; every other database is identical; apart from the databases and the watch / wake flags of the connection
records (`noConns` forgets these) nothing changes. -/
theorem swapdb_exchanges (i1 i2 : Int) (cis : List CI) (s : Sys) (hne : i1.toNat ≠ i2.toNat)
    (h1 : i1.toNat < s.srv.dbs.length) (h2 : i2.toNat < s.srv.dbs.length) :
    let r := swapdbCmd [.int i1, .int i2] cis s
    r.1 = .ok (some .ok, cis) ∧
    r.2.srv.dbs.getD i1.toNat [] = purgeAt s.srv.time (s.srv.dbs.getD i2.toNat []) ∧
    r.2.srv.dbs.getD i2.toNat [] = purgeAt s.srv.time (s.srv.dbs.getD i1.toNat []) ∧
    (∀ j, j ≠ i1.toNat → j ≠ i2.toNat → r.2.srv.dbs.getD j [] = s.srv.dbs.getD j []) ∧
    r.2.srv.dbs.length = s.srv.dbs.length ∧
    noConns r.2 = noConns { s with srv := { s.srv with dbs := r.2.srv.dbs } } := by
  intro r
  have hr : r = _ := swapdbCmd_run i1 i2 cis s fun e => hne (by rw [e])
  have hd : r.2.srv.dbs = (s.swapped i1.toNat i2.toNat).srv.dbs := by
    rw [hr]; exact swapNotify_frame (fun s => s.srv.dbs) (fun _ _ => rfl) _ _ _ _
  rw [hd]
  refine ⟨by rw [hr], congrArg Db.dict (s.swapped_left hne h1), congrArg Db.dict (s.swapped_right hne h2),
    fun j ha hb => congrArg Db.dict (s.swapped_other ha hb), s.swapped_len _ _, ?_⟩
  rw [hr]
  exact swapNotify_frame noConns (fun _ _ => rfl) _ _ _ _

/-- SWAPDB a a: OK, nothing changes -/
theorem swapdb_same_index (i : Int) (cis : List CI) (s : Sys) :
    swapdbCmd [.int i, .int i] cis s = (.ok (some .ok, cis), s) :=
  swapdbCmd_same i cis s

/-- SWAPDB with an invalid index (not an integer in 0..15): the state is unchanged; the reply is the error of the
converter — unless the connection is in subscriber mode: `_run_command` refuses it before looking at the arguments -/
theorem swapdb_invalid_index (special : SpecialFn) (mode : Mode) (c : Nat) (x y : Bytes) (fromScript : Bool)
    (s : Sys) (e : Err)
    (h : Conv.dbIndex x = .error e ∨ (∃ i, Conv.dbIndex x = .ok i ∧ Conv.dbIndex y = .error e)) :
    SigTable.find "swapdb" = some swapdbSig ∧
    runWith special mode c swapdbSig [x, y] fromScript s =
      (some (if s.refuses c swapdbSig then refusalReply else .err (strBytes e)), s) :=
  ⟨find_swapdb, swapdb_invalid_unchanged special mode c x y fromScript s e h⟩

example : (match Conv.dbIndex (strBytes "16") with | .error e => e == Msgs.INVALID_DB_MSG | .ok _ => false) = true := by
  decide +kernel

-- both replies occur: an ordinary connection is not refused, a subscribed one is
example : ({ srv := { conns := [{ id := 7 }] } } : Sys).refuses 7 swapdbSig = false ∧
    ({ srv := { conns := [{ id := 7, pubsub := 1 }] } } : Sys).refuses 7 swapdbSig = true := by decide

/-- **MOVE k j**, `k` live in the selected database `d` and not live in `j ≠ d`: answers 1; database `j` gains exactly
the item found in `d` (value and deadline); `d` itself is only purged by the body — the key's `CommandItem` is handed
back with value `None`, and its write-back in `_run_command` deletes the key from `d`; all other databases identical. -/
theorem move_moves (d k : Nat) (dst : Int) (cis : List CI) (s : Sys) (h : dst.toNat ≠ d)
    (hd : d < s.srv.dbs.length) (hj : dst.toNat < s.srv.dbs.length) (hk : (ciAt cis k).truthy = true)
    (hdst : (Db.get ⟨s.srv.dbs.getD dst.toNat [], s.srv.time⟩ (ciAt cis k).key).2 = none) (it : Item)
    (hsrc : (Db.get ⟨s.srv.dbs.getD d [], s.srv.time⟩ (ciAt cis k).key).2 = some it) :
    (moveCmd d [.key k, .int dst] cis s).1 = .ok (some (.int 1), cis.set k ((ciAt cis k).setValue none)) ∧
    (moveCmd d [.key k, .int dst] cis s).2.srv.dbs.getD dst.toNat [] =
      Db.setRaw (Db.get ⟨s.srv.dbs.getD dst.toNat [], s.srv.time⟩ (ciAt cis k).key).1.dict (ciAt cis k).key it ∧
    (moveCmd d [.key k, .int dst] cis s).2.srv.dbs.getD d [] =
      (Db.get ⟨s.srv.dbs.getD d [], s.srv.time⟩ (ciAt cis k).key).1.dict ∧
    (∀ j, j ≠ d → j ≠ dst.toNat → (moveCmd d [.key k, .int dst] cis s).2.srv.dbs.getD j [] = s.srv.dbs.getD j []) :=
  moveCmd_moves_dbs d k dst cis s h hd hj hk hdst it hsrc

/-- MOVE refused: key live in the target (answer 0, target at most purged of an expired entry under that key),
key missing in the source (answer 0, nothing changes), target = selected database (error, nothing changes) -/
theorem move_refused (d k : Nat) (dst : Int) (cis : List CI) (s : Sys) :
    (dst.toNat = d → moveCmd d [.key k, .int dst] cis s = (.error Msgs.SRC_DST_SAME_MSG, s)) ∧
    (dst.toNat ≠ d → (ciAt cis k).truthy = false → moveCmd d [.key k, .int dst] cis s = (.ok (some (.int 0), cis), s)) ∧
    (dst.toNat ≠ d → (ciAt cis k).truthy = true →
      ((Db.get ⟨s.srv.dbs.getD dst.toNat [], s.srv.time⟩ (ciAt cis k).key).2).isSome = true →
      moveCmd d [.key k, .int dst] cis s = (.ok (some (.int 0), cis),
        { s with srv := { s.srv with dbs := (s.srv.dbs.set dst.toNat
          (Db.get ⟨s.srv.dbs.getD dst.toNat [], s.srv.time⟩ (ciAt cis k).key).1.dict) } })) :=
  ⟨moveCmd_same d k dst cis s, moveCmd_missing d k dst cis s, moveCmd_present d k dst cis s⟩

/-- **FLUSHALL** empties every database; **FLUSHDB** empties the selected one and leaves the others identical -/
theorem flushall_empties_all (inner : Inner) (mode : Mode) (c : Nat) (args : List Arg) (cis : List CI) (s : Sys)
    (hok : flushArgsOk (Cmd.rawArgs args) = true) (hlen : s.srv.dbs.length ≤ 16) :
    (special inner mode c "flushall" args cis s).1 = .ok (some .ok, cis) ∧
    ∀ j, (special inner mode c "flushall" args cis s).2.srv.dbs.getD j [] = [] := by
  have h : special inner mode c "flushall" args cis s =
      (.ok (some .ok, cis), (((List.range 16).forM clearDb) s).2) := by
    unfold special
    simp only [bind, StateT.bind, getConn_run, hok, Bool.not_true, Bool.false_eq_true, if_false]
    generalize (List.range 16).forM clearDb = m
    rfl
  rw [h]
  refine ⟨rfl, ?_⟩
  dsimp only
  exact flushall_dbs s hlen

theorem flushdb_empties_selected (inner : Inner) (mode : Mode) (c : Nat) (args : List Arg) (cis : List CI) (s : Sys)
    (hok : flushArgsOk (Cmd.rawArgs args) = true) (hd : (s.conn c).db < s.srv.dbs.length) :
    (special inner mode c "flushdb" args cis s).1 = .ok (some .ok, cis) ∧
    (special inner mode c "flushdb" args cis s).2.srv.dbs.getD (s.conn c).db [] = [] ∧
    ∀ j, j ≠ (s.conn c).db → (special inner mode c "flushdb" args cis s).2.srv.dbs.getD j [] = s.srv.dbs.getD j [] := by
  obtain ⟨h1, h2⟩ := special_flushdb inner mode c args cis s hok
  refine ⟨h1, ?_, ?_⟩
  · rw [h2]; exact getD_set_self _ _ _ _ hd
  · intro j hj; rw [h2]; exact getD_set_ne _ _ _ _ _ hj

example : flushArgsOk (Cmd.rawArgs []) = true := by decide

/-! ## 3. EXEC -/

theorem qallowed_of_name (T : Nat → Prop) (n : String) (args : List Bytes) (h1 : n ≠ "swapdb") (h2 : n ≠ "move")
    (h3 : n ≠ "flushall") (hs : n = "select" → ∀ k, selTarget args = some k → T k)
    (h4 : n ≠ "eval") (h5 : n ≠ "evalsha") : QAllowed T (n, args) :=
  ⟨h1, h2, h3, hs, h4, h5⟩

/-- the databases named by the SELECTs of a queue -/
def selTargets (q : Queue) : List Nat := q.filterMap fun e => if e.1 = "select" then selTarget e.2 else none

/-- **EXEC.**  If no queued command is SWAPDB, MOVE, FLUSHALL, EVAL or EVALSHA, an EXEC request leaves identical every
database that is neither the selected one nor the target of a queued SELECT.  (A queued EVAL / EVALSHA is executed by
EXEC exactly like a direct one, so it is excluded exactly like a direct one: the script may SELECT, FLUSHALL, … .) -/
theorem exec_frame (mode : Mode) (c : Nat) (fields : List Bytes) (s : Sys) (hname : cmdName fields = "exec")
    (hq : ∀ q, (s.conn c).tx = some q → ∀ e ∈ q, e.1 ∉ ["swapdb", "move", "flushall", "eval", "evalsha"]) :
    ∀ j, j ≠ (s.conn c).db → (∀ q, (s.conn c).tx = some q → j ∉ selTargets q) →
      (processCommand mode c fields s).2.srv.dbs.getD j [] = s.srv.dbs.getD j [] := by
  intro j hj hjq
  let T : Nat → Prop := fun j => j = (s.conn c).db ∨ ∃ q, (s.conn c).tx = some q ∧ j ∈ selTargets q
  have hqa : ∀ q, (s.conn c).tx = some q → ∀ e ∈ q, QAllowed T e := by
    intro q hq' e he
    have := hq q hq' e he
    simp only [List.mem_cons, List.not_mem_nil, or_false, not_or] at this
    refine ⟨this.1, this.2.1, this.2.2.1, fun hsel k hk => Or.inr ⟨q, hq', ?_⟩, this.2.2.2.1, this.2.2.2.2⟩
    exact List.mem_filterMap.2 ⟨e, he, by simp [hsel, hk]⟩
  have hself : QAllowed T (cmdName fields, fields.tail) := by
    rw [hname]
    exact qallowed_of_name T "exec" _ (by decide) (by decide) (by decide) (fun h => absurd h (by decide))
      (by decide) (by decide)
  refine Rel2.frame (T := T) (processCommand_rel mode fields hself (by rw [hname]; decide) (by rw [hname]; decide) hself
    (fun _ _ h => h)) (fun _ => Or.inl rfl) hqa j ?_
  rintro (h | ⟨q, hq', hm⟩)
  · exact hj h
  · exact hjq q hq' hm

/-- EXEC without queued SELECT, SWAPDB, MOVE, FLUSHALL, EVAL, EVALSHA: every database other than the selected one is
identical -/
theorem exec_frame_noselect (mode : Mode) (c : Nat) (fields : List Bytes) (s : Sys) (hname : cmdName fields = "exec")
    (hq : ∀ q, (s.conn c).tx = some q → ∀ e ∈ q, e.1 ∉ ["select", "swapdb", "move", "flushall", "eval", "evalsha"]) :
    ∀ j, j ≠ (s.conn c).db →
      (processCommand mode c fields s).2.srv.dbs.getD j [] = s.srv.dbs.getD j [] := by
  intro j hj
  refine exec_frame mode c fields s hname ?_ j hj ?_
  · intro q hq' e he
    have := hq q hq' e he
    simp only [List.mem_cons, List.not_mem_nil, or_false, not_or] at this ⊢
    exact this.2
  · intro q hq' hm
    obtain ⟨e, he, h⟩ := List.mem_filterMap.1 hm
    have := hq q hq' e he
    simp only [List.mem_cons, List.not_mem_nil, or_false, not_or] at this
    simp [this.1] at h

example : cmdName [strBytes "ExEc"] = "exec" := by decide +kernel
example : selTargets [("select", [strBytes "3"]), ("set", [strBytes "k", strBytes "v"])] = [3] := by decide +kernel

/-! ## 4. Non-interference -/

/-- **Non-interference, one request.**  Two states that agree on everything except the content of the databases outside
`T` (`Agree T s₁ s₂`: `s₂` is `s₁` with other dictionaries outside `T`, as many databases), the same request of a
connection selected on a database of `T`, the command being none of SWAPDB, MOVE, FLUSHALL, EVAL, EVALSHA, a SELECT
only to a database of `T`, and (for EXEC, and for what MULTI queues) only such commands in the queue of `c`:
the replies are the same, the final states agree again, and every database outside `T` is unchanged in both runs.
The side conditions hold again afterwards, so the theorem can be iterated. -/
theorem request_noninterference (T : Nat → Prop) (mode : Mode) (c : Nat) (fields : List Bytes) (hok : ReqOk T fields)
    {s1 s2 : Sys} (h : Agree T s1 s2) (hsel : T (s1.conn c).db)
    (hq : ∀ q, (s1.conn c).tx = some q → ∀ e ∈ q, QAllowed T e) :
    (processCommand mode c fields s2).2.out = (processCommand mode c fields s1).2.out ∧
    Agree T (processCommand mode c fields s1).2 (processCommand mode c fields s2).2 ∧
    (∀ j, ¬ T j → (processCommand mode c fields s1).2.srv.dbs.getD j [] = s1.srv.dbs.getD j []) ∧
    (∀ j, ¬ T j → (processCommand mode c fields s2).2.srv.dbs.getD j [] = s2.srv.dbs.getD j []) ∧
    T ((processCommand mode c fields s1).2.conn c).db ∧
    (∀ q, ((processCommand mode c fields s1).2.conn c).tx = some q → ∀ e ∈ q, QAllowed T e) := by
  have := Rel2.run (T := T) (c := c) (b := true) (b' := true) (A := QAllowed T)
    (fun D1 D2 => processCommand_rel mode fields hok.1 hok.2.1 hok.2.2 hok.1 (fun _ _ h => h)) h (fun _ => hsel) hq
  exact ⟨this.2.1.out, this.2.1, this.2.2.1, this.2.2.2.1, this.2.2.2.2.1 rfl, this.2.2.2.2.2⟩

/-- the hypothesis `ReqOk` for the single-database case, as a check on the command name -/
theorem reqOk_of_name (i : Nat) (fields : List Bytes) (h : cmdName fields ∉ "select" :: crossDb) :
    ReqOk (fun j => j = i) fields :=
  have h' := reqOkA_of_name (T := fun j => j = i) (A := fun _ => True) h trivial
  ⟨h'.1, h'.2.1, h'.2.2.1⟩

/-- SELECT of the database the connection is already restricted to is covered as well -/
theorem reqOk_select (T : Nat → Prop) (nameB b : Bytes) (k : Int) (hn : commandName nameB = some "select")
    (hb : Conv.dbIndex b = .ok k) (hT : T k.toNat) : ReqOk T [nameB, b] := by
  have : cmdName [nameB, b] = "select" := by simp [cmdName, hn]
  rw [ReqOk, this]
  refine ⟨qallowed_of_name T "select" _ (by decide) (by decide) (by decide) (fun _ k' hk' => ?_)
    (by decide) (by decide), by decide, by decide⟩
  simp only [List.tail_cons, selTarget, hb, Option.some.injEq] at hk'
  exact hk' ▸ hT

/-- **Non-interference, histories.**  For every history of events run on two states that agree except for the databases
outside `T` — requests of connections selected on `T` with `ReqOk` commands, wake-ups of connections parked on `T`,
time-outs, opening / closing / collecting connections, version and outage switches (`OkHist`, judged along the first
run) — the per-event replies are the same, the final states agree, and the databases outside `T` are untouched. -/
theorem history_noninterference (T : Nat → Prop) (evs : List Ev) {s1 s2 : Sys} (h : Agree T s1 s2)
    (hok : OkHist T s1 evs) :
    outs s2 evs = outs s1 evs ∧ Agree T (evs.foldl stepEv s1) (evs.foldl stepEv s2) ∧
    (∀ j, ¬ T j → (evs.foldl stepEv s1).srv.dbs.getD j [] = s1.srv.dbs.getD j []) ∧
    (∀ j, ¬ T j → (evs.foldl stepEv s2).srv.dbs.getD j [] = s2.srv.dbs.getD j []) := by
  have := history_agree evs h hok
  exact ⟨this.1, this.2.agree, this.2.off1, this.2.off2⟩

/-- the history form of the property: command histories run on database `i`, arbitrary content in the others -/
theorem history_independent_of_other_dbs (i : Nat) (evs : List Ev) (s : Sys) (dbs2 : List Dict)
    (hlen : dbs2.length = s.srv.dbs.length) (hi : dbs2.getD i [] = s.srv.dbs.getD i [])
    (hok : OkHist (fun j => j = i) s evs) :
    outs (withDbs s dbs2) evs = outs s evs ∧
    (∀ j, j ≠ i → (evs.foldl stepEv s).srv.dbs.getD j [] = s.srv.dbs.getD j []) ∧
    (∀ j, j ≠ i → (evs.foldl stepEv (withDbs s dbs2)).srv.dbs.getD j [] = dbs2.getD j []) ∧
    (evs.foldl stepEv (withDbs s dbs2)).srv.dbs.getD i [] = (evs.foldl stepEv s).srv.dbs.getD i [] := by
  have hag : Agree (fun j => j = i) s (withDbs s dbs2) := ⟨rfl, hlen, fun j hj => by subst hj; exact hi⟩
  have := history_noninterference _ evs hag hok
  exact ⟨this.1, this.2.2.1, this.2.2.2, this.2.1.on i rfl⟩


/-! ## 5. Blocked connections -/

theorem parkedIn_of_eq {c : Nat} {s : Sys} {p : Parked} (hp : (s.conn c).parked = some p) :
    ParkedIn (fun j => j = p.db) c s := by
  intro p' hp'
  rw [hp] at hp'
  cases hp'
  rfl

/-- **Wake-up.**  `wakeConn c` (one turn of the `_blocking` loop of a connection parked by BLPOP / BRPOP / BRPOPLPUSH)
only touches the database the connection was parked on (`Parked.db`), whatever database is selected by now. -/
theorem wake_frame (c : Nat) (s : Sys) (p : Parked) (hp : (s.conn c).parked = some p) :
    ∀ j, j ≠ p.db → (wakeConn c s).2.srv.dbs.getD j [] = s.srv.dbs.getD j [] := by
  intro j hj
  exact (wakeConn_rel c s s ⟨Sim.diag _ c s, parkedIn_of_eq hp⟩).2.off1 j hj

/-- a wake-up of a connection that is not parked, and every time-out, touch no database at all -/
theorem wake_unparked_frame (c : Nat) (s : Sys) (hp : (s.conn c).parked = none) :
    ∀ j, (wakeConn c s).2.srv.dbs.getD j [] = s.srv.dbs.getD j [] :=
  fun j => (wakeConn_rel c s s ⟨Sim.diag _ c s, fun _ hp' => nomatch hp.symm.trans hp'⟩).2.off1 (T := fun _ => False) j id

theorem timeout_frame (c : Nat) (s : Sys) :
    ∀ j, (timeoutConn c s).2.srv.dbs.getD j [] = s.srv.dbs.getD j [] :=
  fun j => (timeoutConn_rel c s s (Sim.diag (fun _ => False) c s)).2.off1 j id

/-- **asyncio wake-up.**  `wakeConnAsync` is the wake-up proper, which only touches the database the connection was
parked on, followed — when the pop was served or failed — by the parser resuming (`resume`: `drain` of what was
pipelined behind the blocking pop, i.e. ordinary requests, to which the request theorems apply). -/
theorem awake_frame (mode : Mode) (c : Nat) (s : Sys) (p : Parked) (hp : (s.conn c).parked = some p) :
    ∃ s', (∀ j, j ≠ p.db → s'.srv.dbs.getD j [] = s.srv.dbs.getD j []) ∧
      ((wakeConnAsync mode c s).2 = s' ∨ (wakeConnAsync mode c s).2 = (resume mode c s').2) := by
  obtain ⟨_, s1', s2', hr, h⟩ := wakeConnAsync_rel mode c s s ⟨Sim.diag _ c s, parkedIn_of_eq hp⟩
  refine ⟨s1', hr.off1, ?_⟩
  rcases h with h | h
  · exact Or.inl h.1
  · exact Or.inr h.1

/-- **asyncio time-out**: touches no database; then the parser resumes -/
theorem atimeout_frame (mode : Mode) (c : Nat) (s : Sys) :
    ∃ s', (∀ j, s'.srv.dbs.getD j [] = s.srv.dbs.getD j []) ∧
      ((timeoutConnAsync mode c s).2 = s' ∨ (timeoutConnAsync mode c s).2 = (resume mode c s').2) := by
  obtain ⟨_, s1', s2', hr, h⟩ := timeoutConnAsync_rel mode c s s (Sim.diag (fun _ => False) c s)
  refine ⟨s1', fun j => hr.off1 j id, ?_⟩
  rcases h with h | h
  · exact Or.inl h.1
  · exact Or.inr h.1

/-- non-vacuity: connection 7, now selected on database 2, is parked on database 1 where the list `k` has arrived -/
example : ∃ (s : Sys) (p : Parked), (s.conn 7).parked = some p ∧ p.db = 1 ∧ (s.conn 7).db = 2 ∧
    (s.srv.dbs.getD 1 []).map Prod.fst = [[107]] ∧ ((wakeConn 7 s).2.srv.dbs.getD 1 []).map Prod.fst = [] ∧
    (wakeConn 7 s).2.out.length = 1 :=
  ⟨{ srv := { dbs := (List.replicate 16 []).set 1 [([107], ⟨.list [[97]], none⟩)],
              conns := [{ id := 7, db := 2, parked := some { kind := "blpop", keys := [[107]], db := 1, deadline := none } }] } },
    _, rfl, rfl, rfl, by decide +kernel, by decide +kernel, by decide +kernel⟩


/-! ## 6. The exclusion lists are tight

For every command excluded from `request_frame` a concrete request of connection 7 (selected on database 0) that
changes database 1 (or 2).  `fault = none`: the model followed the run without complaint, so the runs can be
replayed on the Python code as they stand. -/

/-- the keys stored in database `j` -/
def keysOf (s : Sys) (j : Nat) : List Bytes := (s.srv.dbs.getD j []).map Prod.fst

/-- database 1 holds the key `k`; one connection (id 7) selected on database 0 -/
def w0 : Sys :=
  { srv := { dbs := (List.replicate 16 []).set 1 [(strBytes "k", ⟨.str (strBytes "v"), none⟩)], conns := [{ id := 7 }] },
    clocks := [0, 0, 0] }

/-- as `w0`, but the key is in database 0 (the selected one) -/
def w1 : Sys :=
  { srv := { dbs := (List.replicate 16 []).set 0 [(strBytes "k", ⟨.str (strBytes "v"), none⟩)], conns := [{ id := 7 }] },
    clocks := [0, 0, 0] }

/-- connection 7 (selected on 0) has queued `SELECT 1; SET k v` -/
def w2 : Sys :=
  { srv := { conns := [{ id := 7, tx := some [("select", [strBytes "1"]), ("set", [strBytes "k", strBytes "v"])] }] },
    clocks := [0, 0, 0] }

theorem flushall_touches_other_db :
    (w0.conn 7).db = 0 ∧ keysOf w0 1 = [strBytes "k"] ∧
    keysOf (processCommand {} 7 [strBytes "FLUSHALL"] w0).2 1 = [] ∧
    (processCommand {} 7 [strBytes "FLUSHALL"] w0).2.fault = none := by decide +kernel

theorem swapdb_touches_other_db :
    keysOf (processCommand {} 7 [strBytes "SWAPDB", strBytes "1", strBytes "2"] w0).2 1 = [] ∧
    keysOf (processCommand {} 7 [strBytes "SWAPDB", strBytes "1", strBytes "2"] w0).2 2 = [strBytes "k"] ∧
    (processCommand {} 7 [strBytes "SWAPDB", strBytes "1", strBytes "2"] w0).2.fault = none := by
  decide +kernel

theorem move_touches_other_db :
    keysOf w1 1 = [] ∧
    keysOf (processCommand {} 7 [strBytes "MOVE", strBytes "k", strBytes "1"] w1).2 1 = [strBytes "k"] ∧
    keysOf (processCommand {} 7 [strBytes "MOVE", strBytes "k", strBytes "1"] w1).2 0 = [] ∧
    (processCommand {} 7 [strBytes "MOVE", strBytes "k", strBytes "1"] w1).2.fault = none := by
  decide +kernel

/-- EXEC of `SELECT 1; SET k v`: each queued command alone satisfies the frame, the transaction does not -/
theorem exec_touches_other_db :
    keysOf w2 1 = [] ∧
    keysOf (processCommand {} 7 [strBytes "EXEC"] w2).2 1 = [strBytes "k"] ∧
    (processCommand {} 7 [strBytes "EXEC"] w2).2.fault = none := by
  decide +kernel

/-- the same witness shows that the SELECT clause of `exec_frame` cannot be dropped: database 1 is a queued
SELECT target -/
example : selTargets [("select", [strBytes "1"]), ("set", [strBytes "k", strBytes "v"])] = [1] := by decide +kernel

/-- EVAL / EVALSHA: a script call `redis.call('flushall')` — `runFromScript`, what `runTrace` runs for a `call` hint —
on connection 7 (selected on 0) empties database 1.  (A complete EVAL request cannot be evaluated by `decide`: the
hint parser `LuaVal.parse` is defined by well-founded recursion; `#eval` of the request
`EVAL "redis.call('flushall')" 0` with the recorded trace gives the same result.) -/
theorem script_call_touches_other_db :
    keysOf (runFromScript (special stubInner) {} 7 (.str (strBytes "flushall")) [] w0).2 1 = [] ∧
    (runFromScript (special stubInner) {} 7 (.str (strBytes "flushall")) [] w0).2.fault = none := by
  decide +kernel

/-- SELECT is not in `crossDb`: it does not touch any database (`select_request_frame`), but after it the connection
is selected elsewhere, so it is excluded from the *iterated* statements unless it stays inside `T` -/
theorem select_changes_selected_db :
    ((processCommand {} 7 [strBytes "SELECT", strBytes "1"] w0).2.conn 7).db = 1 := by decide +kernel

/-- non-vacuity of `exec_frame`: for the queue of `w2` it yields that database 2 (neither selected nor a SELECT target)
is untouched, while database 1 (a SELECT target) is changed (`exec_touches_other_db`) -/
example : (processCommand {} 7 [strBytes "EXEC"] w2).2.srv.dbs.getD 2 [] = w2.srv.dbs.getD 2 [] := by
  have htx : (w2.conn 7).tx = some [("select", [strBytes "1"]), ("set", [strBytes "k", strBytes "v"])] := by
    decide +kernel
  refine exec_frame {} 7 [strBytes "EXEC"] w2 (by decide +kernel) ?_ 2 (by decide +kernel) ?_
  · intro q hq
    rw [htx] at hq
    cases hq
    decide +kernel
  · intro q hq
    rw [htx] at hq
    cases hq
    decide +kernel

/-! ## non-vacuity of the history theorem -/

/-- `SET k v; GET k; DBSIZE` on connection 7 -/
def hist0 : List Ev :=
  [.request {} 7 [strBytes "SET", strBytes "k", strBytes "v"] [0] [],
   .request {} 7 [strBytes "GET", strBytes "k"] [0] [],
   .request {} 7 [strBytes "DBSIZE"] [0] []]

theorem tx_none_ok {T : Nat → Prop} {t : Option Queue} (h : t = none) :
    ∀ q, t = some q → ∀ e ∈ q, QAllowed T e := by
  subst h; intro q hq; cases hq

/-- a request of a connection on database `i`, outside a transaction, whose command does not cross databases: a
decidable condition under which `OkEv` holds -/
def ReqNames (i : Nat) (s : Sys) : Ev → Prop
  | .request _ c fields _ _ => (s.conn c).db = i ∧ (s.conn c).tx = none ∧ cmdName fields ∉ "select" :: crossDb
  | _ => False

instance (i : Nat) (s : Sys) (e : Ev) : Decidable (ReqNames i s e) := by
  cases e <;> unfold ReqNames <;> infer_instance

theorem okEv_of_names {i : Nat} {s : Sys} {e : Ev} (h : ReqNames i s e) : OkEv (fun j => j = i) s e := by
  cases e <;> first | exact h.elim | exact ⟨h.1, tx_none_ok h.2.1, reqOk_of_name i _ h.2.2⟩

theorem hist0_ok : OkHist (fun j => j = 0) w0 hist0 :=
  okHist_iff_histAll.2 (HistAll.mono (P := ReqNames 0) (fun _ _ => okEv_of_names) (by decide +kernel))

/-- the replies of `hist0` do not depend on database 1 holding `k` or not -/
example : outs (withDbs w0 (List.replicate 16 [])) hist0 = outs w0 hist0 :=
  (history_independent_of_other_dbs 0 hist0 w0 (List.replicate 16 []) (by decide +kernel) rfl hist0_ok).1

end FR.Props.C13s

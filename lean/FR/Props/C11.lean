import FR.Proofs.Blocking
import FR.Proofs.C02lBlocking
/-!
# C11 — blocking pops (BLPOP / BRPOP / BRPOPLPUSH): conservation, key order, parking, wake-ups

Vocabulary (`FR/Proofs/System.lean`, `FR/Proofs/Blocking.lean`, `FR/Proofs/Runner.lean`):
* `s.conn c` is the connection record `getConn c` returns in `s`; `s.HasConn c`: `c` is registered;
* `s.dbAt i` is the database `getDb i` returns in `s` (`dbAt_def`);
* `db.live k` is the entry of `k` after purging expired entries (`live_def`);
* `NodupKeys`, `NoEmpty` are the two dict invariants of `FR/Proofs/Db.lean` (unique keys; no stored
  empty collection).  `Sys.out` lists the emitted replies newest first.
-/
namespace FR.Props.C11
open FR FR.M FR.Db

theorem dbAt_def (s : Sys) (i : Nat) : s.dbAt i = (getDb i s).1 := rfl
theorem live_def (db : Db) (k : Bytes) : db.live k = (Db.purge db).dict.lookup k := rfl

/-! ## 1. the pop itself loses and duplicates nothing -/

theorem bpop_pop_conserves (l : List Bytes) (h : l ≠ []) :
    (∃ x rem, Cmd.popLeftN l 1 = ([x], rem) ∧ x :: rem = l) ∧
    (∃ x rem, Cmd.popRightN l 1 = ([x], rem) ∧ rem ++ [x] = l) :=
  ⟨popLeftN_one h, popRightN_one h⟩

/-! ## 2. a served pass pops from the first key (in argument order) holding a live list -/

/-- Hypotheses: the two dict invariants — unique keys, and no stored empty list (a stored `.list []`
would be "popped" with a nil element, see the example at the end). -/
theorem bpopPass_served_in_key_order (d : Nat) (left first : Bool) (keys : List Bytes) (s : Sys) (r : Reply)
    (nd : NodupKeys (s.dbAt d).dict) (ne : NoEmpty (s.dbAt d).dict)
    (h : (bpopPass d left first keys s).1 = .ok (some r)) :
    ∃ (pre : List Bytes) (k : Bytes) (post : List Bytes) (it : Item) (l : List Bytes) (x : Bytes) (rem : List Bytes),
      keys = pre ++ k :: post ∧
      -- every earlier key was missing / expired, or (later passes only) of another type
      (∀ k' ∈ pre, ∀ it', (s.dbAt d).live k' = some it' → first = false ∧ ∀ l', it'.value ≠ .list l') ∧
      -- `k` held the live list `l`, `x` is its head (left) or last element (right)
      (s.dbAt d).live k = some it ∧ it.value = .list l ∧
      (if left then l = x :: rem else l = rem ++ [x]) ∧
      r = .arr [.bulk k, .bulk x] ∧
      -- afterwards `k` holds the rest (same deadline), or nothing when the list became empty
      ((bpopPass d left first keys s).2.dbAt d).live k =
        (if rem = [] then none else some ⟨.list rem, it.expireat⟩) ∧
      -- every other key of database `d`, and every other database, is unchanged
      (∀ k', k' ≠ k → ((bpopPass d left first keys s).2.dbAt d).live k' = (s.dbAt d).live k') ∧
      (∀ j, j ≠ d → (bpopPass d left first keys s).2.dbAt j = s.dbAt j) ∧
      NodupKeys ((bpopPass d left first keys s).2.dbAt d).dict := by
  by_cases hd : d < s.srv.dbs.length
  · -- the pass on the live view (`bpopLF`), read backwards from the reply
    have ok : ListKeys.SysOK s d := ⟨hd, nd, ne⟩
    obtain ⟨href, hfr⟩ := ListKeys.bpopF_refines d left first keys s ok
    obtain ⟨k0, l0, hr0⟩ := bpopPass_reply d left first keys s r h
    rw [h] at href
    obtain ⟨pre, k, post, l, e, hkeys, hpre, hv, hl, hr, hlive'⟩ :=
      ListKeys.bpopLF_served href.symm (by rw [hr0]; nofun)
    have hlk := ListKeys.listView_holds hv hl
    obtain ⟨x, rem, hx, _, hhead, hrem⟩ := end_split left hl
    have hafter : ((bpopPass d left first keys s).2.dbAt d).live = ListKeys.putList (s.dbAt d).live k rem e := by
      rw [← hrem]; exact hlive'
    refine ⟨pre, k, post, ⟨.list l, e⟩, l, x, rem, hkeys, fun k' hk' it' hit' => ?_, hlk, rfl, hx,
      by rw [hr, hhead]; rfl, by rw [hafter, ListKeys.putList_self], fun k' hk' => by rw [hafter, ListKeys.putList_ne _ _ _ hk'],
      hfr.other, hfr.ok.nd⟩
    -- an earlier key: its view is empty (impossible for a live entry: no stored empty list) or it is not a list
    rcases hpre k' hk' with ⟨e', hv'⟩ | ⟨hf, hv'⟩
    · have := ((ListKeys.listView_nil_iff ok.liveOK k' e').1 hv').1
      rw [this] at hit'; cases hit'
    · refine ⟨hf, fun l' hl' => ?_⟩
      obtain ⟨v, e''⟩ := it'
      obtain rfl : v = .list l' := hl'
      rw [ListKeys.listView_list hit'] at hv'; cases hv'
  · rw [bpopPass_out_of_range d left first keys s (by omega)] at h
    cases h

/-! ## 3. a re-check is served whenever one of the lists is non-empty -/

/-- with `first = false`: nothing is popped iff no key holds a live list -/
theorem bpopPass_none_iff (d : Nat) (left : Bool) (keys : List Bytes) (s : Sys)
    (nd : NodupKeys (s.dbAt d).dict) :
    (bpopPass d left false keys s).1 = .ok none ↔
      ∀ k ∈ keys, ¬ ∃ it l, (s.dbAt d).live k = some it ∧ it.value = .list l :=
  bpopPass_none_iff' d left keys s nd

/-- after a pass (first or later) that served nothing the state differs from the old one only by lazy deletions of
expired entries in database `d`: everything but `dbs[d]` is identical, and `dbs[d]` is equal after `purge` -/
theorem bpopPass_none_unchanged (d : Nat) (left first : Bool) (keys : List Bytes) (s : Sys)
    (nd : NodupKeys (s.dbAt d).dict) (h : (bpopPass d left first keys s).1 = .ok none) :
    ∃ db', (bpopPass d left first keys s).2 = { s with srv := { s.srv with dbs := s.srv.dbs.set d db'.dict } } ∧
      Db.purge db' = Db.purge (s.dbAt d) ∧ NodupKeys db'.dict ∧ (∀ q ∈ db'.dict, q ∈ (s.dbAt d).dict) := by
  obtain ⟨db', h1, h2⟩ := bpopPass_none_lazy d left first keys s nd h
  exact ⟨db', h1, h2.eq, h2.nd, h2.sub⟩

theorem bpopPass_none_live_unchanged (d : Nat) (left first : Bool) (keys : List Bytes) (s : Sys)
    (hd : d < s.srv.dbs.length) (nd : NodupKeys (s.dbAt d).dict)
    (h : (bpopPass d left first keys s).1 = .ok none) (k : Bytes) :
    ((bpopPass d left first keys s).2.dbAt d).live k = (s.dbAt d).live k :=
  (bpopPass_none_lazy d left first keys s nd h).live hd k

/-! ## 4. WRONGTYPE only on the first pass -/

theorem bpopPass_wrongtype_only_first_pass (d : Nat) (left first : Bool) (keys : List Bytes) (s : Sys) (e : Err)
    (h : (bpopPass d left first keys s).1 = .error e) : first = true ∧ e = Msgs.WRONGTYPE_MSG :=
  bpopPass_error d left first keys s e h

/-! ## 5. inside MULTI/EXEC a blocking pop never parks -/

/-- generic form: the outcome is that of the first pass alone (`.ok none` turned into the nil reply) -/
theorem blocking_in_tx_is_first_pass (c : Nat) (park : Bool) (kind : String) (keys : List Bytes) (timeout : Int)
    (pass : Bool → M (Except Err (Option Reply))) (s : Sys)
    (h : ((pass true s).2.conn c).inTx = true) :
    (blocking c park kind keys timeout pass s).2 = (pass true s).2 ∧
    (blocking c park kind keys timeout pass s).1 ≠ .ok none ∧
    ((pass true s).1 = .ok none → (blocking c park kind keys timeout pass s).1 = .ok (some .nil)) := by
  have e : blocking c park kind keys timeout pass s = _ := blockCall_inTx ⟨park, false⟩ c kind keys timeout pass s h
  rw [e]
  rcases (pass true s).1 with e | _ | r
  · exact ⟨rfl, nofun, nofun⟩
  · exact ⟨rfl, nofun, fun _ => rfl⟩
  · exact ⟨rfl, nofun, nofun⟩

/-- a pass that is `Framed` (moves only databases and notification flags), issued inside a transaction: the state is
that after the first pass, no clock is read, and whoever was parked stays so -/
theorem blocking_in_tx_framed (c : Nat) (park : Bool) (kind : String) (keys : List Bytes) (timeout : Int)
    (pass : Bool → M (Except Err (Option Reply))) (hpass : Framed (pass true)) (s : Sys) (h : (s.conn c).inTx = true) :
    (blocking c park kind keys timeout pass s).2 = (pass true s).2 ∧
    (blocking c park kind keys timeout pass s).2.clocks = s.clocks ∧
    ((blocking c park kind keys timeout pass s).2.conn c).parked.isSome = (s.conn c).parked.isSome ∧
    (blocking c park kind keys timeout pass s).1 ≠ .ok none ∧
    ((pass true s).1 = .ok none → (blocking c park kind keys timeout pass s).1 = .ok (some .nil)) := by
  have f := hpass.frame s
  obtain ⟨h1, h2, h3⟩ := blocking_in_tx_is_first_pass c park kind keys timeout pass s ((f.inTx c).trans h)
  exact ⟨h1, h1 ▸ f.clocks, h1 ▸ f.parkedIsSome c, h2, h3⟩

/-- BLPOP / BRPOP issued inside a transaction: no parking, no clock reading -/
theorem blocking_never_parks_in_tx (c : Nat) (park : Bool) (kind : String) (keys keys' : List Bytes) (timeout : Int)
    (d : Nat) (left : Bool) (s : Sys) (h : (s.conn c).inTx = true) :
    let out := blocking c park kind keys' timeout (fun first => bpopPass d left first keys) s
    out.2 = (bpopPass d left true keys s).2 ∧
    out.2.clocks = s.clocks ∧
    (out.2.conn c).parked.isSome = (s.conn c).parked.isSome ∧
    ((s.conn c).parked = none → (out.2.conn c).parked = none) ∧
    out.1 ≠ .ok none ∧
    ((bpopPass d left true keys s).1 = .ok none → out.1 = .ok (some .nil)) := by
  obtain ⟨h1, h2, h3, h4, h5⟩ := blocking_in_tx_framed c park kind keys' timeout
    (fun first => bpopPass d left first keys) (framed_bpopPass d left true keys) s h
  exact ⟨h1, h2, h3, fun hn => Option.isSome_eq_false_iff.1 (h3.trans (hn ▸ rfl)) |> Option.isNone_iff_eq_none.1, h4, h5⟩

/-- BRPOPLPUSH issued inside a transaction -/
theorem blocking_never_parks_in_tx_brpoplpush (c : Nat) (park : Bool) (kind : String) (keys' : List Bytes)
    (timeout : Int) (d : Nat) (src dst : Bytes) (s : Sys) (h : (s.conn c).inTx = true) :
    let out := blocking c park kind keys' timeout (fun first => brpoplpushPass d src dst first) s
    out.2 = (brpoplpushPass d src dst true s).2 ∧
    out.2.clocks = s.clocks ∧
    (out.2.conn c).parked.isSome = (s.conn c).parked.isSome ∧
    out.1 ≠ .ok none ∧
    ((brpoplpushPass d src dst true s).1 = .ok none → out.1 = .ok (some .nil)) :=
  blocking_in_tx_framed c park kind keys' timeout (fun first => brpoplpushPass d src dst first)
    (framed_brpoplpushPass d src dst true) s h

/-- contrast (non-vacuity of "parks"): outside a transaction, under the scheduler semantics and without
time-out, an unserved pop parks the connection on its selected database -/
theorem blocking_parks_outside_tx (c : Nat) (kind : String) (keys : List Bytes)
    (pass : Bool → M (Except Err (Option Reply))) (s : Sys)
    (hres : (pass true s).1 = .ok none) (h : ((pass true s).2.conn c).inTx = false)
    (hc : (pass true s).2.HasConn c) :
    (blocking c true kind keys 0 pass s).1 = .ok none ∧
    ((blocking c true kind keys 0 pass s).2.conn c).parked =
      some { kind := kind, keys := keys, db := ((pass true s).2.conn c).db, deadline := none } := by
  have hrun : blocking c true kind keys 0 pass s =
      (.ok none, (pass true s).2.updConn c (parkAs kind keys ((pass true s).2.conn c).db none)) := by
    rw [blocking_run, hres]
    simp only [Sys.unserved, h]
    rfl
  rw [hrun]
  refine ⟨rfl, ?_⟩
  show ((((pass true s).2).updConn c _).conn c).parked = _
  rw [Sys.conn_updConn_same (parkAs kind keys ((pass true s).2.conn c).db none) hc (fun _ => rfl)]
  rfl

/-! ## 6. `notify_watch` is `condition.notify_all` -/

theorem notify_wakes_all_parked (d : Nat) (key : Bytes) (s : Sys) :
    let s' := (notifyWatch d key s).2
    -- every connection parked on `d` is flagged
    (∀ c p, (s.conn c).parked = some p → p.db = d → (s'.conn c).parked = some { p with woken := true }) ∧
    (∀ x ∈ s'.srv.conns, ∀ p, x.parked = some p → p.db = d → p.woken = true) ∧
    -- connections parked elsewhere, or not parked, keep their `parked` field
    (∀ c p, (s.conn c).parked = some p → p.db ≠ d → (s'.conn c).parked = some p) ∧
    (∀ c, (s.conn c).parked = none → (s'.conn c).parked = none) ∧
    -- the only other field touched is the WATCH flag
    (∀ c, s'.conn c = { s.conn c with
        parked := (s'.conn c).parked
        watchNotified := (s.conn c).watchNotified || (s.conn c).watches.contains (d, key) }) ∧
    (∀ c, s'.HasConn c ↔ s.HasConn c) ∧
    s'.srv.dbs = s.srv.dbs ∧ s'.out = s.out ∧ s'.clocks = s.clocks := by
  intro s'
  have hc : ∀ c, s'.conn c = notifyFn d key (s.conn c) := notifyWatch_conn d key s
  refine ⟨?_, ?_, ?_, ?_, ?_, ?_, rfl, rfl, rfl⟩
  · intro c p hp hd
    rw [hc, notifyFn_parked, hp]
    simp [hd]
  · exact Sys.allWoken_notify s d key
  · intro c p hp hd
    rw [hc, notifyFn_parked, hp]
    simp [hd]
  · intro c hp
    rw [hc, notifyFn_parked, hp]; rfl
  · intro c
    rw [hc, notifyFn_fields]
  · intro c
    exact Sys.hasConn_mapConns s _ c (notifyFn_id d key)

/-! ## 7. no lost wake-up: a write-back that modifies a key notifies every parked connection -/

theorem writeback_notifies_parked (d : Nat) (cis : List CI) (s : Sys) (h : ∃ ci ∈ cis, ci.modified = true) :
    let s' := (writebackAll d cis s).2
    (∀ x ∈ s'.srv.conns, ∀ p, x.parked = some p → p.db = d → p.woken = true) ∧
    (∀ c p, (s'.conn c).parked = some p → p.db = d → p.woken = true) ∧
    -- and nobody is un-parked or re-targeted on the way: a connection parked on `d` before is parked
    -- with the same record, flag set, afterwards
    (∀ c p, (s.conn c).parked = some p → p.db = d → (s'.conn c).parked = some { p with woken := true }) := by
  intro s'
  have hw : s'.AllWoken d := writebackAll_allWoken d cis s h
  refine ⟨hw, fun c p => hw.conn c p, ?_⟩
  intro c p hp hd
  have hex : ∃ w, (s'.conn c).parked = some { p with woken := w } := by
    refine writebackAll_frame (fun s' => ∃ w, (s'.conn c).parked = some { p with woken := w })
      (fun _ _ _ h => h) ?_ d cis s ⟨p.woken, hp⟩
    rintro s1 d' k ⟨w, hw1⟩
    rw [Sys.conn_mapConns_notify s1 d' k c, notifyFn_parked, hw1]
    simp only [Option.map_some]
    split
    · exact ⟨true, rfl⟩
    · exact ⟨w, rfl⟩
  obtain ⟨w, hw1⟩ := hex
  have := hw.conn c _ hw1 hd
  simp only at this
  rw [hw1, this]

/-- corollary for pushes (any regular command): if the pure runner reports a notified key, every
connection parked on the client's database is flagged -/
theorem push_wakes_parked (special) (mode : Mode) (c : Nat) (sig : Sig) (raw : List Bytes) (fromScript : Bool)
    {body : Body} (hreg : Cmd.regular sig.name = some body) (s : Sys)
    (hn : (s.regularOut c sig body raw fromScript).notified ≠ []) :
    let s' := (runWith special mode c sig raw fromScript s).2
    (∀ x ∈ s'.srv.conns, ∀ p, x.parked = some p → p.db = (s.conn c).db → p.woken = true) ∧
    (∀ c' p, (s'.conn c').parked = some p → p.db = (s.conn c).db → p.woken = true) := by
  intro s'
  have hw : s'.AllWoken (s.conn c).db := by
    show ((runWith special mode c sig raw fromScript s).2).AllWoken _
    cases hr : s.refuses c sig with
    | true => exact absurd (Sys.regularOut_of_refused body raw fromScript hr).1 hn
    | false =>
      rw [runWith_regular_run special mode c sig raw fromScript hreg s hr]
      exact Sys.afterRegular_allWoken s _ _ hn
  exact ⟨hw, fun c' p => hw.conn c' p⟩

/-! ## 8. one turn of a woken connection; the time-out -/

/-- `t` is the clock reading consumed by the turn (only read when the pass found nothing and a deadline
exists).  The pass is `parkedPass c p` = the parked command's pass with `first = false`. -/
theorem wakeConn_served_or_stays (c : Nat) (p : Parked) (s : Sys) (hp : (s.conn c).parked = some p) :
    let res := (parkedPass c p s).1
    let t := (nextClock s).1
    let s' := (wakeConn c s).2
    -- (a) exactly one reply to `c` (nothing if its socket is closed), un-parked
    ((s'.conn c).parked = none ∧
      ∃ rep, s'.out = (if (s.conn c).closed then s.out else (c, rep) :: s.out) ∧
        ((∃ e, res = .error e ∧ rep = .err (strBytes e)) ∨
         res = .ok (some rep) ∨
         (res = .ok none ∧ rep = .nil ∧ ∃ dl, p.deadline = some dl ∧ dl - t ≤ 0))) ∨
    -- (b) still parked, flag cleared, nothing emitted
    ((s'.conn c).parked = some { p with woken := false } ∧ s'.out = s.out ∧ res = .ok none ∧
      (p.deadline = none ∨ ∃ dl, p.deadline = some dl ∧ dl - t > 0)) := by
  intro res t s'
  have f := (framed_parkedPass c p).frame s
  have hc1 : (parkedPass c p s).2.HasConn c := (f.hasConn c).2 (Sys.hasConn_of_parked hp)
  have hpk := wakeState_parked c p res _ hc1
  have hout := wakeState_out c p res _ hc1
  rw [f.closed c, f.out] at hout
  have hs' : s' = wakeState c p res (parkedPass c p s).2 := by
    show (wakeConn c s).2 = _
    rw [wakeConn_eq, hp]
  rw [← hs'] at hpk hout
  -- the turn ends the wait with a reply, or it does not
  cases hw : wakeReply p res (parkedPass c p s).2 with
  | some rep =>
    rw [hw] at hpk hout
    have hwhich := wakeReply_some hw
    rw [f.nextClock] at hwhich
    exact .inl ⟨hpk, rep, hout, hwhich⟩
  | none =>
    rw [hw] at hpk hout
    obtain ⟨h1, h2⟩ := wakeReply_none hw
    rw [f.nextClock] at h2
    exact .inr ⟨hpk, hout, h1, h2⟩

/-- the condition's `wait` returned `False`: nil to the client, un-parked, and nothing is taken -/
theorem timeoutConn_spec (c : Nat) (p : Parked) (s : Sys) (hp : (s.conn c).parked = some p) :
    let s' := (timeoutConn c s).2
    (s'.conn c).parked = none ∧
    s'.out = (if (s.conn c).closed then s.out else (c, .nil) :: s.out) ∧
    s'.srv.dbs = s.srv.dbs ∧
    (∀ c', c' ≠ c → s'.conn c' = s.conn c') := by
  intro s'
  have hs' : s' = (s.updConn c unpark).emitS c .nil := by
    show (timeoutConn c s).2 = _
    rw [timeoutConn_eq, hp]; rfl
  rw [hs']
  obtain ⟨h1, h2⟩ := Sys.updConn_emitS_facts s c unpark .nil (Sys.hasConn_of_parked hp) (fun _ => rfl) (fun _ => rfl)
  exact ⟨congrArg Conn.parked h1, h2⟩

/-! ## 9. the nil time-out reply is only given when the pass found nothing -/

theorem timeout_only_if_unserved (c : Nat) (p : Parked) (s : Sys) (hp : (s.conn c).parked = some p)
    (hopen : (s.conn c).closed = false)
    (h : (wakeConn c s).2.out = (c, .nil) :: s.out) :
    (parkedPass c p s).1 = .ok none ∧ ∃ dl, p.deadline = some dl ∧ dl - (nextClock s).1 ≤ 0 := by
  rcases wakeConn_served_or_stays c p s hp with ⟨_, rep, hout, hrep⟩ | ⟨_, hout, _⟩
  · simp only [hopen, Bool.false_eq_true, if_false] at hout
    rw [hout] at h
    simp only [List.cons.injEq, Prod.mk.injEq, true_and, and_true] at h
    subst h
    rcases hrep with ⟨e, _, he⟩ | hr | ⟨hr, _, hdl⟩
    · cases he
    · exact absurd hr (parkedPass_not_nil c p s)
    · exact ⟨hr, hdl⟩
  · rw [hout] at h
    exact absurd h (by simp)

/-- a time-out from `wakeConn` takes nothing either: when the pass of a BLPOP/BRPOP found nothing, the
databases after the turn are those after the pass, which differ from the old ones by lazy deletions only -/
theorem wakeConn_unserved_takes_nothing (c : Nat) (p : Parked) (s : Sys) (hp : (s.conn c).parked = some p)
    (hres : (parkedPass c p s).1 = .ok none) :
    (wakeConn c s).2.srv.dbs = (parkedPass c p s).2.srv.dbs := by
  rw [wakeConn_eq, hp]
  exact wakeState_dbs ..

/-! ## non-vacuity -/

/-- connection 1 parked by `BLPOP l 0` on key `l` of database 0, connection 2 parked on database 1 -/
def s0 : Sys :=
  { srv := { conns := [{ id := 1, parked := some { kind := "blpop", keys := [[108]], db := 0, deadline := none } },
                       { id := 2, parked := some { kind := "blpop", keys := [[108]], db := 1, deadline := none } },
                       { id := 3 }] } }

example : (((notifyWatch 0 [108] s0).2.conn 1).parked.map (·.woken)) = some true ∧
    (((notifyWatch 0 [108] s0).2.conn 2).parked.map (·.woken)) = some false := ⟨rfl, rfl⟩

/-- `RPUSH l a` issued by connection 3 (database 0) reports the notified key `l`: the hypothesis of
`push_wakes_parked` is satisfiable -/
example : ∃ sig body, SigTable.find "rpush" = some sig ∧ Cmd.regular sig.name = some body ∧
    (s0.regularOut 3 sig body [[108], [97]] false).notified = [[108]] := ⟨_, _, rfl, rfl, by decide⟩

/-- a push-like write-back to database 0 wakes connection 1; the woken connection is then served -/
def s1 : Sys :=
  (writebackAll 0 [{ key := [108], val := some (.list [[97], [98]]), expireat := none, modified := true }] s0).2

example : ((s1.conn 1).parked.map (·.woken)) = some true := by decide

example : (bpopPass 0 true false [[107], [108]] s1).1 = .ok (some (.arr [.bulk [108], .bulk [97]])) := rfl

example : (bpopPass 0 false false [[107], [108]] s1).1 = .ok (some (.arr [.bulk [108], .bulk [98]])) := rfl

example : ((wakeConn 1 s1).2.conn 1).parked.isNone = true ∧ (wakeConn 1 s1).2.out.length = 1 := by decide

/-- woken spuriously (nothing to pop): stays parked with the flag cleared -/
example : ((wakeConn 1 s0).2.conn 1).parked.map (·.woken) = some false ∧ (wakeConn 1 s0).2.out.length = 0 := by
  decide

/-- a WRONGTYPE key is an error on the first pass and skipped later -/
def s2 : Sys := { srv := { dbs := [[([107], ⟨.str [1], none⟩), ([108], ⟨.list [[97]], none⟩)]] } }

example : (bpopPass 0 true true [[107], [108]] s2).1 = .error Msgs.WRONGTYPE_MSG := rfl
example : (bpopPass 0 true false [[107], [108]] s2).1 = .ok (some (.arr [.bulk [108], .bulk [97]])) := rfl
example : ((bpopPass 0 true false [[107], [108]] s2).2.dbAt 0).live [108] = none := by decide

/-- why `NoEmpty` is assumed in `bpopPass_served_in_key_order`: a stored empty list (never produced by the
commands) would be "served" with a nil element -/
example : (bpopPass 0 true false [[108]] { srv := { dbs := [[([108], ⟨.list [], none⟩)]] } }).1
    = .ok (some (.arr [.bulk [108], .nil])) := rfl

/-- a deadline that has passed at re-check time: nil reply, un-parked, one clock reading consumed -/
def s4 : Sys :=
  { srv := { conns := [{ id := 1, parked := some { kind := "brpop", keys := [[108]], db := 0, deadline := some 50 } }] },
    clocks := [60, 70] }

example : (wakeConn 1 s4).2.out.length = 1 ∧ ((wakeConn 1 s4).2.conn 1).parked.isNone = true ∧
    (wakeConn 1 s4).2.clocks = [70] := by decide
example : (timeoutConn 1 s4).2.out.length = 1 ∧ ((timeoutConn 1 s4).2.conn 1).parked.isNone = true ∧
    (timeoutConn 1 s4).2.clocks = [60, 70] := by decide

/-- in a transaction the pop does not park; outside it does -/
def s3 (inTx : Bool) : Sys := { srv := { conns := [{ id := 1, inTx := inTx }] } }

example : ((blocking 1 true "blpop" [[108]] 0 (fun f => bpopPass 0 true f [[108]]) (s3 true)).2.conn 1).parked.isNone = true := by
  decide
example : ((blocking 1 true "blpop" [[108]] 0 (fun f => bpopPass 0 true f [[108]]) (s3 false)).2.conn 1).parked.isSome = true := by
  decide

end FR.Props.C11

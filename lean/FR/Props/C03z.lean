import FR.Proofs.C03zCmds
/-!
# C03z — sorted-set commands: declarative specifications through the runner

Complements `C03.lean` (the two-index invariant `ZSet.Inv`, rank / irange / zcount at data level) and
`C03s.lean` (ZUNIONSTORE / ZINTERSTORE).  Every theorem is about `run name ctx raw db`, i.e. `runRegular` applied
to the registered signature (`SigTable`) and the registered body (`Cmd.regular`) of the command, on an arbitrary
database with unique keys, arbitrary byte strings and both emulated versions (`ctx.version` is a variable).

Standing hypotheses of the main section:
* `nd : NodupKeys db.dict` — a Python dict has unique keys;
* `hv : zsetView db.live key = some (z, e)` — the key is missing (`z = ZSet.empty`, `e = none`) or holds the
  sorted set `z` with deadline `e` (`zsetView … = none`: another type is stored, see `zset_wrongtype`);
* `hz : z.Inv` — the two-index invariant of `FR/Proofs/ZSet.lean` (C03 proves that every command preserves it).

Vocabulary (`FR/Proofs/C03zRun.lean`, `C03zAlg.lean`, `C03zCmds.lean`, namespace `FR.ZCmd`):
* `z.byscore : List (Dbl × Bytes)` — the iteration order: ascending by score, then by member bytes (`C03.members_sorted`),
  every member once (`C03.members_nodup`), determined by the map `z.get` (`byscore_canonical` below);
* `ReadOnly out db r` — the run replies `r`, does not fail, and no key changes;
  `Fails out db er` — it replies the error `er` and no key changes;
  `Writes out db key z' e r` — it replies `r`, and the only change is that `key` now holds `z'` with deadline `e`,
  and is deleted when `z'` is empty (`writes_deletes_empty`);
* `CardEq P n` — `n` is the number of byte strings satisfying `P`;
* `rangeWindow l start stop` — Redis index normalisation; `limitSpec l off cnt` — LIMIT;
  `scoreIn`, `lexGe`, `lexLe`, `lexRange` — the range predicates; `withScores` — WITHSCORES interleaving (model function,
  characterised in `withScores_spec`); `fmtScore ctx d` — the model's rendering of a double for the emulated version;
* `zaddWrites`, `zaddSet`, `zaddChanged`, `incrScore` — the ZADD / ZINCRBY semantics.
-/
namespace FR.Props.C03z
open FR FR.Cmd FR.HashSet FR.ZCmd

/-! ## 0. The vocabulary, spelled out

The theorems of this section restate or characterise the definitions in which the statements below are written, so
that they can be read from this file alone; `outcomes_def` (and `removes_def` in section 6) hold by `Iff.rfl`. -/

theorem outcomes_def (out : RunOut) (db : Db) (key : Bytes) (z' : ZSet) (e : Option Int) (r : Reply) (er : Err) :
    (ReadOnly out db r ↔ out.reply = r ∧ out.db.live = db.live ∧ out.failed = false) ∧
    (Fails out db er ↔ out.reply = .err (strBytes er) ∧ out.db.live = db.live ∧ out.failed = true) ∧
    (Writes out db key z' e r ↔
      out.reply = r ∧ out.db.live = putAt db.live key (.zset z') e ∧ out.failed = false) :=
  ⟨Iff.rfl, Iff.rfl, Iff.rfl⟩

/-- a write deletes the key when the resulting set is empty, stores it otherwise, and touches no other key -/
theorem writes_deletes_empty (out : RunOut) (db : Db) (key : Bytes) (z' : ZSet) (e : Option Int) (r : Reply)
    (h : Writes out db key z' e r) :
    (z'.bylex = [] → out.db.live key = none) ∧
    (z'.bylex ≠ [] → out.db.live key = some ⟨.zset z', e⟩) ∧
    (∀ k, k ≠ key → out.db.live k = db.live k) :=
  ⟨h.deleted, h.stored, fun _ hk => h.other hk⟩

/-- the view of a key: missing = the empty sorted set without deadline -/
theorem zsetView_def (live : Bytes → Option Item) (key : Bytes) :
    (live key = none → zsetView live key = some (ZSet.empty, none)) ∧
    (∀ z e, live key = some ⟨.zset z, e⟩ → zsetView live key = some (z, e)) ∧
    (∀ it, live key = some it → (∀ z, it.value ≠ .zset z) → zsetView live key = none) := by
  refine ⟨zsetView_missing, fun z e h => zsetView_stored h, fun it h hne => ?_⟩
  unfold zsetView; rw [h]
  cases hval : it.value with
  | zset z => exact absurd hval (hne z)
  | _ => simp [hval]

/-- LIMIT: a negative offset yields nothing; a negative count everything from the offset on -/
theorem limitSpec_def {α} (l : List α) (off cnt : Int) :
    limitSpec l off cnt =
      if off < 0 then [] else if cnt < 0 then l.drop off.toNat else (l.drop off.toNat).take cnt.toNat := rfl

/-- Redis index normalisation: a negative index counts from the end (`i' = i + len`); the window is
`[max 0 start', min (len-1) stop']`, empty when that interval is.  Element-wise and for the whole list: -/
theorem rangeWindow_def {α} (l : List α) (start stop : Int) :
    let nrm (i : Int) : Int := if i < 0 then i + l.length else i
    (rangeWindow l start stop =
      (l.drop (max 0 (nrm start)).toNat).take (min (nrm stop) ((l.length : Int) - 1) + 1 - max 0 (nrm start)).toNat) ∧
    (∀ i : Nat, (rangeWindow l start stop)[i]? =
      if max 0 (nrm start) + i ≤ min (nrm stop) ((l.length : Int) - 1) then l[(max 0 (nrm start)).toNat + i]?
      else none) ∧
    rangeWindow l 0 (-1) = l :=
  ⟨rfl, rangeWindow_getElem? l start stop, rangeWindow_all l⟩

/-- WITHSCORES interleaves the formatted scores -/
theorem withScores_spec (ctx : Ctx) (items : List (Dbl × Bytes)) :
    withScores ctx items false = items.map (fun p => .bulk p.2) ∧
    withScores ctx items true = items.flatMap (fun p => [.bulk p.2, .bulk (fmtScore ctx p.1)]) :=
  ⟨rfl, rfl⟩

theorem range_predicates_def (mn mx s : Dbl) (mne mxe : Bool) (m x : Bytes) :
    (scoreIn mn mne mx mxe s =
      ((if mne then Dbl.lt mn s else Dbl.le mn s) && (if mxe then Dbl.lt s mx else Dbl.le s mx))) ∧
    -- lower lex bound: `-` admits everything, `+` nothing, `(x` is strict, `[x` is not
    (lexGe .before mne m = true ∧ lexGe .after mne m = false ∧
      lexGe (.val x) true m = bytesLt x m ∧ lexGe (.val x) false m = !bytesLt m x) ∧
    -- upper lex bound
    (lexLe .after mxe m = true ∧ lexLe .before mxe m = false ∧
      lexLe (.val x) true m = bytesLt m x ∧ lexLe (.val x) false m = !bytesLt x m) := by
  refine ⟨rfl, ⟨?_, ?_, rfl, rfl⟩, ⟨?_, ?_, rfl, rfl⟩⟩ <;> cases mne <;> cases mxe <;> rfl

/-- all scores `0`: members `a`, `b`, `c` (the situation Redis defines the lex commands for) -/
def exLex : ZSet := (((ZSet.empty.add [97] Dbl.zero).1.add [98] Dbl.zero).1.add [99] Dbl.zero).1
/-- `a ↦ +inf` -/
def exInf : ZSet := (ZSet.empty.add [97] (.inf false)).1

/-- the database of the non-vacuity examples: key `[1]` holds `a ↦ 1, b ↦ 2, c ↦ 2` (added in the order b, a, c)
with a deadline, key `[2]` a string, key `[3]` is missing, key `[4]` holds `exLex`, key `[5]` holds `exInf`;
the clock stands at 5 -/
def exDb : Db := ⟨[([1], ⟨.zset ZSet.example3, some 50⟩), ([2], ⟨.str [7], none⟩),
  ([4], ⟨.zset exLex, none⟩), ([5], ⟨.zset exInf, none⟩)], 5⟩
def exCtx : Ctx := { version := 7, time := 5 }
def exCtx6 : Ctx := { version := 6, time := 5 }
/-- (for the examples only) `Except` as a sum with decidable equality -/
def exView {α} (r : Except Err α) : Err ⊕ α := match r with | .ok a => .inr a | .error e => .inl e
/-- (for the examples only) replies as their canonical text (`i:` integer, `b:` bulk in hex, `nil`, `[…]`) -/
def rv (r : Reply) : String := r.render
/-- (for the examples only) the message of an error reply -/
def errOf (r : Reply) : Option Bytes := match r with | .err m => some m | _ => none
/-- (for the examples only) -/
def bs (s : String) : Bytes := strBytes s
/-- (for the examples only) members in iteration order, formatted scores (version 6 rendering shows `-0`) and
deadline of the sorted set at a key; `none` for another type -/
def zv (db : Db) (k : Bytes) : Option (List (Bytes × Bytes) × Option Int) :=
  (zsetView db.live k).map fun p => (p.1.byscore.map fun q => (q.2, Dbl.encode q.1 false), p.2)

theorem example3_inv : ZSet.example3.Inv := ZSet.example3_inv

/-- the standing hypotheses hold of `exDb`; the three kinds of view all occur -/
example : NodupKeys exDb.dict ∧ zsetView exDb.live [1] = some (ZSet.example3, some 50) ∧ ZSet.example3.Inv ∧
    zsetView exDb.live [3] = some (ZSet.empty, none) ∧ ZSet.empty.Inv ∧ zsetView exDb.live [2] = none ∧
    zsetView exDb.live [4] = some (exLex, none) ∧ exLex.Inv ∧ zsetView exDb.live [5] = some (exInf, none) ∧
    exInf.Inv :=
  ⟨by decide, by rfl, example3_inv, by rfl, ZSet.empty_inv, by rfl, by rfl,
    ZSet.add_inv (ZSet.add_inv (ZSet.add_inv ZSet.empty_inv (by decide)) (by decide)) (by decide), by rfl,
    ZSet.add_inv ZSet.empty_inv (by decide)⟩

/-! ## 1. The canonical form: under the invariant the iteration order is determined by the map -/

/-- two invariant sorted sets with the same member ↦ score map iterate in the same order; hence every statement
below that determines `z'.get` (or `z'.byscore`) and `z'.Inv` determines the set a client can observe -/
theorem byscore_canonical (z z' : ZSet) (hz : z.Inv) (hz' : z'.Inv) (h : ∀ m, z.get m = z'.get m) :
    z.byscore = z'.byscore := byscore_eq_of_get_eq hz hz' h

/-- the same three members added in another order: another insertion-ordered index, the same map, the same
iteration order -/
example :
    let z' := (((ZSet.empty.add [97] (Dbl.ofInt 1)).1.add [99] (Dbl.ofInt 2)).1.add [98] (Dbl.ofInt 2)).1
    z'.bylex ≠ ZSet.example3.bylex ∧ z'.Inv ∧ (∀ m, z'.get m = ZSet.example3.get m) ∧
    z'.byscore = ZSet.example3.byscore := by
  intro z'
  have hinv : z'.Inv :=
    ZSet.add_inv (ZSet.add_inv (ZSet.add_inv ZSet.empty_inv (by decide)) (by decide)) (by decide)
  have hget : ∀ m, z'.get m = ZSet.example3.get m := by
    intro m
    have e1 : z'.bylex = [([97], Dbl.ofInt 1), ([99], Dbl.ofInt 2), ([98], Dbl.ofInt 2)] := by decide
    have e2 : ZSet.example3.bylex = [([98], Dbl.ofInt 2), ([97], Dbl.ofInt 1), ([99], Dbl.ofInt 2)] := by decide
    unfold ZSet.get
    rw [e1, e2]
    simp only [List.lookup_cons, List.lookup_nil]
    by_cases h1 : m = [97]
    · subst h1; decide
    · by_cases h2 : m = [98]
      · subst h2; decide
      · by_cases h3 : m = [99]
        · subst h3; decide
        · have c1 : (m == [97]) = false := by simpa using h1
          have c2 : (m == [98]) = false := by simpa using h2
          have c3 : (m == [99]) = false := by simpa using h3
          simp [c1, c2, c3]
  exact ⟨by decide, hinv, hget, byscore_canonical z' ZSet.example3 hinv example3_inv hget⟩

section main
variable (ctx : Ctx) (db : Db) (nd : NodupKeys db.dict) (key : Bytes) (z : ZSet) (e : Option Int)
  (hv : zsetView db.live key = some (z, e)) (hz : z.Inv)
include nd hv hz

/-! ## 2. ZCARD, ZSCORE, ZRANK, ZREVRANK -/

/-- ZCARD = number of members = length of the iteration order -/
theorem zcard_spec :
    ReadOnly (run "zcard" ctx [key] db) db (.int z.len) ∧
    z.len = z.byscore.length ∧ CardEq (fun m => z.get m ≠ none) z.len := by
  refine ⟨run_zcard ctx key nd hv, (ZSet.byscore_length hz).symm, ?_⟩
  refine ⟨z.byscore.map Prod.snd, ZSet.members_nodup hz, fun m => mem_members_iff hz m, ?_⟩
  rw [List.length_map, ZSet.byscore_length hz]

omit hz in
/-- ZSCORE: nil for an absent member (in particular for a missing key), else the model's rendering `fmtScore`
of the stored double (`fmtScore_rule` below) -/
theorem zscore_spec (m : Bytes) :
    ReadOnly (run "zscore" ctx [key, m] db) db
      (match z.get m with
       | some s => .bulk (fmtScore ctx s)
       | none => .nil) :=
  run_zscore ctx key nd hv m

/-- ZRANK: nil for an absent member, else the position of the member in the iteration order -/
theorem zrank_spec (m : Bytes) :
    ReadOnly (run "zrank" ctx [key, m] db) db
      (if z.get m = none then .nil else .int ((z.byscore.map Prod.snd).idxOf m)) ∧
    (z.get m ≠ none → (z.byscore.map Prod.snd).idxOf m < z.len ∧
      (z.byscore.map Prod.snd)[(z.byscore.map Prod.snd).idxOf m]? = some m) := by
  constructor
  · have := run_zrank ctx key nd hv m
    rw [rank_eq_idxOf] at this
    by_cases hg : z.get m = none
    · simpa [hg] using this
    · simpa [hg] using this
  · intro hg
    have hm : m ∈ z.byscore.map Prod.snd := (mem_members_iff hz m).mpr hg
    have hi := List.idxOf_lt_length_iff.mpr hm
    refine ⟨by simpa [ZSet.byscore_length hz] using hi, ?_⟩
    rw [List.getElem?_eq_getElem hi, List.getElem_idxOf hi]

/-- ZREVRANK: `len - 1 - rank`, which is the position of the member in the reversed iteration order -/
theorem zrevrank_spec (m : Bytes) :
    ReadOnly (run "zrevrank" ctx [key, m] db) db
      (if z.get m = none then .nil else .int ((z.byscore.map Prod.snd).reverse.idxOf m)) ∧
    (z.get m ≠ none →
      (z.byscore.map Prod.snd).reverse.idxOf m = z.len - 1 - (z.byscore.map Prod.snd).idxOf m) := by
  have hrev : z.get m ≠ none →
      (z.byscore.map Prod.snd).reverse.idxOf m = z.len - 1 - (z.byscore.map Prod.snd).idxOf m := by
    intro hg
    have := idxOf_reverse (ZSet.members_nodup hz) ((mem_members_iff hz m).mpr hg)
    rw [this, List.length_map, ZSet.byscore_length hz]
  refine ⟨?_, hrev⟩
  have := run_zrevrank ctx key nd hv m
  rw [rank_eq_idxOf] at this
  by_cases hg : z.get m = none
  · simpa [hg] using this
  · have hlt : (z.byscore.map Prod.snd).idxOf m < z.len := by
      have := List.idxOf_lt_length_iff.mpr ((mem_members_iff hz m).mpr hg)
      simpa [ZSet.byscore_length hz] using this
    rw [if_neg hg, hrev hg]
    simp only [hg, if_false] at this
    have e1 : ((z.len : Int) - 1 - ((z.byscore.map Prod.snd).idxOf m : Nat)) =
        ((z.len - 1 - (z.byscore.map Prod.snd).idxOf m : Nat) : Int) := by omega
    rw [← e1]; exact this

/-! ## 3. ZRANGE / ZREVRANGE -/

/-- ZRANGE key start stop [WITHSCORES…]: the Redis index window of the iteration order; every option word must be
WITHSCORES (any number of them), anything else is a syntax error -/
theorem zrange_spec (a b : Bytes) (rest : List Bytes) (start stop : Int)
    (ha : Conv.int a = .ok start) (hb : Conv.int b = .ok stop) :
    let out := run "zrange" ctx (key :: a :: b :: rest) db
    if rest.all (fun x => casematch x "withscores") = true then
      ReadOnly out db (.arr (withScores ctx (rangeWindow z.byscore start stop) (!rest.isEmpty)))
    else Fails out db Msgs.SYNTAX_ERROR_MSG := by
  exact (Does.ite _ _ _).mp (run_zrange ctx key nd hv hz a b rest ha hb)

/-- ZREVRANGE = the same window of the reversed iteration order ("reverse view") -/
theorem zrevrange_spec (a b : Bytes) (rest : List Bytes) (start stop : Int)
    (ha : Conv.int a = .ok start) (hb : Conv.int b = .ok stop) :
    let out := run "zrevrange" ctx (key :: a :: b :: rest) db
    if rest.all (fun x => casematch x "withscores") = true then
      ReadOnly out db (.arr (withScores ctx (rangeWindow z.byscore.reverse start stop) (!rest.isEmpty)))
    else Fails out db Msgs.SYNTAX_ERROR_MSG := by
  exact (Does.ite _ _ _).mp (run_zrevrange ctx key nd hv hz a b rest ha hb)

/-! ## 4. ZRANGEBYSCORE / ZREVRANGEBYSCORE with LIMIT, ZCOUNT -/

/-- ZRANGEBYSCORE key min max [WITHSCORES] [LIMIT offset count]: filter the iteration order by the
inclusive / exclusive / infinite bounds (`scoreIn`), then LIMIT (`limitSpec`: a negative count = all remaining, a
negative offset = nothing), then WITHSCORES.  An ill-formed option tail is an error (`rbs_options`). -/
theorem zrangebyscore_limit_spec (a b : Bytes) (rest : List Bytes) (mn mx : Dbl) (mne mxe : Bool)
    (ha : Conv.scoreTest a = .ok (mn, mne)) (hb : Conv.scoreTest b = .ok (mx, mxe)) :
    let out := run "zrangebyscore" ctx (key :: a :: b :: rest) db
    (∀ er, parseRbsOpts rest {} = .error er → Fails out db er) ∧
    (∀ o, parseRbsOpts rest {} = .ok o →
      ReadOnly out db (.arr (withScores ctx
        (limitSpec (z.byscore.filter (fun p => scoreIn mn mne mx mxe p.1)) o.off o.cnt) o.ws))) := by
  intro out
  obtain ⟨herr, hok⟩ := (run_zrangebyscore ctx key nd hv a b rest ha hb).bind
  refine ⟨herr, fun o ho => ?_⟩
  have : ReadOnly _ _ _ := hok o ho
  rwa [irange_score_eq_filter hz mne mxe (scoreTest_not_nan ha) (scoreTest_not_nan hb)] at this

/-- ZREVRANGEBYSCORE key max min …: the same filter on the reversed iteration order (the first bound is the upper
one), then LIMIT, then WITHSCORES -/
theorem zrevrangebyscore_spec (a b : Bytes) (rest : List Bytes) (mn mx : Dbl) (mne mxe : Bool)
    (ha : Conv.scoreTest a = .ok (mx, mxe)) (hb : Conv.scoreTest b = .ok (mn, mne)) :
    let out := run "zrevrangebyscore" ctx (key :: a :: b :: rest) db
    (∀ er, parseRbsOpts rest {} = .error er → Fails out db er) ∧
    (∀ o, parseRbsOpts rest {} = .ok o →
      ReadOnly out db (.arr (withScores ctx
        (limitSpec (z.byscore.reverse.filter (fun p => scoreIn mn mne mx mxe p.1)) o.off o.cnt) o.ws))) := by
  intro out
  obtain ⟨herr, hok⟩ := (run_zrevrangebyscore ctx key nd hv a b rest ha hb).bind
  refine ⟨herr, fun o ho => ?_⟩
  have : ReadOnly _ _ _ := hok o ho
  rwa [irange_score_eq_filter hz mne mxe (scoreTest_not_nan hb) (scoreTest_not_nan ha),
    ← List.filter_reverse] at this

/-- ZCOUNT = number of members within the bounds -/
theorem zcount_spec (a b : Bytes) (mn mx : Dbl) (mne mxe : Bool)
    (ha : Conv.scoreTest a = .ok (mn, mne)) (hb : Conv.scoreTest b = .ok (mx, mxe)) :
    ReadOnly (run "zcount" ctx [key, a, b] db) db
      (.int (z.byscore.filter (fun p => scoreIn mn mne mx mxe p.1)).length) := by
  have := run_zcount ctx key nd hv a b ha hb
  rwa [ZSet.zcount_eq_length hz mn mne mxe (scoreTest_not_nan hb),
    irange_score_eq_filter hz mne mxe (scoreTest_not_nan ha) (scoreTest_not_nan hb)] at this

/-! ## 5. ZRANGEBYLEX / ZREVRANGEBYLEX / ZLEXCOUNT -/

/-- ZRANGEBYLEX key min max [LIMIT offset count]: `lexRange` — among the members whose score is IEEE-equal to the
lowest score, those within the lex bounds — then LIMIT.  The option tail is empty or exactly `LIMIT off cnt`. -/
theorem zrangebylex_spec (a b : Bytes) (rest : List Bytes) (mn mx : LexB) (mne mxe : Bool)
    (ha : Conv.stringTest a = .ok (mn, mne)) (hb : Conv.stringTest b = .ok (mx, mxe)) :
    let out := run "zrangebylex" ctx (key :: a :: b :: rest) db
    (∀ er, parseLexOpts rest = .error er → Fails out db er) ∧
    (∀ off cnt, parseLexOpts rest = .ok (off, cnt) →
      ReadOnly out db (Reply.bulks (limitSpec (lexRange z mn mne mx mxe) off cnt))) := by
  intro out
  obtain ⟨herr, hok⟩ := (run_zrangebylex ctx key nd hv a b rest ha hb).bind
  refine ⟨herr, fun off cnt ho => ?_⟩
  have : ReadOnly _ _ _ := hok (off, cnt) ho
  rwa [irangeLex_eq_lexRange hz] at this

/-- ZREVRANGEBYLEX key max min …: the reversed selection, then LIMIT -/
theorem zrevrangebylex_spec (a b : Bytes) (rest : List Bytes) (mn mx : LexB) (mne mxe : Bool)
    (ha : Conv.stringTest a = .ok (mx, mxe)) (hb : Conv.stringTest b = .ok (mn, mne)) :
    let out := run "zrevrangebylex" ctx (key :: a :: b :: rest) db
    (∀ er, parseLexOpts rest = .error er → Fails out db er) ∧
    (∀ off cnt, parseLexOpts rest = .ok (off, cnt) →
      ReadOnly out db (Reply.bulks (limitSpec (lexRange z mn mne mx mxe).reverse off cnt))) := by
  intro out
  obtain ⟨herr, hok⟩ := (run_zrevrangebylex ctx key nd hv a b rest ha hb).bind
  refine ⟨herr, fun off cnt ho => ?_⟩
  have : ReadOnly _ _ _ := hok (off, cnt) ho
  rwa [irangeLex_eq_lexRange hz] at this

/-- ZLEXCOUNT = length of the selection -/
theorem zlexcount_spec (a b : Bytes) (mn mx : LexB) (mne mxe : Bool)
    (ha : Conv.stringTest a = .ok (mn, mne)) (hb : Conv.stringTest b = .ok (mx, mxe)) :
    ReadOnly (run "zlexcount" ctx [key, a, b] db) db (.int (lexRange z mn mne mx mxe).length) := by
  have := run_zlexcount ctx key nd hv a b ha hb
  rwa [zlexcount_eq_length, irangeLex_eq_lexRange hz] at this

set_option linter.unusedSectionVars false in
omit nd hv in
/-- what `lexRange` is; and when all scores are IEEE-equal — the only case Redis defines — it is the filter of the
whole set on the member bytes -/
theorem lexRange_spec (mn mx : LexB) (mne mxe : Bool) :
    (lexRange z mn mne mx mxe =
      match z.byscore.head? with
      | none => []
      | some first =>
        (z.byscore.filter (fun p => Dbl.eq p.1 first.1 && (lexGe mn mne p.2 && lexLe mx mxe p.2))).map Prod.snd) ∧
    ((∀ p ∈ z.byscore, ∀ q ∈ z.byscore, Dbl.eq p.1 q.1 = true) →
      lexRange z mn mne mx mxe =
        (z.byscore.filter (fun p => lexGe mn mne p.2 && lexLe mx mxe p.2)).map Prod.snd) := by
  refine ⟨?_, fun h => lexRange_same_score h mn mne mx mxe⟩
  unfold lexRange ZSet.firstScore
  cases z.byscore.head? <;> rfl


/-! ## 6. ZREM and ZREMRANGEBYRANK / BYSCORE / BYLEX -/

omit nd hv hz in
/-- what `Removes` says -/
theorem removes_def (out : RunOut) (ms : List Bytes) :
    Removes out db key z e ms ↔
      ∃ (n : Nat) (z' : ZSet),
        CardEq (fun x => x ∈ ms ∧ z.get x ≠ none) n ∧
        z'.Inv ∧ (∀ x, z'.get x = if x ∈ ms then none else z.get x) ∧
        z'.byscore = z.byscore.filter (fun p => !ms.contains p.2) ∧
        (n = 0 → ReadOnly out db (.int 0)) ∧
        (n > 0 → Writes out db key z' e (.int n)) := Iff.rfl

/-- ZREM key m [m …]: the reply is the number of the given members that are present, duplicates in the argument
list counted once; the remaining set keeps invariant, scores and order; the key is deleted when it becomes empty -/
theorem zrem_spec (m : Bytes) (rest : List Bytes) :
    Removes (run "zrem" ctx (key :: m :: rest) db) db key z e (m :: rest) ∧
    ((∀ x, z.get x ≠ none → x ∈ m :: rest) → z.bylex ≠ [] →
      (run "zrem" ctx (key :: m :: rest) db).db.live key = none) := by
  have h : Removes (run "zrem" ctx (key :: m :: rest) db) db key z e (m :: rest) :=
    Removes.of_does hz (run_zrem ctx key nd hv m rest)
  exact ⟨h, fun hall hne => h.deleted hall hne⟩

/-- ZREMRANGEBYRANK removes exactly the members `R` that ZRANGE with the same arguments returns, and replies how many -/
theorem zremrangebyrank_spec (a b : Bytes) (start stop : Int)
    (ha : Conv.int a = .ok start) (hb : Conv.int b = .ok stop) :
    let R := (rangeWindow z.byscore start stop).map Prod.snd
    ReadOnly (run "zrange" ctx [key, a, b] db) db (Reply.bulks R) ∧
    Removes (run "zremrangebyrank" ctx [key, a, b] db) db key z e R ∧
    (run "zremrangebyrank" ctx [key, a, b] db).reply = .int R.length := by
  intro R
  have hread : ReadOnly (run "zrange" ctx [key, a, b] db) db (Reply.bulks R) := by
    have : ReadOnly _ _ _ := (run_zrange ctx key nd hv hz a b [] ha hb).pos rfl
    simpa [withScores, Reply.bulks, R, List.map_map, Function.comp_def] using this
  have hrem : Removes (run "zremrangebyrank" ctx [key, a, b] db) db key z e R :=
    Removes.of_does hz (run_zremrangebyrank ctx key nd hv hz a b ha hb)
  have hw := sublist_members hz (rangeWindow_sublist z.byscore start stop)
  exact ⟨hread, hrem, hrem.reply_length hw.1 hw.2⟩

/-- ZREMRANGEBYSCORE removes exactly the members ZRANGEBYSCORE (no options) returns -/
theorem zremrangebyscore_spec (a b : Bytes) (mn mx : Dbl) (mne mxe : Bool)
    (ha : Conv.scoreTest a = .ok (mn, mne)) (hb : Conv.scoreTest b = .ok (mx, mxe)) :
    let R := (z.byscore.filter (fun p => scoreIn mn mne mx mxe p.1)).map Prod.snd
    ReadOnly (run "zrangebyscore" ctx [key, a, b] db) db (Reply.bulks R) ∧
    Removes (run "zremrangebyscore" ctx [key, a, b] db) db key z e R ∧
    (run "zremrangebyscore" ctx [key, a, b] db).reply = .int R.length ∧
    -- the remaining members are exactly those outside the bounds, in their old order
    z.byscore.filter (fun p => !R.contains p.2) = z.byscore.filter (fun p => !scoreIn mn mne mx mxe p.1) := by
  intro R
  have hfil := irange_score_eq_filter hz mne mxe (scoreTest_not_nan ha) (scoreTest_not_nan hb)
  have hread : ReadOnly (run "zrangebyscore" ctx [key, a, b] db) db (Reply.bulks R) := by
    have : ReadOnly _ _ _ := (run_zrangebyscore ctx key nd hv a b [] ha hb).bind.2 {} rfl
    rw [hfil] at this
    simpa [withScores, Reply.bulks, R, List.map_map, limitSpec, Function.comp_def] using this
  have hrem : Removes (run "zremrangebyscore" ctx [key, a, b] db) db key z e R := by
    have := run_zremrangebyscore ctx key nd hv a b ha hb
    rw [hfil] at this
    exact Removes.of_does hz this
  have hw := sublist_members hz (List.filter_sublist (p := fun p => scoreIn mn mne mx mxe p.1))
  exact ⟨hread, hrem, hrem.reply_length hw.1 hw.2, filter_not_contains_filter hz _⟩

/-- ZREMRANGEBYLEX removes exactly the members ZRANGEBYLEX (no LIMIT) returns -/
theorem zremrangebylex_spec (a b : Bytes) (mn mx : LexB) (mne mxe : Bool)
    (ha : Conv.stringTest a = .ok (mn, mne)) (hb : Conv.stringTest b = .ok (mx, mxe)) :
    let R := lexRange z mn mne mx mxe
    ReadOnly (run "zrangebylex" ctx [key, a, b] db) db (Reply.bulks R) ∧
    Removes (run "zremrangebylex" ctx [key, a, b] db) db key z e R ∧
    (run "zremrangebylex" ctx [key, a, b] db).reply = .int R.length := by
  intro R
  have hread : ReadOnly (run "zrangebylex" ctx [key, a, b] db) db (Reply.bulks R) := by
    have : ReadOnly _ _ _ := (run_zrangebylex ctx key nd hv a b [] ha hb).bind.2 (0, -1) rfl
    rw [irangeLex_eq_lexRange hz] at this
    simpa [limitSpec] using this
  have hrem : Removes (run "zremrangebylex" ctx [key, a, b] db) db key z e R := by
    have := run_zremrangebylex ctx key nd hv a b ha hb
    rw [irangeLex_eq_lexRange hz] at this
    exact Removes.of_does hz this
  have hw := lexRange_nodup hz mn mne mx mxe
  exact ⟨hread, hrem, hrem.reply_length hw.1 hw.2⟩

/-! ## 7. ZINCRBY -/

/-- ZINCRBY key incr m: the new score is `old + incr` (IEEE addition), or `incr` for an absent member; a NaN result
(`inf + -inf`) is an error that changes nothing; otherwise the score is stored by `ZSet.add` and its rendering
is the reply.  `ZSet.add` keeps an old score that is IEEE-equal to the new one. -/
theorem zincrby_spec (a m : Bytes) (incr : Dbl) (ha : Conv.float a = .ok incr) :
    let out := run "zincrby" ctx [key, a, m] db
    let score := incrScore z m incr
    let z' := (z.add m score).1
    if score.isNaN = true then Fails out db Msgs.SCORE_NAN_MSG
    else
      Writes out db key z' e (.bulk (fmtScore ctx score)) ∧ z'.Inv ∧
      (∀ x, x ≠ m → z'.get x = z.get x) ∧
      (∃ s', z'.get m = some s' ∧ (s' = score ∨ Dbl.eq score s' = true)) := by
  intro out score z'
  split
  · rename_i hn; exact (run_zincrby ctx key nd hv a m ha).pos hn
  · rename_i hn
    have hn' : score.isNaN = false := by simpa using hn
    exact ⟨(run_zincrby ctx key nd hv a m ha).neg hn, ZSet.add_inv hz hn',
      fun x hx => ZSet.get_add_other z score hx, ZSet.get_add_self_eq z m score⟩

omit hz hv in
/-- an increment that is not a float: the converter's error, before the key is looked at -/
theorem zincrby_bad_float (a m : Bytes) (er : Err) (ha : Conv.float a = .error er) :
    Fails (run "zincrby" ctx [key, a, m] db) db Msgs.INVALID_FLOAT_MSG := by
  have := run_zincrby_bad ctx key nd a m ha
  rwa [float_error_msg ha] at this

/-! ## 8. ZADD: the decision table -/

/-- **ZADD key [NX|XX|CH|INCR …] score member [score member …]** (at least two arguments after the key, else the
arity error of `zset_bad_arity`).

The leading option words (`isZaddFlag`, ASCII case-insensitive, any number and order) are split off; then, in
this order:
1. NX together with XX: error;
2. no pair, or an odd number of remaining arguments: syntax error;
3. INCR with more than one pair: error;
4. a score that is not a float: error (`zadd_pairs_spec`) — all scores are parsed before anything is changed;
   in every error case nothing changes;
5. INCR: with `NX` and the member present, or `XX` and the member absent: nil, nothing changes; otherwise as
   ZINCRBY (`zincrby_spec`);
6. otherwise the pairs are processed in order by `zaddSet`: a pair is written iff `zaddWrites nx xx present`
   (`zaddWrites_table`), through `ZSet.add`; the reply is the number of members added, or with CH the number
   `zaddChanged` of pairs whose processing modified the set (added + score updated); when nothing was modified the
   database is unchanged (in particular an XX on a missing key creates nothing). -/
theorem zadd_table (a b : Bytes) (rest : List Bytes) :
    let raw := a :: b :: rest
    let pre := raw.takeWhile isZaddFlag
    let elements := raw.dropWhile isZaddFlag
    let ch := pre.any (casematch · "ch")
    let nx := pre.any (casematch · "nx")
    let xx := pre.any (casematch · "xx")
    let incr := pre.any (casematch · "incr")
    let out := run "zadd" ctx (key :: raw) db
    if (nx && xx) = true then Fails out db Msgs.ZADD_NX_XX_ERROR_MSG
    else if (elements.isEmpty || elements.length % 2 != 0) = true then Fails out db Msgs.SYNTAX_ERROR_MSG
    else if (incr && elements.length != 2) = true then Fails out db Msgs.ZADD_INCR_LEN_ERROR_MSG
    else
      (∀ er, parseScorePairs ctx.version elements = .error er → Fails out db er) ∧
      (∀ items, parseScorePairs ctx.version elements = .ok items →
        if incr = true then
          ∃ s m, items = [(s, m)] ∧
            if ((nx && z.contains m) || (xx && !z.contains m)) = true then ReadOnly out db .nil
            else if (incrScore z m s).isNaN = true then Fails out db Msgs.SCORE_NAN_MSG
            else
              Writes out db key (z.add m (incrScore z m s)).1 e (.bulk (fmtScore ctx (incrScore z m s))) ∧
              (z.add m (incrScore z m s)).1.Inv
        else
          (zaddSet nx xx z items).Inv ∧ out.failed = false ∧
          (∃ added : Nat,
            CardEq (fun x => x ∈ items.map Prod.snd ∧ z.get x = none ∧ xx = false) added ∧
            (zaddSet nx xx z items).len = z.len + added ∧ added ≤ zaddChanged nx xx z items ∧
            out.reply = .int (if ch then (zaddChanged nx xx z items : Int) else (added : Int))) ∧
          (zaddChanged nx xx z items = 0 → zaddSet nx xx z items = z ∧ out.db.live = db.live) ∧
          (zaddChanged nx xx z items > 0 →
            out.db.live = putAt db.live key (.zset (zaddSet nx xx z items)) e)) := by
  intro raw pre elements ch nx xx incr out
  obtain ⟨h2, hch, hnx, hxx, hincr⟩ := parseZaddFlags_spec (a :: b :: rest) {}
  have hd : Does out db key e (zaddRes ctx z (a :: b :: rest)) :=
    run_zadd ctx key nd hv (a :: b :: rest) (arity_var "zadd" _ 3 rfl rfl (by simp))
  unfold zaddRes at hd
  dsimp only at hd
  rw [h2, hch, hnx, hxx, hincr] at hd
  simp only [Bool.false_or, Does.ite] at hd
  -- `hd` has the shape of the goal with `Does` at the leaves; its flags and elements are the `let`s of the goal unfolded
  by_cases c1 : (nx && xx) = true
  · rw [if_pos c1] at hd ⊢; exact hd
  rw [if_neg c1] at hd ⊢
  by_cases c2 : (elements.isEmpty || elements.length % 2 != 0) = true
  · rw [if_pos c2] at hd ⊢; exact hd
  rw [if_neg c2] at hd ⊢
  by_cases c3 : (incr && elements.length != 2) = true
  · rw [if_pos c3] at hd ⊢; exact hd
  rw [if_neg c3] at hd ⊢
  refine ⟨fun er hp => by rw [hp] at hd; exact hd, fun items hp => ?_⟩
  rw [hp] at hd
  simp only [Does.ite] at hd
  have hnn := parseScorePairs_all invKeeps _ _ hp
  by_cases ci : incr = true
  · rw [if_pos ci] at hd ⊢
    obtain ⟨s, m, rfl⟩ := parseScorePairs_two (by simpa [ci] using c3) hp
    refine ⟨s, m, rfl, ?_⟩
    simp only [Does.ite] at hd
    by_cases c4 : ((nx && z.contains m) || (xx && !z.contains m)) = true
    · rw [if_pos c4] at hd ⊢; exact hd
    rw [if_neg c4] at hd ⊢
    rw [zincrRes_eq] at hd
    by_cases hn : (incrScore z m s).isNaN = true
    · rw [if_pos hn] at hd ⊢; exact hd
    · rw [if_neg hn] at hd ⊢; exact ⟨hd, ZSet.add_inv hz (by simpa using hn)⟩
  · rw [if_neg ci] at hd ⊢
    -- the members added are the absent ones among the pairs, `l`
    obtain ⟨l, hnd, hmem, hlen⟩ := zaddSet_len nx xx (by simpa using c1) z items
    have hle := zaddSet_len_le nx xx z items
    have hreply : (Reply.int (if ch = true then (zaddChanged nx xx z items : Int)
        else ((zaddSet nx xx z items).len : Int) - z.len)) =
        .int (if ch = true then (zaddChanged nx xx z items : Int) else (l.length : Int)) := by
      rw [hlen, Int.natCast_add, show (z.len : Int) + l.length - z.len = l.length by omega]
    refine ⟨zaddSet_keeps invKeeps _ _ hz hnn, ?_⟩
    by_cases c5 : zaddChanged nx xx z items > 0
    · rw [if_pos c5] at hd
      exact ⟨hd.2.2, ⟨l.length, ⟨l, hnd, hmem, rfl⟩, hlen, by omega, hd.1.trans hreply⟩,
        fun h0 => by omega, fun _ => hd.2.1⟩
    · rw [if_neg c5] at hd
      exact ⟨hd.2.2, ⟨l.length, ⟨l, hnd, hmem, rfl⟩, hlen, by omega, hd.1.trans hreply⟩,
        fun _ => ⟨zaddSet_unchanged (by omega), hd.2.1⟩, fun h => by omega⟩

end main

/-! ### the ingredients of the table -/

/-- which pairs are written: without NX / XX all; with NX those whose member is absent; with XX those whose member
is present (NX and XX together never reach this point) -/
theorem zaddWrites_table (present : Bool) :
    zaddWrites false false present = true ∧
    zaddWrites true false present = !present ∧
    zaddWrites false true present = present :=
  ⟨zaddWrites_plain present, zaddWrites_nx present, zaddWrites_xx present⟩

/-- the fold: the accepted pairs are added in order through `ZSet.add`; `zaddChanged` counts the pairs that
were written and for which `ZSet.add` reported a modification (new member, or a score not IEEE-equal to the old) -/
theorem zaddSet_def (nx xx : Bool) (z : ZSet) (p : Dbl × Bytes) (ps : List (Dbl × Bytes)) :
    zaddSet nx xx z [] = z ∧
    zaddSet nx xx z (p :: ps) =
      zaddSet nx xx (if zaddWrites nx xx (z.contains p.2) then (z.add p.2 p.1).1 else z) ps ∧
    zaddChanged nx xx z [] = 0 ∧
    zaddChanged nx xx z (p :: ps) =
      (if zaddWrites nx xx (z.contains p.2) && (z.add p.2 p.1).2 then 1 else 0) +
        zaddChanged nx xx (if zaddWrites nx xx (z.contains p.2) then (z.add p.2 p.1).1 else z) ps :=
  ⟨rfl, rfl, rfl, rfl⟩

/-- the option words: exactly `ch`, `nx`, `xx`, `incr` up to ASCII case (and a trailing NUL-terminated tail, as
`casematch` null-terminates) -/
theorem isZaddFlag_def (a : Bytes) :
    isZaddFlag a = (casematch a "ch" || casematch a "nx" || casematch a "xx" || casematch a "incr") := rfl

/-- the score / member pairs: `elements` is cut into consecutive pairs; parsing succeeds iff every score is a
valid float (`Conv.float`), the parsed score being normalised by `zaddScore` (version ≥ 7: `0.0 + d`, which turns
`-0.0` into `0.0`); otherwise the error is "not a valid float", raised for some pair -/
theorem zadd_pairs_spec (v : Nat) (l : List Bytes) :
    (∀ ps, parseScorePairs v l = .ok ps ↔
      (ZCmd.pairsOf l).map (fun sm => (scoreOfBytes v sm.1, sm.2)) = ps.map (fun p => (some p.1, p.2))) ∧
    (∀ er, parseScorePairs v l = .error er →
      er = Msgs.INVALID_FLOAT_MSG ∧ ∃ sm ∈ ZCmd.pairsOf l, Conv.float sm.1 = .error er) ∧
    (∀ (s m : Bytes) (rest : List Bytes), ZCmd.pairsOf (s :: m :: rest) = (s, m) :: ZCmd.pairsOf rest) ∧ ZCmd.pairsOf [] = [] ∧
    (∀ s : Bytes, ZCmd.pairsOf [s] = []) ∧
    (∀ s, scoreOfBytes v s = match Conv.float s with | .ok d => some (zaddScore v d) | .error _ => none) ∧
    (∀ d, zaddScore v d = if v ≥ 7 then d.plusZero else d) ∧
    (∀ ps, parseScorePairs v l = .ok ps → ∀ p ∈ ps, p.1.isNaN = false) :=
  ⟨parseScorePairs_ok_iff v l, fun _ h => parseScorePairs_error v l h, fun _ _ _ => rfl, rfl, fun _ => rfl,
    fun _ => rfl, fun _ => rfl, fun _ h => parseScorePairs_all invKeeps v l h⟩

/-- CH, declaratively, when the members of the pairs are distinct: every pair is judged against the original set;
a written pair counts iff its member is new or gets a score that is not IEEE-equal to the old one -/
theorem zadd_ch_count (nx xx : Bool) (z : ZSet) (items : List (Dbl × Bytes)) (hn : (items.map Prod.snd).Nodup) :
    zaddChanged nx xx z items =
      (items.filter (fun p => zaddWrites nx xx (z.contains p.2) &&
        (match z.get p.2 with
         | some old => !Dbl.eq p.1 old
         | none => true))).length := by
  rw [zaddChanged_nodup nx xx z items hn]
  congr 1
  apply List.filter_congr
  intro p _
  rw [ZSet.add_changed]
  cases z.get p.2 <;> rfl

example : ([(Dbl.ofInt 9, [97]), (Dbl.ofInt 2, [98]), (Dbl.zero, [122])].map Prod.snd).Nodup ∧
    zaddChanged false false ZSet.example3 [(Dbl.ofInt 9, [97]), (Dbl.ofInt 2, [98]), (Dbl.zero, [122])] = 2 := by
  decide

/-- the scores after ZADD (non-INCR), member by member:
* a member that is not among the pairs keeps its score (or stays absent);
* NX: a present member keeps its score; an absent one gets the score of its first pair, exactly;
* XX: an absent member stays absent; a present one gets the score of its last pair;
* no flag: the last pair of the member wins;
"gets the score `s`" up to IEEE equality when a score is overwritten: `ZSet.add` keeps an old score that is `==` the
new one (so `-0.0` does not replace `0.0`). -/
theorem zaddSet_scores (z : ZSet) (nx xx : Bool) (items pre post : List (Dbl × Bytes)) (s : Dbl) (m : Bytes) :
    (m ∉ items.map Prod.snd → (zaddSet nx xx z items).get m = z.get m) ∧
    (∀ old, z.get m = some old → (zaddSet true xx z items).get m = some old) ∧
    (m ∉ pre.map Prod.snd → z.get m = none → (zaddSet true false z (pre ++ (s, m) :: post)).get m = some s) ∧
    (z.get m = none → (zaddSet nx true z items).get m = none) ∧
    (m ∉ post.map Prod.snd → z.get m ≠ none →
      ∃ s', (zaddSet false true z (pre ++ (s, m) :: post)).get m = some s' ∧ (s' = s ∨ Dbl.eq s s' = true)) ∧
    (m ∉ post.map Prod.snd →
      ∃ s', (zaddSet false false z (pre ++ (s, m) :: post)).get m = some s' ∧ (s' = s ∨ Dbl.eq s s' = true)) :=
  ⟨get_zaddSet_notin nx xx z items, fun _ h => get_zaddSet_nx_present xx z items h,
    get_zaddSet_nx_first z pre post s m, get_zaddSet_xx_absent nx z items,
    get_zaddSet_xx_last z pre post s m, get_zaddSet_plain_last z pre post s m⟩

/-! ## 9. The read commands agree with each other (replies of `run` on the same database) -/

section agree
variable (ctx : Ctx) (db : Db) (nd : NodupKeys db.dict) (key : Bytes) (z : ZSet) (e : Option Int)
  (hv : zsetView db.live key = some (z, e)) (hz : z.Inv)
include nd hv hz

/-- ZCARD = length of ZRANGE 0 -1 -/
theorem zcard_eq_length_zrange :
    ∃ l : List Reply, (run "zrange" ctx [key, [48], [45, 49]] db).reply = .arr l ∧
      (run "zcard" ctx [key] db).reply = .int l.length := by
  have h1 : ReadOnly _ _ _ :=
    (run_zrange ctx key nd hv hz [48] [45, 49] [] (start := 0) (stop := -1) (by rfl) (by rfl)).pos rfl
  rw [rangeWindow_all] at h1
  refine ⟨_, h1.1, ?_⟩
  rw [(run_zcard ctx key nd hv).1]
  simp [withScores, ZSet.byscore_length hz]

/-- ZRANK m = index of m in ZRANGE 0 -1 (nil iff m does not occur in it); ZREVRANK likewise in ZREVRANGE 0 -1 -/
theorem zrank_eq_index_in_zrange (m : Bytes) :
    ∃ l : List Bytes, l.Nodup ∧
      (run "zrange" ctx [key, [48], [45, 49]] db).reply = Reply.bulks l ∧
      (run "zrevrange" ctx [key, [48], [45, 49]] db).reply = Reply.bulks l.reverse ∧
      (run "zrank" ctx [key, m] db).reply = (if m ∈ l then .int (l.idxOf m) else .nil) ∧
      (run "zrevrank" ctx [key, m] db).reply = (if m ∈ l then .int (l.reverse.idxOf m) else .nil) := by
  have h1 : ReadOnly _ _ _ :=
    (run_zrange ctx key nd hv hz [48] [45, 49] [] (start := 0) (stop := -1) (by rfl) (by rfl)).pos rfl
  have h2 : ReadOnly _ _ _ :=
    (run_zrevrange ctx key nd hv hz [48] [45, 49] [] (start := 0) (stop := -1) (by rfl) (by rfl)).pos rfl
  rw [rangeWindow_all] at h1 h2
  refine ⟨z.byscore.map Prod.snd, ZSet.members_nodup hz, ?_, ?_, ?_, ?_⟩
  · rw [h1.1]; simp [withScores, Reply.bulks, List.map_map, Function.comp_def]
  · rw [h2.1]; simp [withScores, Reply.bulks, List.map_map, Function.comp_def]
  · rw [(zrank_spec ctx db nd key z e hv hz m).1.1]
    by_cases hg : z.get m = none
    · rw [if_pos hg, if_neg (by rw [mem_members_iff hz]; simpa using hg)]
    · rw [if_neg hg, if_pos ((mem_members_iff hz m).mpr hg)]
  · rw [(zrevrank_spec ctx db nd key z e hv hz m).1.1]
    by_cases hg : z.get m = none
    · rw [if_pos hg, if_neg (by rw [mem_members_iff hz]; simpa using hg)]
    · rw [if_neg hg, if_pos ((mem_members_iff hz m).mpr hg)]

/-- ZCOUNT = length of ZRANGEBYSCORE (same bounds, no options) -/
theorem zcount_eq_length_zrangebyscore (a b : Bytes) (mn mx : Dbl) (mne mxe : Bool)
    (ha : Conv.scoreTest a = .ok (mn, mne)) (hb : Conv.scoreTest b = .ok (mx, mxe)) :
    ∃ l : List Reply, (run "zrangebyscore" ctx [key, a, b] db).reply = .arr l ∧
      (run "zcount" ctx [key, a, b] db).reply = .int l.length := by
  have h1 := (zrangebyscore_limit_spec ctx db nd key z e hv hz a b [] mn mx mne mxe ha hb).2 {} rfl
  refine ⟨_, h1.1, ?_⟩
  rw [(zcount_spec ctx db nd key z e hv hz a b mn mx mne mxe ha hb).1]
  simp [withScores, limitSpec]

/-- ZLEXCOUNT = length of ZRANGEBYLEX (same bounds, no LIMIT) -/
theorem zlexcount_eq_length_zrangebylex (a b : Bytes) (mn mx : LexB) (mne mxe : Bool)
    (ha : Conv.stringTest a = .ok (mn, mne)) (hb : Conv.stringTest b = .ok (mx, mxe)) :
    ∃ l : List Reply, (run "zrangebylex" ctx [key, a, b] db).reply = .arr l ∧
      (run "zlexcount" ctx [key, a, b] db).reply = .int l.length := by
  have h1 := (zrangebylex_spec ctx db nd key z e hv hz a b [] mn mx mne mxe ha hb).2 0 (-1) rfl
  refine ⟨_, h1.1, ?_⟩
  rw [(zlexcount_spec ctx db nd key z e hv hz a b mn mx mne mxe ha hb).1]
  simp [limitSpec]

/-- ZRANGE … WITHSCORES pairs every member with exactly what ZSCORE replies for it -/
theorem withscores_agrees_with_zscore (a b : Bytes) (start stop : Int)
    (ha : Conv.int a = .ok start) (hb : Conv.int b = .ok stop) :
    ∃ items : List (Dbl × Bytes),
      (run "zrange" ctx [key, a, b, strBytes "withscores"] db).reply =
        .arr (items.flatMap fun p => [.bulk p.2, .bulk (fmtScore ctx p.1)]) ∧
      ∀ p ∈ items, (run "zscore" ctx [key, p.2] db).reply = .bulk (fmtScore ctx p.1) := by
  have h1 : ReadOnly _ _ _ :=
    (run_zrange ctx key nd hv hz a b [strBytes "withscores"] ha hb).pos (by decide +kernel)
  refine ⟨rangeWindow z.byscore start stop, h1.1, fun p hp => ?_⟩
  have hmem : p ∈ z.byscore := (rangeWindow_sublist _ _ _).subset hp
  rw [(run_zscore ctx key nd hv p.2).1, (ZSet.get_iff_mem_byscore hz).mpr hmem]

end agree

/-! ## 10. Arguments: bounds, option tails, errors and their precedence -/

/-- score bounds (`ScoreTest.decode`): a leading `(` makes the bound exclusive; the rest is a float where
`inf`, `+inf`, `-inf`, `infinity` (any case) are the infinite bounds, the empty string is `0`, and NaN is rejected;
anything else: "min or max is not a float" -/
theorem score_bound_spec (v : Bytes) :
    (Conv.scoreTest (40 :: v) =
      match Conv.floatGen Msgs.INVALID_FLOAT_MSG true true true true v with
      | .ok d => .ok (d, true)
      | .error _ => .error Msgs.INVALID_MIN_MAX_FLOAT_MSG) ∧
    (v.head? ≠ some 40 →
      Conv.scoreTest v =
        match Conv.floatGen Msgs.INVALID_FLOAT_MSG true true true true v with
        | .ok d => .ok (d, false)
        | .error _ => .error Msgs.INVALID_MIN_MAX_FLOAT_MSG) ∧
    (∀ d x, Conv.scoreTest v = .ok (d, x) → d.isNaN = false) ∧
    (∀ er, Conv.scoreTest v = .error er → er = Msgs.INVALID_MIN_MAX_FLOAT_MSG) := by
  refine ⟨rfl, fun h => ?_, fun d x h => scoreTest_not_nan h, fun er h => scoreTest_error h⟩
  cases v with
  | nil => rfl
  | cons c r =>
    have : c ≠ 40 := fun e => h (by rw [e]; rfl)
    unfold Conv.scoreTest
    split
    · rename_i heq; split at heq
      · rename_i r' hv; cases hv; exact absurd rfl this
      · cases heq; rfl

example :
    exView (Conv.scoreTest (strBytes "(1.5")) = .inr (Dbl.ofDecimal false 15 (-1), true) ∧
    exView (Conv.scoreTest (strBytes "-inf")) = .inr (.inf true, false) ∧
    exView (Conv.scoreTest (strBytes "+inf")) = .inr (.inf false, false) ∧
    exView (Conv.scoreTest (strBytes "(inf")) = .inr (.inf false, true) ∧
    exView (Conv.scoreTest (strBytes "2")) = .inr (Dbl.ofInt 2, false) ∧
    exView (Conv.scoreTest (strBytes "nan")) = .inl Msgs.INVALID_MIN_MAX_FLOAT_MSG ∧
    exView (Conv.scoreTest (strBytes "a")) = .inl Msgs.INVALID_MIN_MAX_FLOAT_MSG := by
  decide +kernel

/-- lex bounds (`StringTest.decode`): exactly `-`, `+`, `(x`, `[x`; anything else is an error -/
theorem lex_bound_spec (x : Bytes) :
    Conv.stringTest [45] = .ok (.before, true) ∧ Conv.stringTest [43] = .ok (.after, true) ∧
    Conv.stringTest (40 :: x) = .ok (.val x, true) ∧ Conv.stringTest (91 :: x) = .ok (.val x, false) ∧
    Conv.stringTest [] = .error Msgs.INVALID_MIN_MAX_STR_MSG ∧
    (∀ c, c ≠ 40 → c ≠ 91 → c :: x ≠ [45] → c :: x ≠ [43] →
      Conv.stringTest (c :: x) = .error Msgs.INVALID_MIN_MAX_STR_MSG) := by
  refine ⟨rfl, rfl, ?_, ?_, rfl, ?_⟩
  · unfold Conv.stringTest
    have h1 : ((40 :: x : Bytes) == [45]) = false := by
      cases x <;> simp
    have h2 : ((40 :: x : Bytes) == [43]) = false := by
      cases x <;> simp
    simp [h1, h2]
  · unfold Conv.stringTest
    have h1 : ((91 :: x : Bytes) == [45]) = false := by
      cases x <;> simp
    have h2 : ((91 :: x : Bytes) == [43]) = false := by
      cases x <;> simp
    simp [h1, h2]
  · intro c h40 h91 h45 h43
    unfold Conv.stringTest
    have h1 : ((c :: x : Bytes) == [45]) = false := by simpa using h45
    have h2 : ((c :: x : Bytes) == [43]) = false := by simpa using h43
    simp only [h1, h2, Bool.false_eq_true, if_false]
    split
    · rename_i r hv; cases hv; exact absurd rfl h40
    · rename_i r hv; cases hv; exact absurd rfl h91
    · rfl

/-- the option tail of ZRANGEBYSCORE / ZREVRANGEBYSCORE: a sequence of `WITHSCORES` and `LIMIT off cnt` groups in any
order (the last LIMIT wins); a `LIMIT` with fewer than two following words, or any other word, is a syntax error; an
offset / count that is not a 64-bit integer is the integer error -/
theorem rbs_options (a x y : Bytes) (rest : List Bytes) (o : RbsOpts) :
    parseRbsOpts [] o = .ok o ∧ (({} : RbsOpts).ws = false ∧ ({} : RbsOpts).off = 0 ∧ ({} : RbsOpts).cnt = -1) ∧
    (casematch a "withscores" = true → parseRbsOpts (a :: rest) o = parseRbsOpts rest { o with ws := true }) ∧
    (casematch a "limit" = true →
      parseRbsOpts (a :: x :: y :: rest) o =
        match Conv.int x with
        | .error e => .error e
        | .ok off =>
          match Conv.int y with
          | .error e => .error e
          | .ok cnt => parseRbsOpts rest { o with off := off, cnt := cnt }) ∧
    (casematch a "limit" = true → rest.length < 2 → parseRbsOpts (a :: rest) o = .error Msgs.SYNTAX_ERROR_MSG) ∧
    (casematch a "withscores" = false → casematch a "limit" = false →
      parseRbsOpts (a :: rest) o = .error Msgs.SYNTAX_ERROR_MSG) :=
  ⟨rfl, ⟨rfl, rfl, rfl⟩, parseRbsOpts_withscores a rest o, parseRbsOpts_limit a x y rest o,
    parseRbsOpts_limit_short a rest o, parseRbsOpts_other a rest o⟩

/-- the option tail of ZRANGEBYLEX / ZREVRANGEBYLEX: empty, or exactly `LIMIT off cnt` -/
theorem lex_options (l o c : Bytes) (more : List Bytes) :
    parseLexOpts [] = .ok (0, -1) ∧
    parseLexOpts [l, o, c] =
      (if !casematch l "limit" then .error Msgs.SYNTAX_ERROR_MSG
       else match Conv.int o with
        | .error e => .error e
        | .ok off =>
          match Conv.int c with
          | .error e => .error e
          | .ok cnt => .ok (off, cnt)) ∧
    parseLexOpts [l] = .error Msgs.SYNTAX_ERROR_MSG ∧ parseLexOpts [l, o] = .error Msgs.SYNTAX_ERROR_MSG ∧
    parseLexOpts (l :: o :: c :: o :: more) = .error Msgs.SYNTAX_ERROR_MSG :=
  ⟨rfl, rfl, rfl, rfl, rfl⟩

/-- the sorted-set commands with two score bounds / two lex bounds / two ranks -/
def scoreCmds : List String := ["zcount", "zrangebyscore", "zrevrangebyscore", "zremrangebyscore"]
def lexCmds : List String := ["zlexcount", "zrangebylex", "zrevrangebylex", "zremrangebylex"]
def rankCmds : List String := ["zrange", "zrevrange", "zremrangebyrank"]
/-- the sorted-set commands whose arguments after the key are plain byte strings -/
def plainCmds : List String := ["zadd", "zcard", "zrank", "zrevrank", "zrem", "zscore"]

section errors
variable (ctx : Ctx) (db : Db) (nd : NodupKeys db.dict) (key : Bytes)
include nd

/-- a request with an arity the signature rejects: the arity error, nothing changes (all commands) -/
theorem zset_bad_arity (name : String) (raw : List Bytes) (h : ¬ ArityOK (sigOf name) raw.length) :
    Fails (run name ctx raw db) db (sigOf name).wrongArgs :=
  run_bad_arity name ctx raw nd h

/-- plain commands on a key holding another type: WRONGTYPE, before the body looks at its arguments -/
theorem zset_wrongtype (name : String) (hname : name ∈ plainCmds) (rest : List Bytes)
    (har : ArityOK (sigOf name) (rest.length + 1)) (hv : zsetView db.live key = none) :
    Fails (run name ctx (key :: rest) db) db Msgs.WRONGTYPE_MSG :=
  plain_wrongtype zsetC name ((by decide : ∀ n ∈ plainCmds, plainOn .zset (sigOf n) = true) name hname)
    ctx key rest nd har hv

/-- commands with two score bounds: a bad first bound, then a bad second bound, then WRONGTYPE — the bounds are
converted before the key is looked at -/
theorem score_bound_errors (name : String) (hname : name ∈ scoreCmds) (a b : Bytes) (rest : List Bytes)
    (har : ArityOK (sigOf name) (rest.length + 3)) :
    let out := run name ctx (key :: a :: b :: rest) db
    (∀ er, Conv.scoreTest a = .error er → Fails out db Msgs.INVALID_MIN_MAX_FLOAT_MSG) ∧
    (∀ p er, Conv.scoreTest a = .ok p → Conv.scoreTest b = .error er →
      Fails out db Msgs.INVALID_MIN_MAX_FLOAT_MSG) ∧
    (∀ p q, Conv.scoreTest a = .ok p → Conv.scoreTest b = .ok q → zsetView db.live key = none →
      Fails out db Msgs.WRONGTYPE_MSG) :=
  bound_errors .scoreTest rfl Conv.scoreTest _
    (fun a => ⟨(decode_score_cases a).1, fun p h => ⟨_, (decode_score_cases a).2 p h⟩⟩)
    scoreCmds (by decide) ctx db nd key name hname a b rest har

/-- commands with two lex bounds: a bad first bound, then a bad second bound, then WRONGTYPE -/
theorem lex_bound_errors (name : String) (hname : name ∈ lexCmds) (a b : Bytes) (rest : List Bytes)
    (har : ArityOK (sigOf name) (rest.length + 3)) :
    let out := run name ctx (key :: a :: b :: rest) db
    (∀ er, Conv.stringTest a = .error er → Fails out db Msgs.INVALID_MIN_MAX_STR_MSG) ∧
    (∀ p er, Conv.stringTest a = .ok p → Conv.stringTest b = .error er →
      Fails out db Msgs.INVALID_MIN_MAX_STR_MSG) ∧
    (∀ p q, Conv.stringTest a = .ok p → Conv.stringTest b = .ok q → zsetView db.live key = none →
      Fails out db Msgs.WRONGTYPE_MSG) :=
  bound_errors .stringTest rfl Conv.stringTest _
    (fun a => ⟨(decode_lex_cases a).1, fun p h => ⟨_, (decode_lex_cases a).2 p h⟩⟩)
    lexCmds (by decide) ctx db nd key name hname a b rest har

/-- commands with two ranks: a rank that is not a 64-bit integer, then WRONGTYPE -/
theorem rank_errors (name : String) (hname : name ∈ rankCmds) (a b : Bytes) (rest : List Bytes)
    (har : ArityOK (sigOf name) (rest.length + 3)) :
    let out := run name ctx (key :: a :: b :: rest) db
    (∀ er, Conv.int a = .error er → Fails out db Msgs.INVALID_INT_MSG) ∧
    (∀ p er, Conv.int a = .ok p → Conv.int b = .error er → Fails out db Msgs.INVALID_INT_MSG) ∧
    (∀ p q, Conv.int a = .ok p → Conv.int b = .ok q → zsetView db.live key = none →
      Fails out db Msgs.WRONGTYPE_MSG) :=
  bound_errors .int rfl Conv.int _
    (fun a => ⟨(decode_int_cases a).1, fun p h => ⟨_, (decode_int_cases a).2 p h⟩⟩)
    rankCmds (by decide) ctx db nd key name hname a b rest har

/-- ZINCRBY on a key of another type (the increment being a float): WRONGTYPE -/
theorem zincrby_wrongtype (a m : Bytes) (incr : Dbl) (ha : Conv.float a = .ok incr)
    (hv : zsetView db.live key = none) : Fails (run "zincrby" ctx [key, a, m] db) db Msgs.WRONGTYPE_MSG :=
  (zt2_errors ctx key nd (t1 := .float) (t2 := .bytes) rfl rfl rfl (by decide) a m []
    (by show ArityOK _ 3; decide)).2.2 _ (.raw m) (dec_ok ha) rfl hv

end errors

/-! ## 11. `-0`, as modelled for the emulated versions 6 and 7 -/

/-- The rendering of a score (ZSCORE, WITHSCORES, ZINCRBY, ZADD INCR): `'{:.17g}'` of the stored double; for the
emulated version ≥ 7 of `0.0 + d` instead.  Hence a stored `-0.0` is reported as `-0` by version 6 and as `0` by
version 7; `+0.0` is `0` in both.  `0.0 + d` turns `-0.0` into `0.0` and leaves infinities alone. -/
theorem fmtScore_rule (ctx : Ctx) (d : Dbl) :
    fmtScore ctx d = Dbl.encode (if ctx.version ≥ 7 then d.plusZero else d) false ∧
    fmtScore ctx negZero = (if ctx.version ≥ 7 then strBytes "0" else strBytes "-0") ∧
    fmtScore ctx Dbl.zero = strBytes "0" ∧
    negZero.plusZero = Dbl.zero ∧ Dbl.zero.plusZero = Dbl.zero ∧
    (∀ b, (Dbl.inf b).plusZero = .inf b) ∧ negZero = .fin true 0 (-1074) :=
  ⟨rfl, fmtScore_negZero ctx, fmtScore_zero ctx, plusZero_negZero, plusZero_zero, plusZero_inf, rfl⟩

/-- What is stored: ZADD of version ≥ 7 normalises its score argument with `0.0 +`, so `ZADD k -0 m` stores `+0.0`;
version 6 stores `-0.0`.  ZINCRBY does not normalise: on an absent member `ZINCRBY k -0 m` stores `-0.0` in both
versions (version 7 then reports it as `0`).  And in both versions a stored `0.0` is not replaced by `-0.0`
(IEEE-equal scores are "unchanged"), nor vice versa. -/
theorem negzero_storage (v : Nat) (z : ZSet) (m : Bytes) :
    zaddScore v negZero = (if v ≥ 7 then Dbl.zero else negZero) ∧
    (z.get m = none → incrScore z m negZero = negZero) ∧
    (z.get m = some Dbl.zero → (z.add m negZero).1 = z ∧ (z.add m negZero).2 = false) ∧
    (z.get m = some negZero → (z.add m Dbl.zero).1 = z ∧ (z.add m Dbl.zero).2 = false) := by
  refine ⟨?_, fun h => by unfold incrScore; rw [h], fun h => ?_, fun h => ?_⟩
  · unfold zaddScore; split
    · exact plusZero_negZero
    · rfl
  · have : (z.add m negZero).2 = false := by rw [ZSet.add_changed, h]; decide
    exact ⟨ZSet.add_unchanged this, this⟩
  · have : (z.add m Dbl.zero).2 = false := by rw [ZSet.add_changed, h]; decide
    exact ⟨ZSet.add_unchanged this, this⟩

section
/-- the instance search for a long conjunction of such equations gives up; with this short-cut one kernel run decides
the whole conjunction and shares the evaluation of `run` between its members -/
local instance : DecidableEq (Option (List (Bytes × Bytes) × Option Int)) := inferInstance

/-- through the runner (version 7 / version 6): `ZADD k -0 a` then ZSCORE; ZINCRBY of `-0` on a fresh member -/
example :
    zv (run "zadd" exCtx [[3], bs "-0", [97]] exDb).db [3] = some ([([97], bs "0")], none) ∧
    zv (run "zadd" exCtx6 [[3], bs "-0", [97]] exDb).db [3] = some ([([97], bs "-0")], none) ∧
    rv (run "zscore" exCtx6 [[3], [97]] (run "zadd" exCtx6 [[3], bs "-0", [97]] exDb).db).reply = "b:2d30" ∧
    rv (run "zscore" exCtx [[3], [97]] (run "zadd" exCtx6 [[3], bs "-0", [97]] exDb).db).reply = "b:30" ∧
    rv (run "zincrby" exCtx [[3], bs "-0", [97]] exDb).reply = "b:30" ∧
    zv (run "zincrby" exCtx [[3], bs "-0", [97]] exDb).db [3] = some ([([97], bs "-0")], none) ∧
    rv (run "zincrby" exCtx6 [[3], bs "-0", [97]] exDb).reply = "b:2d30" := by
  decide +kernel

end

/-! ## 12. Statements that are false of the model (and of the code), with kernel-checked witnesses -/

/-- "ZRANGEBYLEX = the filter of the whole set on the member bytes" is false when the scores differ: on
`a ↦ 1, b ↦ 2, c ↦ 2` the range `- +` selects `a` only (the members with the lowest score); the true statement
is `zrangebylex_spec` / `lexRange_spec`.  Real Redis documents the lex commands only for sets whose members all
have the same score ("If the elements in the sorted set have different scores, the returned elements are
unspecified"), so this is not a contradiction with Redis. -/
theorem zrangebylex_whole_set_false :
    ¬ ∀ (z : ZSet), z.Inv → ∀ (mn mx : LexB) (mne mxe : Bool),
      lexRange z mn mne mx mxe =
        (z.byscore.filter (fun p => lexGe mn mne p.2 && lexLe mx mxe p.2)).map Prod.snd := by
  intro h
  have := h ZSet.example3 example3_inv .before .after true true
  revert this
  decide

/-- the same through the runner: ZRANGEBYLEX, ZLEXCOUNT, ZREMRANGEBYLEX on the mixed-score set -/
example :
    rv (run "zrangebylex" exCtx [[1], bs "-", bs "+"] exDb).reply = "[b:61]" ∧
    rv (run "zlexcount" exCtx [[1], bs "-", bs "+"] exDb).reply = "i:1" ∧
    rv (run "zremrangebylex" exCtx [[1], bs "-", bs "+"] exDb).reply = "i:1" ∧
    rv (run "zrangebylex" exCtx [[1], bs "[b", bs "[c"] exDb).reply = "[]" := by
  decide +kernel

/-- "the later pair of the same member wins" is false as an exact statement: `ZADD k 0 a -0 a` (version 6) stores
`0.0`, not `-0.0`, because `ZSet.add` treats IEEE-equal scores as "unchanged"; the true statement is
`zaddSet_scores` (up to `Dbl.eq`).  Real Redis behaves the same (`if (score != curscore)` in `zsetAdd`). -/
theorem zadd_last_pair_exact_false :
    ¬ ∀ (z : ZSet) (pre post : List (Dbl × Bytes)) (s : Dbl) (m : Bytes), m ∉ post.map Prod.snd →
      (zaddSet false false z (pre ++ (s, m) :: post)).get m = some s := by
  intro h
  have := h ZSet.empty [(Dbl.zero, [97])] [] negZero [97] (by simp)
  revert this
  decide

example :
    zv (run "zadd" exCtx6 [[3], bs "0", [97], bs "-0", [97]] exDb).db [3] = some ([([97], bs "0")], none) ∧
    rv (run "zadd" exCtx6 [[3], bs "ch", bs "0", [97], bs "-0", [97]] exDb).reply = "i:1" := by
  decide +kernel

/-! ## 13. Non-vacuity: every theorem above on the example database -/

section
local instance : DecidableEq (Option (List (Bytes × Bytes) × Option Int)) := inferInstance

/-- `zcard_spec`, `zscore_spec`, `zrank_spec`, `zrevrank_spec` (present / absent member, missing key) -/
example :
    rv (run "zcard" exCtx [[1]] exDb).reply = "i:3" ∧ rv (run "zcard" exCtx [[3]] exDb).reply = "i:0" ∧
    rv (run "zscore" exCtx [[1], [97]] exDb).reply = "b:31" ∧ rv (run "zscore" exCtx [[1], [122]] exDb).reply = "nil" ∧
    rv (run "zscore" exCtx [[3], [97]] exDb).reply = "nil" ∧
    rv (run "zrank" exCtx [[1], [99]] exDb).reply = "i:2" ∧ rv (run "zrevrank" exCtx [[1], [99]] exDb).reply = "i:0" ∧
    rv (run "zrank" exCtx [[1], [122]] exDb).reply = "nil" ∧ rv (run "zrevrank" exCtx [[3], [99]] exDb).reply = "nil" := by
  decide +kernel

/-- `zrange_spec`, `zrevrange_spec`: negative ranks, clamping, empty window, WITHSCORES (twice), a bad option -/
example :
    exView (Conv.int (bs "-2")) = .inr (-2) ∧
    rv (run "zrange" exCtx [[1], bs "-2", bs "-1"] exDb).reply = "[b:62,b:63]" ∧
    rv (run "zrange" exCtx [[1], bs "-100", bs "0", bs "withscores", bs "WITHSCORES"] exDb).reply = "[b:61,b:31]" ∧
    rv (run "zrange" exCtx [[1], bs "2", bs "1"] exDb).reply = "[]" ∧
    rv (run "zrange" exCtx [[1], bs "0", bs "100"] exDb).reply = "[b:61,b:62,b:63]" ∧
    rv (run "zrevrange" exCtx [[1], bs "0", bs "0"] exDb).reply = "[b:63]" ∧
    rv (run "zrevrange" exCtx [[1], bs "-2", bs "-1", bs "withscores"] exDb).reply = "[b:62,b:32,b:61,b:31]" ∧
    errOf (run "zrange" exCtx [[1], bs "0", bs "1", bs "foo"] exDb).reply = some (bs Msgs.SYNTAX_ERROR_MSG) := by
  decide +kernel

/-- `zrangebyscore_limit_spec`, `zrevrangebyscore_spec`, `zcount_spec`: exclusive / infinite bounds, LIMIT with a
negative offset (nothing), a negative count (all remaining), count 0, WITHSCORES; an incomplete LIMIT -/
example :
    exView (Conv.scoreTest (bs "(1")) = .inr (Dbl.ofInt 1, true) ∧
    (exView (parseRbsOpts [bs "limit", bs "1", bs "-5", bs "withscores"] {})).elim (fun _ => none)
      (fun o => some (o.ws, o.off, o.cnt)) = some (true, 1, -5) ∧
    rv (run "zrangebyscore" exCtx [[1], bs "(1", bs "2"] exDb).reply = "[b:62,b:63]" ∧
    rv (run "zrangebyscore" exCtx [[1], bs "-inf", bs "(2"] exDb).reply = "[b:61]" ∧
    rv (run "zrangebyscore" exCtx [[1], bs "-inf", bs "+inf", bs "limit", bs "-1", bs "2"] exDb).reply = "[]" ∧
    rv (run "zrangebyscore" exCtx [[1], bs "-inf", bs "+inf", bs "limit", bs "1", bs "-5"] exDb).reply
      = "[b:62,b:63]" ∧
    rv (run "zrangebyscore" exCtx [[1], bs "-inf", bs "+inf", bs "limit", bs "1", bs "0"] exDb).reply = "[]" ∧
    rv (run "zrangebyscore" exCtx [[1], bs "-inf", bs "+inf", bs "LIMIT", bs "1", bs "1", bs "withscores"] exDb).reply
      = "[b:62,b:32]" ∧
    rv (run "zrevrangebyscore" exCtx [[1], bs "2", bs "(1"] exDb).reply = "[b:63,b:62]" ∧
    rv (run "zrevrangebyscore" exCtx [[1], bs "(2", bs "1", bs "withscores"] exDb).reply = "[b:61,b:31]" ∧
    rv (run "zcount" exCtx [[1], bs "1", bs "(2"] exDb).reply = "i:1" ∧
    errOf (run "zrangebyscore" exCtx [[1], bs "0", bs "1", bs "limit", bs "0"] exDb).reply
      = some (bs Msgs.SYNTAX_ERROR_MSG) := by
  decide +kernel

/-- `zrangebylex_spec`, `zrevrangebylex_spec`, `zlexcount_spec` on the equal-score set (`lexRange_spec`, second part) -/
example :
    (∀ p ∈ exLex.byscore, ∀ q ∈ exLex.byscore, Dbl.eq p.1 q.1 = true) ∧
    exView (Conv.stringTest (bs "[a")) = .inr (.val [97], false) ∧
    rv (run "zrangebylex" exCtx [[4], bs "[a", bs "(c"] exDb).reply = "[b:61,b:62]" ∧
    rv (run "zrangebylex" exCtx [[4], bs "-", bs "+", bs "limit", bs "1", bs "-1"] exDb).reply = "[b:62,b:63]" ∧
    rv (run "zrevrangebylex" exCtx [[4], bs "(c", bs "[a"] exDb).reply = "[b:62,b:61]" ∧
    rv (run "zrevrangebylex" exCtx [[4], bs "+", bs "-", bs "limit", bs "0", bs "1"] exDb).reply = "[b:63]" ∧
    rv (run "zlexcount" exCtx [[4], bs "[a", bs "(c"] exDb).reply = "i:2" ∧
    rv (run "zlexcount" exCtx [[4], bs "+", bs "-"] exDb).reply = "i:0" ∧
    exView (parseLexOpts [bs "LIMIT", bs "1", bs "-1"]) = .inr (1, -1) ∧
    errOf (run "zrangebylex" exCtx [[4], bs "-", bs "+", bs "limit", bs "0", bs "1", bs "x"] exDb).reply
      = some (bs Msgs.SYNTAX_ERROR_MSG) := by
  refine ⟨by decide, ?_⟩
  decide +kernel

/-- `zrem_spec`: a duplicate and an absent member in the argument list; removing everything deletes the key -/
example :
    rv (run "zrem" exCtx [[1], [97], [97], [122]] exDb).reply = "i:1" ∧
    zv (run "zrem" exCtx [[1], [97], [97], [122]] exDb).db [1] = some ([([98], bs "2"), ([99], bs "2")], some 50) ∧
    rv (run "zrem" exCtx [[1], [122]] exDb).reply = "i:0" ∧
    rv (run "zrem" exCtx [[1], [97], [98], [99]] exDb).reply = "i:3" ∧
    (run "zrem" exCtx [[1], [97], [98], [99]] exDb).db.live [1] = none := by
  have h : rv (run "zrem" exCtx [[1], [97], [97], [122]] exDb).reply = "i:1" ∧
      zv (run "zrem" exCtx [[1], [97], [97], [122]] exDb).db [1] = some ([([98], bs "2"), ([99], bs "2")], some 50) ∧
      rv (run "zrem" exCtx [[1], [122]] exDb).reply = "i:0" ∧
      rv (run "zrem" exCtx [[1], [97], [98], [99]] exDb).reply = "i:3" := by decide +kernel
  exact ⟨h.1, h.2.1, h.2.2.1, h.2.2.2, by rfl⟩

/-- `zremrangebyrank_spec`, `zremrangebyscore_spec`, `zremrangebylex_spec` -/
example :
    rv (run "zremrangebyrank" exCtx [[1], bs "-2", bs "-1"] exDb).reply = "i:2" ∧
    zv (run "zremrangebyrank" exCtx [[1], bs "-2", bs "-1"] exDb).db [1] = some ([([97], bs "1")], some 50) ∧
    rv (run "zremrangebyscore" exCtx [[1], bs "-inf", bs "(2"] exDb).reply = "i:1" ∧
    zv (run "zremrangebyscore" exCtx [[1], bs "-inf", bs "(2"] exDb).db [1]
      = some ([([98], bs "2"), ([99], bs "2")], some 50) ∧
    rv (run "zremrangebylex" exCtx [[4], bs "[b", bs "+"] exDb).reply = "i:2" ∧
    zv (run "zremrangebylex" exCtx [[4], bs "[b", bs "+"] exDb).db [4] = some ([([97], bs "0")], none) ∧
    rv (run "zremrangebyrank" exCtx [[1], bs "0", bs "-1"] exDb).reply = "i:3" ∧
    zv (run "zremrangebyrank" exCtx [[1], bs "0", bs "-1"] exDb).db [1] = some ([], none) ∧
    rv (run "zremrangebyrank" exCtx [[1], bs "5", bs "9"] exDb).reply = "i:0" := by
  decide +kernel

/-- `zincrby_spec`: a finite sum, a new member on a missing key, and `inf + -inf` (NaN: error, nothing changes) -/
example :
    exView (Conv.float (bs "1.5")) = .inr (Dbl.ofDecimal false 15 (-1)) ∧
    rv (run "zincrby" exCtx [[1], bs "1.5", [97]] exDb).reply = "b:322e35" ∧
    zv (run "zincrby" exCtx [[1], bs "1.5", [97]] exDb).db [1]
      = some ([([98], bs "2"), ([99], bs "2"), ([97], bs "2.5")], some 50) ∧
    zv (run "zincrby" exCtx [[3], bs "7", [120]] exDb).db [3] = some ([([120], bs "7")], none) ∧
    (incrScore exInf [97] (.inf true)).isNaN = true ∧
    errOf (run "zincrby" exCtx [[5], bs "-inf", [97]] exDb).reply = some (bs Msgs.SCORE_NAN_MSG) ∧
    zv (run "zincrby" exCtx [[5], bs "-inf", [97]] exDb).db [5] = some ([([97], bs "inf")], none) ∧
    errOf (run "zincrby" exCtx [[1], bs "x", [97]] exDb).reply = some (bs Msgs.INVALID_FLOAT_MSG) := by
  decide +kernel

/-- `zadd_table`, the error rows: NX with XX (also with an odd tail, also with no pair), an odd tail, INCR with two
pairs, an invalid float in the second pair (nothing changed) -/
example :
    errOf (run "zadd" exCtx [[1], bs "nx", bs "XX", bs "1", [97]] exDb).reply = some (bs Msgs.ZADD_NX_XX_ERROR_MSG) ∧
    errOf (run "zadd" exCtx [[1], bs "nx", bs "xx", bs "1"] exDb).reply = some (bs Msgs.ZADD_NX_XX_ERROR_MSG) ∧
    errOf (run "zadd" exCtx [[1], bs "nx", bs "xx"] exDb).reply = some (bs Msgs.ZADD_NX_XX_ERROR_MSG) ∧
    errOf (run "zadd" exCtx [[1], bs "1", [97], bs "2"] exDb).reply = some (bs Msgs.SYNTAX_ERROR_MSG) ∧
    errOf (run "zadd" exCtx [[1], bs "ch", bs "nx"] exDb).reply = some (bs Msgs.SYNTAX_ERROR_MSG) ∧
    errOf (run "zadd" exCtx [[1], bs "gt", bs "1", [97]] exDb).reply = some (bs Msgs.SYNTAX_ERROR_MSG) ∧
    errOf (run "zadd" exCtx [[1], bs "incr", bs "1", [97], bs "2", [98]] exDb).reply
      = some (bs Msgs.ZADD_INCR_LEN_ERROR_MSG) ∧
    errOf (run "zadd" exCtx [[1], bs "5", [97], bs "x", [98]] exDb).reply = some (bs Msgs.INVALID_FLOAT_MSG) ∧
    zv (run "zadd" exCtx [[1], bs "5", [97], bs "x", [98]] exDb).db [1] = zv exDb [1] ∧
    (run "zadd" exCtx [[1], bs "1"] exDb).failed = true := by
  decide +kernel

/-- `zadd_table`, the writing rows: duplicates with / without CH, NX (first pair wins), XX on a missing key (nothing
is created), XX / NX on present and absent members, an unchanged score; INCR with NX / XX -/
example :
    rv (run "zadd" exCtx [[3], bs "ch", bs "1", [97], bs "2", [97]] exDb).reply = "i:2" ∧
    rv (run "zadd" exCtx [[3], bs "1", [97], bs "2", [97]] exDb).reply = "i:1" ∧
    zv (run "zadd" exCtx [[3], bs "1", [97], bs "2", [97]] exDb).db [3] = some ([([97], bs "2")], none) ∧
    zv (run "zadd" exCtx [[3], bs "nx", bs "1", [97], bs "2", [97]] exDb).db [3] = some ([([97], bs "1")], none) ∧
    rv (run "zadd" exCtx [[3], bs "xx", bs "1", [97]] exDb).reply = "i:0" ∧
    ((run "zadd" exCtx [[3], bs "xx", bs "1", [97]] exDb).db.live [3]).isNone = true ∧
    rv (run "zadd" exCtx [[1], bs "xx", bs "ch", bs "9", [97], bs "9", [122]] exDb).reply = "i:1" ∧
    zv (run "zadd" exCtx [[1], bs "xx", bs "ch", bs "9", [97], bs "9", [122]] exDb).db [1]
      = some ([([98], bs "2"), ([99], bs "2"), ([97], bs "9")], some 50) ∧
    rv (run "zadd" exCtx [[1], bs "nx", bs "9", [97], bs "0", [122]] exDb).reply = "i:1" ∧
    zv (run "zadd" exCtx [[1], bs "nx", bs "9", [97], bs "0", [122]] exDb).db [1]
      = some ([([122], bs "0"), ([97], bs "1"), ([98], bs "2"), ([99], bs "2")], some 50) ∧
    rv (run "zadd" exCtx [[1], bs "ch", bs "1", [97]] exDb).reply = "i:0" ∧
    rv (run "zadd" exCtx [[1], bs "INCR", bs "1.5", [97]] exDb).reply = "b:322e35" ∧
    rv (run "zadd" exCtx [[1], bs "nx", bs "incr", bs "1", [97]] exDb).reply = "nil" ∧
    rv (run "zadd" exCtx [[1], bs "xx", bs "incr", bs "1", [122]] exDb).reply = "nil" ∧
    rv (run "zadd" exCtx [[1], bs "xx", bs "incr", bs "1", [97]] exDb).reply = "b:32" ∧
    errOf (run "zadd" exCtx [[5], bs "incr", bs "-inf", [97]] exDb).reply = some (bs Msgs.SCORE_NAN_MSG) := by
  decide +kernel

/-- `zadd_pairs_spec`, `zaddWrites_table`, `zaddSet_scores`: the parsed pairs of `5 a x b` and of `-0 a` -/
example :
    ZCmd.pairsOf [bs "5", [97], bs "x", [98]] = [(bs "5", [97]), (bs "x", [98])] ∧
    scoreOfBytes 7 (bs "x") = none ∧ scoreOfBytes 7 (bs "-0") = some Dbl.zero ∧
    scoreOfBytes 6 (bs "-0") = some negZero ∧
    exView (parseScorePairs 7 [bs "-0", [97]]) = .inr [(Dbl.zero, [97])] ∧
    (zaddSet true false ZSet.example3 [(Dbl.ofInt 9, [97]), (Dbl.zero, [122]), (Dbl.one, [122])]).get [122]
      = some Dbl.zero := by
  decide +kernel

/-- the error theorems of section 10: wrong type, bad bounds (before WRONGTYPE), bad ranks -/
example :
    "zadd" ∈ plainCmds ∧ ArityOK (sigOf "zadd") 3 ∧ "zrangebyscore" ∈ scoreCmds ∧
    ArityOK (sigOf "zrangebyscore") 3 ∧ ¬ ArityOK (sigOf "zadd") 2 ∧
    errOf (run "zadd" exCtx [[2], bs "1", [97]] exDb).reply = some (bs Msgs.WRONGTYPE_MSG) ∧
    errOf (run "zadd" exCtx [[2], bs "x", [97]] exDb).reply = some (bs Msgs.WRONGTYPE_MSG) ∧
    errOf (run "zscore" exCtx [[2], [97]] exDb).reply = some (bs Msgs.WRONGTYPE_MSG) ∧
    errOf (run "zrangebyscore" exCtx [[2], bs "x", bs "1"] exDb).reply = some (bs Msgs.INVALID_MIN_MAX_FLOAT_MSG) ∧
    errOf (run "zrangebyscore" exCtx [[2], bs "0", bs "1"] exDb).reply = some (bs Msgs.WRONGTYPE_MSG) ∧
    errOf (run "zrangebylex" exCtx [[1], bs "a", bs "+"] exDb).reply = some (bs Msgs.INVALID_MIN_MAX_STR_MSG) ∧
    errOf (run "zrange" exCtx [[1], bs "0", bs "x"] exDb).reply = some (bs Msgs.INVALID_INT_MSG) ∧
    errOf (run "zincrby" exCtx [[2], bs "1", [97]] exDb).reply = some (bs Msgs.WRONGTYPE_MSG) := by
  refine ⟨by decide, by decide, by decide, by decide, by decide, ?_⟩
  decide +kernel

end

end FR.Props.C03z

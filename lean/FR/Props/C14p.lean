import FR.Proofs.C14p
import FR.Props.C04k
import FR.Props.C14
import FR.Proofs.ReplyEq
/-!
# C14, last sentence — requests pipelined behind a parked blocking pop are answered afterwards, in order

"A blocking pop that has to wait suspends only its own connection, produces exactly one reply when it is served or
times out, and requests pipelined behind it are answered afterwards, in order."

`FR/Props/C14.lean` has the pieces (`blockingAsync_parks_and_pauses`, `paused_buffers`, `wakeConnAsync_one_reply`,
`timeoutConnAsync_one_reply`, `only_own_connection_suspends`).  This file has the composition:

1. writing to a parked, paused connection commutes with its re-try task and with its time-out
   (`buffered_then_wake_eq_wake_then_send`, `buffered_then_timeout_eq_timeout_then_send`): as states - same replies in
   the same order, same databases, same left-over hints;
2. the property in its own words (`pipelined_behind_parked_pop`, `wake_with_buffered`, `timeout_with_buffered`);
3. any number of pipelined requests (`pipelined_one_by_one`, `one_request`, `pipelined_head_first`), and two
   blocking pops in one write (`two_parking_pops`).

Vocabulary: `K s` (`FR.C04k.K`) is the invariant of an event that `FR/Props/C04k.lean` proves for every reachable state
at the start of an event (`K_of_reachable`): queues well-formed, `crashed = none`, no connection record dead.
`setBuf c X s` / `appendBuf c b s` overwrite / extend the input buffer of connection `c`; `s.conn c` is the record of
connection `c`; `Sys.out` lists the emitted replies `(connection, reply)`, newest first.
The theorems hold for every `mode`; the asyncio front-end is `mode.async = true` (only there a pop parks with
`paused := true`).
-/
namespace FR.Props.C14p
open FR FR.M FR.C04k FR.BufIndep FR.C14p

/-! ## 1. a write to the parked connection commutes with the re-try task / the time-out -/

/-- **Buffer, then wake = wake, then write.**  `c` is parked and paused in `s`.  Writing `data` while it waits and
then running the re-try task ends in the same state as running the re-try task first and writing `data` afterwards.
(`sendall` on a paused connection consumes no hint, so both orders consume the same hints in the same order; the hint
lists are part of the state.)  Stated with the one hypothesis that is needed: the connection is alive after the
re-try task (a write to a dead connection raises). -/
theorem buffered_then_wake_eq_wake_then_send_of_alive (mode : Mode) (c : Nat) (data : Bytes) (s : Sys) (p : Parked)
    (hp : (s.conn c).parked = some p) (hpa : (s.conn c).paused = true) (hd : (s.conn c).dead = false)
    (halive : (((wakeConnAsync mode c).run s).2.conn c).dead = false) :
    (do sendall mode c data; wakeConnAsync mode c : M Unit).run s =
      (do wakeConnAsync mode c; sendall mode c data : M Unit).run s :=
  wake_send_comm mode c data s p hp hpa hd halive

/-- the same from a state satisfying the event invariant (every reachable state at the start of an event) -/
theorem buffered_then_wake_eq_wake_then_send (mode : Mode) (c : Nat) (data : Bytes) (s : Sys) (hk : K s) (p : Parked)
    (hp : (s.conn c).parked = some p) (hpa : (s.conn c).paused = true) :
    (do sendall mode c data; wakeConnAsync mode c : M Unit).run s =
      (do wakeConnAsync mode c; sendall mode c data : M Unit).run s :=
  wake_send_comm mode c data s p hp hpa (hk.healthy.2.conn c)
    ((sc_wakeConnAsync k_stepClosed mode c (processCommand_K mode c) s hk).healthy.2.conn c)

/-- when the re-try task finds nothing to pop, both orders end in "still parked, still paused, `data` appended to
the buffer, no reply" -/
theorem buffered_then_wake_still_parked (mode : Mode) (c : Nat) (data : Bytes) (s : Sys) (p : Parked)
    (hp : (s.conn c).parked = some p) (hpa : (s.conn c).paused = true) (hd : (s.conn c).dead = false)
    (hcl : (s.conn c).closed = false) (hnone : (parkedPass c p s).1 = .ok none) :
    let t := ((do sendall mode c data; wakeConnAsync mode c : M Unit).run s).2
    t = ((do wakeConnAsync mode c; sendall mode c data : M Unit).run s).2 ∧
    (t.conn c).parked = some { p with woken := false } ∧ (t.conn c).paused = true ∧
    (t.conn c).buf = (s.conn c).buf ++ data ∧ t.out = s.out := by
  intro t
  rcases C14.wakeConnAsync_one_reply mode c s p hp hcl with ⟨_, h2, h3, h4, h5⟩ | ⟨r, s3, h1, _⟩
  · have f := (framed_parkedPass c p).frame s
    have hw : ∀ {β : Type} (π : Conn → β), (∀ x, π (stayParked p x) = π x) →
        π (((wakeConnAsync mode c).run s).2.conn c) = π ((parkedPass c p s).2.conn c) := fun π hπ => by
      rw [h2]; exact Sys.conn_updConn_proj _ c c (stayParked p) π (fun _ => rfl) hπ
    have hd' : (((wakeConnAsync mode c).run s).2.conn c).dead = false :=
      (hw Conn.dead fun _ => rfl).trans ((f.dead c).trans hd)
    have e : t = ((do wakeConnAsync mode c; sendall mode c data : M Unit).run s).2 :=
      congrArg Prod.snd (wake_send_comm mode c data s p hp hpa hd hd')
    have hb := C14.paused_buffers mode c data ((wakeConnAsync mode c).run s).2 (h4.trans hpa) hd'
    have hbuf : (((wakeConnAsync mode c).run s).2.conn c).buf = (s.conn c).buf :=
      (hw Conn.buf fun _ => rfl).trans (f.buf c)
    have hst : ((do wakeConnAsync mode c; sendall mode c data : M Unit).run s).2 =
        (((wakeConnAsync mode c).run s).2.updConn c fun x => { x with buf := x.buf ++ data }) :=
      congrArg Prod.snd hb.1
    have hcw : ((wakeConnAsync mode c).run s).2.HasConn c := Sys.hasConn_of_parked h3
    have hconn := Sys.conn_updConn_same (s := ((wakeConnAsync mode c).run s).2) (c := c)
      (fun x => { x with buf := x.buf ++ data }) hcw (fun _ => rfl)
    refine ⟨e, ?_, ?_, ?_, ?_⟩
    · rw [e, hst, hconn]; exact h3
    · rw [e, hst, hconn]; exact h4.trans hpa
    · rw [e, hst, hconn]; show (((wakeConnAsync mode c).run s).2.conn c).buf ++ data = _; rw [hbuf]
    · rw [e, hst]; exact h5
  · rcases h1 with h1 | ⟨e, h1, _⟩ <;> rw [hnone] at h1 <;> cases h1

/-- **Buffer, then time out = time out, then write.** -/
theorem buffered_then_timeout_eq_timeout_then_send_of_alive (mode : Mode) (c : Nat) (data : Bytes) (s : Sys)
    (p : Parked) (hp : (s.conn c).parked = some p) (hpa : (s.conn c).paused = true) (hd : (s.conn c).dead = false)
    (halive : (((timeoutConnAsync mode c).run s).2.conn c).dead = false) :
    (do sendall mode c data; timeoutConnAsync mode c : M Unit).run s =
      (do timeoutConnAsync mode c; sendall mode c data : M Unit).run s :=
  timeout_send_comm mode c data s p hp hpa hd halive

theorem buffered_then_timeout_eq_timeout_then_send (mode : Mode) (c : Nat) (data : Bytes) (s : Sys) (hk : K s)
    (p : Parked) (hp : (s.conn c).parked = some p) (hpa : (s.conn c).paused = true) :
    (do sendall mode c data; timeoutConnAsync mode c : M Unit).run s =
      (do timeoutConnAsync mode c; sendall mode c data : M Unit).run s :=
  timeout_send_comm mode c data s p hp hpa (hk.healthy.2.conn c)
    ((sc_timeoutConnAsync k_stepClosed mode c (processCommand_K mode c) s hk).healthy.2.conn c)

/-! ## 2. the property in its own words -/

/-- what resumes a parked connection (`m`: its re-try task, its time-out), when it commutes with a write to the
connection: resuming with `rest` in the buffer = resuming with an empty buffer and then writing `rest` -/
theorem resume_with_buffered (mode : Mode) (c : Nat) (rest : Bytes) (u : Sys) (hk : K u) (p : Parked)
    (hp : (u.conn c).parked = some p) (hpa : (u.conn c).paused = true) (m : M Unit)
    (hcomm : ∀ s, K s → (s.conn c).parked = some p → (s.conn c).paused = true →
      (do sendall mode c rest; m : M Unit).run s = (do m; sendall mode c rest : M Unit).run s) :
    m.run (setBuf c rest u) = (sendall mode c rest).run (m.run (setBuf c [] u)).2 := by
  have hk0 := K_setBuf c [] u hk
  have hpa0 : ((setBuf c [] u).conn c).paused = true := by
    rw [conn_setBuf_proj c c [] u Conn.paused (fun _ => rfl)]; exact hpa
  have h : m.run ((sendall mode c rest).run (setBuf c [] u)).2 = (sendall mode c rest).run (m.run (setBuf c [] u)).2 :=
    hcomm (setBuf c [] u) hk0 (by rw [conn_setBuf_proj c c [] u Conn.parked (fun _ => rfl)]; exact hp) hpa0
  have hs : (sendall mode c rest).run (setBuf c [] u) = ((), setBuf c rest u) :=
    (sendall_paused mode c rest (setBuf c [] u) hpa0 (hk0.healthy.2.conn c)).trans
      (congrArg (Prod.mk ()) (appendBuf_setBuf c [] rest u))
  rw [hs] at h
  exact h

/-- **Waking a parked connection whose buffer holds `rest`** = waking it with an empty buffer (the pop's one reply, or
nothing if it stays parked) and then writing `rest` to it - so `rest` gets exactly the replies it would get if it were
written at that moment.  `u` is any state in which `c` is parked and paused (whatever other connections did since). -/
theorem wake_with_buffered (mode : Mode) (c : Nat) (rest : Bytes) (u : Sys) (hk : K u) (p : Parked)
    (hp : (u.conn c).parked = some p) (hpa : (u.conn c).paused = true) :
    (wakeConnAsync mode c).run (setBuf c rest u) =
      (sendall mode c rest).run ((wakeConnAsync mode c).run (setBuf c [] u)).2 :=
  resume_with_buffered mode c rest u hk p hp hpa _
    fun s hk hp hpa => buffered_then_wake_eq_wake_then_send mode c rest s hk p hp hpa

theorem timeout_with_buffered (mode : Mode) (c : Nat) (rest : Bytes) (u : Sys) (hk : K u) (p : Parked)
    (hp : (u.conn c).parked = some p) (hpa : (u.conn c).paused = true) :
    (timeoutConnAsync mode c).run (setBuf c rest u) =
      (sendall mode c rest).run ((timeoutConnAsync mode c).run (setBuf c [] u)).2 :=
  resume_with_buffered mode c rest u hk p hp hpa _
    fun s hk hp hpa => buffered_then_timeout_eq_timeout_then_send mode c rest s hk p hp hpa

/-- waking a parked connection with an empty buffer when the pop can be served: exactly the pop's reply is emitted, the
connection is un-parked and un-paused, nothing else happens -/
theorem wake_empty_served (mode : Mode) (c : Nat) (u : Sys) (p : Parked) (r : Reply)
    (hp : (u.conn c).parked = some p) (hcl : (u.conn c).closed = false) (hb : (u.conn c).buf = [])
    (hr : (parkedPass c p u).1 = .ok (some r)) :
    let w := ((wakeConnAsync mode c).run u).2
    w.out = (c, r) :: u.out ∧ (w.conn c).parked = none ∧ (w.conn c).paused = false ∧ (w.conn c).buf = [] ∧
    w.srv.dbs = (parkedPass c p u).2.srv.dbs := by
  intro w
  rcases C14.wakeConnAsync_one_reply mode c u p hp hcl with ⟨h, _⟩ | ⟨r', s3, h1, h2, h3, h4, h5, h6, h7⟩
  · rw [hr] at h; cases h
  · have hrr : r' = r := by
      rcases h1 with h1 | ⟨e, h1, _⟩
      · rw [hr] at h1; cases h1; rfl
      · rw [hr] at h1; cases h1
    subst hrr
    have hw : w = s3 := congrArg Prod.snd (h7.trans (drain_empty mode c _ s3 (h5.trans hb)))
    rw [hw]
    exact ⟨h2, h3, h4, h5.trans hb, h6⟩

set_option linter.unusedVariables false in
/-- the served wake-up of a connection with an empty buffer keeps the connection registered -/
theorem wake_empty_served_hasConn (mode : Mode) (c : Nat) (u : Sys) (p : Parked) (r : Reply)
    (hp : (u.conn c).parked = some p) (hcl : (u.conn c).closed = false) (hb : (u.conn c).buf = [])
    (hr : (parkedPass c p u).1 = .ok (some r)) : ((wakeConnAsync mode c).run u).2.HasConn c := by
  have f := (framed_parkedPass c p).frame u
  have hc1 : (parkedPass c p u).2.HasConn c := (f.hasConn c).2 (Sys.hasConn_of_parked hp)
  have g4 : (((parkedPass c p u).2.resumed c r).conn c).buf = ((parkedPass c p u).2.conn c).buf :=
    (congrArg Conn.buf (Sys.updConn_emitS_facts _ c Conn.unpark r hc1 (fun _ => rfl) (fun _ => rfl)).1).trans rfl
  have e : (wakeConnAsync mode c).run u = (parkedPass c p u).2.resume mode c r := by
    show wakeConnAsync mode c u = _
    rw [wakeConnAsync_eq, hp]
    dsimp only
    rw [hr]
    rfl
  rw [e, Sys.resume, drain_empty mode c _ _ (g4.trans ((f.buf c).trans hb))]
  exact (resumed_hasConn r).2 hc1

/-- **Requests pipelined behind a blocking pop that parks.**  One write `encodeRequest blk ++ rest` to a live,
un-paused connection `c` with an empty input buffer, where processing `blk` pauses the connection (a blocking pop that
cannot be served on the asyncio front-end; `s1` is the state after `blk` alone):

* (i) right after the write the state is `s1` with `rest` sitting unparsed in the buffer: the replies, the databases,
  the hints are exactly those after `blk` alone - nothing of `rest` was processed -, `c` is paused and parked;
* (ii) when the re-try task runs: the state is the wake-up of the connection with an empty buffer, and then `rest`
  written to it;
* when that re-try task serves the pop, `wake_buffered_served` (stated for an arbitrary later state, since the pop can
  only be served after some other connection has pushed) says that the wake-up with an empty buffer emits exactly the
  pop's reply and resumes the connection: in `out` the pop's reply comes first, then the replies of `rest`, computed at
  that moment. -/
theorem pipelined_behind_parked_pop (mode : Mode) (c : Nat) (blk : List Bytes) (rest : Bytes) (s : Sys) (hk : K s)
    (hc : s.HasConn c) (hb : (s.conn c).buf = []) (hpa : (s.conn c).paused = false) (p : Parked)
    (hpark : ((processCommand mode c blk s).2.conn c).paused = true)
    (hparked : ((processCommand mode c blk s).2.conn c).parked = some p) :
    let s1 := (processCommand mode c blk s).2
    let t := ((sendall mode c (encodeRequest blk ++ rest)).run s).2
    (t = setBuf c rest s1 ∧ t.out = s1.out ∧ t.srv.dbs = s1.srv.dbs ∧ t.clocks = s1.clocks ∧ t.picks = s1.picks ∧
      (t.conn c).paused = true ∧ (t.conn c).parked = some p ∧ (t.conn c).buf = rest) ∧
    (wakeConnAsync mode c).run t = (sendall mode c rest).run ((wakeConnAsync mode c).run (setBuf c [] s1)).2 := by
  intro s1 t
  have hk1 : K s1 := processCommand_K mode c blk s hk
  have hc1 : s1.HasConn c := Sys.hasConn_of_parked hparked
  have ht : t = setBuf c rest s1 :=
    congrArg Prod.snd (sendall_encode_parks mode c blk rest s hc hb hpa (hk.healthy.2.conn c) hpark)
  have hconn : (setBuf c rest s1).conn c = { s1.conn c with buf := rest } := conn_setBuf rest hc1
  refine ⟨⟨ht, by rw [ht]; rfl, by rw [ht]; rfl, by rw [ht]; rfl, by rw [ht]; rfl, ?_, ?_, ?_⟩, ?_⟩
  · rw [ht, hconn]; exact hpark
  · rw [ht, hconn]; exact hparked
  · rw [ht, hconn]
  · rw [ht]; exact wake_with_buffered mode c rest s1 hk1 p hparked hpark

/-- **The served wake-up of a connection with `rest` buffered behind its pop**, in any later state `u` (connection `c`
parked and paused; other connections may have done anything since): the pop's reply `(c, r)` is emitted first, on top
of `u.out`, the connection is un-parked and un-paused (`w`), and then `rest` is processed exactly as if it were written
to `w` at that moment. -/
theorem wake_buffered_served (mode : Mode) (c : Nat) (rest : Bytes) (u : Sys) (hk : K u) (p : Parked) (r : Reply)
    (hp : (u.conn c).parked = some p) (hpa : (u.conn c).paused = true) (hcl : (u.conn c).closed = false)
    (hr : (parkedPass c p (setBuf c [] u)).1 = .ok (some r)) :
    let w := ((wakeConnAsync mode c).run (setBuf c [] u)).2
    (wakeConnAsync mode c).run (setBuf c rest u) = (sendall mode c rest).run w ∧
    w.out = (c, r) :: u.out ∧ (w.conn c).parked = none ∧ (w.conn c).paused = false ∧ (w.conn c).buf = [] ∧
    w.HasConn c ∧ K w := by
  intro w
  have hc : u.HasConn c := Sys.hasConn_of_parked hp
  have hconn0 : (setBuf c [] u).conn c = { u.conn c with buf := [] } := conn_setBuf [] hc
  obtain ⟨g1, g2, g3, g4, _⟩ := wake_empty_served mode c (setBuf c [] u) p r
    (by rw [hconn0]; exact hp) (by rw [hconn0]; exact hcl) (by rw [hconn0]) hr
  exact ⟨wake_with_buffered mode c rest u hk p hp hpa, g1, g2, g3, g4,
    wake_empty_served_hasConn mode c (setBuf c [] u) p r (by rw [hconn0]; exact hp) (by rw [hconn0]; exact hcl)
      (by rw [hconn0]) hr,
    sc_wakeConnAsync k_stepClosed mode c (processCommand_K mode c) _ (K_setBuf c [] u hk)⟩

/-! ### non-vacuity of sections 1 and 2

Two connections on the asyncio front-end.  Connection 1 writes `BLPOP k 0` and `PING` in ONE write; connection 2 then
pushes `v` onto `k`; then the re-try task of connection 1 runs. -/

/-- the asyncio front-end -/
def am : Mode := { async := true }
def blpopReq : List Bytes := [strBytes "BLPOP", [107], [48]]
def pingReq : List Bytes := [strBytes "PING"]
def rpushReq : List Bytes := [strBytes "RPUSH", [107], [118]]

/-- a reachable state at the start of an event: two open connections -/
def sInit : Sys := (runHistory [.open 1, .open 2]).beginEvent.withHints [1, 2, 3, 4, 5, 6, 7, 8, 9] []
theorem sInit_K : K sInit := FR.Props.C04k.K_of_reachable [.open 1, .open 2] (by decide +kernel) _ _

/-- connection 1: `BLPOP k 0` + `PING`, pipelined -/
def sA : Sys := ((sendall am 1 (encodeRequest blpopReq ++ encodeRequest pingReq)).run sInit).2
-- through the equations of `sA` and `run`: left to unfold `sA` itself, the kernel computes the state under the projection
theorem sA_K : K sA := by rw [sA, StateT.run]; exact sendall_K am 1 _ sInit sInit_K
/-- connection 2: `RPUSH k v` -/
def sB : Sys := ((sendall am 2 (encodeRequest rpushReq)).run sA).2
theorem sB_K : K sB := by rw [sB, StateT.run]; exact sendall_K am 2 _ sA sA_K
/-- the re-try task of connection 1 -/
def sC : Sys := ((wakeConnAsync am 1).run sB).2

/-- (i) after the write: no reply, connection 1 paused and parked, `PING` unparsed in its buffer; connection 2 is not
suspended -/
example : sA.out.length = 0 ∧ (sA.conn 1).paused = true ∧ (sA.conn 1).parked.isSome = true ∧
    (sA.conn 1).buf = encodeRequest pingReq ∧ (sA.conn 2).paused = false ∧ sA.fault = none := by decide +kernel

/-- the push of connection 2 is answered at once; connection 1 still waits, `PING` still buffered -/
example : sB.out.map (fun p => (p.1, p.2.render)) = [(2, (Reply.int 1).render)] ∧ (sB.conn 1).paused = true ∧
    (sB.conn 1).buf = encodeRequest pingReq := by
  have h : sB.out = [(2, Reply.int 1)] ∧ (sB.conn 1).paused = true ∧ (sB.conn 1).buf = encodeRequest pingReq := by
    decide +kernel
  exact ⟨congrArg (List.map fun p => (p.1, p.2.render)) h.1, h.2⟩

/-- (ii) the re-try task: the pop's reply first, then `PONG` (`out` is newest first) -/
example : sC.out.map (fun p => (p.1, p.2.render)) =
    [(1, Reply.pong.render), (1, (Reply.arr [.bulk [107], .bulk [118]]).render), (2, (Reply.int 1).render)] ∧
    (sC.conn 1).paused = false ∧ (sC.conn 1).parked.isSome = false ∧ (sC.conn 1).buf = [] ∧ sC.fault = none := by
  have h : sC.out = [(1, Reply.pong), (1, Reply.arr [.bulk [107], .bulk [118]]), (2, Reply.int 1)] ∧
      (sC.conn 1).paused = false ∧ (sC.conn 1).parked.isSome = false ∧ (sC.conn 1).buf = [] ∧ sC.fault = none := by
    decide +kernel
  exact ⟨congrArg (List.map fun p => (p.1, p.2.render)) h.1, h.2⟩

/-- the hypotheses of `buffered_then_wake_eq_wake_then_send` hold in `sB` (the wake-up serves the pop) … -/
example : (do sendall am 1 (encodeRequest pingReq); wakeConnAsync am 1 : M Unit).run sB =
    (do wakeConnAsync am 1; sendall am 1 (encodeRequest pingReq) : M Unit).run sB := by
  have hd : (sB.conn 1).parked.isSome = true ∧ (sB.conn 1).paused = true := by decide +kernel
  cases h : (sB.conn 1).parked with
  | none => exact absurd hd.1 (by rw [h]; decide)
  | some p => exact buffered_then_wake_eq_wake_then_send am 1 _ sB sB_K p h hd.2

/-- the same commutation in `sA` (nothing to pop yet: the wake-up leaves it parked), together with
`buffered_then_wake_still_parked` -/
example : (do sendall am 1 (encodeRequest pingReq); wakeConnAsync am 1 : M Unit).run sA =
    (do wakeConnAsync am 1; sendall am 1 (encodeRequest pingReq) : M Unit).run sA := by
  have hd : (sA.conn 1).parked.isSome = true ∧ (sA.conn 1).paused = true := by decide +kernel
  cases h : (sA.conn 1).parked with
  | none => exact absurd hd.1 (by rw [h]; decide)
  | some p => exact buffered_then_wake_eq_wake_then_send am 1 _ sA sA_K p h hd.2

example : (((do sendall am 1 (encodeRequest pingReq); wakeConnAsync am 1 : M Unit).run sA).2.conn 1).paused = true ∧
    (((do sendall am 1 (encodeRequest pingReq); wakeConnAsync am 1 : M Unit).run sA).2.conn 1).buf =
      encodeRequest pingReq ++ encodeRequest pingReq ∧
    ((do sendall am 1 (encodeRequest pingReq); wakeConnAsync am 1 : M Unit).run sA).2.out.length = 0 := by
  decide +kernel

/-- both orders, computed: the same three replies in the same order -/
example :
    ((do sendall am 1 (encodeRequest pingReq); wakeConnAsync am 1 : M Unit).run sB).2.out.map (fun p => (p.1, p.2.render)) =
      [(1, Reply.pong.render), (1, Reply.pong.render), (1, (Reply.arr [.bulk [107], .bulk [118]]).render),
       (2, (Reply.int 1).render)] ∧
    ((do wakeConnAsync am 1; sendall am 1 (encodeRequest pingReq) : M Unit).run sB).2.out.map (fun p => (p.1, p.2.render)) =
      [(1, Reply.pong.render), (1, Reply.pong.render), (1, (Reply.arr [.bulk [107], .bulk [118]]).render),
       (2, (Reply.int 1).render)] := by
  have h :
      ((do sendall am 1 (encodeRequest pingReq); wakeConnAsync am 1 : M Unit).run sB).2.out =
        [(1, Reply.pong), (1, Reply.pong), (1, Reply.arr [.bulk [107], .bulk [118]]), (2, Reply.int 1)] ∧
      ((do wakeConnAsync am 1; sendall am 1 (encodeRequest pingReq) : M Unit).run sB).2.out =
        [(1, Reply.pong), (1, Reply.pong), (1, Reply.arr [.bulk [107], .bulk [118]]), (2, Reply.int 1)] := by
    decide +kernel
  exact ⟨congrArg (List.map fun p => (p.1, p.2.render)) h.1, congrArg (List.map fun p => (p.1, p.2.render)) h.2⟩

/-- the time-out: `nil` first, then `PONG`; and the hypotheses of the time-out theorem hold in `sA` -/
example : ((timeoutConnAsync am 1).run sA).2.out.map (fun p => (p.1, p.2.render)) =
    [(1, Reply.pong.render), (1, Reply.nil.render)] :=
  congrArg (List.map fun p => (p.1, p.2.render))
    (by decide +kernel : ((timeoutConnAsync am 1).run sA).2.out = [(1, Reply.pong), (1, Reply.nil)])

example : (do sendall am 1 (encodeRequest pingReq); timeoutConnAsync am 1 : M Unit).run sA =
    (do timeoutConnAsync am 1; sendall am 1 (encodeRequest pingReq) : M Unit).run sA := by
  have hd : (sA.conn 1).parked.isSome = true ∧ (sA.conn 1).paused = true := by decide +kernel
  cases h : (sA.conn 1).parked with
  | none => exact absurd hd.1 (by rw [h]; decide)
  | some p => exact buffered_then_timeout_eq_timeout_then_send am 1 _ sA sA_K p h hd.2

/-- the hypotheses of `pipelined_behind_parked_pop` hold for the write that produced `sA` -/
example : ((wakeConnAsync am 1).run sA) =
    (sendall am 1 (encodeRequest pingReq)).run
      ((wakeConnAsync am 1).run (setBuf 1 [] (processCommand am 1 blpopReq sInit).2)).2 := by
  have hd : ((processCommand am 1 blpopReq sInit).2.conn 1).parked.isSome = true ∧ sInit.HasConn 1 ∧
      (sInit.conn 1).buf = [] ∧ (sInit.conn 1).paused = false ∧
      ((processCommand am 1 blpopReq sInit).2.conn 1).paused = true := by decide +kernel
  cases h : ((processCommand am 1 blpopReq sInit).2.conn 1).parked with
  | none => exact absurd hd.1 (by rw [h]; decide)
  | some p =>
    exact (pipelined_behind_parked_pop am 1 blpopReq (encodeRequest pingReq) sInit sInit_K hd.2.1
      hd.2.2.1 hd.2.2.2.1 p hd.2.2.2.2 h).2

/-- "the pass serves the pop", as a Boolean (replies have no decidable equality) -/
def servedB : Except Err (Option Reply) → Bool
  | .ok (some _) => true
  | _ => false

theorem served_of_servedB {x : Except Err (Option Reply)} (h : servedB x = true) : ∃ r, x = .ok (some r) := by
  match x, h with
  | .ok (some r), _ => exact ⟨r, rfl⟩

deriving instance DecidableEq for Parked

/-- what connection 1 is parked on in `sB` (woken: connection 2 pushed onto `k`) -/
def pB : Parked := { kind := "blpop", keys := [[107]], db := 0, deadline := none, woken := true }

/-- the hypotheses of `wake_buffered_served` hold in `sB`, with `PING` buffered behind the pop (`setBuf 1 _ sB` is `sB`
with the buffer of connection 1 spelled out) -/
example : ∃ r, ((wakeConnAsync am 1).run (setBuf 1 [] sB)).2.out = (1, r) :: sB.out ∧
    (wakeConnAsync am 1).run (setBuf 1 (encodeRequest pingReq) sB) =
      (sendall am 1 (encodeRequest pingReq)).run ((wakeConnAsync am 1).run (setBuf 1 [] sB)).2 := by
  have h : servedB (parkedPass 1 pB (setBuf 1 [] sB)).1 = true ∧ (sB.conn 1).parked = some pB ∧
      (sB.conn 1).paused = true ∧ (sB.conn 1).closed = false := by decide +kernel
  obtain ⟨r, hr⟩ := served_of_servedB h.1
  obtain ⟨h1, h2, _⟩ := wake_buffered_served am 1 (encodeRequest pingReq) sB sB_K pB r h.2.1 h.2.2.1 h.2.2.2 hr
  exact ⟨r, h2, h1⟩

/-! ## 3. any number of pipelined requests; two blocking pops in one write

`reply order = request order`: a pipelined write is processed head first (`pipelined_head_first`), i.e. like the
requests written one at a time (`pipelined_one_by_one`); a single request written to a live un-paused connection is one
`_process_command` (`one_request`) and to a paused one it is buffered (`C14.paused_buffers`); `_process_command` emits
the request's replies on top of `out`.  With a pop that parks in the middle, `pipelined_behind_parked_pop` says the rest
is processed - again head first - after the pop's reply. -/

/-- one complete request written to a live, un-paused connection with an empty buffer: exactly one
`_process_command` -/
theorem one_request (mode : Mode) (c : Nat) (req : List Bytes) (s : Sys) (hc : s.HasConn c)
    (hb : (s.conn c).buf = []) (hpa : (s.conn c).paused = false) (hd : (s.conn c).dead = false) :
    (sendall mode c (encodeRequest req)).run s = ((), setBuf c [] (processCommand mode c req s).2) := by
  have h := sendall_encode_head mode c req [] s hc hb hpa hd
  rw [List.append_nil] at h
  refine h.trans (drain_empty mode c _ _ ?_)
  by_cases hc' : (processCommand mode c req s).2.HasConn c
  · rw [conn_setBuf [] hc']
  · rw [Sys.conn_of_not_hasConn (fun h' => hc' ((hasConn_setBuf []).1 h'))]

/-- **head first**: a write that starts with a complete request = that request processed, then the rest of the write
written to the resulting state -/
theorem pipelined_head_first (mode : Mode) (c : Nat) (req : List Bytes) (rest : Bytes) (s : Sys) (hk : K s)
    (hc : s.HasConn c) (hb : (s.conn c).buf = []) (hpa : (s.conn c).paused = false) :
    (sendall mode c (encodeRequest req ++ rest)).run s =
      (sendall mode c rest).run (setBuf c [] (processCommand mode c req s).2) := by
  rw [← FR.Props.C04k.sendall_append mode c (encodeRequest req) rest s hk]
  show (sendall mode c rest).run ((sendall mode c (encodeRequest req)).run s).2 = _
  rw [one_request mode c req s hc hb hpa (hk.healthy.2.conn c)]

/-- a pipelined write of `n ≥ 1` requests = the requests written one at a time, in order -/
theorem pipelined_one_by_one (mode : Mode) (c : Nat) (reqs : List (List Bytes)) (s : Sys) (hk : K s) (hne : reqs ≠ []) :
    (sendall mode c (reqs.map encodeRequest).flatten).run s = (sendChunks mode c (reqs.map encodeRequest)).run s :=
  (FR.Props.C04k.all_chunkings_agree mode c _ s hk (reqs.map encodeRequest) (by simpa using hne) rfl).symm

/-- **Two blocking pops in one write** `blk1, blk2, rest`: the first parks and `encodeRequest blk2 ++ rest` is buffered
(`pipelined_behind_parked_pop`).  In any later state `u` in which the re-try task serves the first pop with `r1`: its
reply is emitted, the parser resumes, the second pop is processed in that state `w` and - if it cannot be served -
parks, and `rest` stays buffered behind it (to be handled by `wake_buffered_served` again): no reply of `rest` before
the second pop's. -/
theorem two_parking_pops (mode : Mode) (c : Nat) (blk2 : List Bytes) (rest : Bytes) (u : Sys) (hk : K u)
    (p1 : Parked) (r1 : Reply) (hp : (u.conn c).parked = some p1) (hpa : (u.conn c).paused = true)
    (hcl : (u.conn c).closed = false) (hserved : (parkedPass c p1 (setBuf c [] u)).1 = .ok (some r1))
    (hpark2 : ((processCommand mode c blk2 ((wakeConnAsync mode c).run (setBuf c [] u)).2).2.conn c).paused = true) :
    let w := ((wakeConnAsync mode c).run (setBuf c [] u)).2
    let t := ((wakeConnAsync mode c).run (setBuf c (encodeRequest blk2 ++ rest) u)).2
    w.out = (c, r1) :: u.out ∧ t = setBuf c rest (processCommand mode c blk2 w).2 ∧
    (t.conn c).paused = true ∧ t.out = (processCommand mode c blk2 w).2.out := by
  intro w t
  obtain ⟨hw, g1, _, g3, g4, hcw, hkw⟩ := wake_buffered_served mode c (encodeRequest blk2 ++ rest) u hk p1 r1 hp hpa hcl
    hserved
  have e : t = setBuf c rest (processCommand mode c blk2 w).2 := by
    show ((wakeConnAsync mode c).run (setBuf c (encodeRequest blk2 ++ rest) u)).2 = _
    rw [hw]
    exact congrArg Prod.snd (sendall_encode_parks mode c blk2 rest w hcw g4 g3 (hkw.healthy.2.conn c) hpark2)
  refine ⟨g1, e, ?_, ?_⟩
  · rw [e]
    exact (conn_setBuf_proj c c rest _ Conn.paused (fun _ => rfl)).trans hpark2
  · rw [e]; rfl

/-! ### non-vacuity of section 3 -/

/-- connection 1 writes `BLPOP k 0`, `BLPOP k 0`, `PING` in one write; connection 2 pushes `v`; re-try task of 1;
connection 2 pushes `w`; re-try task of 1 -/
def tA : Sys :=
  ((sendall am 1 (encodeRequest blpopReq ++ (encodeRequest blpopReq ++ encodeRequest pingReq))).run sInit).2
def tB : Sys := ((sendall am 2 (encodeRequest rpushReq)).run tA).2
def tC : Sys := ((wakeConnAsync am 1).run tB).2
def tD : Sys := ((sendall am 2 (encodeRequest [strBytes "RPUSH", [107], [119]])).run tC).2
def tE : Sys := ((wakeConnAsync am 1).run tD).2

example : tA.out.length = 0 ∧ (tA.conn 1).paused = true ∧
    (tA.conn 1).buf = encodeRequest blpopReq ++ encodeRequest pingReq := by decide +kernel

/-- after the first wake-up: the first pop's reply, the second pop parked, `PING` still buffered -/
example : tC.out.map (fun p => (p.1, p.2.render)) =
      [(1, (Reply.arr [.bulk [107], .bulk [118]]).render), (2, (Reply.int 1).render)] ∧
    (tC.conn 1).paused = true ∧ (tC.conn 1).parked.isSome = true ∧ (tC.conn 1).buf = encodeRequest pingReq := by
  have h : tC.out = [(1, Reply.arr [.bulk [107], .bulk [118]]), (2, Reply.int 1)] ∧
      (tC.conn 1).paused = true ∧ (tC.conn 1).parked.isSome = true ∧ (tC.conn 1).buf = encodeRequest pingReq := by
    decide +kernel
  exact ⟨congrArg (List.map fun p => (p.1, p.2.render)) h.1, h.2⟩

/-- after the second: replies in request order - pop 1, pop 2, `PONG` (newest first) -/
example : tE.out.map (fun p => (p.1, p.2.render)) =
      [(1, Reply.pong.render), (1, (Reply.arr [.bulk [107], .bulk [119]]).render), (2, (Reply.int 1).render),
       (1, (Reply.arr [.bulk [107], .bulk [118]]).render), (2, (Reply.int 1).render)] ∧
    (tE.conn 1).paused = false ∧ (tE.conn 1).buf = [] ∧ tE.fault = none := by
  have h : tE.out = [(1, Reply.pong), (1, Reply.arr [.bulk [107], .bulk [119]]), (2, Reply.int 1),
        (1, Reply.arr [.bulk [107], .bulk [118]]), (2, Reply.int 1)] ∧
      (tE.conn 1).paused = false ∧ (tE.conn 1).buf = [] ∧ tE.fault = none := by decide +kernel
  exact ⟨congrArg (List.map fun p => (p.1, p.2.render)) h.1, h.2⟩

theorem tA_K : K tA := by rw [tA, StateT.run]; exact sendall_K am 1 _ sInit sInit_K
theorem tB_K : K tB := by rw [tB, StateT.run]; exact sendall_K am 2 _ tA tA_K

/-- the hypotheses of `two_parking_pops` hold in `tB` -/
example :
    let w := ((wakeConnAsync am 1).run (setBuf 1 [] tB)).2
    let t := ((wakeConnAsync am 1).run (setBuf 1 (encodeRequest blpopReq ++ encodeRequest pingReq) tB)).2
    (t.conn 1).paused = true ∧ t.out = (processCommand am 1 blpopReq w).2.out := by
  -- one evaluation of `tB` for the concrete hypotheses
  have h : servedB (parkedPass 1 pB (setBuf 1 [] tB)).1 = true ∧ (tB.conn 1).parked = some pB ∧
      (tB.conn 1).paused = true ∧ (tB.conn 1).closed = false ∧
      ((processCommand am 1 blpopReq ((wakeConnAsync am 1).run (setBuf 1 [] tB)).2).2.conn 1).paused = true := by
    decide +kernel
  obtain ⟨r, hr⟩ := served_of_servedB h.1
  obtain ⟨_, _, h3, h4⟩ := two_parking_pops am 1 blpopReq (encodeRequest pingReq) tB tB_K pB r h.2.1 h.2.2.1 h.2.2.2.1 hr
    h.2.2.2.2
  exact ⟨h3, h4⟩

/-- `one_request`, `pipelined_head_first`, `pipelined_one_by_one` apply to `sInit` -/
example : (sendall am 1 (encodeRequest pingReq)).run sInit = ((), setBuf 1 [] (processCommand am 1 pingReq sInit).2) :=
  have h : sInit.HasConn 1 ∧ (sInit.conn 1).buf = [] ∧ (sInit.conn 1).paused = false ∧ (sInit.conn 1).dead = false := by
    decide +kernel
  one_request am 1 pingReq sInit h.1 h.2.1 h.2.2.1 h.2.2.2

example : (sendall am 1 (encodeRequest pingReq ++ encodeRequest blpopReq)).run sInit =
    (sendall am 1 (encodeRequest blpopReq)).run (setBuf 1 [] (processCommand am 1 pingReq sInit).2) :=
  have h : sInit.HasConn 1 ∧ (sInit.conn 1).buf = [] ∧ (sInit.conn 1).paused = false := by decide +kernel
  pipelined_head_first am 1 pingReq _ sInit sInit_K h.1 h.2.1 h.2.2

example : (sendall am 1 ([pingReq, blpopReq, pingReq].map encodeRequest).flatten).run sInit =
    (sendChunks am 1 ([pingReq, blpopReq, pingReq].map encodeRequest)).run sInit :=
  pipelined_one_by_one am 1 _ sInit sInit_K (by simp)

/-- three requests, the middle one a pop that parks: `PONG` at once, the second `PING` waits -/
example :
    let u := ((sendall am 1 ([pingReq, blpopReq, pingReq].map encodeRequest).flatten).run sInit).2
    u.out.map (fun p => (p.1, p.2.render)) = [(1, Reply.pong.render)] ∧ (u.conn 1).paused = true ∧
    (u.conn 1).buf = encodeRequest pingReq := by
  have h :
      let u := ((sendall am 1 ([pingReq, blpopReq, pingReq].map encodeRequest).flatten).run sInit).2
      u.out = [(1, Reply.pong)] ∧ (u.conn 1).paused = true ∧ (u.conn 1).buf = encodeRequest pingReq := by
    decide +kernel
  exact ⟨congrArg (List.map fun p => (p.1, p.2.render)) h.1, h.2⟩

end FR.Props.C14p

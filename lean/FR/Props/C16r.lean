import FR.Proofs.C16Regex
import FR.Props.C16
/-!
# C16r: the regex text that `compile_pattern` emits denotes Redis's glob matcher

`FR.Glob.render (compile p)` is, byte for byte, `compile_pattern(p).pattern` (differentially tested
against the Python source).  This file proves, for that text,

1. it always decodes (`parseRx`) to the regex `rxOf (compile p)` of a tiny fragment
   (`^ … \Z`, `.`, `.*`, literal bytes, `[…]`/`[^…]`, `(?!)`) — the model-level content of
   "compiling any pattern never fails";
2. the model's backtracking matcher `matchA` decides exactly the textbook language
   (`Rx.Matches`) of that regex;
3. hence the textbook language of the text is Redis's `stringmatchlen` on non-empty subjects;
4. lexical facts about the text that can be read against the `re` syntax documentation.

Trusted after this file: CPython's `re` implements `Rx.Matches` on the texts `parseRx` accepts.
-/
namespace FR.Props.C16r
open FR.Glob

/-! ## 1. the text decodes to the expected regex -/

/-- The text rendered from well-formed atoms decodes to their translation. -/
theorem render_parses (as : List Atom) (h : AtomsOK as) :
    parseRx (render as) = some (rxOf as) := by
  have hlen := renderAtoms_length as
  simp only [render, parseRx, if_true]
  exact parsePieces_render as h _ (by simp; omega)

/-- `compile_pattern` only produces well-formed atoms (ordered ranges, non-empty sets). -/
theorem compile_ok (p : B) : AtomsOK (compile p) := compile_atomsOK p

-- "h[a-c]*o"  ↦  ^h[a-c].*o\Z  ↦  h · [a-c] · (.)* · o
example : render [.lit 104, .cls false [.range 97 99], .star, .lit 111]
    = [94, 104, 91, 97, 45, 99, 93, 46, 42, 111, 92, 90] := by decide
example : parseRx [94, 104, 91, 97, 45, 99, 93, 46, 42, 111, 92, 90]
    = some (.cat (.lit 104) (.cat (.set false [.range 97 99]) (.cat (.star .any)
        (.cat (.lit 111) .eps)))) := by decide +kernel
example : AtomsOK [.lit 104, .cls false [.range 97 99], .star, .lit 111] := by
  have h : compile [104, 91, 97, 45, 99, 93, 42, 111] =
      [.lit 104, .cls false [.range 97 99], .star, .lit 111] := by glob_eval
  exact h ▸ compile_ok _
-- "[^\]-]\*?[]"  ↦  ^[^\]\-]\*.(?!)\Z
example : render [.cls true [.ch 93, .ch 45], .lit 42, .any, .never]
    = [94, 91, 94, 92, 93, 92, 45, 93, 92, 42, 46, 40, 63, 33, 41, 92, 90] := by decide
example : parseRx (render [.cls true [.ch 93, .ch 45], .lit 42, .any, .never])
    = some (.cat (.set true [.ch 93, .ch 45]) (.cat (.lit 42) (.cat .any (.cat .fail .eps)))) := by
  decide +kernel
-- the side condition is needed: Python rejects `[b-a]` ("bad character range") and reads `[]`
-- as the start of a set containing `]`; `parseRx` rejects both texts
example : ¬ AtomsOK [.cls false [.range 98 97]] := by
  intro h; exact absurd (h _ (List.mem_cons_self ..)).2 (by simp [ItemOK])
example : parseRx (render [.cls false [.range 98 97]]) = none := by decide +kernel
example : parseRx (render [.cls false []]) = none := by decide +kernel

/-! ## 2. the backtracking matcher decides the textbook language -/

theorem matchA_iff_language (as : List Atom) (s : B) :
    matchA as s = true ↔ (rxOf as).Matches s :=
  matchA_iff_matches as s

-- `h.*o` : "hello" is in the language, "hell" is not
example : (rxOf [.lit 104, .star, .lit 111]).Matches [104, 101, 108, 108, 111] :=
  (matchA_iff_language _ _).mp (by glob_eval)
example : ¬ (rxOf [.lit 104, .star, .lit 111]).Matches [104, 101, 108, 108] :=
  fun h => absurd ((matchA_iff_language _ _).mpr h) (by glob_eval)
-- the semantics is the textbook one, directly: `.*` is all strings, `(?!)` is the empty language
example (s : B) : (Rx.star .any).Matches s := Rx.star_any_all s
example (s : B) : ¬ Rx.fail.Matches s := (Rx.fail_iff s).mp
example : (Rx.cat (.lit 97) (.set true [.range 48 57])).Matches [97, 98] :=
  Rx.Matches.cat (.lit 97) (.setNeg _ 98 (by simp [RItem.Has]))

/-! ## 3. the text of `compile_pattern(p)` denotes Redis's glob matcher -/

/-- Model-level content of "compiling any pattern never fails": the text is always a well-formed
regex of the fragment. -/
theorem compile_text_parses (p : B) : parseRx (render (compile p)) = some (rxOf (compile p)) :=
  render_parses _ (compile_ok p)

theorem compile_never_fails (p : B) : (parseRx (render (compile p))).isSome = true := by
  rw [compile_text_parses]; rfl

/-- The regex text emitted for `p`, read with the textbook semantics, accepts a non-empty subject
iff Redis's `stringmatchlen` does. -/
theorem regex_text_denotes_redis_glob (p s : B) (hs : s ≠ []) :
    ∃ r, parseRx (render (compile p)) = some r ∧ (r.Matches s ↔ rglob p s = true) := by
  refine ⟨rxOf (compile p), compile_text_parses p, ?_⟩
  rw [← matchA_iff_language, ← FR.Props.C16.glob_correct p s hs]
  exact Iff.rfl

/-- Same, for every decoding of the text (the decoding is a function, so there is only one). -/
theorem regex_text_denotes_redis_glob' (p s : B) (hs : s ≠ []) (r : Rx)
    (hr : parseRx (render (compile p)) = some r) : r.Matches s ↔ rglob p s = true := by
  obtain ⟨r', hr', h⟩ := regex_text_denotes_redis_glob p s hs
  rw [hr] at hr'; cases hr'; exact h

-- "h[a-c]*o" / "hbllo"
example : ∃ r, parseRx (render (compile [104, 91, 97, 45, 99, 93, 42, 111])) = some r ∧
    r.Matches [104, 98, 108, 108, 111] := by
  obtain ⟨r, hr, h⟩ := regex_text_denotes_redis_glob [104, 91, 97, 45, 99, 93, 42, 111]
    [104, 98, 108, 108, 111] (by simp)
  exact ⟨r, hr, h.mpr (by glob_eval)⟩
example : (parseRx (render (compile [91, 92]))).isSome = true := compile_never_fails _
-- `s ≠ []` is necessary: the text of "*" is `^.*\Z`, whose language contains the empty string,
-- while Redis rejects the empty subject
example : (rxOf (compile [42])).Matches [] ∧ rglob [42] [] = false :=
  ⟨(matchA_iff_language _ _).mp (by glob_eval), by glob_eval⟩

/-! ## 4. the text itself -/

/-- `re.escape` produces the byte alone or a backslash and the byte. -/
theorem escapeByte_shape (c : UInt8) :
    (isEscaped c = true ∧ escapeByte c = [92, c]) ∨ (isEscaped c = false ∧ escapeByte c = [c]) :=
  escapeByte_cases c

theorem escapeByte_length (c : UInt8) :
    (escapeByte c).length = if isEscaped c then 2 else 1 :=
  FR.Glob.escapeByte_length c

/-- Every byte that is special in `re` syntax outside a set (`. ^ $ * + ? { } [ ] \ | ( )`) or inside
a set (`] \ ^ -`) is written with a backslash. -/
theorem escapeByte_special (c : UInt8) (h : (isReMeta c || isSetMeta c) = true) :
    escapeByte c = [92, c] := by
  show escapeByte c = [cBS, c]
  simp [escapeByte, meta_isEscaped c h]

/-- A byte written without a backslash is special neither outside nor inside a set. -/
theorem escapeByte_plain (c : UInt8) (h : escapeByte c = [c]) :
    isReMeta c = false ∧ isSetMeta c = false := by
  cases hm : (isReMeta c || isSetMeta c)
  · simpa using hm
  · rw [escapeByte_special c hm] at h
    simp at h

/-- A backslash never precedes an ASCII letter or digit, so `\c` is always the literal `c`
(never `\d`, `\b`, `\Z`, a back-reference, or an invalid escape). -/
theorem escapeByte_escaped_not_alnum (c : UInt8) (h : escapeByte c = [92, c]) :
    isAlnum c = false := by
  rcases escapeByte_cases c with ⟨hc, _⟩ | ⟨_, he⟩
  · exact isEscaped_not_alnum c hc
  · rw [he] at h; simp at h

theorem escapeByte_injective (a b : UInt8) (h : escapeByte a = escapeByte b) : a = b := by
  have ha := FR.Glob.unescape_escapeByte a
  rw [h, FR.Glob.unescape_escapeByte] at ha
  exact (Option.some.inj ha).symm

theorem unescape_escapeByte (c : UInt8) : unescape (escapeByte c) = some c :=
  FR.Glob.unescape_escapeByte c

/-- Token view of the text by a lexer that knows nothing about `render` (a backslash takes the next
byte; any other byte is `special` iff it has a syntactic role in `re`): the tokens are `^`, the
tokens of each atom, and the final `\Z`. -/
theorem lex_render (as : List Atom) :
    lex (render as) = .special 94 :: (atomsToks as ++ [.esc 90]) := by
  show lex (render as) = .special cCaret :: (atomsToks as ++ [.esc cZ])
  unfold lex render
  rw [lexAux_special cCaret (by decide) (by decide), lexAux_renderAtoms]
  show _ :: (_ ++ lexAux false (cBS :: cZ :: [])) = _
  rw [lexAux_bs]; simp [lexAux]

/-- Every unescaped special byte between `^` and `\Z` is one of the structural characters
`. * ( ? ) [ ^ ] -` put there by a construct (`.`, `.*`, `(?!)`, `[`, `[^`, `]`, `a-b`). -/
theorem special_tokens_structural (as : List Atom) (c : UInt8)
    (h : Tok.special c ∈ atomsToks as) : c ∈ [46, 42, 40, 63, 41, 91, 94, 93, 45] :=
  atomsToks_emitted as _ h

/-- Inside a set the only unescaped special byte is the `-` of a range. -/
theorem set_special_tokens (items : List CItem) (c : UInt8)
    (h : Tok.special c ∈ itemsToks items) : c = 45 :=
  itemsToks_emitted items _ h

/-- Every `\c` between `^` and `\Z` escapes a byte of `re.escape`'s table (punctuation or white
space), hence is a literal. -/
theorem escaped_tokens_literal (as : List Atom) (c : UInt8)
    (h : Tok.esc c ∈ atomsToks as) : isEscaped c = true ∧ isAlnum c = false :=
  ⟨atomsToks_esc as c h, isEscaped_not_alnum c (atomsToks_esc as c h)⟩

example : escapeByte 42 = [92, 42] ∧ escapeByte 97 = [97] ∧ escapeByte 10 = [92, 10] ∧
    escapeByte 0 = [0] ∧ escapeByte 255 = [255] := by decide
example : (isReMeta 42 || isSetMeta 42) = true := by decide
example : escapeByte 97 = [97] := by decide
example : escapeByte 45 = [92, 45] ∧ isAlnum 45 = false := by decide
example : (escapeByte 93).length = 2 := by decide
example : unescape [92, 93] = some 93 ∧ unescape [93] = none ∧ unescape [92, 100] = none := by
  decide
-- ^[a\-\]]\*\Z
example : lex (render [.cls false [.ch 97, .ch 45, .ch 93], .lit 42])
    = [.special 94, .special 91, .plain 97, .esc 45, .esc 93, .special 93, .esc 42, .esc 90] := by
  decide +kernel
example : Tok.special 45 ∈ atomsToks [.cls false [.range 97 99]] := by decide +kernel
example : Tok.special 45 ∈ itemsToks [.range 97 99] := by decide +kernel
example : Tok.esc 42 ∈ atomsToks [.lit 42] := by decide +kernel

end FR.Props.C16r

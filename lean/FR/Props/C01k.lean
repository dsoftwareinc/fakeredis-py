import FR.Proofs.StrKeys
/-!
# C01 at the level of the key space: the string, counter and generic-key commands

`Db.live : Bytes → Option Item` is the key space of a database (the unexpired entry of a key).
Every theorem below is about the runner `runRegular` with the signature the command has in `SigTable` and the body it
has in `Cmd.regular` (`tables`), for an arbitrary database with unique keys, arbitrary bytes and
both emulated versions (`ctx.version` is a variable).  The conclusion always has the form

  `(reply, key space afterwards) = (… a closed formula in the key space before …)`.

Standing hypotheses (all are invariants of reachable states, see `invariants_preserved`):
* `nd : NodupKeys db.dict`       a Python dict has unique keys;
* `ne : NoEmpty db.dict`         no stored empty collection (C09): what reading `bool(key)` off the key space needs (SET,
  SETNX, MSETNX, DEL, UNLINK, EXISTS, RENAME, RENAMENX, RESTORE).  The theorems for INCR … INCRBYFLOAT, APPEND, GETRANGE,
  SETRANGE, GETBIT, SETBIT carry it as well and do not need it;
* `ht : ctx.time = db.time`      the body sees the clock of its database (`Process.lean` builds `ctx` so).

`upd L k oi` is the point update of a key space.  The closed formulas (`setSpec`, `incrSpec`, `appendOn`, `renamed`,
`restoreSpec` …) are definitions of `FR/Proofs/StrKeys.lean`; each theorem `x_unfolded` writes one of them out, so that
the statements can be read without that file.
-/
namespace FR.Props.C01k
open FR FR.StrKeys

/-- (for the examples only) the string and the deadline of an entry, `none` for a missing key or another type -/
def strView (oi : Option Item) : Option (Bytes × Option Int) :=
  oi.bind fun it => match it.value with | .str b => some (b, it.expireat) | _ => none

/-- (for the examples only) the integer of an integer reply -/
def intView (r : Reply) : Option Int := match r with | .int n => some n | _ => none

/-- the signatures and bodies used below are exactly the entries of the two command tables -/
theorem tables :
    (SigTable.find "set" = some sigSet ∧ Cmd.regular "set" = some Cmd.set) ∧
    (SigTable.find "get" = some sigGet ∧ Cmd.regular "get" = some Cmd.get) ∧
    (SigTable.find "strlen" = some sigStrlen ∧ Cmd.regular "strlen" = some Cmd.strlen) ∧
    (SigTable.find "getset" = some sigGetset ∧ Cmd.regular "getset" = some Cmd.getset) ∧
    (SigTable.find "setnx" = some sigSetnx ∧ Cmd.regular "setnx" = some Cmd.setnx) ∧
    (SigTable.find "setex" = some sigSetex ∧ Cmd.regular "setex" = some Cmd.setex) ∧
    (SigTable.find "psetex" = some sigPsetex ∧ Cmd.regular "psetex" = some Cmd.psetex) ∧
    (SigTable.find "mget" = some sigMget ∧ Cmd.regular "mget" = some Cmd.mget) ∧
    (SigTable.find "mset" = some sigMset ∧ Cmd.regular "mset" = some Cmd.mset) ∧
    (SigTable.find "msetnx" = some sigMsetnx ∧ Cmd.regular "msetnx" = some Cmd.msetnx) ∧
    (SigTable.find "incr" = some sigIncr ∧ Cmd.regular "incr" = some Cmd.incr) ∧
    (SigTable.find "decr" = some sigDecr ∧ Cmd.regular "decr" = some Cmd.decr) ∧
    (SigTable.find "incrby" = some sigIncrby ∧ Cmd.regular "incrby" = some Cmd.incrby) ∧
    (SigTable.find "decrby" = some sigDecrby ∧ Cmd.regular "decrby" = some Cmd.decrby) ∧
    (SigTable.find "incrbyfloat" = some sigIncrbyfloat ∧ Cmd.regular "incrbyfloat" = some Cmd.incrbyfloat) ∧
    (SigTable.find "append" = some sigAppend ∧ Cmd.regular "append" = some Cmd.append) ∧
    (SigTable.find "del" = some sigDel ∧ Cmd.regular "del" = some Cmd.del) ∧
    (SigTable.find "unlink" = some sigUnlink ∧ Cmd.regular "unlink" = some Cmd.del) ∧
    (SigTable.find "exists" = some sigExists ∧ Cmd.regular "exists" = some Cmd.exists_) ∧
    (SigTable.find "type" = some sigType ∧ Cmd.regular "type" = some Cmd.type_) ∧
    (SigTable.find "bitcount" = some sigBitcount ∧ Cmd.regular "bitcount" = some Cmd.bitcount) ∧
    (SigTable.find "rename" = some sigRename ∧ Cmd.regular "rename" = some Cmd.rename) ∧
    (SigTable.find "renamenx" = some sigRenamenx ∧ Cmd.regular "renamenx" = some Cmd.renamenx) ∧
    (SigTable.find "dump" = some sigDump ∧ Cmd.regular "dump" = some Cmd.dump) ∧
    (SigTable.find "restore" = some sigRestore ∧ Cmd.regular "restore" = some Cmd.restore) :=
  ⟨⟨find_set, rfl⟩, ⟨find_get, rfl⟩, ⟨find_strlen, rfl⟩, ⟨find_getset, rfl⟩, ⟨find_setnx, rfl⟩,
    ⟨find_setex, rfl⟩, ⟨find_psetex, rfl⟩, ⟨find_mget, rfl⟩, ⟨find_mset, rfl⟩, ⟨find_msetnx, rfl⟩,
    ⟨find_incr, rfl⟩, ⟨find_decr, rfl⟩, ⟨find_incrby, rfl⟩, ⟨find_decrby, rfl⟩, ⟨find_incrbyfloat, rfl⟩,
    ⟨find_append, rfl⟩, ⟨find_del, rfl⟩, ⟨find_unlink, rfl⟩, ⟨find_exists, rfl⟩, ⟨find_type, rfl⟩,
    ⟨find_bitcount, rfl⟩, ⟨find_rename, rfl⟩, ⟨find_renamenx, rfl⟩, ⟨find_dump, rfl⟩, ⟨find_restore, rfl⟩⟩

/-! ## 0. The refinement itself and what holds for every command -/

/-- Refinement.  For every command of the table (and any signature: `name` only serves to fetch what is known about the
body), the reply and the key space after `runRegular` are a
function (`runL`) of the clock and the key space before: lazy expiry, dict order and dead entries are
unobservable. -/
theorem refinement (name : String) (sig : Sig) (body : Body) (hb : Cmd.regular name = some body) (ctx : Ctx)
    (raw : List Bytes) (db : Db) (nd : NodupKeys db.dict) :
    ((runRegular sig body ctx none raw db).reply, (runRegular sig body ctx none raw db).db.live) =
      runL sig body ctx raw db.time db.live :=
  refines sig body (regular_expModSound name body hb) ctx raw nd

example :
    let db : Db := ⟨[([97], ⟨.str [49], none⟩), ([98], ⟨.str [50], some 3⟩)], 10⟩
    NodupKeys db.dict ∧ (db.live [98]).isSome = false ∧ (db.live [97]).isSome = true ∧
    Cmd.regular "get" = some Cmd.get := by
  refine ⟨by decide, by decide, by decide, rfl⟩

/-- the standing hypotheses are invariants: they hold again after every command, whatever it did -/
theorem invariants_preserved (sig : Sig) (body : Body) (ctx : Ctx) (raw : List Bytes) (db : Db)
    (nd : NodupKeys db.dict) (ne : NoEmpty db.dict) :
    NodupKeys (runRegular sig body ctx none raw db).db.dict ∧
    NoEmpty (runRegular sig body ctx none raw db).db.dict ∧
    (runRegular sig body ctx none raw db).db.time = db.time :=
  runRegular_keeps sig body ctx none raw nd ne

/-- Errors change nothing.  For every command of the table: if the reply is an error reply (wrong number of
arguments, not an integer, WRONGTYPE, syntax error, overflow, BUSYKEY, bad payload, no such key, …) the
key space is unchanged. -/
theorem error_changes_nothing (name : String) (sig : Sig) (body : Body) (hb : Cmd.regular name = some body)
    (ctx : Ctx) (raw : List Bytes) (db : Db) (nd : NodupKeys db.dict)
    (he : (runRegular sig body ctx none raw db).reply.isErr = true) :
    (runRegular sig body ctx none raw db).db.live = db.live := by
  have hf := (runRegular_isErr_iff_failed sig body (regular_reply_not_err name body hb) ctx none raw db).1 he
  funext k
  exact live_eq_of_purge (runRegular_failed sig body ctx none raw nd hf).1.eq k

example :
    let db : Db := ⟨[([97], ⟨.list [[1]], none⟩)], 10⟩
    (runRegular sigGet Cmd.get ⟨7, 10, 0, false, []⟩ none [[97]] db).reply.isErr = true := by decide

/-! ### sequences of commands -/

/-- one request of a history: the context (version, clock, …) it runs in, its signature, body and arguments -/
structure Req where
  ctx : Ctx
  sig : Sig
  body : Body
  raw : List Bytes

/-- the replies of a history run by the real runner, threading the database -/
def runSeq : List Req → Db → List Reply
  | [], _ => []
  | r :: rs, db =>
    (runRegular r.sig r.body r.ctx none r.raw db).reply :: runSeq rs (runRegular r.sig r.body r.ctx none r.raw db).db

/-- the replies of the same history computed on the abstract key space alone -/
def runSeqL : List Req → Int → (Bytes → Option Item) → List Reply
  | [], _, _ => []
  | r :: rs, time, live =>
    (runL r.sig r.body r.ctx r.raw time live).1 :: runSeqL rs time (runL r.sig r.body r.ctx r.raw time live).2

/-- Sequences.  For any history of commands of the table, started in a database with unique keys, every reply
is the reply computed from the key space: dict order, dead entries and lazy deletions never become
observable, at any point of the history. -/
theorem history_refinement (rs : List Req) (hreg : ∀ r ∈ rs, ∃ name, Cmd.regular name = some r.body) (db : Db)
    (nd : NodupKeys db.dict) : runSeq rs db = runSeqL rs db.time db.live := by
  induction rs generalizing db with
  | nil => rfl
  | cons r rs ih =>
    obtain ⟨name, hn⟩ := hreg r (by simp)
    have h := refinement name r.sig r.body hn r.ctx r.raw db nd
    have h1 := congrArg Prod.fst h
    have h2 := congrArg Prod.snd h
    simp only at h1 h2
    have ht := runRegular_time r.sig r.body r.ctx none r.raw nd
    simp only [runSeq, runSeqL]
    rw [ih (fun r' hr' => hreg r' (by simp [hr'])) _ (runRegular_nodup r.sig r.body r.ctx none r.raw nd), h1, h2, ht]

example :
    let ctx : Ctx := ⟨7, 10, 0, false, []⟩
    let rs : List Req := [⟨ctx, sigSet, Cmd.set, [[97], [49]]⟩, ⟨ctx, sigIncr, Cmd.incr, [[97]]⟩,
      ⟨ctx, sigGet, Cmd.get, [[97]]⟩]
    (∀ r ∈ rs, ∃ name, Cmd.regular name = some r.body) ∧ rs.length = 3 := by
  intro ctx rs
  refine ⟨?_, rfl⟩
  intro r hr
  simp only [rs, List.mem_cons, List.not_mem_nil, or_false] at hr
  rcases hr with rfl | rfl | rfl
  · exact ⟨"set", rfl⟩
  · exact ⟨"incr", rfl⟩
  · exact ⟨"get", rfl⟩

/-! ## 1. SET -/

/-- The decision table of SET (`setSpec`), for an arbitrary option list.
If the option list does not parse (unknown word, `EX`/`PX` without or with a bad/non-positive/too large
number) the reply is that error and nothing changes.  Otherwise, with the parsed options `o`:
* `NX` with `XX`, or more than one of `EX`/`PX`/`KEEPTTL` : syntax error, nothing changes;
* `NX` with `GET` : syntax error in version 6, allowed in version 7;
* `GET` on a key holding a non-string : WRONGTYPE, nothing changes;
* `NX` and the key is live, or `XX` and the key is not live : nothing is written, the reply is the old string
  (with `GET`) or nil;
* otherwise the key holds `value` with the deadline `setDeadline` (`PX`: now+ms, `EX`: now+s, `KEEPTTL`: the
  old deadline, else none), every other key is untouched, and the reply is OK, or the old string / nil with `GET`. -/
theorem set_table (ctx : Ctx) (db : Db) (nd : NodupKeys db.dict) (ne : NoEmpty db.dict) (ht : ctx.time = db.time)
    (k v : Bytes) (opts : List Bytes) :
    let out := runRegular sigSet Cmd.set ctx none (k :: v :: opts) db
    (out.reply, out.db.live) =
      match Cmd.parseSetOpts db.time opts {} with
      | .error e => (.err (strBytes e), db.live)
      | .ok o => setSpec ctx.version db.time db.live k v o :=
  (refinement "set" _ _ rfl ctx _ db nd).trans (set_runL ctx db.time db.live ht k v (fresh db k) (full ne k) opts)

/-- the decision table `setSpec`, written out -/
theorem set_table_unfolded (version : Nat) (time : Int) (live : Bytes → Option Item) (k v : Bytes) (o : Cmd.SetOpts) :
    setSpec version time live k v o =
      (let nExp := (if o.px.isSome then 1 else 0) + (if o.ex.isSome then 1 else 0) + (if o.keepttl then 1 else 0)
       if (o.xx && o.nx) || nExp > 1 then (synErr, live)
       else if o.nx && o.get && version < 7 then (synErr, live)
       else if o.get && notStr (live k) then (wrongtype, live)
       else
         let old : Reply := if o.get then oldStr (live k) else .nil
         if o.nx && (live k).isSome then (old, live)
         else if o.xx && !(live k).isSome then (old, live)
         else (if o.get then old else .ok,
           upd live k (some ⟨.str v, setDeadline time o ((live k).bind (·.expireat))⟩))) := rfl

/-- the decision table once the option list is parsed -/
theorem set_of (ctx : Ctx) (db : Db) (nd : NodupKeys db.dict) (ne : NoEmpty db.dict) (ht : ctx.time = db.time)
    (k v : Bytes) {opts : List Bytes} {o : Cmd.SetOpts} (hp : Cmd.parseSetOpts db.time opts {} = .ok o) :
    ((runRegular sigSet Cmd.set ctx none (k :: v :: opts) db).reply,
      (runRegular sigSet Cmd.set ctx none (k :: v :: opts) db).db.live) = setSpec ctx.version db.time db.live k v o :=
  (set_table ctx db nd ne ht k v opts).trans (by rw [hp])

/-- plain `SET k v`: OK, the key holds `v` without deadline (whatever it held before, of any type) -/
theorem set_plain (ctx : Ctx) (db : Db) (nd : NodupKeys db.dict) (ne : NoEmpty db.dict) (ht : ctx.time = db.time)
    (k v : Bytes) :
    let out := runRegular sigSet Cmd.set ctx none [k, v] db
    (out.reply, out.db.live) = (.ok, upd db.live k (some ⟨.str v, none⟩)) := by
  refine (set_of ctx db nd ne ht k v (opts := []) (by rw [parse_nil])).trans ?_
  simp [setSpec, setDeadline]

/-- `SET k v NX` writes iff the key is not live; reply OK / nil -/
theorem set_nx (ctx : Ctx) (db : Db) (nd : NodupKeys db.dict) (ne : NoEmpty db.dict) (ht : ctx.time = db.time)
    (k v a : Bytes) (ha : IsWord a .nx) :
    let out := runRegular sigSet Cmd.set ctx none [k, v, a] db
    (out.reply, out.db.live) =
      if (db.live k).isSome then (.nil, db.live) else (.ok, upd db.live k (some ⟨.str v, none⟩)) := by
  refine (set_of ctx db nd ne ht k v (opts := [a]) (by rw [parse_flag _ _ _ _ _ ha (Or.inl rfl), parse_nil])).trans ?_
  cases hl : (db.live k).isSome <;> simp [setSpec, setDeadline, hl]

/-- `SET k v XX` writes iff the key is live (the old deadline is dropped); reply OK / nil -/
theorem set_xx (ctx : Ctx) (db : Db) (nd : NodupKeys db.dict) (ne : NoEmpty db.dict) (ht : ctx.time = db.time)
    (k v a : Bytes) (ha : IsWord a .xx) :
    let out := runRegular sigSet Cmd.set ctx none [k, v, a] db
    (out.reply, out.db.live) =
      if (db.live k).isSome then (.ok, upd db.live k (some ⟨.str v, none⟩)) else (.nil, db.live) := by
  refine (set_of ctx db nd ne ht k v (opts := [a])
    (by rw [parse_flag _ _ _ _ _ ha (Or.inr (Or.inl rfl)), parse_nil])).trans ?_
  cases hl : (db.live k).isSome <;> simp [setSpec, setDeadline, hl]

/-- `SET k v GET`: WRONGTYPE and no change if the key holds a non-string; otherwise the old string (or nil)
is returned and the key is written -/
theorem set_get (ctx : Ctx) (db : Db) (nd : NodupKeys db.dict) (ne : NoEmpty db.dict) (ht : ctx.time = db.time)
    (k v a : Bytes) (ha : IsWord a .get) :
    let out := runRegular sigSet Cmd.set ctx none [k, v, a] db
    (out.reply, out.db.live) =
      if notStr (db.live k) then (wrongtype, db.live)
      else (oldStr (db.live k), upd db.live k (some ⟨.str v, none⟩)) := by
  refine (set_of ctx db nd ne ht k v (opts := [a])
    (by rw [parse_flag _ _ _ _ _ ha (Or.inr (Or.inr (Or.inr rfl))), parse_nil])).trans ?_
  cases hl : notStr (db.live k) <;> simp [setSpec, setDeadline, hl]

/-- `SET k v NX GET` is a syntax error that changes nothing in version 6 -/
theorem set_nx_get_v6 (ctx : Ctx) (db : Db) (nd : NodupKeys db.dict) (ne : NoEmpty db.dict) (ht : ctx.time = db.time)
    (k v a g : Bytes) (ha : IsWord a .nx) (hg : IsWord g .get) (hv : ctx.version < 7) :
    let out := runRegular sigSet Cmd.set ctx none [k, v, a, g] db
    (out.reply, out.db.live) = (synErr, db.live) := by
  refine (set_of ctx db nd ne ht k v (opts := [a, g])
    (by rw [parse_flag _ _ _ _ _ ha (Or.inl rfl), parse_flag _ _ _ _ _ hg (Or.inr (Or.inr (Or.inr rfl))),
      parse_nil])).trans ?_
  simp [setSpec, hv]

/-- SET NX GET in version 7 is allowed: it writes iff the key is not live and returns the old string or nil
(WRONGTYPE if the key holds a non-string) -/
theorem set_nx_get_v7 (ctx : Ctx) (db : Db) (nd : NodupKeys db.dict) (ne : NoEmpty db.dict) (ht : ctx.time = db.time)
    (k v a g : Bytes) (ha : IsWord a .nx) (hg : IsWord g .get) (hv : ¬ ctx.version < 7) :
    let out := runRegular sigSet Cmd.set ctx none [k, v, a, g] db
    (out.reply, out.db.live) =
      if notStr (db.live k) then (wrongtype, db.live)
      else if (db.live k).isSome then (oldStr (db.live k), db.live)
      else (oldStr (db.live k), upd db.live k (some ⟨.str v, none⟩)) := by
  refine (set_of ctx db nd ne ht k v (opts := [a, g])
    (by rw [parse_flag _ _ _ _ _ ha (Or.inl rfl), parse_flag _ _ _ _ _ hg (Or.inr (Or.inr (Or.inr rfl))),
      parse_nil])).trans ?_
  cases hl : notStr (db.live k) <;> cases hs : (db.live k).isSome <;> simp [setSpec, setDeadline, hv, hl, hs]

/-- `SET k v KEEPTTL` keeps the deadline of the old entry (none for a missing key) -/
theorem set_keepttl (ctx : Ctx) (db : Db) (nd : NodupKeys db.dict) (ne : NoEmpty db.dict) (ht : ctx.time = db.time)
    (k v a : Bytes) (ha : IsWord a .keepttl) :
    let out := runRegular sigSet Cmd.set ctx none [k, v, a] db
    (out.reply, out.db.live) = (.ok, upd db.live k (some ⟨.str v, (db.live k).bind (·.expireat)⟩)) := by
  refine (set_of ctx db nd ne ht k v (opts := [a])
    (by rw [parse_flag _ _ _ _ _ ha (Or.inr (Or.inr (Or.inl rfl))), parse_nil])).trans ?_
  simp [setSpec, setDeadline]

/-- `SET k v EX n`: deadline now + n seconds (the clock counts 100 ns ticks); a non-positive or too large `n`
is an error that changes nothing -/
theorem set_ex (ctx : Ctx) (db : Db) (nd : NodupKeys db.dict) (ne : NoEmpty db.dict) (ht : ctx.time = db.time)
    (k v a n : Bytes) (ha : IsWord a .ex) (ex : Int) (hn : Conv.int n = .ok ex) :
    let out := runRegular sigSet Cmd.set ctx none [k, v, a, n] db
    (out.reply, out.db.live) =
      if ex ≤ 0 ∨ db.time + ex * TICKS ≥ 2 ^ 63 * TICKS_MS then
        (.err (strBytes (Msgs.fmt1 Msgs.INVALID_EXPIRE_MSG "set")), db.live)
      else (.ok, upd db.live k (some ⟨.str v, some (db.time + ex * TICKS)⟩)) := by
  have h := set_table ctx db nd ne ht k v [a, n]
  simp only [parse_ex _ _ _ _ _ ha ex hn, parse_nil] at h
  show _ = _
  rw [h]
  by_cases hc : ex ≤ 0 ∨ db.time + ex * TICKS ≥ 2 ^ 63 * TICKS_MS
  · simp only [if_pos hc]
  · simp only [if_neg hc]; simp [setSpec, setDeadline]

/-- `SET k v PX n`: deadline now + n milliseconds -/
theorem set_px (ctx : Ctx) (db : Db) (nd : NodupKeys db.dict) (ne : NoEmpty db.dict) (ht : ctx.time = db.time)
    (k v a n : Bytes) (ha : IsWord a .px) (px : Int) (hn : Conv.int n = .ok px) :
    let out := runRegular sigSet Cmd.set ctx none [k, v, a, n] db
    (out.reply, out.db.live) =
      if px ≤ 0 ∨ db.time + px * TICKS_MS ≥ 2 ^ 63 * TICKS_MS then
        (.err (strBytes (Msgs.fmt1 Msgs.INVALID_EXPIRE_MSG "set")), db.live)
      else (.ok, upd db.live k (some ⟨.str v, some (db.time + px * TICKS_MS)⟩)) := by
  have h := set_table ctx db nd ne ht k v [a, n]
  simp only [parse_px _ _ _ _ _ ha px hn, parse_nil] at h
  show _ = _
  rw [h]
  by_cases hc : px ≤ 0 ∨ db.time + px * TICKS_MS ≥ 2 ^ 63 * TICKS_MS
  · simp only [if_pos hc]
  · simp only [if_neg hc]; simp [setSpec, setDeadline]

/-- contradictory options: `NX XX` is a syntax error that changes nothing -/
theorem set_nx_xx (ctx : Ctx) (db : Db) (nd : NodupKeys db.dict) (ne : NoEmpty db.dict) (ht : ctx.time = db.time)
    (k v a b : Bytes) (ha : IsWord a .nx) (hb : IsWord b .xx) :
    let out := runRegular sigSet Cmd.set ctx none [k, v, a, b] db
    (out.reply, out.db.live) = (synErr, db.live) := by
  refine (set_of ctx db nd ne ht k v (opts := [a, b])
    (by rw [parse_flag _ _ _ _ _ ha (Or.inl rfl), parse_flag _ _ _ _ _ hb (Or.inr (Or.inl rfl)), parse_nil])).trans ?_
  simp [setSpec]

/-- contradictory options: `EX n PX m` (both valid numbers) is a syntax error that changes nothing -/
theorem set_ex_px (ctx : Ctx) (db : Db) (nd : NodupKeys db.dict) (ne : NoEmpty db.dict) (ht : ctx.time = db.time)
    (k v a n b m : Bytes) (ha : IsWord a .ex) (hb : IsWord b .px) (ex px : Int) (hn : Conv.int n = .ok ex)
    (hm : Conv.int m = .ok px)
    (hex : ¬ (ex ≤ 0 ∨ db.time + ex * TICKS ≥ 2 ^ 63 * TICKS_MS))
    (hpx : ¬ (px ≤ 0 ∨ db.time + px * TICKS_MS ≥ 2 ^ 63 * TICKS_MS)) :
    let out := runRegular sigSet Cmd.set ctx none [k, v, a, n, b, m] db
    (out.reply, out.db.live) = (synErr, db.live) := by
  refine (set_of ctx db nd ne ht k v (opts := [a, n, b, m])
    (by rw [parse_ex _ _ _ _ _ ha ex hn, if_neg hex, parse_px _ _ _ _ _ hb px hm, if_neg hpx, parse_nil])).trans ?_
  simp [setSpec]

/-- contradictory options: `KEEPTTL EX n` is a syntax error that changes nothing -/
theorem set_keepttl_ex (ctx : Ctx) (db : Db) (nd : NodupKeys db.dict) (ne : NoEmpty db.dict)
    (ht : ctx.time = db.time) (k v a b n : Bytes) (ha : IsWord a .keepttl) (hb : IsWord b .ex) (ex : Int)
    (hn : Conv.int n = .ok ex) (hex : ¬ (ex ≤ 0 ∨ db.time + ex * TICKS ≥ 2 ^ 63 * TICKS_MS)) :
    let out := runRegular sigSet Cmd.set ctx none [k, v, a, b, n] db
    (out.reply, out.db.live) = (synErr, db.live) := by
  refine (set_of ctx db nd ne ht k v (opts := [a, b, n])
    (by rw [parse_flag _ _ _ _ _ ha (Or.inr (Or.inr (Or.inl rfl))), parse_ex _ _ _ _ _ hb ex hn, if_neg hex,
      parse_nil])).trans ?_
  simp [setSpec]

/-- non-vacuity: the option words in any letter case, a valid `EX` argument, a database satisfying the
standing hypotheses with a string, a list and an entry with a deadline -/
example : IsWord [78, 120] .nx ∧ IsWord [88, 88] .xx ∧ IsWord [103, 69, 116] .get ∧
    IsWord [75, 69, 69, 80, 84, 84, 76] .keepttl ∧ IsWord [101, 88] .ex ∧ IsWord [80, 88] .px := by
  simp [IsWord, casematch, casenorm, nullTerminate, lowerByte, Word.lit, lit_nx, lit_xx, lit_get, lit_keepttl,
    lit_ex, lit_px]
example : Conv.int [49, 48] = .ok 10 ∧ ¬ ((10 : Int) ≤ 0 ∨ (50 : Int) + 10 * TICKS ≥ 2 ^ 63 * TICKS_MS) := by
  refine ⟨rfl, by decide⟩
example :
    let db : Db := ⟨[([97], ⟨.str [49], some 70⟩), ([98], ⟨.list [[1]], none⟩), ([99], ⟨.str [50], some 3⟩)], 50⟩
    NodupKeys db.dict ∧ NoEmpty db.dict ∧ strView (db.live [97]) = some ([49], some 70) ∧
      (db.live [99]).isSome = false ∧ notStr (db.live [98]) = true := by
  refine ⟨by decide, ?_, by decide, by decide, by decide⟩
  intro p hp
  simp only [List.mem_cons, List.not_mem_nil, or_false] at hp
  rcases hp with rfl | rfl | rfl <;> rfl

/-! ## 2. GET, STRLEN, GETSET, SETNX, SETEX, PSETEX, MGET, MSET, MSETNX -/

/-- GET: the string, nil for a missing key, WRONGTYPE for another type; nothing changes -/
theorem get_spec (ctx : Ctx) (db : Db) (nd : NodupKeys db.dict) (k : Bytes) :
    let out := runRegular sigGet Cmd.get ctx none [k] db
    (out.reply, out.db.live) =
      match db.live k with
      | none => (.nil, db.live)
      | some ⟨.str b, _⟩ => (.bulk b, db.live)
      | some _ => (wrongtype, db.live) :=
  (refinement "get" _ _ rfl ctx _ db nd).trans (get_runL ctx db.time db.live k (fresh db k))

/-- STRLEN: the length, 0 for a missing key -/
theorem strlen_spec (ctx : Ctx) (db : Db) (nd : NodupKeys db.dict) (k : Bytes) :
    let out := runRegular sigStrlen Cmd.strlen ctx none [k] db
    (out.reply, out.db.live) =
      match db.live k with
      | none => (.int 0, db.live)
      | some ⟨.str b, _⟩ => (.int b.length, db.live)
      | some _ => (wrongtype, db.live) :=
  (refinement "strlen" _ _ rfl ctx _ db nd).trans (strlen_runL ctx db.time db.live k (fresh db k))

/-- GETSET: old string or nil; afterwards the key holds `v` without deadline; WRONGTYPE changes nothing -/
theorem getset_spec (ctx : Ctx) (db : Db) (nd : NodupKeys db.dict) (k v : Bytes) :
    let out := runRegular sigGetset Cmd.getset ctx none [k, v] db
    (out.reply, out.db.live) =
      match db.live k with
      | none => (.nil, upd db.live k (some ⟨.str v, none⟩))
      | some ⟨.str b, _⟩ => (.bulk b, upd db.live k (some ⟨.str v, none⟩))
      | some _ => (wrongtype, db.live) :=
  (refinement "getset" _ _ rfl ctx _ db nd).trans (getset_runL ctx db.time db.live k v (fresh db k))

/-- SETNX: writes (reply 1) iff the key is not live (of any type), else reply 0 and nothing changes -/
theorem setnx_spec (ctx : Ctx) (db : Db) (nd : NodupKeys db.dict) (ne : NoEmpty db.dict) (k v : Bytes) :
    let out := runRegular sigSetnx Cmd.setnx ctx none [k, v] db
    (out.reply, out.db.live) =
      match db.live k with
      | none => (.int 1, upd db.live k (some ⟨.str v, none⟩))
      | some _ => (.int 0, db.live) :=
  (refinement "setnx" _ _ rfl ctx _ db nd).trans (setnx_runL ctx db.time db.live k v (full ne k))

/-- SETEX k n v: deadline now + n seconds -/
theorem setex_spec (ctx : Ctx) (db : Db) (nd : NodupKeys db.dict) (ht : ctx.time = db.time) (k sb v : Bytes) :
    let out := runRegular sigSetex Cmd.setex ctx none [k, sb, v] db
    (out.reply, out.db.live) =
      match Conv.int sb with
      | .error m => (.err (strBytes m), db.live)
      | .ok secs =>
        if secs ≤ 0 ∨ db.time + secs * TICKS ≥ 2 ^ 63 * TICKS_MS then
          (.err (strBytes (Msgs.fmt1 Msgs.INVALID_EXPIRE_MSG "setex")), db.live)
        else (.ok, upd db.live k (some ⟨.str v, some (db.time + secs * TICKS)⟩)) :=
  (refinement "setex" _ _ rfl ctx _ db nd).trans (setex_runL ctx db.time db.live ht k sb v)

/-- PSETEX k n v: deadline now + n milliseconds -/
theorem psetex_spec (ctx : Ctx) (db : Db) (nd : NodupKeys db.dict) (ht : ctx.time = db.time) (k sb v : Bytes) :
    let out := runRegular sigPsetex Cmd.psetex ctx none [k, sb, v] db
    (out.reply, out.db.live) =
      match Conv.int sb with
      | .error m => (.err (strBytes m), db.live)
      | .ok ms =>
        if ms ≤ 0 ∨ db.time + ms * TICKS_MS ≥ 2 ^ 63 * TICKS_MS then
          (.err (strBytes (Msgs.fmt1 Msgs.INVALID_EXPIRE_MSG "psetex")), db.live)
        else (.ok, upd db.live k (some ⟨.str v, some (db.time + ms * TICKS_MS)⟩)) :=
  (refinement "psetex" _ _ rfl ctx _ db nd).trans (psetex_runL ctx db.time db.live ht k sb v)

/-- MGET: one element per argument, in order: the string, and nil for a missing key AND for a key of
another type (no WRONGTYPE); nothing changes -/
theorem mget_spec (ctx : Ctx) (db : Db) (nd : NodupKeys db.dict) (k : Bytes) (ks : List Bytes) :
    let out := runRegular sigMget Cmd.mget ctx none (k :: ks) db
    (out.reply, out.db.live) = (.arr ((k :: ks).map (fun x => mgetOne (db.live x))), db.live) :=
  (refinement "mget" _ _ rfl ctx _ db nd).trans (mget_runL ctx db.time db.live k ks)

theorem mgetOne_cases (oi : Option Item) :
    mgetOne oi = match oi with | some ⟨.str b, _⟩ => .bulk b | _ => .nil := rfl

/-- MSET k₁ v₁ …: OK; the pairs are written from left to right without deadline (`msetLive`) -/
theorem mset_spec (ctx : Ctx) (db : Db) (nd : NodupKeys db.dict) (p : Bytes × Bytes) (ps : List (Bytes × Bytes)) :
    let out := runRegular sigMset Cmd.mset ctx none (flat (p :: ps)) db
    (out.reply, out.db.live) = (.ok, msetLive db.live (p :: ps)) :=
  (refinement "mset" _ _ rfl ctx _ db nd).trans (mset_runL ctx db.time db.live p ps)

/-- after MSET a key named by some pair holds the value of the last pair naming it, and every other key is
untouched -/
theorem mset_last_wins (live : Bytes → Option Item) (ps : List (Bytes × Bytes)) (x : Bytes) :
    msetLive live ps x =
      match ps.reverse.find? (fun q => q.1 == x) with
      | some q => some ⟨.str q.2, none⟩
      | none => live x :=
  msetLive_apply live ps x

/-- MSETNX: all or nothing — reply 0 and nothing written if any named key is live, else everything is
written as by MSET and the reply is 1 -/
theorem msetnx_spec (ctx : Ctx) (db : Db) (nd : NodupKeys db.dict) (ne : NoEmpty db.dict) (p : Bytes × Bytes)
    (ps : List (Bytes × Bytes)) :
    let out := runRegular sigMsetnx Cmd.msetnx ctx none (flat (p :: ps)) db
    (out.reply, out.db.live) =
      if (p :: ps).any (fun q => (db.live q.1).isSome) then (.int 0, db.live)
      else (.int 1, msetLive db.live (p :: ps)) :=
  (refinement "msetnx" _ _ rfl ctx _ db nd).trans (msetnx_runL ctx db.time db.live (liveOK ne) p ps)

example : flat [([97], [1]), ([98], [2]), ([97], [3])] = [[97], [1], [98], [2], [97], [3]] ∧
    (msetLive (fun _ => none) [([97], [1]), ([98], [2]), ([97], [3])] [97]).map (·.expireat) = some none := by
  decide

/-! ## 3. INCR, DECR, INCRBY, DECRBY, INCRBYFLOAT -/

/-- the counter step (`incrSpec`), spelled out: a missing key counts as the string "0" without deadline;
the stored string must be a canonical signed 64-bit decimal (`Conv.int`, see `FR.Props.C01.incr_stored_accepted`)
and the sum must stay in range — otherwise an error and no change; on success the reply is the sum, the key
holds its decimal string and keeps its deadline -/
theorem incrSpec_unfolded (live : Bytes → Option Item) (k : Bytes) (a : Int) :
    incrSpec live k a =
      (match live k with
        | none => incrOn live k (strBytes "0") none a
        | some ⟨.str b, e⟩ => incrOn live k b e a
        | some _ => (wrongtype, live)) ∧
    (∀ stored e, incrOn live k stored e a =
      match Conv.int stored with
      | .error m => (.err (strBytes m), live)
      | .ok cur =>
        if Conv.INT_MIN ≤ cur + a ∧ cur + a ≤ Conv.INT_MAX then
          (.int (cur + a), upd live k (some ⟨.str (intBytes (cur + a)), e⟩))
        else (.err (strBytes Msgs.OVERFLOW_MSG), live)) ∧
    Conv.int (strBytes "0") = .ok 0 :=
  ⟨rfl, fun _ _ => rfl, conv_int_zero⟩

theorem incr_spec (ctx : Ctx) (db : Db) (nd : NodupKeys db.dict) (ne : NoEmpty db.dict) (k : Bytes) :
    let out := runRegular sigIncr Cmd.incr ctx none [k] db
    (out.reply, out.db.live) = incrSpec db.live k 1 :=
  (refinement "incr" _ _ rfl ctx _ db nd).trans (incr_runL ctx db.time db.live k (fresh db k))

theorem decr_spec (ctx : Ctx) (db : Db) (nd : NodupKeys db.dict) (ne : NoEmpty db.dict) (k : Bytes) :
    let out := runRegular sigDecr Cmd.decr ctx none [k] db
    (out.reply, out.db.live) = incrSpec db.live k (-1) :=
  (refinement "decr" _ _ rfl ctx _ db nd).trans (decr_runL ctx db.time db.live k (fresh db k))

theorem incrby_spec (ctx : Ctx) (db : Db) (nd : NodupKeys db.dict) (ne : NoEmpty db.dict) (k nb : Bytes) :
    let out := runRegular sigIncrby Cmd.incrby ctx none [k, nb] db
    (out.reply, out.db.live) =
      match Conv.int nb with
      | .error m => (.err (strBytes m), db.live)
      | .ok a => incrSpec db.live k a :=
  (refinement "incrby" _ _ rfl ctx _ db nd).trans (incrby_runL ctx db.time db.live k nb (fresh db k))

/-- DECRBY k n: `n` must be a 64-bit integer; `n = -9223372036854775808` (which cannot be negated) is refused
with "decrement would overflow" and nothing changes, whatever string the key holds and also for a missing key
(a key of another type is WRONGTYPE, as for every amount); every other `n` is `INCRBY k (-n)` -/
theorem decrby_spec (ctx : Ctx) (db : Db) (nd : NodupKeys db.dict) (ne : NoEmpty db.dict) (k nb : Bytes) :
    let out := runRegular sigDecrby Cmd.decrby ctx none [k, nb] db
    (out.reply, out.db.live) =
      match Conv.int nb with
      | .error m => (.err (strBytes m), db.live)
      | .ok a =>
        if a = -9223372036854775808 then
          match db.live k with
          | none => (.err (strBytes Msgs.DECR_OVERFLOW_MSG), db.live)
          | some ⟨.str _, _⟩ => (.err (strBytes Msgs.DECR_OVERFLOW_MSG), db.live)
          | some _ => (wrongtype, db.live)
        else incrSpec db.live k (-a) :=
  (refinement "decrby" _ _ rfl ctx _ db nd).trans (decrby_runL ctx db.time db.live k nb (fresh db k))

/-- INCRBYFLOAT: both the stored string and the increment are decoded by `Conv.float`; an infinite or NaN
sum is an error that changes nothing; otherwise the reply and the stored string are the sum formatted by the
model's `Dbl` formatter (`encodeFloat`, which normalises `-0` in version 7), and the deadline is kept -/
theorem incrbyfloat_spec (ctx : Ctx) (db : Db) (nd : NodupKeys db.dict) (ne : NoEmpty db.dict) (k amount : Bytes) :
    let out := runRegular sigIncrbyfloat Cmd.incrbyfloat ctx none [k, amount] db
    (out.reply, out.db.live) =
      match db.live k with
      | none => incrFloatOn ctx.version db.live k (strBytes "0") none amount
      | some ⟨.str b, e⟩ => incrFloatOn ctx.version db.live k b e amount
      | some _ => (wrongtype, db.live) :=
  (refinement "incrbyfloat" _ _ rfl ctx _ db nd).trans
    (incrbyfloat_runL ctx db.time db.live k amount (fresh db k))

theorem incrFloatOn_unfolded (version : Nat) (live : Bytes → Option Item) (k stored : Bytes) (e : Option Int)
    (amount : Bytes) :
    incrFloatOn version live k stored e amount =
      match Conv.float stored with
      | .error m => (.err (strBytes m), live)
      | .ok cur =>
        match Conv.float amount with
        | .error m => (.err (strBytes m), live)
        | .ok a =>
          if (Dbl.add cur a).isFinite then
            (.bulk (Cmd.encodeFloat version (Dbl.add cur a) true),
              upd live k (some ⟨.str (Cmd.encodeFloat version (Dbl.add cur a) true), e⟩))
          else (.err (strBytes Msgs.NONFINITE_MSG), live) := rfl

example :
    let live : Bytes → Option Item := fun k => if k = [97] then some ⟨.str [57, 57], some 70⟩ else none
    intView (incrSpec live [97] 1).1 = some 100 ∧
    strView ((incrSpec live [97] 1).2 [97]) = some ([49, 48, 48], some 70) := by
  with_unfolding_all decide

/-- `DECRBY k -9223372036854775808` is REFUSED (as Redis ≥ 6.2.7 / 7.0 do): for every stored string — in
particular a negative one, where the unbounded sum would be in range — and for a missing key the reply is
"ERR decrement would overflow" and the key space is unchanged.
(Before the fix the model answered `SET k -1`, `DECRBY k -9223372036854775808` with `9223372036854775807`.) -/
theorem decrby_int_min_refused (ctx : Ctx) (db : Db) (nd : NodupKeys db.dict) (ne : NoEmpty db.dict) (k nb : Bytes)
    (hn : Conv.int nb = .ok (-(2 ^ 63))) (hstr : notStr (db.live k) = false) :
    let out := runRegular sigDecrby Cmd.decrby ctx none [k, nb] db
    (out.reply, out.db.live) = (.err (strBytes Msgs.DECR_OVERFLOW_MSG), db.live) := by
  have h := decrby_spec ctx db nd ne k nb
  have h63 : (-(2 ^ 63) : Int) = -9223372036854775808 := by decide
  simp only [hn, h63, if_true] at h
  show _ = _
  rw [h]
  cases hl : db.live k with
  | none => rfl
  | some it =>
    obtain ⟨v, e⟩ := it
    cases v with
    | str b => rfl
    | _ => simp [hl, notStr] at hstr

/-- every other amount still behaves as `INCRBY k (-n)` -/
theorem decrby_other (ctx : Ctx) (db : Db) (nd : NodupKeys db.dict) (ne : NoEmpty db.dict) (k nb : Bytes) (a : Int)
    (hn : Conv.int nb = .ok a) (ha : a ≠ -(2 ^ 63)) :
    let out := runRegular sigDecrby Cmd.decrby ctx none [k, nb] db
    (out.reply, out.db.live) = incrSpec db.live k (-a) := by
  have h := decrby_spec ctx db nd ne k nb
  have h63 : (-(2 ^ 63) : Int) = -9223372036854775808 := by decide
  rw [h63] at ha
  simp only [hn, if_neg ha] at h
  exact h

/-- non-vacuity: the amount is a valid 64-bit integer, the witness key of the old finding holds the string `-1` -/
example :
    let live : Bytes → Option Item := fun k => if k = [97] then some ⟨.str [45, 49], none⟩ else none
    Conv.int [45, 57, 50, 50, 51, 51, 55, 50, 48, 51, 54, 56, 53, 52, 55, 55, 53, 56, 48, 56] = .ok (-(2 ^ 63)) ∧
    notStr (live [97]) = false ∧ notStr (live [98]) = false ∧
    Conv.int [53] = .ok 5 ∧ (5 : Int) ≠ -(2 ^ 63) := by
  refine ⟨rfl, by decide, by decide, rfl, by decide⟩

/-! ## 3b. the in-place string commands on the key space (their byte-level content is `FR.Props.C01`) -/

/-- APPEND: a missing key counts as the empty string; the key holds old ++ v and keeps its deadline; the
reply is the new length; exceeding 512 MB is an error that changes nothing -/
theorem append_spec (ctx : Ctx) (db : Db) (nd : NodupKeys db.dict) (ne : NoEmpty db.dict) (k v : Bytes) :
    let out := runRegular sigAppend Cmd.append ctx none [k, v] db
    (out.reply, out.db.live) =
      match db.live k with
      | none => appendOn db.live k [] none v
      | some ⟨.str b, e⟩ => appendOn db.live k b e v
      | some _ => (wrongtype, db.live) :=
  (refinement "append" _ _ rfl ctx _ db nd).trans (append_runL ctx db.time db.live k v (fresh db k))

theorem appendOn_unfolded (live : Bytes → Option Item) (k old : Bytes) (e : Option Int) (v : Bytes) :
    appendOn live k old e v =
      if old.length + v.length > Conv.MAX_STRING_SIZE then (.err (strBytes Msgs.STRING_OVERFLOW_MSG), live)
      else (.int ((old ++ v).length), upd live k (some ⟨.str (old ++ v), e⟩)) := rfl

/-- GETRANGE / SUBSTR: the window `getrangeSpec` of the stored string (empty for a missing key) -/
theorem getrange_spec (sig : Sig) (hsig : sig = sigGetrange ∨ sig = sigSubstr) (ctx : Ctx) (db : Db)
    (nd : NodupKeys db.dict) (ne : NoEmpty db.dict) (k sb eb : Bytes) (s e : Int)
    (hs : Conv.int sb = .ok s) (he : Conv.int eb = .ok e) :
    let out := runRegular sig Cmd.getrange ctx none [k, sb, eb] db
    (out.reply, out.db.live) =
      match db.live k with
      | none => (.bulk (FR.Spec.getrangeSpec [] s e), db.live)
      | some ⟨.str b, _⟩ => (.bulk (FR.Spec.getrangeSpec b s e), db.live)
      | some _ => (wrongtype, db.live) := by
  have hb : Cmd.regular "getrange" = some Cmd.getrange := rfl
  exact (refinement "getrange" _ _ hb ctx _ db nd).trans
    (getrange_runL sig hsig ctx db.time db.live k sb eb (fresh db k) s e hs he)

theorem getrange_tables :
    (SigTable.find "getrange" = some sigGetrange ∧ Cmd.regular "getrange" = some Cmd.getrange) ∧
    (SigTable.find "substr" = some sigSubstr ∧ Cmd.regular "substr" = some Cmd.getrange) ∧
    (SigTable.find "setrange" = some sigSetrange ∧ Cmd.regular "setrange" = some Cmd.setrange) ∧
    (SigTable.find "getbit" = some sigGetbit ∧ Cmd.regular "getbit" = some Cmd.getbit) ∧
    (SigTable.find "setbit" = some sigSetbit ∧ Cmd.regular "setbit" = some Cmd.setbit) :=
  ⟨⟨by decide, rfl⟩, ⟨by decide, rfl⟩, ⟨by decide, rfl⟩, ⟨by decide, rfl⟩, ⟨by decide, rfl⟩⟩

/-- SETRANGE (`setrangeOn`): negative offset and exceeding 512 MB are errors; an empty value writes nothing
and replies the current length; otherwise the key holds `setrangeBytes old off v` (zero padded) and keeps
its deadline -/
theorem setrange_spec (ctx : Ctx) (db : Db) (nd : NodupKeys db.dict) (ne : NoEmpty db.dict) (k ob v : Bytes)
    (off : Int) (ho : Conv.int ob = .ok off) :
    let out := runRegular sigSetrange Cmd.setrange ctx none [k, ob, v] db
    (out.reply, out.db.live) =
      match db.live k with
      | none => setrangeOn db.live k [] none off v
      | some ⟨.str b, e⟩ => setrangeOn db.live k b e off v
      | some _ => (wrongtype, db.live) :=
  (refinement "setrange" _ _ rfl ctx _ db nd).trans
    (setrange_runL ctx db.time db.live k ob v (fresh db k) off ho)

theorem setrangeOn_unfolded (live : Bytes → Option Item) (k old : Bytes) (e : Option Int) (off : Int) (v : Bytes) :
    setrangeOn live k old e off v =
      if off < 0 then (.err (strBytes Msgs.INVALID_OFFSET_MSG), live)
      else if v.isEmpty then (.int old.length, live)
      else if off + v.length > Conv.MAX_STRING_SIZE then (.err (strBytes Msgs.STRING_OVERFLOW_MSG), live)
      else (.int (FR.Spec.setrangeBytes old off.toNat v).length,
        upd live k (some ⟨.str (FR.Spec.setrangeBytes old off.toNat v), e⟩)) := rfl

/-- GETBIT: the bit of the stored string (0 beyond the end and for a missing key) -/
theorem getbit_spec (ctx : Ctx) (db : Db) (nd : NodupKeys db.dict) (ne : NoEmpty db.dict) (k ob : Bytes)
    (off : Int) (ho : Conv.bitOffset ob = .ok off) :
    let out := runRegular sigGetbit Cmd.getbit ctx none [k, ob] db
    (out.reply, out.db.live) =
      match db.live k with
      | none => (.int (FR.Spec.getBitBytes [] off), db.live)
      | some ⟨.str b, _⟩ => (.int (FR.Spec.getBitBytes b off), db.live)
      | some _ => (wrongtype, db.live) :=
  (refinement "getbit" _ _ rfl ctx _ db nd).trans (getbit_runL ctx db.time db.live k ob (fresh db k) off ho)

/-- SETBIT: replies the previous bit; the key holds `setBitBytes` of the old string (of `[0]` for a missing
key) and keeps its deadline -/
theorem setbit_spec (ctx : Ctx) (db : Db) (nd : NodupKeys db.dict) (ne : NoEmpty db.dict) (k ob vb : Bytes)
    (off value : Int) (ho : Conv.bitOffset ob = .ok off) (hv : Conv.bitValue vb = .ok value) :
    let out := runRegular sigSetbit Cmd.setbit ctx none [k, ob, vb] db
    (out.reply, out.db.live) =
      match db.live k with
      | none => (.int (FR.Spec.getBitBytes [0] off),
          upd db.live k (some ⟨.str (FR.Spec.setBitBytes [0] off value), none⟩))
      | some ⟨.str b, e⟩ => (.int (FR.Spec.getBitBytes b off),
          upd db.live k (some ⟨.str (FR.Spec.setBitBytes b off value), e⟩))
      | some _ => (wrongtype, db.live) :=
  (refinement "setbit" _ _ rfl ctx _ db nd).trans
    (setbit_runL ctx db.time db.live k ob vb (fresh db k) off value ho hv)

example : Conv.int [45, 51] = .ok (-3) ∧ Conv.bitOffset [57] = .ok 9 ∧ Conv.bitValue [49] = .ok 1 ∧
    Conv.bitValue [50] = .error Msgs.INVALID_BIT_VALUE_MSG := ⟨rfl, rfl, rfl, rfl⟩

/-! ## 4. DEL, UNLINK, EXISTS, TYPE, BITCOUNT -/

/-- DEL: the reply is the number of DISTINCT live keys among the arguments (a key given twice counts once):
it is the length of a duplicate-free list `d` whose elements are exactly the live argument keys.
Afterwards none of the argument keys is live and every other key is untouched. -/
theorem del_spec (ctx : Ctx) (db : Db) (nd : NodupKeys db.dict) (ne : NoEmpty db.dict) (k : Bytes) (ks : List Bytes) :
    let out := runRegular sigDel Cmd.del ctx none (k :: ks) db
    ∃ d : List Bytes, d.Nodup ∧ (∀ x, x ∈ d ↔ x ∈ k :: ks ∧ (db.live x).isSome = true) ∧
      out.reply = .int d.length ∧
      ∀ x, out.db.live x = if x ∈ k :: ks then none else db.live x :=
  del_reads (k :: ks)
    ((refinement "del" _ _ rfl ctx _ db nd).trans (del_runL _ _ _ _ _ ctx db.time db.live (liveOK ne) k ks))

/-- UNLINK is DEL -/
theorem unlink_spec (ctx : Ctx) (db : Db) (nd : NodupKeys db.dict) (ne : NoEmpty db.dict) (k : Bytes)
    (ks : List Bytes) :
    let out := runRegular sigUnlink Cmd.del ctx none (k :: ks) db
    ∃ d : List Bytes, d.Nodup ∧ (∀ x, x ∈ d ↔ x ∈ k :: ks ∧ (db.live x).isSome = true) ∧
      out.reply = .int d.length ∧
      ∀ x, out.db.live x = if x ∈ k :: ks then none else db.live x :=
  del_reads (k :: ks)
    ((refinement "unlink" _ _ rfl ctx _ db nd).trans (del_runL _ _ _ _ _ ctx db.time db.live (liveOK ne) k ks))

/-- EXISTS counts WITH multiplicity: a live key given twice counts twice -/
theorem exists_spec (ctx : Ctx) (db : Db) (nd : NodupKeys db.dict) (ne : NoEmpty db.dict) (k : Bytes)
    (ks : List Bytes) :
    let out := runRegular sigExists Cmd.exists_ ctx none (k :: ks) db
    (out.reply, out.db.live) = (.int (((k :: ks).filter (fun x => (db.live x).isSome)).length), db.live) :=
  (refinement "exists" _ _ rfl ctx _ db nd).trans (exists_runL ctx db.time db.live (liveOK ne) k ks)

example :
    let live : Bytes → Option Item := fun k => if k = [97] then some ⟨.str [], none⟩ else none
    (delKeys live [[97], [98], [97]] []).length = 1 ∧
      ([[97], [98], [97]].filter (fun x => (live x).isSome)).length = 2 := by decide

/-- TYPE: "none" or the name of the stored type -/
theorem type_spec (ctx : Ctx) (db : Db) (nd : NodupKeys db.dict) (k : Bytes) :
    let out := runRegular sigType Cmd.type_ ctx none [k] db
    (out.reply, out.db.live) =
      (.status (strBytes (match db.live k with | none => "none" | some it => it.value.ty.name)), db.live) :=
  (refinement "type" _ _ rfl ctx _ db nd).trans (type_runL ctx db.time db.live k)

/-- BITCOUNT k [start end]: 0 for a missing key; for a string the number of set bits (`popcount8` summed) of
the whole string, or of the GETRANGE window `getrangeSpec v start end` (bytes, inclusive, negative = from the
end); start/end that are not integers are errors; any other number of extra arguments is a syntax error -/
theorem bitcount_spec (ctx : Ctx) (db : Db) (nd : NodupKeys db.dict) (k : Bytes) (rest : List Bytes) :
    let out := runRegular sigBitcount Cmd.bitcount ctx none (k :: rest) db
    (out.reply, out.db.live) =
      match db.live k with
      | none => (.int 0, db.live)
      | some ⟨.str b, _⟩ => (bitcountReply b rest, db.live)
      | some _ => (wrongtype, db.live) :=
  (refinement "bitcount" _ _ rfl ctx _ db nd).trans (bitcount_runL ctx db.time db.live k rest)

/-- OBSERVATION (to be compared with a real 7.0 server): for a missing key the reply is 0 whatever the extra
arguments are, in both emulated versions — `BITCOUNT nokey a b`, `BITCOUNT nokey 0` and
`BITCOUNT nokey 0 -1 BIT` all reply 0 (the `missing_return` short-circuit of the signature runs before the body) -/
theorem bitcount_missing_ignores_args (ctx : Ctx) (db : Db) (nd : NodupKeys db.dict) (k : Bytes) (rest : List Bytes)
    (hk : db.live k = none) :
    let out := runRegular sigBitcount Cmd.bitcount ctx none (k :: rest) db
    (out.reply, out.db.live) = (.int 0, db.live) := by
  have h := bitcount_spec ctx db nd k rest
  simp only [hk] at h
  exact h

theorem bitcountReply_unfolded (v : Bytes) :
    bitcountReply v [] = .int ((v.map popcount8).sum) ∧
    (∀ a b s e, Conv.int a = .ok s → Conv.int b = .ok e →
      bitcountReply v [a, b] = .int (((FR.Spec.getrangeSpec v s e).map popcount8).sum)) ∧
    (∀ a, bitcountReply v [a] = synErr) ∧
    (∀ a b c t, bitcountReply v (a :: b :: c :: t) = synErr) := by
  refine ⟨rfl, ?_, fun _ => rfl, fun _ _ _ _ => rfl⟩
  intro a b s e ha hb
  simp [bitcountReply, ha, hb]

example : intView (bitcountReply [255, 1, 3] []) = some 11 ∧ popcount8 255 = 8 := by decide

/-! ## 5. RENAME, RENAMENX -/

/-- RENAME k nk: "no such key" and no change if `k` is not live; otherwise OK and (`renamed`) the
destination holds the source's item (value AND deadline), the source is gone, other keys are untouched;
`RENAME k k` on a live key leaves the key space as it is -/
theorem rename_spec (ctx : Ctx) (db : Db) (nd : NodupKeys db.dict) (ne : NoEmpty db.dict) (k nk : Bytes) :
    let out := runRegular sigRename Cmd.rename ctx none [k, nk] db
    (out.reply, out.db.live) =
      match db.live k with
      | none => (.err (strBytes Msgs.NO_KEY_MSG), db.live)
      | some it => (.ok, renamed db.live k nk it) :=
  (refinement "rename" _ _ rfl ctx _ db nd).trans (rename_runL ctx db.time db.live k nk (fresh db k) (full ne k))

theorem renamed_unfolded (live : Bytes → Option Item) (k nk : Bytes) (it : Item) :
    renamed live k nk it = if nk = k then live else upd (upd live k none) nk (some it) := rfl

/-- after a successful rename to a different key -/
theorem renamed_apply (live : Bytes → Option Item) (k nk : Bytes) (it : Item) (h : nk ≠ k) (x : Bytes) :
    renamed live k nk it x = if x = nk then some it else if x = k then none else live x := by
  simp [renamed, h, upd]

/-- RENAMENX k nk: "no such key" if `k` is not live; reply 0 and no change if the destination is live
(in particular for `nk = k`); otherwise reply 1 and the rename is performed -/
theorem renamenx_spec (ctx : Ctx) (db : Db) (nd : NodupKeys db.dict) (ne : NoEmpty db.dict) (k nk : Bytes) :
    let out := runRegular sigRenamenx Cmd.renamenx ctx none [k, nk] db
    (out.reply, out.db.live) =
      match db.live k with
      | none => (.err (strBytes Msgs.NO_KEY_MSG), db.live)
      | some it => if (db.live nk).isSome then (.int 0, db.live) else (.int 1, renamed db.live k nk it) :=
  (refinement "renamenx" _ _ rfl ctx _ db nd).trans (renamenx_runL ctx db.time db.live k nk (fresh db k) (full ne k) (fun _ => full ne nk))

example :
    let live : Bytes → Option Item := fun k => if k = [97] then some ⟨.str [1], some 9⟩ else none
    strView (renamed live [97] [98] ⟨.str [1], some 9⟩ [98]) = some ([1], some 9) ∧
    (renamed live [97] [98] ⟨.str [1], some 9⟩ [97]).isSome = false ∧
    strView (renamed live [97] [97] ⟨.str [1], some 9⟩ [97]) = some ([1], some 9) := by decide

/-! ## 6. DUMP, RESTORE -/

/-- DUMP: nil for a missing key, else the (opaque) payload `dumpMagic ++ dumpValue value`; nothing changes -/
theorem dump_spec (ctx : Ctx) (db : Db) (nd : NodupKeys db.dict) (k : Bytes) :
    let out := runRegular sigDump Cmd.dump ctx none [k] db
    (out.reply, out.db.live) =
      (match db.live k with
        | none => .nil
        | some it => .bulk (Cmd.dumpMagic ++ Cmd.dumpValue it.value), db.live) :=
  (refinement "dump" _ _ rfl ctx _ db nd).trans (dump_runL ctx db.time db.live k)

/-- RESTORE k ttl payload [options] (`restoreSpec`): the ttl must be an integer; every option must spell
REPLACE (else syntax error); BUSYKEY if `k` is live and there is no REPLACE; a payload that does not decode
(`decodePayload`) is an error; a negative ttl is an error; all of these change nothing.  Otherwise `k` holds
the decoded value with deadline none (ttl = 0) or now + ttl milliseconds (`restoredItem`). -/
theorem restore_spec (ctx : Ctx) (db : Db) (nd : NodupKeys db.dict) (ne : NoEmpty db.dict) (ht : ctx.time = db.time)
    (k ttlb payload : Bytes) (opts : List Bytes) :
    let out := runRegular sigRestore Cmd.restore ctx none (k :: ttlb :: payload :: opts) db
    (out.reply, out.db.live) =
      match Conv.int ttlb with
      | .error m => (.err (strBytes m), db.live)
      | .ok ttl => restoreSpec db.time db.live k payload opts ttl :=
  (refinement "restore" _ _ rfl ctx _ db nd).trans
    (restore_runL ctx db.time db.live ht k ttlb payload (full ne k) opts)

/-- `restore_spec` once the ttl is converted -/
theorem restore_of (ctx : Ctx) (db : Db) (nd : NodupKeys db.dict) (ne : NoEmpty db.dict) (ht : ctx.time = db.time)
    (k : Bytes) {ttlb : Bytes} (payload : Bytes) (opts : List Bytes) {ttl : Int} (httl : Conv.int ttlb = .ok ttl) :
    ((runRegular sigRestore Cmd.restore ctx none (k :: ttlb :: payload :: opts) db).reply,
      (runRegular sigRestore Cmd.restore ctx none (k :: ttlb :: payload :: opts) db).db.live) =
      restoreSpec db.time db.live k payload opts ttl :=
  (restore_spec ctx db nd ne ht k ttlb payload opts).trans (by rw [httl])

theorem restoreSpec_unfolded (time : Int) (live : Bytes → Option Item) (k payload : Bytes) (opts : List Bytes)
    (ttl : Int) :
    restoreSpec time live k payload opts ttl =
      (if !opts.all (fun a => casematch a "replace") then (synErr, live)
       else if (live k).isSome && !(!opts.isEmpty) then (.err (strBytes Msgs.RESTORE_KEY_EXISTS), live)
       else
         match decodePayload payload with
         | none => (.err (strBytes Msgs.RESTORE_INVALID_CHECKSUM_MSG), live)
         | some v =>
           if ttl < 0 then (.err (strBytes Msgs.RESTORE_INVALID_TTL_MSG), live)
           else (.ok, upd live k (if v.isEmptyColl then none
                   else some ⟨v, if ttl = 0 then none else some (time + ttl * TICKS_MS)⟩))) := rfl

/-- RESTORE of a payload that decodes to the non-empty value `v'`, with any number of REPLACE words: BUSYKEY (and no
change) iff the key is live and there is no REPLACE; otherwise the key holds `v'` with the requested deadline -/
theorem restore_of_decoded (ctx : Ctx) (db : Db) (nd : NodupKeys db.dict) (ne : NoEmpty db.dict)
    (ht : ctx.time = db.time) (k : Bytes) {ttlb payload : Bytes} {ttl : Int} (httl : Conv.int ttlb = .ok ttl)
    (h0 : 0 ≤ ttl) {v' : Value} (hdec : decodePayload payload = some v') (hv : v'.isEmptyColl = false)
    (opts : List Bytes) (hopts : ∀ a ∈ opts, casematch a "replace" = true) :
    ((runRegular sigRestore Cmd.restore ctx none (k :: ttlb :: payload :: opts) db).reply,
      (runRegular sigRestore Cmd.restore ctx none (k :: ttlb :: payload :: opts) db).db.live) =
      if (db.live k).isSome = true ∧ opts = [] then (.err (strBytes Msgs.RESTORE_KEY_EXISTS), db.live)
      else (.ok, upd db.live k (some ⟨v', if ttl = 0 then none else some (db.time + ttl * TICKS_MS)⟩)) := by
  refine (restore_of ctx db nd ne ht k payload opts httl).trans ?_
  have hall : opts.all (fun a => casematch a "replace") = true := by
    rw [List.all_eq_true]; exact hopts
  have hn : ¬ ttl < 0 := by omega
  unfold restoreSpec
  simp only [hall, Bool.not_true, Bool.false_eq_true, if_false, hdec, hn, restoredItem, hv]
  cases opts with
  | nil => cases hl : (db.live k).isSome <;> simp
  | cons a as => simp

/-- RESTORE with a payload that does not decode, on a free key or with REPLACE: the payload error, nothing changes -/
theorem restore_undecoded (ctx : Ctx) (db : Db) (nd : NodupKeys db.dict) (ne : NoEmpty db.dict)
    (ht : ctx.time = db.time) (k : Bytes) {ttlb payload : Bytes} {ttl : Int} (httl : Conv.int ttlb = .ok ttl)
    (hbad : decodePayload payload = none)
    (opts : List Bytes) (hopts : ∀ a ∈ opts, casematch a "replace" = true)
    (hfree : (db.live k).isSome = true → opts ≠ []) :
    ((runRegular sigRestore Cmd.restore ctx none (k :: ttlb :: payload :: opts) db).reply,
      (runRegular sigRestore Cmd.restore ctx none (k :: ttlb :: payload :: opts) db).db.live) =
      (.err (strBytes Msgs.RESTORE_INVALID_CHECKSUM_MSG), db.live) := by
  refine (restore_of ctx db nd ne ht k payload opts httl).trans ?_
  have hall : opts.all (fun a => casematch a "replace") = true := by
    rw [List.all_eq_true]; exact hopts
  unfold restoreSpec
  simp only [hall, Bool.not_true, Bool.false_eq_true, if_false, hbad]
  cases opts with
  | nil =>
    cases hl : (db.live k).isSome with
    | false => simp
    | true => exact absurd rfl (hfree hl)
  | cons a as => simp

/-- `DUMP k₀` then `RESTORE k ttl payload [REPLACE …]`, where the payload of the value `v` at `k₀` decodes to `v'` and
`k` is free or a REPLACE is given: both succeed, and the key space afterwards is the one before with `k` holding `v'`
and the requested deadline -/
theorem dump_then_restore_run (ctx : Ctx) (db : Db) (nd : NodupKeys db.dict) (ne : NoEmpty db.dict)
    (ht : ctx.time = db.time) (k0 k : Bytes) {ttlb : Bytes} {v v' : Value} {e0 : Option Int} {ttl : Int}
    (hlive : db.live k0 = some ⟨v, e0⟩) (hdec : decodePayload (Cmd.dumpMagic ++ Cmd.dumpValue v) = some v')
    (hv : v'.isEmptyColl = false) (httl : Conv.int ttlb = .ok ttl) (hpos : 0 ≤ ttl)
    (opts : List Bytes) (hopts : ∀ a ∈ opts, casematch a "replace" = true)
    (hfree : (db.live k).isSome = true → opts ≠ []) :
    ∃ payload, (runRegular sigDump Cmd.dump ctx none [k0] db).reply = .bulk payload ∧
      let db1 := (runRegular sigDump Cmd.dump ctx none [k0] db).db
      let o2 := runRegular sigRestore Cmd.restore ctx none (k :: ttlb :: payload :: opts) db1
      o2.reply = .ok ∧
      o2.db.live = upd db.live k (some ⟨v', if ttl = 0 then none else some (db.time + ttl * TICKS_MS)⟩) ∧
      NodupKeys o2.db.dict ∧ NoEmpty o2.db.dict ∧ o2.db.time = db.time := by
  have hd := dump_spec ctx db nd k0
  simp only [hlive] at hd
  have hl1 : (runRegular sigDump Cmd.dump ctx none [k0] db).db.live = db.live := congrArg Prod.snd hd
  obtain ⟨nd1, ne1, t1⟩ := runRegular_keeps sigDump Cmd.dump ctx none [k0] nd ne
  refine ⟨_, congrArg Prod.fst hd, ?_⟩
  intro db1 o2
  have hrs := restore_of_decoded ctx db1 nd1 ne1 (ht.trans t1.symm) k httl hpos hdec hv opts hopts
  rw [if_neg (fun h => hfree (hl1 ▸ h.1) h.2)] at hrs
  obtain ⟨nd2, ne2, t2⟩ := runRegular_keeps sigRestore Cmd.restore ctx none
    (k :: ttlb :: (Cmd.dumpMagic ++ Cmd.dumpValue v) :: opts) nd1 ne1
  refine ⟨congrArg Prod.fst hrs, ?_, nd2, ne2, t2.trans t1⟩
  exact (congrArg Prod.snd hrs).trans (by rw [show db1.live = db.live from hl1, show db1.time = db.time from t1])

/-- the same into a free key `k ≠ k₀`, without options: the facts the three-step theorems start from -/
theorem copy_made (ctx : Ctx) (db : Db) (nd : NodupKeys db.dict) (ne : NoEmpty db.dict)
    (ht : ctx.time = db.time) (k0 k : Bytes) {ttlb : Bytes} {v v' : Value} {e0 : Option Int} {ttl : Int}
    (hlive : db.live k0 = some ⟨v, e0⟩) (hdec : decodePayload (Cmd.dumpMagic ++ Cmd.dumpValue v) = some v')
    (hv : v'.isEmptyColl = false) (hk : db.live k = none) (hne : k ≠ k0)
    (httl : Conv.int ttlb = .ok ttl) (hpos : 0 ≤ ttl) :
    ∃ payload, (runRegular sigDump Cmd.dump ctx none [k0] db).reply = .bulk payload ∧
      let db1 := (runRegular sigDump Cmd.dump ctx none [k0] db).db
      let o2 := runRegular sigRestore Cmd.restore ctx none [k, ttlb, payload] db1
      o2.reply = .ok ∧
      o2.db.live k = some ⟨v', if ttl = 0 then none else some (db.time + ttl * TICKS_MS)⟩ ∧
      o2.db.live k0 = some ⟨v, e0⟩ ∧
      NodupKeys o2.db.dict ∧ NoEmpty o2.db.dict := by
  obtain ⟨payload, h1, h2⟩ := dump_then_restore_run ctx db nd ne ht k0 k hlive hdec hv httl hpos []
    (by intro a ha; cases ha) (by rw [hk]; intro h; cases h)
  refine ⟨payload, h1, ?_⟩
  intro db1 o2
  obtain ⟨r2, l2, nd2, ne2, _⟩ := h2
  obtain ⟨hk2, hk02⟩ := upd_frame l2 hne
  exact ⟨r2, hk2, hk02.trans hlive, nd2, ne2⟩

/-- the payload of `DUMP` decodes to what `loadValue` makes of the dumped body -/
theorem decode_of_dump (v : Value) : decodePayload (Cmd.dumpMagic ++ Cmd.dumpValue v) = Cmd.loadValue (Cmd.dumpValue v) :=
  decodePayload_dump _

/-- the payload of a string decodes to the same string, for arbitrary bytes -/
theorem dump_roundtrip_str (b : Bytes) : decodePayload (Cmd.dumpMagic ++ Cmd.dumpValue (.str b)) = some (.str b) := by
  rw [decode_of_dump, loadValue_dumpValue_str]

/-- RESTORE of the payload of a dumped string: without REPLACE it fails with BUSYKEY on a live key and
changes nothing; otherwise `k` holds a value equal to the dumped string with the requested deadline -/
theorem restore_of_dump_str (ctx : Ctx) (db : Db) (nd : NodupKeys db.dict) (ne : NoEmpty db.dict)
    (ht : ctx.time = db.time) (k ttlb : Bytes) (ttl : Int) (httl : Conv.int ttlb = .ok ttl) (h0 : 0 ≤ ttl)
    (b : Bytes) :
    let out := runRegular sigRestore Cmd.restore ctx none [k, ttlb, Cmd.dumpMagic ++ Cmd.dumpValue (.str b)] db
    (out.reply, out.db.live) =
      if (db.live k).isSome then (.err (strBytes Msgs.RESTORE_KEY_EXISTS), db.live)
      else (.ok, upd db.live k (some ⟨.str b, if ttl = 0 then none else some (db.time + ttl * TICKS_MS)⟩)) :=
  (restore_of_decoded ctx db nd ne ht k httl h0 (dump_roundtrip_str b) rfl [] nofun).trans (by simp)

/-- the same with REPLACE (any letter case): the key is overwritten, whatever it held -/
theorem restore_replace_of_dump_str (ctx : Ctx) (db : Db) (nd : NodupKeys db.dict) (ne : NoEmpty db.dict)
    (ht : ctx.time = db.time) (k ttlb r : Bytes) (hr : casematch r "replace" = true) (ttl : Int)
    (httl : Conv.int ttlb = .ok ttl) (h0 : 0 ≤ ttl) (b : Bytes) :
    let out := runRegular sigRestore Cmd.restore ctx none [k, ttlb, Cmd.dumpMagic ++ Cmd.dumpValue (.str b), r] db
    (out.reply, out.db.live) =
      (.ok, upd db.live k (some ⟨.str b, if ttl = 0 then none else some (db.time + ttl * TICKS_MS)⟩)) :=
  (restore_of_decoded ctx db nd ne ht k httl h0 (dump_roundtrip_str b) rfl [r] (by simpa using hr)).trans (by simp)

/-- a payload that is not a DUMP output (wrong header or malformed body) is an error that changes nothing -/
theorem restore_bad_payload (ctx : Ctx) (db : Db) (nd : NodupKeys db.dict) (ne : NoEmpty db.dict)
    (ht : ctx.time = db.time) (k ttlb payload : Bytes) (ttl : Int) (httl : Conv.int ttlb = .ok ttl)
    (hbad : decodePayload payload = none) (hfree : db.live k = none) :
    let out := runRegular sigRestore Cmd.restore ctx none [k, ttlb, payload] db
    (out.reply, out.db.live) = (.err (strBytes Msgs.RESTORE_INVALID_CHECKSUM_MSG), db.live) :=
  restore_undecoded ctx db nd ne ht k httl hbad [] nofun (by simp [hfree])

/-- FINDING (the ABSTIME clause of the property is FALSE of the model): every option word other than REPLACE —
in particular `ABSTIME` — makes RESTORE fail with a syntax error and change nothing.
Witness: `RESTORE k 0 <payload> ABSTIME`. -/
theorem restore_abstime_unsupported (ctx : Ctx) (db : Db) (nd : NodupKeys db.dict) (ne : NoEmpty db.dict)
    (ht : ctx.time = db.time) (k ttlb payload : Bytes) (ttl : Int) (httl : Conv.int ttlb = .ok ttl)
    (opts : List Bytes) (a : Bytes) (ha : a ∈ opts) (hna : casematch a "replace" = false) :
    let out := runRegular sigRestore Cmd.restore ctx none (k :: ttlb :: payload :: opts) db
    (out.reply, out.db.live) = (synErr, db.live) := by
  refine (restore_of ctx db nd ne ht k payload opts httl).trans ?_
  have : opts.all (fun a => casematch a "replace") = false := by
    rw [List.all_eq_false]; exact ⟨a, ha, by simp [hna]⟩
  simp [restoreSpec, this]

theorem lit_replace : strBytes "replace" = [114, 101, 112, 108, 97, 99, 101] := by rw [strBytes_eq]; rfl

/-- `ABSTIME` (any spelling that is not REPLACE) is such a word; `replace` in mixed case is accepted -/
example : casematch [65, 66, 83, 84, 73, 77, 69] "replace" = false ∧
    casematch [82, 101, 80, 76, 65, 67, 69] "replace" = true := by
  simp [casematch, casenorm, nullTerminate, lowerByte, lit_replace]

/-- Error precedence in the model (to be compared with a real server): the ttl is converted by `Signature.apply`
before anything else, so a non-integer ttl is reported even when the key is live (where a real server says
BUSYKEY). -/
theorem restore_bad_int_before_busykey (ctx : Ctx) (db : Db) (nd : NodupKeys db.dict) (ne : NoEmpty db.dict)
    (ht : ctx.time = db.time) (k ttlb payload : Bytes) (opts : List Bytes) (m : Err)
    (httl : Conv.int ttlb = .error m) :
    let out := runRegular sigRestore Cmd.restore ctx none (k :: ttlb :: payload :: opts) db
    (out.reply, out.db.live) = (.err (strBytes m), db.live) := by
  have h := restore_spec ctx db nd ne ht k ttlb payload opts
  simp only [httl] at h
  exact h

/-- The payload is checked before the sign of the ttl: `RESTORE freekey -1 garbage` replies with the
payload error, not with "Invalid TTL" (Redis 6.2/7.0 check the ttl first).  Witness: any free key, ttl `-1`,
payload `x`. -/
theorem restore_payload_before_ttl (ctx : Ctx) (db : Db) (nd : NodupKeys db.dict) (ne : NoEmpty db.dict)
    (ht : ctx.time = db.time) (k ttlb payload : Bytes) (ttl : Int) (httl : Conv.int ttlb = .ok ttl)
    (_hneg : ttl < 0) (hbad : decodePayload payload = none) (hfree : db.live k = none) :
    let out := runRegular sigRestore Cmd.restore ctx none [k, ttlb, payload] db
    (out.reply, out.db.live) = (.err (strBytes Msgs.RESTORE_INVALID_CHECKSUM_MSG), db.live) :=
  restore_bad_payload ctx db nd ne ht k ttlb payload ttl httl hbad hfree

example : Conv.int [45, 49] = .ok (-1) ∧ decodePayload [120] = none := by
  refine ⟨rfl, ?_⟩
  have h : strBytes "FRDUMP:" = [70, 82, 68, 85, 77, 80, 58] := by rw [strBytes_eq]; rfl
  simp [decodePayload, Cmd.dumpMagic, h]

/-- Independent copy, as a three-step run: `DUMP k₀` (a string), `RESTORE k ttl payload` into a free key
`k ≠ k₀`, then an in-place change of the copy (`APPEND k x`).  The copy got the dumped bytes and the requested
deadline, the APPEND changed the copy only, and `k₀` still holds exactly what it held before. -/
theorem dump_restore_independent_copy (ctx : Ctx) (db : Db) (nd : NodupKeys db.dict) (ne : NoEmpty db.dict)
    (ht : ctx.time = db.time) (k0 k ttlb x : Bytes) (b : Bytes) (e0 : Option Int) (ttl : Int)
    (h0 : db.live k0 = some ⟨.str b, e0⟩) (hk : db.live k = none) (hne : k ≠ k0)
    (httl : Conv.int ttlb = .ok ttl) (hpos : 0 ≤ ttl)
    (hlen : ¬ (b.length + x.length > Conv.MAX_STRING_SIZE)) :
    let o1 := runRegular sigDump Cmd.dump ctx none [k0] db
    ∃ payload, o1.reply = .bulk payload ∧
      let o2 := runRegular sigRestore Cmd.restore ctx none [k, ttlb, payload] o1.db
      let o3 := runRegular sigAppend Cmd.append ctx none [k, x] o2.db
      o2.reply = .ok ∧
      o2.db.live k = some ⟨.str b, if ttl = 0 then none else some (db.time + ttl * TICKS_MS)⟩ ∧
      o2.db.live k0 = some ⟨.str b, e0⟩ ∧
      o3.reply = .int ((b ++ x).length) ∧
      o3.db.live k = some ⟨.str (b ++ x), if ttl = 0 then none else some (db.time + ttl * TICKS_MS)⟩ ∧
      o3.db.live k0 = some ⟨.str b, e0⟩ := by
  intro o1
  obtain ⟨payload, h1, h2⟩ := copy_made ctx db nd ne ht k0 k h0 (dump_roundtrip_str b) rfl hk hne httl hpos
  refine ⟨payload, h1, ?_⟩
  intro o2 o3
  obtain ⟨r2, hk2, hk02, nd2, _⟩ := h2
  have hk2 : o2.db.live k = some ⟨.str b, if ttl = 0 then none else some (db.time + ttl * TICKS_MS)⟩ := hk2
  have ha := (refinement "append" _ _ rfl ctx [k, x] o2.db nd2).trans
    (append_runL ctx o2.db.time o2.db.live k x (fresh o2.db k))
  simp only [hk2, appendOn, if_neg hlen] at ha
  -- split the pair: `Prod.snd (_, o3.db.live) k` against `o3.db.live k` makes the unifier unfold `Db.live` of the run
  obtain ⟨hr3, hl3⟩ := Prod.mk.inj ha
  obtain ⟨h3, h03⟩ := upd_frame hl3 hne
  exact ⟨r2, hk2, hk02, hr3, h3, h03.trans hk02⟩

/-- non-vacuity of the three-step theorem -/
example :
    let db : Db := ⟨[([97], ⟨.str [1, 2], some 70⟩)], 50⟩
    NodupKeys db.dict ∧ NoEmpty db.dict ∧ strView (db.live [97]) = some ([1, 2], some 70) ∧
      (db.live [98]).isSome = false ∧
      ([98] : Bytes) ≠ [97] ∧ Conv.int [53] = .ok 5 ∧
      ¬ (([1, 2] : Bytes).length + ([3] : Bytes).length > Conv.MAX_STRING_SIZE) := by
  refine ⟨by decide, ?_, by decide, by decide, by decide, rfl, by decide⟩
  intro p hp
  simp only [List.mem_cons, List.not_mem_nil, or_false] at hp
  subst hp; rfl

end FR.Props.C01k

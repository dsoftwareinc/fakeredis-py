import FR.Proofs.System
import FR.Proofs.Prologue
/-!
# C05 — MULTI / EXEC / DISCARD / WATCH: a queued command has no effect on the data, EXEC runs the queue in order with
the runner used outside, the error and abort paths, normal mode afterwards

`s.conn c` abbreviates `(M.getConn c s).1`; `s.HasConn c` says a connection with id `c` is registered in
`s.srv.conns` (for an unregistered id `getConn` returns a default record and `modifyConn` does nothing).
`Conn.normal x` is `x.tx = none ∧ x.watches = [] ∧ x.watchNotified = false`.
-/
namespace FR.C05
open FR FR.M

/-! ## 1. MULTI -/

theorem multi_opens (s : Sys) (c : Nat) (cis : List CI) (hc : s.HasConn c) (h : (s.conn c).tx = none) :
    (multiCmd c cis s).1 = .ok (some .ok, cis) ∧
    ((multiCmd c cis s).2.conn c).tx = some [] ∧
    ((multiCmd c cis s).2.conn c).txFailed = false ∧
    (multiCmd c cis s).2.srv.dbs = s.srv.dbs := by
  rw [multiCmd_run_none cis h]
  refine ⟨rfl, ?_, ?_, rfl⟩ <;>
  · rw [Sys.conn_updConn_same (fun x => { x with tx := some [], txFailed := false }) hc (fun _ => rfl)]

theorem multi_nested_error (s : Sys) (c : Nat) (cis : List CI) (h : (s.conn c).tx.isSome) :
    multiCmd c cis s = (.error Msgs.MULTI_NESTED_MSG, s) :=
  multiCmd_run_some cis h

example : ∃ s : Sys, s.HasConn 7 ∧ (s.conn 7).tx = none ∧ (multiCmd 7 [] s).1 = .ok (some .ok, []) :=
  ⟨{ srv := { conns := [{ id := 7 }] } }, ⟨_, List.mem_singleton.2 rfl, rfl⟩, rfl, rfl⟩

/-! ## 2. a queued command has no effect on the data -/

theorem queued_state (s : Sys) (mode : Mode) (c : Nat) (nameB : Bytes) (args : List Bytes)
    (n : String) (sig : Sig) (q : List (String × List Bytes))
    (hclosed : s.srv.closedSockets = [])
    (hname : commandName nameB = some n) (hus : n.startsWith "_" = false)
    (hfind : SigTable.find n = some sig) (harity : sig.checkArity args.length = true)
    (hnq : sig.name ∉ SigTable.notQueued)
    (hnm : sig.name ∉ SigTable.notInMulti)
    (htx : (s.conn c).tx = some q) :
    processCommand mode c (nameB :: args) s = ((),
      (s.refresh.updConn c fun x => { x with tx := x.tx.map (· ++ [(sig.name, args)]) }).emitS c .queued) := by
  rw [processCommand_eq, Sys.processed_known mode c args s (lookupSig_of_find hname hus hfind),
    Sys.dispatched_queued _ _ _ _ _ _ harity (by rw [htx]; simpa using hnq) (by simpa using hnm),
    Sys.prologue_of_no_closed hclosed]

/-- the whole event is: clock refresh, append to the queue, reply `QUEUED` -/
theorem queued_no_effect_eq (s : Sys) (mode : Mode) (c : Nat) (nameB : Bytes) (args : List Bytes)
    (n : String) (sig : Sig) (q : List (String × List Bytes))
    (hclosed : s.srv.closedSockets = [])
    (hname : commandName nameB = some n) (hus : n.startsWith "_" = false)
    (hfind : SigTable.find n = some sig) (harity : sig.checkArity args.length = true)
    (hnq : sig.name ∉ SigTable.notQueued)
    (hnm : sig.name ∉ SigTable.notInMulti)
    (htx : (s.conn c).tx = some q) :
    processCommand mode c (nameB :: args) s = (do
      let now ← nextClock
      modify fun s => { s with srv := { s.srv with time := now } }
      modifyConn c fun x => { x with tx := x.tx.map (· ++ [(sig.name, args)]) }
      emit c .queued : M Unit) s :=
  (queued_state s mode c nameB args n sig q hclosed hname hus hfind harity hnq hnm htx).trans (by
    simp only [bind, StateT.bind, modifyConn_run, emit_run]; rfl)

theorem queued_no_effect (s : Sys) (mode : Mode) (c : Nat) (nameB : Bytes) (args : List Bytes)
    (n : String) (sig : Sig) (q : List (String × List Bytes))
    (hclosed : s.srv.closedSockets = [])
    (hname : commandName nameB = some n) (hus : n.startsWith "_" = false)
    (hfind : SigTable.find n = some sig) (harity : sig.checkArity args.length = true)
    (hnq : sig.name ∉ SigTable.notQueued)
    (hnm : sig.name ∉ SigTable.notInMulti)
    (htx : (s.conn c).tx = some q) :
    let s' := (processCommand mode c (nameB :: args) s).2
    s'.out = (if (s.conn c).closed then s.out else (c, Reply.queued) :: s.out) ∧
    (s'.conn c).tx = some (q ++ [(sig.name, args)]) ∧
    s'.srv.dbs = s.srv.dbs ∧ s'.srv.subs = s.srv.subs ∧ s'.srv.psubs = s.srv.psubs := by
  intro s'
  obtain ⟨h1, h2, h3, h4, h5, _⟩ := s.prologue_answered c
    (fun x => { x with tx := x.tx.map (· ++ [(sig.name, args)]) }) .queued (fun _ => rfl) (fun _ => rfl)
  rw [Sys.prologue_of_no_closed hclosed] at h1 h2 h3 h4 h5
  rw [show s' = _ from congrArg Prod.snd
    (queued_state s mode c nameB args n sig q hclosed hname hus hfind harity hnq hnm htx)]
  refine ⟨h1, ?_, h3, h4.trans (Sys.refresh_subs s), h5.trans (Sys.refresh_psubs s)⟩
  rw [h2 (Sys.hasConn_of_tx (by rw [htx]; rfl)), Sys.refresh_conn]
  simp only [htx, Option.map_some]

example : ∃ (s : Sys) (sig : Sig), s.srv.closedSockets = [] ∧ commandName [71, 69, 84] = some "get" ∧
    ("get".startsWith "_") = false ∧ SigTable.find "get" = some sig ∧ sig.checkArity 1 = true ∧
    sig.name ∉ SigTable.notQueued ∧ sig.name ∉ SigTable.notInMulti ∧ (s.conn 7).tx = some [] :=
  ⟨{ srv := { conns := [{ id := 7, tx := some [] }] } }, _, rfl, by simp [commandName, bytesStr, lowerByte],
    by simp, rfl, by decide, by decide, by decide, rfl⟩

/-! ## 2b. (P)SUBSCRIBE / (P)UNSUBSCRIBE inside MULTI are refused, not queued -/

theorem refused_state (s : Sys) (mode : Mode) (c : Nat) (nameB : Bytes) (args : List Bytes)
    (n : String) (sig : Sig) (q : List (String × List Bytes))
    (hclosed : s.srv.closedSockets = [])
    (hname : commandName nameB = some n) (hus : n.startsWith "_" = false)
    (hfind : SigTable.find n = some sig) (harity : sig.checkArity args.length = true)
    (hnq : sig.name ∉ SigTable.notQueued)
    (hnm : sig.name ∈ SigTable.notInMulti)
    (htx : (s.conn c).tx = some q) :
    processCommand mode c (nameB :: args) s = ((),
      (s.refresh.updConn c fun x => { x with txFailed := true }).emitS c
        (.err (strBytes Msgs.COMMAND_IN_MULTI_MSG))) := by
  rw [processCommand_eq, Sys.processed_known mode c args s (lookupSig_of_find hname hus hfind),
    Sys.dispatched_refused _ _ _ _ _ _ harity (by rw [htx]; simpa using hnq) (by simpa using hnm),
    Sys.prologue_of_no_closed hclosed]
  rfl

/-- the whole event is: clock refresh, `txFailed := true`, the error reply; nothing is queued -/
theorem refused_in_multi_eq (s : Sys) (mode : Mode) (c : Nat) (nameB : Bytes) (args : List Bytes)
    (n : String) (sig : Sig) (q : List (String × List Bytes))
    (hclosed : s.srv.closedSockets = [])
    (hname : commandName nameB = some n) (hus : n.startsWith "_" = false)
    (hfind : SigTable.find n = some sig) (harity : sig.checkArity args.length = true)
    (hnq : sig.name ∉ SigTable.notQueued)
    (hnm : sig.name ∈ SigTable.notInMulti)
    (htx : (s.conn c).tx = some q) :
    processCommand mode c (nameB :: args) s = (do
      let now ← nextClock
      modify fun s => { s with srv := { s.srv with time := now } }
      modifyConn c fun x => { x with txFailed := true }
      emit c (.err (strBytes Msgs.COMMAND_IN_MULTI_MSG)) : M Unit) s :=
  processCommand_refused mode c nameB args hclosed hname hus hfind harity (by simpa using hnq)
    (by simpa using hnm) htx

theorem refused_in_multi (s : Sys) (mode : Mode) (c : Nat) (nameB : Bytes) (args : List Bytes)
    (n : String) (sig : Sig) (q : List (String × List Bytes))
    (hclosed : s.srv.closedSockets = [])
    (hname : commandName nameB = some n) (hus : n.startsWith "_" = false)
    (hfind : SigTable.find n = some sig) (harity : sig.checkArity args.length = true)
    (hnq : sig.name ∉ SigTable.notQueued)
    (hnm : sig.name ∈ SigTable.notInMulti)
    (htx : (s.conn c).tx = some q) :
    let s' := (processCommand mode c (nameB :: args) s).2
    s'.out = (if (s.conn c).closed then s.out
              else (c, Reply.err (strBytes Msgs.COMMAND_IN_MULTI_MSG)) :: s.out) ∧
    (s'.conn c).tx = some q ∧ (s'.conn c).txFailed = true ∧
    s'.srv.dbs = s.srv.dbs ∧ s'.srv.subs = s.srv.subs ∧ s'.srv.psubs = s.srv.psubs := by
  intro s'
  obtain ⟨h1, h2, h3, h4, h5, _⟩ := s.prologue_answered c (fun x => { x with txFailed := true })
    (.err (strBytes Msgs.COMMAND_IN_MULTI_MSG)) (fun _ => rfl) (fun _ => rfl)
  rw [Sys.prologue_of_no_closed hclosed] at h1 h2 h3 h4 h5
  have hc := h2 (Sys.hasConn_of_tx (by rw [htx]; rfl))
  rw [show s' = _ from congrArg Prod.snd
    (refused_state s mode c nameB args n sig q hclosed hname hus hfind harity hnq hnm htx)]
  refine ⟨h1, ?_, by rw [hc], h3, h4.trans (Sys.refresh_subs s), h5.trans (Sys.refresh_psubs s)⟩
  rw [hc, Sys.refresh_conn]
  exact htx

example : ∃ (s : Sys) (sig : Sig), s.srv.closedSockets = [] ∧
    commandName [83, 85, 66, 83, 67, 82, 73, 66, 69] = some "subscribe" ∧
    ("subscribe".startsWith "_") = false ∧ SigTable.find "subscribe" = some sig ∧ sig.checkArity 1 = true ∧
    sig.name ∉ SigTable.notQueued ∧ sig.name ∈ SigTable.notInMulti ∧ (s.conn 7).tx = some [] :=
  ⟨{ srv := { conns := [{ id := 7, tx := some [] }] } }, _, rfl, by simp [commandName, bytesStr, lowerByte],
    by simp, rfl, by decide, by decide, by decide, rfl⟩

/-! ## 3. EXEC runs the queue sequentially -/

theorem exec_eq_sequential (s : Sys) (inner : Inner) (c : Nat) (cis : List CI) (q : List (String × List Bytes))
    (h : (s.conn c).tx = some q) (hf : (s.conn c).txFailed = false) (hw : (s.conn c).watchNotified = false) :
    execCmd inner c cis s = (do
      modifyConn c fun x => { x with tx := none, txFailed := false }
      clearWatches c
      let results ← runQueue inner c q
      if results.any Option.isNone then
        modify fun s => { s with crashed := some "AssertionError" }
        return .ok (none, cis)
      else okR (.arr (results.map fun r => r.getD .nil)) cis : M SpecialOut) s :=
  execCmd_eq_sequential inner cis h hf hw

/-- when every inner command answered, the reply is the array of the inner replies and the state is the
one the sequential run of the queue leaves -/
theorem exec_eq_sequential_reply (s : Sys) (inner : Inner) (c : Nat) (cis : List CI) (q : List (String × List Bytes))
    (h : (s.conn c).tx = some q) (hf : (s.conn c).txFailed = false) (hw : (s.conn c).watchNotified = false)
    (hall : ((do
        modifyConn c fun x => { x with tx := none, txFailed := false }
        clearWatches c
        runQueue inner c q : M (List (Option Reply))) s).1.any Option.isNone = false) :
    execCmd inner c cis s =
      let r := (do
        modifyConn c fun x => { x with tx := none, txFailed := false }
        clearWatches c
        runQueue inner c q : M (List (Option Reply))) s
      (.ok (some (.arr (r.1.map fun x => x.getD .nil)), cis), r.2) :=
  (execCmd_run inner cis h hf hw).trans (if_neg (fun h' => Bool.false_ne_true (hall.symm.trans h')))

/-- `runQueue` is a left-to-right fold -/
theorem runQueue_step (inner : Inner) (c : Nat) (fname : String) (fargs : List Bytes)
    (rest : List (String × List Bytes)) :
    runQueue inner c ((fname, fargs) :: rest) = (do
      let r ← (match SigTable.find fname with
        | none => do fault "exec: unknown queued command"; pure none
        | some sig => do
          modifyConn c fun x => { x with inTx := true }
          let r ← inner sig fargs
          modifyConn c fun x => { x with inTx := false }
          pure r : M (Option Reply))
      let rs ← runQueue inner c rest
      pure (r :: rs)) :=
  runQueue_cons inner c (fname, fargs) rest

theorem runQueue_nil (inner : Inner) (c : Nat) : runQueue inner c [] = pure [] := rfl

theorem runQueue_append (inner : Inner) (c : Nat) (q1 q2 : List (String × List Bytes)) :
    runQueue inner c (q1 ++ q2) = (do
      let r1 ← runQueue inner c q1
      let r2 ← runQueue inner c q2
      pure (r1 ++ r2)) :=
  FR.runQueue_append inner c q1 q2

example : ∃ s : Sys, (s.conn 7).tx = some [("ping", [])] ∧ (s.conn 7).txFailed = false ∧
    (s.conn 7).watchNotified = false :=
  ⟨{ srv := { conns := [{ id := 7, tx := some [("ping", [])] }] } }, rfl, rfl, rfl⟩

/-! ## 4. the commands inside EXEC are run by the same runner as outside -/

theorem runInner_eq_runCommand (mode : Mode) (c : Nat) (sig : Sig) (raw : List Bytes) (h : sig.name ≠ "exec") :
    runInner mode c sig raw = runCommand mode c sig raw false :=
  runInner_eq_runCommand' mode c sig raw h

example : ∃ sig : Sig, SigTable.find "get" = some sig ∧ sig.name ≠ "exec" := ⟨_, rfl, by decide⟩

/-! ## 5. error and abort paths -/

theorem exec_abort_on_queue_error (s : Sys) (inner : Inner) (c : Nat) (cis : List CI)
    (q : List (String × List Bytes)) (h : (s.conn c).tx = some q) (hf : (s.conn c).txFailed = true) :
    (execCmd inner c cis s).1 = .error Msgs.EXECABORT_MSG ∧
    ((execCmd inner c cis s).2.conn c).normal ∧
    (execCmd inner c cis s).2.srv.dbs = s.srv.dbs := by
  have hc : s.HasConn c := Sys.hasConn_of_tx (by rw [h]; rfl)
  rw [execCmd_run_failed inner cis h hf]
  exact ⟨rfl, clear_normal hc _ (fun _ => rfl) (fun _ => rfl), rfl⟩

theorem exec_without_multi (s : Sys) (inner : Inner) (c : Nat) (cis : List CI) (h : (s.conn c).tx = none) :
    execCmd inner c cis s = (.error (Msgs.fmt1 Msgs.WITHOUT_MULTI_MSG "EXEC"), s) :=
  execCmd_run_none inner cis h

theorem discard_without_multi (s : Sys) (c : Nat) (cis : List CI) (h : (s.conn c).tx = none) :
    discardCmd c cis s = (.error (Msgs.fmt1 Msgs.WITHOUT_MULTI_MSG "DISCARD"), s) :=
  discardCmd_run_none cis h

theorem discard_drops (s : Sys) (c : Nat) (cis : List CI) (h : (s.conn c).tx.isSome) :
    (discardCmd c cis s).1 = .ok (some .ok, cis) ∧
    ((discardCmd c cis s).2.conn c).normal ∧
    (discardCmd c cis s).2.srv.dbs = s.srv.dbs := by
  rw [discardCmd_run_some cis h]
  exact ⟨rfl, clear_normal (Sys.hasConn_of_tx h) _ (fun _ => rfl) (fun _ => rfl), rfl⟩

/-- the state (in particular `tx` with its queue) is kept -/
theorem watch_inside_multi_error (s : Sys) (c d : Nat) (args : List Arg) (cis : List CI)
    (h : (s.conn c).tx.isSome) : watchCmd c d args cis s = (.error Msgs.WATCH_INSIDE_MULTI_MSG, s) := by
  unfold watchCmd
  simp only [bind, StateT.bind, getConn_run, h]
  rfl

theorem exec_watch_dirty_nil (s : Sys) (inner : Inner) (c : Nat) (cis : List CI)
    (q : List (String × List Bytes)) (h : (s.conn c).tx = some q) (hf : (s.conn c).txFailed = false)
    (hw : (s.conn c).watchNotified = true) :
    (execCmd inner c cis s).1 = .ok (some .nil, cis) ∧
    ((execCmd inner c cis s).2.conn c).normal ∧
    (execCmd inner c cis s).2.srv.dbs = s.srv.dbs := by
  have hc : s.HasConn c := Sys.hasConn_of_tx (by rw [h]; rfl)
  rw [execCmd_run_dirty inner cis h hf hw]
  exact ⟨rfl, clear_normal hc _ (fun _ => rfl) (fun _ => rfl), rfl⟩

example : ∃ s : Sys, (s.conn 7).tx = some [("set", [[1], [2]])] ∧ (s.conn 7).txFailed = false ∧
    (s.conn 7).watchNotified = true ∧ (s.conn 8).tx = some [] ∧ (s.conn 8).txFailed = true ∧
    (s.conn 9).tx = none :=
  ⟨{ srv := { conns := [{ id := 7, tx := some [("set", [[1], [2]])], watchNotified := true },
      { id := 8, tx := some [], txFailed := true }] } }, rfl, rfl, rfl, rfl, rfl, rfl⟩

/-! ## 6. after EXEC / DISCARD the connection is back in normal mode -/

/-- EXEC issued inside a MULTI, any branch (abort, dirty watch, run, even the crash branch), for an inner
runner that does not itself open a transaction or watch keys on `c` for the queued commands -/
theorem after_exec_normal_mode (s : Sys) (inner : Inner) (c : Nat) (cis : List CI)
    (q : List (String × List Bytes)) (htx : (s.conn c).tx = some q)
    (hinner : ∀ a ∈ q, ∀ sig, SigTable.find a.1 = some sig →
      ∀ s : Sys, (s.conn c).normal → ((inner sig a.2 s).2.conn c).normal) :
    ((execCmd inner c cis s).2.conn c).tx = none ∧
    ((execCmd inner c cis s).2.conn c).watches = [] ∧
    ((execCmd inner c cis s).2.conn c).watchNotified = false :=
  execCmd_normal inner c cis s htx hinner

/-- the side condition of `after_exec_normal_mode` holds for the real inner runner on every regular command -/
theorem runInner_regular_keeps_normal (mode : Mode) (c : Nat) (sig : Sig) (raw : List Bytes) (body : Body)
    (h : Cmd.regular sig.name = some body) (s : Sys) (c' : Nat) (hn : (s.conn c').normal) :
    ((runInner mode c sig raw s).2.conn c').normal := by
  rw [runInner_regular_eq mode c sig raw h]
  exact runWith_regular_normal _ mode c sig raw false h s c' hn

/-- after an EXEC whose queue holds regular commands only the connection is back in normal mode -/
theorem after_exec_normal_mode_regular (s : Sys) (mode : Mode) (c : Nat) (cis : List CI)
    (q : List (String × List Bytes)) (htx : (s.conn c).tx = some q)
    (hreg : ∀ a ∈ q, ∀ sig, SigTable.find a.1 = some sig → (Cmd.regular sig.name).isSome) :
    ((execCmd (runInner mode c) c cis s).2.conn c).normal := by
  apply execCmd_normal _ c cis s htx
  intro a ha sig hs s' hn
  have := hreg a ha sig hs
  cases hb : Cmd.regular sig.name with
  | none => rw [hb] at this; simp at this
  | some body => exact runInner_regular_keeps_normal mode c sig a.2 body hb s' c hn

theorem after_discard_normal_mode (s : Sys) (c : Nat) (cis : List CI) (h : (s.conn c).tx.isSome) :
    ((discardCmd c cis s).2.conn c).tx = none ∧
    ((discardCmd c cis s).2.conn c).watches = [] ∧
    ((discardCmd c cis s).2.conn c).watchNotified = false :=
  (discard_drops s c cis h).2.1

example : ∃ (s : Sys) (q : List (String × List Bytes)), (s.conn 7).tx = some q ∧
    ∀ a ∈ q, ∀ sig, SigTable.find a.1 = some sig → (Cmd.regular sig.name).isSome :=
  ⟨{ srv := { conns := [{ id := 7, tx := some [("get", [[1]])] }] } }, _, rfl, by
    intro a ha sig hs
    simp only [List.mem_singleton] at ha
    subst ha
    have : sig = _ := (Option.some.inj hs).symm
    subst this
    rfl⟩

end FR.C05

import FR.Proofs.System
/-!
# C10 — pub/sub: deliveries of PUBLISH, acknowledgements of (P)SUBSCRIBE / (P)UNSUBSCRIBE,
channels are global (independent of the selected database)

`s.conn c` abbreviates `(M.getConn c s).1`; `s.HasConn c` says a connection with id `c` is registered
in `s.srv.conns`.  `Sys.out` lists the emitted replies newest first.
-/
namespace FR.C10
open FR FR.M

/-! ## 1. PUBLISH -/

/-- (a) who receives what -/
theorem deliveries_spec (srv : Server) (ch msg : Bytes) (c : Nat) (r : Reply) :
    (c, r) ∈ deliveries srv ch msg ↔
      (c ∈ (srv.subs.lookup ch).getD [] ∧ r = .arr [.bulk (strBytes "message"), .bulk ch, .bulk msg]) ∨
      (∃ pat cs, (pat, cs) ∈ srv.psubs ∧ Glob.globMatch pat ch = true ∧ c ∈ cs ∧
        r = .arr [.bulk (strBytes "pmessage"), .bulk pat, .bulk ch, .bulk msg]) :=
  mem_deliveries srv ch msg c r

/-- (c) channel deliveries (in the order of the channel's subscriber list) come before the pattern
deliveries (patterns in table order, each pattern's subscribers in list order) -/
theorem deliveries_channel_before_pattern (srv : Server) (ch msg : Bytes) :
    deliveries srv ch msg =
      ((srv.subs.lookup ch).getD []).map
        (fun c => (c, Reply.arr [.bulk (strBytes "message"), .bulk ch, .bulk msg]))
      ++ (srv.psubs.filter (fun p => Glob.globMatch p.1 ch)).flatMap fun p =>
        p.2.map fun c => (c, Reply.arr [.bulk (strBytes "pmessage"), .bulk p.1, .bulk ch, .bulk msg]) :=
  rfl

/-- (b) PUBLISH returns the number of deliveries, emits exactly these (to the connections that are not
closed) in this order (`out` is newest first), and changes nothing else -/
theorem publish_spec (ch msg : Bytes) (s : Sys) :
    (publish ch msg s).1 = (deliveries s.srv ch msg).length ∧
    (publish ch msg s).2 =
      { s with out := ((deliveries s.srv ch msg).filter fun d => !(s.conn d.1).closed).reverse ++ s.out } := by
  rw [publish_run]; exact ⟨rfl, rfl⟩

example :
    let s : Sys := { srv := { subs := [([1], [7, 8])], conns := [{ id := 7 }, { id := 8 }] } }
    (publish [1] [2] s).1 = 2 ∧ ((publish [1] [2] s).2.out.map Prod.fst) = [8, 7] := ⟨rfl, rfl⟩

/-! ## 2. acknowledgements -/

/-- one acknowledgement per name, all addressed to `c` -/
theorem subscribe_acks (c : Nat) (pattern : Bool) (names : List Bytes) (s : Sys)
    (hopen : (s.conn c).closed = false) :
    ∃ acks : List (Nat × Reply), (subscribeGen c pattern names s).2.out = acks ++ s.out ∧
      acks.length = names.length ∧ ∀ a ∈ acks, a.1 = c :=
  subscribeGen_out c pattern names s hopen

/-- a single name: the table is updated by `tblSubscribe`, the count grows by one iff `c` was not yet in
the entry, and the acknowledgement carries the new count -/
theorem subscribe_single (c : Nat) (pattern : Bool) (name : Bytes) (s : Sys) (hc : s.HasConn c) :
    let t := if pattern then s.srv.psubs else s.srv.subs
    let already := ((t.lookup name).getD []).contains c
    let s' := (subscribeGen c pattern [name] s).2
    (if pattern then s'.srv.psubs else s'.srv.subs) = (tblSubscribe t name c).1 ∧
    (s'.conn c).pubsub = (s.conn c).pubsub + (if already then 0 else 1) ∧
    s'.out = if (s.conn c).closed then s.out else
      (c, .arr [.bulk (strBytes (if pattern then "psubscribe" else "subscribe")), .bulk name,
        .int (s'.conn c).pubsub]) :: s.out := by
  intro t already s'
  have hs' : s' = (s.subState c pattern name).emitS c
      (subAck pattern name ((s.subState c pattern name).conn c).pubsub) := by
    show (subscribeGen c pattern [name] s).2 = _
    rw [subscribeGen_single_run]
  refine ⟨?_, ?_, ?_⟩
  · rw [hs', Sys.emitS_srv]; exact Sys.subState_tbl s c pattern name
  · rw [hs', Sys.emitS_conn]; exact Sys.subState_pubsub s c pattern name hc
  · rw [hs', Sys.emitS_out, Sys.emitS_conn, Sys.subState_out,
      Sys.subState_proj s c c pattern name Conn.closed (fun _ _ => rfl)]
    rfl

/-- `tblSubscribe` reports `true` iff `c` was not yet a member of the entry -/
theorem tblSubscribe_added (t : List (Bytes × List Nat)) (n : Bytes) (c : Nat) :
    (tblSubscribe t n c).2 = !((t.lookup n).getD []).contains c :=
  tblSubscribe_snd t n c

/-- the entry afterwards: `c` appended unless already present; other entries keep their members -/
theorem tblSubscribe_entry (t : List (Bytes × List Nat)) (n : Bytes) (c : Nat) :
    (((tblSubscribe t n c).1.lookup n).getD []) =
      (if ((t.lookup n).getD []).contains c then (t.lookup n).getD [] else (t.lookup n).getD [] ++ [c]) ∧
    ∀ m, m ≠ n → ((tblSubscribe t n c).1.lookup m).getD [] = (t.lookup m).getD [] :=
  ⟨tblSubscribe_members t n c, fun m hm => tblSubscribe_members_ne t n m c hm⟩

/-- subscribing twice does not double -/
theorem tblSubscribe_idempotent (t : List (Bytes × List Nat)) (n : Bytes) (c : Nat) :
    tblSubscribe (tblSubscribe t n c).1 n c = ((tblSubscribe t n c).1, false) := by
  have hc : (tblMembers (tblSubscribe t n c).1 n).contains c = true := by
    rw [tblSubscribe_members]; split <;> simp_all
  rw [tblSubscribe_eq (tblSubscribe t n c).1, if_pos hc]

example :
    let s : Sys := { srv := { conns := [{ id := 7 }] } }
    (subscribeGen 7 false [[1], [1], [2]] s).2.out =
      [(7, .arr [.bulk (strBytes "subscribe"), .bulk [2], .int 2]),
       (7, .arr [.bulk (strBytes "subscribe"), .bulk [1], .int 1]),
       (7, .arr [.bulk (strBytes "subscribe"), .bulk [1], .int 1])] := rfl

/-- one acknowledgement per name (explicit names), or per subscribed name / exactly one when there is
none (no names) -/
theorem unsubscribe_acks (c : Nat) (pattern : Bool) (names : List Bytes) (s : Sys)
    (hopen : (s.conn c).closed = false) :
    ∃ acks : List (Nat × Reply), (unsubscribeGen c pattern names s).2.out = acks ++ s.out ∧
      acks.length = (if names = [] then
          max 1 (((if pattern then s.srv.psubs else s.srv.subs).filter fun p => p.2.contains c).map Prod.fst).length
        else names.length) ∧
      ∀ a ∈ acks, a.1 = c :=
  unsubscribeGen_out c pattern names s hopen

/-- a single name: the count drops by one iff `c` was in the entry; the acknowledgement carries the new
count; an unknown channel is still acknowledged once and changes nothing but `out` -/
theorem unsubscribe_single (c : Nat) (pattern : Bool) (name : Bytes) (s : Sys) (hc : s.HasConn c) :
    let t := if pattern then s.srv.psubs else s.srv.subs
    let member := ((t.lookup name).getD []).contains c
    let s' := (unsubscribeGen c pattern [name] s).2
    (if pattern then s'.srv.psubs else s'.srv.subs) = (tblUnsubscribe t name c).1 ∧
    (s'.conn c).pubsub = (s.conn c).pubsub - (if member then 1 else 0) ∧
    (s'.out = if (s.conn c).closed then s.out else
      (c, .arr [.bulk (strBytes (if pattern then "punsubscribe" else "unsubscribe")), .bulk name,
        .int (s'.conn c).pubsub]) :: s.out) ∧
    (member = false → s' = { s with out := s'.out }) := by
  intro t member s'
  have hs' : s' = (s.unsubState c pattern name).emitS c
      (unsubAck pattern name ((s.unsubState c pattern name).conn c).pubsub) := by
    show (unsubscribeGen c pattern [name] s).2 = _
    rw [unsubscribeGen_single_run]
  refine ⟨?_, ?_, ?_, ?_⟩
  · rw [hs', Sys.emitS_srv]; exact Sys.unsubState_tbl s c pattern name
  · rw [hs', Sys.emitS_conn]; exact Sys.unsubState_pubsub s c pattern name hc
  · rw [hs', Sys.emitS_out, Sys.emitS_conn, Sys.unsubState_out,
      Sys.unsubState_proj s c c pattern name Conn.closed (fun _ _ => rfl)]
    rfl
  · intro hm
    rw [hs', Sys.unsubState_unknown s c pattern name hm]
    unfold Sys.emitS; split <;> rfl

theorem tblUnsubscribe_removed (t : List (Bytes × List Nat)) (n : Bytes) (c : Nat) :
    (tblUnsubscribe t n c).2 = ((t.lookup n).getD []).contains c :=
  tblUnsubscribe_snd t n c

theorem tblUnsubscribe_entry (t : List (Bytes × List Nat)) (n : Bytes) (c : Nat) :
    (((tblUnsubscribe t n c).1.lookup n).getD []) = ((t.lookup n).getD []).filter (· != c) ∧
    ∀ m, m ≠ n → ((tblUnsubscribe t n c).1.lookup m).getD [] = (t.lookup m).getD [] :=
  ⟨tblUnsubscribe_members t n c, fun m hm => tblUnsubscribe_members_ne t n m c hm⟩

theorem tblUnsubscribe_idempotent (t : List (Bytes × List Nat)) (n : Bytes) (c : Nat) :
    tblUnsubscribe (tblUnsubscribe t n c).1 n c = ((tblUnsubscribe t n c).1, false) :=
  tblUnsubscribe_unknown _ n c (by rw [tblUnsubscribe_members]; simp)

/-- UNSUBSCRIBE without names while subscribed to nothing: exactly one reply `[mtype, nil, count]` -/
theorem unsubscribe_nothing_acked_once (c : Nat) (pattern : Bool) (s : Sys)
    (hnone : ∀ p ∈ (if pattern then s.srv.psubs else s.srv.subs), c ∉ p.2) :
    (unsubscribeGen c pattern [] s).2 =
      if (s.conn c).closed then s else
        { s with out := (c, .arr [.bulk (strBytes (if pattern then "punsubscribe" else "unsubscribe")), .nil,
            .int (s.conn c).pubsub]) :: s.out } := by
  have : s.subscribedNames c pattern = [] := by
    unfold Sys.subscribedNames Sys.tbl
    rw [List.map_eq_nil_iff, List.filter_eq_nil_iff]
    intro p hp
    simpa using hnone p hp
  rw [unsubscribeGen_nil_none _ _ _ this]
  rfl

example :
    let s : Sys := { srv := { subs := [([1], [7])], conns := [{ id := 7, pubsub := 1 }] } }
    (unsubscribeGen 7 false [[1], [3]] s).2.out =
      [(7, .arr [.bulk (strBytes "unsubscribe"), .bulk [3], .int 0]),
       (7, .arr [.bulk (strBytes "unsubscribe"), .bulk [1], .int 0])] ∧
    (unsubscribeGen 7 true [] s).2.out = [(7, .arr [.bulk (strBytes "punsubscribe"), .nil, .int 1])] := ⟨rfl, rfl⟩

/-! ## 3. channels are global -/

/-- SUBSCRIBE / UNSUBSCRIBE / PUBLISH neither write a database nor any connection's selected database -/
theorem channels_global (c : Nat) (pattern : Bool) (names : List Bytes) (ch msg : Bytes) (s : Sys) :
    ((subscribeGen c pattern names s).2.srv.dbs = s.srv.dbs ∧
      ∀ c', ((subscribeGen c pattern names s).2.conn c').db = (s.conn c').db) ∧
    ((unsubscribeGen c pattern names s).2.srv.dbs = s.srv.dbs ∧
      ∀ c', ((unsubscribeGen c pattern names s).2.conn c').db = (s.conn c').db) ∧
    ((publish ch msg s).2.srv.dbs = s.srv.dbs ∧
      ∀ c', ((publish ch msg s).2.conn c').db = (s.conn c').db) := by
  refine ⟨⟨?_, fun c' => ?_⟩, ⟨?_, fun c' => ?_⟩, ?_⟩
  · exact forM_subStep_frame (fun s => s.srv.dbs) c pattern (fun s n => Sys.subState_dbs s c pattern n)
      (fun s r => by simp only [Sys.emitS_srv]) names s
  · exact forM_subStep_frame (fun s => (s.conn c').db) c pattern
      (fun s n => Sys.subState_proj s c c' pattern n Conn.db (fun _ _ => rfl))
      (fun s r => by simp only [Sys.emitS_conn]) names s
  · exact unsubscribeGen_frame (fun s => s.srv.dbs) c pattern (fun s n => Sys.unsubState_dbs s c pattern n)
      (fun s r => by simp only [Sys.emitS_srv]) names s
  · exact unsubscribeGen_frame (fun s => (s.conn c').db) c pattern
      (fun s n => Sys.unsubState_proj s c c' pattern n Conn.db (fun _ _ => rfl))
      (fun s r => by simp only [Sys.emitS_conn]) names s
  · rw [publish_run]; exact ⟨rfl, fun _ => rfl⟩

end FR.C10

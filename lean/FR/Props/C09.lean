import FR.Props.C06
/-!
# C09 — no empty collection is ever stored; reads create nothing
-/
namespace FR.Props.C09
open FR

/-- `writeback` drops empty collections: the invariants "unique keys" and "no stored empty collection"
are preserved by every regular command, whatever its body does. -/
theorem no_empty_collections (sig : Sig) (body : Body) (ctx : Ctx) (gate : Option Err) (raw : List Bytes)
    (db : Db) (nd : NodupKeys db.dict) (ne : NoEmpty db.dict) :
    NoEmpty (runRegular sig body ctx gate raw db).db.dict ∧
      NodupKeys (runRegular sig body ctx gate raw db).db.dict :=
  ⟨runRegular_noEmpty sig body ctx gate raw nd ne, runRegular_nodup sig body ctx gate raw nd⟩

/-- A key that is live after the command but was not live before is in `notified`
(for bodies satisfying the setter invariant `expMod → modified`, see C06). -/
theorem reads_create_nothing (sig : Sig) (body : Body) (hb : body.ExpModSound) (ctx : Ctx)
    (gate : Option Err) (raw : List Bytes) (db : Db) (nd : NodupKeys db.dict) (k : Bytes) :
    let o := runRegular sig body ctx gate raw db
    (Db.purge db).dict.lookup k = none → (Db.purge o.db).dict.lookup k ≠ none → k ∈ o.notified := by
  intro o h0 h1
  exact FR.Props.C06.step_notifies_partial sig body hb ctx gate raw db nd k (fun e => h1 (e.trans h0))

/-- non-vacuity: a body that stores an empty list; the key is removed instead -/
example :
    let sig : Sig := ⟨"x", [.key (some .list) .unspecified], [], false, 1, 0, false⟩
    let body : Body := fun _ _ cis => .ok { reply := .nil, cis := cis.map (fun c => c.update (.list [])) }
    let db : Db := ⟨[([97], ⟨.list [[1]], none⟩), ([98], ⟨.str [], none⟩)], 10⟩
    let o := runRegular sig body ⟨7, 10, 0, false, []⟩ none [[97]] db
    NoEmpty o.db.dict ∧ NodupKeys o.db.dict ∧ o.db.dict.map Prod.fst = [[98]] := by
  intro sig body db o
  have hne : NoEmpty db.dict := by
    intro p hp
    simp only [db, List.mem_cons, List.not_mem_nil, or_false] at hp
    rcases hp with rfl | rfl <;> rfl
  have h := no_empty_collections sig body ⟨7, 10, 0, false, []⟩ none [[97]] db (by decide) hne
  exact ⟨h.1, h.2, by decide⟩

end FR.Props.C09

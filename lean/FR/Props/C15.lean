import FR.Proofs.Scan
/-! # C15 — SCAN family: final theorems

About the pure function `_scan` (`scanReply`, one call; `scanPage`, its page) and the client loop `scanAll` /
`scanTrace` of `FR/Proofs/Scan.lean` that follows the returned cursors from 0 until 0 comes back: the loop yields
every matching element once (`scan_complete`), ends after `scanCalls` calls (`scan_terminates`, `scanCalls_spec`);
the errors of one call (`scan_errors`, `scan_bad_pair`), the empty collection, and one call is one page.  The commands
as the server runs them are in `FR/Props/C15s.lean`. -/
namespace FR.Props.C15
open FR FR.Cmd FR.Spec FR.Proofs

/-- following the cursors from 0 until 0 comes back yields every matching element exactly once,
in order, and nothing else -/
theorem scan_complete {α} (elems : List α) (keyOf : α → Bytes) (typeName : Bytes → Bytes)
    (o : ScanOpts) (hc : 0 < o.count) :
    scanAll elems keyOf typeName o (elems.length + 1) 0
      = elems.filter (matchPredicate keyOf typeName o) :=
  FR.Proofs.scan_complete elems keyOf typeName o hc

/-- without MATCH / TYPE the filter is the identity -/
theorem scan_complete_nofilter {α} (elems : List α) (keyOf : α → Bytes) (typeName : Bytes → Bytes)
    (o : ScanOpts) (hc : 0 < o.count) (hp : o.pattern = none) (ht : o.ty = none) :
    scanAll elems keyOf typeName o (elems.length + 1) 0 = elems := by
  rw [scan_complete _ _ _ _ hc]
  exact List.filter_eq_self.mpr (fun x _ => matchPredicate_none keyOf typeName o hp ht x)
example : scanAll [[1], [2], [3], [4], [5]] id (fun _ => []) { count := 2 } 6 0
    = [[1], [2], [3], [4], [5]] := by decide

/-- the iteration reaches cursor 0 within the fuel, after exactly `scanCalls len count` calls, the
`j`-th of which is made with cursor `j * count` -/
theorem scan_terminates {α} (elems : List α) (keyOf : α → Bytes) (typeName : Bytes → Bytes)
    (o : ScanOpts) (hc : 0 < o.count) :
    scanTrace elems keyOf typeName o (elems.length + 1) 0 =
      (List.range (scanCalls elems.length o.count.toNat)).map (fun j => ((j * o.count.toNat : Nat) : Int)) ∧
    scanFinished elems keyOf typeName o (elems.length + 1) 0 = true :=
  FR.Proofs.scan_terminates elems keyOf typeName o hc

/-- `scanCalls len cnt = max 1 ⌈len / cnt⌉` -/
theorem scanCalls_spec (len cnt : Nat) (hc : 0 < cnt) :
    scanCalls len cnt = max 1 ((len + cnt - 1) / cnt) ∧
    1 ≤ scanCalls len cnt ∧ len ≤ scanCalls len cnt * cnt ∧
    (1 < scanCalls len cnt → (scanCalls len cnt - 1) * cnt < len) :=
  ⟨rfl, FR.Proofs.scanCalls_spec len cnt hc⟩
example : scanTrace [[1], [2], [3], [4], [5]] id (fun _ => []) { count := 2 } 6 0 = [0, 2, 4] ∧
    scanCalls 5 2 = 3 ∧ scanCalls 0 10 = 1 ∧ scanCalls 4 2 = 2 := by decide

/-- error cases of `_scan` -/
theorem scan_errors {α} (elems : List α) keyOf typeName allowType (cursor : Int) opts render :
    (cursor < 0 →
      scanReply elems keyOf typeName allowType cursor opts render = .error Msgs.INVALID_CURSOR_MSG) ∧
    (0 ≤ cursor → opts.length % 2 = 1 →
      scanReply elems keyOf typeName allowType cursor opts render = .error Msgs.SYNTAX_ERROR_MSG) ∧
    (∀ pre a v rest, opts = pre ++ a :: v :: rest → 0 ≤ cursor → rest.length % 2 = 0 →
      pre.length % 2 = 0 → allPairsOk allowType pre = true → optPairOk allowType a v = false →
      scanReply elems keyOf typeName allowType cursor opts render = .error (optPairErr a v)) ∧
    ((∃ e, scanReply elems keyOf typeName allowType cursor opts render = .error e) ↔
      (cursor < 0 ∨ opts.length % 2 = 1 ∨ allPairsOk allowType opts = false)) :=
  ⟨scan_errors_cursor elems keyOf typeName allowType cursor opts render,
   scan_errors_odd elems keyOf typeName allowType cursor opts render,
   fun pre a v rest e hc hr hp hok hbad =>
     e ▸ scan_errors_bad_option elems keyOf typeName allowType cursor pre a v rest render hc hr hp hok hbad,
   scan_errors_iff elems keyOf typeName allowType cursor opts render⟩

/-- what a bad option pair is, and the message it produces -/
theorem scan_bad_pair (allowType : Bool) (a v : Bytes) :
    (optPairOk allowType a v = true ↔
      (casematch a "match" = true ∨
       (casematch a "match" = false ∧ casematch a "count" = true ∧ ∃ c, Conv.int v = .ok c ∧ 0 < c) ∨
       (casematch a "match" = false ∧ casematch a "count" = false ∧ casematch a "type" = true ∧
         allowType = true))) ∧
    (casematch a "count" = true → ∀ e, Conv.int v = .error e → optPairErr a v = e) ∧
    (casematch a "count" = true → ∀ c, Conv.int v = .ok c → optPairErr a v = Msgs.SYNTAX_ERROR_MSG) ∧
    (casematch a "count" = false → optPairErr a v = Msgs.SYNTAX_ERROR_MSG) := by
  refine ⟨?_, ?_, ?_, ?_⟩
  · unfold optPairOk
    cases casematch a "match" <;> cases casematch a "count" <;> cases hv : Conv.int v <;> simp
  · intro h e he; simp [optPairErr, h, he]
  · intro h c he; simp [optPairErr, h, he]
  · intro h; simp [optPairErr, h]
example : optPairOk false [67, 79, 85, 78, 84] [48] = false ∧          -- COUNT 0
    optPairOk false [67, 79, 85, 78, 84] [120] = false ∧                -- COUNT x
    optPairOk false [116, 121, 112, 101] [120] = false ∧                -- type x (not allowed)
    optPairOk true [116, 121, 112, 101] [120] = true ∧                  -- type x (allowed)
    optPairOk true [102, 111, 111] [120] = false := by with_unfolding_all decide  -- foo x

/-- scanning an empty / missing collection with valid options -/
theorem scan_missing_empty {α} keyOf typeName allowType (cursor : Int) opts render
    (hc : 0 ≤ cursor) (hl : opts.length % 2 = 0) (hok : allPairsOk allowType opts = true) :
    scanReply ([] : List α) keyOf typeName allowType cursor opts render
      = .ok (.arr [.bulk (intBytes 0), .arr []]) :=
  FR.Proofs.scan_missing_empty keyOf typeName allowType cursor opts render hc hl hok
example : allPairsOk false [[67, 79, 85, 78, 84], [53]] = true := by with_unfolding_all decide

/-- for a cursor inside the collection one `_scan` call is one `scanPage` (the unit `scanAll` iterates) -/
theorem scan_reply_is_page {α} (elems : List α) keyOf typeName allowType (cursor : Int) opts render
    (o : ScanOpts) (hc : 0 ≤ cursor) (hlt : cursor < elems.length)
    (hp : parseScanOpts allowType opts {} = .ok o) :
    scanReply elems keyOf typeName allowType cursor opts render =
      .ok (.arr [.bulk (intBytes (scanPage elems keyOf typeName cursor o).1),
                 .arr (render (scanPage elems keyOf typeName cursor o).2)]) :=
  FR.Proofs.scanReply_page elems keyOf typeName allowType cursor opts render o hc hlt hp

end FR.Props.C15

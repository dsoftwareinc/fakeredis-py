import FR.Proofs.C04kHist
import FR.Props.C04s
import FR.Proofs.ReplyEq
/-!
# No request crashes a connection and each gets exactly its replies (C04), without aliveness hypotheses

fakeredis refuses (P)SUBSCRIBE / (P)UNSUBSCRIBE while a MULTI is open ("ERR Command not allowed inside a
transaction", transaction marked failed, nothing queued).  Before the fix of the known finding KF-1 they were queued
and EXEC died on their `NoResponse` (`AssertionError`, connection dead); the theorems of `FR/Props/C04s.lean` carry
aliveness hypotheses that exclude such a run.  This file proves, over all reachable states (`runHistory evs`, any
`evs`):

* (a) **`TxClean`** — no transaction queue holds (P)SUBSCRIBE / (P)UNSUBSCRIBE — together with its companions
  `TxNoCtl` (no EXEC / DISCARD / MULTI / WATCH queued) and `TxKnown` (every queued name is in the command table);
  the three form `TxWf`, which holds initially and is preserved by every event (`txWf_step`, `txWf_reachable`).
* (b) from a `TxWf` state **`_process_command` leaves `crashed` alone for every request** — any name, any arguments,
  any mode, EXEC, scripts, blocking pops on both front-ends, and an EXEC whose queue holds script commands (EXEC runs a
  queued EVAL / EVALSHA / SCRIPT with the direct script runner): `processCommand_crashed_unchanged`,
  `processCommand_never_crashes`, `unconditional_no_crash`; and over histories: no connection is ever dead and
  `crashed` is `none` after every event, for histories without a write during an outage (`reachable_alive`) - whether
  or not the model's `fault` marker is set.  A write during an outage sets `crashed := some "ConnectionError"` by
  design — the client library's own error type (`outage_send`).
* (c) the reply count of one request (`reply_count_*`).
* (d) what the KF-1 history does (`subscribe_in_multi_refused`, `exec_after_refusal_aborts`) and the
  chunking theorems of `FR/Props/C04s.lean` with the aliveness hypothesis discharged from reachability.

Vocabulary (defined in `FR/Proofs/C04k.lean`, `C04kExec.lean`, `C04kHist.lean`): `TxClean`, `TxNoCtl`, `TxKnown`, `TxWf`,
`AllAlive s` (no connection record has `dead = true`), `UpFrom s evs` (no `.send` while disconnected), `GoodFrom s evs`
(`UpFrom`, and no event ends with `fault` set), `IsMsg r` (`r` is a `message` / `pmessage` push).  `fault` is the
model's "I could not follow" flag (e.g. a script whose recorded trace cannot be followed), not a crash.
-/
namespace FR.Props.C04k
open FR FR.M FR.C04k FR.ErrSys FR.BufIndep

/-- the table entry of a command name (for the examples) -/
def sigOf' (n : String) : Sig := (SigTable.find n).getD default

/-! ## (a) the queue invariant -/

/-- initially there is no connection, hence no queue -/
theorem txWf_init : TxWf {} := FR.C04k.txWf_init

theorem txClean_init : TxClean {} := txWf_init.clean

/-- **every event preserves the queue invariant** (`.request`, `.send` of arbitrary bytes — connected or not —, wake,
time-out, the asyncio events, open / close / gc, version and connectivity switches) -/
theorem txWf_step (s : Sys) (e : Ev) (h : TxWf s) : TxWf (stepEv s e) := stepEv_txWf s e h

/-- in particular `TxClean` after the event -/
theorem txClean_step (s : Sys) (e : Ev) (h : TxWf s) : TxClean (stepEv s e) := (txWf_step s e h).clean

/-- **in every reachable state** no queue holds (P)SUBSCRIBE / (P)UNSUBSCRIBE, nor EXEC / DISCARD / MULTI / WATCH, and
every queued name is a command of the table -/
theorem txWf_reachable (evs : List Ev) : TxWf (runHistory evs) := foldl_stepEv_txWf evs {} txWf_init

/-- The queue invariant holds also at the start of the next event.  Stated for a variable state: compared on a
concrete history, `TxWf` of the state with its hints and `TxWf` of the state differ below `.srv.conns`, and the kernel
runs the history to see that -/
theorem txWf_hints {s : Sys} (h : TxWf s) (cl : List Int) (pk : List (List Bytes)) :
    TxWf (s.beginEvent.withHints cl pk) := h

theorem txClean_reachable (evs : List Ev) : TxClean (runHistory evs) := (txWf_reachable evs).clean
theorem txNoCtl_reachable (evs : List Ev) : TxNoCtl (runHistory evs) := (txWf_reachable evs).noCtl
theorem txKnown_reachable (evs : List Ev) : TxKnown (runHistory evs) := (txWf_reachable evs).known

/-- what `TxClean` says, spelled out -/
theorem txClean_def (s : Sys) :
    TxClean s ↔ ∀ x ∈ s.srv.conns, ∀ q, x.tx = some q → ∀ a ∈ q, a.1 ∉ SigTable.notInMulti := Iff.rfl

/-- non-vacuity: a history that tries — MULTI, GET k, SUBSCRIBE x, PSUBSCRIBE y, UNSUBSCRIBE, SET k v — ends with the
queue `[get k, set k v]`: the three pub/sub commands were refused, the transaction is marked failed -/
def demoA : List Ev :=
  [.open 1, .request {} 1 [strBytes "MULTI"] [1] [], .request {} 1 [strBytes "GET", [107]] [2] [],
   .request {} 1 [strBytes "SUBSCRIBE", [120]] [3] [], .request {} 1 [strBytes "PSUBSCRIBE", [121]] [4] [],
   .request {} 1 [strBytes "UNSUBSCRIBE"] [5] [], .request {} 1 [strBytes "SET", [107], [118]] [6] []]

example : ((runHistory demoA).conn 1).tx = some [("get", [[107]]), ("set", [[107], [118]])] ∧
    ((runHistory demoA).conn 1).txFailed = true ∧ (runHistory demoA).fault = none := by decide +kernel

example : TxClean (runHistory demoA) := txClean_reachable demoA

/-! ## (b) no crash -/

/-- **Exact characterisation.**  One request through `_process_command` from a state with well-formed queues: `crashed`
is left as it was — for every request, an EXEC whose queue holds script commands included. -/
theorem processCommand_crashed_unchanged (mode : Mode) (c : Nat) (fields : List Bytes) (s : Sys) (h : TxWf s) :
    (processCommand mode c fields s).2.crashed = s.crashed :=
  (processCommand_spec mode c fields s h).crashed

/-- **No crash, outright**: any request — any name, arguments, mode; EXEC (of any well-formed queue, script commands
included), scripts, blocking pops — on any connection of a state with well-formed queues and `crashed = none`.
No connection dies either. -/
theorem processCommand_never_crashes (mode : Mode) (c : Nat) (fields : List Bytes) (s : Sys) (h : TxWf s)
    (hcr : s.crashed = none) :
    (processCommand mode c fields s).2.crashed = none ∧
    (AllAlive s → AllAlive (processCommand mode c fields s).2) := by
  have hf := processCommand_spec mode c fields s h
  have : (processCommand mode c fields s).2.crashed = none := hf.crashed.trans hcr
  exact ⟨this, fun ha => hf.alive ha this⟩

/-- the special case of a run the model follows; `processCommand_never_crashes` holds without the hypothesis `_hff` -/
theorem processCommand_faultfree_never_crashes (mode : Mode) (c : Nat) (fields : List Bytes) (s : Sys) (h : TxWf s)
    (hcr : s.crashed = none) (_hff : (processCommand mode c fields s).2.fault = none) :
    (processCommand mode c fields s).2.crashed = none ∧
    (AllAlive s → AllAlive (processCommand mode c fields s).2) :=
  processCommand_never_crashes mode c fields s h hcr

/-- the `fault` marker is never cleared by a request, and the queues stay well-formed -/
theorem processCommand_keeps (mode : Mode) (c : Nat) (fields : List Bytes) (s : Sys) (h : TxWf s) :
    TxWf (processCommand mode c fields s).2 ∧
    (s.fault.isSome = true → (processCommand mode c fields s).2.fault.isSome = true) :=
  ⟨(processCommand_spec mode c fields s h).wf, (processCommand_spec mode c fields s h).fault⟩

/-- EXEC in particular: from a reachable state EXEC does not take the `AssertionError` path, whatever was queued -/
theorem exec_never_asserts (evs : List Ev) (mode : Mode) (c : Nat) (fields : List Bytes) (cl : List Int) (pk) :
    (stepEv (runHistory evs) (.request mode c fields cl pk)).crashed = none :=
  (processCommand_never_crashes mode c fields ((runHistory evs).beginEvent.withHints cl pk)
    (txWf_reachable evs) rfl).1

/-- non-vacuity of the three theorems above: `MULTI; SET k v` then EXEC from a reachable state -/
def demoB : List Ev :=
  [.open 1, .request {} 1 [strBytes "MULTI"] [1] [], .request {} 1 [strBytes "SET", [107], [118]] [2] []]

theorem demoB_queue : (((runHistory demoB).beginEvent.withHints [3] []).conn 1).tx = some [("set", [[107], [118]])] := by
  decide +kernel

example : (stepEv (runHistory demoB) (.request {} 1 [strBytes "EXEC"] [3] [])).crashed = none :=
  exec_never_asserts demoB {} 1 _ [3] []

example : (stepEv (runHistory demoB) (.request {} 1 [strBytes "EXEC"] [3] [])).fault = none ∧
    (stepEv (runHistory demoB) (.request {} 1 [strBytes "EXEC"] [3] [])).out.map (fun p => (p.1, p.2.render)) =
      [(1, (Reply.arr [.ok]).render)] := by decide +kernel

example : (processCommand {} 1 [strBytes "EXEC"] ((runHistory demoB).beginEvent.withHints [3] [])).2.crashed = none :=
  (processCommand_faultfree_never_crashes {} 1 [strBytes "EXEC"] ((runHistory demoB).beginEvent.withHints [3] [])
    (txWf_hints (txWf_reachable demoB) _ _) rfl (by decide +kernel)).1

/-- non-vacuity of `processCommand_never_crashes` / `processCommand_keeps` / the characterisation: the EXEC of `demoB` -/
example : (processCommand {} 1 [strBytes "EXEC"] ((runHistory demoB).beginEvent.withHints [3] [])).2.crashed = none ∧
    (AllAlive ((runHistory demoB).beginEvent.withHints [3] []) →
      AllAlive (processCommand {} 1 [strBytes "EXEC"] ((runHistory demoB).beginEvent.withHints [3] [])).2) :=
  processCommand_never_crashes {} 1 [strBytes "EXEC"] ((runHistory demoB).beginEvent.withHints [3] [])
    (txWf_hints (txWf_reachable demoB) _ _) rfl

example : TxWf (processCommand {} 1 [strBytes "EXEC"] ((runHistory demoB).beginEvent.withHints [3] [])).2 :=
  (processCommand_keeps {} 1 [strBytes "EXEC"] ((runHistory demoB).beginEvent.withHints [3] [])
    (txWf_hints (txWf_reachable demoB) _ _)).1

/-- `MULTI; EVAL "return 1" 0`: a script command waits in the queue for EXEC -/
def demoE : List Ev :=
  [.open 1, .request {} 1 [strBytes "MULTI"] [1] [],
   .request {} 1 [strBytes "EVAL", strBytes "return 1", strBytes "0"] [2] []]

theorem demoE_queue : (((runHistory demoE).beginEvent.withHints [3] []).conn 1).tx =
    some [("eval", [strBytes "return 1", strBytes "0"])] := by decide +kernel

/-- **The unconditional statement holds**: from a state with well-formed queues no request at all crashes, an EXEC
whose queue holds a script command included (`former_witness_no_crash` for `MULTI; EVAL "return 1" 0; EXEC`). -/
theorem unconditional_no_crash :
    ∀ (s : Sys) (mode : Mode) (c : Nat) (fields : List Bytes), TxWf s → s.crashed = none →
        (processCommand mode c fields s).2.crashed = none :=
  fun s mode c fields h hcr => (processCommand_never_crashes mode c fields s h hcr).1

/-- The EXEC after `demoE` (`MULTI; EVAL "return 1" 0`) runs the queued script command and leaves `crashed = none`,
whatever hints the host supplies (`pk`) -/
theorem former_witness_no_crash (cl : List Int) (pk : List (List Bytes)) :
    (stepEv (runHistory demoE) (.request {} 1 [strBytes "EXEC"] cl pk)).crashed = none :=
  exec_never_asserts demoE {} 1 _ cl pk

/-- With the hints of a run of the script (SHA-1, the Lua error it ended in) the model follows that EXEC: no `fault`,
and the reply is the one-element array holding the script's error; without hints the replay cannot follow the script
and says so (`fault`) - which is not a crash -/
example :
    (stepEv (runHistory demoE) (.request {} 1 [strBytes "EXEC"] [3] FR.Props.C04s.evalHints)).fault = none ∧
    (stepEv (runHistory demoE) (.request {} 1 [strBytes "EXEC"] [3] FR.Props.C04s.evalHints)).crashed = none ∧
    (stepEv (runHistory demoE) (.request {} 1 [strBytes "EXEC"] [3] FR.Props.C04s.evalHints)).out.map
        (fun p => (p.1, p.2.render)) =
      [(1, (Reply.arr [.err (strBytes (scriptErrorMsg (strBytes "e0e1f9fabfc9d4800c877a703b823ac0578ff8db") "boom"))]).render)] ∧
    (stepEv (runHistory demoE) (.request {} 1 [strBytes "EXEC"] [3] [])).fault = some "eval: sha hint missing" ∧
    (stepEv (runHistory demoE) (.request {} 1 [strBytes "EXEC"] [3] [])).crashed = none :=
  have h :
      (stepEv (runHistory demoE) (.request {} 1 [strBytes "EXEC"] [3] FR.Props.C04s.evalHints)).fault = none ∧
      (stepEv (runHistory demoE) (.request {} 1 [strBytes "EXEC"] [3] FR.Props.C04s.evalHints)).crashed = none ∧
      (stepEv (runHistory demoE) (.request {} 1 [strBytes "EXEC"] [3] FR.Props.C04s.evalHints)).out =
        [(1, Reply.arr [.err (strBytes (scriptErrorMsg (strBytes "e0e1f9fabfc9d4800c877a703b823ac0578ff8db") "boom"))])] ∧
      (stepEv (runHistory demoE) (.request {} 1 [strBytes "EXEC"] [3] [])).fault = some "eval: sha hint missing" ∧
      (stepEv (runHistory demoE) (.request {} 1 [strBytes "EXEC"] [3] [])).crashed = none := by decide +kernel
  ⟨h.1, h.2.1, congrArg (List.map fun p => (p.1, p.2.render)) h.2.2.1, h.2.2.2⟩

/-! ### events and histories -/

/-- **One event from a healthy state** (queues well-formed, no dead connection) that is not a write during an
outage: the queues stay well-formed, `crashed = none` afterwards and no connection is dead - whether or not the model
has flagged the run (`fault`).  For `.send` this covers the outage check, the parser loop over arbitrary bytes and every
complete request in them; for the asyncio events the resumed parser loop as well. -/
theorem event_never_crashes (s : Sys) (e : Ev) (h : TxWf s) (ha : AllAlive s) (hup : e.up s) :
    (stepEv s e).crashed = none ∧ AllAlive (stepEv s e) ∧ TxWf (stepEv s e) := by
  have hk := stepEv_K s e h ha hup
  obtain ⟨h1, h2⟩ := hk.healthy
  exact ⟨h1, h2, hk.1⟩

/-- the `.send` event, spelled out: server connected, connection `c` (like every other) not dead -/
theorem send_never_crashes (s : Sys) (mode : Mode) (c : Nat) (data : Bytes) (cl : List Int) (pk : List (List Bytes))
    (h : TxWf s) (ha : AllAlive s) (hup : s.srv.connected = true) :
    (stepEv s (.send mode c data cl pk)).crashed = none ∧
    ((stepEv s (.send mode c data cl pk)).conn c).dead = false ∧ AllAlive (stepEv s (.send mode c data cl pk)) := by
  obtain ⟨h1, h2, _⟩ := event_never_crashes s (.send mode c data cl pk) h ha hup
  exact ⟨h1, h2.conn c, h2⟩

/-- a write while the server is marked disconnected raises the client library's `ConnectionError` — by design — and
does nothing else: no byte is buffered, no request processed, no connection dies -/
theorem outage_send (s : Sys) (mode : Mode) (c : Nat) (data : Bytes) (cl : List Int) (pk : List (List Bytes))
    (hdown : s.srv.connected = false) :
    stepEv s (.send mode c data cl pk) =
      { (s.beginEvent.withHints cl pk) with crashed := some "ConnectionError" } := by
  show (sendallGuarded mode c data (s.beginEvent.withHints cl pk)).2 = _
  rw [sendallGuarded_run_down mode c data (s.beginEvent.withHints cl pk) hdown]

/-- **Over histories.**  For every history without a write during an outage (`UpFrom`; the model need not follow it:
`fault` may be set on the way): in the state it reaches no connection is dead, the queues are well-formed, and (if the
history is not empty) the last event left `crashed = none`. -/
theorem reachable_alive (evs : List Ev) (hg : UpFrom {} evs) :
    AllAlive (runHistory evs) ∧ TxWf (runHistory evs) ∧ (evs ≠ [] → (runHistory evs).crashed = none) := by
  have := foldl_alive_up evs {} txWf_init (fun x hx => by cases hx) hg
  exact ⟨this.1, txWf_reachable evs, this.2⟩

/-- a history the model follows (`GoodFrom`) ends with `fault = none` (by the definition of `GoodFrom`), and with
everything `reachable_alive` says -/
theorem reachable_alive_followed (evs : List Ev) (hg : GoodFrom {} evs) :
    AllAlive (runHistory evs) ∧ TxWf (runHistory evs) ∧
    (evs ≠ [] → (runHistory evs).crashed = none ∧ (runHistory evs).fault = none) := by
  have := foldl_alive evs {} txWf_init (fun x hx => by cases hx) hg
  exact ⟨this.1, txWf_reachable evs, this.2⟩

/-- every connection read off a state reached without a write during an outage is usable: `dead = false` -/
theorem reachable_conn_alive (evs : List Ev) (hg : UpFrom {} evs) (c : Nat) : ((runHistory evs).conn c).dead = false :=
  (reachable_alive evs hg).1.conn c

/-- non-vacuity of `event_never_crashes` / `send_never_crashes`: the KF-1 stream written to a fresh connection -/
example : (stepEv (runHistory [.open 1]) (.send {} 1 FR.Props.C04s.multiSubExec [1, 2, 3] [])).crashed = none ∧
    ((stepEv (runHistory [.open 1]) (.send {} 1 FR.Props.C04s.multiSubExec [1, 2, 3] [])).conn 1).dead = false ∧
    AllAlive (stepEv (runHistory [.open 1]) (.send {} 1 FR.Props.C04s.multiSubExec [1, 2, 3] [])) :=
  send_never_crashes (runHistory [.open 1]) {} 1 _ [1, 2, 3] [] (txWf_reachable _)
    (reachable_alive [.open 1] (by decide +kernel)).1 (by decide +kernel)

example : (stepEv (runHistory [.open 1]) (.request {} 1 [strBytes "PING"] [1] [])).crashed = none :=
  (event_never_crashes (runHistory [.open 1]) (.request {} 1 [strBytes "PING"] [1] []) (txWf_reachable _)
    (reachable_alive [.open 1] (by decide +kernel)).1 trivial).1

/-- non-vacuity: the KF-1 history, sent over the wire, followed by a PING -/
def demoC : List Ev :=
  [.open 1, .send {} 1 FR.Props.C04s.multiSubExec [1, 2, 3] [], .send {} 1 FR.Props.C04s.ping [4] []]

theorem demoC_good : GoodFrom {} demoC := by decide +kernel

example : GoodFrom {} demoC := demoC_good
example : UpFrom {} demoC := demoC_good.up

example : ((runHistory demoC).conn 1).dead = false := reachable_conn_alive demoC demoC_good.up 1

example : (runHistory demoC).out.map (fun p => (p.1, p.2.render)) = [(1, Reply.pong.render)] := by decide +kernel

/-- non-vacuity of `outage_send`: the server goes down, a PING is written -/
example : (stepEv (runHistory [.open 1, .conn false]) (.send {} 1 FR.Props.C04s.ping [1] [])).crashed =
    some "ConnectionError" := by
  rw [outage_send _ _ _ _ _ _ (by decide +kernel)]

/-! ## (c) the reply count of one request

`out` is the list of emitted replies `(connection, reply)`, newest first.  The request is processed on connection `c`,
which is open (`closed = false`; a closed socket's replies are dropped by `emit`).  "Exactly one" is stated as
`out' = (c, r) :: D ++ out` where `D` are the pub/sub messages (`IsMsg`: `message` / `pmessage` pushes, to whatever
connection — possibly `c` itself, when it publishes on a channel it listens to) delivered while the command ran; the
command's own reply is the newest entry. -/

/-- the empty request is ignored: no reply -/
theorem reply_count_empty (mode : Mode) (c : Nat) (s : Sys) : processCommand mode c [] s = ((), s) := rfl

theorem out_emitS_open {s : Sys} {c : Nat} (r : Reply) (h : (s.conn c).closed = false) :
    (s.emitS c r).out = (c, r) :: s.out := by
  rw [Sys.emitS_out, h]; rfl

theorem closed_updConn (s : Sys) (c : Nat) (f : Conn → Conn) (hid : ∀ x, (f x).id = x.id)
    (hf : ∀ x, (f x).closed = x.closed) : ((s.updConn c f).conn c).closed = (s.conn c).closed :=
  Sys.conn_updConn_proj s c c f Conn.closed hid hf

theorem prologue_closed (s : Sys) (c : Nat) : (s.prologue.conn c).closed = (s.conn c).closed :=
  s.prologue_conn c Conn.closed (fun _ => rfl)

/-- unknown command (any bytes as name, any arguments, inside or outside MULTI): exactly one reply, the error -/
theorem reply_count_unknown (mode : Mode) (c : Nat) (nameB : Bytes) (args : List Bytes) (s : Sys)
    (hl : lookupSig nameB = none) (hcl : (s.conn c).closed = false) :
    (processCommand mode c (nameB :: args) s).2.out = (c, .err (strBytes unknownCommandPrefix)) :: s.out := by
  rw [processCommand_eq, Sys.processed, hl]
  show ((s.failTx c (s.conn c)).emitS c _).out = _
  rw [Sys.failTx_eq]
  exact (Sys.answered s c _ _ (fun _ => by split <;> rfl) (fun _ => by split <;> rfl)).1.trans (by rw [hcl]; rfl)

/-- wrong number of arguments (any command, EXEC included, inside or outside MULTI): exactly one reply, an error -/
theorem reply_count_arity (mode : Mode) (c : Nat) (nameB : Bytes) (args : List Bytes) (s : Sys) {sig : Sig}
    (hl : lookupSig nameB = some sig) (ha : sig.checkArity args.length = false) (hcl : (s.conn c).closed = false) :
    ∃ e, (processCommand mode c (nameB :: args) s).2.out = (c, .err e) :: s.out := by
  rw [processCommand_eq, Sys.processed_known mode c args s hl]
  by_cases hex : sig.name = "exec"
  · rw [Sys.dispatched_arity_exec _ _ _ _ _ _ ha hex, failTx_discardTx]
    exact ⟨_, out_answered _ _ (fun _ => by rfl) (fun _ => by rfl) hcl⟩
  · rw [Sys.dispatched_arity _ _ _ _ _ _ ha hex, Sys.failTx_eq]
    exact ⟨_, out_answered _ _ (fun _ => by split <;> rfl) (fun _ => by split <;> rfl) hcl⟩

/-- a command queued inside MULTI: exactly one reply, `QUEUED` -/
theorem reply_count_queued (mode : Mode) (c : Nat) (nameB : Bytes) (args : List Bytes) (s : Sys) {sig : Sig}
    (hl : lookupSig nameB = some sig) (ha : sig.checkArity args.length = true)
    (hq : ((s.conn c).tx.isSome && !SigTable.notQueued.contains sig.name) = true)
    (hnm : SigTable.notInMulti.contains sig.name = false) (hcl : (s.conn c).closed = false) :
    (processCommand mode c (nameB :: args) s).2.out = (c, .queued) :: s.out := by
  rw [processCommand_eq, Sys.processed_known mode c args s hl, Sys.dispatched_queued _ _ _ _ _ _ ha hq hnm]
  exact out_answered _ _ (fun _ => by rfl) (fun _ => by rfl) hcl

/-- (P)SUBSCRIBE / (P)UNSUBSCRIBE inside MULTI: exactly one reply, the refusal (whatever the number of channels) -/
theorem reply_count_refused (mode : Mode) (c : Nat) (nameB : Bytes) (args : List Bytes) (s : Sys) {sig : Sig}
    (hl : lookupSig nameB = some sig) (ha : sig.checkArity args.length = true)
    (hq : ((s.conn c).tx.isSome && !SigTable.notQueued.contains sig.name) = true)
    (hnm : SigTable.notInMulti.contains sig.name = true) (hcl : (s.conn c).closed = false) :
    (processCommand mode c (nameB :: args) s).2.out = (c, .err (strBytes Msgs.COMMAND_IN_MULTI_MSG)) :: s.out := by
  rw [processCommand_eq, Sys.processed_known mode c args s hl, Sys.dispatched_refused _ _ _ _ _ _ ha hq hnm]
  exact out_answered _ _ (fun _ => by rfl) (fun _ => by rfl) hcl

theorem finish_out (c : Nat) (s : Sys) : (PubSubHist.finish c s).out = s.out := PubSubHist.finish_out c s

/-- (P)SUBSCRIBE outside MULTI: one acknowledgement per channel / pattern argument, all to `c` -/
theorem reply_count_subscribe (mode : Mode) (c : Nat) (nameB : Bytes) (args : List Bytes) (s : Sys) (p : Bool)
    (hname : commandName nameB = some (if p then "psubscribe" else "subscribe")) (hargs : args ≠ [])
    (htx : (s.conn c).tx = none) (hcl : (s.conn c).closed = false) :
    ∃ acks : List (Nat × Reply), (processCommand mode c (nameB :: args) s).2.out = acks ++ s.out ∧
      acks.length = args.length ∧ ∀ a ∈ acks, a.1 = c := by
  rw [PubSubHist.process_subscribe mode c nameB args s p hname hargs htx]
  obtain ⟨acks, h1, h2, h3⟩ := subscribeGen_out c p args (PubSubHist.prep s)
    (by rw [PubSubHist.prep_closed]; exact hcl)
  exact ⟨acks, by rw [finish_out, h1, PubSubHist.prep_out], h2, h3⟩

/-- (P)UNSUBSCRIBE outside MULTI: one acknowledgement per argument; without arguments one per current subscription of
that kind (after the clean-up of closed sockets), and one if there is none -/
theorem reply_count_unsubscribe (mode : Mode) (c : Nat) (nameB : Bytes) (args : List Bytes) (s : Sys) (p : Bool)
    (hname : commandName nameB = some (if p then "punsubscribe" else "unsubscribe"))
    (htx : (s.conn c).tx = none) (hcl : (s.conn c).closed = false) :
    ∃ acks : List (Nat × Reply), (processCommand mode c (nameB :: args) s).2.out = acks ++ s.out ∧
      acks.length = (if args = [] then max 1 ((PubSubHist.prep s).subscribedNames c p).length else args.length) ∧
      ∀ a ∈ acks, a.1 = c := by
  rw [PubSubHist.process_unsubscribe mode c nameB args s p hname htx]
  obtain ⟨acks, h1, h2, h3⟩ := unsubscribeGen_out c p args (PubSubHist.prep s)
    (by rw [PubSubHist.prep_closed]; exact hcl)
  exact ⟨acks, by rw [finish_out, h1, PubSubHist.prep_out], h2, h3⟩

/-- **every other command, run at once** (outside MULTI, or EXEC / DISCARD / MULTI / WATCH inside): regular commands,
the special ones, scripts, EXEC (of any well-formed queue, script commands included) — not (P)SUBSCRIBE /
(P)UNSUBSCRIBE, not a blocking pop — from a state with well-formed queues: **exactly one reply** to `c`, on top of the
pub/sub messages delivered meanwhile -/
theorem reply_count_run (mode : Mode) (c : Nat) (nameB : Bytes) (args : List Bytes) (s : Sys) (hwf : TxWf s)
    (hcl : (s.conn c).closed = false) {sig : Sig} (hl : lookupSig nameB = some sig)
    (ha : sig.checkArity args.length = true)
    (hq : ((s.conn c).tx.isSome && !SigTable.notQueued.contains sig.name) = false)
    (hsub : sig.name ∉ SigTable.notInMulti) (hb : sig.name ∉ blockingNames) :
    ∃ r D, (processCommand mode c (nameB :: args) s).2.out = (c, r) :: D ++ s.out ∧ ∀ p ∈ D, IsMsg p.2 := by
  obtain ⟨D, hmsg, h⟩ := processCommand_reply mode c nameB args s hwf hcl hl ha hq hsub
  cases hr : (runCommand mode c sig args false s.prologue).1 with
  | some r => rw [hr] at h; exact ⟨r, D, h, hmsg⟩
  | none => rw [hr] at h; exact absurd h.1 hb

/-- a blocking pop (BLPOP / BRPOP / BRPOPLPUSH, either front-end, parking or not), run at once: **at most one** reply —
one when it is served or gives up at once, none when it parks (the later wake-up / time-out event answers).
`_partial`: the theorem does not say which of the two happens; `FR.Props.C11r.reply_count_blocking` and
`FR.Props.C11s2.reply_count_brpoplpush` do (none iff `mode.park` / `mode.async` is set, no key holds a list and the
command is not run by EXEC). -/
theorem reply_count_blocking_partial (mode : Mode) (c : Nat) (nameB : Bytes) (args : List Bytes) (s : Sys)
    (hwf : TxWf s) (hcl : (s.conn c).closed = false) {sig : Sig} (hl : lookupSig nameB = some sig)
    (ha : sig.checkArity args.length = true)
    (hq : ((s.conn c).tx.isSome && !SigTable.notQueued.contains sig.name) = false)
    (hb : sig.name ∈ blockingNames) :
    ∃ D, (∀ p ∈ D, IsMsg p.2) ∧
      ((processCommand mode c (nameB :: args) s).2.out = D ++ s.out ∨
       ∃ r, (processCommand mode c (nameB :: args) s).2.out = (c, r) :: D ++ s.out) := by
  have hsub : sig.name ∉ SigTable.notInMulti := by
    intro h
    have : ∀ n ∈ blockingNames, n ∉ SigTable.notInMulti := by decide
    exact this _ hb h
  obtain ⟨D, hmsg, h⟩ := processCommand_reply mode c nameB args s hwf hcl hl ha hq hsub
  cases hr : (runCommand mode c sig args false s.prologue).1 with
  | some r => rw [hr] at h; exact ⟨D, hmsg, .inr ⟨r, h⟩⟩
  | none => rw [hr] at h; exact ⟨D, hmsg, .inl h.2.1⟩

/-! ### non-vacuity of (c) -/

/-- the table entry of a command name -/
def sigOf (n : String) : Sig := (SigTable.find n).getD default

/-- one open connection; one open connection inside MULTI -/
def sIdle : Sys := (runHistory [.open 1]).beginEvent.withHints [5] []
def sMulti : Sys := (runHistory [.open 1, .request {} 1 [strBytes "MULTI"] [1] []]).beginEvent.withHints [5] []

theorem sIdle_wf : TxWf sIdle := txWf_hints (txWf_reachable [.open 1]) _ _
theorem sMulti_wf : TxWf sMulti := txWf_hints (txWf_reachable [.open 1, .request {} 1 [strBytes "MULTI"] [1] []]) _ _

example : (processCommand {} 1 [strBytes "nosuch", [1], [2]] sIdle).2.out =
    (1, .err (strBytes unknownCommandPrefix)) :: sIdle.out :=
  reply_count_unknown {} 1 _ _ sIdle (by decide +kernel) (by decide +kernel)

example : ∃ e, (processCommand {} 1 [strBytes "GET"] sIdle).2.out = (1, .err e) :: sIdle.out :=
  have h : lookupSig (strBytes "GET") = some (sigOf "get") ∧
      (sigOf "get").checkArity ([] : List Bytes).length = false ∧ (sIdle.conn 1).closed = false := by decide +kernel
  reply_count_arity {} 1 _ _ sIdle h.1 h.2.1 h.2.2

example : (processCommand {} 1 [strBytes "GET", [107]] sMulti).2.out = (1, .queued) :: sMulti.out :=
  have h : lookupSig (strBytes "GET") = some (sigOf "get") ∧
      (sigOf "get").checkArity ([[107]] : List Bytes).length = true ∧
      ((sMulti.conn 1).tx.isSome && !SigTable.notQueued.contains (sigOf "get").name) = true ∧
      SigTable.notInMulti.contains (sigOf "get").name = false ∧ (sMulti.conn 1).closed = false := by decide +kernel
  reply_count_queued {} 1 _ _ sMulti h.1 h.2.1 h.2.2.1 h.2.2.2.1 h.2.2.2.2

example : (processCommand {} 1 [strBytes "SUBSCRIBE", [120], [121], [122]] sMulti).2.out =
    (1, .err (strBytes Msgs.COMMAND_IN_MULTI_MSG)) :: sMulti.out :=
  have h : lookupSig (strBytes "SUBSCRIBE") = some (sigOf "subscribe") ∧
      (sigOf "subscribe").checkArity ([[120], [121], [122]] : List Bytes).length = true ∧
      ((sMulti.conn 1).tx.isSome && !SigTable.notQueued.contains (sigOf "subscribe").name) = true ∧
      SigTable.notInMulti.contains (sigOf "subscribe").name = true ∧ (sMulti.conn 1).closed = false := by
    decide +kernel
  reply_count_refused {} 1 _ _ sMulti h.1 h.2.1 h.2.2.1 h.2.2.2.1 h.2.2.2.2

example : ∃ acks : List (Nat × Reply),
    (processCommand {} 1 [strBytes "SUBSCRIBE", [120], [121], [122]] sIdle).2.out = acks ++ sIdle.out ∧
      acks.length = 3 ∧ ∀ a ∈ acks, a.1 = 1 :=
  reply_count_subscribe {} 1 _ _ sIdle false (by decide +kernel) (by simp) (by decide +kernel) (by decide +kernel)

/-- UNSUBSCRIBE without arguments on a connection subscribed to nothing: one acknowledgement -/
example : ∃ acks : List (Nat × Reply),
    (processCommand {} 1 [strBytes "UNSUBSCRIBE"] sIdle).2.out = acks ++ sIdle.out ∧ acks.length = 1 ∧
      ∀ a ∈ acks, a.1 = 1 := by
  obtain ⟨acks, h1, h2, h3⟩ := reply_count_unsubscribe {} 1 (strBytes "UNSUBSCRIBE") [] sIdle false
    (by decide +kernel) (by decide +kernel) (by decide +kernel)
  refine ⟨acks, h1, ?_, h3⟩
  rw [h2]; decide +kernel

theorem look_ping : lookupSig (strBytes "PING") = some (sigOf "ping") := by decide +kernel

example : ∃ r D, (processCommand {} 1 [strBytes "PING"] sIdle).2.out = (1, r) :: D ++ sIdle.out ∧ ∀ p ∈ D, IsMsg p.2 := by
  have h : (sIdle.conn 1).closed = false ∧ (sigOf "ping").checkArity ([] : List Bytes).length = true ∧
      ((sIdle.conn 1).tx.isSome && !SigTable.notQueued.contains (sigOf "ping").name) = false ∧
      (sigOf "ping").name ∉ SigTable.notInMulti ∧ (sigOf "ping").name ∉ blockingNames := by decide +kernel
  exact reply_count_run {} 1 _ _ sIdle sIdle_wf h.1 look_ping h.2.1 h.2.2.1 h.2.2.2.1 h.2.2.2.2

example : ∃ D, (∀ p ∈ D, IsMsg p.2) ∧
    ((processCommand {} 1 [strBytes "BLPOP", [107], [48]] sIdle).2.out = D ++ sIdle.out ∨
     ∃ r, (processCommand {} 1 [strBytes "BLPOP", [107], [48]] sIdle).2.out = (1, r) :: D ++ sIdle.out) :=
  have h : (sIdle.conn 1).closed = false ∧ lookupSig (strBytes "BLPOP") = some (sigOf "blpop") ∧
      (sigOf "blpop").checkArity ([[107], [48]] : List Bytes).length = true ∧
      ((sIdle.conn 1).tx.isSome && !SigTable.notQueued.contains (sigOf "blpop").name) = false ∧
      (sigOf "blpop").name ∈ blockingNames := by decide +kernel
  reply_count_blocking_partial {} 1 _ _ sIdle sIdle_wf h.1 h.2.1 h.2.2.1 h.2.2.2.1 h.2.2.2.2

/-- both outcomes of a blocking pop occur: answered at once (plain harness), parked (scheduler harness) -/
example : (processCommand {} 1 [strBytes "BLPOP", [107], [48]] sIdle).2.out.length = 1 ∧
    (processCommand { park := true } 1 [strBytes "BLPOP", [107], [48]] sIdle).2.out.length = 0 ∧
    ((processCommand { park := true } 1 [strBytes "BLPOP", [107], [48]] sIdle).2.conn 1).parked.isSome = true := by
  decide +kernel

/-! ## (d) the KF-1 history: refused at queue time, EXECABORT at EXEC -/

/-- **(P)SUBSCRIBE / (P)UNSUBSCRIBE inside MULTI: refused.**  For each of the four commands (any spelling of the name,
any arguments of acceptable number) sent while a MULTI is open on `c`: the event is exactly the clean-up / clock
refresh that precedes every known command, `txFailed := true`, and the one reply
`ERR Command not allowed inside a transaction`.  The queue is as it was, nothing is subscribed or unsubscribed, no
database is touched, `crashed` is untouched. -/
theorem subscribe_in_multi_refused (mode : Mode) (c : Nat) (nameB : Bytes) (args : List Bytes) (s : Sys)
    {sig : Sig} {q : List (String × List Bytes)} (hl : lookupSig nameB = some sig)
    (hsub : sig.name ∈ SigTable.notInMulti) (ha : sig.checkArity args.length = true)
    (htx : (s.conn c).tx = some q) :
    processCommand mode c (nameB :: args) s =
      ((), (s.prologue.updConn c markTxFailed).emitS c (.err (strBytes Msgs.COMMAND_IN_MULTI_MSG))) ∧
    ((processCommand mode c (nameB :: args) s).2.conn c).tx = some q ∧
    ((processCommand mode c (nameB :: args) s).2.conn c).txFailed = true ∧
    ((processCommand mode c (nameB :: args) s).2.conn c).pubsub = (s.conn c).pubsub ∧
    (processCommand mode c (nameB :: args) s).2.srv.subs = s.prologue.srv.subs ∧
    (processCommand mode c (nameB :: args) s).2.srv.psubs = s.prologue.srv.psubs ∧
    (processCommand mode c (nameB :: args) s).2.srv.dbs = s.srv.dbs ∧
    (processCommand mode c (nameB :: args) s).2.crashed = s.crashed ∧
    ((s.conn c).closed = false →
      (processCommand mode c (nameB :: args) s).2.out = (c, .err (strBytes Msgs.COMMAND_IN_MULTI_MSG)) :: s.out) := by
  obtain ⟨h1, h2, h3, h4, h5, h6⟩ := s.prologue_answered c markTxFailed (.err (strBytes Msgs.COMMAND_IN_MULTI_MSG))
    (fun _ => rfl) (fun _ => rfl)
  have hconn := h2 (Sys.hasConn_of_tx (by rw [htx]; rfl))
  rw [show processCommand mode c (nameB :: args) s =
      ((), (s.prologue.updConn c markTxFailed).emitS c (.err (strBytes Msgs.COMMAND_IN_MULTI_MSG))) from
    PubSubHist.process_refused mode c nameB args s sig q hl ha htx
      ((by decide : ∀ n ∈ SigTable.notInMulti, n ∉ SigTable.notQueued) _ hsub) hsub]
  refine ⟨rfl, ?_, by rw [hconn]; rfl, ?_, h4, h5, h3, h6, fun hcl => h1.trans (by rw [hcl]; rfl)⟩
  · rw [hconn]; exact (prologue_tx s c).trans htx
  · rw [hconn]; exact PubSubHist.prep_pubsub s c

/-- the four commands by name: SUBSCRIBE / PSUBSCRIBE with at least one argument, UNSUBSCRIBE / PUNSUBSCRIBE with any
number -/
theorem subscribe_in_multi_refused_names (mode : Mode) (c : Nat) (nameB : Bytes) (args : List Bytes) (s : Sys)
    {n : String} {q : List (String × List Bytes)} (hname : commandName nameB = some n)
    (hn : n ∈ SigTable.notInMulti) (hargs : n = "subscribe" ∨ n = "psubscribe" → args ≠ [])
    (htx : (s.conn c).tx = some q) :
    processCommand mode c (nameB :: args) s =
      ((), (s.prologue.updConn c markTxFailed).emitS c (.err (strBytes Msgs.COMMAND_IN_MULTI_MSG))) := by
  simp only [SigTable.notInMulti, List.mem_cons, List.not_mem_nil, or_false] at hn
  have hne : ∀ (as : List Bytes), as ≠ [] → (!as.isEmpty) = true := by intro as h; cases as <;> simp_all
  have hu : "subscribe".startsWith "_" = false ∧ "psubscribe".startsWith "_" = false ∧
      "unsubscribe".startsWith "_" = false ∧ "punsubscribe".startsWith "_" = false := by decide +kernel
  rcases hn with rfl | rfl | rfl | rfl
  · exact (subscribe_in_multi_refused mode c nameB args s (sig := PubSubHist.sigSubscribe false)
      (by rw [PubSubHist.lookupSig_of_name _ _ hname hu.1]; exact PubSubHist.find_subscribe false)
      (by decide) (by rw [PubSubHist.arity_subscribe]; exact hne _ (hargs (.inl rfl))) htx).1
  · exact (subscribe_in_multi_refused mode c nameB args s (sig := PubSubHist.sigSubscribe true)
      (by rw [PubSubHist.lookupSig_of_name _ _ hname hu.2.1]; exact PubSubHist.find_subscribe true)
      (by decide) (by rw [PubSubHist.arity_subscribe]; exact hne _ (hargs (.inr rfl))) htx).1
  · exact (subscribe_in_multi_refused mode c nameB args s (sig := PubSubHist.sigUnsubscribe false)
      (by rw [PubSubHist.lookupSig_of_name _ _ hname hu.2.2.1]; exact PubSubHist.find_unsubscribe false)
      (by decide) (PubSubHist.arity_unsubscribe false args) htx).1
  · exact (subscribe_in_multi_refused mode c nameB args s (sig := PubSubHist.sigUnsubscribe true)
      (by rw [PubSubHist.lookupSig_of_name _ _ hname hu.2.2.2]; exact PubSubHist.find_unsubscribe true)
      (by decide) (PubSubHist.arity_unsubscribe true args) htx).1

/-- non-vacuity, all four, with their replies -/
example :
    (processCommand {} 1 [strBytes "SUBSCRIBE", [120]] sMulti).2.out.map (fun p => (p.1, p.2.render)) =
      [(1, (Reply.err (strBytes Msgs.COMMAND_IN_MULTI_MSG)).render)] ∧
    (processCommand {} 1 [strBytes "pSubscribe", [120], [121]] sMulti).2.out.map (fun p => (p.1, p.2.render)) =
      [(1, (Reply.err (strBytes Msgs.COMMAND_IN_MULTI_MSG)).render)] ∧
    (processCommand {} 1 [strBytes "UNSUBSCRIBE"] sMulti).2.out.map (fun p => (p.1, p.2.render)) =
      [(1, (Reply.err (strBytes Msgs.COMMAND_IN_MULTI_MSG)).render)] ∧
    (processCommand {} 1 [strBytes "PUNSUBSCRIBE", [42]] sMulti).2.out.map (fun p => (p.1, p.2.render)) =
      [(1, (Reply.err (strBytes Msgs.COMMAND_IN_MULTI_MSG)).render)] ∧
    ((processCommand {} 1 [strBytes "SUBSCRIBE", [120]] sMulti).2.conn 1).tx = some [] ∧
    ((processCommand {} 1 [strBytes "SUBSCRIBE", [120]] sMulti).2.conn 1).txFailed = true ∧
    (processCommand {} 1 [strBytes "SUBSCRIBE", [120]] sMulti).2.srv.subs = [] :=
  have h :
      (processCommand {} 1 [strBytes "SUBSCRIBE", [120]] sMulti).2.out =
        [(1, Reply.err (strBytes Msgs.COMMAND_IN_MULTI_MSG))] ∧
      (processCommand {} 1 [strBytes "pSubscribe", [120], [121]] sMulti).2.out =
        [(1, Reply.err (strBytes Msgs.COMMAND_IN_MULTI_MSG))] ∧
      (processCommand {} 1 [strBytes "UNSUBSCRIBE"] sMulti).2.out =
        [(1, Reply.err (strBytes Msgs.COMMAND_IN_MULTI_MSG))] ∧
      (processCommand {} 1 [strBytes "PUNSUBSCRIBE", [42]] sMulti).2.out =
        [(1, Reply.err (strBytes Msgs.COMMAND_IN_MULTI_MSG))] ∧
      ((processCommand {} 1 [strBytes "SUBSCRIBE", [120]] sMulti).2.conn 1).tx = some [] ∧
      ((processCommand {} 1 [strBytes "SUBSCRIBE", [120]] sMulti).2.conn 1).txFailed = true ∧
      (processCommand {} 1 [strBytes "SUBSCRIBE", [120]] sMulti).2.srv.subs = [] := by decide +kernel
  ⟨congrArg (List.map fun p => (p.1, p.2.render)) h.1, congrArg (List.map fun p => (p.1, p.2.render)) h.2.1,
    congrArg (List.map fun p => (p.1, p.2.render)) h.2.2.1, congrArg (List.map fun p => (p.1, p.2.render)) h.2.2.2.1,
    h.2.2.2.2⟩

example : processCommand {} 1 [strBytes "SUBSCRIBE", [120]] sMulti =
    ((), (sMulti.prologue.updConn 1 markTxFailed).emitS 1 (.err (strBytes Msgs.COMMAND_IN_MULTI_MSG))) :=
  subscribe_in_multi_refused_names {} 1 _ _ sMulti (n := "subscribe") (q := []) (by decide +kernel) (by decide)
    (fun _ => by simp) (by decide +kernel)

/-- **The EXEC that follows answers EXECABORT, executes nothing, and leaves the connection in normal mode.**
`s1` is the state after the refusal; the EXEC event on it is exactly: clean-up / clock refresh, the transaction dropped,
the watches cleared, the reply `EXECABORT Transaction discarded because of previous errors.` — no queued command runs,
no database is touched. -/
theorem exec_after_refusal_aborts (mode mode' : Mode) (c : Nat) (nameB execB : Bytes) (args : List Bytes) (s : Sys)
    {sig : Sig} {q : List (String × List Bytes)} (hl : lookupSig nameB = some sig)
    (hsub : sig.name ∈ SigTable.notInMulti) (ha : sig.checkArity args.length = true)
    (htx : (s.conn c).tx = some q) (hps : (s.conn c).pubsub = 0) (hexec : commandName execB = some "exec") :
    let s1 := (processCommand mode c (nameB :: args) s).2
    let s2 := (processCommand mode' c [execB] s1).2
    s2 = PubSubHist.finish c ((((PubSubHist.prep s1).updConn c fun x => { x with tx := none }).updConn c
        fun x => { x with watchNotified := false, watches := [] }).emitS c (.err (strBytes Msgs.EXECABORT_MSG))) ∧
    Conn.normal (s2.conn c) ∧ s2.srv.dbs = s.srv.dbs ∧ s2.crashed = s.crashed ∧
    ((s.conn c).closed = false → s2.out = (c, .err (strBytes Msgs.EXECABORT_MSG)) :: s1.out) := by
  intro s1 s2
  obtain ⟨h1eq, h1tx, h1f, h1ps, _, _, h1dbs, h1cr, _⟩ :=
    subscribe_in_multi_refused mode c nameB args s hl hsub ha htx
  have hst : s2 = _ := congrArg Prod.snd
    (process_exec_failed mode' c execB s1 q hexec h1tx h1f (h1ps.trans hps))
  -- the state before `finish`: `s1` answered after one update of the record of `c`
  have hst' : s2 = PubSubHist.finish c ((s1.prologue.updConn c
      ((fun x => { x with watchNotified := false, watches := [] }) ∘ fun x => { x with tx := none })).emitS c
        (.err (strBytes Msgs.EXECABORT_MSG))) :=
    hst.trans (by rw [updConn_updConn _ c (fun x => { x with tx := none }) _ (fun _ => rfl)]; rfl)
  obtain ⟨a1, a2, a3, _, _, a6⟩ := s1.prologue_answered c
    ((fun x => { x with watchNotified := false, watches := [] }) ∘ fun x => { x with tx := none })
    (.err (strBytes Msgs.EXECABORT_MSG)) (fun _ => rfl) (fun _ => rfl)
  have key := a2 (Sys.hasConn_of_tx (by rw [h1tx]; rfl))
  have hrec : ∀ {β} (p : Conn → β), (∀ x, p { x with dead := true } = p x) →
      p (s2.conn c) = p ({ ({ s1.prologue.conn c with tx := none } : Conn) with
        watchNotified := false, watches := [] }) := by
    intro β p hp
    rw [hst']
    unfold PubSubHist.finish
    split
    · rw [Sys.conn_updConn_proj _ c c (fun x => { x with dead := true }) p (fun _ => rfl) hp, key]; rfl
    · rw [key]; rfl
  have hfin : ∀ t : Sys, (PubSubHist.finish c t).srv.dbs = t.srv.dbs ∧ (PubSubHist.finish c t).crashed = t.crashed := by
    intro t; unfold PubSubHist.finish; split <;> exact ⟨rfl, rfl⟩
  refine ⟨hst, ⟨hrec Conn.tx (fun _ => rfl), hrec Conn.watches (fun _ => rfl),
    hrec Conn.watchNotified (fun _ => rfl)⟩, by rw [hst', (hfin _).1, a3, h1dbs], by rw [hst', (hfin _).2, a6, h1cr], ?_⟩
  intro hcl
  have hcl1 : (s1.conn c).closed = false := by
    rw [show s1 = _ from congrArg Prod.snd h1eq,
      (s.prologue_answered c markTxFailed _ (fun _ => rfl) (fun _ => rfl)).2.1 (Sys.hasConn_of_tx (by rw [htx]; rfl))]
    exact (prologue_closed s c).trans hcl
  rw [hst', finish_out, a1, hcl1]; rfl

/-- non-vacuity: `MULTI; SET k v` (queued), `SUBSCRIBE x` (refused), `EXEC`: EXECABORT, `k` was never set, the
connection is in normal mode again and answers a following GET -/
def sR1 : Sys := (processCommand {} 1 [strBytes "SUBSCRIBE", [120]] ((runHistory demoB).beginEvent.withHints [3] [])).2
def sR2 : Sys := (processCommand {} 1 [strBytes "EXEC"] (sR1.withHints [4] [])).2

example :
    sR2.out.map (fun p => (p.1, p.2.render)) =
      [(1, (Reply.err (strBytes Msgs.EXECABORT_MSG)).render), (1, (Reply.err (strBytes Msgs.COMMAND_IN_MULTI_MSG)).render)] ∧
    (sR2.conn 1).tx = none ∧ sR2.srv.dbs.map (·.map Prod.fst) = List.replicate 16 [] ∧ sR2.crashed = none ∧
    sR2.fault = none ∧
    (processCommand {} 1 [strBytes "GET", [107]] ({ sR2 with out := [] }.withHints [5] [])).2.out.map
      (fun p => (p.1, p.2.render)) = [(1, Reply.nil.render)] :=
  have h :
      sR2.out = [(1, Reply.err (strBytes Msgs.EXECABORT_MSG)), (1, Reply.err (strBytes Msgs.COMMAND_IN_MULTI_MSG))] ∧
      (sR2.conn 1).tx = none ∧ sR2.srv.dbs.map (·.map Prod.fst) = List.replicate 16 [] ∧ sR2.crashed = none ∧
      sR2.fault = none ∧
      (processCommand {} 1 [strBytes "GET", [107]] ({ sR2 with out := [] }.withHints [5] [])).2.out =
        [(1, Reply.nil)] := by decide +kernel
  ⟨congrArg (List.map fun p => (p.1, p.2.render)) h.1, h.2.1, h.2.2.1, h.2.2.2.1, h.2.2.2.2.1,
    congrArg (List.map fun p => (p.1, p.2.render)) h.2.2.2.2.2⟩

example : Conn.normal ((processCommand {} 1 [strBytes "EXEC"]
    (processCommand {} 1 [strBytes "SUBSCRIBE", [120]] ((runHistory demoB).beginEvent.withHints [3, 4] [])).2).2.conn 1) :=
  have h : lookupSig (strBytes "SUBSCRIBE") = some (sigOf "subscribe") ∧
      (sigOf "subscribe").name ∈ SigTable.notInMulti ∧
      (sigOf "subscribe").checkArity ([[120]] : List Bytes).length = true ∧
      (((runHistory demoB).beginEvent.withHints [3, 4] []).conn 1).tx = some [("set", [[107], [118]])] ∧
      (((runHistory demoB).beginEvent.withHints [3, 4] []).conn 1).pubsub = 0 ∧
      commandName (strBytes "EXEC") = some "exec" := by decide +kernel
  (exec_after_refusal_aborts {} {} 1 (strBytes "SUBSCRIBE") (strBytes "EXEC") [[120]]
    ((runHistory demoB).beginEvent.withHints [3, 4] []) h.1 h.2.1 h.2.2.1 h.2.2.2.1 h.2.2.2.2.1 h.2.2.2.2.2).2.1

/-! ### the chunking theorems of `C04s`, aliveness discharged

`C04s.sendall_append`, `sendChunks_flatten`, `all_chunkings_agree` need "the connection is alive after the first chunk /
after each chunk / after the one-shot write".  From a healthy state — in particular from every state reached by a
history without a write during an outage (`UpFrom`) — that always holds: no request kills a connection, EXEC of a
queue with script commands included. -/

/-- the state at the start of a `.send` event in a reachable healthy state satisfies the event invariant -/
theorem K_of_reachable (evs : List Ev) (hg : UpFrom {} evs) (cl : List Int) (pk : List (List Bytes)) :
    K ((runHistory evs).beginEvent.withHints cl pk) :=
  ⟨txWf_reachable evs, rfl, (reachable_alive evs hg).1⟩

/-- after a write, from a state satisfying the event invariant, the connection is alive -/
theorem alive_after_sendall (mode : Mode) (c : Nat) (data : Bytes) (s : Sys) (hk : K s) :
    (connOf ((sendall mode c data).run s).2 c).dead = false :=
  (sendall_K mode c data s hk).healthy.2.conn c

/-- **`sendall a; sendall b = sendall (a ++ b)`** for any split of any byte stream, from any state satisfying the
event invariant — no aliveness hypothesis, no hypothesis on the `fault` marker -/
theorem sendall_append (mode : Mode) (c : Nat) (a b : Bytes) (s : Sys) (hk : K s) :
    (do sendall mode c a; sendall mode c b : M Unit).run s = (sendall mode c (a ++ b)).run s :=
  FR.Props.C04s.sendall_append mode c a b s (alive_after_sendall mode c a s hk)

/-- **All chunkings agree**: every chunking `cs` of a stream does exactly what the one-shot write does — same replies
in the same order, same final state -/
theorem all_chunkings_agree (mode : Mode) (c : Nat) (stream : Bytes) (s : Sys) (hk : K s)
    (cs : List Bytes) (hne : cs ≠ []) (hflat : cs.flatten = stream) :
    (sendChunks mode c cs).run s = (sendall mode c stream).run s :=
  FR.Props.C04s.all_chunkings_agree mode c stream s (alive_after_sendall mode c stream s hk) cs hne hflat

/-- two chunkings of the same stream end in the same state, with the same replies -/
theorem chunking_irrelevant (mode : Mode) (c : Nat) (cs cs' : List Bytes) (hne : cs ≠ []) (hne' : cs' ≠ [])
    (hflat : cs.flatten = cs'.flatten) (s : Sys) (hk : K s) :
    (sendChunks mode c cs).run s = (sendChunks mode c cs').run s := by
  rw [all_chunkings_agree mode c cs.flatten s hk cs hne rfl,
    all_chunkings_agree mode c cs.flatten s hk cs' hne' hflat.symm]

/-- the same from reachable states: after any history without a write during an outage, at the start of a `.send`
event -/
theorem all_chunkings_agree_reachable (evs : List Ev) (hg : UpFrom {} evs) (mode : Mode) (c : Nat) (stream : Bytes)
    (cl : List Int) (pk : List (List Bytes))
    (cs : List Bytes) (hne : cs ≠ []) (hflat : cs.flatten = stream) :
    (sendChunks mode c cs).run ((runHistory evs).beginEvent.withHints cl pk) =
      (sendall mode c stream).run ((runHistory evs).beginEvent.withHints cl pk) :=
  all_chunkings_agree mode c stream _ (K_of_reachable evs hg cl pk) cs hne hflat

/-- non-vacuity: the KF-1 stream `MULTI / SUBSCRIBE x / EXEC / PING`, byte by byte (69 chunks), from the state
after a connection was opened — before the fix the byte-wise delivery and the one-shot write differed -/
example :
    (sendChunks {} 1 ((FR.Props.C04s.multiSubExec ++ FR.Props.C04s.ping).map fun x => [x])).run
        ((runHistory [.open 1]).beginEvent.withHints [1, 2, 3, 4] []) =
      (sendall {} 1 (FR.Props.C04s.multiSubExec ++ FR.Props.C04s.ping)).run
        ((runHistory [.open 1]).beginEvent.withHints [1, 2, 3, 4] []) :=
  all_chunkings_agree_reachable [.open 1] (by decide +kernel) {} 1 _ [1, 2, 3, 4] [] _
    (by decide) (by decide +kernel)

example : ((sendall {} 1 (FR.Props.C04s.multiSubExec ++ FR.Props.C04s.ping)).run
    ((runHistory [.open 1]).beginEvent.withHints [1, 2, 3, 4] [])).2.out.reverse.map (fun p => (p.1, p.2.render)) =
    [(1, Reply.ok.render), (1, (Reply.err (strBytes Msgs.COMMAND_IN_MULTI_MSG)).render),
     (1, (Reply.err (strBytes Msgs.EXECABORT_MSG)).render), (1, Reply.pong.render)] :=
  congrArg (List.map fun p => (p.1, p.2.render)) (by decide +kernel :
    ((sendall {} 1 (FR.Props.C04s.multiSubExec ++ FR.Props.C04s.ping)).run
      ((runHistory [.open 1]).beginEvent.withHints [1, 2, 3, 4] [])).2.out.reverse =
    [(1, Reply.ok), (1, Reply.err (strBytes Msgs.COMMAND_IN_MULTI_MSG)),
     (1, Reply.err (strBytes Msgs.EXECABORT_MSG)), (1, Reply.pong)])

example : (do sendall {} 1 FR.Props.C04s.multiSubExec; sendall {} 1 FR.Props.C04s.ping : M Unit).run
      ((runHistory [.open 1]).beginEvent.withHints [1, 2, 3, 4] []) =
    (sendall {} 1 (FR.Props.C04s.multiSubExec ++ FR.Props.C04s.ping)).run
      ((runHistory [.open 1]).beginEvent.withHints [1, 2, 3, 4] []) :=
  sendall_append {} 1 _ _ _ (K_of_reachable [.open 1] (by decide +kernel) _ _)

/-- non-vacuity with a script command in the queue: `MULTI / EVAL "return 1" 0 / EXEC / PING`, byte by byte, whatever
the hints (here: none, so the replay sets `fault` - and the chunkings still agree) -/
example :
    (sendChunks {} 1 ((FR.Props.C04s.multiEvalExec ++ FR.Props.C04s.ping).map fun x => [x])).run
        ((runHistory [.open 1]).beginEvent.withHints [1, 2, 3, 4] []) =
      (sendall {} 1 (FR.Props.C04s.multiEvalExec ++ FR.Props.C04s.ping)).run
        ((runHistory [.open 1]).beginEvent.withHints [1, 2, 3, 4] []) :=
  all_chunkings_agree_reachable [.open 1] (by decide +kernel) {} 1 _ [1, 2, 3, 4] [] _
    (by decide) (by decide +kernel)

end FR.Props.C04k

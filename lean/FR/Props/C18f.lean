import FR.Proofs.C18fReparse
import FR.Proofs.C18fRun
import FR.Props.C18
/-!
# C18 (floating point) — the float argument grammar, the decoded value, the flags, INCRBYFLOAT, ZADD/ZSCORE

Vocabulary (the grammar and the denotation are defined in `FR/Proofs/C18fGrammar.lean`, independently of the model's
parser; `modelVal`, `expoC`, `clampE` in `C18fParse.lean`; `roundAbs`, `ovf`, `NoClamp` in `C18fRound.lean`):
* `DecLit` — the parse tree of a decimal literal: `sign : Sgn` (none / `+` / `-`), `ip` (integer digits), `frac`
  (`some fp` iff a `.` is written), `exp : Option ExpPart` (`letter`, `sign`, `digits`);
  `L.render` — its bytes, nothing before, between or after the parts;
  `L.Valid` — the C grammar: `digits [. digits*] | . digits`, optionally followed by `[eE][+-]?digits`;
* `InfWord w` — `w` is `inf` or `infinity` in any ASCII case;
* `StrtodDecimal s` — the grammar: `s` is the rendering of a valid parse tree, or an optional sign and an `InfWord`
  (`strtodDecimal_iff_CGrammar` spells it as a direct transcription of the C grammar on bytes);
* `L.mant` — all mantissa digits read as one natural number (`decNat`, positional), `L.expo` the written exponent,
  `L.exp10 = L.expo − #fraction digits`, `L.rat = ± L.mant · 10^L.exp10 : Rat` the number the literal denotes
  (`= mkRat (± L.ratNum) L.ratDen`);
* `modelVal L` — what the model computes: `Dbl.ofDecimal` of the mantissa and the saturated exponent `expoC L`
  (the model clamps a written exponent above one million to one million, `clampE`);
* `roundAbs neg q` — `Dbl.roundPos` applied to `|q|` in lowest terms: round-to-nearest-even with sign bit `neg`
  (`roundPos_scale`: the result depends on the rational only; `rm_spec`, `roundPos_isInf_iff`, `roundPos_isZero_iff`,
  `roundPos_exact_canon` say what rounding means);
* `ovf = 2^1024 − 2^970` — from there on a magnitude rounds to infinity; `2^-1075` — up to there it rounds to zero;
* `NoClamp L` — the written exponent is at most `10^6` in magnitude or the mantissa has at most 999000 digits: the
  only literals on which the model's exponent saturation can be observed are megabyte-sized (`§6`).

Contents.
* §0 `strtodDecimal_iff_CGrammar` — the grammar as a transcription of the C grammar; examples.
* §1 `float_decode_iff`, `float_decode_accepts_iff`, `float_decode_refuses` — in full strength, for all byte strings: the plain
  `Float` converter accepts exactly the grammar minus over/underflow (as the model computes them); unique reading.
* §2 `float_decode_value_partial` (`d = roundAbs sign (denoted rational)`), `float_decode_accepts_iff_partial` (true
  thresholds `2^-1075 < |q| < 2^1024 − 2^970`), `float_decode_sign`, `float_decode_zero_iff`,
  `float_decode_exact_partial`, `float_decode_exact_int_partial`, `float_decode_half_ulp_partial`,
  `float_decode_tie_even_partial`; §2b `float_decode_mono_partial`, `overflows_iff_rat`, `underflows_iff_rat`.
  The `_partial` ones assume `NoClamp` (implied by `length ≤ 999000`); §6 shows they are false without it.
* §3 the flags: `floatGen_factor`, `allow_leading_whitespace_iff` (+ `isSpace_iff`), `crop_null_eq`, `allow_empty_eq`,
  `allow_erange_iff`, `sortFloat_iff`, `scoreTest_iff`, and the refusals without each flag.
* §4 `incrbyfloat_never_stores_nonfinite`, `hincrbyfloat_never_stores_nonfinite` (through the runner; the stored string is
  re-read by the converter as a finite double).
* §5 `zadd_zscore_roundtrip_partial` (hypothesis: the 17-digit codec law at the score, `CodecAt`),
  `zadd_zscore_roundtrip_of_law`, `zadd_zscore_zero_sign`.
* §6 `float_decode_value_full_false`, `float_decode_accepts_full_false` — kernel-checked witnesses (1 MB / 2 MB literals)
  where the model's exponent saturation shows; replayed on the Python code, which does not saturate.
-/
namespace FR.Props.C18f
open FR FR.C18f FR.DumpRound

/-! ## 0. The grammar, spelled out -/

theorem strtodDecimal_def (s : Bytes) :
    StrtodDecimal s ↔
      (∃ L : DecLit,
        (Digits L.ip ∧ Digits L.fp ∧ (L.ip ≠ [] ∨ L.fp ≠ []) ∧
          ∀ x, L.exp = some x → (x.letter = 101 ∨ x.letter = 69) ∧ Digits x.digits ∧ x.digits ≠ []) ∧
        s = L.sign.bytes ++ (L.ip ++ (L.fracBytes ++ L.expBytes))) ∨
      (∃ (sg : Sgn) (w : Bytes),
        (CIEq w [105, 110, 102] ∨ CIEq w [105, 110, 102, 105, 110, 105, 116, 121]) ∧ s = sg.bytes ++ w) :=
  Iff.rfl

/-- an optional sign, as bytes -/
def SignB (sg : Bytes) : Prop := sg = [] ∨ sg = [43] ∨ sg = [45]
/-- `digits [. digits*] | . digits` -/
def CMantissa (b : Bytes) : Prop :=
  ∃ ip fp, Digits ip ∧ Digits fp ∧ ((ip ≠ [] ∧ (b = ip ∨ b = ip ++ 46 :: fp)) ∨ (fp ≠ [] ∧ b = 46 :: fp))
/-- `[eE][+-]?digits` -/
def CExponent (x : Bytes) : Prop :=
  ∃ c sg ds, (c = 101 ∨ c = 69) ∧ SignB sg ∧ Digits ds ∧ ds ≠ [] ∧ x = c :: (sg ++ ds)
/-- the C `strtod` decimal grammar (no `nan`, no hex floats), transcribed on bytes: nothing before or after -/
def CGrammar (s : Bytes) : Prop :=
  ∃ sg body, SignB sg ∧ s = sg ++ body ∧
    (InfWord body ∨ ∃ mt x, CMantissa mt ∧ (x = [] ∨ CExponent x) ∧ body = mt ++ x)

theorem signB_bytes (sg : Sgn) : SignB sg.bytes := by
  cases sg
  · exact Or.inl rfl
  · exact Or.inr (Or.inl rfl)
  · exact Or.inr (Or.inr rfl)

theorem signB_exists {b : Bytes} (h : SignB b) : ∃ sg : Sgn, sg.bytes = b := by
  rcases h with h | h | h
  · exact ⟨.none, h.symm⟩
  · exact ⟨.plus, h.symm⟩
  · exact ⟨.minus, h.symm⟩

theorem strtodDecimal_iff_CGrammar (s : Bytes) : StrtodDecimal s ↔ CGrammar s := by
  constructor
  · rintro (⟨L, hv, hs⟩ | ⟨sg, w, hw, hs⟩)
    · obtain ⟨hip, hfp, hne, hexp⟩ := hv
      refine ⟨L.sign.bytes, L.body, signB_bytes _, hs, Or.inr ⟨L.ip ++ L.fracBytes, L.expBytes, ?_, ?_, ?_⟩⟩
      · refine ⟨L.ip, L.fp, hip, hfp, ?_⟩
        unfold DecLit.fracBytes
        unfold DecLit.fp at hne ⊢
        cases hf : L.frac with
        | none =>
          rw [hf] at hne
          have hi : L.ip ≠ [] := by
            rcases hne with h | h
            · exact h
            · exact absurd rfl h
          exact Or.inl ⟨hi, Or.inl (List.append_nil _)⟩
        | some f =>
          rw [hf] at hne
          by_cases hi : L.ip = []
          · have hf' : f ≠ [] := by
              rcases hne with h | h
              · exact absurd hi h
              · exact h
            exact Or.inr ⟨hf', by rw [hi]; rfl⟩
          · exact Or.inl ⟨hi, Or.inr rfl⟩
      · unfold DecLit.expBytes
        cases he : L.exp with
        | none => exact Or.inl rfl
        | some x =>
          obtain ⟨hl, hd, hn⟩ := hexp x he
          exact Or.inr ⟨x.letter, x.sign.bytes, x.digits, hl, signB_bytes _, hd, hn, rfl⟩
      · unfold DecLit.body
        rw [List.append_assoc]
    · exact ⟨sg.bytes, w, signB_bytes _, hs, Or.inl hw⟩
  · rintro ⟨sgb, body, hsg, hs, hbody⟩
    obtain ⟨sg, rfl⟩ := signB_exists hsg
    rcases hbody with hw | ⟨mt, x, ⟨ip, fp, hip, hfp, hm⟩, hx, hb⟩
    · exact Or.inr ⟨sg, body, hw, hs⟩
    · left
      have hexp : ∃ exp : Option ExpPart,
          (∀ y, exp = some y → (y.letter = 101 ∨ y.letter = 69) ∧ Digits y.digits ∧ y.digits ≠ []) ∧
          x = (DecLit.mk .none [] none exp).expBytes := by
        rcases hx with rfl | ⟨c, sgb', ds, hc, hsg', hd, hn, rfl⟩
        · exact ⟨none, fun y hy => (by cases hy), rfl⟩
        · obtain ⟨sg', rfl⟩ := signB_exists hsg'
          refine ⟨some ⟨c, sg', ds⟩, ?_, rfl⟩
          intro y hy; cases hy; exact ⟨hc, hd, hn⟩
      obtain ⟨exp, hexp, rfl⟩ := hexp
      rcases hm with ⟨hi, hmt | hmt⟩ | ⟨hf, hmt⟩
      · exact ⟨⟨sg, ip, none, exp⟩, ⟨hip, Digits.nil, Or.inl hi, hexp⟩, by rw [hs, hb, hmt]; rfl⟩
      · refine ⟨⟨sg, ip, some fp, exp⟩, ⟨hip, hfp, Or.inl hi, hexp⟩, ?_⟩
        rw [hs, hb, hmt, List.append_assoc]
        rfl
      · refine ⟨⟨sg, [], some fp, exp⟩, ⟨Digits.nil, hfp, Or.inr hf, hexp⟩, ?_⟩
        rw [hs, hb, hmt]
        rfl

example : StrtodDecimal (strBytes "-12.50e+3") := by
  rw [strBytes_eq]
  exact Or.inl ⟨⟨.minus, [49, 50], some [53, 48], some ⟨101, .plus, [51]⟩⟩, by decide, rfl⟩
example : StrtodDecimal (strBytes ".5") := by
  rw [strBytes_eq]; exact Or.inl ⟨⟨.none, [], some [53], none⟩, by decide, rfl⟩
example : StrtodDecimal (strBytes "1.") := by
  rw [strBytes_eq]; exact Or.inl ⟨⟨.none, [49], some [], none⟩, by decide, rfl⟩
example : StrtodDecimal (strBytes "+InFiNiTy") := by
  rw [strBytes_eq]; exact Or.inr ⟨.plus, [73, 110, 70, 105, 78, 105, 84, 121], by decide, rfl⟩

/-! ## 1. `Float.decode` (no flags) accepts exactly the grammar, minus over/underflow -/

theorem word_not_literal {L : DecLit} (hv : L.Valid) {sg : Sgn} {w : Bytes} (hw : InfWord w) :
    L.render ≠ sg.bytes ++ w :=
  render_ne_word hv hw

/-- overflow as the model sees it: the magnitude `mant · 10^(expoC − #fraction digits)` is at least
`2^1024 − 2^970` (it rounds to an infinity).  `expoC` is the model's saturated exponent. -/
def OverflowsC (L : DecLit) : Prop :=
  ovf * 10 ^ (-(expoC L - (L.fp.length : Int))).toNat ≤ L.mant * 10 ^ (expoC L - (L.fp.length : Int)).toNat
/-- underflow as the model sees it: a non-zero mantissa whose magnitude is at most `2^-1075` (it rounds to zero) -/
def UnderflowsC (L : DecLit) : Prop :=
  L.mant ≠ 0 ∧
    L.mant * 10 ^ (expoC L - (L.fp.length : Int)).toNat * 2 ^ 1075 ≤ 10 ^ (-(expoC L - (L.fp.length : Int))).toNat
/-- overflow and underflow of the number the literal denotes (written exponent, no saturation):
`|L.rat| ≥ 2^1024 − 2^970`, resp. `0 < |L.rat| ≤ 2^-1075` (`L.rat = ± ratNum / ratDen`) -/
def Overflows (L : DecLit) : Prop := ovf * L.ratDen ≤ L.ratNum
def Underflows (L : DecLit) : Prop := L.mant ≠ 0 ∧ L.ratNum * 2 ^ 1075 ≤ L.ratDen
instance (L : DecLit) : Decidable (OverflowsC L) := by unfold OverflowsC; infer_instance
instance (L : DecLit) : Decidable (UnderflowsC L) := by unfold UnderflowsC; infer_instance
instance (L : DecLit) : Decidable (Overflows L) := by unfold Overflows; infer_instance
instance (L : DecLit) : Decidable (Underflows L) := by unfold Underflows; infer_instance

theorem modelVal_isInf_iff (L : DecLit) : (modelVal L).isInf = true ↔ OverflowsC L :=
  ofDecimal_isInf_iff _ _ _

theorem modelVal_isZero_iff (L : DecLit) : (modelVal L).isZero = true ↔ L.mant = 0 ∨ UnderflowsC L := by
  unfold modelVal UnderflowsC
  rw [ofDecimal_isZero_iff]
  constructor
  · rintro (h | h)
    · exact Or.inl h
    · by_cases h0 : L.mant = 0
      · exact Or.inl h0
      · exact Or.inr ⟨h0, h⟩
  · rintro (h | ⟨_, h⟩)
    · exact Or.inl h
    · exact Or.inr h

set_option exponentiation.threshold 1100 in
theorem not_overflowsC_of_mant_zero {L : DecLit} (h : L.mant = 0) : ¬ OverflowsC L := by
  unfold OverflowsC
  rw [h, Nat.zero_mul]
  have : 0 < ovf * 10 ^ (-(expoC L - (L.fp.length : Int))).toNat :=
    Nat.mul_pos (Nat.mul_pos (by decide) (Nat.pow_pos (by decide))) (Nat.pow_pos (by decide))
  omega

/-- the range rule of the plain converter, in threshold form -/
theorem rangeOK_false_iff (L : DecLit) :
    RangeOK false L.mant (modelVal L) ↔ ¬ OverflowsC L ∧ ¬ UnderflowsC L := by
  unfold RangeOK
  constructor
  · rintro (h | h | ⟨h1, h2⟩)
    · cases h
    · exact ⟨not_overflowsC_of_mant_zero h, fun hu => hu.1 h⟩
    · refine ⟨fun ho => ?_, fun hu => ?_⟩
      · rw [(modelVal_isInf_iff L).mpr ho] at h1; cases h1
      · rw [(modelVal_isZero_iff L).mpr (Or.inr hu)] at h2; cases h2
  · rintro ⟨h1, h2⟩
    by_cases h0 : L.mant = 0
    · exact Or.inr (Or.inl h0)
    · right; right
      constructor
      · cases hi : (modelVal L).isInf with
        | false => rfl
        | true => exact absurd ((modelVal_isInf_iff L).mp hi) h1
      · cases hz : (modelVal L).isZero with
        | false => rfl
        | true =>
          rcases (modelVal_isZero_iff L).mp hz with h | h
          · exact absurd h h0
          · exact absurd h h2

/-- the reading of an accepted literal is unique: whichever valid `L` renders to `s`, the value is `L`'s and `L` is
in range -/
theorem float_ok_lit {s : Bytes} {d : Dbl} (h : Conv.float s = .ok d) {L : DecLit} (hv : L.Valid)
    (hs : s = L.render) : d = modelVal L ∧ ¬ OverflowsC L ∧ ¬ UnderflowsC L := by
  obtain ⟨hd, hr⟩ := floatGen_ok_lit h hv hs
  exact ⟨hd, (rangeOK_false_iff L).mp (hd ▸ hr)⟩

/-- for all byte strings `s` and doubles `d`: the plain `Float` converter (INCRBYFLOAT,
HINCRBYFLOAT, ZADD, ZINCRBY, WEIGHTS …) returns `d` iff `s` is a decimal literal of the grammar that neither overflows nor
underflows and `d` is its model value, or `s` is a signed `inf`/`infinity` and `d` the infinity of that sign. -/
theorem float_decode_iff (s : Bytes) (d : Dbl) :
    Conv.float s = .ok d ↔
      (∃ L : DecLit, L.Valid ∧ s = L.render ∧ d = modelVal L ∧ ¬ OverflowsC L ∧ ¬ UnderflowsC L) ∨
      (∃ (sg : Sgn) (w : Bytes), InfWord w ∧ s = sg.bytes ++ w ∧ d = .inf sg.neg) := by
  unfold Conv.float
  rw [floatGen_ok_iff]
  exact or_congr_left (exists_congr fun L => and_congr_right fun _ => and_congr_right fun _ =>
    and_congr_right fun hd => hd ▸ rangeOK_false_iff L)

/-- for all byte strings: `Float.decode` succeeds iff the string is in the grammar and
(when it is a decimal literal; its reading `L` is unique, `render_injective`) neither overflows nor underflows.
Everything else — stray characters, `_`, any whitespace, `nan`, hex floats, the empty string, a bare sign or point — is
refused. -/
theorem float_decode_accepts_iff (s : Bytes) :
    (∃ d, Conv.float s = .ok d) ↔
      StrtodDecimal s ∧ ∀ L : DecLit, L.Valid → s = L.render → ¬ OverflowsC L ∧ ¬ UnderflowsC L := by
  constructor
  · rintro ⟨d, h⟩
    refine ⟨?_, fun L hv hs => (float_ok_lit h hv hs).2⟩
    rcases (float_decode_iff s d).mp h with ⟨L, hv, hs, _⟩ | ⟨sg, w, hw, hs, _⟩
    · exact Or.inl ⟨L, hv, hs⟩
    · exact Or.inr ⟨sg, w, hw, hs⟩
  · rintro ⟨hg, hr⟩
    rcases hg with ⟨L, hv, hs⟩ | ⟨sg, w, hw, hs⟩
    · exact ⟨modelVal L, (float_decode_iff s _).mpr (Or.inl ⟨L, hv, hs, rfl, hr L hv hs⟩)⟩
    · exact ⟨.inf sg.neg, (float_decode_iff s _).mpr (Or.inr ⟨sg, w, hw, hs, rfl⟩)⟩

/-- every refusal carries the converter's message -/
theorem float_decode_refuses (s : Bytes)
    (h : ¬ (StrtodDecimal s ∧ ∀ L : DecLit, L.Valid → s = L.render → ¬ OverflowsC L ∧ ¬ UnderflowsC L)) :
    Conv.float s = .error Msgs.INVALID_FLOAT_MSG :=
  floatGen_refuses fun d hc => h ((float_decode_accepts_iff s).mp ⟨d, hc⟩)

theorem float_decode_only_grammar (s : Bytes) (d : Dbl) (h : Conv.float s = .ok d) : StrtodDecimal s :=
  ((float_decode_accepts_iff s).mp ⟨d, h⟩).1

-- non-vacuity: accepted / refused strings (kernel-evaluated on the model) and their grammar status
example : (Conv.float (strBytes "-12.50e+3")).toOption = some (Dbl.ofDecimal true 1250 1) := by decide +kernel
example : (Conv.float (strBytes "1.")).toOption = some Dbl.one ∧
    (Conv.float (strBytes ".5e1")).toOption = some (Dbl.ofInt 5) := by
  decide +kernel
example : (Conv.float (strBytes "-InF")).toOption = some (.inf true) ∧
    (Conv.float (strBytes "+infinity")).toOption = some (.inf false) := by
  decide +kernel
example : (Conv.float (strBytes "1e400")).isOk = false ∧ (Conv.float (strBytes "1e-400")).isOk = false ∧
    (Conv.float (strBytes "0e400")).isOk = true ∧ (Conv.float (strBytes "-0")).isOk = true ∧
    (Conv.float (strBytes "nan")).isOk = false ∧ (Conv.float (strBytes "0x10")).isOk = false ∧
    (Conv.float (strBytes "1_0")).isOk = false ∧ (Conv.float (strBytes " 1")).isOk = false ∧
    (Conv.float (strBytes "1 ")).isOk = false ∧ (Conv.float (strBytes "")).isOk = false ∧
    (Conv.float (strBytes ".")).isOk = false ∧ (Conv.float (strBytes "1e")).isOk = false ∧
    (Conv.float (strBytes "infinit")).isOk = false ∧ (Conv.float (strBytes "1.5.2")).isOk = false ∧
    (Conv.float (strBytes "2.4703282292062328e-324")).isOk = true ∧
    (Conv.float (strBytes "2.4703282292062327e-324")).isOk = false ∧
    (Conv.float (strBytes "1.7976931348623158e308")).isOk = true ∧
    (Conv.float (strBytes "1.7976931348623159e308")).isOk = false := by
  decide +kernel
/-- the literal `1e400` is in the grammar and overflows; `1e-400` underflows; `0e400` does neither -/
example :
    let L1 : DecLit := ⟨.none, [49], none, some ⟨101, .none, [52, 48, 48]⟩⟩
    let L2 : DecLit := ⟨.none, [49], none, some ⟨101, .minus, [52, 48, 48]⟩⟩
    let L3 : DecLit := ⟨.none, [48], none, some ⟨101, .none, [52, 48, 48]⟩⟩
    (L1.Valid ∧ OverflowsC L1) ∧ (L2.Valid ∧ UnderflowsC L2) ∧ (L3.Valid ∧ ¬ OverflowsC L3 ∧ ¬ UnderflowsC L3) := by
  intro L1 L2 L3
  refine ⟨⟨by decide, ?_⟩, ⟨by decide, ?_⟩, ⟨by decide, ?_, ?_⟩⟩
  · exact (modelVal_isInf_iff L1).mp (by decide +kernel)
  · have := (modelVal_isZero_iff L2).mp (by decide +kernel)
    exact this.resolve_left (by decide)
  · exact not_overflowsC_of_mant_zero (by decide)
  · exact fun h => h.1 (by decide)

/-! ## 2. The decoded value -/

/-- `s` denotes the rational `q`: `s` is a decimal literal of the grammar and `q = ± mant · 10^(exponent − #fraction
digits)`, computed from the parse tree alone -/
def Denotes (s : Bytes) (q : Rat) : Prop := ∃ L : DecLit, L.Valid ∧ s = L.render ∧ q = L.rat

/-- the denotation is a partial function of the string -/
theorem denotes_unique {s : Bytes} {q q' : Rat} (h : Denotes s q) (h' : Denotes s q') : q = q' := by
  obtain ⟨L, hv, hs, hq⟩ := h
  obtain ⟨L', hv', hs', hq'⟩ := h'
  rw [hq, hq', render_injective hv hv' (hs.symm.trans hs')]

/-- the denotation as a quotient: `L.rat = ± (mant · 10^exp10⁺) / 10^exp10⁻` -/
theorem rat_eq_div (L : DecLit) :
    L.rat = ((if L.sign.neg then -1 else 1) * (L.mant * 10 ^ L.exp10.toNat : Nat) : Int) / ((10 ^ (-L.exp10).toNat : Nat) : Rat) :=
  Rat.mkRat_eq_div _ _

theorem noClamp_of_length {L : DecLit} {s : Bytes} (hs : s = L.render) (hl : s.length ≤ 999000) : NoClamp L := by
  right
  rw [hs] at hl
  unfold DecLit.render at hl
  simp only [List.length_append] at hl
  have : L.fp.length ≤ L.fracBytes.length := by
    unfold DecLit.fp DecLit.fracBytes
    cases L.frac <;> simp
  omega

/-- (partial: `NoClamp`, e.g. every string of at most 999000 bytes) an accepted decimal literal is
decoded to the correctly rounded binary64 of the rational it denotes: `roundAbs` is round-to-nearest-even of the
magnitude in lowest terms, with the sign bit of the literal (so `-0`, `-0.0e5` give `-0.0`). -/
theorem float_decode_value_partial (s : Bytes) (d : Dbl) (h : Conv.float s = .ok d)
    (L : DecLit) (hv : L.Valid) (hs : s = L.render) (hc : NoClamp L) :
    d = roundAbs L.sign.neg L.rat := by
  rw [(float_ok_lit h hv hs).1]
  exact modelVal_eq_roundAbs L hv hc

/-- `float_decode_value_partial` for a string of at most 999000 bytes, which implies `NoClamp` -/
theorem float_decode_value_short (s : Bytes) (d : Dbl) (h : Conv.float s = .ok d) (hl : s.length ≤ 999000)
    (L : DecLit) (hv : L.Valid) (hs : s = L.render) : d = roundAbs L.sign.neg L.rat :=
  float_decode_value_partial s d h L hv hs (noClamp_of_length hs hl)

theorem float_ok_roundPos {s : Bytes} {d : Dbl} (h : Conv.float s = .ok d) {L : DecLit} (hv : L.Valid)
    (hs : s = L.render) (hc : NoClamp L) : d = Dbl.roundPos L.sign.neg L.ratNum L.ratDen :=
  (float_decode_value_partial s d h L hv hs hc).trans (roundAbs_rat L)

/-- what `roundAbs` of the denotation is: `roundPos` on any fraction equal to `|L.rat|` -/
theorem roundAbs_rat_eq (L : DecLit) (a b : Nat) (hb : 0 < b) (h : a * L.ratDen = L.ratNum * b) :
    roundAbs L.sign.neg L.rat = Dbl.roundPos L.sign.neg a b := by
  rw [roundAbs_rat]
  exact (roundPos_congr _ hb (ratDen_pos L) h).symm

set_option exponentiation.threshold 1100 in
/-- under `NoClamp` the model's saturated thresholds are the true ones -/
theorem overflowsC_iff (L : DecLit) (hv : L.Valid) (hc : NoClamp L) : OverflowsC L ↔ Overflows L := by
  rw [← modelVal_isInf_iff, modelVal_eq_roundAbs L hv hc, roundAbs_rat]
  exact roundPos_isInf_iff _ _ _ (ratDen_pos L)

theorem ratNum_eq_zero_iff (L : DecLit) : L.ratNum = 0 ↔ L.mant = 0 := by
  unfold DecLit.ratNum
  constructor
  · intro h
    rcases Nat.mul_eq_zero.mp h with h | h
    · exact h
    · exact absurd h (Nat.ne_of_gt (Nat.pow_pos (by decide)))
  · intro h; rw [h, Nat.zero_mul]

theorem underflowsC_iff (L : DecLit) (hv : L.Valid) (hc : NoClamp L) : UnderflowsC L ↔ Underflows L := by
  unfold Underflows
  by_cases h0 : L.mant = 0
  · exact ⟨fun h => absurd h0 h.1, fun h => absurd h0 h.1⟩
  · have hz := modelVal_isZero_iff L
    rw [modelVal_eq_roundAbs L hv hc, roundAbs_rat,
      roundPos_isZero_iff _ _ _ (ratDen_pos L)] at hz
    constructor
    · intro h; exact ⟨h0, hz.mpr (Or.inr h)⟩
    · intro h; exact (hz.mp h.2).resolve_left h0

/-- for every byte string of at most 999000 bytes: accepted iff in the grammar
and the denoted number `q` satisfies `q = 0 ∨ 2^-1075 < |q| < 2^1024 − 2^970` (cross-multiplied in `Overflows`,
`Underflows`).  So: an overflow to `±inf` from a finite literal is refused; an underflow to `±0` from a literal with a
non-zero digit is refused; a literal all of whose digits are `0` is accepted whatever its exponent; subnormal results are
accepted. -/
theorem float_decode_accepts_iff_partial (s : Bytes) (hl : s.length ≤ 999000) :
    (∃ d, Conv.float s = .ok d) ↔
      StrtodDecimal s ∧ ∀ L : DecLit, L.Valid → s = L.render → ¬ Overflows L ∧ ¬ Underflows L := by
  rw [float_decode_accepts_iff]
  refine and_congr_right fun _ => forall_congr' fun L => imp_congr_right fun hv => imp_congr_right fun hs => ?_
  rw [overflowsC_iff L hv (noClamp_of_length hs hl), underflowsC_iff L hv (noClamp_of_length hs hl)]

/-- sign and finiteness: an accepted decimal literal gives a finite double carrying the sign bit of the literal; an
accepted word gives the infinity of its sign -/
theorem float_decode_sign (s : Bytes) (d : Dbl) (h : Conv.float s = .ok d) :
    (∃ L : DecLit, L.Valid ∧ s = L.render ∧ ∃ m e, d = .fin L.sign.neg m e) ∨
    (∃ (sg : Sgn) (w : Bytes), InfWord w ∧ s = sg.bytes ++ w ∧ d = .inf sg.neg) := by
  rcases (float_decode_iff s d).mp h with ⟨L, hv, hs, hd, ho, _⟩ | h'
  · left
    refine ⟨L, hv, hs, ?_⟩
    rcases ofDecimal_shape L.sign.neg L.mant (expoC L - (L.fp.length : Int)) with hi | ⟨m, e, hf⟩
    · exfalso
      apply ho
      rw [← modelVal_isInf_iff]
      unfold modelVal; rw [hi]; rfl
    · exact ⟨m, e, by rw [hd]; exact hf⟩
  · exact Or.inr h'

/-- an accepted literal decodes to a zero iff all its mantissa digits are `0`; the zero is then the canonical
signed zero with the literal's sign -/
theorem float_decode_zero_iff (s : Bytes) (d : Dbl) (h : Conv.float s = .ok d) (L : DecLit) (hv : L.Valid)
    (hs : s = L.render) :
    (d.isZero = true ↔ ∀ c ∈ L.ip ++ L.fp, c = 48) ∧ (d.isZero = true → d = .fin L.sign.neg 0 (-1074)) := by
  obtain ⟨hd, _, hu⟩ := float_ok_lit h hv hs
  have hm : L.mant = 0 ↔ ∀ c ∈ L.ip ++ L.fp, c = 48 := decNat_eq_zero_iff _ (hv.1.append hv.2.1)
  rw [hd]
  refine ⟨?_, fun hz => ofDecimal_zero_canon hz⟩
  rw [modelVal_isZero_iff, ← hm]
  exact ⟨fun h => h.resolve_right hu, Or.inl⟩

/-- exactness: a literal that denotes exactly the value `m · 2^e` of a canonical double (`|L.rat| = m·2^e`, stated as
`ratNum · 2^1074 = m · 2^(e+1074) · ratDen`) decodes to that very double -/
theorem float_decode_exact_partial (s : Bytes) (d : Dbl) (h : Conv.float s = .ok d) (L : DecLit) (hv : L.Valid)
    (hs : s = L.render) (hc : NoClamp L) (m : Nat) (e : Int) (hm : m ≠ 0) (hcan : Canon (.fin L.sign.neg m e))
    (hval : m * 2 ^ (e + 1074).toNat * L.ratDen = L.ratNum * 2 ^ 1074) :
    d = .fin L.sign.neg m e := by
  rw [float_decode_value_partial s d h L hv hs hc,
    roundAbs_rat_eq L (m * 2 ^ (e + 1074).toNat) (2 ^ 1074) (Nat.pow_pos (by decide)) hval]
  exact roundPos_exact_canon _ m e hcan hm

/-- an integer literal below `2^53` (any spelling: leading zeros, `.000`, a non-negative effective
exponent) decodes to exactly that integer: `Dbl.scaled` is the exact value times `2^1074` -/
theorem float_decode_exact_int_partial (s : Bytes) (d : Dbl) (h : Conv.float s = .ok d) (L : DecLit) (hv : L.Valid)
    (hs : s = L.render) (hc : NoClamp L) (hx : 0 ≤ L.exp10) (h0 : L.ratNum ≠ 0) (h53 : L.ratNum < 2 ^ 53) :
    d.scaled = (if L.sign.neg then -1 else 1) * ((L.ratNum * 2 ^ 1074 : Nat) : Int) := by
  have hden : L.ratDen = 1 := by
    unfold DecLit.ratDen
    have : (-L.exp10).toNat = 0 := by omega
    rw [this]
  rw [float_ok_roundPos h hv hs hc, hden]
  exact roundPos_int_scaled _ _ h0 h53

/-- half an ulp (correct rounding, quantitatively): the finite double `m · 2^e` an accepted literal decodes to differs from
the denoted magnitude `ratNum/ratDen` by at most half a unit in its last place (everything scaled by `2^1074 · ratDen`) -/
theorem float_decode_half_ulp_partial (s : Bytes) (neg : Bool) (m : Nat) (e : Int)
    (h : Conv.float s = .ok (.fin neg m e)) (L : DecLit) (hv : L.Valid) (hs : s = L.render) (hc : NoClamp L)
    (h0 : L.mant ≠ 0) :
    2 * (m * 2 ^ (e + 1074).toNat * L.ratDen) ≤ 2 * (L.ratNum * 2 ^ 1074) + 2 ^ (e + 1074).toNat * L.ratDen ∧
    2 * (L.ratNum * 2 ^ 1074) ≤ 2 * (m * 2 ^ (e + 1074).toNat * L.ratDen) + 2 ^ (e + 1074).toNat * L.ratDen := by
  have hd := float_ok_roundPos h hv hs hc
  obtain rfl := roundPos_fin_sign hd
  exact (roundPos_half_ulp _ _ _ (fun hz => h0 ((ratNum_eq_zero_iff L).mp hz)) (ratDen_pos L) m e hd.symm).2

/-- ties to even: when the denoted magnitude lies exactly half a unit in the last place from the result, the result's
significand is even -/
theorem float_decode_tie_even_partial (s : Bytes) (neg : Bool) (m : Nat) (e : Int)
    (h : Conv.float s = .ok (.fin neg m e)) (L : DecLit) (hv : L.Valid) (hs : s = L.render) (hc : NoClamp L)
    (h0 : L.mant ≠ 0)
    (htie : 2 * (m * 2 ^ (e + 1074).toNat * L.ratDen) = 2 * (L.ratNum * 2 ^ 1074) + 2 ^ (e + 1074).toNat * L.ratDen ∨
      2 * (L.ratNum * 2 ^ 1074) = 2 * (m * 2 ^ (e + 1074).toNat * L.ratDen) + 2 ^ (e + 1074).toNat * L.ratDen) :
    m % 2 = 0 := by
  have hd := float_ok_roundPos h hv hs hc
  obtain rfl := roundPos_fin_sign hd
  exact roundPos_tie_even _ _ _ (fun hz => h0 ((ratNum_eq_zero_iff L).mp hz)) (ratDen_pos L) m e hd.symm htie

-- non-vacuity for §2: the literal `-12.50e+3`
example :
    let L : DecLit := ⟨.minus, [49, 50], some [53, 48], some ⟨101, .plus, [51]⟩⟩
    L.Valid ∧ L.render = strBytes "-12.50e+3" ∧ NoClamp L ∧ L.mant = 1250 ∧ L.exp10 = 1 ∧
    L.ratNum = 12500 ∧ L.ratDen = 1 ∧ L.rat = -12500 ∧ ¬ Overflows L ∧ ¬ Underflows L ∧
    (Conv.float L.render).toOption = some (roundAbs true (-12500)) ∧
    (roundAbs true (-12500)).scaled = -(12500 * 2 ^ 1074) := by
  intro L
  refine ⟨by decide, by rw [strBytes_eq]; rfl, Or.inl (by decide), by decide, by decide, by decide, by decide,
    by decide +kernel, by decide +kernel, by decide +kernel, by decide +kernel, by decide +kernel⟩
/-- `0.1` is not a double: the half-ulp theorem applies with a non-zero error; `0.5` is exact -/
example :
    let L : DecLit := ⟨.none, [48], some [53], none⟩
    L.Valid ∧ NoClamp L ∧ L.ratNum = 5 ∧ L.ratDen = 10 ∧ Canon (.fin false (2 ^ 52) (-53)) ∧
    2 ^ 52 * 2 ^ ((-53 : Int) + 1074).toNat * L.ratDen = L.ratNum * 2 ^ 1074 ∧
    (Conv.float L.render).toOption = some (.fin false (2 ^ 52) (-53)) := by
  intro L
  exact ⟨by decide, Or.inl (by decide), by decide, by decide, by decide, by decide +kernel, by decide +kernel⟩

/-- a tie: `9007199254740993 = 2^53 + 1` lies exactly between two doubles and decodes to the even one, `2^53` -/
example :
    let L : DecLit := ⟨.none, [57, 48, 48, 55, 49, 57, 57, 50, 53, 52, 55, 52, 48, 57, 57, 51], none, none⟩
    L.Valid ∧ NoClamp L ∧ L.mant ≠ 0 ∧ L.ratNum = 2 ^ 53 + 1 ∧ L.ratDen = 1 ∧
    (Conv.float L.render).toOption = some (.fin false (2 ^ 52) 1) ∧
    2 * (L.ratNum * 2 ^ 1074) = 2 * (2 ^ 52 * 2 ^ ((1 : Int) + 1074).toNat * L.ratDen) + 2 ^ ((1 : Int) + 1074).toNat * L.ratDen := by
  intro L
  exact ⟨by decide, Or.inl (by decide), by decide, by decide, by decide, by decide +kernel, by decide +kernel⟩

/-! ## 2b. Monotonicity, and the thresholds as inequalities between rationals -/

theorem mkRat_le_mkRat_iff (n1 n2 : Int) (d1 d2 : Nat) (h1 : 0 < d1) (h2 : 0 < d2) :
    mkRat n1 d1 ≤ mkRat n2 d2 ↔ n1 * d2 ≤ n2 * d1 := by
  rw [Rat.le_iff_sub_nonneg, ← Rat.divInt_ofNat, ← Rat.divInt_ofNat,
    Rat.divInt_sub_divInt _ _ (by omega) (by omega),
    Rat.divInt_nonneg_iff_of_pos_right (by
      have : (0 : Int) < (d2 : Int) * (d1 : Int) := Int.mul_pos (by omega) (by omega)
      exact this)]
  omega

/-- the order of two denotations, cross-multiplied -/
theorem rat_le_iff (L1 L2 : DecLit) :
    L1.rat ≤ L2.rat ↔
      (if L1.sign.neg then -1 else 1) * (L1.ratNum : Int) * L2.ratDen ≤
        (if L2.sign.neg then -1 else 1) * (L2.ratNum : Int) * L1.ratDen :=
  mkRat_le_mkRat_iff _ _ _ _ (ratDen_pos L1) (ratDen_pos L2)

theorem le_neg_pos {x y : Dbl} {V W : Nat} (hx : Desc true x V) (hy : Desc false y W) : Dbl.le x y = true :=
  le_desc_neg_pos hx hy

/-- monotonicity (partial: `NoClamp`): decoding preserves the order of the denoted numbers: if `L₁.rat ≤ L₂.rat`
then the decoded doubles satisfy IEEE `≤` (`Dbl.le`: `-0 = +0`) -/
theorem float_decode_mono_partial (s1 s2 : Bytes) (d1 d2 : Dbl) (h1 : Conv.float s1 = .ok d1)
    (h2 : Conv.float s2 = .ok d2) (L1 L2 : DecLit) (hv1 : L1.Valid) (hv2 : L2.Valid) (hs1 : s1 = L1.render)
    (hs2 : s2 = L2.render) (hc1 : NoClamp L1) (hc2 : NoClamp L2) (hle : L1.rat ≤ L2.rat) :
    Dbl.le d1 d2 = true := by
  rw [float_ok_roundPos h1 hv1 hs1 hc1, float_ok_roundPos h2 hv2 hs2 hc2]
  exact roundPos_mono_signed _ _ (ratDen_pos L1) (ratDen_pos L2) ((rat_le_iff L1 L2).mp hle)

theorem rat_abs (L : DecLit) : L.rat.abs = mkRat L.ratNum L.ratDen := by
  have hnn : (0 : Rat) ≤ mkRat L.ratNum L.ratDen := by
    rw [← Rat.divInt_ofNat]
    exact Rat.divInt_nonneg (by omega) (by omega)
  unfold DecLit.rat
  cases L.sign.neg
  · simp only [Bool.false_eq_true, if_false, Int.one_mul]
    exact Rat.abs_of_nonneg hnn
  · simp only [if_true, Int.neg_mul, Int.one_mul]
    rw [← Rat.neg_mkRat, Rat.abs_neg]
    exact Rat.abs_of_nonneg hnn

theorem natCast_eq_mkRat (n : Nat) : (n : Rat) = mkRat n 1 :=
  Rat.mk_eq_mkRat (n : Int) 1 (by decide) (Nat.coprime_one_right _)

/-- `Overflows` / `Underflows` are the inequalities `2^1024 − 2^970 ≤ |q|` and `0 < |q| ≤ 2^-1075` between rationals,
`q = L.rat` the denoted number -/
theorem overflows_iff_rat (L : DecLit) : Overflows L ↔ ((ovf : Nat) : Rat) ≤ L.rat.abs := by
  rw [rat_abs, natCast_eq_mkRat, mkRat_le_mkRat_iff _ _ _ _ (Nat.le_refl 1) (ratDen_pos L)]
  unfold Overflows
  rw [Int.natCast_one, Int.mul_one, ← Int.natCast_mul, Int.ofNat_le]

set_option exponentiation.threshold 1100 in
theorem underflows_iff_rat (L : DecLit) :
    Underflows L ↔ L.rat ≠ 0 ∧ L.rat.abs ≤ mkRat 1 (2 ^ 1075) := by
  have hne : L.rat ≠ 0 ↔ L.mant ≠ 0 := by
    rw [Ne, ← Rat.abs_eq_zero_iff, rat_abs, Rat.mkRat_eq_zero (Nat.ne_of_gt (ratDen_pos L)), Int.natCast_eq_zero,
      ratNum_eq_zero_iff]
  rw [rat_abs, mkRat_le_mkRat_iff _ _ _ _ (ratDen_pos L) (Nat.pow_pos (by decide)), hne]
  unfold Underflows
  rw [Int.one_mul, ← Int.natCast_mul, Int.ofNat_le]

-- non-vacuity: `-2.5 ≤ 0.1e1` as rationals
example :
    let L1 : DecLit := ⟨.minus, [50], some [53], none⟩
    let L2 : DecLit := ⟨.none, [48], some [49], some ⟨101, .none, [49]⟩⟩
    L1.Valid ∧ L2.Valid ∧ NoClamp L1 ∧ NoClamp L2 ∧ L1.rat ≤ L2.rat ∧ L1.rat = mkRat (-25) 10 ∧ L2.rat = 1 ∧
    (Conv.float L1.render).isOk = true ∧ (Conv.float L2.render).isOk = true := by
  intro L1 L2
  exact ⟨by decide, by decide, Or.inl (by decide), Or.inl (by decide), by decide +kernel, by decide +kernel,
    by decide +kernel, by decide +kernel, by decide +kernel⟩

/-! ## 3. The four flags of `Float.decode`

`Conv.floatGen msg allow_leading_whitespace allow_erange allow_empty crop_null`.  Flag combinations used by command
signatures: `Float` = (F,F,F,F) (`Conv.float`), `SortFloat` = (T,F,T,T) (`Conv.sortFloat`, SORT … BY), `ScoreTest` =
(T,T,T,T) after an optional `(` (`Conv.scoreTest`, ZRANGEBYSCORE / ZCOUNT / ZREMRANGEBYSCORE bounds). -/

theorem prep_ff (b : Bytes) : prep false false b = b := rfl

/-- factorisation: three of the four flags are pure pre-processing of the string — cut at the first NUL, replace the
empty string by `0.0`, drop leading whitespace — followed by the flag-free converter (with the same `allow_erange`) -/
theorem floatGen_factor (msg : String) (w e m c : Bool) (b : Bytes) (d : Dbl) :
    Conv.floatGen msg w e m c b = .ok d ↔
      Conv.floatGen msg false e false false (strip w (prep m c b)) = .ok d := by
  rw [floatGen_ok_iff, floatGen_ok_iff, prep_ff]
  rfl

/-- the ASCII whitespace bytes: TAB, LF, VT, FF, CR and SPACE (Python `bytes.isspace`; the C locale `isspace`) -/
theorem isSpace_iff (c : UInt8) :
    PyFloat.isSpace c = true ↔ c = 9 ∨ c = 10 ∨ c = 11 ∨ c = 12 ∨ c = 13 ∨ c = 32 := by
  unfold PyFloat.isSpace
  constructor
  · intro h
    have h' : c = 32 ∨ (9 ≤ c ∧ c ≤ 13) := by simpa using h
    rcases h' with h | ⟨h1, h2⟩
    · exact Or.inr (Or.inr (Or.inr (Or.inr (Or.inr h))))
    · have a : 9 ≤ c.toNat := h1
      have b : c.toNat ≤ 13 := h2
      have : c.toNat = 9 ∨ c.toNat = 10 ∨ c.toNat = 11 ∨ c.toNat = 12 ∨ c.toNat = 13 := by omega
      rcases this with h | h | h | h | h
      · exact Or.inl (UInt8.toNat_inj.mp h)
      · exact Or.inr (Or.inl (UInt8.toNat_inj.mp h))
      · exact Or.inr (Or.inr (Or.inl (UInt8.toNat_inj.mp h)))
      · exact Or.inr (Or.inr (Or.inr (Or.inl (UInt8.toNat_inj.mp h))))
      · exact Or.inr (Or.inr (Or.inr (Or.inr (Or.inl (UInt8.toNat_inj.mp h)))))
  · rintro (h | h | h | h | h | h) <;> subst h <;> rfl

/-- a string the flag-free converter accepts does not start with whitespace -/
theorem accepted_head_not_space {msg : String} {e : Bool} {v : Bytes} {d : Dbl}
    (h : Conv.floatGen msg false e false false v = .ok d) : v.dropWhile PyFloat.isSpace = v := by
  have := ((floatGen_gate msg false e false false v d).mp h).1
  rw [prep_ff] at this
  rcases this with h | h
  · cases h
  · exact head_dropWhile_eq h

/-- **`allow_leading_whitespace`** accepts exactly what the converter without it accepts, preceded by any number of
ASCII whitespace bytes (`isSpace_iff`): nothing else changes (trailing whitespace stays refused) -/
theorem allow_leading_whitespace_iff (msg : String) (e m c : Bool) (b : Bytes) (d : Dbl) :
    Conv.floatGen msg true e m c b = .ok d ↔
      ∃ ws rest, prep m c b = ws ++ rest ∧ (∀ x ∈ ws, PyFloat.isSpace x = true) ∧
        Conv.floatGen msg false e false false rest = .ok d := by
  rw [floatGen_factor]
  show Conv.floatGen msg false e false false ((prep m c b).dropWhile PyFloat.isSpace) = .ok d ↔ _
  constructor
  · intro h
    exact ⟨(prep m c b).takeWhile PyFloat.isSpace, _, List.takeWhile_append_dropWhile.symm,
      fun x hx => of_mem_takeWhile _ _ hx, h⟩
  · rintro ⟨ws, rest, hp, hws, h⟩
    rw [hp, List.dropWhile_append_of_pos hws, accepted_head_not_space h]
    exact h

/-- without the flag, leading whitespace is refused -/
theorem no_leading_whitespace (msg : String) (e m c : Bool) (b : Bytes) (x : UInt8) (t : Bytes)
    (hp : prep m c b = x :: t) (hx : PyFloat.isSpace x = true) :
    Conv.floatGen msg false e m c b = .error msg := by
  refine floatGen_refuses fun d hh => ?_
  have hmem : x ∈ strip false (prep m c b) := by
    show x ∈ prep m c b
    rw [hp]
    exact List.mem_cons_self ..
  have := ((floatGen_ok_alpha hh).2 x hmem).not_space
  rw [hx] at this
  cases this

/-- `null_terminate`: everything from the first NUL byte on is dropped -/
theorem nullTerminate_eq (b : Bytes) : nullTerminate b = b.takeWhile (· != 0) := by
  induction b with
  | nil => rfl
  | cons c t ih =>
    rw [nullTerminate, List.takeWhile_cons]
    by_cases h : c = 0
    · subst h; rfl
    · have h1 : (c == 0) = false := by simpa using h
      have h2 : (c != 0) = true := by simpa using h
      rw [h1, h2, ih]; rfl

/-- **`crop_null`** cuts the argument at its first NUL byte before anything else happens -/
theorem crop_null_eq (msg : String) (w e m : Bool) (b : Bytes) :
    Conv.floatGen msg w e m true b = Conv.floatGen msg w e m false (b.takeWhile (· != 0)) := by
  rw [← nullTerminate_eq]; rfl

/-- without `crop_null` a NUL byte anywhere is a stray character -/
theorem no_crop_null_refuses (msg : String) (w e m : Bool) (b : Bytes) (h0 : (0 : UInt8) ∈ b) :
    Conv.floatGen msg w e m false b = .error msg := by
  refine floatGen_refuses fun d hh => ?_
  have ha := (floatGen_ok_alpha hh).2
  have hprep : prep m false b = b := by
    unfold prep
    have : b.isEmpty = false := by cases b <;> simp_all
    simp [this]
  rw [hprep] at ha
  have hmem : (0 : UInt8) ∈ strip w b := by
    unfold strip
    cases w with
    | false => exact h0
    | true =>
      have := List.takeWhile_append_dropWhile (p := PyFloat.isSpace) (l := b)
      rw [← this] at h0
      rcases List.mem_append.mp h0 with h1 | h1
      · exact absurd (of_mem_takeWhile _ _ h1) (by decide)
      · exact h1
  rcases ha 0 hmem with h | h | h | h | h
  all_goals exact absurd h (by decide)

/-- what `b'0.0'` decodes to, whatever the other flags: `+0.0` -/
theorem floatGen_zero_lit (msg : String) (w e c : Bool) :
    Conv.floatGen msg w e false c [48, 46, 48] = .ok (.fin false 0 (-1074)) := by
  rw [floatGen_ok_iff]
  refine Or.inl ⟨⟨.none, [48], some [48], none⟩, by decide, ?_, by decide +kernel, Or.inr (Or.inl (by decide))⟩
  cases w <;> cases c <;> decide

/-- **`allow_empty`** maps the empty string (after `crop_null`) to `+0.0` and changes nothing else -/
theorem allow_empty_eq (msg : String) (w e c : Bool) (b : Bytes) :
    Conv.floatGen msg w e true c b =
      if (if c then nullTerminate b else b) = [] then .ok (.fin false 0 (-1074))
      else Conv.floatGen msg w e false c b := by
  by_cases h : (if c then nullTerminate b else b) = []
  · rw [if_pos h]
    have h1 : Conv.floatGen msg w e true c b = Conv.floatGen msg w e false false (strBytes "0.0") := by
      unfold Conv.floatGen
      simp only [h, List.isEmpty_nil, Bool.and_self, if_true, Bool.false_and, Bool.false_eq_true, if_false]
    rw [h1, lit_zero_dot_zero]
    exact floatGen_zero_lit msg w e false
  · rw [if_neg h]
    unfold Conv.floatGen
    have : (if c then nullTerminate b else b).isEmpty = false := by
      cases hh : (if c then nullTerminate b else b) with
      | nil => exact absurd hh h
      | cons _ _ => rfl
    simp only [this, Bool.and_false, Bool.false_eq_true, if_false]

/-- without `allow_empty` the empty string is refused -/
theorem no_allow_empty_refuses (msg : String) (w e c : Bool) (b : Bytes)
    (h : (if c then nullTerminate b else b) = []) : Conv.floatGen msg w e false c b = .error msg := by
  refine floatGen_refuses fun d hh => (floatGen_ok_alpha hh).1 ?_
  have : prep false c b = [] := by
    unfold prep
    simp only [h, Bool.false_and, Bool.false_eq_true, if_false]
  rw [this]
  cases w <;> rfl

/-- `crop_null` and `allow_empty` together (SortFloat, ScoreTest): cut at NUL, the empty string is `+0.0`, and the
converter without the two flags sees the rest -/
theorem floatGen_crop_empty (msg : String) (w e : Bool) (v : Bytes) (d : Dbl) :
    Conv.floatGen msg w e true true v = .ok d ↔
      (v.takeWhile (· != 0) = [] ∧ d = .fin false 0 (-1074)) ∨
      (v.takeWhile (· != 0) ≠ [] ∧ Conv.floatGen msg w e false false (v.takeWhile (· != 0)) = .ok d) := by
  rw [crop_null_eq, allow_empty_eq]
  simp only [Bool.false_eq_true, if_false]
  by_cases h : v.takeWhile (· != 0) = []
  · rw [if_pos h]
    constructor
    · intro hh
      cases hh
      exact Or.inl ⟨h, rfl⟩
    · rintro (⟨_, rfl⟩ | ⟨h', _⟩)
      · rfl
      · exact absurd h h'
  · rw [if_neg h]
    exact ⟨fun hh => Or.inr ⟨h, hh⟩, fun hh => hh.elim (fun h' => absurd h'.1 h) (·.2)⟩

/-- **`allow_erange`**: with it every string of the grammar is accepted — an overflowing literal gives `±inf`, an
underflowing one `±0`; without it exactly those two cases are refused (`RangeOK false` is `¬OverflowsC ∧ ¬UnderflowsC`,
`rangeOK_false_iff`) -/
theorem allow_erange_iff (msg : String) (w m c : Bool) (b : Bytes) (d : Dbl) :
    (Conv.floatGen msg w true m c b = .ok d ↔
      ((∃ L : DecLit, L.Valid ∧ strip w (prep m c b) = L.render ∧ d = modelVal L) ∨
       (∃ (sg : Sgn) (wd : Bytes), InfWord wd ∧ strip w (prep m c b) = sg.bytes ++ wd ∧ d = .inf sg.neg))) ∧
    (Conv.floatGen msg w false m c b = .ok d ↔
      Conv.floatGen msg w true m c b = .ok d ∧
        ∀ L : DecLit, L.Valid → strip w (prep m c b) = L.render → ¬ OverflowsC L ∧ ¬ UnderflowsC L) := by
  have h1 := (floatGen_ok_iff msg w true m c b d).trans (or_congr_left (exists_congr fun L =>
    and_congr_right fun _ => and_congr_right fun _ => and_iff_left (Or.inl rfl)))
  refine ⟨h1, fun hf => ⟨?_, fun L hv hs => ?_⟩, ?_⟩
  · exact h1.mpr (((floatGen_ok_iff ..).mp hf).imp_left fun ⟨L, hv, hs, hd, _⟩ => ⟨L, hv, hs, hd⟩)
  · obtain ⟨hd, hr⟩ := floatGen_ok_lit hf hv hs
    exact (rangeOK_false_iff L).mp (hd ▸ hr)
  · rw [h1, floatGen_ok_iff]
    rintro ⟨hc, hr⟩
    exact hc.imp_left fun ⟨L, hv, hs, hd⟩ => ⟨L, hv, hs, hd, hd ▸ (rangeOK_false_iff L).mpr (hr L hv hs)⟩

/-- `SortFloat` (SORT … BY weights): cut at NUL; the empty string is `+0.0`; otherwise leading whitespace is dropped and
the plain `Float` grammar and range rule apply; the error message is the SORT one -/
theorem sortFloat_iff (b : Bytes) (d : Dbl) :
    Conv.sortFloat b = .ok d ↔
      (b.takeWhile (· != 0) = [] ∧ d = .fin false 0 (-1074)) ∨
      (b.takeWhile (· != 0) ≠ [] ∧ Conv.float ((b.takeWhile (· != 0)).dropWhile PyFloat.isSpace) = .ok d) := by
  unfold Conv.sortFloat Conv.float
  rw [floatGen_crop_empty, floatGen_factor, floatGen_ok_msg _ Msgs.INVALID_FLOAT_MSG]
  rfl

/-- the optional `(` of a score bound -/
def scoreSplit (b : Bytes) : Bool × Bytes :=
  match b with
  | 40 :: r => (true, r)
  | _ => (false, b)

theorem scoreTest_eq (b : Bytes) :
    Conv.scoreTest b =
      match Conv.floatGen Msgs.INVALID_FLOAT_MSG true true true true (scoreSplit b).2 with
      | .ok d => .ok (d, (scoreSplit b).1)
      | .error _ => .error Msgs.INVALID_MIN_MAX_FLOAT_MSG := rfl

theorem scoreSplit_other {b : Bytes} (h : ∀ t, b ≠ 40 :: t) : scoreSplit b = (false, b) := by
  unfold scoreSplit
  split
  · rename_i r; exact absurd rfl (h r)
  · rfl

/-- `ScoreTest` (score interval bounds): an optional leading `(` makes the bound exclusive; then all four flags are on:
cut at NUL, empty is `+0.0`, leading whitespace dropped, and no range rule — `1e400` is `+inf`, `1e-400` is `0.0` -/
theorem scoreTest_iff (b : Bytes) (d : Dbl) (excl : Bool) :
    Conv.scoreTest b = .ok (d, excl) ↔
      ∃ v, ((b = 40 :: v ∧ excl = true) ∨ (b = v ∧ excl = false ∧ ∀ t, b ≠ 40 :: t)) ∧
        ((v.takeWhile (· != 0) = [] ∧ d = .fin false 0 (-1074)) ∨
         (v.takeWhile (· != 0) ≠ [] ∧
            ((∃ L : DecLit, L.Valid ∧ (v.takeWhile (· != 0)).dropWhile PyFloat.isSpace = L.render ∧ d = modelVal L) ∨
             (∃ (sg : Sgn) (wd : Bytes), InfWord wd ∧
                (v.takeWhile (· != 0)).dropWhile PyFloat.isSpace = sg.bytes ++ wd ∧ d = .inf sg.neg)))) := by
  have key := fun (v : Bytes) (d : Dbl) =>
    (floatGen_crop_empty Msgs.INVALID_FLOAT_MSG true true v d).trans
      (or_congr_right (and_congr_right fun _ => (allow_erange_iff _ true false false _ d).1))
  rw [scoreTest_eq]
  constructor
  · intro h
    cases hf : Conv.floatGen Msgs.INVALID_FLOAT_MSG true true true true (scoreSplit b).2 with
    | error er => rw [hf] at h; cases h
    | ok d' =>
      rw [hf] at h
      cases h
      refine ⟨(scoreSplit b).2, ?_, (key _ _).mp hf⟩
      by_cases h40 : ∃ t, b = 40 :: t
      · obtain ⟨t, rfl⟩ := h40
        exact Or.inl ⟨rfl, rfl⟩
      · have hne : ∀ t, b ≠ 40 :: t := fun t ht => h40 ⟨t, ht⟩
        rw [scoreSplit_other hne]
        exact Or.inr ⟨rfl, rfl, hne⟩
  · rintro ⟨v, (⟨rfl, rfl⟩ | ⟨rfl, rfl, hne⟩), hk⟩
    · show (match Conv.floatGen Msgs.INVALID_FLOAT_MSG true true true true v with
        | .ok d => Except.ok (d, true)
        | .error _ => .error Msgs.INVALID_MIN_MAX_FLOAT_MSG) = _
      rw [(key v d).mpr hk]
    · rw [scoreSplit_other hne, (key b d).mpr hk]

-- non-vacuity for §3
example : (Conv.sortFloat (strBytes " \t1.5")).toOption = some (Dbl.ofDecimal false 15 (-1)) ∧
    (Conv.sortFloat []).toOption = some (.fin false 0 (-1074)) ∧
    (Conv.sortFloat [49, 0, 120]).toOption = some Dbl.one ∧ (Conv.float [49, 0, 120]).isOk = false ∧
    (Conv.sortFloat (strBytes "1 ")).isOk = false ∧ (Conv.sortFloat (strBytes "1e400")).isOk = false ∧
    (Conv.float []).isOk = false ∧ (Conv.float (strBytes " 1")).isOk = false := by
  decide +kernel
example : (Conv.scoreTest (strBytes "(1e400")).toOption = some (.inf false, true) ∧
    (Conv.scoreTest (strBytes "-1e-400")).toOption = some (.fin true 0 (-1074), false) ∧
    (Conv.scoreTest (strBytes "(")).toOption = some (.fin false 0 (-1074), true) ∧
    (Conv.scoreTest (strBytes "  -inf")).toOption = some (.inf true, false) ∧
    (Conv.scoreTest (strBytes "((1")).isOk = false ∧ (Conv.scoreTest (strBytes "nan")).isOk = false := by
  decide +kernel

/-! ## 4. INCRBYFLOAT / HINCRBYFLOAT never store NaN or an infinity (through the runner) -/

/-- for every database, key, increment and both emulated versions:
INCRBYFLOAT either answers an error and changes nothing, or replies and stores (keeping the deadline) a byte string that
the `Float` converter itself accepts and reads back as a finite double.  (The stored string is the `%.17f` rendering, without
trailing zeros, of `cur + increment`; `FR.C18f.incrbyfloat_outcome` says which double.) -/
theorem incrbyfloat_never_stores_nonfinite (ctx : Ctx) (db : Db) (nd : NodupKeys db.dict)
    (ne : NoEmpty db.dict) (k amount : Bytes) :
    let out := runRegular StrKeys.sigIncrbyfloat Cmd.incrbyfloat ctx none [k, amount] db
    (∃ msg, out.reply = .err msg ∧ out.db.live = db.live) ∨
    (∃ (stored : Bytes) (e : Option Int) (d' : Dbl),
      out.reply = .bulk stored ∧ out.db.live = StrKeys.upd db.live k (some ⟨.str stored, e⟩) ∧
      Conv.float stored = .ok d' ∧ d'.isFinite = true) := by
  intro out
  rcases incrbyfloat_outcome ctx db nd ne k amount with h | ⟨s, e, stored, cur, a, _, _, _, _, hf, hc, hr, hl⟩
  · exact Or.inl h
  · obtain ⟨d', h1, h2⟩ := encodeFloat_reparses ctx.version s hf hc
    exact Or.inr ⟨_, e, d', hr, hl, h1, h2⟩

/-- the reasons for which INCRBYFLOAT refuses, in converter terms: the stored string or the increment is outside the
grammar (or over/underflows), or the sum is not finite (`inf` operands are accepted by the converter: `INCRBYFLOAT k inf`
is refused by the finiteness check, not by the grammar) -/
theorem incrbyfloat_inf_refused (ctx : Ctx) (db : Db) (nd : NodupKeys db.dict) (ne : NoEmpty db.dict)
    (k : Bytes) (hk : db.live k = none) (sg : Sgn) (w : Bytes) (hw : InfWord w) :
    let out := runRegular StrKeys.sigIncrbyfloat Cmd.incrbyfloat ctx none [k, sg.bytes ++ w] db
    out.reply = .err (strBytes Msgs.NONFINITE_MSG) ∧ out.db.live = db.live := by
  intro out
  have h := Props.C01k.incrbyfloat_spec ctx db nd ne k (sg.bytes ++ w)
  rw [hk] at h
  simp only [Props.C01k.incrFloatOn_unfolded] at h
  have h0 : Conv.float (strBytes "0") = .ok (.fin false 0 (-1074)) := by
    rw [float_decode_iff]
    refine Or.inl ⟨⟨.none, [48], none, none⟩, by decide, by rw [strBytes_eq]; rfl, by decide +kernel, ?_, ?_⟩
    · exact not_overflowsC_of_mant_zero (by decide)
    · exact fun hu => hu.1 (by decide)
  have h1 : Conv.float (sg.bytes ++ w) = .ok (.inf sg.neg) :=
    (float_decode_iff _ _).mpr (Or.inr ⟨sg, w, hw, rfl, rfl⟩)
  rw [h0, h1] at h
  simp only at h
  have hnf : (Dbl.add (.fin false 0 (-1074)) (.inf sg.neg)).isFinite = false := rfl
  rw [hnf] at h
  simp only [Bool.false_eq_true, if_false] at h
  exact ⟨congrArg Prod.fst h, congrArg Prod.snd h⟩

/-- `incrbyfloat_never_stores_nonfinite` for HINCRBYFLOAT on a key that is missing or holds a hash: an
error and no change, or the new value of the field is a string the `Float` converter reads back as a finite double (all
other fields and keys unchanged) -/
theorem hincrbyfloat_never_stores_nonfinite (ctx : Ctx) (db : Db) (nd : NodupKeys db.dict)
    (wf : HashSet.LiveWF db) (key : Bytes) (h : HashSet.HashV) (e : Option Int)
    (hv : HashSet.hashView db.live key = some (h, e)) (f amt : Bytes) :
    let out := HashSet.run "hincrbyfloat" ctx [key, f, amt] db
    (∃ msg, out.reply = .err msg ∧ out.db.live = db.live) ∨
    (∃ (stored : Bytes) (d' : Dbl),
      out.reply = .bulk stored ∧ HashSet.hmap out.db key f = some stored ∧
      (∀ x, x ≠ f → HashSet.hmap out.db key x = HashSet.hmap db key x) ∧
      (∀ k', k' ≠ key → out.db.live k' = db.live k') ∧
      Conv.float stored = .ok d' ∧ d'.isFinite = true) := by
  intro out
  rcases hincrbyfloat_outcome ctx db nd wf key h e hv f amt with h | ⟨s, cur, a, _, _, _, hf, hc, hr, hm, ho, _, hk, _⟩
  · exact Or.inl h
  · obtain ⟨d', h1, h2⟩ := encodeFloat_reparses ctx.version s hf hc
    exact Or.inr ⟨_, d', hr, hm, ho, hk, h1, h2⟩

/-- on a key of another type HINCRBYFLOAT answers WRONGTYPE and changes nothing -/
theorem hincrbyfloat_wrongtype_nothing (ctx : Ctx) (db : Db) (nd : NodupKeys db.dict) (key f amt : Bytes)
    (hv : HashSet.hashView db.live key = none) :
    let out := HashSet.run "hincrbyfloat" ctx [key, f, amt] db
    out.reply = .err (strBytes Msgs.WRONGTYPE_MSG) ∧ out.db.live = db.live := by
  intro out
  have har : HashSet.ArityOK (HashSet.sigOf "hincrbyfloat") 3 := by decide
  have := Props.C02h.hash_wrongtype ctx db nd "hincrbyfloat" (by decide) key [f, amt] har hv
  exact ⟨this.1, this.2.1⟩

-- non-vacuity: `SET a 10.5`-like database, INCRBYFLOAT a 0.1 and HINCRBYFLOAT (key `[6]` of C02h's example database)
example :
    let db : Db := ⟨[([97], ⟨.str (strBytes "10.5"), some 70⟩)], 5⟩
    let ctx : Ctx := { version := 7, time := 5 }
    NodupKeys db.dict ∧ NoEmpty db.dict ∧
    runBulkOf (runRegular StrKeys.sigIncrbyfloat Cmd.incrbyfloat ctx none [[97], strBytes "0.25"] db).reply
      = strBytes "10.75" ∧
    -- binary64, not `long double`: 10.5 + 0.1 is stored as 10.59999999999999964 (real Redis: 10.6)
    runBulkOf (runRegular StrKeys.sigIncrbyfloat Cmd.incrbyfloat ctx none [[97], strBytes "0.1"] db).reply
      = strBytes "10.59999999999999964" ∧
    (Conv.float (strBytes "10.59999999999999964")).isOk = true ∧
    (runRegular StrKeys.sigIncrbyfloat Cmd.incrbyfloat ctx none [[97], strBytes "1e400"] db).reply.isErr = true ∧
    (runRegular StrKeys.sigIncrbyfloat Cmd.incrbyfloat ctx none [[97], strBytes "inf"] db).reply.isErr = true := by
  intro db ctx
  have h : (∀ p ∈ db.dict, p.2.value.isEmptyColl = false) ∧
      runBulkOf (runRegular StrKeys.sigIncrbyfloat Cmd.incrbyfloat ctx none [[97], strBytes "0.25"] db).reply
        = strBytes "10.75" ∧
      runBulkOf (runRegular StrKeys.sigIncrbyfloat Cmd.incrbyfloat ctx none [[97], strBytes "0.1"] db).reply
        = strBytes "10.59999999999999964" ∧
      (Conv.float (strBytes "10.59999999999999964")).isOk = true ∧
      (runRegular StrKeys.sigIncrbyfloat Cmd.incrbyfloat ctx none [[97], strBytes "1e400"] db).reply.isErr = true ∧
      (runRegular StrKeys.sigIncrbyfloat Cmd.incrbyfloat ctx none [[97], strBytes "inf"] db).reply.isErr = true := by
    decide +kernel
  exact ⟨by decide, h.1, h.2⟩
example :
    NodupKeys Props.C02h.exDb.dict ∧ HashSet.LiveWF Props.C02h.exDb ∧
    HashSet.hashView Props.C02h.exDb.live [6] = some ([([10], [53])], none) ∧
    runBulkOf (HashSet.run "hincrbyfloat" Props.C02h.exCtx [[6], [10], strBytes "0.25"] Props.C02h.exDb).reply
      = strBytes "5.25" := by
  exact ⟨by decide, HashSet.liveWF_of_dict (by decide), by rfl, by decide +kernel⟩

/-! ## 5. ZADD then ZSCORE: the score comes back exactly (partial: the 17-digit codec law) -/

/-- the double the emulated version reports for a stored score: from version 7 on the formatter prints `0.0 + d` -/
def reported (version : Nat) (d : Dbl) : Dbl := if version ≥ 7 then d.plusZero else d

theorem fmtScore_eq (ctx : Ctx) (d : Dbl) : Cmd.fmtScore ctx d = Dbl.encode (reported ctx.version d) false := rfl

/-- `0.0 + d = d` for every canonical double that is not a zero (`-0` becomes `+0`, `+0` stays) -/
theorem reported_eq_self (version : Nat) (d : Dbl) (hc : Canon d) (hz : d.isZero = false) (hn : d.isNaN = false) :
    reported version d = d := by
  unfold reported
  split
  · cases d with
    | nan => cases hn
    | inf b => rfl
    | fin n m e =>
      cases m with
      | zero => cases hz
      | succ k => exact plusZero_eq_self n (k + 1) e hc (by omega)
  · rfl

/-- the codec law at the double `d`: parsing its `%.17g` rendering (resp. `inf`/`-inf`) gives `d` back.  For finite `d`
this is the classical 17-significant-digit round-trip theorem; it is decidable for every concrete `d` -/
def CodecAt (d : Dbl) : Prop := PyFloat.parse (Dbl.encode d false) = some d
instance (d : Dbl) : Decidable (CodecAt d) := by unfold CodecAt; infer_instance
/-- the law for all canonical finite doubles (not proved here; `zadd_zscore_roundtrip_partial` needs it only at the
one double concerned) -/
def CodecLaw : Prop := ∀ neg m e, Canon (.fin neg m e) → CodecAt (.fin neg m e)

theorem codecAt_inf (neg : Bool) : CodecAt (.inf neg) := by cases neg <;> decide +kernel

/-- `ZADD k sb m` (no option words) on a key that is missing or holds a sorted set
whose old score for `m`, if any, is canonical (invariant `ScoresCanon`), where `sb` decodes to a non-zero double `s`
(finite or infinite), followed by `ZSCORE k m`: the reply is a bulk string that parses back to exactly `s` — in both
emulated versions — provided the codec law holds at `s`.  (Without the law: the reply is `Dbl.encode s false`, the `%.17g`
rendering `fmtG17 s` of exactly the parsed double.) -/
theorem zadd_zscore_roundtrip_partial (ctx : Ctx) (db : Db) (nd : NodupKeys db.dict) (k : Bytes) (z : ZSet)
    (e : Option Int) (hv : zsetView db.live k = some (z, e)) (sb m : Bytes) (s : Dbl)
    (hf : notZaddFlag sb) (hs : Conv.float sb = .ok s)
    (hold : ∀ old, z.get m = some old → Canon old) (hnz : s.isZero = false) :
    let o1 := HashSet.run "zadd" ctx [k, sb, m] db
    let o2 := HashSet.run "zscore" ctx [k, m] o1.db
    o2.reply = .bulk (Dbl.encode s false) ∧ o2.db.live = o1.db.live ∧
    (CodecAt s → ∃ b, o2.reply = .bulk b ∧ PyFloat.parse b = some s) := by
  intro o1 o2
  have hcan : Canon s := float_canon hs
  have hnan : s.isNaN = false := FR.C18.float_never_nan sb s hs
  have hza : zaddScore ctx.version s = s := reported_eq_self ctx.version s hcan hnz hnan
  obtain ⟨r, _, l⟩ := zadd_zscore_nonzero ctx db nd k z e hv sb m s hf hs hold (by rw [hza]; exact hnz)
  have hr : o2.reply = .bulk (Dbl.encode s false) := by
    rw [show o2.reply = _ from r, hza, fmtScore_eq, reported_eq_self ctx.version s hcan hnz hnan]
  exact ⟨hr, l, fun hc => ⟨_, hr, hc⟩⟩

/-- under the global law every finite non-zero score sent is read back exactly -/
theorem zadd_zscore_roundtrip_of_law (law : CodecLaw) (ctx : Ctx) (db : Db) (nd : NodupKeys db.dict)
    (k : Bytes) (z : ZSet) (e : Option Int) (hv : zsetView db.live k = some (z, e)) (sb m : Bytes) (s : Dbl)
    (hf : notZaddFlag sb) (hs : Conv.float sb = .ok s)
    (hold : ∀ old, z.get m = some old → Canon old) (hnz : s.isZero = false) :
    ∃ b, (HashSet.run "zscore" ctx [k, m] (HashSet.run "zadd" ctx [k, sb, m] db).db).reply = .bulk b ∧
      PyFloat.parse b = some s := by
  have hcan : Canon s := float_canon hs
  have hc : CodecAt s := by
    cases s with
    | nan => exact absurd (FR.C18.float_never_nan sb _ hs) (by decide)
    | inf b => exact codecAt_inf b
    | fin n m' e' => exact law n m' e' hcan
  exact (zadd_zscore_roundtrip_partial ctx db nd k z e hv sb m s hf hs hold hnz).2.2 hc

def signBit : Dbl → Bool
  | .fin n _ _ => n
  | .inf n => n
  | .nan => false

theorem encode_zero (n : Bool) (e : Int) : Dbl.encode (.fin n 0 e) false = strBytes (if n then "-0" else "0") :=
  encode_fin_zero n e

/-- **the sign of zero** — when the score sent is a zero (`0`, `-0`, `0e5`, `-0.0` …) ZSCORE answers `0` or `-0`:
always `0` in version 7 (which prints `0.0 + score`); in version 6 the sign of the zero now stored, which is the old
sign if the member already had a zero score (an IEEE-equal score is not rewritten), and the sign sent otherwise -/
theorem zadd_zscore_zero_sign (ctx : Ctx) (db : Db) (nd : NodupKeys db.dict) (k : Bytes) (z : ZSet)
    (e : Option Int) (hv : zsetView db.live k = some (z, e)) (sb m : Bytes) (s : Dbl)
    (hf : notZaddFlag sb) (hs : Conv.float sb = .ok s) (hz : s.isZero = true) :
    let o1 := HashSet.run "zadd" ctx [k, sb, m] db
    let o2 := HashSet.run "zscore" ctx [k, m] o1.db
    ∃ neg : Bool, o2.reply = .bulk (strBytes (if neg then "-0" else "0")) ∧
      (7 ≤ ctx.version → neg = false) ∧
      (ctx.version < 7 → (∀ old, z.get m = some old → old.isZero = true → neg = signBit old) ∧
        ((z.get m = none ∨ ∃ old, z.get m = some old ∧ old.isZero = false) → neg = signBit s)) := by
  intro o1 o2
  obtain ⟨r, _, _⟩ := zadd_zscore_exact ctx db nd k z e hv sb m s hf hs
  -- the score now stored is a zero, so the reply is `fmtScore_fin_zero` of its sign bit `n'`
  have hsz : (scoreAfter z m (zaddScore ctx.version s)).isZero = true := by
    rcases scoreAfter_cases z m (zaddScore ctx.version s) with ⟨h, _⟩ | ⟨old, _, he, h⟩
    · rw [h]
      exact zaddScore_isZero _ hz
    · rw [h]
      exact isZero_of_eq_zero he (zaddScore_isZero _ hz)
  obtain ⟨n', e', hn'⟩ := isZero_fin hsz
  refine ⟨n' && decide (ctx.version < 7), ?_, fun h7 => ?_, fun h6 => ?_⟩
  · rw [show o2.reply = _ from r, hn', fmtScore_fin_zero]
  · rw [decide_eq_false (by omega), Bool.and_false]
  · rw [zaddScore_v6 _ h6] at hn'
    have hsb : n' = signBit (scoreAfter z m s) := by rw [hn']; rfl
    rw [decide_eq_true h6, Bool.and_true, hsb]
    rcases scoreAfter_cases z m s with ⟨h, hne⟩ | ⟨old', hg, he, h⟩
    · -- re-scored with `s`: the member had no zero score
      rw [h]
      exact ⟨fun old ho hoz => absurd (eq_of_zeros hz hoz) (hne old ho), fun _ => rfl⟩
    · -- the old score is kept: it is IEEE-equal to a zero, hence a zero
      rw [h]
      refine ⟨fun old ho hoz => ?_, ?_⟩
      · rw [hg] at ho
        cases ho
        rfl
      · rintro (hn | ⟨old, ho, hoz⟩)
        · rw [hn] at hg
          cases hg
        · rw [hg] at ho
          cases ho
          rw [isZero_of_eq_zero he hz] at hoz
          cases hoz

-- non-vacuity (database, contexts and sorted set of `FR/Proofs/C18fRun.lean`): the law holds at the doubles used, at
-- the extremes, and at `0.1`
example : CodecAt (.fin false 6755399441055744 (-52)) ∧ CodecAt (Dbl.ofDecimal false 1 (-1)) ∧
    CodecAt (.fin false 1 (-1074)) ∧ CodecAt (.fin true (2 ^ 53 - 1) 971) ∧
    CodecAt (Dbl.ofDecimal true 123456789012345678 (-30)) := by
  decide +kernel
example :
    NodupKeys runExDb.dict ∧ zsetView runExDb.live [122] = some (runExZ, some 90) ∧
    notZaddFlag (strBytes "1.5") ∧ (Conv.float (strBytes "1.5")).toOption = some (.fin false 6755399441055744 (-52)) ∧
    (∀ old, runExZ.get [109] = some old → Canon old) ∧
    (Dbl.fin false 6755399441055744 (-52)).isZero = false ∧
    (Conv.float (strBytes "-0.0e3")).toOption = some (.fin true 0 (-1074)) := by
  have hinv : runExZ.Inv := rebuild_inv _ (by decide)
  have hc : ScoresCanon runExZ := by unfold ScoresCanon; decide +kernel
  exact ⟨by decide, by rfl, by decide +kernel, by decide +kernel, hold_of_scoresCanon hinv hc _, by decide,
    by decide +kernel⟩

/-! ## 6. Where the full statements fail: the model's exponent saturation (megabyte-sized literals only)

`PyFloat.parseExp` replaces a written exponent of more than six significant digits by `±10^6` ("already saturates").  That is
harmless unless the mantissa itself has about a million digits.  The two theorems below exhibit, kernel-checked, a literal
of 1 000 010 bytes on which `float_decode_value_partial` fails without `NoClamp`, and one of 2 000 010 bytes on which
`float_decode_accepts_iff_partial` fails without the length bound.  Replayed on the real code
(`/venv/bin/python`, `fakeredis._commands.Float.decode`):
`Float.decode(b'0.' + b'0'*999999 + b'1e1000001')  = 10.0` (model: `1.0`),
`Float.decode(b'0.' + b'0'*1999999 + b'1e2000000') = 1.0`  (model: refused as an underflow).
So here the model deviates from the code (CPython's `float` is exact); real Redis (`strtod`) agrees with the code. -/

/-- `0.` followed by `n` zeros and a `1`, then `e` and the digits `ds` -/
def bigLit (n : Nat) (ds : Bytes) : DecLit := ⟨.none, [48], some (List.replicate n 48 ++ [49]), some ⟨101, .none, ds⟩⟩

theorem bigLit_facts (n : Nat) (ds : Bytes) (hd : Digits ds) (hne : ds ≠ []) :
    (bigLit n ds).Valid ∧ (bigLit n ds).mant = 1 ∧ (bigLit n ds).fp.length = n + 1 ∧
    (bigLit n ds).sign.neg = false ∧ expoC (bigLit n ds) = clampE ds ∧ (bigLit n ds).expo = decNat ds ∧
    (bigLit n ds).render.length = n + 4 + ds.length := by
  have hfp : (bigLit n ds).fp = List.replicate n 48 ++ [49] := rfl
  have hip : (bigLit n ds).ip = [48] := rfl
  refine ⟨⟨by rw [hip]; decide, ?_, Or.inl (by rw [hip]; decide), ?_⟩, ?_, ?_, rfl, rfl, rfl, ?_⟩
  · rw [hfp]; exact (digits_zeros n).append (by decide)
  · intro x hx
    have : x = ⟨101, .none, ds⟩ := by
      have : (bigLit n ds).exp = some ⟨101, .none, ds⟩ := rfl
      rw [this] at hx; exact (Option.some.inj hx).symm
    subst this
    exact ⟨Or.inl rfl, hd, hne⟩
  · unfold DecLit.mant
    have a : decNat [48] = 0 := by decide
    have b : decNat [49] = 1 := by decide
    rw [hfp, hip, decNat_append, decNat_append, decNat_zeros, a, b]
    omega
  · rw [hfp, List.length_append, List.length_replicate]; rfl
  · show ([] ++ ([48] ++ ((46 :: (List.replicate n 48 ++ [49])) ++ (101 :: ([] ++ ds))))).length = _
    simp only [List.nil_append, List.length_append, List.length_cons, List.length_nil, List.length_replicate]
    omega

/-- the exponent digits `1000001` and `2000000` -/
def ds1 : Bytes := [49, 48, 48, 48, 48, 48, 49]
def ds2 : Bytes := [50, 48, 48, 48, 48, 48, 48]


/-- generic in the number of zeros, so that nothing ever evaluates a million-element list -/
theorem value_witness (n : Nat) (hn : n + 1 = 1000000) :
    (bigLit n ds1).render.length = 1000010 ∧ Conv.float (bigLit n ds1).render = .ok Dbl.one ∧ (bigLit n ds1).Valid ∧
      (bigLit n ds1).rat = 10 ∧ roundAbs (bigLit n ds1).sign.neg (bigLit n ds1).rat = Dbl.ofInt 10 := by
  obtain ⟨hv, hm, hfl, hsg, hxc, hxe, hlen⟩ := bigLit_facts n ds1 (by decide) (by decide)
  have hc : clampE ds1 = 1000000 := by decide
  have he : decNat ds1 = 1000001 := by decide
  have hl7 : ds1.length = 7 := rfl
  have hx : (1000000 : Int) - ((n + 1 : Nat) : Int) = 0 := by omega
  have hmv : modelVal (bigLit n ds1) = Dbl.one := by
    unfold modelVal
    rw [hm, hfl, hsg, hxc, hc, hx]
    decide +kernel
  have hx1 : ((1000001 : Nat) : Int) - ((n + 1 : Nat) : Int) = 1 := by omega
  have hnum : (bigLit n ds1).ratNum = 10 := by
    unfold DecLit.ratNum DecLit.exp10
    rw [hm, hfl, hxe, he, hx1]; rfl
  have hden : (bigLit n ds1).ratDen = 1 := by
    unfold DecLit.ratDen DecLit.exp10
    rw [hfl, hxe, he, hx1]; rfl
  have hrat : (bigLit n ds1).rat = 10 := by
    unfold DecLit.rat
    rw [hnum, hden, hsg]; rfl
  have hra : roundAbs (bigLit n ds1).sign.neg (bigLit n ds1).rat = Dbl.ofInt 10 := by
    rw [roundAbs_rat, hnum, hden, hsg]; decide +kernel
  refine ⟨by rw [hlen, hl7]; omega, ?_, hv, hrat, hra⟩
  rw [float_decode_iff]
  refine Or.inl ⟨_, hv, rfl, hmv.symm, ?_, ?_⟩
  · rw [← modelVal_isInf_iff, hmv]; decide
  · intro hu
    have := (modelVal_isZero_iff _).mpr (Or.inr hu)
    rw [hmv] at this; exact absurd this (by decide)

/-- **the full value statement is false of the model**: the literal `0.` `0`×999999 `1e1000001` (which denotes `10`) is
accepted with the value `1.0`, not with the correctly rounded `10.0` -/
theorem float_decode_value_full_false :
    ∃ (s : Bytes) (d : Dbl) (L : DecLit), s.length = 1000010 ∧ Conv.float s = .ok d ∧ L.Valid ∧ s = L.render ∧
      L.rat = 10 ∧ d = Dbl.one ∧ roundAbs L.sign.neg L.rat = Dbl.ofInt 10 ∧ d ≠ roundAbs L.sign.neg L.rat := by
  obtain ⟨h1, h2, h3, h4, h5⟩ := value_witness 999999 rfl
  exact ⟨_, Dbl.one, bigLit 999999 ds1, h1, h2, h3, rfl, h4, rfl, h5, by rw [h5]; decide +kernel⟩

theorem accepts_witness (n : Nat) (hn : n + 1 = 2000000) :
    (bigLit n ds2).render.length = 2000010 ∧ (bigLit n ds2).Valid ∧ (bigLit n ds2).rat = 1 ∧
      ¬ Overflows (bigLit n ds2) ∧ ¬ Underflows (bigLit n ds2) ∧
      Conv.float (bigLit n ds2).render = .error Msgs.INVALID_FLOAT_MSG := by
  obtain ⟨hv, hm, hfl, hsg, hxc, hxe, hlen⟩ := bigLit_facts n ds2 (by decide) (by decide)
  have hc : clampE ds2 = 1000000 := by decide
  have he : decNat ds2 = 2000000 := by decide
  have hl7 : ds2.length = 7 := rfl
  have hx : (1000000 : Int) - ((n + 1 : Nat) : Int) = -1000000 := by omega
  have hmv : modelVal (bigLit n ds2) = .fin false 0 (-1074) := by
    unfold modelVal
    rw [hm, hfl, hsg, hxc, hc, hx]
    exact ofDecimal_zero_of false 1 _ 1 (by decide) (by decide) (by decide)
  have hx1 : ((2000000 : Nat) : Int) - ((n + 1 : Nat) : Int) = 0 := by omega
  have hnum : (bigLit n ds2).ratNum = 1 := by
    unfold DecLit.ratNum DecLit.exp10
    rw [hm, hfl, hxe, he, hx1]; rfl
  have hden : (bigLit n ds2).ratDen = 1 := by
    unfold DecLit.ratDen DecLit.exp10
    rw [hfl, hxe, he, hx1]; rfl
  have hrat : (bigLit n ds2).rat = 1 := by
    unfold DecLit.rat
    rw [hnum, hden, hsg]; rfl
  refine ⟨by rw [hlen, hl7]; omega, hv, hrat, ?_, ?_, ?_⟩
  · unfold Overflows; rw [hnum, hden]; decide +kernel
  · unfold Underflows; rw [hnum, hden]; exact fun h => absurd h.2 (by decide +kernel)
  · apply float_decode_refuses
    rintro ⟨_, hr⟩
    apply (hr _ hv rfl).2
    have hz := (modelVal_isZero_iff (bigLit n ds2)).mp (by rw [hmv]; rfl)
    exact hz.resolve_left (by rw [hm]; decide)

/-- **the full acceptance statement is false of the model**: the literal `0.` `0`×1999999 `1e2000000` is in the grammar and
denotes exactly `1` (no overflow, no underflow), yet the model refuses it -/
theorem float_decode_accepts_full_false :
    ∃ (s : Bytes) (L : DecLit), s.length = 2000010 ∧ L.Valid ∧ s = L.render ∧ L.rat = 1 ∧
      ¬ Overflows L ∧ ¬ Underflows L ∧ Conv.float s = .error Msgs.INVALID_FLOAT_MSG := by
  obtain ⟨h1, h2, h3, h4, h5, h6⟩ := accepts_witness 1999999 rfl
  exact ⟨_, bigLit 1999999 ds2, h1, h2, rfl, h3, h4, h5, h6⟩


end FR.Props.C18f

import FR.Props.C06
import FR.Props.C08
import FR.Props.C09
import FR.Proofs.Discipline
/-!
# C06/C08/C09 for the real command table, unconditionally

`FR.Proofs.Discipline` proves that every body of `Cmd.regular` satisfies `Body.ExpModSound`
(`regular_expModSound`) and never returns an error reply through `.ok` (`regular_reply_not_err`).
This discharges the per-body hypotheses of `step_notifies_partial` (C06) and `reads_create_nothing`
(C09), and identifies "the reply is an error" with the `failed` flag of C08.
-/
namespace FR.Props.C06
open FR

/-- C06 for every command of the table: any change of the live entry of a key is accompanied by a
watch notification for that key. -/
theorem step_notifies_regular (name : String) (body : Body) (h : Cmd.regular name = some body)
    (sig : Sig) (ctx : Ctx) (gate : Option Err) (raw : List Bytes) (db : Db) (nd : NodupKeys db.dict)
    (k : Bytes) :
    let o := runRegular sig body ctx gate raw db
    (Db.purge o.db).dict.lookup k ≠ (Db.purge db).dict.lookup k → k ∈ o.notified :=
  step_notifies_partial sig body (regular_expModSound name body h) ctx gate raw db nd k

/-- C09 for every command of the table: a key that is live after the command but was not live before
is in `notified`. -/
theorem reads_create_nothing_regular (name : String) (body : Body) (h : Cmd.regular name = some body)
    (sig : Sig) (ctx : Ctx) (gate : Option Err) (raw : List Bytes) (db : Db) (nd : NodupKeys db.dict)
    (k : Bytes) :
    let o := runRegular sig body ctx gate raw db
    (Db.purge db).dict.lookup k = none → (Db.purge o.db).dict.lookup k ≠ none → k ∈ o.notified :=
  FR.Props.C09.reads_create_nothing sig body (regular_expModSound name body h) ctx gate raw db nd k

/-- For every command of the table the reply is an error reply exactly when the run ended on an error
path.  (A `missing_return` short-circuit replies `nil` or an integer, and a body never returns an error
reply through `.ok`.) -/
theorem error_reply_iff_failed_regular (name : String) (body : Body) (h : Cmd.regular name = some body)
    (sig : Sig) (ctx : Ctx) (gate : Option Err) (raw : List Bytes) (db : Db) :
    (runRegular sig body ctx gate raw db).reply.isErr = true ↔
      (runRegular sig body ctx gate raw db).failed = true :=
  runRegular_isErr_iff_failed sig body (regular_reply_not_err name body h) ctx gate raw db

/-- non-vacuity: the real APPEND, through the table -/
example :
    let sig : Sig := ⟨"append", [.key (some .str) .unspecified, .bytes], [], false, 2, 0, false⟩
    let db : Db := ⟨[([97], ⟨.str [1], none⟩)], 10⟩
    [97] ∈ (runRegular sig FR.Cmd.append ⟨7, 10, 0, false, []⟩ none [[97], [120]] db).notified := by
  intro sig db
  apply step_notifies_regular "append" FR.Cmd.append rfl sig ⟨7, 10, 0, false, []⟩ none [[97], [120]] db
    (by decide) [97]
  intro h
  have := congrArg (fun o => o.map (fun it => match it.value with | .str b => b | _ => [])) h
  revert this
  decide

/-- the real APPEND body satisfies the hypothesis -/
example : Body.ExpModSound FR.Cmd.append := regular_expModSound "append" _ rfl

end FR.Props.C06

namespace FR.Props.C08
open FR

/-- For every command of the table: if the reply is an error reply, the live content of the database
is unchanged and no watch notification is sent. -/
theorem error_reply_changes_nothing_regular (name : String) (body : Body)
    (h : Cmd.regular name = some body) (sig : Sig) (ctx : Ctx) (gate : Option Err) (raw : List Bytes)
    (db : Db) (nd : NodupKeys db.dict) :
    let o := runRegular sig body ctx gate raw db
    o.reply.isErr = true → Db.purge o.db = Db.purge db ∧ o.notified = [] := by
  intro o he
  exact error_changes_nothing sig body ctx gate raw db nd
    ((FR.Props.C06.error_reply_iff_failed_regular name body h sig ctx gate raw db).1 he)

/-- non-vacuity: APPEND to a list key replies WRONGTYPE -/
example :
    let sig : Sig := ⟨"append", [.key (some .str) .unspecified, .bytes], [], false, 2, 0, false⟩
    let db : Db := ⟨[([97], ⟨.str [1], some 5⟩), ([98], ⟨.list [[2]], none⟩)], 10⟩
    let o := runRegular sig FR.Cmd.append ⟨7, 10, 0, false, []⟩ none [[98], [120]] db
    o.reply.isErr = true ∧ Db.purge o.db = Db.purge db ∧ o.notified = [] := by
  intro sig db o
  have he : o.reply.isErr = true := by decide
  exact ⟨he, error_reply_changes_nothing_regular "append" _ rfl sig _ _ _ db (by decide) he⟩

end FR.Props.C08


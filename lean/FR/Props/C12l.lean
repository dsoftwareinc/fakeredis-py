import FR.Sys.LockTable
/-!
# C12 (static part): what the lock-discipline check of `FR/Sys/LockTable.lean` means

The tables of `FR/Generated/Locks.lean` list, per function of the socket classes, its shared-state accesses and its call
edges with the flag "lexically inside `with <server>.lock:`".  A *call path* starts at a root (a function that the outside
world may enter without the lock: `sendall`, `close`, the constructor, a coroutine, a deferred callback) and follows call
edges of the table - any number of them.  The lock is held at the end of a path if some edge of the path, or the access
itself, is lexically under the lock (the lock is only ever taken by `with`, so it is held exactly in the dynamic extent of
such a block).

`disciplined_sound`: if the check passes then **every access at the end of every call path of every length from every root
is made with the lock held, or is one of the listed benign accesses (an entry `("*", a)` lists an access that is benign in any function).**  This is the hypothesis `acc-without-lock never
happens` of the lockset theorems (`FR.Props.C12.welllocked_serial`, `linearization_exists`) established for all paths of the
current source instead of for the recorded traces only.  Trusted: that the extraction (`tools/gen_locks.py`) lists every
access and every edge (dynamic dispatch: `self.m`, `<socket>.m` for private and connection-level methods, `super().m`,
the `func(*args)` of `_run_command` = every command body, nested functions).

`bodies_run_under_the_lock` is the case of a command body.  At the end, small tables: one the check accepts, three it rejects.
-/
namespace FR.Props.C12l
open FR.LockTable

/-- `Path t r g lk`: a call path in `t` from `r` to `g`; `lk` = some edge on it is under the lock -/
inductive Path (t : Table) : String → String → Bool → Prop
  | nil (f : String) : Path t f f false
  | cons {f g h : String} {lk l : Bool} {fn : Fn} :
      Path t f g lk → fn ∈ t → fn.name = g → (h, l) ∈ fn.calls → Path t f h (lk || l)

theorem closed_roots {t : Table} {X : List String} (h : closed t X = true) {r : String} (hr : r ∈ roots t) : r ∈ X := by
  unfold closed at h
  simp only [Bool.and_eq_true, List.all_eq_true] at h
  have := h.1 r hr
  simpa using this

theorem closed_step {t : Table} {X : List String} (h : closed t X = true) {fn : Fn} (hfn : fn ∈ t) (hX : fn.name ∈ X)
    {g : String} (hc : (g, false) ∈ fn.calls) : g ∈ X := by
  unfold closed at h
  simp only [Bool.and_eq_true, List.all_eq_true] at h
  have h2 := h.2 fn hfn
  have hX' : X.contains fn.name = true := by simpa using hX
  simp only [hX', Bool.not_true, Bool.false_or, List.all_eq_true] at h2
  have := h2 (g, false) hc
  simpa using this

theorem clean_access {b : List (String × String)} {t : Table} {X : List String} (h : clean b t X = true) {fn : Fn} (hfn : fn ∈ t)
    (hX : fn.name ∈ X) {a : String} {l : Bool} (ha : (a, l) ∈ fn.accesses) : l = true ∨ (fn.name, a) ∈ b ∨ ("*", a) ∈ b := by
  unfold clean at h
  simp only [List.all_eq_true] at h
  have h2 := h fn hfn
  have hX' : X.contains fn.name = true := by simpa using hX
  simp only [hX', Bool.not_true, Bool.false_or, List.all_eq_true] at h2
  have := h2 (a, l) ha
  simpa [or_assoc] using this

/-- along every path from a root: the lock was taken on the way, or the current function is in the closed set -/
theorem path_invariant {t : Table} {X : List String} (h : closed t X = true) {r g : String} {lk : Bool}
    (hr : r ∈ roots t) (p : Path t r g lk) : lk = true ∨ g ∈ X := by
  induction p with
  | nil => exact .inr (closed_roots h hr)
  | @cons g h' lk l fn _ hfn hname hc ih =>
    rcases ih with ih | ih
    · exact .inl (by simp [ih])
    · cases l with
      | true => exact .inl (by simp)
      | false =>
        subst hname
        exact .inr (closed_step h hfn ih hc)

/-- soundness of the check, for any table and any list of benign accesses -/
theorem disciplined_sound {b : List (String × String)} {t : Table} (h : disciplined b t = true)
    {r g : String} {lk : Bool} (hr : r ∈ roots t) (p : Path t r g lk)
    {fn : Fn} (hfn : fn ∈ t) (hname : fn.name = g) {a : String} {l : Bool} (ha : (a, l) ∈ fn.accesses) :
    lk = true ∨ l = true ∨ (g, a) ∈ b ∨ ("*", a) ∈ b := by
  unfold disciplined at h
  simp only [Bool.and_eq_true] at h
  rcases path_invariant h.1 hr p with hl | hX
  · exact .inl hl
  · subst hname
    exact .inr (clean_access h.2 hfn hX ha)

/-- a command body (atom `body`) is never reached without the lock -/
theorem bodies_run_under_the_lock {b : List (String × String)} {t : Table} (h : disciplined b t = true)
    (hb : ∀ p ∈ b, p.2 ≠ "body")
    {r g : String} {lk : Bool} (hr : r ∈ roots t) (p : Path t r g lk)
    {fn : Fn} (hfn : fn ∈ t) (hname : fn.name = g) (ha : ("body", false) ∈ fn.accesses) : lk = true := by
  rcases disciplined_sound h hr p hfn hname ha with h1 | h1 | h1 | h1
  · exact h1
  · cases h1
  · exact absurd rfl (hb _ h1)
  · exact absurd rfl (hb _ h1)

/-! ## non-vacuity and sensitivity on small tables -/

/-- a dispatcher that takes the lock around the runner -/
def good : Table :=
  [⟨"sendall", true, [("S:connected", false)], [("dispatch", false)]⟩,
   ⟨"dispatch", false, [("T", true)], [("run", true), ("reply", false)]⟩,
   ⟨"run", false, [], [("get", false)]⟩,
   ⟨"get", false, [("body", false)], []⟩,
   ⟨"reply", false, [], []⟩]

example : disciplined benign good = true := by decide
example : Path good "sendall" "get" true :=
  .cons (.cons (.cons (.nil _) (fn := good[0]) (by decide) rfl (h := "dispatch") (l := false) (by decide))
    (fn := good[1]) (by decide) rfl (h := "run") (l := true) (by decide)) (fn := good[2]) (by decide) rfl (h := "get") (l := false) (by decide)

/-- the clock read moved in front of the `with` block: rejected -/
def clockBeforeLock : Table :=
  [⟨"sendall", true, [("S:connected", false)], [("dispatch", false)]⟩,
   ⟨"dispatch", false, [("T", false)], [("run", true)]⟩,
   ⟨"run", false, [], [("get", false)]⟩,
   ⟨"get", false, [("body", false)], []⟩]
example : disciplined benign clockBeforeLock = false := by decide

/-- a helper that edits the watcher registry called after the `with` block ended (defect F26): rejected -/
def cleanupAfterUnlock : Table :=
  [⟨"sendall", true, [("S:connected", false)], [("dispatch", false)]⟩,
   ⟨"dispatch", false, [("T", true)], [("run", true), ("clear_watches", false)]⟩,
   ⟨"clear_watches", false, [("D", false)], []⟩,
   ⟨"run", false, [], []⟩]
example : disciplined benign cleanupAfterUnlock = false := by decide

/-- a deferred callback that touches the database without taking the lock itself: rejected -/
def callbackWithoutLock : Table :=
  [⟨"blocking", false, [("D", false)], [("blocking.forget", false)]⟩,
   ⟨"blocking.forget", true, [("D", false)], []⟩]
example : disciplined benign callbackWithoutLock = false := by decide

end FR.Props.C12l

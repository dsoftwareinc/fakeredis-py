import FR.Proofs.Lockset
/-!
# C12: commands of concurrent clients are atomic — the lockset argument

`FR.Lockset` models a recorded trace of one fakeredis server used from several threads: client-side
`call` / `ret` of commands, `acq` / `rel` of the single `server.lock` (a `Condition.wait` is a `rel`
followed later by an `acq`), and `acc`esses to shared objects.

For every trace that passes the executable check `wellLocked`:

* the lock is a mutex and every access is made by its holder (`welllocked_mutex`);
* the access sequence of the trace is the concatenation, in acquisition order, of the access sequences
  of its critical sections, and the serial schedule `serialTrace tr` — which has the serial shape —
  is again well-locked and has the same critical sections and the same accesses (`welllocked_serial`);
* the acquisition order respects real-time precedence of commands and each thread's program order
  (`section_order_respects_real_time`, `program_order`);
* `cmdOrder tr` — the commands at their linearization points — is a linearization order
  (`linearization_exists`).

`checker_agrees`: the reporting checker the driver runs decides `wellLocked`.  Examples at the end.

Conventions.  The linearization point of a command is its last critical section (a blocking pop that
waited takes effect after its last wake-up).  Commands without any critical section touch no shared
object; they do not occur in `cmdOrder` and are emitted in `serialTrace` as `call, ret` at the position
of their `call`.  What is not modelled: the Python runtime (that `with lock:` really excludes, that the
harness records every access); the trace is the interface.
-/
namespace FR.Props.C12
open FR.Lockset

/-! ## 1. mutual exclusion -/

/-- `holdsAt tr i t`: `t` has more `acq` than `rel` among the first `i` events (a per-thread count that
does not mention the checker's state).  In a well-locked trace this is the case exactly for
`holderAt tr i`, so at every prefix at most one thread holds the lock; and every access is performed
by the thread that holds the lock at that moment. -/
theorem welllocked_mutex (tr : Trace) (h : wellLocked tr = true) :
    (∀ i t, holdsAt tr i t ↔ holderAt tr i = some t) ∧
    (∀ i t1 t2, holdsAt tr i t1 → holdsAt tr i t2 → t1 = t2) ∧
    (∀ i t o w, tr[i]? = some (.acc t o w) → holderAt tr i = some t ∧ holdsAt tr i t) := by
  have key : ∀ i t, holdsAt tr i t ↔ holderAt tr i = some t := by
    intro i t
    have : acqCount t (tr.take i) + (if (none : Option Tid) = some t then 1 else 0) =
        relCount t (tr.take i) + (if holderFrom none (tr.take i) = some t then 1 else 0) :=
      (mutex_from tr St.init i h).1 t
    simp only [reduceCtorEq, if_false, Nat.add_zero] at this
    simp only [holdsAt, holderAt]
    by_cases hc : holderFrom none (tr.take i) = some t
    · rw [if_pos hc] at this; simp only [hc, iff_true]; omega
    · rw [if_neg hc] at this; simp only [hc, iff_false]; omega
  refine ⟨key, ?_, ?_⟩
  · intro i t1 t2 h1 h2
    have e1 := (key i t1).mp h1
    have e2 := (key i t2).mp h2
    rw [e1] at e2; exact Option.some.inj e2
  · intro i t o w he
    have := (mutex_from tr St.init i h).2 t o w he
    exact ⟨this, (key i t).mpr this⟩

/-! ## 2. equivalence with the serial schedule -/

/-- The global access sequence is the concatenation, in acquisition order, of the access sequences of
the critical sections: accesses of different sections never interleave. -/
theorem accesses_eq_sections (tr : Trace) (h : wellLocked tr = true) :
    accesses tr = (sections tr).flatMap (·.2.2) :=
  accesses_sectionsFrom tr St.init h

/-- every access of a critical section is made by the section's thread, and the section's command was
called by that thread -/
theorem sections_owned (tr : Trace) (h : wellLocked tr = true) :
    ∀ s ∈ sections tr, Ev.call s.1 s.2.1 ∈ tr ∧ ∀ e ∈ s.2.2, ∃ o w, e = Ev.acc s.1 o w := by
  intro s hs
  refine ⟨?_, section_accs_owner tr St.init h s hs⟩
  rcases section_called tr St.init h s hs with hb | hm
  · simp [St.init, cmdOf, cget] at hb
  · exact hm

/-- the serial schedule is well-locked -/
theorem serialTrace_wellLocked (tr : Trace) (h : wellLocked tr = true) :
    wellLocked (serialTrace tr) = true :=
  (serial_wl tr St.init St.init inv_init (sim_init tr) h).1

/-- the serial schedule consists of the same critical sections (thread, command, accesses), in the
same order -/
theorem serialTrace_sections (tr : Trace) (h : wellLocked tr = true) :
    sections (serialTrace tr) = sections tr :=
  (serial_wl tr St.init St.init inv_init (sim_init tr) h).2

/-- the serial schedule is serial: its critical sections are contiguous blocks `acq, acc*, rel`
(holds for every trace) -/
theorem serialTrace_isSerial (tr : Trace) : isSerial (serialTrace tr) = true :=
  serialFrom_isSerial tr St.init

/-- any state machine driven by the access sequence sees the same sequence in the serial schedule -/
theorem serialTrace_accesses (tr : Trace) (h : wellLocked tr = true) :
    accesses (serialTrace tr) = accesses tr := by
  rw [accesses_eq_sections _ (serialTrace_wellLocked tr h), serialTrace_sections tr h,
    ← accesses_eq_sections tr h]

theorem welllocked_serial (tr : Trace) (h : wellLocked tr = true) :
    accesses tr = (sections tr).flatMap (·.2.2) ∧
    wellLocked (serialTrace tr) = true ∧
    isSerial (serialTrace tr) = true ∧
    sections (serialTrace tr) = sections tr ∧
    accesses (serialTrace tr) = accesses tr :=
  ⟨accesses_eq_sections tr h, serialTrace_wellLocked tr h, serialTrace_isSerial tr,
    serialTrace_sections tr h, serialTrace_accesses tr h⟩

/-! ## 3. real-time precedence and program order -/

/-- If `c1` returns before `c2` is called, every critical section of `c1` comes before every critical
section of `c2` in acquisition order. -/
theorem section_order_respects_real_time (tr : Trace) (h : wellLocked tr = true) (c1 c2 : Cid)
    (hp : precedes tr c1 c2 = true)
    (i j : Nat) (hi : i < (sections tr).length) (hj : j < (sections tr).length)
    (h1 : (sections tr)[i].2.1 = c1) (h2 : (sections tr)[j].2.1 = c2) : i < j := by
  obtain ⟨l1, l2, hl, hl1, hl2⟩ := sections_split tr c1 c2 St.init inv_init h hp
  exact index_lt_of_split (fun s : Sec => s.2.1 = c1) (fun s : Sec => s.2.1 = c2) (sections tr) l1 l2
    hl hl1 hl2 i j hi hj h1 h2

/-- the same, as a cut of the section list -/
theorem section_order_respects_real_time_split (tr : Trace) (h : wellLocked tr = true) (c1 c2 : Cid)
    (hp : precedes tr c1 c2 = true) :
    ∃ l1 l2, sections tr = l1 ++ l2 ∧ (∀ s ∈ l1, s.2.1 ≠ c2) ∧ (∀ s ∈ l2, s.2.1 ≠ c1) :=
  sections_split tr c1 c2 St.init inv_init h hp

/-- program order implies real-time precedence: a thread that calls `c1` and later `c2` has returned
from `c1` before it calls `c2` -/
theorem program_order (tr : Trace) (h : wellLocked tr = true) (t : Tid) (c1 c2 : Cid)
    (hp : progBefore tr t c1 c2) : precedes tr c1 c2 = true :=
  progBefore_precedes h hp

/-- the commands of one thread are totally ordered by `precedes` -/
theorem program_order_total (tr : Trace) (h : wellLocked tr = true) (t : Tid) (c1 c2 : Cid)
    (h1 : Ev.call t c1 ∈ tr) (h2 : Ev.call t c2 ∈ tr) (hne : c1 ≠ c2) :
    precedes tr c1 c2 = true ∨ precedes tr c2 c1 = true := by
  rcases progBefore_total h1 h2 hne with hp | hp
  · exact Or.inl (progBefore_precedes h hp)
  · exact Or.inr (progBefore_precedes h hp)

/-- the sections of a thread's earlier command come before those of its later one -/
theorem program_order_sections (tr : Trace) (h : wellLocked tr = true) (t : Tid) (c1 c2 : Cid)
    (hp : progBefore tr t c1 c2)
    (i j : Nat) (hi : i < (sections tr).length) (hj : j < (sections tr).length)
    (h1 : (sections tr)[i].2.1 = c1) (h2 : (sections tr)[j].2.1 = c2) : i < j :=
  section_order_respects_real_time tr h c1 c2 (program_order tr h t c1 c2 hp) i j hi hj h1 h2

/-! ## 4. the linearization order -/

/-- `cmdOrder tr` lists, without repetition, exactly the commands that have a critical section; it
respects real-time precedence and each thread's program order. -/
theorem linearization_exists (tr : Trace) (h : wellLocked tr = true) :
    (cmdOrder tr).Nodup ∧
    (∀ c, c ∈ cmdOrder tr ↔ 0 < sectionsOf tr c) ∧
    (∀ c1 c2, precedes tr c1 c2 = true → c1 ∈ cmdOrder tr → c2 ∈ cmdOrder tr →
      (cmdOrder tr).idxOf c1 < (cmdOrder tr).idxOf c2) ∧
    (∀ t c1 c2, progBefore tr t c1 c2 → c1 ∈ cmdOrder tr → c2 ∈ cmdOrder tr →
      (cmdOrder tr).idxOf c1 < (cmdOrder tr).idxOf c2) := by
  have hprec : ∀ c1 c2, precedes tr c1 c2 = true → c1 ∈ cmdOrder tr → c2 ∈ cmdOrder tr →
      (cmdOrder tr).idxOf c1 < (cmdOrder tr).idxOf c2 := by
    intro c1 c2 hp hc1 _
    obtain ⟨l1, l2, hl, hl1, hl2⟩ := sections_split tr c1 c2 St.init inv_init h hp
    obtain ⟨m1, m2, hm, hm1, hm2⟩ := cmdOrder_split hl hl1 hl2
    exact idxOf_lt_of_split _ m1 m2 c1 c2 hm hc1 hm1 hm2
  refine ⟨nodup_lastOccs _, ?_, hprec, ?_⟩
  · intro c
    simp only [cmdOrder, sectionsOf, mem_lastOccs, List.count_pos_iff]
  · intro t c1 c2 hp
    exact hprec c1 c2 (program_order tr h t c1 c2 hp)

/-- The linearization point is the last critical section: if `s` is the last section of its command,
the commands after it in `cmdOrder` are exactly those linearized by the sections after `s`. -/
theorem linearization_point_is_last_section (tr : Trace) (l1 l2 : List Sec) (s : Sec)
    (hl : sections tr = l1 ++ s :: l2) (hlast : ∀ s' ∈ l2, s'.2.1 ≠ s.2.1) :
    ∃ m1, cmdOrder tr = m1 ++ s.2.1 :: lastOccs (l2.map (·.2.1)) ∧ s.2.1 ∉ m1 := by
  have hn : s.2.1 ∉ l2.map (·.2.1) := by
    intro hm
    obtain ⟨s', hs', he⟩ := List.mem_map.mp hm
    exact hlast s' hs' he
  refine ⟨(lastOccs (l1.map (·.2.1))).filter
    (fun x => !(s.2.1 :: l2.map (·.2.1)).contains x), ?_, ?_⟩
  · rw [cmdOrder, hl, List.map_append, lastOccs_append, List.map_cons]
    simp only [lastOccs, List.contains_eq_mem, decide_eq_true_eq, if_neg hn]
  · intro hm
    have := (List.mem_filter.mp hm).2
    simp at this

/-- When every command has at most one critical section (no blocking command had to wait),
`cmdOrder` is simply the list of the sections' commands: the trace's access sequence is the
concatenation of the commands' accesses in linearization order. -/
theorem linearization_single_sections (tr : Trace) (hs : ∀ c, sectionsOf tr c ≤ 1) :
    cmdOrder tr = (sections tr).map (·.2.1) :=
  lastOccs_of_nodup _ (List.nodup_iff_count.mpr hs)

/-! ## the reporting checker used by the driver decides `wellLocked` -/

theorem checker_agrees (tr : Trace) : firstBad St.init 0 tr = none ↔ wellLocked tr = true :=
  firstBad_eq_none tr St.init 0

/-! ## 5. non-vacuity / sanity examples -/

/-- two threads, properly nested `acq` / `rel`, interleaved `call` / `ret` -/
def good : Trace :=
  [.call 1 10, .call 2 20, .acq 1, .acc 1 5 true, .rel 1, .acq 2, .acc 2 5 false, .ret 1 10,
   .acc 2 6 true, .rel 2, .call 1 11, .ret 2 20, .acq 1, .acc 1 5 false, .rel 1, .ret 1 11]

example : wellLocked good = true := by decide

-- a race: thread 2 writes object 5 while thread 1 holds the lock
example : wellLocked
    [.call 1 10, .call 2 20, .acq 1, .acc 1 5 true, .acc 2 5 true, .rel 1, .ret 1 10, .ret 2 20]
    = false := by decide
-- an access without any lock (e.g. from `close()`)
example : wellLocked [.call 1 10, .acc 1 5 false, .ret 1 10] = false := by decide
-- two holders
example : wellLocked [.call 1 10, .call 2 20, .acq 1, .acq 2, .rel 2, .rel 1] = false := by decide
-- returning to the caller while still holding the lock; lock still held at the end
example : wellLocked [.call 1 10, .acq 1, .ret 1 10, .rel 1] = false := by decide
example : wellLocked [.call 1 10, .acq 1, .acc 1 5 true] = false := by decide

-- sections, command order and real-time precedence of `good`: command 10 returns before 11 is
-- called, and its section (index 0) is before that of 11 (index 2); 10 and 20 overlap
example : sections good =
    [(1, 10, [.acc 1 5 true]), (2, 20, [.acc 2 5 false, .acc 2 6 true]), (1, 11, [.acc 1 5 false])] := by
  decide
example : cmdOrder good = [10, 20, 11] := by decide
example : precedes good 10 11 = true ∧ precedes good 10 20 = false ∧ precedes good 20 10 = false := by
  decide
example : (cmdOrder good).idxOf 10 < (cmdOrder good).idxOf 11 := by decide
example : progBefore good 1 10 11 :=
  ⟨[], [.call 2 20, .acq 1, .acc 1 5 true, .rel 1, .acq 2, .acc 2 5 false, .ret 1 10,
    .acc 2 6 true, .rel 2, .call 1 11, .ret 2 20, .acq 1, .acc 1 5 false, .rel 1, .ret 1 11],
    rfl, by decide⟩

-- the serial schedule of `good`
example : serialTrace good =
    [.call 1 10, .acq 1, .acc 1 5 true, .rel 1, .ret 1 10,
     .call 2 20, .acq 2, .acc 2 5 false, .acc 2 6 true, .rel 2, .ret 2 20,
     .call 1 11, .acq 1, .acc 1 5 false, .rel 1, .ret 1 11] := by decide
-- the recorded trace itself is not serial (a `ret` of thread 1 inside the section of thread 2)
example : isSerial good = false := by decide

/-- a blocking pop (command 10) that waits: first section finds the list empty, `Condition.wait`
releases the lock, thread 2 pushes (command 20), thread 1 re-acquires and pops -/
def blocking : Trace :=
  [.call 1 10, .acq 1, .acc 1 7 false, .rel 1, .call 2 20, .acq 2, .acc 2 7 true, .rel 2, .ret 2 20,
   .acq 1, .acc 1 7 true, .rel 1, .ret 1 10]

example : wellLocked blocking = true := by decide
example : sectionsOf blocking 10 = 2 := by decide
-- the pop is linearized at its last section, after the push
example : cmdOrder blocking = [20, 10] := by decide
example : serialTrace blocking =
    [.call 1 10, .acq 1, .acc 1 7 false, .rel 1, .call 2 20, .acq 2, .acc 2 7 true, .rel 2, .ret 2 20,
     .acq 1, .acc 1 7 true, .rel 1, .ret 1 10] := by decide

end FR.Props.C12

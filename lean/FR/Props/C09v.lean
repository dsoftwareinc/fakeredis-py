import FR.Proofs.C09v
import FR.Proofs.C09vFam
import FR.Proofs.ErrSys
import FR.Props.C01k
import FR.Props.C09b
import FR.Props.C15s
import FR.Props.C16
import FR.Proofs.ReplyEq
/-!
# C09 (views) — DBSIZE, KEYS, SCAN, EXISTS, TYPE and RANDOMKEY describe the same set of live keys

All statements are about `processCommand` (`_process_command`: clean-up of closed sockets, clock refresh, arity check,
MULTI queueing, `_run_command` with `Signature.apply`, the gates, the body, write-back, the reply queue) run from an
ARBITRARY state `s` by a connection `c` in normal mode (`Normal s c`: outside MULTI, not subscribed, socket open),
whatever database `c` has selected and whatever clock reading the request takes.

Vocabulary (`FR/Proofs/C09v.lean`, `FR/Proofs/ScanSys.lean`):
* `reading s`        : the clock reading the next request takes (the head of `s.clocks`; the old server time when the
                       recorded readings are exhausted).  It is NOT assumed to be later than the previous one.
* `dictOf s c`       : the stored dictionary of the database selected by `c` (live and dead entries, Python dict order);
* `purgeAt t D`      : the entries of `D` that are live at clock `t` (`mem_purgeAt`: no deadline, or deadline `≥ t`), in
                       the order of `D`; `liveKeys t D` their keys; `Db.live ⟨D, t⟩ k` the live entry of `k`;
* `Answered s s' c t r D'` : the request was answered with exactly one reply `r` to `c`, the selected database's
                       dictionary became `D'`, nothing else changed in any database, the clock shows `t`, no exception,
                       and `c` is still in the mode it was in.
* `s.DataInv`        : every dictionary has unique keys and stores no empty collection — an invariant of every reachable
                       state (`FR.Props.C09.no_empty_collections_all_histories`); it is assumed only where needed.
-/
namespace FR.Props.C09v
open FR FR.M FR.Cmd FR.Spec FR.Proofs FR.ScanSys FR.C09v FR.StrKeys

/-! ## 0. vocabulary -/

/-- connection `c` is in normal mode: outside MULTI, not in subscriber mode, socket open -/
structure Normal (s : Sys) (c : Nat) : Prop where
  tx : (s.conn c).tx = none
  pubsub : (s.conn c).pubsub = 0
  closed : (s.conn c).closed = false

instance (s : Sys) (c : Nat) : Decidable (Normal s c) :=
  decidable_of_iff (_ ∧ _ ∧ _) ⟨fun h => ⟨h.1, h.2.1, h.2.2⟩, fun h => ⟨h.tx, h.pubsub, h.closed⟩⟩

/-- the stored dictionary of the database selected by `c` -/
def dictOf (s : Sys) (c : Nat) : Dict := s.srv.dbs.getD (s.conn c).db []

/-- the keys of `D` that are live at clock `t`, in dict order -/
def liveKeys (t : Int) (D : Dict) : List Bytes := (purgeAt t D).map Prod.fst

/-- what "live" means: stored, and the deadline (if any) is not before the clock -/
theorem mem_liveKeys {t : Int} {D : Dict} {k : Bytes} :
    k ∈ liveKeys t D ↔ ∃ it, (k, it) ∈ D ∧ ∀ e, it.expireat = some e → t ≤ e := by
  unfold liveKeys
  rw [List.mem_map]
  constructor
  · rintro ⟨⟨k', it⟩, hm, rfl⟩
    exact ⟨it, mem_purgeAt.1 hm⟩
  · rintro ⟨it, h⟩
    exact ⟨(k, it), mem_purgeAt.2 h, rfl⟩

/-- … equivalently: the live entry of the key exists -/
theorem mem_liveKeys_iff_live {t : Int} {D : Dict} {k : Bytes} :
    k ∈ liveKeys t D ↔ (Db.live ⟨D, t⟩ k).isSome = true := mem_liveKeys_iff D t k

/-- with unique keys (always the case, `Sys.DataInv`) the live keys are pairwise different, the live entry of a key is
its only stored entry, and the number of live keys is the number of live entries -/
theorem liveKeys_facts {D : Dict} (nd : NodupKeys D) (t : Int) :
    (liveKeys t D).Nodup ∧ (liveKeys t D).length = (purgeAt t D).length ∧
    ∀ k it, Db.live ⟨D, t⟩ k = some it ↔ ((k, it) ∈ D ∧ ∀ e, it.expireat = some e → t ≤ e) :=
  ⟨liveKeys_nodup nd t, List.length_map _, fun k it => live_some_iff nd t k it⟩

/-- the standing invariant gives the two dictionary invariants for the selected database -/
theorem good_dictOf {s : Sys} (h : s.DataInv) (c : Nat) : NodupKeys (dictOf s c) ∧ NoEmpty (dictOf s c) :=
  h.dbAt (s.conn c).db

/-! ## 1. DBSIZE, KEYS -/

/-- **DBSIZE** replies the number of live keys of the selected database at the clock reading of the request, and
leaves that database purged of its dead entries (nothing else changes). -/
theorem dbsize_spec (mode : Mode) (c : Nat) (nameB : Bytes) (s : Sys) (hname : lookupSig nameB = some dbsizeSig)
    (hn : Normal s c) :
    Answered s (processCommand mode c [nameB] s).2 c (reading s)
      (.int (liveKeys (reading s) (dictOf s c)).length) (purgeAt (reading s) (dictOf s c)) :=
  (dbsize_answered mode c nameB s hname hn.tx hn.pubsub hn.closed).1

/-- **KEYS \*** replies exactly the live keys, in dict order. -/
theorem keys_star_spec (mode : Mode) (c : Nat) (nameB : Bytes) (s : Sys) (hname : lookupSig nameB = some keysSig)
    (hn : Normal s c) :
    Answered s (processCommand mode c [nameB, [42]] s).2 c (reading s)
      (Reply.bulks (liveKeys (reading s) (dictOf s c))) (purgeAt (reading s) (dictOf s c)) := by
  have := (keys_answered mode c nameB [42] s hname hn.tx hn.pubsub hn.closed).1
  rw [if_pos rfl] at this
  exact this

/-- **KEYS p** replies the live keys matched by the glob model (`Glob.globMatch`, proved equal to Redis's
`stringmatchlen` in C16), in dict order — for every pattern, `*` included. -/
theorem keys_pattern_spec (mode : Mode) (c : Nat) (nameB p : Bytes) (s : Sys)
    (hname : lookupSig nameB = some keysSig) (hn : Normal s c) :
    Answered s (processCommand mode c [nameB, p] s).2 c (reading s)
      (Reply.bulks ((liveKeys (reading s) (dictOf s c)).filter (Glob.globMatch p)))
      (purgeAt (reading s) (dictOf s c)) := by
  have := (keys_answered mode c nameB p s hname hn.tx hn.pubsub hn.closed).1
  by_cases hp : p = [42]
  · subst hp
    rw [if_pos rfl] at this
    have hall : (liveKeys (reading s) (dictOf s c)).filter (Glob.globMatch [42]) = liveKeys (reading s) (dictOf s c) :=
      List.filter_eq_self.2 (fun k _ => FR.Props.C16.star_matches_all k)
    rw [hall]
    exact this
  · rw [if_neg hp] at this
    exact this

/-- DBSIZE and KEYS report no model fault when a clock reading was recorded for them -/
theorem dbsize_keys_no_fault (mode : Mode) (c : Nat) (nameB p : Bytes) (s : Sys) (hn : Normal s c) (t : Int)
    (rest : List Int) (hclk : s.clocks = t :: rest) :
    (lookupSig nameB = some dbsizeSig → (processCommand mode c [nameB] s).2.fault = s.fault) ∧
    (lookupSig nameB = some keysSig → (processCommand mode c [nameB, p] s).2.fault = s.fault) :=
  ⟨fun h => ((dbsize_answered mode c nameB s h hn.tx hn.pubsub hn.closed).2).trans (prologue_fault s hclk),
   fun h => ((keys_answered mode c nameB p s h hn.tx hn.pubsub hn.closed).2).trans (prologue_fault s hclk)⟩


/-! ## 2. EXISTS, TYPE -/

/-- the name TYPE replies for the live entry of a key: `none`, or the name of the constructor of the stored value -/
def typeNameAt (t : Int) (D : Dict) (k : Bytes) : String :=
  match Db.live ⟨D, t⟩ k with
  | none => "none"
  | some it => it.value.ty.name

/-- lazy deletions only: `D'` (unique keys) keeps entries of `D` only, and all those that are live at `t` -/
structure LazyOnly (t : Int) (D D' : Dict) : Prop where
  nd : NodupKeys D'
  eq : purgeAt t D' = purgeAt t D
  sub : ∀ q ∈ D', q ∈ D

theorem LazyOnly.of_reads {t : Int} {D D' : Dict} (h : Reads ⟨D, t⟩ ⟨D', t⟩) : LazyOnly t D D' :=
  ⟨h.nd, congrArg Db.dict h.eq, h.sub⟩

/-- … which no later request can notice: the live view is the same at the reading and at every later one -/
theorem LazyOnly.later {t t' : Int} {D D' : Dict} (h : LazyOnly t D D') (ht : t ≤ t') :
    purgeAt t' D' = purgeAt t' D ∧ liveKeys t' D' = liveKeys t' D ∧
    (fun k => Db.live ⟨D', t'⟩ k) = fun k => Db.live ⟨D, t'⟩ k := by
  have e := reads_later ht h.eq
  refine ⟨e, by unfold liveKeys; rw [e], ?_⟩
  funext k
  rw [live_def, live_def, e]

theorem lazyOnly_purge {D : Dict} (nd : NodupKeys D) (t : Int) : LazyOnly t D (purgeAt t D) :=
  ⟨Db.purge_nodup (db := ⟨D, t⟩) nd, purgeAt_idem t D, fun _ hq => (mem_purgeAt.1 hq).1⟩

theorem lazyOnly_refl {D : Dict} (nd : NodupKeys D) (t : Int) : LazyOnly t D D := ⟨nd, rfl, fun _ h => h⟩

/-- the runner keeps the clock, so a run that only reads makes lazy deletions only -/
theorem LazyOnly.of_run {sig : Sig} {body : Body} {ctx : Ctx} {gate : Option Err} {raw : List Bytes} {db : Db}
    (nd : NodupKeys db.dict) (h : Reads db (runRegular sig body ctx gate raw db).db) :
    LazyOnly db.time db.dict (runRegular sig body ctx gate raw db).db.dict := by
  have ht := runRegular_time sig body ctx gate raw nd
  revert h ht
  generalize (runRegular sig body ctx gate raw db).db = out
  intro h ht
  obtain ⟨D', t'⟩ := out
  obtain ⟨D, t⟩ := db
  dsimp only at ht
  subst ht
  exact LazyOnly.of_reads h

/-- **a read command of the regular table, answered**: the reply is the runner's on the selected database at the clock
reading of the request, and the database is left as it was up to lazy deletions -/
theorem read_answered (mode : Mode) (c : Nat) (nameB : Bytes) (args : List Bytes) (sig : Sig) (body : Body) (s : Sys)
    (hname : lookupSig nameB = some sig) (hb : Cmd.regular sig.name = some body)
    (har : sig.checkArity args.length = true)
    (hro : FR.NotifyKeys.Body.ReadOnly body) (nd : NodupKeys (dictOf s c)) (hn : Normal s c) :
    ∃ D', Answered s (processCommand mode c (nameB :: args) s).2 c (reading s)
        (runRegular sig body (ctxAt s c) none args (viewAt s c)).reply D' ∧
      LazyOnly (reading s) (dictOf s c) D' :=
  ⟨_, regular_answered mode c nameB args sig body s hname hb har hn.tx hn.pubsub hn.closed,
    LazyOnly.of_run (db := viewAt s c) nd
      (runRegular_reads_of_readOnly sig body hro (ctxAt s c) none args (db := viewAt s c) nd)⟩

/-- **EXISTS k₁ … kₙ** replies the number of arguments that are live keys (with multiplicity); the database is left
as it was up to lazy deletion of dead entries. -/
theorem exists_spec (mode : Mode) (c : Nat) (nameB k : Bytes) (ks : List Bytes) (s : Sys)
    (hname : lookupSig nameB = some sigExists) (hinv : s.DataInv) (hn : Normal s c) :
    ∃ D', Answered s (processCommand mode c (nameB :: k :: ks) s).2 c (reading s)
        (.int ((k :: ks).filter (fun x => decide (x ∈ liveKeys (reading s) (dictOf s c)))).length) D' ∧
      LazyOnly (reading s) (dictOf s c) D' := by
  obtain ⟨nd, ne⟩ := good_dictOf hinv c
  obtain ⟨D', ha, hl⟩ := read_answered mode c nameB (k :: ks) sigExists Cmd.exists_ s hname rfl
    (by simp [Sig.checkArity, sigExists]) (.of_reader Cmd.exists__keeps) nd hn
  refine ⟨D', ?_, hl⟩
  have hr := congrArg Prod.fst (FR.Props.C01k.exists_spec (ctxAt s c) (viewAt s c) nd ne k ks)
  simp only at hr
  rw [hr] at ha
  have hf : (k :: ks).filter (fun x => (Db.live (viewAt s c) x).isSome) =
      (k :: ks).filter (fun x => decide (x ∈ liveKeys (reading s) (dictOf s c))) :=
    List.filter_congr fun x _ => by
      rw [Bool.eq_iff_iff, decide_eq_true_iff, mem_liveKeys_iff_live]
      rfl
  rwa [hf] at ha

/-- **EXISTS k = 1 ⇔ k is live** (and the reply is 0 otherwise). -/
theorem exists_iff_live (mode : Mode) (c : Nat) (nameB k : Bytes) (s : Sys)
    (hname : lookupSig nameB = some sigExists) (hinv : s.DataInv) (hn : Normal s c) :
    ∃ D', Answered s (processCommand mode c [nameB, k] s).2 c (reading s)
        (.int (if k ∈ liveKeys (reading s) (dictOf s c) then 1 else 0)) D' ∧
      LazyOnly (reading s) (dictOf s c) D' := by
  obtain ⟨D', h1, h2⟩ := exists_spec mode c nameB k [] s hname hinv hn
  refine ⟨D', ?_, h2⟩
  by_cases hk : k ∈ liveKeys (reading s) (dictOf s c)
  · simpa [hk] using h1
  · simpa [hk] using h1

/-- **TYPE k** replies the status `none` for a key that is not live, and otherwise the name of the constructor of the
stored value (`string`, `list`, `set`, `hash`, `zset`) — a function of the single live entry of the key. -/
theorem type_spec (mode : Mode) (c : Nat) (nameB k : Bytes) (s : Sys)
    (hname : lookupSig nameB = some sigType) (hinv : s.DataInv) (hn : Normal s c) :
    ∃ D', Answered s (processCommand mode c [nameB, k] s).2 c (reading s)
        (.status (strBytes (typeNameAt (reading s) (dictOf s c) k))) D' ∧
      LazyOnly (reading s) (dictOf s c) D' := by
  obtain ⟨nd, _⟩ := good_dictOf hinv c
  obtain ⟨D', ha, hl⟩ := read_answered mode c nameB [k] sigType Cmd.type_ s hname rfl (by rfl)
    (.of_reader Cmd.type__keeps) nd hn
  have hr := congrArg Prod.fst (FR.Props.C01k.type_spec (ctxAt s c) (viewAt s c) nd k)
  simp only at hr
  rw [hr] at ha
  exact ⟨D', ha, hl⟩

/-- the five type names are different from `none` and from each other: the TYPE reply determines the constructor -/
theorem typeName_injective :
    (∀ T : Ty, strBytes T.name ≠ strBytes "none") ∧ ∀ T T' : Ty, strBytes T.name = strBytes T'.name → T = T' := by
  have h : (∀ T ∈ [Ty.str, .list, .set, .hash, .zset], strBytes T.name ≠ strBytes "none") ∧
      ∀ T ∈ [Ty.str, .list, .set, .hash, .zset], ∀ T' ∈ [Ty.str, .list, .set, .hash, .zset],
        strBytes T.name = strBytes T'.name → T = T' := by decide +kernel
  have hall : ∀ T : Ty, T ∈ [Ty.str, .list, .set, .hash, .zset] := fun T => by cases T <;> simp
  exact ⟨fun T => h.1 T (hall T), fun T T' => h.2 T (hall T) T' (hall T')⟩

/-- **TYPE k ≠ none ⇔ k is live; exactly one type per key.**  The reply is `none` iff the key is not live; when the
key is live with entry `it`, the reply is the name of `it.value.ty`, and `it` is the only entry stored under `k`. -/
theorem type_iff_live {D : Dict} (nd : NodupKeys D) (t : Int) (k : Bytes) :
    (strBytes (typeNameAt t D k) ≠ strBytes "none" ↔ k ∈ liveKeys t D) ∧
    (∀ it, Db.live ⟨D, t⟩ k = some it →
      typeNameAt t D k = it.value.ty.name ∧ ∀ it', (k, it') ∈ D → it' = it) := by
  constructor
  · rw [mem_liveKeys_iff_live]
    unfold typeNameAt
    cases h : Db.live ⟨D, t⟩ k with
    | none => simp
    | some it =>
      simp only [Option.isSome_some, iff_true]
      exact typeName_injective.1 _
  · intro it h
    refine ⟨by unfold typeNameAt; rw [h], fun it' hm => ?_⟩
    have hmem := ((live_some_iff nd t k it).1 h).1
    have := Db.nodup_unique nd (FR.WatchSys.lookup_of_mem nd hmem) _ hm rfl
    simpa using this


/-! ## 3. RANDOMKEY -/

theorem randomkeyAnswer_cases (K : List Bytes) (picks : List (List Bytes)) :
    (randomkeyLegal K picks = true →
      randomkeyAnswer K picks = .nil ∨ ∃ x ∈ K, randomkeyAnswer K picks = .bulk x) ∧
    (randomkeyLegal K picks = false → randomkeyAnswer K picks = .err (strBytes "model: bad hint")) := by
  unfold randomkeyLegal randomkeyAnswer
  cases K with
  | nil => simp
  | cons a as =>
    simp only [List.isEmpty_cons, Bool.false_or, Bool.false_eq_true, if_false]
    rcases picks with _ | ⟨p, rest⟩
    · simp
    · rcases p with _ | ⟨x, _ | ⟨y, ys⟩⟩
      · simp
      · simp only
        by_cases hx : (a :: as).contains x = true
        · simp only [hx, if_true, true_implies, Bool.true_eq_false, false_implies, and_true]
          exact Or.inr ⟨x, by simpa using hx, rfl⟩
        · have hx : (a :: as).contains x = false := by simpa using hx
          simp only [hx, Bool.false_eq_true, false_implies, if_false, true_implies, true_and]
      · simp

/-- **RANDOMKEY** (the random choice is a recorded hint `s.picks`, a list whose head should be `[x]` for the key `x`
that `random.choice` returned).  With `K` the live keys of the selected database at the clock reading:
* the reply is nil iff there is no live key — for every hint; then no hint is consumed;
* a bulk reply is always a live key; every live key is answered when it is the recorded choice (then the hint is
  consumed and no model fault is raised);
* the only other reply is the model's own error for a hint that is not a single live key, and that hint is reported
  as a model fault (the replay is then void) — it is never nil and never a key that is not live;
* the database is left purged of its dead entries, nothing else changes. -/
theorem randomkey_spec (mode : Mode) (c : Nat) (nameB : Bytes) (s : Sys)
    (hname : lookupSig nameB = some randomkeySig) (hn : Normal s c) :
    let K := liveKeys (reading s) (dictOf s c)
    let s' := (processCommand mode c [nameB] s).2
    ∃ r, Answered s s' c (reading s) r (purgeAt (reading s) (dictOf s c)) ∧
      (r = .nil ↔ K = []) ∧
      (K = [] → s'.picks = s.picks ∧ s'.fault = (prologue s).fault) ∧
      (∀ x, r = .bulk x → x ∈ K) ∧
      (∀ x rest, s.picks = [x] :: rest → x ∈ K →
        r = .bulk x ∧ s'.picks = rest ∧ s'.fault = (prologue s).fault) ∧
      (r = .nil ∨ (∃ x ∈ K, r = .bulk x) ∨
        (r = .err (strBytes "model: bad hint") ∧ ((prologue s).fault = none → s'.fault ≠ none))) := by
  intro K s'
  obtain ⟨r, sR, ho, ha, hp, hf⟩ := randomkey_answered mode c nameB s hname hn.tx hn.pubsub hn.closed
  have h1 : (purgeSel (prologue s) (s.conn c).db).picks = s.picks := prologue_picks s
  refine ⟨r, ha, ?_⟩
  change Randomkey K _ r sR at ho
  change s'.picks = _ at hp
  change s'.fault = _ at hf
  rw [hf, hp]
  cases ho with
  | empty hK =>
    exact ⟨⟨fun _ => hK, fun _ => rfl⟩, fun _ => ⟨h1, rfl⟩, (by intro _ h; cases h),
      (by intro x _ _ hx; rw [hK] at hx; cases hx), .inl rfl⟩
  | hit x rest hpk hx =>
    have hK : K ≠ [] := fun h => by rw [h] at hx; cases hx
    refine ⟨⟨(by intro h; cases h), fun h => absurd h hK⟩, fun h => absurd h hK, (by intro y hy; cases hy; exact hx),
      fun y rest' hy _ => ?_, .inr (.inl ⟨x, hx, rfl⟩)⟩
    rw [h1, hy] at hpk
    cases hpk
    exact ⟨rfl, rfl, rfl⟩
  | bad m hK hno =>
    exact ⟨⟨(by intro h; cases h), fun h => absurd h hK⟩, fun h => absurd h hK, (by intro _ h; cases h),
      fun x rest hx hxK => absurd hxK (hno x rest (h1.trans hx)),
      .inr (.inr ⟨rfl, fun _ => faultS_some_ne_none _ _⟩)⟩

/-! ## 4. the five views agree -/

/-- from `processCommand` to the event "connection `c` sends `fields`, taking the clock reading `h.time`" -/
theorem event_eq (s : Sys) (mode : Mode) (c : Nat) (fields : List Bytes) (h : Hint) :
    stepEv s (request mode c fields h) = (processCommand mode c fields (start s h)).2 := rfl

theorem start_facts (s : Sys) (h : Hint) (c : Nat) :
    reading (start s h) = h.time ∧ dictOf (start s h) c = dictOf s c ∧ (start s h).out = [] ∧
    (Normal s c → Normal (start s h) c) ∧ (s.DataInv → (start s h).DataInv) ∧ (start s h).conn c = s.conn c ∧
    (start s h).srv = s.srv :=
  ⟨rfl, rfl, rfl, fun hn => ⟨hn.tx, hn.pubsub, hn.closed⟩, fun hi => hi, rfl, rfl⟩

/-- the selected dictionary after an answered request: the new one — or nothing before and after, when the selected
index is beyond the list of databases -/
theorem _root_.FR.C09v.Answered.dictOf {s s' : Sys} {c : Nat} {t : Int} {r : Reply} {D' : Dict} (ha : Answered s s' c t r D') :
    dictOf s' c = D' ∨ (dictOf s' c = [] ∧ dictOf s c = []) := by
  unfold FR.Props.C09v.dictOf
  rw [ha.db, ha.dbs]
  by_cases hd : (s.conn c).db < s.srv.dbs.length
  · exact .inl (getD_set_self _ _ _ _ hd)
  · have hd : s.srv.dbs.length ≤ (s.conn c).db := by omega
    rw [List.set_eq_of_length_le hd, List.getD_eq_getElem?_getD, List.getElem?_eq_none hd]
    exact .inr ⟨rfl, rfl⟩

/-- … and the invariant, when the new dictionary satisfies it -/
theorem _root_.FR.C09v.Answered.dataInv {s s' : Sys} {c : Nat} {t : Int} {r : Reply} {D' : Dict} (ha : Answered s s' c t r D')
    (hinv : s.DataInv) (nd : NodupKeys D') (ne : NoEmpty D') : s'.DataInv :=
  fun x hx => Sys.DataInv.setDbS hinv _ (db := ⟨D', 0⟩) ⟨nd, ne⟩ x (ha.dbs ▸ hx)

theorem answered_dict {s s' : Sys} {c : Nat} {t t0 : Int} {r : Reply} {D' : Dict} (ha : Answered s s' c t r D')
    (nd : NodupKeys (dictOf s c)) (hl : LazyOnly t0 (dictOf s c) D') : LazyOnly t0 (dictOf s c) (dictOf s' c) := by
  rcases ha.dictOf with h | ⟨h, h0⟩
  · rw [h]; exact hl
  · rw [h, ← h0]; exact lazyOnly_refl nd t0

theorem answered_normal {s s' : Sys} {c : Nat} {t : Int} {r : Reply} {D' : Dict} (ha : Answered s s' c t r D') :
    Normal s' c := ⟨ha.tx, ha.pubsub, ha.closed⟩

theorem matchPredicate_trivial (ty : Bytes → Bytes) (o : ScanOpts) (hp : o.pattern = none) (ht : o.ty = none)
    (k : Bytes) : matchPredicate id ty o k = true := by
  unfold matchPredicate
  rw [hp, ht]
  rfl

theorem LazyOnly.trans {t : Int} {D D1 D2 : Dict} (h1 : LazyOnly t D D1) (h2 : LazyOnly t D1 D2) : LazyOnly t D D2 :=
  ⟨h2.nd, h2.eq.trans h1.eq, fun q hq => h1.sub q (h2.sub q hq)⟩

/-- one database is replaced by a lazy variant of itself: every database is a lazy variant of what it was -/
theorem lazyOnly_set {dbs : List Dict} (hg : ∀ D ∈ dbs, NodupKeys D) (d : Nat) {D' : Dict} {t : Int}
    (hl : LazyOnly t (dbs.getD d []) D') (i : Nat) : LazyOnly t (dbs.getD i []) ((dbs.set d D').getD i []) := by
  rw [getD_set_eq]
  split
  · rename_i h; obtain ⟨rfl, _⟩ := h; exact hl
  · exact lazyOnly_refl ((FR.ErrSys.DbsSim.refl (t := t) hg).2 i).nd1 t

/-- the four single-request views of the key space -/
inductive View
  | keysStar | dbsize | exists1 (k : Bytes) | type (k : Bytes)

/-- signature, arguments and — as a function of the clock and the stored dictionary, through `purgeAt` only — reply -/
def View.sig : View → Sig
  | .keysStar => keysSig | .dbsize => dbsizeSig | .exists1 _ => sigExists | .type _ => sigType
def View.args : View → List Bytes
  | .keysStar => [[42]] | .dbsize => [] | .exists1 k => [k] | .type k => [k]
def View.reply (t : Int) (D : Dict) : View → Reply
  | .keysStar => Reply.bulks (liveKeys t D)
  | .dbsize => .int (liveKeys t D).length
  | .exists1 k => .int (if k ∈ liveKeys t D then 1 else 0)
  | .type k => .status (strBytes (typeNameAt t D k))

/-- **every view is answered by its function of the live entries and makes lazy deletions only** -/
theorem view_answered (v : View) (mode : Mode) (c : Nat) (nameB : Bytes) (s : Sys) (hname : lookupSig nameB = some v.sig)
    (hinv : s.DataInv) (hn : Normal s c) :
    ∃ D', Answered s (processCommand mode c (nameB :: v.args) s).2 c (reading s) (v.reply (reading s) (dictOf s c)) D' ∧
      LazyOnly (reading s) (dictOf s c) D' := by
  have nd := (good_dictOf hinv c).1
  cases v with
  | keysStar => exact ⟨_, keys_star_spec mode c nameB s hname hn, lazyOnly_purge nd _⟩
  | dbsize => exact ⟨_, dbsize_spec mode c nameB s hname hn, lazyOnly_purge nd _⟩
  | exists1 k => exact exists_iff_live mode c nameB k s hname hinv hn
  | type k => exact type_spec mode c nameB k s hname hinv hn

theorem View.reply_congr {t : Int} {D D' : Dict} (h : LazyOnly t D D') (v : View) : v.reply t D' = v.reply t D := by
  obtain ⟨_, hk, hl⟩ := h.later (Int.le_refl t)
  cases v <;> simp only [View.reply, hk, typeNameAt, congrFun hl]

/-- **one view request in a state whose selected dictionary is a lazy variant of `D`**: the reply is the one computed
from `D`, and the state after it is such a state again — so any sequence of views answers as if each were sent first -/
theorem view_step (v : View) (mode : Mode) (c : Nat) (nameB : Bytes) (hname : lookupSig nameB = some v.sig) {t : Int}
    {D : Dict} {s : Sys} (hl : LazyOnly t D (dictOf s c)) (hinv : s.DataInv) (hn : Normal s c) :
    let s' := stepEv s (request mode c (nameB :: v.args) ⟨t, [], []⟩)
    s'.out = [(c, v.reply t D)] ∧ LazyOnly t D (dictOf s' c) ∧ Normal s' c ∧ s'.DataInv ∧
      (s'.conn c).db = (s.conn c).db := by
  obtain ⟨D', ha, hl'⟩ := view_answered v mode c nameB (start s ⟨t, [], []⟩) hname hinv ⟨hn.tx, hn.pubsub, hn.closed⟩
  change Answered _ _ c t (v.reply t (dictOf s c)) D' at ha
  change LazyOnly t (dictOf s c) D' at hl'
  have hd : LazyOnly t (dictOf s c) _ := answered_dict (s := start s _) ha hl.nd hl'
  exact ⟨ha.out.trans (by rw [View.reply_congr hl]; rfl), hl.trans hd, answered_normal ha,
    ha.dataInv (s := start s _) hinv hl'.nd (fun q hq => (good_dictOf hinv c).2 q (hl'.sub q hq)), ha.db⟩

/-- **The five views of the key space agree.**  State `s` satisfies the invariant of reachable states; connection `c`
is in normal mode with any database selected; `t` is any clock reading; `D` the stored dictionary of the selected
database and `K = liveKeys t D` its keys that are live at `t` (dict order, pairwise different).  Each of the following
requests is sent in state `s` and takes the clock reading `t` (the SCAN loop: `SCAN 0 opts`, then `SCAN cursor opts`
with the returned cursor until 0 comes back, `opts` being any list of `COUNT n` options, every request at clock `t`):

* `KEYS *` replies exactly `K`; `DBSIZE` replies `|K|`; the complete SCAN returns exactly the keys of `K`, sorted
  byte-wise, each once — so `|KEYS *| = DBSIZE = number of keys returned by the complete SCAN`;
* for every key `k`:  `k ∈ KEYS *`  ⇔  `EXISTS k` replies 1 (else 0)  ⇔  `TYPE k` replies something other than `none`
  (namely the type name of the one live entry of `k`)  ⇔  `k` is returned by the complete SCAN;
* none of the requests changes the live key space: in each resulting state the selected database differs from `D` by
  deletions of entries that are dead at `t` only (`LazyOnly`), so its live entries at `t` and at every later clock
  reading are those of `D` (`LazyOnly.later`), the state satisfies the invariant again and `c` is still in normal mode
  — hence the same answers are obtained when the requests are sent one after the other. -/
theorem views_agree (mode : Mode) (c : Nat) (nKeys nDbsize nExists nType nScan : Bytes) (opts : List Bytes)
    (o : ScanOpts) (s : Sys) (t : Int) (hs : List Hint)
    (hk : lookupSig nKeys = some keysSig) (hd : lookupSig nDbsize = some dbsizeSig)
    (he : lookupSig nExists = some sigExists) (hty : lookupSig nType = some sigType)
    (hsc : lookupSig nScan = some scanSig)
    (hp : parseScanOpts true opts {} = .ok o) (hpat : o.pattern = none) (hoty : o.ty = none)
    (hinv : s.DataInv) (hn : Normal s c) (hclk : ∀ h ∈ hs, h.time = t)
    (hbound : (liveKeys t (dictOf s c)).length ≤ 2 ^ 63)
    (hlen : scanCalls (liveKeys t (dictOf s c)).length o.count.toNat ≤ hs.length) :
    let D := dictOf s c
    let K := liveKeys t D
    let h : Hint := ⟨t, [], []⟩
    let sK := stepEv s (request mode c [nKeys, [42]] h)
    let sD := stepEv s (request mode c [nDbsize] h)
    let sE := fun k => stepEv s (request mode c [nExists, k] h)
    let sT := fun k => stepEv s (request mode c [nType, k] h)
    let scan := iter mode c (scanReq nScan opts) hs 0 s
    K.Nodup ∧
    sK.out = [(c, Reply.bulks K)] ∧ sD.out = [(c, .int K.length)] ∧
    scan.finished = true ∧ scan.pages.flatten = (sortBy bytesLt K).map Reply.bulk ∧
    scan.pages.flatten.length = K.length ∧
    (∀ k, (sE k).out = [(c, .int (if k ∈ K then 1 else 0))] ∧
          (sT k).out = [(c, .status (strBytes (typeNameAt t D k)))] ∧
          (k ∈ K ↔ strBytes (typeNameAt t D k) ≠ strBytes "none") ∧
          (k ∈ K ↔ Reply.bulk k ∈ scan.pages.flatten)) ∧
    (∀ s', (s' = sK ∨ s' = sD ∨ s' = scan.final ∨ ∃ k, s' = sE k ∨ s' = sT k) →
      LazyOnly t D (dictOf s' c) ∧ Normal s' c ∧ s'.DataInv ∧ (s'.conn c).db = (s.conn c).db) := by
  intro D K h sK sD sE sT scan
  obtain ⟨nd, ne⟩ := good_dictOf hinv c
  have vs := fun v nameB hname => view_step v mode c nameB hname (lazyOnly_refl nd t) hinv hn
  -- SCAN
  have hKlen : K.length = (purgeAt t D).length := List.length_map _
  have hscan := FR.Props.C15s.scan_iteration mode c (s.conn c).db nScan opts o (purgeAt t D) hs s hsc hp hinv hn.tx
    hn.pubsub hn.closed rfl (fun x hx => by rw [hclk x hx]; rfl) (by rw [← hKlen]; exact hbound)
    (by rw [← hKlen]; exact hlen)
  simp only at hscan
  obtain ⟨hfin, _, _, hflat, hfdbs, hfinv⟩ := hscan
  have hfilter : (sortBy bytesLt ((purgeAt t D).map Prod.fst)).filter
      (matchPredicate id (dictType (purgeAt t D)) o) = sortBy bytesLt K :=
    List.filter_eq_self.2 (fun k _ => matchPredicate_trivial _ o hpat hoty k)
  rw [hfilter] at hflat
  refine ⟨liveKeys_nodup nd t, (vs .keysStar nKeys hk).1, (vs .dbsize nDbsize hd).1, hfin, hflat, ?_, fun k => ?_,
    fun s' hs' => ?_⟩
  · rw [hflat, List.length_map, (sortBy_perm bytesLt K).length_eq]
  · refine ⟨(vs (.exists1 k) nExists he).1, (vs (.type k) nType hty).1, ((type_iff_live nd t k).1).symm, ?_⟩
    rw [hflat, List.mem_map]
    constructor
    · intro hk'; exact ⟨k, (mem_sortBy bytesLt).2 hk', rfl⟩
    · rintro ⟨k', hk', e⟩
      cases e
      exact (mem_sortBy bytesLt).1 hk'
  · rcases hs' with rfl | rfl | rfl | ⟨k, rfl | rfl⟩
    · exact (vs .keysStar nKeys hk).2
    · exact (vs .dbsize nDbsize hd).2
    · obtain ⟨hi, h1, h2, h3, h4, _⟩ := hfinv
      refine ⟨?_, ⟨h1, h2, h3⟩, hi, h4⟩
      unfold dictOf
      rw [h4, hfdbs]
      exact lazyOnly_set (fun x hx => (hinv x hx).1) _ (lazyOnly_purge nd t) _
    · exact (vs (.exists1 k) nExists he).2
    · exact (vs (.type k) nType hty).2

/-- **… also when the requests are sent ONE AFTER THE OTHER** (same connection, every request taking the clock reading
`t`): `KEYS *`, then `DBSIZE`, then `EXISTS k`, then `TYPE k`, then the complete SCAN loop.  Every reply is the one
computed from the live keys `K` of the ORIGINAL dictionary `D` at `t`: the purges and lazy deletions the earlier
requests perform are invisible to the later ones. -/
theorem views_agree_in_sequence (mode : Mode) (c : Nat) (nKeys nDbsize nExists nType nScan k : Bytes)
    (opts : List Bytes) (o : ScanOpts) (s : Sys) (t : Int) (hs : List Hint)
    (hk : lookupSig nKeys = some keysSig) (hd : lookupSig nDbsize = some dbsizeSig)
    (he : lookupSig nExists = some sigExists) (hty : lookupSig nType = some sigType)
    (hsc : lookupSig nScan = some scanSig)
    (hp : parseScanOpts true opts {} = .ok o) (hpat : o.pattern = none) (hoty : o.ty = none)
    (hinv : s.DataInv) (hn : Normal s c) (hclk : ∀ h ∈ hs, h.time = t)
    (hbound : (liveKeys t (dictOf s c)).length ≤ 2 ^ 63)
    (hlen : scanCalls (liveKeys t (dictOf s c)).length o.count.toNat ≤ hs.length) :
    let D := dictOf s c
    let K := liveKeys t D
    let h : Hint := ⟨t, [], []⟩
    let s1 := stepEv s (request mode c [nKeys, [42]] h)
    let s2 := stepEv s1 (request mode c [nDbsize] h)
    let s3 := stepEv s2 (request mode c [nExists, k] h)
    let s4 := stepEv s3 (request mode c [nType, k] h)
    let scan := iter mode c (scanReq nScan opts) hs 0 s4
    s1.out = [(c, Reply.bulks K)] ∧ s2.out = [(c, .int K.length)] ∧
    s3.out = [(c, .int (if k ∈ K then 1 else 0))] ∧ s4.out = [(c, .status (strBytes (typeNameAt t D k)))] ∧
    scan.finished = true ∧ scan.pages.flatten = (sortBy bytesLt K).map Reply.bulk ∧
    LazyOnly t D (dictOf scan.final c) ∧ scan.final.DataInv ∧ Normal scan.final c := by
  intro D K h s1 s2 s3 s4 scan
  obtain ⟨nd, _⟩ := good_dictOf hinv c
  obtain ⟨o1, l1, n1, i1, _⟩ := view_step .keysStar mode c nKeys hk (lazyOnly_refl nd t) hinv hn
  obtain ⟨o2, l2, n2, i2, _⟩ := view_step .dbsize mode c nDbsize hd l1 i1 n1
  obtain ⟨o3, l3, n3, i3, _⟩ := view_step (.exists1 k) mode c nExists he l2 i2 n2
  obtain ⟨o4, l4, n4, i4, _⟩ := view_step (.type k) mode c nType hty l3 i3 n3
  -- the SCAN loop starts in a state whose dictionary is a lazy variant of `D`
  have hK : liveKeys t (dictOf s4 c) = K := (l4.later (Int.le_refl t)).2.1
  have v4 := views_agree mode c nKeys nDbsize nExists nType nScan opts o s4 t hs hk hd he hty hsc hp hpat hoty i4 n4
    hclk (by rw [hK]; exact hbound) (by rw [hK]; exact hlen)
  simp only at v4
  obtain ⟨_, _, _, f4, fl4, _, _, p4⟩ := v4
  obtain ⟨l5, n5, i5, _⟩ := p4 scan.final (Or.inr (Or.inr (Or.inl rfl)))
  exact ⟨o1, o2, o3, o4, f4, by rw [fl4, hK], l4.trans l5, i5, n5⟩

/-! ## 5. removing the last element deletes the key -/

/-- **Nothing stored under `k` ⇒ every view says so** (pure runner, any context, any clock): EXISTS replies 0, TYPE
replies `none`, the key is not among the live keys (so KEYS, SCAN, DBSIZE, RANDOMKEY do not see it). -/
theorem absent_views {D : Dict} (nd : NodupKeys D) (ne : NoEmpty D) {k : Bytes} (h : Absent D k) (ctx : Ctx) (t : Int) :
    (runRegular sigExists Cmd.exists_ ctx none [k] ⟨D, t⟩).reply = .int 0 ∧
    (runRegular sigType Cmd.type_ ctx none [k] ⟨D, t⟩).reply = .status (strBytes "none") ∧
    k ∉ liveKeys t D ∧ Db.live ⟨D, t⟩ k = none := by
  have hl : Db.live ⟨D, t⟩ k = none := absent_not_live h t
  have h1 := congrArg Prod.fst (FR.Props.C01k.exists_spec ctx ⟨D, t⟩ nd ne k [])
  have h2 := congrArg Prod.fst (FR.Props.C01k.type_spec ctx ⟨D, t⟩ nd k)
  simp only at h1 h2
  refine ⟨?_, ?_, ?_, hl⟩
  · rw [h1]; simp [hl]
  · rw [h2, hl]
  · rw [mem_liveKeys_iff_live, hl]; simp

/-- **THE GENERIC THEOREM: removing the last element deletes the key.**  For EVERY command run by the generic runner —
any signature, any body, hence every removing command of every family (LPOP / RPOP / LREM / LTRIM / RPOPLPUSH / LMOVE
source, SREM / SPOP / SMOVE source / S…STORE with an empty result, HDEL, ZREM / ZREMRANGEBY…) — on a database with
unique keys and no stored empty collection: if the last item the body hands back for key `k` is modified and carries
an empty list / set / hash / sorted set (or no value), then afterwards
* NOTHING is stored under `k` (`Absent`: the write-back pops the key instead of storing the empty collection),
  and the watchers of `k` were notified;
* the two dictionary invariants hold again;
* at every clock and in every context `EXISTS k` replies 0 and `TYPE k` replies `none`, and `k` is not a live key.
The per-family instances below discharge the hypothesis on the body for each removing command. -/
theorem last_element_removal_deletes (sig : Sig) (body : Body) (ctx : Ctx) (raw : List Bytes) (db : Db)
    (nd : NodupKeys db.dict) (ne : NoEmpty db.dict) {args : List Arg} {cis : List CI} {o : BodyOut}
    (hap : (sig.apply raw db).2 = .ok (.ok args cis)) (hb : body ctx args cis = .ok o) {k : Bytes}
    (he : EmptiedLast o.cis k) :
    let out := runRegular sig body ctx none raw db
    Absent out.db.dict k ∧ k ∈ out.notified ∧ NodupKeys out.db.dict ∧ NoEmpty out.db.dict ∧
    ∀ (ctx' : Ctx) (t' : Int),
      (runRegular sigExists Cmd.exists_ ctx' none [k] ⟨out.db.dict, t'⟩).reply = .int 0 ∧
      (runRegular sigType Cmd.type_ ctx' none [k] ⟨out.db.dict, t'⟩).reply = .status (strBytes "none") ∧
      k ∉ liveKeys t' out.db.dict := by
  intro out
  have hg := runRegular_emptied sig body ctx raw db hap hb he
  have nd' := runRegular_nodup sig body ctx none raw nd
  have ne' := runRegular_noEmpty sig body ctx none raw nd ne
  refine ⟨hg.1, hg.2, nd', ne', fun ctx' t' => ?_⟩
  have := absent_views nd' ne' hg.1 ctx' t'
  exact ⟨this.1, this.2.1, this.2.2.1⟩

/-- the hypothesis of the generic theorem for a body that replaces ONE of the items it was given (all bodies of the
table do this through `key.update(…)` / `key.value = …`): the new item is modified and holds an empty collection -/
theorem emptiedLast_of_set (sig : Sig) (raw : List Bytes) (db : Db) {args : List Arg} {cis : List CI}
    (hap : (sig.apply raw db).2 = .ok (.ok args cis)) {i : Nat} (hi : i < cis.length) {c' : CI}
    (hm : c'.modified = true) (hn : NoContent c') : EmptiedLast (cis.set i c') c'.key :=
  emptiedLast_set (fun c hc => (Sig.apply_clean sig raw db hap c hc).1) hi hm hn

/-- **… and at system level.**  A regular command of the table sent by a connection in normal mode, whose body (run on
the selected database at the clock reading of the request) empties key `k`: in the state after the request nothing is
stored under `k` in the selected database, the state satisfies the invariant, the connection is in normal mode — so
(`absent_key_invisible`) every later EXISTS / TYPE / KEYS / DBSIZE / SCAN treats `k` as missing. -/
theorem last_element_removal_deletes_sys (mode : Mode) (c : Nat) (nameB : Bytes) (raw : List Bytes) (sig : Sig)
    (body : Body) (s : Sys) (hname : lookupSig nameB = some sig) (hreg : Cmd.regular sig.name = some body)
    (har : sig.checkArity raw.length = true) (hns : scriptNames.contains sig.name = false)
    (hinv : s.DataInv) (hn : Normal s c)
    {args : List Arg} {cis : List CI} {o : BodyOut} (hap : (sig.apply raw (viewAt s c)).2 = .ok (.ok args cis))
    (hb : body (ctxAt s c) args cis = .ok o) {k : Bytes} (he : EmptiedLast o.cis k) :
    let s' := (processCommand mode c (nameB :: raw) s).2
    Absent (dictOf s' c) k ∧ s'.DataInv ∧ Normal s' c ∧
    s'.out = (c, (runRegular sig body (ctxAt s c) none raw (viewAt s c)).reply) :: s.out := by
  intro s'
  obtain ⟨nd, ne⟩ := good_dictOf hinv c
  have ha := regular_answered mode c nameB raw sig body s hname hreg har hn.tx hn.pubsub hn.closed
  have hg := last_element_removal_deletes sig body (ctxAt s c) raw (viewAt s c) nd ne hap hb he
  simp only at hg
  obtain ⟨habs, _, nd', ne', _⟩ := hg
  refine ⟨?_, ha.dataInv hinv nd' ne', answered_normal ha, ha.out⟩
  rcases ha.dictOf with h | ⟨h, _⟩ <;> rw [h]
  · exact habs
  · nofun

/-- nothing is stored under `k` in the selected database: EXISTS replies 0, TYPE replies `none`, KEYS * does not list
`k` — at whatever clock reading the request takes -/
theorem absent_key_invisible (mode : Mode) (c : Nat) (nExists nType nKeys k : Bytes) (s : Sys)
    (he : lookupSig nExists = some sigExists) (hty : lookupSig nType = some sigType)
    (hk : lookupSig nKeys = some keysSig) (hinv : s.DataInv) (hn : Normal s c) (habs : Absent (dictOf s c) k) :
    (processCommand mode c [nExists, k] s).2.out = (c, .int 0) :: s.out ∧
    (processCommand mode c [nType, k] s).2.out = (c, .status (strBytes "none")) :: s.out ∧
    ∃ K, (processCommand mode c [nKeys, [42]] s).2.out = (c, Reply.bulks K) :: s.out ∧ k ∉ K := by
  obtain ⟨nd, ne⟩ := good_dictOf hinv c
  have hl : Db.live ⟨dictOf s c, reading s⟩ k = none := absent_not_live habs _
  have hnk : k ∉ liveKeys (reading s) (dictOf s c) := by rw [mem_liveKeys_iff_live, hl]; simp
  obtain ⟨_, a1, _⟩ := exists_iff_live mode c nExists k s he hinv hn
  obtain ⟨_, a2, _⟩ := type_spec mode c nType k s hty hinv hn
  have a3 := keys_star_spec mode c nKeys s hk hn
  rw [if_neg hnk] at a1
  have ht : typeNameAt (reading s) (dictOf s c) k = "none" := by unfold typeNameAt; rw [hl]
  rw [ht] at a2
  exact ⟨a1.out, a2.out, _, a3.out, hnk⟩


/-! ### the removing command families (registered signature and body, arbitrary database with unique keys)

`Gone out k` : after the run nothing is stored under `k` and the watchers of `k` were notified.  By `gone_views` this
means `EXISTS k = 0`, `TYPE k = none` and `k` not live, at every later clock. -/


open FR.HashSet in
/-- the commands below are the registered ones: `sigOf name` is the entry of the signature table -/
theorem family_tables :
    (∀ name ∈ ["lpop", "rpop", "lrem", "ltrim", "rpoplpush", "lmove", "srem", "spop", "smove", "sdiffstore",
        "sinterstore", "sunionstore", "hdel", "zrem", "zremrangebyrank", "zremrangebyscore", "zremrangebylex",
        "lpushx", "rpushx", "sadd"], SigTable.find name = some (sigOf name)) ∧
    Cmd.regular "lpop" = some (Cmd.listPop true) ∧ Cmd.regular "rpop" = some (Cmd.listPop false) ∧
    Cmd.regular "lrem" = some Cmd.lrem ∧ Cmd.regular "ltrim" = some Cmd.ltrim ∧
    Cmd.regular "rpoplpush" = some Cmd.rpoplpush ∧ Cmd.regular "lmove" = some Cmd.lmove ∧
    Cmd.regular "srem" = some Cmd.srem ∧ Cmd.regular "spop" = some Cmd.spop ∧ Cmd.regular "smove" = some Cmd.smove ∧
    Cmd.regular "sdiffstore" = some (Cmd.setopStore .diff) ∧ Cmd.regular "sinterstore" = some (Cmd.setopStore .inter) ∧
    Cmd.regular "sunionstore" = some (Cmd.setopStore .union) ∧ Cmd.regular "hdel" = some Cmd.hdel ∧
    Cmd.regular "zrem" = some Cmd.zrem ∧ Cmd.regular "zremrangebyrank" = some Cmd.zremrangebyrank ∧
    Cmd.regular "zremrangebyscore" = some Cmd.zremrangebyscore ∧
    Cmd.regular "zremrangebylex" = some Cmd.zremrangebylex := by
  refine ⟨by decide +kernel, rfl, rfl, rfl, rfl, rfl, rfl, rfl, rfl, rfl, rfl, rfl, rfl, rfl, rfl, rfl, rfl, rfl⟩

/-- what `Gone` means for the views: EXISTS 0, TYPE none, not a live key — in every context and at every clock -/
theorem gone_views (sig : Sig) (body : Body) (ctx : Ctx) (raw : List Bytes) {db : Db} (nd : NodupKeys db.dict)
    (ne : NoEmpty db.dict) {k : Bytes} (h : Gone (runRegular sig body ctx none raw db) k) (ctx' : Ctx) (t' : Int) :
    (runRegular sigExists Cmd.exists_ ctx' none [k] ⟨(runRegular sig body ctx none raw db).db.dict, t'⟩).reply = .int 0 ∧
    (runRegular sigType Cmd.type_ ctx' none [k] ⟨(runRegular sig body ctx none raw db).db.dict, t'⟩).reply =
      .status (strBytes "none") ∧
    k ∉ liveKeys t' (runRegular sig body ctx none raw db).db.dict := by
  have := absent_views (runRegular_nodup sig body ctx none raw nd) (runRegular_noEmpty sig body ctx none raw nd ne)
    h.1 ctx' t'
  exact ⟨this.1, this.2.1, this.2.2.1⟩

section families
open FR.HashSet
variable (ctx : Ctx) {db : Db} (nd : NodupKeys db.dict)
include nd

/-- **LISTS.**
1. `LPOP k` / `RPOP k` on a list with one element `x`: reply `x`, key gone.
2. `LPOP k n` / `RPOP k n` with `n ≥` the length: all elements are returned (in pop order), key gone.
3. `LREM k count v` removing as many elements as the list has (all elements equal `v`; `count = 0` or `|count| ≥`
   the length): reply the length, key gone.
4. `LTRIM k a b` with an empty window: OK, key gone.
5. `RPOPLPUSH src dst`, `LMOVE src dst …` with a one-element source and another destination (missing or a list):
   reply the element, source key gone. -/
theorem list_removal_deletes (k : Bytes) (e : Option Int) :
    (∀ left x, db.live k = some ⟨.list [x], e⟩ →
      let out := runRegular (sigOf (popName left)) (Cmd.listPop left) ctx none [k] db
      out.reply = .bulk x ∧ Gone out k) ∧
    (∀ left l nb n, db.live k = some ⟨.list l, e⟩ → l ≠ [] → Conv.int nb = .ok n → (l.length : Int) ≤ n →
      let out := runRegular (sigOf (popName left)) (Cmd.listPop left) ctx none [k, nb] db
      out.reply = Reply.bulks (if left then l else l.reverse) ∧ Gone out k) ∧
    (∀ l cb count v, db.live k = some ⟨.list l, e⟩ → l ≠ [] → Conv.int cb = .ok count →
      (if count = 0 then l.count v else min count.natAbs (l.count v)) = l.length →
      let out := runRegular (sigOf "lrem") Cmd.lrem ctx none [k, cb, v] db
      out.reply = .int (l.length : Nat) ∧ Gone out k) ∧
    (∀ l sb eb a b, db.live k = some ⟨.list l, e⟩ → l ≠ [] → Conv.int sb = .ok a → Conv.int eb = .ok b →
      FR.Spec.lrangeSpec l a b = [] →
      let out := runRegular (sigOf "ltrim") Cmd.ltrim ctx none [k, sb, eb] db
      out.reply = .ok ∧ Gone out k) ∧
    (∀ x dst, db.live k = some ⟨.list [x], e⟩ → typeOK db.live (some .list) dst = true → dst ≠ k →
      let out := runRegular (sigOf "rpoplpush") Cmd.rpoplpush ctx none [k, dst] db
      out.reply = .bulk x ∧ Gone out k) ∧
    (∀ x dst a b, db.live k = some ⟨.list [x], e⟩ → typeOK db.live (some .list) dst = true → dst ≠ k →
      (casenorm a = strBytes "left" ∨ casenorm a = strBytes "right") →
      (casenorm b = strBytes "left" ∨ casenorm b = strBytes "right") →
      let out := runRegular (sigOf "lmove") Cmd.lmove ctx none [k, dst, a, b] db
      out.reply = .bulk x ∧ Gone out k) := by
  refine ⟨fun left x h => ?_, fun left l nb n h hne hn hall => ?_, fun l cb count v h hne hc hall => ?_,
    fun l sb eb a b h hne hs he hw => ?_, fun x dst h hd hne => ?_, fun x dst a b h hd hne ha hb => ?_⟩
  · exact run_pop_last left ctx k nd h
  · exact run_pop_all left ctx k nb n nd h hne hn hall
  · exact run_lrem_all ctx k cb v count nd h hne hc hall
  · exact run_ltrim_all ctx k sb eb a b nd h hne hs he hw
  · exact run_rpoplpush_last ctx k dst nd h hd hne
  · exact run_lmove_last ctx k dst a b nd h hd hne ha hb

/-- **SETS.**
1. `SREM k m …` naming every member: reply the cardinality, key gone.
2. `SPOP k` on a one-member set (the recorded random choice is that member): reply the member, key gone.
3. `SMOVE src dst m` when `m` is the only member of the source and the destination is another key (missing or a
   set): reply 1, source key gone.
4. `SDIFFSTORE` / `SINTERSTORE` / `SUNIONSTORE dst k …` with an empty result: reply 0 and NOTHING is stored under `dst`
   afterwards — whatever `dst` held before (any type, any deadline). -/
theorem set_removal_deletes (k : Bytes) (e : Option Int) :
    (∀ s m rest, db.live k = some ⟨.set s, e⟩ → s ≠ [] → (∀ x ∈ s, x ∈ m :: rest) →
      let out := runRegular (sigOf "srem") Cmd.srem ctx none (k :: m :: rest) db
      out.reply = .int (s.length : Nat) ∧ Gone out k) ∧
    (∀ x rest, db.live k = some ⟨.set [x], e⟩ → ctx.picks = [x] :: rest →
      let out := runRegular (sigOf "spop") Cmd.spop ctx none [k] db
      out.reply = .bulk x ∧ Gone out k) ∧
    (∀ m dst sd ed, db.live k = some ⟨.set [m], e⟩ → setView db.live dst = some (sd, ed) → dst ≠ k →
      let out := runRegular (sigOf "smove") Cmd.smove ctx none [k, dst, m] db
      out.reply = .int 1 ∧ Gone out k) ∧
    (∀ name op, (name, op) ∈ [("sdiffstore", Cmd.SetOp.diff), ("sinterstore", .inter), ("sunionstore", .union)] →
      ∀ src srcs, (src :: srcs).all (typeOK db.live (some .set)) = true →
        Cmd.calcSetop op (setAt db.live src) (srcs.map (setAt db.live)) = [] →
        let out := runRegular (sigOf name) (Cmd.setopStore op) ctx none (k :: src :: srcs) db
        out.reply = .int 0 ∧ Gone out k) := by
  refine ⟨fun s m rest h hne hall => ?_, fun x rest h hp => ?_, fun m dst sd ed h hd hne => ?_,
    fun name op hmem src srcs hty hem => ?_⟩
  · exact run_srem_all ctx k m rest nd h hne hall
  · exact run_spop_last ctx k nd h rest hp
  · exact run_smove_last ctx k dst m nd h hd hne
  · obtain ⟨hfix, hrep⟩ := store_sig _ hmem
    exact run_setopStore_empty ctx nd name op hfix hrep k src srcs hty hem

/-- **HASHES.**  `HDEL k f …` naming every field: the reply is the (positive) number of fields removed, key gone. -/
theorem hash_removal_deletes (k : Bytes) (e : Option Int) (h : HashSet.HashV) (f : Bytes) (rest : List Bytes)
    (hl : db.live k = some ⟨.hash h, e⟩) (hne : h ≠ []) (hall : ∀ p ∈ h, p.1 ∈ f :: rest) :
    let out := runRegular (sigOf "hdel") Cmd.hdel ctx none (k :: f :: rest) db
    out.reply = .int ((hdelRec h (f :: rest)).2 : Nat) ∧ 0 < (hdelRec h (f :: rest)).2 ∧ Gone out k := by
  have := run_hdel_all ctx k f rest nd hl hne hall
  exact ⟨this.1, this.2.1, this.2.2⟩

/-- **SORTED SETS.**  `ZREM k m …` naming every member, and `ZREMRANGEBYRANK` / `ZREMRANGEBYSCORE` / `ZREMRANGEBYLEX`
whose range (as the model computes it) covers every member: the reply is the cardinality, key gone. -/
theorem zset_removal_deletes (k : Bytes) (e : Option Int) (z : ZSet) (hl : db.live k = some ⟨.zset z, e⟩)
    (hz : z.bylex ≠ []) :
    (∀ m rest, (∀ p ∈ z.bylex, p.1 ∈ m :: rest) →
      let out := runRegular (sigOf "zrem") Cmd.zrem ctx none (k :: m :: rest) db
      out.reply = .int (z.len : Nat) ∧ Gone out k) ∧
    (∀ sb eb a b, Conv.int sb = .ok a → Conv.int eb = .ok b →
      (∀ p ∈ z.bylex, p.1 ∈ (Py.slice z.byscore (fixRange a b z.len).1 (fixRange a b z.len).2).map Prod.snd) →
      let out := runRegular (sigOf "zremrangebyrank") Cmd.zremrangebyrank ctx none [k, sb, eb] db
      out.reply = .int (z.len : Nat) ∧ Gone out k) ∧
    (∀ mnb mxb mn mx mne mxe, Conv.scoreTest mnb = .ok (mn, mne) → Conv.scoreTest mxb = .ok (mx, mxe) →
      (∀ p ∈ z.bylex, p.1 ∈ ((z.irange mn (Cmd.lowerTail mne) mx (Cmd.upperTail mxe) true true).map Prod.snd)) →
      let out := runRegular (sigOf "zremrangebyscore") Cmd.zremrangebyscore ctx none [k, mnb, mxb] db
      out.reply = .int (z.len : Nat) ∧ Gone out k) ∧
    (∀ mnb mxb mn mx mne mxe, Conv.stringTest mnb = .ok (mn, mne) → Conv.stringTest mxb = .ok (mx, mxe) →
      (∀ p ∈ z.bylex, p.1 ∈ z.irangeLex mn mx (!mne) (!mxe)) →
      let out := runRegular (sigOf "zremrangebylex") Cmd.zremrangebylex ctx none [k, mnb, mxb] db
      out.reply = .int (z.len : Nat) ∧ Gone out k) := by
  refine ⟨fun m rest hall => ?_, fun sb eb a b hs he hall => ?_, fun mnb mxb mn mx mne mxe hs he hall => ?_,
    fun mnb mxb mn mx mne mxe hs he hall => ?_⟩
  · exact run_zrem_all ctx k m rest nd hl hz hall
  · exact run_zremrangebyrank_all ctx k sb eb a b nd hl hz hs he hall
  · exact run_zremrangebyscore_all ctx k mnb mxb mn mx mne mxe nd hl hz hs he hall
  · exact run_zremrangebylex_all ctx k mnb mxb mn mx mne mxe nd hl hz hs he hall

/-- **A no-op write creates nothing.**  In each of the following cases the reply is as stated and the live key space of
the database is literally the same function as before (`out.db.live = db.live`): no key was created, none removed.
1. `SADD k` without a member is refused with the arity error (for whatever `k` holds).
2. On a key `k` that is not live: `LPUSHX` / `RPUSHX k v …` reply 0; `SREM k m …`, `HDEL k f …`, `ZREM k m …`,
   `LREM k count v` reply 0; `SMOVE k dst m` (missing source) replies 0; `SDIFFSTORE` / `SINTERSTORE` / `SUNIONSTORE k src …`
   with an empty result reply 0 — and `k` is still not live.
3. `SMOVE src dst m` with `m` not a member of the source set replies 0. -/
theorem noop_write_creates_nothing (k : Bytes) :
    ((runRegular (sigOf "sadd") Cmd.sadd ctx none [k] db).reply = .err (strBytes (sigOf "sadd").wrongArgs) ∧
      (runRegular (sigOf "sadd") Cmd.sadd ctx none [k] db).db.live = db.live) ∧
    (db.live k = none →
      (∀ (left : Bool) v vs,
        let out := runRegular (sigOf (if left then "lpushx" else "rpushx")) (if left then Cmd.lpushx else Cmd.rpushx)
          ctx none (k :: v :: vs) db
        out.reply = .int 0 ∧ out.db.live = db.live) ∧
      (∀ m rest, let out := runRegular (sigOf "srem") Cmd.srem ctx none (k :: m :: rest) db
        out.reply = .int 0 ∧ out.db.live = db.live) ∧
      (∀ f rest, let out := runRegular (sigOf "hdel") Cmd.hdel ctx none (k :: f :: rest) db
        out.reply = .int 0 ∧ out.db.live = db.live) ∧
      (∀ m rest, let out := runRegular (sigOf "zrem") Cmd.zrem ctx none (k :: m :: rest) db
        out.reply = .int 0 ∧ out.db.live = db.live) ∧
      (∀ cb count v, Conv.int cb = .ok count →
        let out := runRegular (sigOf "lrem") Cmd.lrem ctx none [k, cb, v] db
        out.reply = .int 0 ∧ out.db.live = db.live) ∧
      (∀ dst m, let out := runRegular (sigOf "smove") Cmd.smove ctx none [k, dst, m] db
        out.reply = .int 0 ∧ out.db.live = db.live) ∧
      (∀ name op, (name, op) ∈ [("sdiffstore", Cmd.SetOp.diff), ("sinterstore", .inter), ("sunionstore", .union)] →
        ∀ src srcs, (src :: srcs).all (typeOK db.live (some .set)) = true →
          Cmd.calcSetop op (setAt db.live src) (srcs.map (setAt db.live)) = [] →
          let out := runRegular (sigOf name) (Cmd.setopStore op) ctx none (k :: src :: srcs) db
          out.reply = .int 0 ∧ out.db.live = db.live)) ∧
    (∀ src dst m it ss es sd ed, db.live src = some it → setView db.live src = some (ss, es) →
      setView db.live dst = some (sd, ed) → m ∉ ss →
      let out := runRegular (sigOf "smove") Cmd.smove ctx none [src, dst, m] db
      out.reply = .int 0 ∧ out.db.live = db.live) := by
  refine ⟨?_, fun hm => ⟨fun left v vs => ?_, fun m rest => ?_, fun f rest => ?_, fun m rest => ?_,
    fun cb count v hc => ?_, fun dst m => ?_, fun name op hmem src srcs hty hem => ?_⟩,
    fun src dst m it ss es sd ed hs hvs hvd hnm => ?_⟩
  · have hbad : ¬ ArityOK (sigOf "sadd") ([k] : List Bytes).length := by
      show ¬ ArityOK (sigOf "sadd") 1
      decide
    have := run_bad_arity "sadd" ctx [k] nd hbad
    exact ⟨this.1, this.2.1⟩
  · exact run_pushx_missing left ctx k v vs nd hm
  · have hv : setView db.live k = some ([], none) := by unfold setView; rw [hm]
    have := view_eq ((srem_view ctx k nd hv m rest).trans (if_neg (by simp)))
    exact ⟨this.1, this.2.1⟩
  · have hv : hashView db.live k = some ([], none) := hashView_missing hm
    have hz : (hdelRec [] (f :: rest)).2 = 0 :=
      Nat.eq_zero_of_add_eq_zero_left (hdelRec_length (h := []) List.nodup_nil (f :: rest))
    have := view_eq ((hdel_view ctx k nd hv f rest).trans (if_neg (Nat.not_lt.2 (Nat.le_of_eq hz))))
    exact ⟨this.1, this.2.1⟩
  · exact run_zrem_missing ctx k m rest nd hm
  · exact run_lrem_missing ctx k cb v count nd hm hc
  · have hview := smove_view ctx k dst m nd
    rw [hm] at hview
    exact ⟨(view_eq hview).1, (view_eq hview).2.1⟩
  · obtain ⟨hfix, hrep⟩ := store_sig _ hmem
    have := run_setopStore ctx nd name op hfix hrep k src srcs
    simp only at this
    rw [if_pos hty, hem] at this
    exact ⟨this.1, this.2.1.trans (putAt_empty_missing hm rfl _)⟩
  · have hview := smove_view ctx src dst m nd
    rw [hs, hvs, hvd] at hview
    simp only [if_pos hnm] at hview
    exact ⟨(view_eq hview).1, (view_eq hview).2.1⟩

/-- **FINDING (a deviation from Redis that concerns this property).**  `PFADD k` WITHOUT elements on a key that is not
live replies 0 and creates NO key in the model — and in the code (replayed: `PFADD k` → 0, `EXISTS k` → 0,
`TYPE k` → none).  Real Redis documents the opposite: "if the key does not exist, the data structure is created and 1
is returned"; a HyperLogLog is a string there (`TYPE` → string), here it is a set (`TYPE` → set after `PFADD k a`). -/
theorem pfadd_without_elements_creates_no_key (k : Bytes) (hm : db.live k = none) :
    (runRegular (sigOf "pfadd") Cmd.pfadd ctx none [k] db).reply = .int 0 ∧
    (runRegular (sigOf "pfadd") Cmd.pfadd ctx none [k] db).db.live = db.live := by
  have hv : setView db.live k = some ([], none) := by unfold setView; rw [hm]
  have := run_pfadd ctx k nd hv []
  exact ⟨this.1, this.2.1.trans (putAt_empty_missing hm rfl _)⟩

end families


/-! ## 6. reads create nothing -/

/-- the read requests: the read commands of the regular table (`readNames`: GET, MGET, STRLEN, GETRANGE, …, EXISTS, TTL,
PTTL, TYPE, DUMP, the hash / list / set / sorted-set readers, SRANDMEMBER, the three keyed SCANs, …) and the four views
of the key space KEYS, DBSIZE, SCAN, RANDOMKEY -/
def IsRead (sig : Sig) : Prop :=
  (sig.name ∈ FR.NotifyKeys.readNames ∧ (Cmd.regular sig.name).isSome = true) ∨
    sig = keysSig ∨ sig = dbsizeSig ∨ sig = scanSig ∨ sig = randomkeySig

/-- every name of `readNames` is a regular command, is not a script command and is not EXEC -/
theorem readNames_facts : ∀ n ∈ FR.NotifyKeys.readNames,
    (Cmd.regular n).isSome = true ∧ scriptNames.contains n = false ∧ n ≠ "exec" := by decide +kernel

theorem lazyOnly_same {s s' : Sys} (hinv : s.DataInv) (h : s'.srv.dbs = s.srv.dbs) (t : Int) (i : Nat) :
    LazyOnly t (s.srv.dbs.getD i []) (s'.srv.dbs.getD i []) := by
  rw [h]
  exact lazyOnly_refl (hinv.dbAt i).1 t

/-- an answered request whose new dictionary is a lazy variant of the selected one: so is every database -/
theorem _root_.FR.C09v.Answered.lazy_all {s s' : Sys} {c : Nat} {t t0 : Int} {r : Reply} {D' : Dict}
    (ha : Answered s s' c t r D') (hinv : s.DataInv) (hl : LazyOnly t0 (dictOf s c) D') (i : Nat) :
    LazyOnly t0 (s.srv.dbs.getD i []) (s'.srv.dbs.getD i []) := by
  rw [ha.dbs]
  exact lazyOnly_set (fun D hD => (hinv D hD).1) _ hl i

/-- **Reads create nothing.**  Whatever read request a connection in normal mode sends — with a good or a bad number
of arguments, of a good or a wrong type, whatever its reply — EVERY database of the server is afterwards what it was
before up to the removal of entries that are dead at the clock reading of the request (`LazyOnly`): no key is created
as a side effect, no value and no deadline is changed, in no database. -/
theorem read_creates_nothing (mode : Mode) (c : Nat) (nameB : Bytes) (args : List Bytes) (s : Sys) (sig : Sig)
    (hname : lookupSig nameB = some sig) (hread : IsRead sig) (hinv : s.DataInv) (hn : Normal s c) :
    ∀ i, LazyOnly (reading s) (s.srv.dbs.getD i []) ((processCommand mode c (nameB :: args) s).2.srv.dbs.getD i []) := by
  obtain ⟨nd, ne⟩ := good_dictOf hinv c
  have hne : sig.name ≠ "exec" := by
    rcases hread with ⟨h, _⟩ | rfl | rfl | rfl | rfl
    · exact (readNames_facts _ h).2.2
    all_goals decide
  cases har : sig.checkArity args.length with
  | false =>
    -- a request with a bad number of arguments touches no database
    intro i
    apply lazyOnly_same hinv _ _ i
    rw [processCommand_eq, Sys.processed_known mode c args s hname, Sys.dispatched_arity _ _ _ _ _ _ har hne,
      Sys.emitS_srv, Sys.failTx_eq, Sys.updConn_dbs]
    exact FR.ErrSys.prologue_dbs s
  | true =>
    rcases hread with ⟨hr, hreg⟩ | rfl | rfl | rfl | rfl
    · -- a read command of the regular table
      obtain ⟨body, hb⟩ := Option.isSome_iff_exists.1 hreg
      obtain ⟨_, ha, hl⟩ := read_answered mode c nameB args sig body s hname hb har
        (FR.NotifyKeys.regular_readOnly sig.name hr body hb) nd hn
      exact ha.lazy_all hinv hl
    · -- KEYS
      obtain ⟨p, rfl⟩ := List.length_eq_one_iff.1 (checkArity_fixed rfl har)
      exact (keys_answered mode c nameB p s hname hn.tx hn.pubsub hn.closed).1.lazy_all hinv (lazyOnly_purge nd _)
    · -- DBSIZE
      obtain rfl := List.eq_nil_of_length_eq_zero (checkArity_fixed rfl har)
      exact (dbsize_answered mode c nameB s hname hn.tx hn.pubsub hn.closed).1.lazy_all hinv (lazyOnly_purge nd _)
    · -- SCAN
      obtain ⟨cb, opts, rfl⟩ := List.exists_cons_of_length_pos (checkArity_le har)
      refine (scan_answered mode c nameB cb opts s hname hn.tx hn.pubsub hn.closed).lazy_all hinv ?_
      split
      · exact lazyOnly_purge nd _
      · exact lazyOnly_refl nd _
    · -- RANDOMKEY
      obtain rfl := List.eq_nil_of_length_eq_zero (checkArity_fixed rfl har)
      obtain ⟨_, _, _, ha, _⟩ := randomkey_answered mode c nameB s hname hn.tx hn.pubsub hn.closed
      exact ha.lazy_all hinv (lazyOnly_purge nd _)

/-- … in terms of the live entries: after a read request, at the clock reading of the request and at every later one,
every key of every database has exactly the live entry it had before -/
theorem read_creates_nothing_live (mode : Mode) (c : Nat) (nameB : Bytes) (args : List Bytes) (s : Sys) (sig : Sig)
    (hname : lookupSig nameB = some sig) (hread : IsRead sig) (hinv : s.DataInv) (hn : Normal s c)
    (i : Nat) (k : Bytes) (t' : Int) (ht : reading s ≤ t') :
    Db.live ⟨(processCommand mode c (nameB :: args) s).2.srv.dbs.getD i [], t'⟩ k =
      Db.live ⟨s.srv.dbs.getD i [], t'⟩ k := by
  have h := read_creates_nothing mode c nameB args s sig hname hread hinv hn i
  exact congrFun (h.later ht).2.2 k


/-! ## 7. non-vacuity: the theorems applied to concrete states -/

section examples
open FR.Props.C15s (S str)
open FR.HashSet (sigOf typeOK setView)

/-- a history: connection 1 selects database 1 and stores a string with a deadline, two plain strings, a list of one
element, a set of one member, a hash of one field, a sorted set of one member (clock readings 100, 200, …) -/
def hist : List Ev := [
  .open 1,
  .request {} 1 [S "SELECT", S "1"] [100] [],
  .request {} 1 [S "SET", S "ka", S "1", S "PX", S "5"] [200] [],
  .request {} 1 [S "SET", S "kd", S "4"] [300] [],
  .request {} 1 [S "SET", S "kb", S ""] [400] [],
  .request {} 1 [S "RPUSH", S "l", S "a"] [500] [],
  .request {} 1 [S "SADD", S "s", S "m"] [600] [],
  .request {} 1 [S "HSET", S "h", S "f", S "v"] [700] [],
  .request {} 1 [S "ZADD", S "z", S "1", S "m"] [800] []]

/-- the state after the history -/
def sx : Sys := runHistory hist

/-- the hypotheses of the view theorems hold in `sx` for connection 1: the invariant (by the history theorem of C09b),
normal mode, database 1 selected; `ka` carries the deadline 200 + 5 ms = 50200 ticks -/
theorem sx_ok : sx.DataInv ∧ Normal sx 1 ∧ (sx.conn 1).db = 1 ∧ sx.fault = none ∧
    (dictOf sx 1).map Prod.fst = [S "ka", S "kd", S "kb", S "l", S "s", S "h", S "z"] ∧
    ((dictOf sx 1).lookup (S "ka")).map (·.expireat) = some (some 50200) :=
  ⟨FR.Props.C09.no_empty_collections_all_histories hist, by decide +kernel⟩

theorem look : lookupSig (S "KEYS") = some keysSig ∧ lookupSig (S "dbsize") = some dbsizeSig ∧
    lookupSig (S "Exists") = some sigExists ∧ lookupSig (S "TYPE") = some sigType ∧
    lookupSig (S "SCAN") = some scanSig ∧ lookupSig (S "RANDOMKEY") = some randomkeySig := by
  decide +kernel

/-- at clock 60000 the key `ka` is dead (deadline 50200), the six others are live; at clock 50200 it is still live -/
theorem sx_live : liveKeys 60000 (dictOf sx 1) = [S "kd", S "kb", S "l", S "s", S "h", S "z"] ∧
    liveKeys 50200 (dictOf sx 1) = [S "ka", S "kd", S "kb", S "l", S "s", S "h", S "z"] := by decide +kernel

example : liveKeys 60000 (dictOf sx 1) = [S "kd", S "kb", S "l", S "s", S "h", S "z"] ∧
    liveKeys 50200 (dictOf sx 1) = [S "ka", S "kd", S "kb", S "l", S "s", S "h", S "z"] := sx_live

/-- `sx` about to take the clock reading 60000 -/
def s0 : Sys := sx.withHints [60000] []

/-- a reply as a list of byte strings (for decidable comparison): `:n` for integers, `+s` for status replies -/
def toks : Reply → List Bytes
  | .bulk b => [b]
  | .int n => [58 :: intBytes n]
  | .status b => [43 :: b]
  | .nil => [S "(nil)"]
  | .arr xs => xs.map fun r => match r with | .bulk b => b | _ => S "?"
  | _ => [S "?"]

/-- the newest reply queued for connection `c` -/
def lastOut (s : Sys) (c : Nat) : Option (List Bytes) :=
  s.out.head?.bind fun p => if p.1 = c then some (toks p.2) else none

/-- `dbsize_spec`, `keys_star_spec`, `keys_pattern_spec`, `exists_iff_live`, `type_spec` applied to `sx` with the clock
reading 60000: the replies the model really computes -/
example :
    lastOut (processCommand {} 1 [S "dbsize"] s0).2 1 = some [S ":6"] ∧
    lastOut (processCommand {} 1 [S "KEYS", S "*"] s0).2 1 = some [S "kd", S "kb", S "l", S "s", S "h", S "z"] ∧
    lastOut (processCommand {} 1 [S "KEYS", S "k?"] s0).2 1 = some [S "kd", S "kb"] ∧
    lastOut (processCommand {} 1 [S "Exists", S "ka"] s0).2 1 = some [S ":0"] ∧
    lastOut (processCommand {} 1 [S "Exists", S "kb"] s0).2 1 = some [S ":1"] ∧
    lastOut (processCommand {} 1 [S "TYPE", S "ka"] s0).2 1 = some [S "+none"] ∧
    lastOut (processCommand {} 1 [S "TYPE", S "kb"] s0).2 1 = some [S "+string"] ∧
    lastOut (processCommand {} 1 [S "TYPE", S "z"] s0).2 1 = some [S "+zset"] ∧
    ((processCommand {} 1 [S "KEYS", S "*"] s0).2.srv.dbs.getD 1 []).map Prod.fst =
      [S "kd", S "kb", S "l", S "s", S "h", S "z"] := by decide +kernel

/-- hints do not change the mode of a connection, the invariant or the dictionaries -/
theorem withHints_ok {s : Sys} {c : Nat} (cl : List Int) (pk : List (List Bytes)) :
    (Normal s c → Normal (s.withHints cl pk) c) ∧ (s.DataInv → (s.withHints cl pk).DataInv) ∧
    dictOf (s.withHints cl pk) c = dictOf s c ∧ (s.withHints cl pk).out = s.out :=
  ⟨fun h => ⟨h.tx, h.pubsub, h.closed⟩, fun h => h, rfl, rfl⟩

/-- the same through the theorem (any clock reading `t`) -/
example (t : Int) (rest : List Int) :
    (processCommand {} 1 [S "dbsize"] (sx.withHints (t :: rest) [])).2.out =
      (1, .int (liveKeys t (dictOf sx 1)).length) :: sx.out := by
  have h := (dbsize_spec {} 1 (S "dbsize") (sx.withHints (t :: rest) []) look.2.1 ((withHints_ok _ _).1 sx_ok.2.1)).out
  -- through `withHints_ok`: comparing `(sx.withHints _ _).out` with `sx.out` directly would evaluate the history behind `sx`
  rw [(withHints_ok (c := 1) (t :: rest) []).2.2.1, (withHints_ok (c := 1) (t :: rest) []).2.2.2] at h
  exact h

/-- the hints of a SCAN loop whose requests all take the clock reading 60000 -/
def hs2 : List Hint := [⟨60000, [], []⟩, ⟨60000, [], []⟩]

theorem hs2_clock : ∀ h ∈ hs2, h.time = 60000 := by
  intro h hh
  simp only [hs2, List.mem_cons, List.not_mem_nil, or_false] at hh
  rcases hh with rfl | rfl <;> rfl

/-- the six live keys are within the bounds of the SCAN theorems, and two requests complete the loop -/
theorem sx_scan : (liveKeys 60000 (dictOf sx 1)).length ≤ 2 ^ 63 ∧
    scanCalls (liveKeys 60000 (dictOf sx 1)).length ({} : ScanOpts).count.toNat ≤ hs2.length := by
  rw [sx_live.1]; decide +kernel

/-- `views_agree` applied to `sx` at the clock reading 60000 (`ka` is dead, six keys are live): e.g. the complete SCAN
returned as many keys as DBSIZE says, `EXISTS ka` replies 0, and after `TYPE kb` the live keys are the same -/
example :
    (iter {} 1 (scanReq (S "SCAN") []) hs2 0 sx).pages.flatten.length = (liveKeys 60000 (dictOf sx 1)).length ∧
    (stepEv sx (request {} 1 [S "dbsize"] ⟨60000, [], []⟩)).out = [(1, .int (liveKeys 60000 (dictOf sx 1)).length)] ∧
    (stepEv sx (request {} 1 [S "Exists", S "ka"] ⟨60000, [], []⟩)).out =
      [(1, .int (if S "ka" ∈ liveKeys 60000 (dictOf sx 1) then 1 else 0))] ∧
    liveKeys 60000 (dictOf (stepEv sx (request {} 1 [S "TYPE", S "kb"] ⟨60000, [], []⟩)) 1) =
      liveKeys 60000 (dictOf sx 1) := by
  have h := views_agree {} 1 (S "KEYS") (S "dbsize") (S "Exists") (S "TYPE") (S "SCAN") [] {} sx 60000 hs2
    look.1 look.2.1 look.2.2.1 look.2.2.2.1 look.2.2.2.2.1 rfl rfl rfl sx_ok.1 sx_ok.2.1 hs2_clock
    sx_scan.1 sx_scan.2
  -- the theorem's `let sE := fun k => …` leaves `(fun k => …) (S "ka")` under `.out`: said to be the request by a `rfl` of
  -- its own it costs nothing; compared under the projection, the kernel runs the request on `sx` to a constructor
  have e : (fun k => stepEv sx (request {} 1 [S "Exists", k] ⟨60000, [], []⟩)) (S "ka") =
      stepEv sx (request {} 1 [S "Exists", S "ka"] ⟨60000, [], []⟩) := rfl
  have hp := (h.2.2.2.2.2.2.2 (stepEv sx (request {} 1 [S "TYPE", S "kb"] ⟨60000, [], []⟩))
    (Or.inr (Or.inr (Or.inr ⟨S "kb", Or.inr rfl⟩)))).1
  exact ⟨h.2.2.2.2.2.1, h.2.2.1, e ▸ (h.2.2.2.2.2.2.1 (S "ka")).1, (hp.later (Int.le_refl _)).2.1⟩

/-- `views_agree_in_sequence` applied to `sx`: KEYS *, DBSIZE, EXISTS s, TYPE s, then the SCAN loop, one after the other -/
example :
    (stepEv (stepEv sx (request {} 1 [S "KEYS", [42]] ⟨60000, [], []⟩)) (request {} 1 [S "dbsize"] ⟨60000, [], []⟩)).out =
      [(1, .int (liveKeys 60000 (dictOf sx 1)).length)] :=
  (views_agree_in_sequence {} 1 (S "KEYS") (S "dbsize") (S "Exists") (S "TYPE") (S "SCAN") (S "s") [] {} sx 60000 hs2
    look.1 look.2.1 look.2.2.1 look.2.2.2.1 look.2.2.2.2.1 rfl rfl rfl sx_ok.1 sx_ok.2.1 hs2_clock
    sx_scan.1 sx_scan.2).2.1

/-- … and the loop really runs: one page with the six live keys in byte order, the dead key is purged -/
example :
    (iter {} 1 (scanReq (S "SCAN") []) hs2 0 sx).finished = true ∧
    (iter {} 1 (scanReq (S "SCAN") []) hs2 0 sx).pages.map (·.map FR.Props.C15s.bulkOf) =
      [[some (S "h"), some (S "kb"), some (S "kd"), some (S "l"), some (S "s"), some (S "z")]] ∧
    ((iter {} 1 (scanReq (S "SCAN") []) hs2 0 sx).final.srv.dbs.getD 1 []).map Prod.fst =
      [S "kd", S "kb", S "l", S "s", S "h", S "z"] := by decide +kernel

/-- `randomkey_spec`: with the recorded choice `kb` the reply is `kb`; with an empty database it is nil -/
example :
    lastOut (processCommand {} 1 [S "RANDOMKEY"] (sx.withHints [60000] [[S "kb"]])).2 1 = some [S "kb"] ∧
    (processCommand {} 1 [S "RANDOMKEY"] (sx.withHints [60000] [[S "kb"]])).2.fault = none ∧
    (processCommand {} 1 [S "RANDOMKEY"] (sx.withHints [60000] [[S "kb"]])).2.picks = [] ∧
    lastOut (processCommand {} 1 [S "RANDOMKEY"] ((stepEv sx (.request {} 1 [S "SELECT", S "2"] [1] [])).withHints
      [60000] [[S "kb"]])).2 1 = some [S "(nil)"] := by decide +kernel

example (pk : List (List Bytes)) :
    ∃ r, (processCommand {} 1 [S "RANDOMKEY"] (sx.withHints [60000] pk)).2.out = (1, r) :: sx.out ∧ r ≠ .nil := by
  have h := randomkey_spec {} 1 (S "RANDOMKEY") (sx.withHints [60000] pk) look.2.2.2.2.2
    ((withHints_ok _ _).1 sx_ok.2.1)
  simp only at h
  obtain ⟨r, ha, hnil, _⟩ := h
  rw [(withHints_ok (c := 1) [60000] pk).2.2.1] at hnil
  refine ⟨r, ha.out.trans (congrArg ((1, r) :: ·) (withHints_ok (c := 1) [60000] pk).2.2.2), fun e => ?_⟩
  have := hnil.1 e
  have hne : liveKeys 60000 (dictOf sx 1) ≠ [] := by rw [sx_live.1]; nofun
  exact hne this

/-! ### removing the last element -/

/-- a database (clock 10): a one-element list, a list `a a`, a one-member set, a set `m n`, a one-field hash, a sorted
set with the members `a` (score 1) and `b` (score 2), a string, a sorted set with one member -/
def dbx : Db :=
  ⟨[(S "l", ⟨.list [S "a"], none⟩), (S "l2", ⟨.list [S "a", S "a"], some 99⟩), (S "s", ⟨.set [S "m"], none⟩),
    (S "s2", ⟨.set [S "m", S "n"], none⟩), (S "h", ⟨.hash [(S "f", S "v")], none⟩),
    (S "z", ⟨.zset ((ZSet.empty.add (S "a") Dbl.one).1.add (S "b") (Dbl.ofInt 2)).1, none⟩),
    (S "str", ⟨.str (S "x"), none⟩), (S "z1", ⟨.zset (ZSet.empty.add (S "a") Dbl.one).1, none⟩)], 10⟩
def ctxx : Ctx := { version := 7, time := 10, picks := [[S "m"]] }

theorem dbx_ok : NodupKeys dbx.dict ∧ NoEmpty dbx.dict := by
  unfold NoEmpty
  decide +kernel

/-- the hypotheses of the family theorems hold of `dbx` -/
example : dbx.live (S "l") = some ⟨.list [S "a"], none⟩ ∧ dbx.live (S "s") = some ⟨.set [S "m"], none⟩ ∧
    dbx.live (S "h") = some ⟨.hash [(S "f", S "v")], none⟩ ∧ dbx.live (S "nokey") = none ∧
    typeOK dbx.live (some .list) (S "nokey") = true ∧ setView dbx.live (S "nokey") = some ([], none) ∧
    Conv.int (S "5") = .ok 5 ∧ Conv.int (S "-1") = .ok (-1) ∧ Conv.int (S "0") = .ok 0 ∧
    FR.Spec.lrangeSpec [S "a", S "a"] 5 (-1) = [] ∧
    (if (0 : Int) = 0 then [S "a", S "a"].count (S "a") else min (0 : Int).natAbs ([S "a", S "a"].count (S "a"))) = 2 :=
  ⟨by with_unfolding_all rfl, by with_unfolding_all rfl, by with_unfolding_all rfl, by with_unfolding_all rfl,
    by with_unfolding_all rfl, by with_unfolding_all rfl, by with_unfolding_all rfl, by with_unfolding_all rfl,
    by with_unfolding_all rfl, by decide +kernel, by decide +kernel⟩

/-- the keys of the dictionary after running the registered command `name` on `dbx` -/
def keysAfter (name : String) (raw : List Bytes) : List Bytes :=
  ((FR.HashSet.run name ctxx raw dbx).db.dict.map Prod.fst)

/-- every removing command really drops the key it empties (and only that key); a removal that leaves an element keeps
the key -/
example :
    keysAfter "lpop" [S "l"] = [S "l2", S "s", S "s2", S "h", S "z", S "str", S "z1"] ∧
    keysAfter "rpop" [S "l2", S "5"] = [S "l", S "s", S "s2", S "h", S "z", S "str", S "z1"] ∧
    keysAfter "rpop" [S "l2"] = [S "l", S "l2", S "s", S "s2", S "h", S "z", S "str", S "z1"] ∧
    keysAfter "lrem" [S "l2", S "0", S "a"] = [S "l", S "s", S "s2", S "h", S "z", S "str", S "z1"] ∧
    keysAfter "ltrim" [S "l2", S "5", S "-1"] = [S "l", S "s", S "s2", S "h", S "z", S "str", S "z1"] ∧
    keysAfter "rpoplpush" [S "l", S "new"] = [S "l2", S "s", S "s2", S "h", S "z", S "str", S "z1", S "new"] ∧
    keysAfter "lmove" [S "l", S "l2", S "LEFT", S "right"] = [S "l2", S "s", S "s2", S "h", S "z", S "str", S "z1"] ∧
    keysAfter "srem" [S "s2", S "n", S "m", S "q"] = [S "l", S "l2", S "s", S "h", S "z", S "str", S "z1"] ∧
    keysAfter "spop" [S "s"] = [S "l", S "l2", S "s2", S "h", S "z", S "str", S "z1"] ∧
    keysAfter "smove" [S "s", S "s2", S "m"] = [S "l", S "l2", S "s2", S "h", S "z", S "str", S "z1"] ∧
    keysAfter "sinterstore" [S "str", S "s", S "nokey"] = [S "l", S "l2", S "s", S "s2", S "h", S "z", S "z1"] ∧
    keysAfter "sdiffstore" [S "l", S "s", S "s2"] = [S "l2", S "s", S "s2", S "h", S "z", S "str", S "z1"] ∧
    keysAfter "hdel" [S "h", S "f", S "g"] = [S "l", S "l2", S "s", S "s2", S "z", S "str", S "z1"] ∧
    keysAfter "zrem" [S "z", S "b", S "a"] = [S "l", S "l2", S "s", S "s2", S "h", S "str", S "z1"] ∧
    keysAfter "zrem" [S "z", S "b"] = [S "l", S "l2", S "s", S "s2", S "h", S "z", S "str", S "z1"] ∧
    keysAfter "zremrangebyrank" [S "z", S "0", S "-1"] = [S "l", S "l2", S "s", S "s2", S "h", S "str", S "z1"] ∧
    keysAfter "zremrangebyscore" [S "z", S "-inf", S "+inf"] = [S "l", S "l2", S "s", S "s2", S "h", S "str", S "z1"] ∧
    keysAfter "zremrangebylex" [S "z1", S "-", S "+"] = [S "l", S "l2", S "s", S "s2", S "h", S "z", S "str"] := by
  decide +kernel

/-- the generic theorem applied to `LPOP l` on `dbx`: its three hypotheses hold, hence EXISTS / TYPE answer 0 / none -/
example :
    (runRegular sigExists Cmd.exists_ ctxx none [S "l"]
      ⟨(runRegular (sigOf "lpop") Cmd.lpop ctxx none [S "l"] dbx).db.dict, 12345⟩).reply = .int 0 ∧
    (runRegular sigType Cmd.type_ ctxx none [S "l"]
      ⟨(runRegular (sigOf "lpop") Cmd.lpop ctxx none [S "l"] dbx).db.dict, 12345⟩).reply = .status (strBytes "none") := by
  have h := last_element_removal_deletes (sigOf "lpop") Cmd.lpop ctxx [S "l"] dbx dbx_ok.1 dbx_ok.2
    (args := [.key 0]) (cis := [⟨S "l", some (.list [S "a"]), none, false, false⟩])
    (o := { reply := .bulk (S "a"), cis := [⟨S "l", some (.list []), none, true, false⟩] })
    (by with_unfolding_all rfl) (by with_unfolding_all rfl) (k := S "l")
    ⟨[], _, [], rfl, rfl, rfl, by with_unfolding_all rfl, fun _ h => by cases h⟩
  exact ⟨(h.2.2.2.2 ctxx 12345).1, (h.2.2.2.2 ctxx 12345).2.1⟩

/-- the family theorem for lists applied to `dbx` -/
example : Gone (runRegular (sigOf (FR.C09v.popName true)) (Cmd.listPop true) ctxx none [S "l"] dbx) (S "l") :=
  ((list_removal_deletes ctxx dbx_ok.1 (S "l") none).1 true (S "a") (by with_unfolding_all rfl)).2

/-- the family theorems for sets, hashes and sorted sets applied to `dbx` -/
example :
    Gone (runRegular (sigOf "srem") Cmd.srem ctxx none [S "s", S "m", S "q"] dbx) (S "s") ∧
    Gone (runRegular (sigOf "sinterstore") (Cmd.setopStore .inter) ctxx none [S "str", S "s", S "nokey"] dbx) (S "str") ∧
    Gone (runRegular (sigOf "hdel") Cmd.hdel ctxx none [S "h", S "f", S "g"] dbx) (S "h") ∧
    Gone (runRegular (sigOf "zrem") Cmd.zrem ctxx none [S "z1", S "a"] dbx) (S "z1") := by
  refine ⟨?_, ?_, ?_, ?_⟩
  · exact ((set_removal_deletes ctxx dbx_ok.1 (S "s") none).1 [S "m"] (S "m") [S "q"] (by with_unfolding_all rfl)
      (by simp) (by intro x hx; simp only [List.mem_singleton] at hx; subst hx; simp)).2
  · exact ((set_removal_deletes ctxx dbx_ok.1 (S "str") none).2.2.2 "sinterstore" .inter (by simp) (S "s") [S "nokey"]
      (by with_unfolding_all rfl) (by with_unfolding_all rfl)).2
  · exact (hash_removal_deletes ctxx dbx_ok.1 (S "h") none [(S "f", S "v")] (S "f") [S "g"] (by with_unfolding_all rfl)
      (by simp) (by intro p hp; simp only [List.mem_singleton] at hp; subst hp; simp)).2.2
  · exact ((zset_removal_deletes ctxx dbx_ok.1 (S "z1") none (ZSet.empty.add (S "a") Dbl.one).1
      (by with_unfolding_all rfl) (by with_unfolding_all (intro h; cases h))).1 (S "a") []
      (by
        have e : (ZSet.empty.add (S "a") Dbl.one).1.bylex = [(S "a", Dbl.one)] := by with_unfolding_all rfl
        intro p hp
        rw [e] at hp
        simp only [List.mem_singleton] at hp
        subst hp
        simp)).2

/-- the hypothesis `t ≤ t'` of `LazyOnly.later` cannot be dropped: a purge made at clock 100 is visible to a request
that takes an EARLIER clock reading (the key with deadline 50 is live at 10 in the stored dictionary, but no longer
after a `KEYS` at 100).  Clock readings that go backwards are outside the property (and outside `time.time()`). -/
example :
    let D : Dict := [(S "k", ⟨.str (S "v"), some 50⟩)]
    LazyOnly 100 D (purgeAt 100 D) ∧ liveKeys 10 D = [S "k"] ∧ liveKeys 10 (purgeAt 100 D) = [] := by
  intro D
  exact ⟨lazyOnly_purge (by decide +kernel) 100, by decide +kernel, by decide +kernel⟩

/-- through the server: in `sx` (clock 60000) connection 1 sends `LPOP l` — the list had one element — and then asks -/
def s1 : Sys := (processCommand {} 1 [S "LPOP", S "l"] s0).2

example :
    lastOut s1 1 = some [S "a"] ∧
    (dictOf s1 1).map Prod.fst = [S "ka", S "kd", S "kb", S "s", S "h", S "z"] ∧
    lastOut (processCommand {} 1 [S "Exists", S "l"] (s1.withHints [60001] [])).2 1 = some [S ":0"] ∧
    lastOut (processCommand {} 1 [S "TYPE", S "l"] (s1.withHints [60001] [])).2 1 = some [S "+none"] ∧
    lastOut (processCommand {} 1 [S "dbsize"] (s1.withHints [60001] [])).2 1 = some [S ":5"] ∧
    lastOut (processCommand {} 1 [S "KEYS", S "*"] (s1.withHints [60001] [])).2 1 =
      some [S "kd", S "kb", S "s", S "h", S "z"] := by decide +kernel

/-- what the request sees in `s0`: the seven entries, at clock 60000 -/
theorem s0_view : (viewAt s0 1).dict = [(S "ka", ⟨.str (S "1"), some 50200⟩), (S "kd", ⟨.str (S "4"), none⟩),
    (S "kb", ⟨.str (S ""), none⟩), (S "l", ⟨.list [S "a"], none⟩), (S "s", ⟨.set [S "m"], none⟩),
    (S "h", ⟨.hash [(S "f", S "v")], none⟩), (S "z", ⟨.zset (ZSet.empty.add (S "m") Dbl.one).1, none⟩)] ∧
    (viewAt s0 1).time = 60000 := by decide +kernel

/-- `last_element_removal_deletes_sys` applies to that request … -/
theorem s1_absent : Absent (dictOf s1 1) (S "l") ∧ s1.DataInv ∧ Normal s1 1 := by
  have hl : lookupSig (S "LPOP") = some (sigOf "lpop") ∧ (sigOf "lpop").checkArity [S "l"].length = true ∧
      scriptNames.contains (sigOf "lpop").name = false := by decide +kernel
  have h := last_element_removal_deletes_sys {} 1 (S "LPOP") [S "l"] (sigOf "lpop") Cmd.lpop s0 hl.1 rfl
    hl.2.1 hl.2.2 ((withHints_ok (c := 1) _ _).2.1 sx_ok.1) ((withHints_ok _ _).1 sx_ok.2.1)
    (args := [.key 0]) (cis := [⟨S "l", some (.list [S "a"]), none, false, false⟩])
    (o := { reply := .bulk (S "a"), cis := [⟨S "l", some (.list []), none, true, false⟩] })
    (by
      -- with the view a literal, the argument conversion is cheap to evaluate
      rw [show viewAt s0 1 = ⟨_, _⟩ from congr (congrArg Db.mk s0_view.1) s0_view.2]
      with_unfolding_all rfl)
    (by with_unfolding_all rfl) (k := S "l")
    ⟨[], _, [], rfl, rfl, rfl, by with_unfolding_all rfl, fun _ h => by cases h⟩
  -- by its equation: left to unfold `s1`, a state defined as a projection, the kernel computes the request
  rw [s1]
  exact ⟨h.1, h.2.1, h.2.2.1⟩

/-- … hence `absent_key_invisible`: EXISTS 0, TYPE none, whatever the clock reading `t` of the later request -/
example (t : Int) :
    (processCommand {} 1 [S "Exists", S "l"] (s1.withHints [t] [])).2.out = (1, .int 0) :: s1.out := by
  have h := (absent_key_invisible {} 1 (S "Exists") (S "TYPE") (S "KEYS") (S "l") (s1.withHints [t] []) look.2.2.1
    look.2.2.2.1 look.1 ((withHints_ok (c := 1) _ _).2.1 s1_absent.2.1) ((withHints_ok _ _).1 s1_absent.2.2)
    (by rw [(withHints_ok (c := 1) [t] []).2.2.1]; exact s1_absent.1)).1
  rw [(withHints_ok (c := 1) [t] []).2.2.2] at h
  exact h

/-! ### no-op writes, reads -/

/-- the no-op writes of `noop_write_creates_nothing` on `dbx`: the set of stored keys is what it was -/
example :
    (∀ p ∈ [("lpushx", [S "nokey", S "v"]), ("rpushx", [S "nokey", S "v"]), ("srem", [S "nokey", S "m"]),
        ("hdel", [S "nokey", S "f"]), ("zrem", [S "nokey", S "m"]), ("lrem", [S "nokey", S "0", S "a"]),
        ("smove", [S "nokey", S "s", S "m"]), ("smove", [S "s", S "s2", S "zz"]),
        ("sinterstore", [S "nokey", S "s", S "nokey2"]), ("sadd", [S "nokey"]), ("sadd", [S "s"])],
      keysAfter p.1 p.2 = [S "l", S "l2", S "s", S "s2", S "h", S "z", S "str", S "z1"]) := by decide +kernel

/-- `noop_write_creates_nothing` applied to `dbx` -/
example : (runRegular (sigOf "zrem") Cmd.zrem ctxx none [S "nokey", S "m"] dbx).db.live = dbx.live :=
  ((noop_write_creates_nothing ctxx dbx_ok.1 (S "nokey")).2.1 (by with_unfolding_all rfl)).2.2.2.1 (S "m") [] |>.2

/-- the read requests of `read_creates_nothing`: some members of the class -/
example : IsRead (sigOf "get") ∧ IsRead (sigOf "hgetall") ∧ IsRead (sigOf "zrangebyscore") ∧ IsRead (sigOf "ttl") ∧
    IsRead (sigOf "srandmember") ∧ IsRead keysSig ∧ IsRead scanSig ∧ lookupSig (S "get") = some (sigOf "get") := by
  have h : (∀ n ∈ ["get", "hgetall", "zrangebyscore", "ttl", "srandmember"],
        (sigOf n).name ∈ FR.NotifyKeys.readNames ∧ (Cmd.regular (sigOf n).name).isSome = true) ∧
      lookupSig (S "get") = some (sigOf "get") := by decide +kernel
  exact ⟨Or.inl (h.1 _ (by simp)), Or.inl (h.1 _ (by simp)), Or.inl (h.1 _ (by simp)), Or.inl (h.1 _ (by simp)),
    Or.inl (h.1 _ (by simp)), Or.inr (Or.inl rfl), Or.inr (Or.inr (Or.inr (Or.inl rfl))), h.2⟩

/-- a read of a dead key (`GET ka` at clock 60000) removes the dead entry and nothing else; a read of a missing key
(`LLEN nokey`, `SMEMBERS nokey`, `TYPE nokey`, a bad `GET`) leaves the dictionary untouched -/
example :
    ((processCommand {} 1 [S "get", S "ka"] s0).2.srv.dbs.getD 1 []).map Prod.fst =
      [S "kd", S "kb", S "l", S "s", S "h", S "z"] ∧
    (∀ req ∈ [[S "llen", S "nokey"], [S "smembers", S "nokey"], [S "TYPE", S "nokey"], [S "get"], [S "get", S "l"],
        [S "hgetall", S "nokey"], [S "zrange", S "nokey", S "0", S "-1"], [S "srandmember", S "nokey"]],
      ((processCommand {} 1 req s0).2.srv.dbs.getD 1 []).map Prod.fst =
        [S "ka", S "kd", S "kb", S "l", S "s", S "h", S "z"]) := by decide +kernel

/-- `read_creates_nothing` applied to `sx` -/
example (args : List Bytes) (t : Int) (k : Bytes) :
    Db.live ⟨(processCommand {} 1 (S "get" :: args) (sx.withHints [t] [])).2.srv.dbs.getD 1 [], t⟩ k =
      Db.live ⟨sx.srv.dbs.getD 1 [], t⟩ k :=
  have h : lookupSig (S "get") = some (sigOf "get") ∧ (sigOf "get").name ∈ FR.NotifyKeys.readNames ∧
      (Cmd.regular (sigOf "get").name).isSome = true := by decide +kernel
  have e : ∀ s : Sys, (s.withHints [t] []).srv = s.srv := fun _ => rfl
  e sx ▸ read_creates_nothing_live {} 1 (S "get") args (sx.withHints [t] []) (sigOf "get") h.1
    (Or.inl h.2) ((withHints_ok (c := 1) _ _).2.1 sx_ok.1) ((withHints_ok _ _).1 sx_ok.2.1) 1 k t
    (Int.le_refl _)

/-- the finding `pfadd_without_elements_creates_no_key` on `dbx`; `TYPE` of a HyperLogLog key is `set` -/
example :
    keysAfter "pfadd" [S "nokey"] = [S "l", S "l2", S "s", S "s2", S "h", S "z", S "str", S "z1"] ∧
    toks (FR.HashSet.run "pfadd" ctxx [S "nokey"] dbx).reply = [S ":0"] ∧
    toks (FR.HashSet.run "type" ctxx [S "hll"] (FR.HashSet.run "pfadd" ctxx [S "hll", S "a"] dbx).db).reply =
      [S "+set"] := by decide +kernel

end examples

end FR.Props.C09v

import FR.Proofs.SortSpec
/-!
# C02s — SORT: functional specification of the model's `sortCmd`

Anchor: `fakeredis/_fakesocket.py: FakeSocket.sort` and `FakeSocket._lookup_key`.

Only final property theorems, results (witnesses) and non-vacuity examples; helper lemmas live in
`FR/Proofs/SortSpec.lean`.  §0 the body is a pure description, the option grammar, the source order; §1 numeric sort;
§2 ALPHA; §3 LIMIT; §4 BY; §5 GET; §6 STORE and the state through `runWith`; §7 wrong type, missing source, syntax
error; then the results on `BY nosort` / several BYs and the non-vacuity witnesses.

Vocabulary (all defined in `FR/Proofs/SortSpec.lean`, namespace `FR.SortSpec`):
* `wrongTy val` – the source holds a string or a hash;
* `takeItems val s` – `list(key.value)`: the elements in iteration order (a set takes its iteration order from the next
  recorded hint, accepted iff `validHint`), and the state after the hint has been consumed;
* `Opt`, `Opt.apply`, `SpelledAll` – the option grammar; `parseSortOpts toks {} = .ok o` gives the option record `o`;
* `patKey pattern e`, `pick`, `lookupLive live e pattern` – `_lookup_key` on the live view;
* `numKey`, `numKeyed`, `numLe` – the numeric keys `(score, element)` and their comparison; `alphaKeyed`, `alphaKeyLe` –
  the ALPHA keys (weights) and their comparison;
* `stableSort le l` (model) – stable insertion sort; `descSort le l = (stableSort le l.reverse).reverse` – what the model
  computes for DESC (Python's `sort(reverse=True)`); `SortedBy le desc ks L` – "`L` is `ks` sorted stably";
* `sortedLive live val o items` – the sequence after the sorting phase; `rowsOf o sorted n` – after LIMIT;
  `outLive live o rows` – after GET; `specLive` – all three (error or the list that is replied / stored);
* `storeCI dst vals`, `Sys.wbStep`, `notifyFn` – the write-back of STORE;
* `ssig` – the signature `(Key(),), (bytes,)`; `srcVal db key` – the live value of the source key.
-/
namespace FR.Props.C02s
open FR FR.SortSpec

/-! ## 0. The monadic body is the pure description; the options -/

/-- `sortCmd` (a hint read, an option parser, three loops with look-ups in the state monad, a write-back) equals
`core`: a pure function of the state. -/
theorem body_eq_core (c d k : Nat) (rest : List Arg) (cis : List CI) (s : Sys) (hd : d < s.srv.dbs.length) :
    sortCmd c d (.key k :: rest) cis s = core d k rest cis s :=
  sortCmd_eq c d k rest cis s hd

/-- The body in terms of the live view of database `d`: when the source is not wrong-typed, the options parse to `o`
and the elements are `items`, the outcome is `specLive` (sorting, then LIMIT, then GET):
an error leaves the database as it was up to lazy deletions (`Reads`); without STORE the reply is the list and again
only lazy deletions happen; with STORE the reply is the length and the list is written back (`wbStep`, see §6). -/
theorem body_on_live_view (c d k : Nat) (rest : List Arg) (cis : List CI) (s : Sys) (hd : d < s.srv.dbs.length)
    (nd : NodupKeys (s.dbAt d).dict)
    (hw : wrongTy (ciAt cis k).val = false) (o : SortOpts) (hp : parseSortOpts (Cmd.rawArgs rest) {} = .ok o)
    (items : List Bytes) (hi : (takeItems (ciAt cis k).val s).1 = some items) :
    ∃ db', Reads (s.dbAt d) db' ∧
      sortCmd c d (.key k :: rest) cis s =
        (match specLive (s.dbAt d).live (ciAt cis k).val o items with
         | .error e => (.error e, (takeItems (ciAt cis k).val s).2.setDbS d db')
         | .ok out =>
           match o.store with
           | none => (.ok (.arr (out.map Reply.ofOptBulk), cis), (takeItems (ciAt cis k).val s).2.setDbS d db')
           | some dst =>
             (.ok (.int (out.map fun x => x.getD []).length, cis),
              ((takeItems (ciAt cis k).val s).2.setDbS d db').wbStep d (storeCI dst (out.map fun x => x.getD [])))) :=
  sortCmd_run c d k rest cis s hd nd hw o hp items hi

/-- the three phases, in this order: sorting, then LIMIT (on the sorted sequence, with `n` = number of elements),
then GET expansion of the selected rows -/
theorem phases (live : Bytes → Option Item) (val : Option Value) (o : SortOpts) (items : List Bytes) :
    specLive live val o items =
      (match sortedLive live val o items with
       | .error e => .error e
       | .ok sorted => .ok (outLive live o (rowsOf o sorted items.length))) := rfl

/-- A token list is accepted iff it is a sequence of options
`ASC | DESC | ALPHA | LIMIT off cnt | STORE dst | BY pat | GET pat` (keywords in any letter case, `off`/`cnt` canonical
64-bit integers); the record is obtained by applying them from left to right. -/
theorem options_grammar (toks : List Bytes) (o o' : SortOpts) :
    parseSortOpts toks o = .ok o' ↔ ∃ opts, SpelledAll opts toks ∧ o' = opts.foldl Opt.apply o := by
  constructor
  · exact parse_ok_spelled toks o o'
  · rintro ⟨opts, hs, rfl⟩
    exact parse_opts opts toks hs o

/-- what each option does: the last of ASC/DESC wins, ALPHA is sticky, the last LIMIT / STORE / BY wins, GET patterns
accumulate in order; `BY pat` switches sorting off iff `pat` contains no `*` (nothing of an earlier BY survives, see
`last_by_decides`) -/
theorem option_effects (o : SortOpts) :
    Opt.apply o .asc = { o with desc := false } ∧ Opt.apply o .desc = { o with desc := true } ∧
    Opt.apply o .alpha = { o with alpha := true } ∧
    (∀ s c, Opt.apply o (.limit s c) = { o with limitStart := s, limitCount := c }) ∧
    (∀ x, Opt.apply o (.store x) = { o with store := some x }) ∧
    (∀ x, Opt.apply o (.sortBy x) =
      { o with sortby := some x, dontsort := !x.contains 42 }) ∧
    (∀ x, Opt.apply o (.get x) = { o with gets := o.gets ++ [x] }) :=
  ⟨rfl, rfl, rfl, fun _ _ => rfl, fun _ => rfl, fun _ => rfl, fun _ => rfl⟩

/-- The last BY decides: if `BY x` is followed by no other BY, the pattern is `x` and sorting is switched off iff `x`
contains no `*`, whatever came before; without any BY the defaults stay (sort by the elements themselves). -/
theorem last_by_decides (pre rest : List Opt) (x : Bytes) (h : ∀ op ∈ rest, op.isBy = false) (o : SortOpts) :
    ((pre ++ .sortBy x :: rest).foldl Opt.apply o).sortby = some x ∧
    ((pre ++ .sortBy x :: rest).foldl Opt.apply o).dontsort = (!x.contains 42) ∧
    (∀ opts : List Opt, (∀ op ∈ opts, op.isBy = false) →
      (opts.foldl Opt.apply o).sortby = o.sortby ∧ (opts.foldl Opt.apply o).dontsort = o.dontsort) :=
  ⟨(last_by pre rest x h o).1, (last_by pre rest x h o).2, fun opts ho => foldl_noBy opts ho o⟩

/-- every other token list is `ERR syntax error` -/
theorem options_error (toks : List Bytes) (o : SortOpts) (e : Err) (h : parseSortOpts toks o = .error e) :
    e = Msgs.SYNTAX_ERROR_MSG :=
  parse_error_msg toks o e h

/-- The source order: a list is taken in list order, a sorted set in `(score, member)` order; a set takes the next
recorded hint, which is accepted iff it has the length of the stored set and the same members — for a duplicate-free
stored set: iff it is a permutation of it — and is then consumed. -/
theorem source_order {v : Option Value} {s : Sys} {items : List Bytes} (h : (takeItems v s).1 = some items) :
    (match v with
     | some (.list l) => items = l ∧ (takeItems v s).2 = s
     | some (.zset z) => items = z.byscore.map Prod.snd ∧ (takeItems v s).2 = s
     | some (.set m) => ∃ restp, s.picks = items :: restp ∧ validHint items m = true ∧
         (takeItems v s).2 = { s with picks := restp }
     | _ => items = [] ∧ (takeItems v s).2 = s) :=
  takeItems_some h

theorem hint_is_permutation {p m : List Bytes} (hm : m.Nodup) : validHint p m = true ↔ p.Perm m :=
  ⟨validHint_perm hm, validHint_of_perm⟩

/-! ## 1. Numeric sort (no ALPHA; with or without `BY pattern*`) -/

/-- Numeric sort.  The key of element `v` is `(score v, v)` with `score v` = `SortFloat` of its weight (`0.0` for a
missing weight; without BY the weight is `v` itself).
* If the weight of some element does not convert, the outcome is the error
  `ERR One or more scores can't be converted into double`.
* Otherwise the result is the element column of `L`, where `L` is the list `ks` of keyed elements sorted by `numLe`
  (score, ties by the bytes of the element): a permutation, non-decreasing (ASC) / non-increasing (DESC), elements with
  tied keys in source order — and `L` is the only list with these three properties. -/
theorem numeric_sort (live : Bytes → Option Item) (val : Option Value) (o : SortOpts) (items : List Bytes)
    (hd : o.dontsort = false) (ha : o.alpha = false) :
    (match numKeyed live (o.sortby.getD [35]) items with
     | .error e => sortedLive live val o items = .error e ∧ e = Msgs.INVALID_SORT_FLOAT_MSG
     | .ok ks =>
       ks.map Prod.snd = items ∧
       (∀ p ∈ ks, numKey live (o.sortby.getD [35]) p.2 = .ok p.1 ∧ p.1.isNaN = false) ∧
       ∃ L, sortedLive live val o items = .ok (L.map Prod.snd) ∧ SortedBy numLe o.desc ks L ∧
         ∀ L', SortedBy numLe o.desc ks L' → L' = L) := by
  rw [sortedLive_numeric hd ha]
  cases hk : numKeyed live (o.sortby.getD [35]) items with
  | error e => exact ⟨rfl, numKeyed_error_msg hk⟩
  | ok ks =>
    have hS := numKeyed_noNaN hk
    have hm := sortedBy_model numLe numLe_totalPre o.desc ks hS
    exact ⟨(numKeyed_ok hk).1, (numKeyed_ok hk).2, _, rfl, hm,
      fun L' h' => SortedBy.unique numLe_totalPre hS h' hm⟩

/-- the numeric key: without BY it is the element's own value, with BY the looked-up weight, `0.0` if missing -/
theorem numeric_key (live : Bytes → Option Item) (pat v : Bytes) :
    numKey live [35] v = Conv.sortFloat v ∧
    numKey live pat v = (match lookupLive live v pat with
      | none => .ok Dbl.zero
      | some b => Conv.sortFloat b) :=
  ⟨rfl, rfl⟩

/-- the comparison: by score, ties by the byte order of the elements (so only equal elements tie) -/
theorem numeric_le (a b : Dbl × Bytes) (ha : a.1.isNaN = false) (hb : b.1.isNaN = false) :
    numLe a b = true ↔ (Dbl.lt a.1 b.1 = true ∨ (Dbl.eq a.1 b.1 = true ∧ bytesLe a.2 b.2 = true)) := by
  unfold numLe pairLt bytesLe
  rcases Dbl.trichotomy ha hb with ⟨h1, h2, h3⟩ | ⟨h1, h2, h3⟩ | ⟨h1, h2, h3⟩
  · rw [Dbl.eq_comm, h2]; simp [h1, h3]
  · rw [Dbl.eq_comm, h2]; simp [h1, LexB.lt]
  · rw [Dbl.eq_comm, h2]; simp [h1, h3]

/-- the conversion error is raised exactly when some element's weight does not convert -/
theorem numeric_error_iff (live : Bytes → Option Item) (val : Option Value) (o : SortOpts) (items : List Bytes)
    (hd : o.dontsort = false) (ha : o.alpha = false) :
    (∃ e, sortedLive live val o items = .error e) ↔
      ∃ v ∈ items, ∃ e, numKey live (o.sortby.getD [35]) v = .error e := by
  rw [sortedLive_numeric hd ha, ← numKeyed_error_iff]
  cases numKeyed live (o.sortby.getD [35]) items <;> simp

/-- the result of sorting is a permutation of the elements (every mode) -/
theorem sorted_is_permutation {live : Bytes → Option Item} {val : Option Value} {o : SortOpts} {items sorted : List Bytes}
    (h : sortedLive live val o items = .ok sorted) : sorted.Perm items :=
  sortedLive_perm h

/-- DESC: the model computes `(stableSort le l.reverse).reverse` (Python's `sort(reverse=True)`); for a total preorder
this is the stable sort by the reversed comparison (tied elements keep their source order). -/
theorem desc_is_stable_sort_by_reversed_comparison :
    (∀ ks : List (Dbl × Bytes), (∀ a ∈ ks, a.1.isNaN = false) →
      descSort numLe ks = stableSort (fun a b => numLe b a) ks) ∧
    (∀ ks : List (Option Bytes × Bytes), descSort alphaKeyLe ks = stableSort (fun a b => alphaKeyLe b a) ks) :=
  ⟨fun ks h => descSort_eq_stableSort_flip numLe numLe_totalPre ks h,
   fun ks => descSort_eq_stableSort_flip alphaKeyLe alphaKeyLe_totalPre ks (fun _ _ => trivial)⟩

/-- DESC is not the reverse of the ascending sort: with `BY w_* ALPHA` and no weight present, `a, b` stays `a, b` under
DESC, while the reversed ascending sort would be `b, a`. -/
theorem desc_is_not_reverse_of_ascending :
    (sortedLive (fun _ => none) (some (.list [[97], [98]]))
      { alpha := true, sortby := some (strBytes "w_*"), desc := true } [[97], [98]]).toOption = some [[97], [98]] ∧
    (sortedLive (fun _ => none) (some (.list [[97], [98]]))
      { alpha := true, sortby := some (strBytes "w_*"), desc := false } [[97], [98]]).toOption.map List.reverse =
      some [[98], [97]] := by
  decide +kernel

/-! ## 2. ALPHA -/

/-- ALPHA sort.  The key of an element is its weight (`BeforeAny` = `none` for a missing one; without BY the element
itself); the result is the element column of the keyed list sorted by `alphaKeyLe` (missing weights first, then byte-wise
lexicographic order of the weights only): permutation, monotone, elements with equal weights in source order; unique. -/
theorem alpha_sort (live : Bytes → Option Item) (val : Option Value) (o : SortOpts) (items : List Bytes)
    (hd : o.dontsort = false) (ha : o.alpha = true) :
    ∃ L, sortedLive live val o items = .ok (L.map Prod.snd) ∧
      SortedBy alphaKeyLe o.desc (alphaKeyed live (o.sortby.getD [35]) items) L ∧
      ∀ L', SortedBy alphaKeyLe o.desc (alphaKeyed live (o.sortby.getD [35]) items) L' → L' = L := by
  rw [sortedLive_alpha hd ha]
  have hm := sortedBy_model alphaKeyLe alphaKeyLe_totalPre o.desc (alphaKeyed live (o.sortby.getD [35]) items)
    (fun _ _ => trivial)
  exact ⟨_, rfl, hm, fun L' h' => SortedBy.unique alphaKeyLe_totalPre (fun _ _ => trivial) h' hm⟩

/-- the ALPHA keys and their order -/
theorem alpha_key (live : Bytes → Option Item) (pat : Bytes) (items : List Bytes) :
    alphaKeyed live pat items = items.map (fun v => (lookupLive live v pat, v)) ∧
    (∀ a b : Option Bytes × Bytes, alphaKeyLe a b =
      match a.1, b.1 with
      | none, _ => true
      | some _, none => false
      | some x, some y => bytesLe x y) := by
  refine ⟨rfl, fun a b => ?_⟩
  unfold alphaKeyLe alphaLe
  cases a.1 <;> cases b.1 <;> rfl

/-- ALPHA without BY: the result is the one permutation of the elements that is sorted by the byte-wise lexicographic order
(`bytesLe` is a total order, so equal elements are the only ties). -/
theorem alpha_plain (live : Bytes → Option Item) (val : Option Value) (o : SortOpts) (items : List Bytes)
    (hd : o.dontsort = false) (ha : o.alpha = true) (hb : o.sortby = none) :
    ∃ sorted, sortedLive live val o items = .ok sorted ∧ sorted.Perm items ∧
      sorted.Pairwise (fun a b => if o.desc = true then bytesLe b a = true else bytesLe a b = true) ∧
      ∀ l, l.Perm items →
        l.Pairwise (fun a b => if o.desc = true then bytesLe b a = true else bytesLe a b = true) → l = sorted := by
  obtain ⟨L, h1, h2, _⟩ := alpha_sort live val o items hd ha
  have hp : (L.map Prod.snd).Perm items := sortedLive_perm h1
  have hL : ∀ p ∈ L, p.1 = some p.2 := by
    intro p hp'
    have := h2.perm.mem_iff.mp hp'
    rw [hb, Option.getD_none, alphaKeyed_plain] at this
    obtain ⟨v, _, rfl⟩ := List.mem_map.mp this
    rfl
  have hs := pairwise_alpha_plain hL o.desc h2.sorted
  exact ⟨_, h1, hp, hs, fun l hl hls => bytes_sorted_unique o.desc (hl.trans hp.symm) hls hs⟩

/-- the byte order is a total order -/
theorem byte_order :
    (∀ x y, bytesLe x y = true ∨ bytesLe y x = true) ∧
    (∀ x y z, bytesLe x y = true → bytesLe y z = true → bytesLe x z = true) ∧
    (∀ x y, bytesLe x y = true → bytesLe y x = true → x = y) :=
  ⟨bytesLe_total, fun _ _ _ => bytesLe_trans, fun _ _ => bytesLe_antisymm⟩

/-! ## 3. LIMIT -/

/-- LIMIT offset count selects, from the sorted sequence (before GET), the `count` rows starting at row
`max offset 0`; a negative count means "to the end". -/
theorem limit_slice {live : Bytes → Option Item} {val : Option Value} {o : SortOpts} {items sorted : List Bytes}
    (h : sortedLive live val o items = .ok sorted) :
    rowsOf o sorted items.length =
      (sorted.drop (max o.limitStart 0).toNat).take
        (if o.limitCount < 0 then sorted.length else o.limitCount.toNat) := by
  rw [← sortedLive_length h]; exact rowsOf_eq o sorted

/-- corollaries: an offset at or beyond the end gives nothing; a negative count gives the rest; no LIMIT gives all -/
theorem limit_cases (o : SortOpts) (sorted : List Bytes) :
    (sorted.length ≤ (max o.limitStart 0).toNat → rowsOf o sorted sorted.length = []) ∧
    (o.limitCount < 0 → rowsOf o sorted sorted.length = sorted.drop (max o.limitStart 0).toNat) ∧
    (o.limitStart = 0 → o.limitCount = -1 → rowsOf o sorted sorted.length = sorted) :=
  ⟨rowsOf_beyond o sorted, rowsOf_negative_count o sorted, rowsOf_default o sorted⟩

/-! ## 4. BY -/

/-- BY with a pattern without `*` ("nosort"): no sorting and no weight look-up.  A list keeps its list order and a
sorted set its ascending `(score, member)` order; both are reversed exactly when DESC is given.  A set keeps the
(hinted) iteration order, with or without DESC.  LIMIT then applies to this sequence (see `phases`). -/
theorem by_nosort (live : Bytes → Option Item) (val : Option Value) (o : SortOpts) (items : List Bytes)
    (hd : o.dontsort = true) :
    sortedLive live val o items =
      .ok (match val with
        | some (.list _) | some (.zset _) => if o.desc then items.reverse else items
        | _ => items) := by
  unfold sortedLive
  simp only [hd, Bool.not_true, Bool.false_eq_true, if_false]
  rfl

/-- BY pattern: the weight of element `e` is `lookupLive live e pattern`:
`#` is `e` itself; otherwise the first `*` is replaced by `e`; if the rest contains `->` (first occurrence, not at the
very end) the weight is that field of the hash stored at the key, else it is the string stored at the key; a missing
key, a value of the other types, or a missing field give no weight. -/
theorem by_weight (live : Bytes → Option Item) (e pattern : Bytes) :
    lookupLive live e pattern =
      (if pattern == [35] then some e
       else match patKey pattern e with
         | none => none
         | some (k, field) =>
           match live k with
           | none => none
           | some it =>
             match field, it.value with
             | some f, .hash h => h.lookup f
             | some _, _ => none
             | none, .str b => some b
             | none, _ => none) := by
  unfold lookupLive pick
  by_cases h : (pattern == [35]) = true
  · simp only [h, if_true]
  · simp only [h, Bool.false_eq_true, if_false]
    cases patKey pattern e with
    | none => rfl
    | some p =>
      obtain ⟨k, f⟩ := p
      cases live k <;> rfl

/-- the substituted key -/
theorem by_key (pre suf e : Bytes) (h : (42 : UInt8) ∉ pre) :
    (∀ pat, pat.contains 42 = false → patKey pat e = none) ∧
    (findSub [45, 62] (suf.take (suf.length - 1)) = none →
      patKey (pre ++ 42 :: suf) e = some (pre ++ e ++ suf, none)) ∧
    (∀ a, findSub [45, 62] (suf.take (suf.length - 1)) = some a →
      patKey (pre ++ 42 :: suf) e = some (pre ++ e ++ suf.take a, some (suf.drop (a + 2)))) :=
  ⟨fun pat hp => patKey_nostar pat e hp, fun ha => by rw [patKey_star pre suf e h, ha],
    fun a ha => by rw [patKey_star pre suf e h, ha]⟩

/-- `bytes.find`: `some r` is the first occurrence, `none` means there is none -/
theorem find_spec (needle hay : Bytes) :
    (∀ r, findSub needle hay = some r →
      r ≤ hay.length ∧ (hay.drop r).take needle.length = needle ∧
        ∀ j, j < r → (hay.drop j).take needle.length ≠ needle) ∧
    (findSub needle hay = none → ∀ j, j ≤ hay.length → (hay.drop j).take needle.length ≠ needle) :=
  ⟨fun _ h => findSub_some h, findSub_none⟩

/-- missing weights: numerically `0.0`; under ALPHA before every present weight (and tied with each other) -/
theorem missing_weight (live : Bytes → Option Item) (pat v : Bytes) (h : lookupLive live v pat = none) :
    numKey live pat v = .ok Dbl.zero ∧
    (∀ b : Option Bytes × Bytes, alphaKeyLe (lookupLive live v pat, v) b = true) := by
  refine ⟨by unfold numKey; rw [h], fun b => ?_⟩
  rw [h]; rfl

/-! ## 5. GET -/

/-- GET: every selected row is replaced by the values of the GET patterns, in order (`#` = the element, a missing
value = nil, which STORE turns into the empty string); without GET the row itself. -/
theorem get_expansion (live : Bytes → Option Item) (o : SortOpts) (rows : List Bytes) :
    outLive live o rows =
      rows.flatMap (fun row =>
        (if o.gets.isEmpty then [[35]] else o.gets).map fun g =>
          let v := lookupLive live row g
          if o.store.isSome && v.isNone then some [] else v) ∧
    (∀ row, lookupLive live row [35] = some row) ∧
    (o.gets = [] → outLive live o rows = rows.map some) :=
  ⟨rfl, fun _ => rfl, outLive_plain live o rows⟩

/-! ## 6. STORE, and the state without STORE (through the generic runner `runWith`) -/

/-- The command end to end (signature, body, write-back of the runner): reply and state for a source that is not
wrong-typed, options that parse, and elements `items` (for a set: the accepted hint). -/
theorem command (inner : Inner) (mode : Mode) (c : Nat) (key : Bytes) (bs : List Bytes) (fs : Bool) (s : Sys)
    (hd : (s.conn c).db < s.srv.dbs.length) (nd : NodupKeys (s.dbAt (s.conn c).db).dict)
    (hg : runGate ssig fs ((s.conn c).pubsub > 0) = none)
    (hw : wrongTy (srcVal (s.dbAt (s.conn c).db) key) = false)
    (o : SortOpts) (hp : parseSortOpts bs {} = .ok o) (items : List Bytes)
    (hi : (takeItems (srcVal (s.dbAt (s.conn c).db) key) s).1 = some items) :
    ∃ db', Reads (s.dbAt (s.conn c).db) db' ∧
      runWith (special inner) mode c ssig (key :: bs) fs s =
        (match specLive (s.dbAt (s.conn c).db).live (srcVal (s.dbAt (s.conn c).db) key) o items with
         | .error e =>
           (some (.err (strBytes e)),
            (takeItems (srcVal (s.dbAt (s.conn c).db) key) s).2.setDbS (s.conn c).db db')
         | .ok out =>
           match o.store with
           | none =>
             (some (.arr (out.map Reply.ofOptBulk)),
              (takeItems (srcVal (s.dbAt (s.conn c).db) key) s).2.setDbS (s.conn c).db db')
           | some dst =>
             (some (.int (out.map fun x => x.getD []).length),
              ((takeItems (srcVal (s.dbAt (s.conn c).db) key) s).2.setDbS (s.conn c).db db').wbStep (s.conn c).db
                (storeCI dst (out.map fun x => x.getD [])))) :=
  run_sort inner mode c key bs fs s hd nd hg hw o hp items hi

/-- STORE dst: the reply is the length of the result; `dst` then holds the result as a list without deadline,
whatever it held before — or is deleted when the result is empty; every other key keeps its live entry;
`notify_watch(dst)` runs (watchers of `dst` are flagged, blocked clients of the database woken). -/
theorem store (inner : Inner) (mode : Mode) (c : Nat) (key : Bytes) (bs : List Bytes) (fs : Bool) (s : Sys)
    (hd : (s.conn c).db < s.srv.dbs.length) (nd : NodupKeys (s.dbAt (s.conn c).db).dict)
    (hg : runGate ssig fs ((s.conn c).pubsub > 0) = none)
    (hw : wrongTy (srcVal (s.dbAt (s.conn c).db) key) = false)
    (o : SortOpts) (hp : parseSortOpts bs {} = .ok o) (items : List Bytes)
    (hi : (takeItems (srcVal (s.dbAt (s.conn c).db) key) s).1 = some items)
    (out : List (Option Bytes))
    (hs : specLive (s.dbAt (s.conn c).db).live (srcVal (s.dbAt (s.conn c).db) key) o items = .ok out)
    (dst : Bytes) (hst : o.store = some dst) :
    ∃ dbf,
      runWith (special inner) mode c ssig (key :: bs) fs s =
        (some (.int (out.map fun x => x.getD []).length),
         ((takeItems (srcVal (s.dbAt (s.conn c).db) key) s).2.setDbS (s.conn c).db dbf).mapConns
           (notifyFn (s.conn c).db dst)) ∧
      dbf.live dst = (if (out.map fun x => x.getD []) = [] then none
        else some ⟨.list (out.map fun x => x.getD []), none⟩) ∧
      (∀ k, k ≠ dst → dbf.live k = (s.dbAt (s.conn c).db).live k) ∧
      NodupKeys dbf.dict ∧ dbf.time = (s.dbAt (s.conn c).db).time ∧
      (∀ q ∈ dbf.dict, q ∈ (s.dbAt (s.conn c).db).dict ∨ q = (dst, ⟨.list (out.map fun x => x.getD []), none⟩)) := by
  obtain ⟨db', hr, hrun⟩ := run_sort inner mode c key bs fs s hd nd hg hw o hp items hi
  rw [hs] at hrun
  simp only [hst] at hrun
  obtain ⟨dbf, h1, w⟩ := ZStore.wbStep_setValue (takeItems (srcVal (s.dbAt (s.conn c).db) key) s).2 _
    (takeItems_len _ s _ hd) hr (by rw [takeItems_srv]; rfl) ⟨dst, none, none, false, false⟩
    (.list (out.map fun x => x.getD []))
  refine ⟨dbf, hrun.trans (congrArg _ h1), w.self.trans ?_, w.other, w.nd, w.time, w.sub⟩
  cases (out.map fun x => x.getD []) <;> rfl

/-- a connection that watches the destination is flagged; nobody's watch list changes -/
theorem store_notifies (d : Nat) (dst : Bytes) (x : Conn) :
    (x.watches.contains (d, dst) = true → (notifyFn d dst x).watchNotified = true) ∧
    (notifyFn d dst x).watches = x.watches :=
  ⟨ZStore.notifyFn_watch d dst x, ZStore.notifyFn_watches d dst x⟩

/-- Without STORE (and for a conversion error) the final state is `(takeItems v s).2.setDbS d db'` with
`Reads (s.dbAt d) db'`: connections, output, clock and fault flag are untouched, the other databases are untouched, the
live view of database `d` is the same (only expired entries may have been dropped), and only the hint of a set source has
been consumed. -/
theorem without_store_nothing_changes (v : Option Value) (s : Sys) (d : Nat) (hd : d < s.srv.dbs.length) (db' : Db)
    (hr : Reads (s.dbAt d) db') :
    let s' := (takeItems v s).2.setDbS d db'
    s'.srv.conns = s.srv.conns ∧ s'.out = s.out ∧ s'.fault = s.fault ∧ s'.clocks = s.clocks ∧
      s'.srv.time = s.srv.time ∧ s'.dbAt d = db' ∧ (∀ k, (s'.dbAt d).live k = (s.dbAt d).live k) ∧
      (∀ j, j ≠ d → s'.dbAt j = s.dbAt j) ∧
      s'.picks = (takeItems v s).2.picks :=
  frame_nostore v s d hd db' hr

/-- the only error after the options have been parsed is the conversion error -/
theorem only_conversion_error {live : Bytes → Option Item} {val : Option Value} {o : SortOpts} {items : List Bytes}
    {e : Err} (h : specLive live val o items = .error e) : e = Msgs.INVALID_SORT_FLOAT_MSG :=
  specLive_error_msg h

/-! ## 7. Wrong type, missing source, syntax error -/

/-- the source holds a string or a hash: `WRONGTYPE`, and the state is the one after the signature's look-up of the
source key (nothing but a lazy deletion); not even the hint is consumed -/
theorem wrong_type (inner : Inner) (mode : Mode) (c : Nat) (key : Bytes) (bs : List Bytes) (fs : Bool) (s : Sys)
    (hd : (s.conn c).db < s.srv.dbs.length) (nd : NodupKeys (s.dbAt (s.conn c).db).dict)
    (hg : runGate ssig fs ((s.conn c).pubsub > 0) = none)
    (hw : wrongTy (srcVal (s.dbAt (s.conn c).db) key) = true) :
    runWith (special inner) mode c ssig (key :: bs) fs s =
      (some (.err (strBytes Msgs.WRONGTYPE_MSG)),
       s.setDbS (s.conn c).db ((s.dbAt (s.conn c).db).get key).1) ∧
    Reads (s.dbAt (s.conn c).db) ((s.dbAt (s.conn c).db).get key).1 :=
  ⟨run_wrongtype inner mode c key bs fs s hd nd hg hw, Reads.get nd key⟩

theorem wrong_type_iff (db : Db) (key : Bytes) :
    wrongTy (srcVal db key) = true ↔ ∃ it, db.live key = some it ∧ (it.value.ty = .str ∨ it.value.ty = .hash) := by
  unfold srcVal
  cases db.live key with
  | none => simp [wrongTy]
  | some it =>
    obtain ⟨v, e⟩ := it
    cases v <;> simp [wrongTy, Value.ty]

/-- the type check comes first: a wrong-typed source with malformed options is still `WRONGTYPE`; otherwise malformed
options are `ERR syntax error` (the hint of a set source has been consumed by then) -/
theorem syntax_error (inner : Inner) (mode : Mode) (c : Nat) (key : Bytes) (bs : List Bytes) (fs : Bool) (s : Sys)
    (hd : (s.conn c).db < s.srv.dbs.length) (nd : NodupKeys (s.dbAt (s.conn c).db).dict)
    (hg : runGate ssig fs ((s.conn c).pubsub > 0) = none)
    (hw : wrongTy (srcVal (s.dbAt (s.conn c).db) key) = false)
    (e : Err) (hp : parseSortOpts bs {} = .error e) :
    runWith (special inner) mode c ssig (key :: bs) fs s =
      (some (.err (strBytes Msgs.SYNTAX_ERROR_MSG)),
       (takeItems (srcVal (s.dbAt (s.conn c).db) key) s).2.setDbS (s.conn c).db
         ((s.dbAt (s.conn c).db).get key).1) := by
  rw [runWith_sort_eq inner mode c key bs fs s hg]
  have he := parse_error_msg bs {} e hp
  subst he
  refine ZStore.after_error _ _ (ZStore.destCI_clean _ _) _ (by decide +kernel) _ _ _ ?_
  rw [special_sort, Sys.setDbS_conn,
    sortCmd_syntax c _ 0 _ _ _ (by rw [Sys.setDbS_len]; exact hd) (by rw [ciAt_src _ nd]; exact hw) _
      (by rw [rawArgs_map_raw]; exact hp), ciAt_src _ nd, takeItems_setDbS]

/-- a missing (or expired) source is the empty sequence: the outcome is the empty list whatever the options — the reply
is the empty array, or, with STORE, `0` and the destination is deleted -/
theorem missing_source (live : Bytes → Option Item) (o : SortOpts) (db : Db) (key : Bytes) (s : Sys)
    (h : db.live key = none) :
    srcVal db key = none ∧ wrongTy none = false ∧ takeItems none s = (some [], s) ∧ specLive live none o [] = .ok [] := by
  refine ⟨by unfold srcVal; rw [h]; rfl, rfl, rfl, specLive_nil live none o⟩

/-- the signature and the dispatch entry of SORT -/
theorem signature : SigTable.find "sort" = some ssig ∧ Cmd.regular "sort" = none := by
  decide +kernel

/-! ## Results: `BY nosort` on a list, a sorted set and a set, and several BYs — three points on which fakeredis had
to be repaired to agree with Redis 6.2 / 7.0 -/

def bs (s : String) : Bytes := strBytes s

/-- the outcome of `SORT key opts…` when `key` holds `val` with elements `items` and no other key exists -/
def runOn (val : Value) (items : List Bytes) (opts : List String) : Option (Option (List (Option Bytes))) :=
  (parseSortOpts (opts.map bs) {}).toOption.map fun o => (specLive (fun _ => none) (some val) o items).toOption

/-- `RPUSH l a b c`: `SORT l BY nosort` replies `a b c`, with DESC `c b a`; LIMIT applies to that sequence:
`… LIMIT 0 2` replies `a b`, `… DESC LIMIT 0 2` replies `c b` -/
theorem nosort_list_keeps_order (l : List Bytes) (hl : l = [bs "a", bs "b", bs "c"]) :
    runOn (.list l) l ["BY", "nosort"] = some (some [some (bs "a"), some (bs "b"), some (bs "c")]) ∧
    runOn (.list l) l ["BY", "nosort", "DESC"] = some (some [some (bs "c"), some (bs "b"), some (bs "a")]) ∧
    runOn (.list l) l ["BY", "nosort", "LIMIT", "0", "2"] = some (some [some (bs "a"), some (bs "b")]) ∧
    runOn (.list l) l ["BY", "nosort", "DESC", "LIMIT", "0", "2"] = some (some [some (bs "c"), some (bs "b")]) := by
  subst hl
  exact ⟨by decide +kernel, by decide +kernel, by decide +kernel, by decide +kernel⟩

/-- `ZADD z 1 a 2 b`: `SORT z BY nosort` replies `a b` (ascending score), with DESC `b a` -/
theorem nosort_zset_ascending (z : ZSet)
    (hz : z = ((ZSet.empty.add (bs "b") (Dbl.ofInt 2)).1.add (bs "a") (Dbl.ofInt 1)).1) :
    runOn (.zset z) (z.byscore.map Prod.snd) ["BY", "nosort"] = some (some [some (bs "a"), some (bs "b")]) ∧
    runOn (.zset z) (z.byscore.map Prod.snd) ["BY", "nosort", "DESC"] = some (some [some (bs "b"), some (bs "a")]) := by
  subst hz; decide +kernel

/-- a set under `BY nosort` keeps the hinted iteration order, DESC or not -/
theorem nosort_set_keeps_hint (m hint : List Bytes) (hm : m = [bs "b", bs "a", bs "c"])
    (hh : hint = [bs "c", bs "a", bs "b"]) :
    runOn (.set m) hint ["BY", "nosort"] = some (some [some (bs "c"), some (bs "a"), some (bs "b")]) ∧
    runOn (.set m) hint ["BY", "nosort", "DESC"] = some (some [some (bs "c"), some (bs "a"), some (bs "b")]) := by
  subst hm; subst hh; decide +kernel

/-- `BY nosort BY w_*` sorts by `w_*`, `BY w_* BY nosort` does not sort: the last BY decides (instances of
`last_by_decides`) -/
theorem last_by_decides_examples :
    (parseSortOpts [bs "BY", bs "nosort", bs "BY", bs "w_*"] {}).toOption.map (fun o => (o.dontsort, o.sortby)) =
      some (false, some (bs "w_*")) ∧
    (parseSortOpts [bs "BY", bs "w_*", bs "BY", bs "nosort"] {}).toOption.map (fun o => (o.dontsort, o.sortby)) =
      some (true, some (bs "nosort")) ∧
    runOn (.list [bs "2", bs "3", bs "1"]) [bs "2", bs "3", bs "1"] ["BY", "nosort", "BY", "w_*"] =
      some (some [some (bs "1"), some (bs "2"), some (bs "3")]) := by
  decide +kernel

/-! ## Non-vacuity witnesses -/

theorem ok_of_toOption {α : Type} {x : Except Err α} {l : α} (h : x.toOption = some l) : x = .ok l := by
  cases x with
  | error e => simp [Except.toOption] at h
  | ok z => simp only [Except.toOption, Option.some.injEq] at h; rw [h]

def errOf {α : Type} (x : Except Err α) : Option Err := match x with | .error e => some e | .ok _ => none

theorem error_of_errOf {α : Type} {x : Except Err α} {e : Err} (h : errOf x = some e) : x = .error e := by
  cases x with
  | error e' => simp only [errOf, Option.some.injEq] at h; rw [h]
  | ok z => simp [errOf] at h

def exZ : ZSet := ((ZSet.empty.add (bs "x") (Dbl.ofInt 1)).1.add (bs "y") (Dbl.ofInt 2)).1
/-- a database at time 0: a list, a set, a sorted set, two weights, two hashes, a string, a destination with a
deadline, a list with a non-numeric element, an expired list -/
def exDict : Dict :=
  [(bs "l", ⟨.list [bs "3", bs "1", bs "2"], none⟩),
   (bs "s", ⟨.set [bs "b", bs "a", bs "c"], none⟩),
   (bs "z", ⟨.zset exZ, none⟩),
   (bs "w_1", ⟨.str (bs "30"), none⟩), (bs "w_2", ⟨.str (bs "10"), none⟩),
   (bs "h_1", ⟨.hash [(bs "f", bs "one")], none⟩), (bs "h_2", ⟨.hash [(bs "f", bs "two")], none⟩),
   (bs "str", ⟨.str (bs "v"), none⟩),
   (bs "dst", ⟨.str (bs "old"), some 100⟩),
   (bs "n", ⟨.list [bs "1", bs "a"], none⟩),
   (bs "gone", ⟨.list [bs "9"], some (-5)⟩)]
def exDb : Db := ⟨exDict, 0⟩
/-- database 0 is `exDb`; connection 1 watches `(0, dst)`; one hint `c a b` is recorded -/
def exSys : Sys :=
  { srv := { dbs := exDict :: List.replicate 15 [],
             conns := [{ id := 1, watches := [(0, bs "dst")] }, { id := 2 }] },
    picks := [[bs "c", bs "a", bs "b"]] }

/-- the outcome of `SORT key opts…` on `exDb` (a set iterates in the order `hint`) -/
def run (key : String) (hint : List String) (opts : List String) : Option (List (Option Bytes)) :=
  match parseSortOpts (opts.map bs) {} with
  | .error _ => none
  | .ok o =>
    (specLive exDb.live (srcVal exDb (bs key)) o
      (match srcVal exDb (bs key) with
       | some (.list l) => l
       | some (.zset z) => z.byscore.map Prod.snd
       | some (.set _) => hint.map bs
       | _ => [])).toOption

-- §1 numeric: ascending, descending, BY weights (element 3 has no weight: 0.0), error
example : run "l" [] [] = some [some (bs "1"), some (bs "2"), some (bs "3")] := by decide +kernel
example : run "l" [] ["desc"] = some [some (bs "3"), some (bs "2"), some (bs "1")] := by decide +kernel
example : run "l" [] ["BY", "w_*"] = some [some (bs "3"), some (bs "2"), some (bs "1")] := by decide +kernel
example : run "n" [] [] = none ∧ run "n" [] ["ALPHA"] = some [some (bs "1"), some (bs "a")] := by decide +kernel
example : ∃ e, numKeyed exDb.live [35] [bs "1", bs "a"] = .error e :=
  (numKeyed_error_iff _ _ _).mpr ⟨bs "a", List.mem_cons_of_mem _ List.mem_cons_self, Msgs.INVALID_SORT_FLOAT_MSG,
    error_of_errOf (by decide +kernel)⟩
-- §2 ALPHA on the set, hinted order `c a b`
example : run "s" ["c", "a", "b"] ["ALPHA"] = some [some (bs "a"), some (bs "b"), some (bs "c")] ∧
    run "s" ["c", "a", "b"] ["ALPHA", "DESC"] = some [some (bs "c"), some (bs "b"), some (bs "a")] := by
  decide +kernel
example : validHint [bs "c", bs "a", bs "b"] [bs "b", bs "a", bs "c"] = true ∧
    validHint [bs "c", bs "a"] [bs "b", bs "a", bs "c"] = false ∧
    validHint [bs "c", bs "a", bs "a"] [bs "b", bs "a", bs "c"] = false := by decide +kernel
-- §3 LIMIT
example : run "l" [] ["LIMIT", "1", "1"] = some [some (bs "2")] ∧
    run "l" [] ["LIMIT", "1", "-1"] = some [some (bs "2"), some (bs "3")] ∧
    run "l" [] ["LIMIT", "3", "5"] = some [] ∧
    run "l" [] ["LIMIT", "-7", "2"] = some [some (bs "1"), some (bs "2")] := by decide +kernel
-- §4 BY nosort: the list in list order (reversed with DESC), the set in hinted order, the sorted set ascending
example : run "l" [] ["BY", "nosort"] = some [some (bs "3"), some (bs "1"), some (bs "2")] ∧
    run "l" [] ["BY", "nosort", "DESC"] = some [some (bs "2"), some (bs "1"), some (bs "3")] ∧
    run "s" ["c", "a", "b"] ["BY", "nosort"] = some [some (bs "c"), some (bs "a"), some (bs "b")] ∧
    run "z" [] ["BY", "nosort"] = some [some (bs "x"), some (bs "y")] ∧
    run "z" [] ["BY", "nosort", "DESC"] = some [some (bs "y"), some (bs "x")] := by decide +kernel
-- the last BY decides: hypotheses of `last_by_decides` for `DESC BY nosort BY w_* ALPHA`
example : (List.foldl Opt.apply {} ([Opt.desc] ++ Opt.sortBy (bs "w_*") :: [Opt.alpha])).dontsort = false := by
  have := (last_by_decides [.desc] [.alpha] (bs "w_*") (by decide) {}).2.1
  rw [this]; decide +kernel
example : patKey (bs "h_*->f") (bs "1") = some (bs "h_1", some (bs "f")) ∧
    patKey (bs "w_*") (bs "1") = some (bs "w_1", none) ∧ patKey (bs "nosort") (bs "1") = none ∧
    patKey (bs "h_*->") (bs "1") = some (bs "h_1->", none) := by decide +kernel
-- §5 GET: `#`, a hash field, a missing value
example : run "l" [] ["LIMIT", "0", "2", "GET", "#", "GET", "h_*->f", "GET", "w_*"] =
    some [some (bs "1"), some (bs "one"), some (bs "30"), some (bs "2"), some (bs "two"), some (bs "10")] ∧
    run "l" [] ["GET", "h_*->f"] = some [some (bs "one"), some (bs "two"), none] ∧
    run "l" [] ["GET", "h_*->f", "STORE", "dst"] = some [some (bs "one"), some (bs "two"), some []] := by
  decide +kernel
-- §7 missing / expired source
example : run "nokey" [] [] = some [] ∧ run "gone" [] ["GET", "x"] = some [] := by decide +kernel
example : wrongTy (srcVal exDb (bs "str")) = true ∧ wrongTy (srcVal exDb (bs "h_1")) = true ∧
    wrongTy (srcVal exDb (bs "l")) = false ∧ wrongTy (srcVal exDb (bs "gone")) = false := by decide +kernel

-- options
example : SpelledAll [.sortBy (bs "w_*"), .limit 0 5, .get (bs "#"), .desc, .alpha, .store (bs "dst")]
    [bs "by", bs "w_*", bs "LIMIT", bs "0", bs "5", bs "Get", bs "#", bs "DESC", bs "alpha", bs "store", bs "dst"] :=
  ⟨[bs "by", bs "w_*"], _, rfl, ⟨bs "by", rfl, by decide +kernel⟩,
   [bs "LIMIT", bs "0", bs "5"], _, rfl, ⟨bs "LIMIT", bs "0", bs "5", rfl, by decide +kernel,
     ok_of_toOption (by decide +kernel), ok_of_toOption (by decide +kernel)⟩,
   [bs "Get", bs "#"], _, rfl, ⟨bs "Get", rfl, by decide +kernel⟩,
   [bs "DESC"], _, rfl, ⟨bs "DESC", rfl, by decide +kernel⟩,
   [bs "alpha"], _, rfl, ⟨bs "alpha", rfl, by decide +kernel⟩,
   [bs "store", bs "dst"], _, rfl, ⟨bs "store", rfl, by decide +kernel⟩, rfl⟩
example : ∃ e, parseSortOpts [bs "LIMIT", bs "0"] {} = .error e ∧ e = Msgs.SYNTAX_ERROR_MSG := by
  have hn : (parseSortOpts [bs "LIMIT", bs "0"] {}).toOption.isSome = false := by decide +kernel
  cases h : parseSortOpts [bs "LIMIT", bs "0"] {} with
  | error e => exact ⟨e, rfl, options_error _ _ _ h⟩
  | ok o => rw [h] at hn; cases hn

-- the hypotheses of `command` hold in `exSys` for connection 1 and `SORT l DESC LIMIT 0 2`: reply `3 2`
example : ∃ db', Reads (exSys.dbAt 0) db' ∧
    runWith (special (fun _ _ => pure none)) {} 1 ssig [bs "l", bs "DESC", bs "LIMIT", bs "0", bs "2"] false exSys =
      (some (.arr [.bulk (bs "3"), .bulk (bs "2")]),
       (takeItems (srcVal (exSys.dbAt 0) (bs "l")) exSys).2.setDbS 0 db') := by
  obtain ⟨o, ho⟩ : ∃ o, parseSortOpts [bs "DESC", bs "LIMIT", bs "0", bs "2"] {} = .ok o ∧ o.store = none ∧
      (specLive (exSys.dbAt 0).live (srcVal (exSys.dbAt 0) (bs "l")) o [bs "3", bs "1", bs "2"]).toOption =
        some [some (bs "3"), some (bs "2")] := by
    have hn : (parseSortOpts [bs "DESC", bs "LIMIT", bs "0", bs "2"] {}).toOption.isSome = true ∧
        (parseSortOpts [bs "DESC", bs "LIMIT", bs "0", bs "2"] {}).toOption.map (·.store) = some none ∧
        ((parseSortOpts [bs "DESC", bs "LIMIT", bs "0", bs "2"] {}).toOption.map fun o =>
          (specLive (exSys.dbAt 0).live (srcVal (exSys.dbAt 0) (bs "l")) o [bs "3", bs "1", bs "2"]).toOption) =
          some (some [some (bs "3"), some (bs "2")]) := by decide +kernel
    cases h : parseSortOpts [bs "DESC", bs "LIMIT", bs "0", bs "2"] {} with
    | error e => rw [h] at hn; cases hn.1
    | ok o =>
      refine ⟨o, rfl, ?_, ?_⟩
      · have := hn.2.1
        rw [h] at this; simpa [Except.toOption] using this
      · have := hn.2.2
        rw [h] at this; simpa [Except.toOption] using this
  have hc : NodupKeys (exSys.dbAt (exSys.conn 1).db).dict ∧ runGate ssig false ((exSys.conn 1).pubsub > 0) = none ∧
      wrongTy (srcVal (exSys.dbAt (exSys.conn 1).db) (bs "l")) = false ∧
      (takeItems (srcVal (exSys.dbAt (exSys.conn 1).db) (bs "l")) exSys).1 = some [bs "3", bs "1", bs "2"] := by
    decide +kernel
  obtain ⟨db', hr, hrun⟩ := command (fun _ _ => pure none) {} 1 (bs "l") [bs "DESC", bs "LIMIT", bs "0", bs "2"] false
    exSys (by decide) hc.1 hc.2.1 hc.2.2.1 o ho.1 [bs "3", bs "1", bs "2"] hc.2.2.2
  have e : (exSys.conn 1).db = 0 := rfl
  rw [e] at hrun hr
  rw [ok_of_toOption ho.2.2] at hrun
  simp only [ho.2.1] at hrun
  exact ⟨db', hr, hrun⟩

-- the hypotheses of `store` hold in `exSys` for connection 1 and `SORT l GET h_*->f STORE dst`: the reply is 3, the
-- old string with its deadline is replaced by the list `one two ""` without deadline
example : ∃ dbf,
    runWith (special (fun _ _ => pure none)) {} 1 ssig [bs "l", bs "GET", bs "h_*->f", bs "STORE", bs "dst"] false
        exSys =
      (some (.int 3), ((takeItems (srcVal (exSys.dbAt 0) (bs "l")) exSys).2.setDbS 0 dbf).mapConns
        (notifyFn 0 (bs "dst"))) ∧
    dbf.live (bs "dst") = some ⟨.list [bs "one", bs "two", []], none⟩ ∧
    ((exSys.dbAt 0).live (bs "dst")).map (fun it => (it.value.ty, it.expireat)) = some (.str, some 100) ∧
    (∀ k, k ≠ bs "dst" → dbf.live k = (exSys.dbAt 0).live k) := by
  have hn : (parseSortOpts [bs "GET", bs "h_*->f", bs "STORE", bs "dst"] {}).toOption.isSome = true ∧
      (parseSortOpts [bs "GET", bs "h_*->f", bs "STORE", bs "dst"] {}).toOption.map (·.store) =
        some (some (bs "dst")) ∧
      ((parseSortOpts [bs "GET", bs "h_*->f", bs "STORE", bs "dst"] {}).toOption.map fun o =>
        (specLive (exSys.dbAt 0).live (srcVal (exSys.dbAt 0) (bs "l")) o [bs "3", bs "1", bs "2"]).toOption) =
        some (some [some (bs "one"), some (bs "two"), some []]) ∧
      NodupKeys (exSys.dbAt (exSys.conn 1).db).dict ∧ runGate ssig false ((exSys.conn 1).pubsub > 0) = none ∧
      wrongTy (srcVal (exSys.dbAt (exSys.conn 1).db) (bs "l")) = false ∧
      (takeItems (srcVal (exSys.dbAt (exSys.conn 1).db) (bs "l")) exSys).1 = some [bs "3", bs "1", bs "2"] ∧
      ((exSys.dbAt 0).live (bs "dst")).map (fun it => (it.value.ty, it.expireat)) = some (.str, some 100) := by
    decide +kernel
  cases h : parseSortOpts [bs "GET", bs "h_*->f", bs "STORE", bs "dst"] {} with
  | error e => rw [h] at hn; cases hn.1
  | ok o =>
    have h1 : o.store = some (bs "dst") := by
      have := hn.2.1
      rw [h] at this; simpa [Except.toOption] using this
    have h2 : (specLive (exSys.dbAt 0).live (srcVal (exSys.dbAt 0) (bs "l")) o [bs "3", bs "1", bs "2"]).toOption =
        some [some (bs "one"), some (bs "two"), some []] := by
      have := hn.2.2.1
      rw [h] at this; simpa [Except.toOption] using this
    obtain ⟨dbf, r1, r2, r3, _⟩ := store (fun _ _ => pure none) {} 1 (bs "l")
      [bs "GET", bs "h_*->f", bs "STORE", bs "dst"] false exSys (by decide) hn.2.2.2.1 hn.2.2.2.2.1
      hn.2.2.2.2.2.1 o h [bs "3", bs "1", bs "2"] hn.2.2.2.2.2.2.1 _ (ok_of_toOption h2) (bs "dst") h1
    refine ⟨dbf, r1, ?_, hn.2.2.2.2.2.2.2, r3⟩
    rw [r2]
    rfl

-- the hypotheses of `wrong_type` hold for `SORT str`
example : runWith (special (fun _ _ => pure none)) {} 1 ssig [bs "str", bs "bogus"] false exSys =
    (some (.err (strBytes Msgs.WRONGTYPE_MSG)), exSys.setDbS 0 ((exSys.dbAt 0).get (bs "str")).1) :=
  have h : NodupKeys (exSys.dbAt (exSys.conn 1).db).dict ∧ runGate ssig false ((exSys.conn 1).pubsub > 0) = none ∧
      wrongTy (srcVal (exSys.dbAt (exSys.conn 1).db) (bs "str")) = true := by decide +kernel
  (wrong_type (fun _ _ => pure none) {} 1 (bs "str") [bs "bogus"] false exSys (by decide) h.1 h.2.1 h.2.2).1

-- connection 1 watches the destination: STORE flags it
example : (notifyFn 0 (bs "dst") { id := 1, watches := [(0, bs "dst")] }).watchNotified = true := by decide +kernel

end FR.Props.C02s

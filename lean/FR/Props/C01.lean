import FR.Proofs.Strings
/-! # C01: the string commands at the level of their bodies (windows, bytes, counters, bits) -/
namespace FR.Props.C01
open FR FR.Spec FR.Proofs

/-- GETRANGE: `_fix_range_string` + Python slice = the declarative Redis window -/
theorem getrange_window (v : Bytes) (s e : Int) :
    (let (a, b) := fixRangeString s e v.length; Py.slice v a b) = getrangeSpec v s e :=
  FR.Proofs.getrange_window v s e
example : getrangeSpec [1, 2, 3, 4, 5] (-3) (-1) = [3, 4, 5] ∧ getrangeSpec [1, 2, 3] (-1) (-2) = [] ∧
    getrangeSpec [1, 2, 3] (-100) 100 = [1, 2, 3] ∧ getrangeSpec [] 0 (-1) = [] := by decide

theorem getrange_body (ctx : Ctx) (cis : List CI) (k : Nat) (s e : Int) :
    Cmd.getrange ctx [.key k, .int s, .int e] cis =
      ret (.bulk (getrangeSpec (Cmd.strGet (ciAt cis k) []) s e)) cis :=
  FR.Proofs.getrange_body ctx cis k s e

/-- SETRANGE: resulting length and every byte of the result -/
theorem setrange_bytes (old : Bytes) (o : Nat) (v : Bytes) :
    (setrangeBytes old o v).length = max old.length (o + v.length) ∧
    ∀ i : Nat,
      (o ≤ i → i < o + v.length → (setrangeBytes old o v)[i]? = v[i - o]?) ∧
      (i < o → i < old.length → (setrangeBytes old o v)[i]? = old[i]?) ∧
      (old.length ≤ i → i < o → (setrangeBytes old o v)[i]? = some 0) ∧
      (o + v.length ≤ i → (setrangeBytes old o v)[i]? = old[i]?) :=
  FR.Proofs.setrange_bytes old o v
example : setrangeBytes [1, 2] 4 [9, 9] = [1, 2, 0, 0, 9, 9] ∧
    setrangeBytes [1, 2, 3, 4] 1 [9] = [1, 9, 3, 4] := by decide

/-- `setrangeBytes` is what the body of SETRANGE stores (and its length is the reply) -/
theorem setrange_body (ctx : Ctx) (cis : List CI) (k : Nat) (off : Int) (v : Bytes)
    (h0 : 0 ≤ off) (hv : v ≠ []) (hmax : off + v.length ≤ Conv.MAX_STRING_SIZE) :
    Cmd.setrange ctx [.key k, .int off, .raw v] cis =
      (let out := setrangeBytes (Cmd.strGet (ciAt cis k) []) off.toNat v
       ret (.int out.length) (cis.set k ((ciAt cis k).update (.str out)))) :=
  FR.Proofs.setrange_body ctx cis k off v h0 hv hmax
example : (0 : Int) ≤ 3 ∧ ([7] : Bytes) ≠ [] ∧ (3 : Int) + ([7] : Bytes).length ≤ Conv.MAX_STRING_SIZE := by
  decide

/-- APPEND: reply = old length + appended length; stored value = concatenation -/
theorem append_length (ctx : Ctx) (cis : List CI) (k : Nat) (v : Bytes) :
    Cmd.append ctx [.key k, .raw v] cis =
      (let old := Cmd.strGet (ciAt cis k) []
       if old.length + v.length > Conv.MAX_STRING_SIZE then .error Msgs.STRING_OVERFLOW_MSG
       else ret (.int (old.length + v.length : Nat))
              (cis.set k ((ciAt cis k).update (.str (old ++ v))))) :=
  FR.Proofs.append_length ctx cis k v

/-- INCR family: refused (an error carries no state, so nothing changes) unless the stored value is a
canonical signed 64-bit integer and the sum stays in range; then reply = sum and the stored string
is the canonical decimal of the reply -/
theorem incr_overflow_refused_unchanged (cis : List CI) (k : Nat) (a : Int) :
    let c := ciAt cis k
    let stored := Cmd.strGet c (strBytes "0")
    (∀ e, Conv.int stored = .error e → Cmd.incrbyCore cis k a = .error e) ∧
    (∀ cur, Conv.int stored = .ok cur → ¬ (Conv.INT_MIN ≤ cur + a ∧ cur + a ≤ Conv.INT_MAX) →
        Cmd.incrbyCore cis k a = .error Msgs.OVERFLOW_MSG) ∧
    (∀ cur, Conv.int stored = .ok cur → (Conv.INT_MIN ≤ cur + a ∧ cur + a ≤ Conv.INT_MAX) →
        Cmd.incrbyCore cis k a =
          .ok { reply := .int (cur + a),
                cis := cis.set k (c.update (.str (intBytes (cur + a)))) }) :=
  FR.Proofs.incr_overflow_refused_unchanged cis k a

/-- when is the stored value accepted: exactly the canonical decimals in the 64-bit range -/
theorem incr_stored_accepted (b : Bytes) (n : Int) :
    Conv.int b = .ok n ↔ parseCanonInt b = some n ∧ Conv.INT_MIN ≤ n ∧ n ≤ Conv.INT_MAX :=
  conv_int_ok_iff b n

/-- converse reading: what an `.ok` outcome of the core means -/
theorem incr_ok_inv (cis : List CI) (k : Nat) (a : Int) (o : BodyOut)
    (h : Cmd.incrbyCore cis k a = .ok o) :
    ∃ cur, parseCanonInt (Cmd.strGet (ciAt cis k) (strBytes "0")) = some cur ∧
      Conv.INT_MIN ≤ cur ∧ cur ≤ Conv.INT_MAX ∧
      Conv.INT_MIN ≤ cur + a ∧ cur + a ≤ Conv.INT_MAX ∧
      o.reply = .int (cur + a) ∧
      o.cis = cis.set k ((ciAt cis k).update (.str (intBytes (cur + a)))) := by
  have ⟨h1, h2, h3⟩ := incr_overflow_refused_unchanged cis k a
  cases hc : Conv.int (Cmd.strGet (ciAt cis k) (strBytes "0")) with
  | error e => rw [h1 e hc] at h; cases h
  | ok cur =>
    by_cases hr : Conv.INT_MIN ≤ cur + a ∧ cur + a ≤ Conv.INT_MAX
    · rw [h3 cur hc hr] at h
      cases h
      have := (conv_int_ok_iff _ _).mp hc
      exact ⟨cur, this.1, this.2.1, this.2.2, hr.1, hr.2, rfl, rfl⟩
    · rw [h2 cur hc hr] at h; cases h
example :
    parseCanonInt [57, 50, 50, 51, 51, 55, 50, 48, 51, 54, 56, 53, 52, 55, 55, 53, 56, 48, 55]
      = some 9223372036854775807 ∧
    ¬ (Conv.INT_MIN ≤ (9223372036854775807 : Int) + 1 ∧ (9223372036854775807 : Int) + 1 ≤ Conv.INT_MAX) ∧
    (Conv.INT_MIN ≤ (9223372036854775807 : Int) + (-1) ∧ (9223372036854775807 : Int) + (-1) ≤ Conv.INT_MAX) ∧
    parseCanonInt [48, 49] = none := by decide

/-- the stored decimal is canonical: it parses back to the same integer, so the value written by
INCRBY is accepted by the next INCRBY/GET-as-integer and reads back as the reply -/
theorem incr_stored_canonical (n : Int) : parseCanonInt (intBytes n) = some n :=
  parseCanonInt_intBytes n

theorem incr_then_readable (cis : List CI) (k : Nat) (a : Int) (o : BodyOut)
    (h : Cmd.incrbyCore cis k a = .ok o) (hk : k < cis.length) :
    ∃ n, o.reply = .int n ∧ Conv.int (Cmd.strGet (ciAt o.cis k) (strBytes "0")) = .ok n := by
  obtain ⟨cur, _, _, _, h1, h2, hr, hc⟩ := incr_ok_inv cis k a o h
  refine ⟨cur + a, hr, ?_⟩
  rw [hc, ciAt_set_self _ _ _ hk]
  show Conv.int (intBytes (cur + a)) = _
  exact (conv_int_ok_iff _ _).mpr ⟨parseCanonInt_intBytes _, h1, h2⟩
example :
    let c : CI := { key := [1], val := some (.str [57, 57]), expireat := none }
    (Cmd.incrbyCore [c] 0 1).toOption.map (fun o => Cmd.strGet (ciAt o.cis 0) [])
      = some [49, 48, 48] := by with_unfolding_all decide

/-- SETBIT then GETBIT -/
theorem setbit_getbit (v : Bytes) (off b : Int) (hb : b = 0 ∨ b = 1) (h0 : 0 ≤ off) :
    getBitBytes (setBitBytes v off b) off = b ∧
    ∀ off', 0 ≤ off' → off' ≠ off → getBitBytes (setBitBytes v off b) off' = getBitBytes v off' :=
  ⟨setbit_getbit_same v off b hb, fun off' h0' hne => setbit_getbit_other v off off' b h0 h0' hne⟩
example : setBitBytes [0] 9 1 = [0, 64] ∧ getBitBytes [0, 64] 9 = 1 ∧ getBitBytes [0, 64] 8 = 0 := by
  decide

/-- `getBitBytes` / `setBitBytes` are what the bodies compute; SETBIT replies with the previous bit -/
theorem getbit_body (ctx : Ctx) (cis : List CI) (k : Nat) (off : Int) :
    Cmd.getbit ctx [.key k, .int off] cis =
      ret (.int (getBitBytes (Cmd.strGet (ciAt cis k) []) off)) cis :=
  FR.Proofs.getbit_body ctx cis k off

theorem setbit_body (ctx : Ctx) (cis : List CI) (k : Nat) (off value : Int)
    (hb : value = 0 ∨ value = 1) :
    Cmd.setbit ctx [.key k, .int off, .int value] cis =
      ret (.int (getBitBytes (Cmd.strGet (ciAt cis k) [0]) off))
        (cis.set k ((ciAt cis k).update (.str (setBitBytes (Cmd.strGet (ciAt cis k) [0]) off value)))) :=
  FR.Proofs.setbit_body_old ctx cis k off value hb

end FR.Props.C01

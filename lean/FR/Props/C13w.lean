import FR.Proofs.C13w
import FR.Props.C13s
/-!
# C13 (system level, raw writes) — the databases stay independent under `sendall` of arbitrary bytes

`FR/Props/C13s.lean` states frame and non-interference for one parsed request (`processCommand`) and for histories of
`.request` events.  Here the same statements for what a client really does: `FakeSocket.sendall(data)` with arbitrary
bytes (`sendallGuarded`: outage check, append to the connection's buffer, `drain` = parse and process every complete
request — none, one, or several pipelined ones; an incomplete tail stays in the buffer), and for histories with
`.send` events.

* `sendReqs mode c data s` is the list of requests the write `sendallGuarded mode c data` hands to `processCommand`
  when it is run from `s`, in order (empty during an outage / on a dead connection; it stops when the connection gets
  paused or dies).  The side conditions quantify over this list — "every request the write processes".
* `*_of_parse` : the same with the static condition "every complete request in `buffer ++ data`" (`parseAll`).
* `*_encoded` : the same for `data = encodeRequest r₁ ++ … ++ encodeRequest rₙ ++ tail`, `tail` incomplete, on a
  connection with an empty buffer.
-/
namespace FR.Props.C13w
open FR FR.M FR.DbFrame FR.Props.C13s
set_option linter.unusedVariables false

/-- the name condition of `request_frame` -/
def NameOk (fields : List Bytes) : Prop := cmdName fields ∉ "select" :: crossDb

instance (fields : List Bytes) : Decidable (NameOk fields) := by unfold NameOk; infer_instance

theorem NameOk.reqOkA {fields : List Bytes} (h : NameOk fields) (d : Nat) :
    ReqOkA (fun j => j = d) (fun _ => True) fields :=
  reqOkA_of_name h trivial

theorem reqOkA_iff (T : Nat → Prop) (fields : List Bytes) : ReqOkA T (QAllowed T) fields ↔ ReqOk T fields :=
  ⟨fun h => ⟨h.1, h.2.1, h.2.2.1⟩, ReqOk.toA⟩

/-! ## 1. Frame: one write -/

/-- **Frame, raw write.**  A write of arbitrary bytes on connection `c` — whatever is pending in its buffer, however
many pipelined requests become complete — leaves every database other than the one selected on `c` identical, if every
request the write processes is none of SELECT, SWAPDB, MOVE, FLUSHALL, EXEC, EVAL, EVALSHA. -/
theorem sendall_frame (mode : Mode) (c : Nat) (data : Bytes) (s : Sys)
    (hok : ∀ f ∈ sendReqs mode c data s, NameOk f) :
    ∀ j, j ≠ (s.conn c).db → (sendallGuarded mode c data s).2.srv.dbs.getD j [] = s.srv.dbs.getD j [] := by
  exact sendallGuarded_frame mode data s ((sendOkA_iff mode c data s).2 (fun f hf => (hok f hf).reqOkA _))

/-- the same for `sendall` (no outage check) -/
theorem sendall_frame' (mode : Mode) (c : Nat) (data : Bytes) (s : Sys)
    (hok : (s.conn c).dead = false →
      ∀ f ∈ drainReqs mode c ((s.conn c).buf.length + data.length + 1) (appendBuf c data s), NameOk f) :
    ∀ j, j ≠ (s.conn c).db → (sendall mode c data s).2.srv.dbs.getD j [] = s.srv.dbs.getD j [] := by
  intro j hj
  exact (sendall_sim (T := fun j => j = (s.conn c).db) (A := fun _ => True) mode data
    (Sim.refl s (fun _ => rfl) (fun _ _ _ _ => trivial))
    (fun hd => (drainOkA_iff mode c _ _).2 (fun f hf => (hok hd f hf).reqOkA _))).off1 j hj

/-- static side condition: every complete request in `buffer ++ data` satisfies the name condition -/
theorem sendall_frame_of_parse (mode : Mode) (c : Nat) (data : Bytes) (s : Sys)
    (hok : ∀ n, ∀ f ∈ (parseAll n ((s.conn c).buf ++ data)).1, NameOk f) :
    ∀ j, j ≠ (s.conn c).db → (sendallGuarded mode c data s).2.srv.dbs.getD j [] = s.srv.dbs.getD j [] := by
  exact sendallGuarded_frame mode data s (sendOkA_of_parse mode c data s (fun n f hf => (hok n f hf).reqOkA _))

/-- `n` pipelined requests in one write, followed by arbitrary incomplete bytes, on a connection with an empty buffer -/
theorem sendall_frame_encoded (mode : Mode) (c : Nat) (reqs : List (List Bytes)) (tail : Bytes) (s : Sys)
    (hbuf : (s.conn c).buf = []) (htail : tryParse tail = none) (hok : ∀ r ∈ reqs, NameOk r) :
    ∀ j, j ≠ (s.conn c).db →
      (sendallGuarded mode c (encodeStream reqs ++ tail) s).2.srv.dbs.getD j [] = s.srv.dbs.getD j [] := by
  refine sendall_frame_of_parse mode c _ s (fun n f hf => hok f ?_)
  rw [hbuf, List.nil_append] at hf
  exact parseAll_encodeStream_sub reqs tail htail n f hf

/-! ## 2. Non-interference: one write -/

/-- **Non-interference, raw write.**  Two states that agree except for the content of the databases outside `T`, the
same write on a connection selected on `T` whose queue is covered, every request the write processes (in the first run)
covered by `ReqOk T`: the same replies, agreeing final states (buffers included), the databases outside `T` untouched
in both runs; the side conditions hold again afterwards. -/
theorem send_noninterference (T : Nat → Prop) (mode : Mode) (c : Nat) (data : Bytes) {s1 s2 : Sys} (h : Agree T s1 s2)
    (hsel : T (s1.conn c).db) (hq : ∀ q, (s1.conn c).tx = some q → ∀ e ∈ q, QAllowed T e)
    (hok : ∀ f ∈ sendReqs mode c data s1, ReqOk T f) :
    (sendallGuarded mode c data s2).2.out = (sendallGuarded mode c data s1).2.out ∧
    Agree T (sendallGuarded mode c data s1).2 (sendallGuarded mode c data s2).2 ∧
    (∀ j, ¬ T j → (sendallGuarded mode c data s1).2.srv.dbs.getD j [] = s1.srv.dbs.getD j []) ∧
    (∀ j, ¬ T j → (sendallGuarded mode c data s2).2.srv.dbs.getD j [] = s2.srv.dbs.getD j []) ∧
    T ((sendallGuarded mode c data s1).2.conn c).db ∧
    (∀ q, ((sendallGuarded mode c data s1).2.conn c).tx = some q → ∀ e ∈ q, QAllowed T e) := by
  have hs : SendOkA T (QAllowed T) mode c data s1 := (sendOkA_iff mode c data s1).2 (fun f hf => (hok f hf).toA)
  have hr := sendallGuarded_sim mode data (h.toSim c true (QAllowed T) (fun _ => hsel) hq) hs
  exact ⟨hr.agree.out, hr.agree, hr.off1, hr.off2, hr.sel rfl, hr.qok⟩

/-- the two runs process the same requests -/
theorem send_noninterference_of_parse (T : Nat → Prop) (mode : Mode) (c : Nat) (data : Bytes) {s1 s2 : Sys}
    (h : Agree T s1 s2) (hsel : T (s1.conn c).db) (hq : ∀ q, (s1.conn c).tx = some q → ∀ e ∈ q, QAllowed T e)
    (hok : ∀ n, ∀ f ∈ (parseAll n ((s1.conn c).buf ++ data)).1, ReqOk T f) :
    (sendallGuarded mode c data s2).2.out = (sendallGuarded mode c data s1).2.out ∧
    Agree T (sendallGuarded mode c data s1).2 (sendallGuarded mode c data s2).2 ∧
    (∀ j, ¬ T j → (sendallGuarded mode c data s1).2.srv.dbs.getD j [] = s1.srv.dbs.getD j []) ∧
    (∀ j, ¬ T j → (sendallGuarded mode c data s2).2.srv.dbs.getD j [] = s2.srv.dbs.getD j []) := by
  have hs : SendOkA T (QAllowed T) mode c data s1 := sendOkA_of_parse mode c data s1 (fun n f hf => (hok n f hf).toA)
  have hr := sendallGuarded_sim mode data (h.toSim c true (QAllowed T) (fun _ => hsel) hq) hs
  exact ⟨hr.agree.out, hr.agree, hr.off1, hr.off2⟩

theorem send_noninterference_encoded (T : Nat → Prop) (mode : Mode) (c : Nat) (reqs : List (List Bytes)) (tail : Bytes)
    {s1 s2 : Sys} (h : Agree T s1 s2) (hsel : T (s1.conn c).db)
    (hq : ∀ q, (s1.conn c).tx = some q → ∀ e ∈ q, QAllowed T e)
    (hbuf : (s1.conn c).buf = []) (htail : tryParse tail = none) (hok : ∀ r ∈ reqs, ReqOk T r) :
    (sendallGuarded mode c (encodeStream reqs ++ tail) s2).2.out =
      (sendallGuarded mode c (encodeStream reqs ++ tail) s1).2.out ∧
    Agree T (sendallGuarded mode c (encodeStream reqs ++ tail) s1).2
      (sendallGuarded mode c (encodeStream reqs ++ tail) s2).2 := by
  have := send_noninterference_of_parse T mode c (encodeStream reqs ++ tail) h hsel hq (fun n f hf => hok f (by
    rw [hbuf, List.nil_append] at hf
    exact parseAll_encodeStream_sub reqs tail htail n f hf))
  exact ⟨this.1, this.2.1⟩

/-! ## 3. Histories with raw writes -/

/-- what `OkHistW` asks of a `.send` event -/
theorem okEvW_send (T : Nat → Prop) (s : Sys) (mode : Mode) (c : Nat) (data : Bytes) (clocks : List Int)
    (picks : List (List Bytes)) :
    OkEvW T s (.send mode c data clocks picks) ↔
      (T (s.conn c).db ∧ (∀ q, (s.conn c).tx = some q → ∀ e ∈ q, QAllowed T e) ∧
        ∀ f ∈ sendReqs mode c data (s.beginEvent.withHints clocks picks), ReqOk T f) := by
  show (_ ∧ _ ∧ SendOkA _ _ _ _ _ _) ↔ _
  rw [sendOkA_iff]
  simp only [reqOkA_iff]

/-- a `.request` event is judged as `OkHist` judges it -/
theorem okEvW_request (T : Nat → Prop) (s : Sys) (mode : Mode) (c : Nat) (fields : List Bytes) (clocks : List Int)
    (picks : List (List Bytes)) :
    OkEvW T s (.request mode c fields clocks picks) ↔ OkEv T s (.request mode c fields clocks picks) := Iff.rfl

/-- single-database case, no open transaction: a check on the names of the processed requests -/
theorem okEvW_send_of_names (i : Nat) (s : Sys) (mode : Mode) (c : Nat) (data : Bytes) (clocks : List Int)
    (picks : List (List Bytes)) (hdb : (s.conn c).db = i) (htx : (s.conn c).tx = none)
    (hn : ∀ f ∈ sendReqs mode c data (s.beginEvent.withHints clocks picks), NameOk f) :
    OkEvW (fun j => j = i) s (.send mode c data clocks picks) :=
  (okEvW_send _ s mode c data clocks picks).2 ⟨hdb, tx_none_ok htx, fun f hf => reqOk_of_name i f (hn f hf)⟩

/-- **Non-interference, histories with raw writes.**  As `history_noninterference`, with `.send` events (arbitrary
bytes, pipelining, requests split over several writes) admitted. -/
theorem history_noninterference_send (T : Nat → Prop) (evs : List Ev) {s1 s2 : Sys} (h : Agree T s1 s2)
    (hok : OkHistW T s1 evs) :
    outs s2 evs = outs s1 evs ∧ Agree T (evs.foldl stepEv s1) (evs.foldl stepEv s2) ∧
    (∀ j, ¬ T j → (evs.foldl stepEv s1).srv.dbs.getD j [] = s1.srv.dbs.getD j []) ∧
    (∀ j, ¬ T j → (evs.foldl stepEv s2).srv.dbs.getD j [] = s2.srv.dbs.getD j []) := by
  have := history_agreeW evs h hok
  exact ⟨this.1, this.2.agree, this.2.off1, this.2.off2⟩

theorem history_independent_of_other_dbs_send (i : Nat) (evs : List Ev) (s : Sys) (dbs2 : List Dict)
    (hlen : dbs2.length = s.srv.dbs.length) (hi : dbs2.getD i [] = s.srv.dbs.getD i [])
    (hok : OkHistW (fun j => j = i) s evs) :
    outs (withDbs s dbs2) evs = outs s evs ∧
    (∀ j, j ≠ i → (evs.foldl stepEv s).srv.dbs.getD j [] = s.srv.dbs.getD j []) ∧
    (∀ j, j ≠ i → (evs.foldl stepEv (withDbs s dbs2)).srv.dbs.getD j [] = dbs2.getD j []) ∧
    (evs.foldl stepEv (withDbs s dbs2)).srv.dbs.getD i [] = (evs.foldl stepEv s).srv.dbs.getD i [] := by
  have hag : Agree (fun j => j = i) s (withDbs s dbs2) := ⟨rfl, hlen, fun j hj => by subst hj; exact hi⟩
  have := history_noninterference_send _ evs hag hok
  exact ⟨this.1, this.2.2.1, this.2.2.2, this.2.1.on i rfl⟩

/-- the history theorems of `FR/Props/C13s.lean` are the special case without `.send` -/
theorem okHistW_of_okHist {T : Nat → Prop} {s : Sys} {evs : List Ev} (h : OkHist T s evs) : OkHistW T s evs := h.toW

/-! ## Non-vacuity (state `w0` of `FR/Props/C13s.lean`: database 1 holds `k`, connection 7 selected on database 0) -/

def rSet : List Bytes := [strBytes "SET", strBytes "k", strBytes "v"]
def rGet : List Bytes := [strBytes "GET", strBytes "k"]
def rDbsize : List Bytes := [strBytes "DBSIZE"]

/-- an incomplete request -/
def tailPI : Bytes := strBytes "*1\r\n$4\r\nPI"

/-- one write: `SET k v`, `GET k` pipelined, then the beginning of a `PING` -/
def pipe0 : Bytes := encodeStream [rSet, rGet] ++ tailPI

/-- the write processes the two complete requests, answers both, changes database 0, keeps the tail buffered, and the
model followed the run without complaint -/
example : sendReqs {} 7 pipe0 w0 = [rSet, rGet] ∧ (sendallGuarded {} 7 pipe0 w0).2.out.length = 2 ∧
    keysOf (sendallGuarded {} 7 pipe0 w0).2 0 = [strBytes "k"] ∧
    ((sendallGuarded {} 7 pipe0 w0).2.conn 7).buf = tailPI ∧ (sendallGuarded {} 7 pipe0 w0).2.fault = none := by
  decide +kernel

/-- `sendall_frame` applies to it (side condition through the processed requests) -/
example : (sendallGuarded {} 7 pipe0 w0).2.srv.dbs.getD 1 [] = w0.srv.dbs.getD 1 [] :=
  sendall_frame {} 7 pipe0 w0 (by decide +kernel) 1 (by decide +kernel)

/-- `sendall_frame_encoded` applies as well (side condition on the encoded requests) -/
example : (sendallGuarded {} 7 pipe0 w0).2.srv.dbs.getD 1 [] = w0.srv.dbs.getD 1 [] :=
  sendall_frame_encoded {} 7 [rSet, rGet] tailPI w0 (by decide +kernel) (by decide +kernel) (by decide +kernel) 1
    (by decide +kernel)

/-- the name condition cannot be dropped: a FLUSHALL pipelined behind a GET empties database 1 -/
theorem pipelined_flushall_touches_other_db :
    sendReqs {} 7 (encodeStream [rGet, [strBytes "FLUSHALL"]]) w0 = [rGet, [strBytes "FLUSHALL"]] ∧
    keysOf w0 1 = [strBytes "k"] ∧
    keysOf (sendallGuarded {} 7 (encodeStream [rGet, [strBytes "FLUSHALL"]]) w0).2 1 = [] ∧
    (sendallGuarded {} 7 (encodeStream [rGet, [strBytes "FLUSHALL"]]) w0).2.fault = none := by decide +kernel

/-- `send_noninterference`: the replies of the write do not depend on database 1 holding `k` or not -/
example : (sendallGuarded {} 7 pipe0 (withDbs w0 (List.replicate 16 []))).2.out = (sendallGuarded {} 7 pipe0 w0).2.out :=
  (send_noninterference (fun j => j = 0) {} 7 pipe0 (s1 := w0) (s2 := withDbs w0 (List.replicate 16 []))
    ⟨rfl, by decide +kernel, fun j hj => by subst hj; rfl⟩ (by decide +kernel) (tx_none_ok (by decide +kernel))
    (fun f hf => reqOk_of_name 0 f ((by decide +kernel : ∀ f ∈ sendReqs {} 7 pipe0 w0, NameOk f) f hf))).1

/-- a history of raw writes on connection 7: the pipelined write above; then `PING` is completed and a `DBSIZE` begun;
then the `DBSIZE` is completed (a request split over two writes) -/
def histW : List Ev :=
  [.send {} 7 pipe0 [0, 0] [],
   .send {} 7 (strBytes "NG\r\n" ++ (encodeRequest rDbsize).take 5) [0] [],
   .send {} 7 ((encodeRequest rDbsize).drop 5) [0] []]

/-- a write of a connection on database `i`, outside a transaction, that processes no command crossing databases: a
decidable condition under which `OkEvW` holds -/
def SendNames (i : Nat) (s : Sys) : Ev → Prop
  | .send mode c data clocks picks => (s.conn c).db = i ∧ (s.conn c).tx = none ∧
      ∀ f ∈ sendReqs mode c data (s.beginEvent.withHints clocks picks), NameOk f
  | _ => False

instance (i : Nat) (s : Sys) (e : Ev) : Decidable (SendNames i s e) := by
  cases e <;> unfold SendNames <;> infer_instance

theorem okEvW_of_names {i : Nat} {s : Sys} {e : Ev} (h : SendNames i s e) : OkEvW (fun j => j = i) s e := by
  cases e <;> first | exact h.elim | exact okEvW_send_of_names i s _ _ _ _ _ h.1 h.2.1 h.2.2

theorem histW_ok : OkHistW (fun j => j = 0) w0 histW :=
  okHistW_iff_histAll.2 (HistAll.mono (P := SendNames 0) (fun _ _ => okEvW_of_names) (by decide +kernel))

/-- the three writes answer 2, 1 and 1 requests -/
example : (outs w0 histW).map List.length = [2, 1, 1] := by decide +kernel

/-- the replies of `histW` do not depend on database 1 holding `k` or not -/
example : outs (withDbs w0 (List.replicate 16 [])) histW = outs w0 histW :=
  (history_independent_of_other_dbs_send 0 histW w0 (List.replicate 16 []) (by decide +kernel) rfl histW_ok).1

end FR.Props.C13w

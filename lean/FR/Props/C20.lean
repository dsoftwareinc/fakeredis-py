import FR.Proofs.Prologue
/-!
# C20 — connection life-cycle: outage, close, garbage collection

While `connected` is false every write raises `ConnectionError` and changes nothing, and reconnecting restores the server
(`outage_no_effect`, `reconnect_restores`).  A socket closed by `close()` sits on `closed_sockets` until the next
`_process_command` of any client runs `_cleanup`; after that it is in no subscriber list, watches nothing and receives
nothing (`closed_socket_forgotten`, `publish_skips_forgotten`), and EXEC of another connection does not look at its queue
(`other_exec_ignores_queue`: proved when the other queue holds regular commands, with the hypothesis `BlindAt` for
special ones).  A garbage-collected socket is, on the subscription tables, a closed and cleaned-up one
(`gc_equivalent_to_close`); the clean-up leaves the other connections alone and is idempotent.  When CPython collects a
socket is not modelled: `.gc c` is an event of the history.

`s.conn c` abbreviates `(M.getConn c s).1`; `s.HasConn c` says a connection with id `c` is registered;
`tblMembers t name = (t.lookup name).getD []`.
-/
namespace FR.Props.C20
open FR FR.M

/-! ## outage: every write raises `ConnectionError` and has no effect -/

theorem outage_no_effect (mode : Mode) (c : Nat) (data : Bytes) (s : Sys) (h : s.srv.connected = false) :
    (sendallGuarded mode c data).run s = ((), { s with crashed := some "ConnectionError" }) :=
  sendallGuarded_run_down mode c data s h

/-! ## reconnecting restores the server as it was -/

theorem reconnect_restores (s : Sys) :
    let down : Sys := { s with srv := { s.srv with connected := false } }
    let up : Sys := { down with srv := { down.srv with connected := true } }
    up.srv.dbs = s.srv.dbs ∧ up.srv.scripts = s.srv.scripts ∧ up.srv.subs = s.srv.subs ∧
    up.srv.psubs = s.srv.psubs ∧ up.srv.conns = s.srv.conns ∧ up.srv.time = s.srv.time ∧
    up.srv.closedSockets = s.srv.closedSockets ∧ up.out = s.out ∧
    (s.srv.connected = true → up = s) ∧
    (∀ mode c data, (sendallGuarded mode c data).run up = (sendall mode c data).run up) :=
  ⟨rfl, rfl, rfl, rfl, rfl, rfl, rfl, rfl, fun h => by rw [← h],
    fun mode c data => sendallGuarded_run_up mode c data _ rfl⟩

theorem connected_sendall (mode : Mode) (c : Nat) (data : Bytes) (s : Sys) (h : s.srv.connected = true) :
    (sendallGuarded mode c data).run s = (sendall mode c data).run s :=
  sendallGuarded_run_up mode c data s h

/-! ## a closed socket is forgotten by the next processed command of any client -/

/-- a socket that sits on `closedSockets` when the clean-up runs is forgotten by it -/
theorem cleanup_forgets_closed (s : Sys) (c : Nat) (hc : c ∈ s.srv.closedSockets) :
    let s' := (cleanupClosed s).2
    (∀ p ∈ s'.srv.subs, c ∉ p.2) ∧ (∀ p ∈ s'.srv.psubs, c ∉ p.2) ∧
    (s'.conn c).watches = [] ∧ (s'.conn c).watchNotified = false ∧ s'.srv.closedSockets = [] ∧
    (∀ ch msg r, (c, r) ∉ deliveries s'.srv ch msg) := by
  intro s'
  obtain ⟨h1, h2, h3, h4, h5⟩ := cleanupClosed_forgets s c hc
  exact ⟨h1, h2, h3, h4, h5, fun ch msg r => not_mem_deliveries_of_forgotten _ c h1 h2 ch msg r⟩

/-- after `closeConn c` and the `cleanupClosed` that the next command of any client runs first -/
theorem closed_socket_forgotten (s : Sys) (c : Nat) :
    let s' := (cleanupClosed (closeConn c s).2).2
    (∀ p ∈ s'.srv.subs, c ∉ p.2) ∧ (∀ p ∈ s'.srv.psubs, c ∉ p.2) ∧
    (s'.conn c).watches = [] ∧ (s'.conn c).watchNotified = false ∧ s'.srv.closedSockets = [] ∧
    (∀ ch msg r, (c, r) ∉ deliveries s'.srv ch msg) :=
  cleanup_forgets_closed (closeConn c s).2 c (by show c ∈ s.srv.closedSockets ++ [c]; simp)

/-- the closed connection stays closed through the clean-up -/
theorem closed_stays_closed (s : Sys) (c : Nat) (hc : s.HasConn c) :
    ((cleanupClosed (closeConn c s).2).2.conn c).closed = true := by
  have h0 : ((closeConn c s).2.conn c).closed = true := by
    rw [closeConn_run]
    exact congrArg Conn.closed (Sys.conn_updConn_same (s := { s with srv := { s.srv with closedSockets := s.srv.closedSockets ++ [c] } })
      (fun x => { x with closed := true }) hc (fun _ => rfl))
  rcases cleanupClosed_conn_any (closeConn c s).2 c with h | h <;> rw [h] <;> exact h0

/-- a reply for a closed connection is dropped: its requests are never answered -/
theorem closed_emits_nothing (c : Nat) (r : Reply) (s : Sys) (h : (s.conn c).closed = true) :
    (emit c r).run s = ((), s) := by
  show emit c r s = _
  rw [emit_run, Sys.emitS, h]
  rfl

/-- PUBLISH after the clean-up: the count is the number of remaining receivers and none of them is `c` -/
theorem publish_skips_forgotten (s : Sys) (c : Nat) (ch msg : Bytes) :
    let s' := (cleanupClosed (closeConn c s).2).2
    (publish ch msg s').1 = (deliveries s'.srv ch msg).length ∧ ∀ d ∈ deliveries s'.srv ch msg, d.1 ≠ c := by
  intro s'
  refine ⟨by rw [publish_run], ?_⟩
  rintro ⟨c', r⟩ hd rfl
  exact (closed_socket_forgotten s c').2.2.2.2.2 ch msg r hd

/-- EXEC of another connection `c'` neither reads nor changes the MULTI queue of `c` (so the queue of a closed
connection is never run): replacing that queue by `q` beforehand changes nothing but that queue.  `BlindAt c inner sig args`
is the same statement for one nested command; it is proved for the regular commands (`runInner_regular_blind`) and is a
hypothesis for the special ones. -/
theorem other_exec_ignores_queue (inner : Inner) (c c' : Nat) (hne : c' ≠ c) (cis : List CI)
    (q : Option (List (String × List Bytes))) (s : Sys)
    (hb : ∀ l, (s.conn c').tx = some l → ∀ a ∈ l, ∀ sig, SigTable.find a.1 = some sig → BlindAt c inner sig a.2) :
    (execCmd inner c' cis).run (s.withTx c q) =
      (((execCmd inner c' cis).run s).1, ((execCmd inner c' cis).run s).2.withTx c q) :=
  execCmd_withTx inner c c' hne cis q s hb

/-- `other_exec_ignores_queue` when the queue of `c'` holds regular commands (pure functions of the selected database)
only: no hypothesis is left -/
theorem other_exec_ignores_queue_regular (mode : Mode) (c c' : Nat) (hne : c' ≠ c) (cis : List CI)
    (q : Option (List (String × List Bytes))) (s : Sys)
    (hreg : ∀ l, (s.conn c').tx = some l → ∀ a ∈ l, ∀ sig, SigTable.find a.1 = some sig →
      (Cmd.regular sig.name).isSome = true) :
    (execCmd (runInner mode c') c' cis).run (s.withTx c q) =
      (((execCmd (runInner mode c') c' cis).run s).1, ((execCmd (runInner mode c') c' cis).run s).2.withTx c q) := by
  apply execCmd_withTx (runInner mode c') c c' hne cis q s
  intro l hl a ha sig hsig
  have h := hreg l hl a ha sig hsig
  cases hbody : Cmd.regular sig.name with
  | none => rw [hbody] at h; cases h
  | some body => exact runInner_regular_blind mode c c' hne sig a.2 hbody

/-! ## garbage collection = close + clean-up, on the subscription tables -/

theorem gc_equivalent_to_close (s : Sys) (c : Nat) (h : s.srv.closedSockets = []) :
    (gcConn c s).2.srv.subs = (cleanupClosed (closeConn c s).2).2.srv.subs ∧
    (gcConn c s).2.srv.psubs = (cleanupClosed (closeConn c s).2).2.srv.psubs ∧
    (gcConn c s).2.srv.closedSockets = (cleanupClosed (closeConn c s).2).2.srv.closedSockets ∧
    (gcConn c s).2.srv.dbs = (cleanupClosed (closeConn c s).2).2.srv.dbs ∧
    ¬ (gcConn c s).2.HasConn c ∧
    (∀ c', c' ≠ c → (gcConn c s).2.conn c' = (cleanupClosed (closeConn c s).2).2.conn c') := by
  have hcs : (closeConn c s).2.srv.closedSockets = [c] := by
    show s.srv.closedSockets ++ [c] = [c]
    rw [h]; rfl
  refine ⟨?_, ?_, ?_, ?_, gcConn_not_hasConn c s, ?_⟩
  · rw [cleanupClosed_subs, hcs, stripAll_singleton]; rfl
  · rw [cleanupClosed_psubs, hcs, stripAll_singleton]; rfl
  · rw [cleanupClosed_run, gcConn_run]
    show s.srv.closedSockets.filter (· != c) = []
    rw [h]; rfl
  · rw [cleanupClosed_eq, gcConn_run]
    rfl
  · intro c' hne
    rw [gcConn_conn_other c c' s hne, cleanupClosed_conn_other]
    · rw [closeConn_run]
      exact (Sys.conn_updConn_ne (s := { s with srv := { s.srv with closedSockets := s.srv.closedSockets ++ [c] } })
        (fun x => { x with closed := true }) hne (fun _ => rfl)).symm
    · rw [hcs]; simpa using hne

/-! ## the clean-up leaves the other connections alone -/

theorem cleanup_idempotent_for_others (s : Sys) (c : Nat) (hc : c ∉ s.srv.closedSockets) :
    let s' := (cleanupClosed s).2
    (∀ name, c ∈ tblMembers s'.srv.subs name ↔ c ∈ tblMembers s.srv.subs name) ∧
    (∀ pat, c ∈ tblMembers s'.srv.psubs pat ↔ c ∈ tblMembers s.srv.psubs pat) ∧
    (∀ ch msg r, (c, r) ∈ deliveries s'.srv ch msg ↔ (c, r) ∈ deliveries s.srv ch msg) ∧
    s'.conn c = s.conn c ∧ (s'.HasConn c ↔ s.HasConn c) ∧
    (∀ c', (s'.conn c').tx = (s.conn c').tx) := by
  intro s'
  refine ⟨?_, ?_, ?_, cleanupClosed_conn_other s c hc, cleanupClosed_hasConn s c, ?_⟩
  · intro name
    show c ∈ tblMembers (cleanupClosed s).2.srv.subs name ↔ _
    rw [cleanupClosed_subs]; exact mem_tblMembers_stripAll _ _ _ _ hc
  · intro pat
    show c ∈ tblMembers (cleanupClosed s).2.srv.psubs pat ↔ _
    rw [cleanupClosed_psubs]; exact mem_tblMembers_stripAll _ _ _ _ hc
  · intro ch msg r
    exact mem_deliveries_stripAll s.srv _ _ (cleanupClosed_subs s) (cleanupClosed_psubs s) c hc ch msg r
  · intro c'
    rcases cleanupClosed_conn_any s c' with h | h <;> rw [h] <;> rfl

theorem cleanup_idempotent (s : Sys) : cleanupClosed (cleanupClosed s).2 = ((), (cleanupClosed s).2) :=
  cleanupClosed_run_nil (by rw [cleanupClosed_run]; rfl)

/-! ## non-vacuity -/

/-- connection 1 subscribed to channel `[99]` and pattern `[42]`, watching a key; connection 2 subscribed to `[99]` -/
def c1 : Conn := { id := 1, pubsub := 2, watches := [(0, [7])], watchNotified := true }
def srv0 : Server := { subs := [([99], [1, 2])], psubs := [([42], [1])], conns := [c1, { id := 2, pubsub := 1 }] }
def s0 : Sys := { srv := srv0 }

example : (chanDeliveries s0.srv [99] [5]).map Prod.fst = [1, 2] := by decide
example : (chanDeliveries (cleanupClosed (closeConn 1 s0).2).2.srv [99] [5]).map Prod.fst = [2] := by decide
example : (cleanupClosed (closeConn 1 s0).2).2.srv.psubs = [([42], [])] := by decide
example : (gcConn 1 s0).2.srv.subs = [([99], [2])] ∧ (gcConn 1 s0).2.srv.psubs = [([42], [])] := by decide
example : ((cleanupClosed (closeConn 1 s0).2).2.conn 1).watches = [] ∧
    ((cleanupClosed (closeConn 1 s0).2).2.conn 1).closed = true ∧
    ((closeConn 1 s0).2.conn 1).watches = [(0, [7])] ∧ (closeConn 1 s0).2.srv.closedSockets = [1] := by decide
example : ∃ sig body, SigTable.find "get" = some sig ∧ Cmd.regular sig.name = some body := ⟨_, _, rfl, rfl⟩
example : ((s0.withTx 1 (some [("get", [[7]])])).conn 1).tx = some [("get", [[7]])] ∧
    ((s0.withTx 1 (some [("get", [[7]])])).conn 2).tx = none := by decide
example : ((sendallGuarded {} 1 [1, 2, 3]).run { s0 with srv := { s0.srv with connected := false } }).2.crashed
    = some "ConnectionError" := rfl

end FR.Props.C20

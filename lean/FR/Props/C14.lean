import FR.Proofs.AsyncLife
import FR.Proofs.Conserve
/-!
# C14 — the asyncio front-end gives the same replies as the sync front-end

`Mode.async` selects `blockingAsync` (`AsyncFakeSocket._blocking`) instead of `blocking`; nothing else looks at the mode.
The script commands (EVAL / EVALSHA / SCRIPT) hand the mode to the commands a script calls, but a script cannot call a
blocking pop (BLPOP / BRPOP / BRPOPLPUSH are flagged `no_script`: the gate refuses them before their body runs), so
script commands - issued directly or queued in a MULTI - do not look at the mode either (`script_mode_irrelevant`).
`s.conn c` abbreviates `(M.getConn c s).1`; `s.HasConn c` says a connection with id `c` is registered;
`lookupSig nameB` is the signature `processCommand` looks up from the first field of a request;
`Pass = Bool → M (Except Err (Option Reply))` is one pass of a blocking pop (`bpopPass`, `brpoplpushPass`);
`Framed x` says that the computation `x` changes only the databases and the notification flags
(`watchNotified`, `parked.woken`) of connection records (`PassFrame`).
-/
namespace FR.Props.C14
open FR FR.M

/-! ## 1. the mode matters for the three blocking commands only -/

theorem special_mode_irrelevant_nonblocking (inner : Inner) (m1 m2 : Mode) (c : Nat) (name : String)
    (args : List Arg) (cis : List CI) (h : name ∉ ["blpop", "brpop", "brpoplpush"]) :
    special inner m1 c name args cis = special inner m2 c name args cis :=
  special_mode_irrel inner m1 m2 c name args cis h

theorem runCommand_mode_irrelevant (m1 m2 : Mode) (c : Nat) (sig : Sig) (raw : List Bytes) (fromScript : Bool)
    (h : sig.name ∉ ["blpop", "brpop", "brpoplpush"]) (hx : sig.name ≠ "exec") :
    runCommand m1 c sig raw fromScript = runCommand m2 c sig raw fromScript :=
  runCommand_mode_irrel m1 m2 c sig raw fromScript h hx

/-- the script commands themselves: same on both front-ends (a script cannot call a blocking pop) -/
theorem script_mode_irrelevant (m1 m2 : Mode) (c : Nat) (sig : Sig) (raw : List Bytes) (fromScript : Bool) :
    runScriptCmd m1 c sig raw fromScript = runScriptCmd m2 c sig raw fromScript :=
  runScriptCmd_mode_irrel m1 m2 c sig raw fromScript

/-- every call a script makes (`redis.call` / `redis.pcall`: `_run_command(…, from_script = True)`) is the same on
both front-ends -/
theorem script_call_mode_irrelevant (inner : Inner) (m1 m2 : Mode) (c : Nat) (op : LuaVal) (args : List LuaVal) :
    runFromScript (special inner) m1 c op args = runFromScript (special inner) m2 c op args :=
  runFromScript_mode_irrel inner m1 m2 c op args

/-- the commands EXEC runs (queued script commands included): same on both front-ends unless it is a blocking pop -/
theorem runInner_mode_irrelevant (m1 m2 : Mode) (c : Nat) (sig : Sig) (raw : List Bytes)
    (h : sig.name ∉ ["blpop", "brpop", "brpoplpush"]) : runInner m1 c sig raw = runInner m2 c sig raw :=
  runInner_mode_irrel m1 m2 c sig raw h

theorem processCommand_mode_irrelevant (m1 m2 : Mode) (c : Nat) (nameB : Bytes) (args : List Bytes)
    (h : ∀ sig, lookupSig nameB = some sig → sig.name ∉ ["blpop", "brpop", "brpoplpush"] ∧ sig.name ≠ "exec") :
    processCommand m1 c (nameB :: args) = processCommand m2 c (nameB :: args) :=
  processCommand_mode_irrel m1 m2 c nameB args h

/-- including EXEC, when the MULTI queue of the connection holds no blocking pop (it may hold script commands) -/
theorem processCommand_mode_irrelevant_exec (m1 m2 : Mode) (c : Nat) (nameB : Bytes) (args : List Bytes) (s : Sys)
    (h : ∀ sig, lookupSig nameB = some sig → sig.name ∉ ["blpop", "brpop", "brpoplpush"])
    (hq : ∀ q, (s.conn c).tx = some q → ∀ a ∈ q, a.1 ∉ ["blpop", "brpop", "brpoplpush"]) :
    (processCommand m1 c (nameB :: args)).run s = (processCommand m2 c (nameB :: args)).run s :=
  processCommand_exec_mode_irrel m1 m2 c nameB args s h hq

/-- non-vacuity: EVAL is covered by `runCommand_mode_irrelevant` / `processCommand_mode_irrelevant` -/
example : ∃ sig, SigTable.find "eval" = some sig ∧ sig.name ∉ ["blpop", "brpop", "brpoplpush"] ∧ sig.name ≠ "exec" :=
  ⟨_, rfl, by decide, by decide⟩

/-- `processCommand` of an empty request does nothing on either front-end -/
theorem processCommand_nil (m1 m2 : Mode) (c : Nat) : processCommand m1 c [] = processCommand m2 c [] := rfl

/-! ## 2. a pop that is served at once: both primitives just return it -/

theorem blockingAsync_eq_blocking_when_served (c : Nat) (park : Bool) (kind : String) (keys : List Bytes)
    (timeout : Int) (pass : Pass) (s : Sys)
    (h : (∃ e, (pass true s).1 = .error e) ∨ (∃ r, (pass true s).1 = .ok (some r))) :
    (blockingAsync c kind keys pass).run s = (blocking c park kind keys timeout pass).run s ∧
    (blockingAsync c kind keys pass).run s = pass true s := by
  show blockingAsync c kind keys pass s = blocking c park kind keys timeout pass s ∧
    blockingAsync c kind keys pass s = pass true s
  rw [blockingAsync_run, blocking_run]
  generalize pass true s = res at h
  obtain ⟨r0, s1⟩ := res
  rcases h with ⟨e, he⟩ | ⟨r, hr'⟩
  · simp only at he; subst he
    exact ⟨rfl, rfl⟩
  · simp only at hr'; subst hr'
    exact ⟨rfl, rfl⟩

/-! ## 3. inside MULTI/EXEC a blocking pop never blocks, on either front-end -/

theorem blocking_in_tx_same (c : Nat) (park : Bool) (kind : String) (keys : List Bytes) (timeout : Int)
    (pass : Pass) (s : Sys) (hnone : (pass true s).1 = .ok none) (htx : ((pass true s).2.conn c).inTx = true) :
    (blockingAsync c kind keys pass).run s = (.ok (some .nil), (pass true s).2) ∧
    (blocking c park kind keys timeout pass).run s = (.ok (some .nil), (pass true s).2) := by
  show blockingAsync c kind keys pass s = _ ∧ blocking c park kind keys timeout pass s = _
  rw [blockingAsync_run, blocking_run, hnone]
  exact ⟨if_pos htx, if_pos htx⟩

/-- with a framed pass (`bpopPass`, `brpoplpushPass`) the flag can be read before the pass; whatever the pass
returns, the two primitives agree: same result, same state -/
theorem blocking_in_tx_same_framed (c : Nat) (park : Bool) (kind : String) (keys : List Bytes) (timeout : Int)
    (pass : Pass) (hpass : Framed (pass true)) (s : Sys) (htx : (s.conn c).inTx = true) :
    (blockingAsync c kind keys pass).run s = (blocking c park kind keys timeout pass).run s := by
  show blockingAsync c kind keys pass s = blocking c park kind keys timeout pass s
  have htx1 : ((pass true s).2.conn c).inTx = true := ((hpass.frame s).inTx c).trans htx
  exact (blockCall_inTx ⟨false, true⟩ c kind keys 0 pass s htx1).trans
    (blockCall_inTx ⟨park, false⟩ c kind keys timeout pass s htx1).symm

theorem bpopPass_framed (d : Nat) (left first : Bool) (keys : List Bytes) : Framed (bpopPass d left first keys) :=
  framed_bpopPass d left first keys

theorem brpoplpushPass_framed (d : Nat) (src dst : Bytes) (first : Bool) : Framed (brpoplpushPass d src dst first) :=
  framed_brpoplpushPass d src dst first

/-! ## 4. otherwise the asyncio primitive parks the connection and pauses its parser -/

theorem blockingAsync_parks_and_pauses (c : Nat) (kind : String) (keys : List Bytes) (pass : Pass) (s : Sys)
    (hnone : (pass true s).1 = .ok none) (htx : ((pass true s).2.conn c).inTx = false)
    (hc : (pass true s).2.HasConn c) :
    let s1 := (pass true s).2
    let res := (blockingAsync c kind keys pass).run s
    res.1 = .ok none ∧ (res.2.conn c).paused = true ∧
    (res.2.conn c).parked = some { kind := kind, keys := keys, db := (s1.conn c).db, deadline := none, woken := false } ∧
    res.2.out = s1.out ∧ res.2.clocks = s1.clocks ∧ res.2.srv.dbs = s1.srv.dbs := by
  generalize hr : pass true s = res0 at hnone htx hc
  obtain ⟨r0, s1⟩ := res0
  simp only at hnone htx hc; subst hnone
  intro s1' res
  have e : res = (.ok none, s1.updConn c (parkAsync kind keys (s1.conn c).db)) := by
    show blockingAsync c kind keys pass s = _
    rw [blockingAsync_run, hr]
    simp only [Sys.unserved, htx]
    rfl
  rw [e]
  have hconn := Sys.conn_updConn_same (s := s1) (c := c)
    (fun x => { x with paused := true, parked := some { kind := kind, keys := keys, db := (s1.conn c).db, deadline := none } })
    hc (fun _ => rfl)
  refine ⟨rfl, ?_, ?_, rfl, rfl, rfl⟩
  · exact congrArg Conn.paused hconn
  · exact congrArg Conn.parked hconn

/-- for a framed pass: no reply, no clock reading, relative to the state before the call -/
theorem blockingAsync_parks_and_pauses_framed (c : Nat) (kind : String) (keys : List Bytes) (pass : Pass)
    (hpass : Framed (pass true)) (s : Sys)
    (hnone : (pass true s).1 = .ok none) (htx : (s.conn c).inTx = false) (hc : s.HasConn c) :
    let res := (blockingAsync c kind keys pass).run s
    res.1 = .ok none ∧ (res.2.conn c).paused = true ∧
    (res.2.conn c).parked = some { kind := kind, keys := keys, db := (s.conn c).db, deadline := none, woken := false } ∧
    res.2.out = s.out ∧ res.2.clocks = s.clocks ∧ res.2.srv.dbs = (pass true s).2.srv.dbs := by
  have f := hpass.frame s
  obtain ⟨h1, h2, h3, h4, h5, h6⟩ := blockingAsync_parks_and_pauses c kind keys pass s hnone
    ((f.inTx c).trans htx) ((f.hasConn c).2 hc)
  intro res
  refine ⟨h1, h2, ?_, h4.trans f.out, h5.trans f.clocks, h6⟩
  rw [← f.db c]; exact h3

/-! ## 5. a paused connection only buffers what it is sent -/

theorem paused_buffers (mode : Mode) (c : Nat) (data : Bytes) (s : Sys)
    (hp : (s.conn c).paused = true) (hd : (s.conn c).dead = false) :
    (sendall mode c data).run s = ((), s.updConn c fun x => { x with buf := x.buf ++ data }) ∧
    ((sendall mode c data).run s).2.out = s.out ∧
    (((sendall mode c data).run s).2.conn c).buf = (s.conn c).buf ++ data ∧
    ((sendall mode c data).run s).2.srv.dbs = s.srv.dbs := by
  have e : (sendall mode c data).run s = _ := sendall_paused mode c data s hp hd
  rw [e]
  refine ⟨rfl, rfl, ?_, rfl⟩
  exact congrArg Conn.buf (Sys.conn_updConn_same (fun x => { x with buf := x.buf ++ data })
    (Sys.hasConn_of_paused hp) (fun _ => rfl))

theorem paused_drain_returns (mode : Mode) (c : Nat) (fuel : Nat) (s : Sys) (hp : (s.conn c).paused = true) :
    (drain mode c fuel).run s = ((), s) :=
  drain_paused mode c fuel s hp

/-! ## 6. the re-try task / the time-out: exactly one reply, before anything that was pipelined -/

theorem wakeConnAsync_one_reply (mode : Mode) (c : Nat) (s : Sys) (p : Parked)
    (hp : (s.conn c).parked = some p) (hcl : (s.conn c).closed = false) :
    let s1 := (parkedPass c p s).2
    ((parkedPass c p s).1 = .ok none ∧
      (wakeConnAsync mode c).run s = ((), s1.updConn c fun x => { x with parked := some { p with woken := false } }) ∧
      (((wakeConnAsync mode c).run s).2.conn c).parked = some { p with woken := false } ∧
      (((wakeConnAsync mode c).run s).2.conn c).paused = (s.conn c).paused ∧
      ((wakeConnAsync mode c).run s).2.out = s.out) ∨
    (∃ r s3, ((parkedPass c p s).1 = .ok (some r) ∨ ∃ e, (parkedPass c p s).1 = .error e ∧ r = .err (strBytes e)) ∧
      s3.out = (c, r) :: s.out ∧ (s3.conn c).parked = none ∧ (s3.conn c).paused = false ∧
      (s3.conn c).buf = (s.conn c).buf ∧ s3.srv.dbs = s1.srv.dbs ∧
      (wakeConnAsync mode c).run s = (drain mode c ((s3.conn c).buf.length + 1)).run s3) := by
  have f := (framed_parkedPass c p).frame s
  have hc1 : (parkedPass c p s).2.HasConn c := (f.hasConn c).2 (Sys.hasConn_of_parked hp)
  have e : (wakeConnAsync mode c).run s = _ := wakeConnAsync_eq mode c s
  rw [hp] at e
  dsimp only at e
  intro s1
  cases hw : ListKeys.passReply (parkedPass c p s).1 with
  | some r =>
    rw [hw] at e
    obtain ⟨g, gout, gdbs, _⟩ := Sys.updConn_emitS_facts _ c Conn.unpark r hc1 (fun _ => rfl) (fun _ => rfl)
    exact .inr ⟨r, _, ListKeys.passReply_eq_some.1 hw, by rw [gout, f.closed c, hcl, f.out]; rfl, congrArg Conn.parked g,
      congrArg Conn.paused g, (congrArg Conn.buf g).trans (f.buf c), gdbs, e⟩
  | none =>
    rw [hw] at e
    have hconn := Sys.conn_updConn_same (stayParked p) hc1 (fun _ => rfl)
    rw [e]
    exact .inl ⟨ListKeys.passReply_eq_none hw, rfl, congrArg Conn.parked hconn,
      (congrArg Conn.paused hconn).trans (f.paused c), f.out⟩

theorem timeoutConnAsync_one_reply (mode : Mode) (c : Nat) (s : Sys) (p : Parked)
    (hp : (s.conn c).parked = some p) (hcl : (s.conn c).closed = false) :
    ∃ s3, s3.out = (c, Reply.nil) :: s.out ∧ (s3.conn c).parked = none ∧ (s3.conn c).paused = false ∧
      (s3.conn c).buf = (s.conn c).buf ∧ s3.srv.dbs = s.srv.dbs ∧
      (timeoutConnAsync mode c).run s = (drain mode c ((s3.conn c).buf.length + 1)).run s3 := by
  obtain ⟨g, gout, gdbs, _⟩ := Sys.updConn_emitS_facts s c Conn.unpark .nil (Sys.hasConn_of_parked hp) (fun _ => rfl)
    (fun _ => rfl)
  exact ⟨_, by rw [gout, hcl]; rfl, congrArg Conn.parked g, congrArg Conn.paused g, (congrArg Conn.buf g).trans rfl, gdbs,
    (timeoutConnAsync_eq mode c s).trans (by rw [hp]; rfl)⟩

/-- in the newest-first convention of `Sys.out`: the reply of the blocking pop precedes whatever the resumed parser
emits, provided `processCommand` only ever appends to `out` -/
theorem wakeConnAsync_reply_first (mode : Mode) (c : Nat) (s : Sys) (p : Parked)
    (hp : (s.conn c).parked = some p) (hcl : (s.conn c).closed = false)
    (hpc : ∀ fields (s : Sys), ∃ l, (processCommand mode c fields s).2.out = l ++ s.out)
    (hserved : (parkedPass c p s).1 ≠ .ok none) :
    ∃ r drainOut, ((wakeConnAsync mode c).run s).2.out = drainOut ++ [(c, r)] ++ s.out := by
  rcases wakeConnAsync_one_reply mode c s p hp hcl with ⟨h, _⟩ | ⟨r, s3, _, h1, _, _, _, _, h2⟩
  · exact absurd h hserved
  · obtain ⟨l, hl⟩ := drain_out_mono mode c hpc ((s3.conn c).buf.length + 1) s3
    refine ⟨r, l, ?_⟩
    rw [h2]
    show (drain mode c ((s3.conn c).buf.length + 1) s3).2.out = _
    rw [hl, h1]; simp

theorem timeoutConnAsync_reply_first (mode : Mode) (c : Nat) (s : Sys) (p : Parked)
    (hp : (s.conn c).parked = some p) (hcl : (s.conn c).closed = false)
    (hpc : ∀ fields (s : Sys), ∃ l, (processCommand mode c fields s).2.out = l ++ s.out) :
    ∃ drainOut, ((timeoutConnAsync mode c).run s).2.out = drainOut ++ [(c, Reply.nil)] ++ s.out := by
  obtain ⟨s3, h1, _, _, _, _, h2⟩ := timeoutConnAsync_one_reply mode c s p hp hcl
  obtain ⟨l, hl⟩ := drain_out_mono mode c hpc ((s3.conn c).buf.length + 1) s3
  refine ⟨l, ?_⟩
  rw [h2]
  show (drain mode c ((s3.conn c).buf.length + 1) s3).2.out = _
  rw [hl, h1]; simp

/-! ## 7. only the connection's own parser is suspended -/

theorem only_own_connection_suspends (c : Nat) (kind : String) (keys : List Bytes) (pass : Pass) (s : Sys)
    (c' : Nat) (hne : c' ≠ c) :
    ((blockingAsync c kind keys pass).run s).2.conn c' = (pass true s).2.conn c' := by
  rcases FR.Conserve.blockingAsync_state c kind keys pass s with h | ⟨_, _, h⟩
  · exact h.conn c'
  · rw [show ((blockingAsync c kind keys pass).run s).2 = _ from h]; exact Sys.conn_updConn_ne _ hne (fun _ => rfl)

theorem only_own_connection_suspends_framed (c : Nat) (kind : String) (keys : List Bytes) (pass : Pass)
    (hpass : Framed (pass true)) (s : Sys) (c' : Nat) (hne : c' ≠ c) :
    (((blockingAsync c kind keys pass).run s).2.conn c').core = (s.conn c').core ∧
    (((blockingAsync c kind keys pass).run s).2.conn c').paused = (s.conn c').paused ∧
    (((blockingAsync c kind keys pass).run s).2.conn c').buf = (s.conn c').buf := by
  have e := only_own_connection_suspends c kind keys pass s c' hne
  rw [e]
  exact ⟨(hpass.frame s).conn c', (hpass.frame s).paused c', (hpass.frame s).buf c'⟩

/-! ## non-vacuity -/

def c1 : Conn := { id := 1 }
def s0 : Sys := { srv := { conns := [c1, { id := 2 }] } }

/-- BLPOP on a missing key: the asyncio primitive parks and pauses connection 1 and leaves connection 2 alone -/
example :
    let r := (blockingAsync 1 "blpop" [[7]] (fun first => bpopPass 0 true first [[7]])).run s0
    (r.2.conn 1).paused = true ∧ (r.2.conn 1).parked.isSome = true ∧ (r.2.conn 2).paused = false ∧ r.2.out = [] := by
  decide

/-- the parked, paused connection: data sent meanwhile is buffered; the time-out answers nil and resumes the parser -/
def p1 : Parked := { kind := "blpop", keys := [[7]], db := 0, deadline := none }
def sP : Sys := { srv := { conns := [{ id := 1, paused := true, parked := some p1 }, { id := 2 }] } }

example : (((sendall {} 1 [42]).run sP).2.conn 1).buf = [42] ∧ ((sendall {} 1 [42]).run sP).2.out.length = 0 := by decide
example : (match ((timeoutConnAsync {} 1).run sP).2.out with | [(1, .nil)] => true | _ => false) = true ∧
    (((timeoutConnAsync {} 1).run sP).2.conn 1).paused = false := by decide
example : ((wakeConnAsync {} 1).run sP).2.out.length = 0 ∧ (((wakeConnAsync {} 1).run sP).2.conn 1).paused = true := by decide

/-- `GeT` is looked up as `get`: neither blocking nor EXEC -/
example : ∃ sig, lookupSig [71, 101, 84] = some sig ∧ sig.name ∉ ["blpop", "brpop", "brpoplpush"] ∧
    sig.name ≠ "exec" ∧ sig.name ∉ ["eval", "evalsha", "script"] :=
  ⟨_, lookupSig_GeT, by decide, by decide, by decide⟩

end FR.Props.C14

import FR.Proofs.C18aUnique
import FR.Props.C03
import FR.Props.C03z
import FR.Proofs.ZStore
/-!
# C18a — the soft-float arithmetic is IEEE-754 binary64 round-to-nearest-even arithmetic

Vocabulary (definitions in `FR/Proofs/C18aArith.lean`; none of them is used by the model):
* `Dbl.WF d` — the canonical representation: for `fin neg m e`: `m < 2^53`, `-1074 ≤ e ≤ 971`, `2^52 ≤ m ∨ e = -1074`,
  `m = 0 → e = -1074`; the infinities and the NaN are well-formed (decidable; `wf_iff_codec`: exactly the doubles that
  survive `ofBits ∘ toBits`);
* `Dbl.val d : ℚ` — `(-1)^neg · m · 2^e` for `fin neg m e` (0 otherwise), `Dbl.toRat d : Option ℚ` — `some (val d)` for a
  finite double, `none` for `±inf` / NaN; `Dbl.signBit`;
* `Dbl.RN z q : Dbl` — the rounding specification: `q = 0 ↦ ` the zero with sign bit `z`; otherwise `roundAbs (q < 0) q`, the
  function proved in C18f to be what decimal parsing computes.  §2a says what it means without reference to `roundPos`:
  canonical, never NaN, sign of `q`, infinite iff `|q| ≥ 2^1024 − 2^970`, otherwise a double nearest to `q` among all
  canonical doubles, within half an ulp, ties to the even significand, zero iff `|q| ≤ 2^-1075`, identity on the values
  of canonical doubles, monotone.

Contents (every statement is for all inputs satisfying the stated decidable hypotheses):
* §1 `WF` is preserved by everything (`roundPos_wf`, `add_wf`, `mul_wf`, `ofInt_wf`, `ofBits_wf`, `pyMax_wf`, …).
* §2a the specification `RN` (`RN_wf`, `RN_sign`, `RN_overflow_iff`, `RN_nearest`, `RN_half_ulp`, `RN_tie_even`,
  `RN_tie_even_def`, `RN_underflow_iff`, `RN_exact`, `RN_mono`) and its completeness: `RN_isRNE`, `isRNE_unique` —
  `Dbl.IsRNE q d` is the textbook definition of a correctly rounded result, stated without any function of the model, and
  `RN` is the unique function satisfying it.
* §2b the main theorems: `add_correctly_rounded`, `mul_correctly_rounded` (no well-formedness needed: every pair of finite operands),
  `add_isRNE`, `mul_isRNE`,
  the signed-zero rules, `add_half_ulp`, `mul_half_ulp`, `add_nearest`, `mul_nearest`, overflow/underflow thresholds.
* §2c exact cases: `add_exact`, `mul_exact`, `add_neg_self`, `mul_one`, `add_zero`, `plusZero_spec`, `add_ofInt`, `mul_ofInt`.
* §2d all `Dbl`: `add_comm`, `mul_comm`, special values, `add_eq_nan_iff`, `mul_eq_nan_iff`, `add_mono`.
* §3 order: `lt_iff_val`, `eq_iff_val`, `le_iff_val`, `val_inj`, infinities, NaN, `pyMax_spec`, `pyMin_spec`
  (strict weak order: `FR.Props.C03.dbl_strict_weak_order`).
* §4 bits and integers: `ofBits_toBits`, `toBits_ofBits`, `ofBits_nan_iff`, `toBits_injective`, `ofInt_exact`,
  `ofInt_correctly_rounded`, `truncToInt_spec`.
* §5 commands: `incrbyfloat_correctly_rounded`, `hincrbyfloat_correctly_rounded`, `zincrby_correctly_rounded`,
  `zincrby_nan_iff` (ZADD … INCR is ZINCRBY by `C03z.zadd_table`), `zunion_arith` (the score formula of ZUNIONSTORE / ZINTERSTORE).
* §6 statements that are false as first written, with kernel-checked witnesses: `add_zero_full_false` (`-0 + 0 = +0`),
  `mul_ofInt_full_false` (`0 * -5 = -0`), `toBits_ofBits_full_false` (NaN payloads collapse),
  `roundPos_wf_full_false` (zero denominator).
-/
namespace FR.Props.C18a
open FR FR.C18a FR.C18f FR.DumpRound

/-- the overflow threshold: the midpoint between the largest double `2^1024 − 2^971` and `2^1024` -/
def ovfQ : ℚ := (2 : ℚ) ^ 1024 - (2 : ℚ) ^ 970

/-! ## 1. Well-formedness -/

/-- `WF` = the canonical form of C18f/C01d (`Canon`) = the doubles that survive the 64-bit codec -/
theorem wf_iff_codec (d : Dbl) : Dbl.WF d ↔ Dbl.ofBits (Dbl.toBits d) = d :=
  (wf_iff_canon d).trans (canon_iff d)

theorem roundPos_wf (neg : Bool) (num den : Nat) (hd : 0 < den) : Dbl.WF (Dbl.roundPos neg num den) :=
  (wf_iff_canon _).mpr (roundPos_canon neg num den hd)

/-- every arithmetic operation returns a well-formed double, whatever the operands -/
theorem add_wf (a b : Dbl) : Dbl.WF (Dbl.add a b) := (wf_iff_canon _).mpr (add_canon a b)
theorem mul_wf (a b : Dbl) : Dbl.WF (Dbl.mul a b) := (wf_iff_canon _).mpr (mul_canon a b)
theorem ofInt_wf (n : Int) : Dbl.WF (Dbl.ofInt n) := (wf_iff_canon _).mpr (ofInt_canon n)
theorem ofBits_wf (b : UInt64) : Dbl.WF (Dbl.ofBits b) := (wf_iff_canon _).mpr (canon_ofBits b)
theorem plusZero_wf (d : Dbl) : Dbl.WF d.plusZero := (wf_iff_canon _).mpr (plusZero_canon d)
theorem ofDecimal_wf (neg : Bool) (digits : Nat) (x : Int) : Dbl.WF (Dbl.ofDecimal neg digits x) :=
  (wf_iff_canon _).mpr (ofDecimal_canon neg digits x)
theorem parse_wf {b : Bytes} {d : Dbl} (h : PyFloat.parse b = some d) : Dbl.WF d :=
  (wf_iff_canon _).mpr (parse_canon h)
theorem float_wf {b : Bytes} {d : Dbl} (h : Conv.float b = .ok d) : Dbl.WF d :=
  (wf_iff_canon d).mpr (float_canon h)
theorem pyMax_wf {a b : Dbl} (ha : Dbl.WF a) (hb : Dbl.WF b) : Dbl.WF (Dbl.pyMax a b) := by
  unfold Dbl.pyMax; split <;> assumption
theorem pyMin_wf {a b : Dbl} (ha : Dbl.WF a) (hb : Dbl.WF b) : Dbl.WF (Dbl.pyMin a b) := by
  unfold Dbl.pyMin; split <;> assumption

example : Dbl.WF Dbl.one ∧ Dbl.WF (.fin true 1 (-1074)) ∧ Dbl.WF (.fin false (2 ^ 53 - 1) 971) ∧
    ¬ Dbl.WF (.fin false 1 0) ∧ ¬ Dbl.WF (.fin false 0 0) ∧ ¬ Dbl.WF (.fin false (2 ^ 53) 0) ∧
    ¬ Dbl.WF (.fin false (2 ^ 52) 972) ∧
    Dbl.roundPos false 1 3 = .fin false 6004799503160661 (-54) ∧ Dbl.WF (Dbl.roundPos false 1 3) := by decide +kernel

/-! ## 2a. The rounding specification -/

theorem RN_wf (z : Bool) (q : ℚ) : Dbl.WF (Dbl.RN z q) := FR.C18a.RN_wf z q

theorem RN_not_nan (z : Bool) (q : ℚ) : (Dbl.RN z q).isNaN = false := FR.C18a.RN_not_nan z q

/-- the sign bit of the rounding is the sign of `q`; an exact zero gets `z` -/
theorem RN_sign (z : Bool) (q : ℚ) : (Dbl.RN z q).signBit = if q = 0 then z else decide (q < 0) :=
  RN_signBit z q

/-- overflow: the rounding is `±inf` exactly from `2^1024 − 2^970` on, with the sign of `q` -/
theorem RN_overflow_iff (z : Bool) (q : ℚ) (n : Bool) :
    Dbl.RN z q = .inf n ↔ ovfQ ≤ |q| ∧ n = decide (q < 0) := RN_eq_inf_iff z q n

/-- a finite rounding of `q` is at least as close to `q` as any well-formed finite double -/
theorem RN_nearest (z : Bool) (q : ℚ) {n : Bool} {m : Nat} {e : Int} (h : Dbl.RN z q = .fin n m e)
    (d : Dbl) (hwf : Dbl.WF d) (x : ℚ) (hx : d.toRat = some x) :
    |Dbl.val (.fin n m e) - q| ≤ |x - q| := by
  obtain ⟨n', m', e', rfl, rfl⟩ := toRat_some hx
  exact FR.C18a.RN_nearest z q h n' m' e' hwf

/-- a finite rounding of `q` is within half a unit in its last place of `q` -/
theorem RN_half_ulp (z : Bool) (q : ℚ) {n : Bool} {m : Nat} {e : Int} (h : Dbl.RN z q = .fin n m e) :
    |Dbl.val (.fin n m e) - q| ≤ (2 : ℚ) ^ e / 2 := FR.C18a.RN_half_ulp z q h

/-- ties to even: when `q` is exactly half a unit in the last place away, the significand is even -/
theorem RN_tie_even (z : Bool) (q : ℚ) {n : Bool} {m : Nat} {e : Int} (h : Dbl.RN z q = .fin n m e)
    (ht : |Dbl.val (.fin n m e) - q| = (2 : ℚ) ^ e / 2) : m % 2 = 0 := by
  obtain ⟨_, e0, M, _, hv, _, _, hc, htie⟩ := RN_fin_core z q h
  rcases hc with ⟨rfl, rfl⟩ | rfl
  · apply htie
    rw [hv] at ht
    exact mul_right_cancel₀ (two_zpow_pos e0).ne' (by linarith : _ = (1 / 2) * (2 : ℚ) ^ e0)
  · decide

/-- underflow: the rounding is a zero exactly up to `2^-1075` (half the smallest subnormal; the tie goes to the even 0) -/
theorem RN_underflow_iff (z : Bool) (q : ℚ) :
    (Dbl.RN z q).isZero = true ↔ |q| ≤ (2 : ℚ) ^ (-1075 : Int) := RN_isZero_iff z q

/-- the value of a well-formed finite double rounds to that double -/
theorem RN_exact (n : Bool) (m : Nat) (e : Int) (hwf : Dbl.WF (.fin n m e)) :
    Dbl.RN n (Dbl.val (.fin n m e)) = .fin n m e ∧ (m ≠ 0 → ∀ z, Dbl.RN z (Dbl.val (.fin n m e)) = .fin n m e) :=
  ⟨RN_val n m e hwf, fun hm z => RN_val_of_ne z n m e hwf hm⟩

/-- `RN` is monotone (IEEE `≤`: `-0 = +0`, infinities included) -/
theorem RN_mono (z1 z2 : Bool) {q1 q2 : ℚ} (h : q1 ≤ q2) : Dbl.le (Dbl.RN z1 q1) (Dbl.RN z2 q2) = true :=
  FR.C18a.RN_mono z1 z2 h

/-- `RN` is the rounding C18f proved decimal parsing to be (`float_decode_value_partial`: `d = roundAbs sign (denoted q)`) -/
theorem RN_eq_roundAbs {q : ℚ} (hq : q ≠ 0) (z : Bool) : Dbl.RN z q = roundAbs (decide (q < 0)) q := RN_of_ne hq z

/-- ties to even in the form of the definition: if another well-formed value is as close to `q` as the result, the
significand of the result is even (this covers the binade boundaries, where the tie is at a quarter of the upper ulp) -/
theorem RN_tie_even_def (z : Bool) (q : ℚ) {n : Bool} {m : Nat} {e : Int} (h : Dbl.RN z q = .fin n m e)
    (d : Dbl) (hwf : Dbl.WF d) (x : ℚ) (hx : d.toRat = some x) (hne : x ≠ Dbl.val (.fin n m e))
    (heq : |x - q| = |Dbl.val (.fin n m e) - q|) : m % 2 = 0 := by
  obtain ⟨n', m', e', rfl, rfl⟩ := toRat_some hx
  exact RN_tie_even' z q h n' m' e' hwf hne heq

/-- **`RN` is round-to-nearest-even** — `Dbl.IsRNE q d` is the model-independent definition (finite `d`: well-formed,
`|q| < 2^1024 − 2^970`, sign of `q`, no well-formed double closer, even significand when another value is equally close;
infinite `d`: `|q| ≥ 2^1024 − 2^970`, sign of `q`; never NaN).  `RN z q` satisfies it, and it is the only double that does
(`z` matters for `q = 0` only, where the definition allows both zeros) -/
theorem RN_isRNE (z : Bool) (q : ℚ) : Dbl.IsRNE q (Dbl.RN z q) := FR.C18a.RN_isRNE z q

theorem isRNE_unique (q : ℚ) (d : Dbl) : Dbl.IsRNE q d ↔ d = Dbl.RN d.signBit q := isRNE_iff q d

-- the definition holds of the double nearest to 1/10 and fails for its neighbour; at a tie only the even one qualifies
example : Dbl.IsRNE (1 / 10) (.fin false 7205759403792794 (-56)) ∧ ¬ Dbl.IsRNE (1 / 10) (.fin false 7205759403792793 (-56)) ∧
    Dbl.IsRNE (2 ^ 53 + 1) (.fin false (2 ^ 52) 1) ∧ ¬ Dbl.IsRNE (2 ^ 53 + 1) (.fin false (2 ^ 52 + 1) 1) ∧
    ¬ Dbl.IsRNE (1 / 10) .nan := by
  refine ⟨(isRNE_unique _ _).mpr (by decide +kernel), fun h => absurd ((isRNE_unique _ _).mp h) (by decide +kernel),
    (isRNE_unique _ _).mpr (by decide +kernel), fun h => absurd ((isRNE_unique _ _).mp h) (by decide +kernel), fun h => h⟩

-- 0.1 is not a double: a non-zero error below half an ulp; 2^53 + 1 is a tie and goes to the even neighbour;
-- the overflow threshold is sharp; the underflow threshold is sharp (the tie 2^-1075 goes to 0)
example : Dbl.RN false (1 / 10) = .fin false 7205759403792794 (-56) ∧
    |Dbl.val (.fin false 7205759403792794 (-56)) - 1 / 10| = 1 / 180143985094819840 ∧
    (1 : ℚ) / 180143985094819840 < (2 : ℚ) ^ (-56 : Int) / 2 ∧
    Dbl.RN true (-(2 ^ 53 + 1)) = .fin true (2 ^ 52) 1 ∧
    |Dbl.val (.fin true (2 ^ 52) 1) - (-(2 ^ 53 + 1))| = (2 : ℚ) ^ (1 : Int) / 2 ∧
    Dbl.RN false (2 ^ 53 + 3) = .fin false (2 ^ 52 + 2) 1 := by decide +kernel
set_option exponentiation.threshold 1100 in
example : Dbl.RN false ovfQ = .inf false ∧ Dbl.RN false (-ovfQ) = .inf true ∧
    Dbl.RN false (ovfQ - 1) = .fin false (2 ^ 53 - 1) 971 ∧
    Dbl.RN true ((2 : ℚ) ^ (-1075 : Int)) = .fin false 0 (-1074) ∧
    Dbl.RN true (-(2 : ℚ) ^ (-1075 : Int)) = .fin true 0 (-1074) ∧
    Dbl.RN true ((2 : ℚ) ^ (-1075 : Int) * (1 + 1 / 2 ^ 60)) = .fin false 1 (-1074) := by
  unfold ovfQ; decide +kernel

/-! ## 2b. `add` and `mul` are correctly rounded -/

/-- for all finite doubles `a`, `b` (well-formed or not) with values `x`, `y`:
`a + b` is the rounding of the exact rational sum `x + y` (to nearest, ties to even, overflow to `±inf`); when the exact
sum is zero the result is `-0` if both operands carry the sign bit and `+0` otherwise (IEEE 754 §6.3) -/
theorem add_correctly_rounded (a b : Dbl) (x y : ℚ) (ha : a.toRat = some x) (hb : b.toRat = some y) :
    Dbl.add a b = Dbl.RN (a.signBit && b.signBit) (x + y) := add_eq_RN ha hb

/-- `a * b` is the rounding of the exact product `x · y`; the sign of a zero
product (exact or by underflow) is the xor of the signs -/
theorem mul_correctly_rounded (a b : Dbl) (x y : ℚ) (ha : a.toRat = some x) (hb : b.toRat = some y) :
    Dbl.mul a b = Dbl.RN (a.signBit != b.signBit) (x * y) := mul_eq_RN ha hb

/-- `a + b` / `a * b` are correct IEEE-754 results in the sense of the model-independent definition `IsRNE`, and the only
ones with their sign bit -/
theorem add_isRNE (a b : Dbl) (x y : ℚ) (ha : a.toRat = some x) (hb : b.toRat = some y) :
    Dbl.IsRNE (x + y) (Dbl.add a b) ∧ ∀ d, Dbl.IsRNE (x + y) d → d.signBit = (Dbl.add a b).signBit → d = Dbl.add a b := by
  rw [add_eq_RN ha hb]
  exact ⟨FR.C18a.RN_isRNE _ _, RN_unique _ _⟩

theorem mul_isRNE (a b : Dbl) (x y : ℚ) (ha : a.toRat = some x) (hb : b.toRat = some y) :
    Dbl.IsRNE (x * y) (Dbl.mul a b) ∧ ∀ d, Dbl.IsRNE (x * y) d → d.signBit = (Dbl.mul a b).signBit → d = Dbl.mul a b := by
  rw [mul_eq_RN ha hb]
  exact ⟨FR.C18a.RN_isRNE _ _, RN_unique _ _⟩

/-- the sign of the product is always the xor of the signs (zero, finite or infinite result) -/
theorem mul_sign (a b : Dbl) (x y : ℚ) (ha : a.toRat = some x) (hb : b.toRat = some y) :
    (Dbl.mul a b).signBit = (a.signBit != b.signBit) := by
  obtain ⟨n1, m1, e1, rfl, rfl⟩ := toRat_some ha
  obtain ⟨n2, m2, e2, rfl, rfl⟩ := toRat_some hb
  rw [mul_fin_eq_RN, RN_signBit, val_mul]
  split
  · rfl
  · rename_i h
    exact decide_val_neg (fun h0 => h ((val_eq_zero_iff _ _ _).mpr h0))

/-- signed zero of a sum: an exact zero sum is `+0` unless both operands carry the sign bit -/
theorem add_zero_sign_rule (a b : Dbl) (x y : ℚ) (ha : a.toRat = some x) (hb : b.toRat = some y) (h : x + y = 0) :
    Dbl.add a b = .fin (a.signBit && b.signBit) 0 (-1074) := add_zero_sum ha hb h

/-- `x + (−x) = +0` for `x ≠ 0`, whatever the representation of `−x` -/
theorem add_cancel_is_pos_zero (a b : Dbl) (x y : ℚ) (ha : a.toRat = some x) (hb : b.toRat = some y)
    (h : x + y = 0) (hx : x ≠ 0) : Dbl.add a b = .fin false 0 (-1074) := by
  rw [add_zero_sum ha hb h]
  obtain ⟨n1, m1, e1, rfl, rfl⟩ := toRat_some ha
  obtain ⟨n2, m2, e2, rfl, rfl⟩ := toRat_some hb
  have hs : ¬ (n1 = true ∧ n2 = true) := by
    rintro ⟨rfl, rfl⟩
    have h1 := (val_sign true m1 e1).1 rfl
    have h2 := (val_sign true m2 e2).1 rfl
    exact hx (by linarith)
  show Dbl.fin (n1 && n2) 0 (-1074) = _
  cases n1 <;> cases n2 <;> simp_all

theorem add_signed_zeros :
    Dbl.add (.fin true 0 (-1074)) (.fin true 0 (-1074)) = .fin true 0 (-1074) ∧
    Dbl.add (.fin false 0 (-1074)) (.fin true 0 (-1074)) = .fin false 0 (-1074) ∧
    Dbl.add (.fin true 0 (-1074)) (.fin false 0 (-1074)) = .fin false 0 (-1074) ∧
    Dbl.add (.fin false 0 (-1074)) (.fin false 0 (-1074)) = .fin false 0 (-1074) := by decide +kernel

/-- a finite `a + b` is within half a unit in its last place of the exact sum -/
theorem add_half_ulp (a b : Dbl) (x y : ℚ) (ha : a.toRat = some x) (hb : b.toRat = some y)
    {n : Bool} {m : Nat} {e : Int} (h : Dbl.add a b = .fin n m e) :
    |Dbl.val (.fin n m e) - (x + y)| ≤ (2 : ℚ) ^ e / 2 := by
  rw [add_eq_RN ha hb] at h; exact FR.C18a.RN_half_ulp _ _ h

theorem mul_half_ulp (a b : Dbl) (x y : ℚ) (ha : a.toRat = some x) (hb : b.toRat = some y)
    {n : Bool} {m : Nat} {e : Int} (h : Dbl.mul a b = .fin n m e) :
    |Dbl.val (.fin n m e) - x * y| ≤ (2 : ℚ) ^ e / 2 := by
  rw [mul_eq_RN ha hb] at h; exact FR.C18a.RN_half_ulp _ _ h

/-- no well-formed double is closer to the exact sum than a finite `a + b` -/
theorem add_nearest (a b : Dbl) (x y : ℚ) (ha : a.toRat = some x) (hb : b.toRat = some y)
    {n : Bool} {m : Nat} {e : Int} (h : Dbl.add a b = .fin n m e) (d : Dbl) (hwf : Dbl.WF d) (v : ℚ)
    (hv : d.toRat = some v) : |Dbl.val (.fin n m e) - (x + y)| ≤ |v - (x + y)| := by
  rw [add_eq_RN ha hb] at h; exact RN_nearest _ _ h d hwf v hv

theorem mul_nearest (a b : Dbl) (x y : ℚ) (ha : a.toRat = some x) (hb : b.toRat = some y)
    {n : Bool} {m : Nat} {e : Int} (h : Dbl.mul a b = .fin n m e) (d : Dbl) (hwf : Dbl.WF d) (v : ℚ)
    (hv : d.toRat = some v) : |Dbl.val (.fin n m e) - x * y| ≤ |v - x * y| := by
  rw [mul_eq_RN ha hb] at h; exact RN_nearest _ _ h d hwf v hv

/-- ties to even for sums and products -/
theorem add_tie_even (a b : Dbl) (x y : ℚ) (ha : a.toRat = some x) (hb : b.toRat = some y)
    {n : Bool} {m : Nat} {e : Int} (h : Dbl.add a b = .fin n m e)
    (ht : |Dbl.val (.fin n m e) - (x + y)| = (2 : ℚ) ^ e / 2) : m % 2 = 0 := by
  rw [add_eq_RN ha hb] at h; exact RN_tie_even _ _ h ht

theorem mul_tie_even (a b : Dbl) (x y : ℚ) (ha : a.toRat = some x) (hb : b.toRat = some y)
    {n : Bool} {m : Nat} {e : Int} (h : Dbl.mul a b = .fin n m e)
    (ht : |Dbl.val (.fin n m e) - x * y| = (2 : ℚ) ^ e / 2) : m % 2 = 0 := by
  rw [mul_eq_RN ha hb] at h; exact RN_tie_even _ _ h ht

/-- overflow of a sum / product of finite doubles: exactly from `2^1024 − 2^970` on, to the infinity of the right sign -/
theorem add_overflow_iff (a b : Dbl) (x y : ℚ) (ha : a.toRat = some x) (hb : b.toRat = some y) (n : Bool) :
    Dbl.add a b = .inf n ↔ ovfQ ≤ |x + y| ∧ n = decide (x + y < 0) := by
  rw [add_eq_RN ha hb]; exact RN_eq_inf_iff _ _ n

theorem mul_overflow_iff (a b : Dbl) (x y : ℚ) (ha : a.toRat = some x) (hb : b.toRat = some y) (n : Bool) :
    Dbl.mul a b = .inf n ↔ ovfQ ≤ |x * y| ∧ n = decide (x * y < 0) := by
  rw [mul_eq_RN ha hb]; exact RN_eq_inf_iff _ _ n

/-- underflow of a product to a (signed) zero: exactly up to `2^-1075` -/
theorem mul_underflow_iff (a b : Dbl) (x y : ℚ) (ha : a.toRat = some x) (hb : b.toRat = some y) :
    (Dbl.mul a b).isZero = true ↔ |x * y| ≤ (2 : ℚ) ^ (-1075 : Int) := by
  rw [mul_eq_RN ha hb]; exact RN_isZero_iff _ _

-- 0.1 + 0.2: the exact sum of the two doubles is a tie between two doubles; the even one is 0.30000000000000004.
-- 0.1 * 3 (inexact); the largest double doubled overflows; the smallest subnormal halved underflows to a signed zero
example :
    let a := Dbl.ofDecimal false 1 (-1); let b := Dbl.ofDecimal false 2 (-1)
    a = .fin false 7205759403792794 (-56) ∧ b = .fin false 7205759403792794 (-55) ∧ Dbl.WF a ∧ Dbl.WF b ∧
    a.toRat = some (7205759403792794 / 2 ^ 56) ∧ b.toRat = some (7205759403792794 / 2 ^ 55) ∧
    Dbl.add a b = .fin false 5404319552844596 (-54) ∧
    |Dbl.val (.fin false 5404319552844596 (-54)) - (7205759403792794 / 2 ^ 56 + 7205759403792794 / 2 ^ 55)|
      = (2 : ℚ) ^ (-54 : Int) / 2 ∧
    Dbl.mul a (Dbl.ofInt 3) = .fin false 5404319552844596 (-54) ∧
    Dbl.mul (.fin true (2 ^ 53 - 1) 971) (Dbl.ofInt 2) = .inf true ∧
    Dbl.add (.fin true (2 ^ 53 - 1) 971) (.fin true (2 ^ 53 - 1) 971) = .inf true ∧
    Dbl.mul (.fin true 1 (-1074)) (.fin false (2 ^ 52) (-53)) = .fin true 0 (-1074) := by
  decide +kernel

/-! ## 2c. Exact cases -/

/-- exact when representable: if the exact sum (product) is the value of a well-formed double `c ≠ 0`, the result is `c` -/
theorem add_exact (a b : Dbl) (x y : ℚ) (ha : a.toRat = some x) (hb : b.toRat = some y)
    (n : Bool) (m : Nat) (e : Int) (hwf : Dbl.WF (.fin n m e)) (hm : m ≠ 0) (h : x + y = Dbl.val (.fin n m e)) :
    Dbl.add a b = .fin n m e := by
  rw [add_eq_RN ha hb, h]; exact RN_val_of_ne _ n m e hwf hm

theorem mul_exact (a b : Dbl) (x y : ℚ) (ha : a.toRat = some x) (hb : b.toRat = some y)
    (n : Bool) (m : Nat) (e : Int) (hwf : Dbl.WF (.fin n m e)) (hm : m ≠ 0) (h : x * y = Dbl.val (.fin n m e)) :
    Dbl.mul a b = .fin n m e := by
  rw [mul_eq_RN ha hb, h]; exact RN_val_of_ne _ n m e hwf hm

/-- `x + (−x) = +0` for every finite `x`, zeros included -/
theorem add_neg_self (n : Bool) (m : Nat) (e : Int) :
    Dbl.add (.fin n m e) (.fin (!n) m e) = .fin false 0 (-1074) := by
  rw [add_fin_eq_RN, val_flip, add_neg_cancel, RN_zero]
  cases n <;> rfl

/-- `x * 1 = x` -/
theorem mul_one (n : Bool) (m : Nat) (e : Int) (hwf : Dbl.WF (.fin n m e)) :
    Dbl.mul (.fin n m e) Dbl.one = .fin n m e := by
  have h1 : Dbl.val Dbl.one = 1 := by
    show Dbl.val (.fin false (Dbl.pow2 52) (-52)) = 1
    rw [val_fin, pow2_eq]
    norm_num
  show Dbl.mul (.fin n m e) (.fin false (Dbl.pow2 52) (-52)) = _
  rw [mul_fin_eq_RN]
  change Dbl.RN (n != false) (Dbl.val (.fin n m e) * Dbl.val Dbl.one) = _
  rw [h1, _root_.mul_one, Bool.bne_false]
  exact RN_val n m e hwf

/-- `x + 0 = x`, except `(−0) + 0 = +0` (§6) -/
theorem add_zero (n : Bool) (m : Nat) (e : Int) (hwf : Dbl.WF (.fin n m e)) (h : ¬ (n = true ∧ m = 0)) :
    Dbl.add (.fin n m e) Dbl.zero = .fin n m e := by
  rw [add_zero' n m e hwf]
  split
  · rename_i hm; subst hm
    have : n = false := by cases n <;> simp_all
    subst this
    rw [hwf.2.2.2.2 rfl]
  · rfl

/-- `Dbl.plusZero` (`0.0 + d`, used for `-0 → 0` normalisation in version 7): the identity on well-formed doubles,
except that both zeros become `+0` -/
theorem plusZero_spec (d : Dbl) (hwf : Dbl.WF d) :
    d.plusZero = if d.isZero then .fin false 0 (-1074) else d := plusZero_eq d hwf

/-- integer arithmetic: `ofInt i + ofInt j = ofInt (i + j)` whenever `|i|, |j| ≤ 2^53` (exact when `|i + j| ≤ 2^53`,
by `ofInt_exact`; correctly rounded otherwise) -/
theorem add_ofInt (i j : Int) (hi : i.natAbs ≤ 2 ^ 53) (hj : j.natAbs ≤ 2 ^ 53) :
    Dbl.add (Dbl.ofInt i) (Dbl.ofInt j) = Dbl.ofInt (i + j) := by
  rw [add_eq_RN (ofInt_toRat i hi) (ofInt_toRat j hj), ofInt_signBit i hi, ofInt_signBit j hj, ofInt_eq_RN (i + j)]
  push_cast
  by_cases h : ((i : ℚ) + (j : ℚ)) = 0
  · rw [h, RN_zero, RN_zero]
    have : i + j = 0 := by exact_mod_cast h
    have : ¬ (i < 0 ∧ j < 0) := by omega
    have : (decide (i < 0) && decide (j < 0)) = false := by simpa using this
    rw [this]
  · rw [RN_of_ne h, RN_of_ne h]

/-- `ofInt i * ofInt j = ofInt (i * j)` for a non-zero product (a zero product carries the xor sign, §6) -/
theorem mul_ofInt (i j : Int) (hi : i.natAbs ≤ 2 ^ 53) (hj : j.natAbs ≤ 2 ^ 53) (h0 : i * j ≠ 0) :
    Dbl.mul (Dbl.ofInt i) (Dbl.ofInt j) = Dbl.ofInt (i * j) := by
  rw [mul_eq_RN (ofInt_toRat i hi) (ofInt_toRat j hj), ofInt_eq_RN (i * j)]
  push_cast
  have h : ((i : ℚ) * (j : ℚ)) ≠ 0 := by exact_mod_cast h0
  rw [RN_of_ne h, RN_of_ne h]

example : Dbl.add (Dbl.ofInt 9007199254740991) (Dbl.ofInt (-9007199254740990)) = Dbl.ofInt 1 ∧
    Dbl.mul (Dbl.ofInt 94906265) (Dbl.ofInt (-94906265)) = Dbl.ofInt (-9007199136250225) ∧
    (Dbl.ofInt (-9007199136250225)).toRat = some (-9007199136250225) ∧
    Dbl.mul (.fin true 3 (-1074)) Dbl.one = .fin true 3 (-1074) ∧
    Dbl.add (.fin true 3 (-1074)) Dbl.zero = .fin true 3 (-1074) ∧
    (Dbl.fin true 0 (-1074)).plusZero = .fin false 0 (-1074) ∧ (Dbl.inf true).plusZero = .inf true := by
  decide +kernel

/-! ## 2d. All doubles: commutativity, special values, NaN -/

theorem add_comm (a b : Dbl) : Dbl.add a b = Dbl.add b a := add_comm' a b
theorem mul_comm (a b : Dbl) : Dbl.mul a b = Dbl.mul b a := mul_comm' a b

/-- the special values of IEEE addition and multiplication -/
theorem special_values (s t : Bool) (n : Bool) (m : Nat) (e : Int) :
    Dbl.add (.inf s) (.inf s) = .inf s ∧ Dbl.add (.inf s) (.inf (!s)) = .nan ∧
    Dbl.add (.inf s) (.fin n m e) = .inf s ∧ Dbl.add (.fin n m e) (.inf s) = .inf s ∧
    Dbl.mul (.inf s) (.inf t) = .inf (s != t) ∧
    Dbl.mul (.inf s) (.fin n 0 e) = .nan ∧ Dbl.mul (.fin n 0 e) (.inf s) = .nan ∧
    (m ≠ 0 → Dbl.mul (.inf s) (.fin n m e) = .inf (s != n) ∧ Dbl.mul (.fin n m e) (.inf s) = .inf (n != s)) ∧
    (∀ d, Dbl.add .nan d = .nan ∧ Dbl.add d .nan = .nan ∧ Dbl.mul .nan d = .nan ∧ Dbl.mul d .nan = .nan) := by
  refine ⟨by cases s <;> rfl, by cases s <;> rfl, rfl, rfl, rfl, rfl, rfl, fun hm => ?_, fun d => ?_⟩
  · have : (m == 0) = false := by simpa using hm
    exact ⟨by show (if (m == 0) = true then Dbl.nan else _) = _; rw [this]; rfl,
      by show (if (m == 0) = true then Dbl.nan else _) = _; rw [this]; rfl⟩
  · cases d <;> exact ⟨rfl, rfl, rfl, rfl⟩

/-- **NaN only from `inf − inf`**: for non-NaN operands, `a + b` is NaN iff the operands are opposite infinities
(this is the case ZINCRBY / ZADD INCR refuse with "resulting score is not a number") -/
theorem add_eq_nan_iff (a b : Dbl) :
    Dbl.add a b = .nan ↔ a = .nan ∨ b = .nan ∨ ∃ s, a = .inf s ∧ b = .inf (!s) := FR.C18a.add_eq_nan_iff a b

/-- **NaN only from `inf · 0`** (ZUNIONSTORE WEIGHTS): for non-NaN operands, `a * b` is NaN iff one is infinite and the
other a zero -/
theorem mul_eq_nan_iff (a b : Dbl) :
    Dbl.mul a b = .nan ↔ a = .nan ∨ b = .nan ∨ (a.isInf = true ∧ b.isZero = true) ∨ (a.isZero = true ∧ b.isInf = true) :=
  FR.C18a.mul_eq_nan_iff a b

/-- addition is monotone (finite operands; the results may be infinite) -/
theorem add_mono (a b b' : Dbl) (x y y' : ℚ) (ha : a.toRat = some x) (hb : b.toRat = some y) (hb' : b'.toRat = some y')
    (h : y ≤ y') : Dbl.le (Dbl.add a b) (Dbl.add a b') = true := by
  rw [add_eq_RN ha hb, add_eq_RN ha hb']
  exact FR.C18a.RN_mono _ _ (by linarith)

example : Dbl.add (.inf false) (.inf true) = .nan ∧ Dbl.mul (.inf true) (.fin true 0 (-1074)) = .nan ∧
    Dbl.mul (.inf true) (.fin true 1 (-1074)) = .inf false ∧
    Dbl.add (.fin false 1 (-1074)) (.inf true) = .inf true := by decide +kernel

/-! ## 3. Order -/

/-- `lt` / `eq` / `le` are the order of the rational values on finite doubles with exponent in range (in particular on
well-formed ones) -/
theorem lt_iff_val (a b : Dbl) (x y : ℚ) (ha : a.toRat = some x) (hb : b.toRat = some y) (wa : Dbl.WF a) (wb : Dbl.WF b) :
    Dbl.lt a b = true ↔ x < y := by
  obtain ⟨n1, m1, e1, rfl, rfl⟩ := toRat_some ha
  obtain ⟨n2, m2, e2, rfl, rfl⟩ := toRat_some hb
  exact lt_fin_iff _ _ _ _ _ _ wa.2.1 wb.2.1

theorem eq_iff_val (a b : Dbl) (x y : ℚ) (ha : a.toRat = some x) (hb : b.toRat = some y) (wa : Dbl.WF a) (wb : Dbl.WF b) :
    Dbl.eq a b = true ↔ x = y := by
  obtain ⟨n1, m1, e1, rfl, rfl⟩ := toRat_some ha
  obtain ⟨n2, m2, e2, rfl, rfl⟩ := toRat_some hb
  exact eq_fin_iff _ _ _ _ _ _ wa.2.1 wb.2.1

theorem le_iff_val (a b : Dbl) (x y : ℚ) (ha : a.toRat = some x) (hb : b.toRat = some y) (wa : Dbl.WF a) (wb : Dbl.WF b) :
    Dbl.le a b = true ↔ x ≤ y := by
  obtain ⟨n1, m1, e1, rfl, rfl⟩ := toRat_some ha
  obtain ⟨n2, m2, e2, rfl, rfl⟩ := toRat_some hb
  exact le_fin_iff _ _ _ _ _ _ wa.2.1 wb.2.1

/-- two well-formed finite doubles with the same value are the same double, except for the sign of zero; so IEEE `==`
identifies exactly `+0` and `-0` -/
theorem val_inj {n1 n2 : Bool} {m1 m2 : Nat} {e1 e2 : Int} (w1 : Dbl.WF (.fin n1 m1 e1)) (w2 : Dbl.WF (.fin n2 m2 e2))
    (h : Dbl.val (.fin n1 m1 e1) = Dbl.val (.fin n2 m2 e2)) : m1 = m2 ∧ e1 = e2 ∧ (m1 ≠ 0 → n1 = n2) :=
  FR.C18a.val_inj w1 w2 h

/-- `-inf <` every finite `< +inf`; NaN is unordered -/
theorem order_special (n : Bool) (m : Nat) (e : Int) (d : Dbl) :
    Dbl.lt (.inf true) (.fin n m e) = true ∧ Dbl.lt (.fin n m e) (.inf false) = true ∧
    Dbl.lt (.inf true) (.inf false) = true ∧ Dbl.lt (.fin n m e) (.inf true) = false ∧
    Dbl.lt (.inf false) (.fin n m e) = false ∧ Dbl.eq (.inf true) (.inf true) = true ∧
    Dbl.eq (.inf false) (.inf true) = false ∧ Dbl.eq (.inf true) (.fin n m e) = false ∧
    Dbl.lt .nan d = false ∧ Dbl.lt d .nan = false ∧ Dbl.eq .nan d = false ∧ Dbl.eq d .nan = false ∧
    Dbl.le .nan d = false ∧ Dbl.le d .nan = false := by
  refine ⟨rfl, rfl, rfl, rfl, rfl, rfl, rfl, rfl, Dbl.lt_nan_left d, Dbl.lt_nan_right d, Dbl.eq_nan_left d,
    Dbl.eq_nan_right d, ?_, ?_⟩
  · unfold Dbl.le; rw [Dbl.lt_nan_left, Dbl.eq_nan_left]; rfl
  · unfold Dbl.le; rw [Dbl.lt_nan_right, Dbl.eq_nan_right]; rfl

/-- Python `max(a, b)` / `min(a, b)`: one of the arguments; without NaN an upper (lower) bound of both; on finite
well-formed doubles the value is the max (min) of the values.  With a NaN: `max(a, nan) = a`, `max(nan, b) = nan`. -/
theorem pyMax_spec (a b : Dbl) :
    (Dbl.pyMax a b = a ∨ Dbl.pyMax a b = b) ∧
    (a.isNaN = false → b.isNaN = false → Dbl.le a (Dbl.pyMax a b) = true ∧ Dbl.le b (Dbl.pyMax a b) = true) ∧
    (∀ x y, a.toRat = some x → b.toRat = some y → Dbl.WF a → Dbl.WF b → (Dbl.pyMax a b).toRat = some (max x y)) ∧
    Dbl.pyMax a .nan = a ∧ Dbl.pyMax .nan b = .nan := by
  refine ⟨pyMax_cases a b, fun ha hb => pyMax_ge ha hb, fun x y ha hb wa wb => ?_, ?_, ?_⟩
  · obtain ⟨n1, m1, e1, rfl, rfl⟩ := toRat_some ha
    obtain ⟨n2, m2, e2, rfl, rfl⟩ := toRat_some hb
    rw [← pyMax_val _ _ _ _ _ _ wa.2.1 wb.2.1]
    rcases pyMax_cases (.fin n1 m1 e1) (.fin n2 m2 e2) with h | h <;> rw [h] <;> rfl
  · unfold Dbl.pyMax; rw [Dbl.lt_nan_right]; rfl
  · unfold Dbl.pyMax; rw [Dbl.lt_nan_left]; rfl

theorem pyMin_spec (a b : Dbl) :
    (Dbl.pyMin a b = a ∨ Dbl.pyMin a b = b) ∧
    (a.isNaN = false → b.isNaN = false → Dbl.le (Dbl.pyMin a b) a = true ∧ Dbl.le (Dbl.pyMin a b) b = true) ∧
    (∀ x y, a.toRat = some x → b.toRat = some y → Dbl.WF a → Dbl.WF b → (Dbl.pyMin a b).toRat = some (min x y)) ∧
    Dbl.pyMin a .nan = a ∧ Dbl.pyMin .nan b = .nan := by
  refine ⟨pyMin_cases a b, fun ha hb => pyMin_le ha hb, fun x y ha hb wa wb => ?_, ?_, ?_⟩
  · obtain ⟨n1, m1, e1, rfl, rfl⟩ := toRat_some ha
    obtain ⟨n2, m2, e2, rfl, rfl⟩ := toRat_some hb
    rw [← pyMin_val _ _ _ _ _ _ wa.2.1 wb.2.1]
    rcases pyMin_cases (.fin n1 m1 e1) (.fin n2 m2 e2) with h | h <;> rw [h] <;> rfl
  · unfold Dbl.pyMin; rw [Dbl.lt_nan_left]; rfl
  · unfold Dbl.pyMin; rw [Dbl.lt_nan_right]; rfl

-- the hypothesis "exponent in range" matters: below -1074 `scaled` loses the value, `2^-1076 < 2^-1075` is not seen
-- (such doubles are never produced by the model)
example : Dbl.lt (.fin false 3 (-1)) (.fin false 1 1) = true ∧ (Dbl.fin false 3 (-1)).toRat = some (3 / 2) ∧
    (Dbl.fin false 1 1).toRat = some 2 ∧
    Dbl.eq (.fin true 0 (-1074)) (.fin false 0 (-1074)) = true ∧
    Dbl.lt (.fin true (2 ^ 52) 0) (.fin true 1 (-1074)) = true ∧
    Dbl.pyMax (.fin true (2 ^ 52) 0) (.fin true 1 (-1074)) = .fin true 1 (-1074) ∧
    Dbl.pyMin (.fin true (2 ^ 52) 0) (.inf false) = .fin true (2 ^ 52) 0 ∧
    Dbl.lt (.fin false 1 (-1076)) (.fin false 1 (-1075)) = false ∧ ¬ Dbl.WF (.fin false 1 (-1075)) := by
  decide +kernel
-- the strict weak order of C03 applies to these very functions
example := FR.Props.C03.dbl_strict_weak_order

/-! ## 4. Bits, integers -/

/-- `ofBits ∘ toBits` is the identity on well-formed doubles (both zeros, subnormals, normals, infinities, the NaN) -/
theorem ofBits_toBits (d : Dbl) (hwf : Dbl.WF d) : Dbl.ofBits (Dbl.toBits d) = d :=
  FR.DumpRound.ofBits_toBits ((wf_iff_canon d).mp hwf)

/-- `toBits ∘ ofBits` is the identity on every 64-bit pattern that is not a NaN pattern -/
theorem toBits_ofBits (b : UInt64) (h : (Dbl.ofBits b).isNaN = false) : Dbl.toBits (Dbl.ofBits b) = b :=
  FR.C18a.toBits_ofBits b h

/-- the NaN patterns are those with exponent field `0x7FF` and a non-zero fraction field (`fExp b = b/2^52 mod 2^11`,
`fFrac b = b mod 2^52`); all of them (either sign, quiet or signalling, any payload) collapse to the single NaN of the
model, whose image is the positive quiet NaN `0x7FF8000000000000` -/
theorem ofBits_nan_iff (b : UInt64) :
    (Dbl.ofBits b = .nan ↔ b.toNat / 2 ^ 52 % 2048 = 0x7FF ∧ b.toNat % 2 ^ 52 ≠ 0) ∧
    Dbl.toBits .nan = 0x7FF8000000000000 := ⟨FR.C18a.ofBits_nan_iff b, rfl⟩

theorem toBits_injective (a b : Dbl) (ha : Dbl.WF a) (hb : Dbl.WF b) (h : Dbl.toBits a = Dbl.toBits b) : a = b := by
  rw [← FR.DumpRound.ofBits_toBits ((wf_iff_canon a).mp ha), ← FR.DumpRound.ofBits_toBits ((wf_iff_canon b).mp hb), h]

/-- `ofInt n` is exact for `|n| ≤ 2^53` -/
theorem ofInt_exact (n : Int) (h : n.natAbs ≤ 2 ^ 53) :
    (Dbl.ofInt n).toRat = some (n : ℚ) ∧ (Dbl.ofInt n).signBit = decide (n < 0) :=
  ⟨ofInt_toRat n h, ofInt_signBit n h⟩

/-- `ofInt n` is correctly rounded for every integer (`ofInt 0 = +0`) -/
theorem ofInt_correctly_rounded (n : Int) : Dbl.ofInt n = Dbl.RN false (n : ℚ) := ofInt_eq_RN n

/-- `truncToInt` (Python `int(x)`) is truncation toward zero of the value -/
theorem truncToInt_spec (d : Dbl) (x : ℚ) (h : d.toRat = some x) :
    Dbl.truncToInt d = if x < 0 then ⌈x⌉ else ⌊x⌋ := by
  obtain ⟨n, m, e, rfl, rfl⟩ := toRat_some h
  exact truncToInt_eq n m e

example : Dbl.ofBits 0xC00C000000000000 = .fin true 7881299347898368 (-51) ∧
    (Dbl.fin true 7881299347898368 (-51)).toRat = some (-7 / 2) ∧
    Dbl.toBits (.fin true 7881299347898368 (-51)) = 0xC00C000000000000 ∧
    Dbl.truncToInt (.fin true 7881299347898368 (-51)) = -3 ∧ (⌈(-7 / 2 : ℚ)⌉ = -3) ∧
    Dbl.ofBits 0x8000000000000001 = .fin true 1 (-1074) ∧ Dbl.toBits (Dbl.ofBits 0x7FF0000000000000) = 0x7FF0000000000000 ∧
    Dbl.ofInt (2 ^ 53 + 1) = .fin false (2 ^ 52) 1 ∧ Dbl.ofInt (-(2 ^ 53)) = .fin true (2 ^ 52) 1 := by
  refine ⟨by decide +kernel, by decide +kernel, by decide +kernel, by decide +kernel, by norm_num [Int.ceil_eq_iff],
    by decide +kernel, by decide +kernel, by decide +kernel, by decide +kernel⟩

/-! ## 5. Commands: the number stored / replied is the correctly rounded sum of the decoded operands -/

/-- **INCRBYFLOAT**, full decision on a missing key or a string whose content and the increment decode (by the `Float`
converter of C18f) to finite doubles with values `x`, `y`: if `|x + y| < 2^1024 − 2^970` the reply and the stored string are
the encoding of the correctly rounded sum `RN (x + y)` (deadline kept); otherwise the command is refused with
"increment would produce NaN or Infinity" and nothing changes -/
theorem incrbyfloat_correctly_rounded (ctx : Ctx) (db : Db) (nd : NodupKeys db.dict) (ne : NoEmpty db.dict)
    (k amount stored : Bytes) (e : Option Int)
    (hk : (db.live k = none ∧ stored = strBytes "0" ∧ e = none) ∨ db.live k = some ⟨.str stored, e⟩)
    (cur a : Dbl) (hc : Conv.float stored = .ok cur) (ha : Conv.float amount = .ok a)
    (x y : ℚ) (hx : cur.toRat = some x) (hy : a.toRat = some y) :
    let out := runRegular StrKeys.sigIncrbyfloat Cmd.incrbyfloat ctx none [k, amount] db
    let enc := Cmd.encodeFloat ctx.version (Dbl.RN (cur.signBit && a.signBit) (x + y)) true
    (|x + y| < ovfQ → out.reply = .bulk enc ∧ out.db.live = StrKeys.upd db.live k (some ⟨.str enc, e⟩)) ∧
    (ovfQ ≤ |x + y| → out.reply = .err (strBytes Msgs.NONFINITE_MSG) ∧ out.db.live = db.live) := by
  intro out enc
  have h := Props.C01k.incrbyfloat_spec ctx db nd ne k amount
  have hfin := RN_isFinite_iff (cur.signBit && a.signBit) (x + y)
  have h' : (out.reply, out.db.live) =
      if (Dbl.add cur a).isFinite then
        (.bulk (Cmd.encodeFloat ctx.version (Dbl.add cur a) true),
          StrKeys.upd db.live k (some ⟨.str (Cmd.encodeFloat ctx.version (Dbl.add cur a) true), e⟩))
      else (.err (strBytes Msgs.NONFINITE_MSG), db.live) := by
    rcases hk with ⟨hl, rfl, rfl⟩ | hl
    · rw [hl] at h
      simp only [Props.C01k.incrFloatOn_unfolded, hc, ha] at h
      exact h
    · rw [hl] at h
      simp only [Props.C01k.incrFloatOn_unfolded, hc, ha] at h
      exact h
  rw [add_eq_RN hx hy] at h'
  constructor
  · intro hlt
    rw [if_pos (hfin.mpr hlt)] at h'
    exact ⟨congrArg Prod.fst h', congrArg Prod.snd h'⟩
  · intro hge
    have : ¬ (Dbl.RN (cur.signBit && a.signBit) (x + y)).isFinite = true := fun hh => not_lt.mpr hge (hfin.mp hh)
    rw [if_neg this] at h'
    exact ⟨congrArg Prod.fst h', congrArg Prod.snd h'⟩


-- non-vacuity: `SET a 10.5`, `INCRBYFLOAT a 0.1`: the stored string is the rendering of `RN (10.5 + double(0.1))`; and an
-- overflowing sum of two accepted operands is refused
example :
    let db : Db := ⟨[([97], ⟨.str (strBytes "10.5"), some 70⟩)], 5⟩
    let ctx : Ctx := { version := 7, time := 5 }
    NodupKeys db.dict ∧ NoEmpty db.dict ∧
    (Conv.float (strBytes "10.5")).toOption = some (.fin false 5910974510923776 (-49)) ∧
    (Dbl.fin false 5910974510923776 (-49)).toRat = some (21 / 2) ∧
    (Conv.float (strBytes "0.1")).toOption = some (.fin false 7205759403792794 (-56)) ∧
    (Dbl.fin false 7205759403792794 (-56)).toRat = some (7205759403792794 / 2 ^ 56) ∧
    Dbl.RN false (21 / 2 + 7205759403792794 / 2 ^ 56) = .fin false 5967269506265907 (-49) ∧
    Cmd.encodeFloat 7 (Dbl.RN false (21 / 2 + 7205759403792794 / 2 ^ 56)) true = strBytes "10.59999999999999964" ∧
    runBulkOf (runRegular StrKeys.sigIncrbyfloat Cmd.incrbyfloat ctx none [[97], strBytes "0.1"] db).reply
      = strBytes "10.59999999999999964" := by
  intro db ctx
  have d : (Conv.float (strBytes "10.5")).toOption = some (.fin false 5910974510923776 (-49)) ∧
      (Dbl.fin false 5910974510923776 (-49)).toRat = some (21 / 2) ∧
      (Conv.float (strBytes "0.1")).toOption = some (.fin false 7205759403792794 (-56)) ∧
      (Dbl.fin false 7205759403792794 (-56)).toRat = some (7205759403792794 / 2 ^ 56) ∧
      Dbl.RN false (21 / 2 + 7205759403792794 / 2 ^ 56) = .fin false 5967269506265907 (-49) ∧
      Cmd.encodeFloat 7 (Dbl.RN false (21 / 2 + 7205759403792794 / 2 ^ 56)) true = strBytes "10.59999999999999964" ∧
      runBulkOf (runRegular StrKeys.sigIncrbyfloat Cmd.incrbyfloat ctx none [[97], strBytes "0.1"] db).reply
        = strBytes "10.59999999999999964" := by decide +kernel
  exact ⟨by decide, by unfold NoEmpty; decide +kernel, d.1, d.2.1, d.2.2.1, d.2.2.2.1, d.2.2.2.2.1, d.2.2.2.2.2.1,
    d.2.2.2.2.2.2⟩
set_option exponentiation.threshold 1100 in
example :
    let db : Db := ⟨[([97], ⟨.str (strBytes "1.7e308"), none⟩)], 5⟩
    let ctx : Ctx := { version := 7, time := 5 }
    (Conv.float (strBytes "1.7e308")).toOption = some (.fin false 8517715530038134 971) ∧
    ovfQ ≤ |(8517715530038134 * 2 ^ 971 : ℚ) + 8517715530038134 * 2 ^ 971| ∧
    Props.C03z.errOf (runRegular StrKeys.sigIncrbyfloat Cmd.incrbyfloat ctx none [[97], strBytes "1.7e308"] db).reply
      = some (strBytes Msgs.NONFINITE_MSG) := by
  intro db ctx
  have d : (Conv.float (strBytes "1.7e308")).toOption = some (.fin false 8517715530038134 971) ∧
      Props.C03z.errOf (runRegular StrKeys.sigIncrbyfloat Cmd.incrbyfloat ctx none [[97], strBytes "1.7e308"] db).reply
        = some (strBytes Msgs.NONFINITE_MSG) := by decide +kernel
  exact ⟨d.1, by unfold ovfQ; decide +kernel, d.2⟩

/-- **HINCRBYFLOAT** likewise (key missing or a hash; `"0"` for a missing field): the new value of the field and the reply are
the encoding of `RN (x + y)`, every other field is unchanged; an overflowing sum is refused and nothing changes -/
theorem hincrbyfloat_correctly_rounded (ctx : Ctx) (db : Db) (nd : NodupKeys db.dict)
    (wf : HashSet.LiveWF db) (key : Bytes) (h : HashSet.HashV) (e : Option Int)
    (hv : HashSet.hashView db.live key = some (h, e)) (f amt : Bytes)
    (cur a : Dbl) (hc : Conv.float ((HashSet.hmap db key f).getD (strBytes "0")) = .ok cur)
    (ha : Conv.float amt = .ok a) (x y : ℚ) (hx : cur.toRat = some x) (hy : a.toRat = some y) :
    let out := HashSet.run "hincrbyfloat" ctx [key, f, amt] db
    let enc := Cmd.encodeFloat ctx.version (Dbl.RN (cur.signBit && a.signBit) (x + y)) true
    (|x + y| < ovfQ → out.reply = .bulk enc ∧
      (∀ g, HashSet.hmap out.db key g = if g = f then some enc else HashSet.hmap db key g) ∧
      (∀ k', k' ≠ key → out.db.live k' = db.live k')) ∧
    (ovfQ ≤ |x + y| → out.reply = .err (strBytes Msgs.NONFINITE_MSG) ∧ out.db.live = db.live) := by
  intro out enc
  have hr := Props.C02h.hincrbyfloat_refines ctx db nd wf key h e hv f amt
  simp only [hc, ha] at hr
  have hfin := RN_isFinite_iff (cur.signBit && a.signBit) (x + y)
  rw [add_eq_RN hx hy] at hr
  constructor
  · intro hlt
    rw [if_pos (hfin.mpr hlt)] at hr
    exact ⟨hr.1, hr.2.2.1, hr.2.2.2.2.1⟩
  · intro hge
    have : ¬ (Dbl.RN (cur.signBit && a.signBit) (x + y)).isFinite = true := fun hh => not_lt.mpr hge (hfin.mp hh)
    rw [if_neg this] at hr
    exact ⟨hr.1, hr.2.1⟩

-- non-vacuity (key `[6]` of C02h's example database holds the hash `{[10] ↦ "5"}`)
example :
    NodupKeys Props.C02h.exDb.dict ∧ HashSet.LiveWF Props.C02h.exDb ∧
    HashSet.hashView Props.C02h.exDb.live [6] = some ([([10], [53])], none) ∧
    (Conv.float ((HashSet.hmap Props.C02h.exDb [6] [10]).getD (strBytes "0"))).toOption = some (Dbl.ofInt 5) ∧
    (Conv.float (strBytes "0.25")).toOption = some (.fin false (2 ^ 52) (-54)) ∧
    Cmd.encodeFloat 7 (Dbl.RN false (5 + 1 / 4)) true = strBytes "5.25" ∧
    runBulkOf (HashSet.run "hincrbyfloat" Props.C02h.exCtx [[6], [10], strBytes "0.25"] Props.C02h.exDb).reply
      = strBytes "5.25" := by
  have d : (Conv.float ((HashSet.hmap Props.C02h.exDb [6] [10]).getD (strBytes "0"))).toOption = some (Dbl.ofInt 5) ∧
      (Conv.float (strBytes "0.25")).toOption = some (.fin false (2 ^ 52) (-54)) ∧
      Cmd.encodeFloat 7 (Dbl.RN false (5 + 1 / 4)) true = strBytes "5.25" ∧
      runBulkOf (HashSet.run "hincrbyfloat" Props.C02h.exCtx [[6], [10], strBytes "0.25"] Props.C02h.exDb).reply
        = strBytes "5.25" := by decide +kernel
  exact ⟨by decide, HashSet.liveWF_of_dict (by decide), by rfl, d.1, d.2.1, d.2.2.1, d.2.2.2⟩

section zincrby
open FR.Cmd FR.HashSet FR.ZCmd
variable (ctx : Ctx) (db : Db) (nd : NodupKeys db.dict) (key : Bytes) (z : ZSet) (e : Option Int)
  (hv : ZCmd.zsetView db.live key = some (z, e)) (hz : z.Inv)
include nd hv hz

/-- **ZINCRBY** on a member with a finite score (value `x`) and a finite increment (value `y`): the new score is the
correctly rounded sum `RN (x + y)` — possibly `±inf` by overflow, which ZINCRBY stores — written by `ZSet.add`, and its
rendering is the reply -/
theorem zincrby_correctly_rounded (a m : Bytes) (incr old : Dbl) (ha : Conv.float a = .ok incr)
    (hold : z.get m = some old) (x y : ℚ) (hx : old.toRat = some x) (hy : incr.toRat = some y) :
    let score := Dbl.RN (old.signBit && incr.signBit) (x + y)
    ZCmd.Writes (run "zincrby" ctx [key, a, m] db) db key (z.add m score).1 e (.bulk (fmtScore ctx score)) := by
  intro score
  have hs := Props.C03z.zincrby_spec ctx db nd key z e hv hz a m incr ha
  have hsc : incrScore z m incr = score := by
    unfold incrScore; rw [hold]; exact add_eq_RN hx hy
  simp only [hsc] at hs
  rw [if_neg (by rw [FR.C18a.RN_not_nan]; exact Bool.false_ne_true)] at hs
  exact hs.1

/-- **"resulting score is not a number"**: ZINCRBY fails with that message exactly when the member's score is an infinity
and the increment the opposite infinity; in every other case (increment accepted by the converter) it writes -/
theorem zincrby_nan_iff (a m : Bytes) (incr : Dbl) (ha : Conv.float a = .ok incr) :
    let out := run "zincrby" ctx [key, a, m] db
    ((∃ s, z.get m = some (.inf s) ∧ incr = .inf (!s)) → ZCmd.Fails out db Msgs.SCORE_NAN_MSG) ∧
    (¬ (∃ s, z.get m = some (.inf s) ∧ incr = .inf (!s)) →
      (incrScore z m incr).isNaN = false ∧
      ZCmd.Writes out db key (z.add m (incrScore z m incr)).1 e (.bulk (fmtScore ctx (incrScore z m incr)))) := by
  intro out
  have hs := Props.C03z.zincrby_spec ctx db nd key z e hv hz a m incr ha
  have hi := incrScore_nan_iff hz m (Conv.float_not_nan ha)
  simp only at hs
  constructor
  · intro hex
    rw [if_pos (hi.mpr hex)] at hs
    exact hs
  · intro hne
    have hn : ¬ (incrScore z m incr).isNaN = true := fun hh => hne (hi.mp hh)
    rw [if_neg hn] at hs
    exact ⟨by simpa using hn, hs.1⟩

end zincrby

-- non-vacuity on C03z's example database: key `[1]` holds `a ↦ 1, …`, key `[5]` holds `a ↦ +inf`
example :
    NodupKeys Props.C03z.exDb.dict ∧ ZCmd.zsetView Props.C03z.exDb.live [1] = some (ZSet.example3, some 50) ∧
    ZSet.example3.Inv ∧ ZSet.example3.get [97] = some (Dbl.ofInt 1) ∧ (Dbl.ofInt 1).toRat = some 1 ∧
    (Conv.float (strBytes "0.1")).toOption = some (.fin false 7205759403792794 (-56)) ∧
    Dbl.RN false (1 + 7205759403792794 / 2 ^ 56) = .fin false 4953959590107546 (-52) ∧
    Props.C03z.rv (HashSet.run "zincrby" Props.C03z.exCtx [[1], strBytes "0.1", [97]] Props.C03z.exDb).reply =
      Props.C03z.rv (.bulk (strBytes "1.1000000000000001")) ∧
    ZCmd.zsetView Props.C03z.exDb.live [5] = some (Props.C03z.exInf, none) ∧
    Props.C03z.exInf.get [97] = some (.inf false) ∧
    (Conv.float (strBytes "-inf")).toOption = some (.inf true) ∧
    Props.C03z.errOf (HashSet.run "zincrby" Props.C03z.exCtx [[5], strBytes "-inf", [97]] Props.C03z.exDb).reply =
      some (strBytes Msgs.SCORE_NAN_MSG) := by
  have d : ZSet.example3.get [97] = some (Dbl.ofInt 1) ∧ (Dbl.ofInt 1).toRat = some 1 ∧
      (Conv.float (strBytes "0.1")).toOption = some (.fin false 7205759403792794 (-56)) ∧
      Dbl.RN false (1 + 7205759403792794 / 2 ^ 56) = .fin false 4953959590107546 (-52) ∧
      Props.C03z.rv (HashSet.run "zincrby" Props.C03z.exCtx [[1], strBytes "0.1", [97]] Props.C03z.exDb).reply =
        Props.C03z.rv (.bulk (strBytes "1.1000000000000001")) ∧
      Props.C03z.exInf.get [97] = some (.inf false) ∧
      (Conv.float (strBytes "-inf")).toOption = some (.inf true) ∧
      Props.C03z.errOf (HashSet.run "zincrby" Props.C03z.exCtx [[5], strBytes "-inf", [97]] Props.C03z.exDb).reply =
        some (strBytes Msgs.SCORE_NAN_MSG) := by decide +kernel
  exact ⟨by decide, by rfl, Props.C03z.example3_inv, d.1, d.2.1, d.2.2.1, d.2.2.2.1, d.2.2.2.2.1, by rfl,
    d.2.2.2.2.2.1, d.2.2.2.2.2.2.1, d.2.2.2.2.2.2.2⟩

/-- **ZUNIONSTORE / ZINTERSTORE** (`WEIGHTS`, `AGGREGATE SUM`; vocabulary of C03s): the weighted score of an entry with
finite score `x` and finite weight `y` is the correctly rounded product; the aggregation of two finite contributions is the
correctly rounded sum; and the only NaNs that `nz` / `contrib` turn into `0.0` are `±inf · ±0` and `inf + (−inf)` -/
theorem zunion_arith (union : Bool) :
    (∀ (s0 w : Dbl) (x y : ℚ), s0.toRat = some x → w.toRat = some y →
      ZStore.contrib union s0 w = Dbl.RN (s0.signBit != w.signBit) (x * y)) ∧
    (∀ (old c : Dbl) (x y : ℚ), old.toRat = some x → c.toRat = some y →
      ZStore.combine (strBytes "sum") old c = Dbl.RN (c.signBit && old.signBit) (y + x)) ∧
    (∀ s0 w : Dbl, s0.isNaN = false → w.isNaN = false →
      ZStore.contrib true s0 w =
        if (s0.isInf = true ∧ w.isZero = true) ∨ (s0.isZero = true ∧ w.isInf = true) then Dbl.zero else s0.mul w) ∧
    (∀ old c : Dbl, old.isNaN = false → c.isNaN = false →
      ZStore.combine (strBytes "sum") old c =
        if ∃ s, c = .inf s ∧ old = .inf (!s) then Dbl.zero else c.add old) := by
  have nz_RN : ∀ z q, ZStore.nz (Dbl.RN z q) = Dbl.RN z q := by
    intro z q; unfold ZStore.nz; rw [FR.C18a.RN_not_nan]; rfl
  have sumdef : ∀ old c, ZStore.combine (strBytes "sum") old c = ZStore.nz (ZStore.nz (c.add old)) := by
    intro old c; unfold ZStore.combine; rw [if_pos (by simp)]
  have nanb : ∀ d : Dbl, d.isNaN = true ↔ d = .nan := by intro d; cases d <;> simp [Dbl.isNaN]
  refine ⟨fun s0 w x y hx hy => ?_, fun old c x y hx hy => ?_, fun s0 w h1 h2 => ?_, fun old c h1 h2 => ?_⟩
  · unfold ZStore.contrib
    rw [mul_eq_RN hx hy, FR.C18a.RN_not_nan]
    simp
  · rw [sumdef, add_eq_RN hy hx, nz_RN, nz_RN]
  · unfold ZStore.contrib
    have hiff := FR.C18a.mul_eq_nan_iff s0 w
    by_cases hc : (s0.isInf = true ∧ w.isZero = true) ∨ (s0.isZero = true ∧ w.isInf = true)
    · rw [if_pos hc, (nanb _).mpr (hiff.mpr (Or.inr (Or.inr hc)))]; rfl
    · rw [if_neg hc]
      have : ¬ (s0.mul w).isNaN = true := by
        rw [nanb, hiff]
        rintro (h | h | h)
        · subst h; cases h1
        · subst h; cases h2
        · exact hc h
      simp [this]
  · rw [sumdef]
    have hiff := FR.C18a.add_eq_nan_iff c old
    by_cases hc : ∃ s, c = .inf s ∧ old = .inf (!s)
    · rw [if_pos hc, hiff.mpr (Or.inr (Or.inr hc))]; rfl
    · rw [if_neg hc]
      have : ¬ (c.add old).isNaN = true := by
        rw [nanb, hiff]
        rintro (h | h | h)
        · subst h; cases h2
        · subst h; cases h1
        · exact hc h
      have e1 : ZStore.nz (c.add old) = c.add old := by unfold ZStore.nz; simp [this]
      rw [e1, e1]

example : ZStore.contrib true (Dbl.ofDecimal false 1 (-1)) (Dbl.ofInt 3) = .fin false 5404319552844596 (-54) ∧
    ZStore.combine (strBytes "sum") (Dbl.ofDecimal false 1 (-1)) (Dbl.ofDecimal false 2 (-1))
      = .fin false 5404319552844596 (-54) ∧
    ZStore.contrib true (.inf true) (.fin true 0 (-1074)) = Dbl.zero ∧
    (ZStore.contrib false (.inf true) (.fin true 0 (-1074))).isNaN = true ∧
    ZStore.combine (strBytes "sum") (.inf true) (.inf false) = Dbl.zero := by decide +kernel

/-! ## 6. Statements that are false as first written (kernel-checked witnesses; all are genuine IEEE-754 behaviour) -/

/-- `roundPos` needs a positive denominator to return a well-formed double (every call site passes `1`, `2^k` or `10^k`) -/
theorem roundPos_wf_full_false : ¬ ∀ (neg : Bool) (num den : Nat), Dbl.WF (Dbl.roundPos neg num den) := by
  intro h
  exact absurd (h false 5 0) (by decide +kernel)

/-- `a + 0 = a` fails for `a = -0`: `(−0) + (+0) = +0` -/
theorem add_zero_full_false :
    ¬ ∀ d : Dbl, Dbl.WF d → d.isFinite = true → Dbl.add d Dbl.zero = d := by
  intro h
  exact absurd (h (.fin true 0 (-1074)) (by decide) rfl) (by decide +kernel)

/-- `ofInt i * ofInt j = ofInt (i * j)` fails for a zero product with a negative factor: `0 * (−5) = −0 ≠ +0 = ofInt 0` -/
theorem mul_ofInt_full_false :
    ¬ ∀ i j : Int, i.natAbs ≤ 2 ^ 53 → j.natAbs ≤ 2 ^ 53 → Dbl.mul (Dbl.ofInt i) (Dbl.ofInt j) = Dbl.ofInt (i * j) := by
  intro h
  exact absurd (h 0 (-5) (by decide) (by decide)) (by decide +kernel)

/-- `toBits (ofBits b) = b` fails on NaN patterns other than `0x7FF8000000000000` (here: the negative quiet NaN with
payload 1): the model has a single NaN -/
theorem toBits_ofBits_full_false : ¬ ∀ b : UInt64, Dbl.toBits (Dbl.ofBits b) = b := by
  intro h
  exact absurd (h 0xFFF8000000000001) (by decide +kernel)

end FR.Props.C18a

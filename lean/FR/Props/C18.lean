import FR.Proofs.Decimal
import FR.Proofs.ZSet
/-!
# C18 — argument converters: canonical integers, ranges, float rejection rules

Integers: `intRange_iff` and its instances for the five integer converters, `encode_guard`, the two round trips.
Floats: no converter returns a NaN, every refusal carries the converter's message, `_`, leading and trailing white space
are refused (the grammar of what is accepted is C18f).  Then the non-vacuity examples.
-/
namespace FR
namespace C18

/-- A range-checked integer converter accepts exactly the canonical rendering of an in-range integer. -/
theorem intRange_iff (lo hi : Int) (msg : String) (b : Bytes) (n : Int) :
    Conv.intRange lo hi msg b = .ok n ↔ (b = intBytes n ∧ lo ≤ n ∧ n ≤ hi) := by
  unfold Conv.intRange
  constructor
  · intro h
    split at h
    · rename_i m hm
      split at h
      · rename_i hr
        cases h
        exact ⟨parseCanonInt_canonical hm, hr⟩
      · cases h
    · cases h
  · rintro ⟨rfl, hr⟩
    rw [parseCanonInt_intBytes]
    simp only [hr, and_self, if_true]

/-- every rejection of a range-checked integer converter carries the converter's own message -/
theorem intRange_error (lo hi : Int) (msg : String) (b : Bytes) (e : Err) :
    Conv.intRange lo hi msg b = .error e → e = msg := by
  unfold Conv.intRange
  intro h
  split at h
  · split at h
    · cases h
    · cases h; rfl
  · cases h; rfl

theorem int_decode_iff (b : Bytes) (n : Int) :
    Conv.int b = .ok n ↔ (b = intBytes n ∧ Conv.INT_MIN ≤ n ∧ n ≤ Conv.INT_MAX) :=
  intRange_iff _ _ _ b n

theorem dbIndex_decode_iff (b : Bytes) (n : Int) :
    Conv.dbIndex b = .ok n ↔ (b = intBytes n ∧ 0 ≤ n ∧ n ≤ 15) :=
  intRange_iff _ _ _ b n

theorem bitValue_decode_iff (b : Bytes) (n : Int) :
    Conv.bitValue b = .ok n ↔ (b = intBytes n ∧ 0 ≤ n ∧ n ≤ 1) :=
  intRange_iff _ _ _ b n

theorem bitOffset_decode_iff (b : Bytes) (n : Int) :
    Conv.bitOffset b = .ok n ↔ (b = intBytes n ∧ 0 ≤ n ∧ n ≤ 2 ^ 32 - 1) :=
  intRange_iff 0 Conv.BIT_OFFSET_MAX _ b n

theorem timeout_decode_iff (b : Bytes) (n : Int) :
    Conv.timeout b = .ok n ↔ (b = intBytes n ∧ 0 ≤ n ∧ n ≤ 2 ^ 63 - 1) :=
  intRange_iff 0 Conv.INT_MAX _ b n

theorem encode_guard (n : Int) (b : Bytes) :
    Conv.encodeInt n = .ok b ↔ (Conv.INT_MIN ≤ n ∧ n ≤ Conv.INT_MAX ∧ b = intBytes n) := by
  unfold Conv.encodeInt
  constructor
  · intro h
    split at h
    · rename_i hr
      cases h
      exact ⟨hr.1, hr.2, rfl⟩
    · cases h
  · rintro ⟨h1, h2, rfl⟩
    rw [if_pos ⟨h1, h2⟩]

theorem encode_overflow (n : Int) (h : ¬(Conv.INT_MIN ≤ n ∧ n ≤ Conv.INT_MAX)) :
    Conv.encodeInt n = .error Msgs.OVERFLOW_MSG := by
  unfold Conv.encodeInt
  rw [if_neg h]

theorem decode_encode_roundtrip (n : Int) (h1 : Conv.INT_MIN ≤ n) (h2 : n ≤ Conv.INT_MAX) :
    (Conv.encodeInt n).bind Conv.int = .ok n := by
  rw [(encode_guard n (intBytes n)).mpr ⟨h1, h2, rfl⟩]
  exact (int_decode_iff _ _).mpr ⟨rfl, h1, h2⟩

/-- an accepted integer argument re-encodes to the very same bytes -/
theorem encode_decode_roundtrip (b : Bytes) (n : Int) (h : Conv.int b = .ok n) :
    Conv.encodeInt n = .ok b := by
  obtain ⟨rfl, h1, h2⟩ := (int_decode_iff b n).mp h
  exact (encode_guard _ _).mpr ⟨h1, h2, rfl⟩

/-! ## floats -/

theorem floatGen_never_nan (msg : String) (w e m c : Bool) (b : Bytes) (d : Dbl) :
    Conv.floatGen msg w e m c b = .ok d → d.isNaN = false :=
  Cmd.Conv.floatGen_not_nan

theorem floatGen_error (msg : String) (w e m c : Bool) (b : Bytes) (err : Err) :
    Conv.floatGen msg w e m c b = .error err → err = msg :=
  Cmd.Conv.floatGen_error

theorem float_never_nan (b : Bytes) (d : Dbl) : Conv.float b = .ok d → d.isNaN = false :=
  floatGen_never_nan _ _ _ _ _ b d

theorem sortFloat_never_nan (b : Bytes) (d : Dbl) : Conv.sortFloat b = .ok d → d.isNaN = false :=
  floatGen_never_nan _ _ _ _ _ b d

theorem scoreTest_never_nan (b : Bytes) (d : Dbl) (excl : Bool) :
    Conv.scoreTest b = .ok (d, excl) → d.isNaN = false := by
  unfold Conv.scoreTest
  intro h
  simp only at h
  split at h
  · rename_i d' hd
    cases h
    exact floatGen_never_nan _ _ _ _ _ _ _ hd
  · cases h

theorem float_rejects_underscore (b : Bytes) (h : b.contains 95 = true) :
    Conv.float b = .error Msgs.INVALID_FLOAT_MSG := by
  unfold Conv.float Conv.floatGen
  simp only [Bool.false_and, Bool.false_eq_true, if_false, h, if_true]
  split
  · rfl
  · split <;> rfl

theorem float_rejects_leading_space (c : UInt8) (rest : Bytes) (h : PyFloat.isSpace c = true) :
    Conv.float (c :: rest) = .error Msgs.INVALID_FLOAT_MSG := by
  unfold Conv.float Conv.floatGen
  simp [h]

theorem float_rejects_trailing_space (b : Bytes) (c : UInt8) (hl : b.getLast? = some c)
    (h : PyFloat.isSpace c = true) :
    Conv.float b = .error Msgs.INVALID_FLOAT_MSG := by
  unfold Conv.float Conv.floatGen
  simp only [Bool.false_and, Bool.false_eq_true, if_false, hl, Option.map_some, Option.getD_some, h,
    if_true]
  split <;> rfl

/-! ## non-vacuity -/

example : Conv.int (strBytes "007") = .error Msgs.INVALID_INT_MSG := by rw [strBytes_eq]; rfl
example : Conv.int (strBytes "-0") = .error Msgs.INVALID_INT_MSG := by rw [strBytes_eq]; rfl
example : Conv.int (strBytes "+1") = .error Msgs.INVALID_INT_MSG := by rw [strBytes_eq]; rfl
example : Conv.int (strBytes " 1") = .error Msgs.INVALID_INT_MSG := by rw [strBytes_eq]; rfl
example : Conv.int (strBytes "1\n") = .error Msgs.INVALID_INT_MSG := by rw [strBytes_eq]; rfl
example : Conv.int (strBytes "") = .error Msgs.INVALID_INT_MSG := by rw [strBytes_eq]; rfl
example : Conv.int (strBytes "-") = .error Msgs.INVALID_INT_MSG := by rw [strBytes_eq]; rfl
example : Conv.int (strBytes "-12") = .ok (-12) := by rw [strBytes_eq]; rfl
example : Conv.int (strBytes "0") = .ok 0 := by rw [strBytes_eq]; rfl
example : Conv.int (strBytes "9223372036854775807") = .ok (2 ^ 63 - 1) := by rw [strBytes_eq]; rfl
example : Conv.int (strBytes "9223372036854775808") = .error Msgs.INVALID_INT_MSG := by
  rw [strBytes_eq]; rfl
example : Conv.int (strBytes "-9223372036854775808") = .ok (-(2 ^ 63)) := by rw [strBytes_eq]; rfl
example : Conv.int (strBytes "-9223372036854775809") = .error Msgs.INVALID_INT_MSG := by
  rw [strBytes_eq]; rfl
example : Conv.dbIndex (strBytes "16") = .error Msgs.INVALID_DB_MSG := by rw [strBytes_eq]; rfl
example : Conv.dbIndex (strBytes "15") = .ok 15 := by rw [strBytes_eq]; rfl
example : Conv.bitValue (strBytes "2") = .error Msgs.INVALID_BIT_VALUE_MSG := by rw [strBytes_eq]; rfl
example : Conv.bitOffset (strBytes "4294967296") = .error Msgs.INVALID_BIT_OFFSET_MSG := by
  rw [strBytes_eq]; rfl
example : Conv.bitOffset (strBytes "4294967295") = .ok 4294967295 := by rw [strBytes_eq]; rfl
example : Conv.timeout (strBytes "-1") = .error Msgs.TIMEOUT_NEGATIVE_MSG := by rw [strBytes_eq]; rfl
example : Conv.encodeInt (2 ^ 63) = .error Msgs.OVERFLOW_MSG := rfl
example : Conv.encodeInt (-5) = .ok (intBytes (-5)) := rfl
example : intBytes (-120) = strBytes "-120" := by
  rw [strBytes_eq]; exact (parseCanonInt_canonical (b := [45, 49, 50, 48]) (n := -120) rfl).symm
example : Conv.float (strBytes "1_0") = .error Msgs.INVALID_FLOAT_MSG :=
  float_rejects_underscore _ (by rw [strBytes_eq]; rfl)
example : Conv.float (strBytes " 1") = .error Msgs.INVALID_FLOAT_MSG := by
  rw [strBytes_eq]; exact float_rejects_leading_space 32 [49] rfl
example : Conv.float (strBytes "1 ") = .error Msgs.INVALID_FLOAT_MSG :=
  float_rejects_trailing_space _ 32 (by rw [strBytes_eq]; rfl) rfl

end C18
end FR

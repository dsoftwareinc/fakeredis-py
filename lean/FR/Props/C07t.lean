import FR.Proofs.Ttl
import FR.Props.C05
/-!
# C07: the rules for deadlines

Vocabulary (`Db.live` is defined in `FR/Proofs/Apply.lean`, `Db.purge` in `FR/Data/Db.lean`, the rest in
`FR/Proofs/Ttl.lean`):

* `Db.live db k`       the entry of `k` a client can see (`none` when missing or expired);
* `Ttl.deadline db k`  the deadline stored in that entry (`none`: no entry or no deadline);
* `Ttl.run name ctx raw db`  = `runRegular sig body ctx none raw db` for the real signature `SigTable.find name` and
  the real body `Cmd.regular name`;
* the clock counts 100 ns ticks: `TICKS = 10^7` per second, `TICKS_MS = 10^4` per millisecond;
* `Db.purge out.db = Db.purge db` : nothing changed (only expired entries may have been dropped lazily).

Every theorem holds for an arbitrary database with unique keys (`NodupKeys`), arbitrary key / argument bytes, any
emulated version, any `dbnum`/`inTx` in the context; `ctx.time = db.time` is what `_run_command` guarantees
(`inside_exec` and `outside_exec` at the end, from `runInner_regular` of `FR/Proofs/Request.lean`).  The hypothesis `it.value.isEmptyColl = false` excludes a stored empty collection,
which no command ever stores (`NoEmpty`, `runRegular_noEmpty`).
-/
namespace FR.Props.C07t
open FR FR.Ttl

/-! ## examples used for non-vacuity: clock at 1 s; `a` expires at 5 s, `b` has no deadline, `l` is a list with
deadline 3 s -/

def db0 : Db :=
  ⟨[([97], ⟨.str [1], some 50000000⟩), ([98], ⟨.str [2], none⟩), ([108], ⟨.list [[1], [2]], some 30000000⟩)], 10000000⟩
def ctx0 : Ctx := ⟨7, 10000000, 0, false, []⟩

theorem db0_nd : NodupKeys db0.dict := by decide
/-- `a` a string expiring at 5 s, `s` a set expiring at 5 s -/
def dbS : Db := ⟨[([97], ⟨.str [1], some 50000000⟩), ([115], ⟨.set [[5]], some 50000000⟩)], 10000000⟩
theorem cm_ex : casematch [69, 120] "ex" = true := by unfold casematch; rw [strBytes_eq]; rfl
theorem cm_px : casematch [112, 88] "px" = true := by unfold casematch; rw [strBytes_eq]; rfl
theorem cm_keepttl : casematch [75, 69, 69, 80, 84, 84, 76] "keepttl" = true := by
  unfold casematch; rw [strBytes_eq]; rfl

/-! ## 1. TTL / PTTL -/

/-- TTL answers `ttlAnswer now 1 (live entry)` and PTTL `ttlAnswer now 1000 (live entry)`, where
`ttlAnswer now scale` is `-2` without live entry, `-1` without deadline, and otherwise
`roundHalfUp ((deadline - now) * scale) TICKS` = `floor(x + 1/2)`: nearest, ties UP — Redis' `(ttl_ms + 500) / 1000`;
nothing changes. -/
theorem ttl_reply (ctx : Ctx) (k : Bytes) (db : Db) (nd : NodupKeys db.dict) :
    (run "ttl" ctx [k] db).reply = ttlAnswer ctx.time 1 (db.live k) ∧
    Db.purge (run "ttl" ctx [k] db).db = Db.purge db := ttl_gen "ttl" Cmd.ttl 1 (fun _ _ => rfl) ctx k nd

theorem pttl_reply (ctx : Ctx) (k : Bytes) (db : Db) (nd : NodupKeys db.dict) :
    (run "pttl" ctx [k] db).reply = ttlAnswer ctx.time 1000 (db.live k) ∧
    Db.purge (run "pttl" ctx [k] db).db = Db.purge db :=
  ttl_gen "pttl" Cmd.pttl 1000 (fun _ _ => rfl) ctx k nd

/-- `-2` iff the key is not live; `-1` iff it is live without deadline; otherwise the rounded remaining time,
which is never negative (so the three cases cannot be confused). -/
theorem ttl_cases (ctx : Ctx) (k : Bytes) (db : Db) (nd : NodupKeys db.dict) (hctx : ctx.time = db.time)
    (hne : ∀ it, db.live k = some it → it.value.isEmptyColl = false) :
    ((run "ttl" ctx [k] db).reply = .int (-2) ↔ db.live k = none) ∧
    ((run "ttl" ctx [k] db).reply = .int (-1) ↔ ∃ it, db.live k = some it ∧ it.expireat = none) ∧
    (∀ it e, db.live k = some it → it.expireat = some e →
      (run "ttl" ctx [k] db).reply = .int (roundHalfUp ((e - ctx.time) * 1) TICKS) ∧
      0 ≤ roundHalfUp ((e - ctx.time) * 1) TICKS) := by
  rw [(ttl_reply ctx k db nd).1]
  exact ttlAnswer_cases k ctx.time 1 hctx (by decide) hne

theorem pttl_cases (ctx : Ctx) (k : Bytes) (db : Db) (nd : NodupKeys db.dict) (hctx : ctx.time = db.time)
    (hne : ∀ it, db.live k = some it → it.value.isEmptyColl = false) :
    ((run "pttl" ctx [k] db).reply = .int (-2) ↔ db.live k = none) ∧
    ((run "pttl" ctx [k] db).reply = .int (-1) ↔ ∃ it, db.live k = some it ∧ it.expireat = none) ∧
    (∀ it e, db.live k = some it → it.expireat = some e →
      (run "pttl" ctx [k] db).reply = .int (roundHalfUp ((e - ctx.time) * 1000) TICKS) ∧
      0 ≤ roundHalfUp ((e - ctx.time) * 1000) TICKS) := by
  rw [(pttl_reply ctx k db nd).1]
  exact ttlAnswer_cases k ctx.time 1000 hctx (by decide) hne

/-- the rounding: for `den > 0`, `roundHalfUp num den = q` iff `q ≤ num/den + 1/2 < q + 1`, written in integers -/
theorem rounding_rule (num den : Int) (hd : 0 < den) (q : Int) :
    roundHalfUp num den = q ↔ 2 * den * q ≤ 2 * num + den ∧ 2 * num + den < 2 * den * (q + 1) := by
  unfold roundHalfUp
  have hb : 0 < 2 * den := by omega
  have h1 : ∀ x : Int, x ≤ (2 * num + den) / (2 * den) ↔ x * (2 * den) ≤ 2 * num + den :=
    fun x => Int.le_ediv_iff_mul_le hb
  have h2 : ∀ x : Int, (2 * num + den) / (2 * den) < x ↔ 2 * num + den < x * (2 * den) :=
    fun x => Int.ediv_lt_iff_lt_mul hb
  rw [Int.mul_comm (2 * den) q, Int.mul_comm (2 * den) (q + 1), ← h1, ← h2]
  omega

/-- 2.5 s gives 3 and 2.4999999 s gives 2 (ticks of 100 ns); half-to-even would have given 2 for 2.5 s.
On the commands: clock 1 s, deadlines 3.5 s and 3.4999999 s. -/
example : roundHalfUp (25000000 * 1) TICKS = 3 ∧ roundHalfUp (24999999 * 1) TICKS = 2 ∧
    roundHalfEven (25000000 * 1) TICKS = 2 ∧
    (run "ttl" ctx0 [[97]] ⟨[([97], ⟨.str [1], some 35000000⟩)], 10000000⟩).reply = .int 3 ∧
    (run "ttl" ctx0 [[97]] ⟨[([97], ⟨.str [1], some 34999999⟩)], 10000000⟩).reply = .int 2 ∧
    (run "pttl" ctx0 [[97]] ⟨[([97], ⟨.str [1], some 35000000⟩)], 10000000⟩).reply = .int 2500 :=
  ⟨by decide, by decide, by decide, rfl, rfl, rfl⟩

example : (run "ttl" ctx0 [[97]] db0).reply = .int 4 ∧ (run "pttl" ctx0 [[97]] db0).reply = .int 4000 ∧
    (run "ttl" ctx0 [[98]] db0).reply = .int (-1) ∧ (run "ttl" ctx0 [[99]] db0).reply = .int (-2) :=
  ⟨rfl, rfl, rfl, rfl⟩

/-! ## 2. EXPIRE / PEXPIRE / EXPIREAT / PEXPIREAT / PERSIST -/

/-- The refusal conditions (`FR/Proofs/Ttl.lean`), spelled out.  The deadline of EXPIRE / PEXPIRE / EXPIREAT is a
signed 64-bit number of milliseconds in Redis: with `ms` the argument in milliseconds and `basetime_ms` =
`int(self._db.time * 1000)` = `now / TICKS_MS` (0 for EXPIREAT) the command is refused iff
`ms + basetime_ms ≥ 2^63 ∨ ms < -2^63`. -/
theorem overflow_conditions (now n : Int) :
    (expireOverflow now n ↔ (n * 1000 + now / TICKS_MS ≥ 2 ^ 63 ∨ n * 1000 < -(2 ^ 63))) ∧
    (pexpireOverflow now n ↔ (n + now / TICKS_MS ≥ 2 ^ 63 ∨ n < -(2 ^ 63))) ∧
    (expireatOverflow n ↔ (n * 1000 ≥ 2 ^ 63 ∨ n * 1000 < -(2 ^ 63))) := ⟨Iff.rfl, Iff.rfl, Iff.rfl⟩

/-- EXPIRE k n (n any 64-bit integer): refused with the invalid-expire error, nothing changed, when the deadline is
out of range (`expireOverflow`); otherwise: on a missing key reply 0 and nothing changes; on a live key reply 1 and
the deadline becomes exactly `now + n·TICKS` — unless that instant is not in the future, then the key is removed.
No other key is touched. -/
theorem expire_rule (ctx : Ctx) (k sb : Bytes) (n : Int) (hs : Conv.int sb = .ok n) (db : Db)
    (nd : NodupKeys db.dict) (hctx : ctx.time = db.time) :
    let out := run "expire" ctx [k, sb] db
    (expireOverflow db.time n →
      out.reply = .err (strBytes (Msgs.fmt1 Msgs.INVALID_EXPIRE_MSG "expire")) ∧ Db.purge out.db = Db.purge db) ∧
    (¬ expireOverflow db.time n →
      (db.live k = none → out.reply = .int 0 ∧ Db.purge out.db = Db.purge db) ∧
      (∀ it, db.live k = some it → it.value.isEmptyColl = false →
        out.reply = .int 1 ∧
        out.db.live k =
          (if db.time + n * TICKS ≤ db.time then none else some ⟨it.value, some (db.time + n * TICKS)⟩) ∧
        ∀ k', k' ≠ k → out.db.live k' = db.live k')) :=
  expire_gen "expire" Cmd.expire (fun t s => Cmd.expireMsBad (s * 1000) (t / TICKS_MS)) (fun t s => t + s * TICKS)
    expireOverflow (fun _ _ => expireMsBad_iff _ _) (fun _ _ _ => rfl) ctx k sb n hs nd hctx

/-- PEXPIRE: the instant is `now + n·TICKS_MS`; refused when `pexpireOverflow`. -/
theorem pexpire_rule (ctx : Ctx) (k sb : Bytes) (n : Int) (hs : Conv.int sb = .ok n) (db : Db)
    (nd : NodupKeys db.dict) (hctx : ctx.time = db.time) :
    let out := run "pexpire" ctx [k, sb] db
    (pexpireOverflow db.time n →
      out.reply = .err (strBytes (Msgs.fmt1 Msgs.INVALID_EXPIRE_MSG "pexpire")) ∧ Db.purge out.db = Db.purge db) ∧
    (¬ pexpireOverflow db.time n →
      (db.live k = none → out.reply = .int 0 ∧ Db.purge out.db = Db.purge db) ∧
      (∀ it, db.live k = some it → it.value.isEmptyColl = false →
        out.reply = .int 1 ∧
        out.db.live k =
          (if db.time + n * TICKS_MS ≤ db.time then none else some ⟨it.value, some (db.time + n * TICKS_MS)⟩) ∧
        ∀ k', k' ≠ k → out.db.live k' = db.live k')) :=
  expire_gen "pexpire" Cmd.pexpire (fun t s => Cmd.expireMsBad s (t / TICKS_MS)) (fun t s => t + s * TICKS_MS)
    pexpireOverflow (fun _ _ => expireMsBad_iff _ _) (fun _ _ _ => rfl) ctx k sb n hs nd hctx

/-- EXPIREAT: the instant is the absolute `n·TICKS`; refused when `expireatOverflow`. -/
theorem expireat_rule (ctx : Ctx) (k sb : Bytes) (n : Int) (hs : Conv.int sb = .ok n) (db : Db)
    (nd : NodupKeys db.dict) (hctx : ctx.time = db.time) :
    let out := run "expireat" ctx [k, sb] db
    (expireatOverflow n →
      out.reply = .err (strBytes (Msgs.fmt1 Msgs.INVALID_EXPIRE_MSG "expireat")) ∧ Db.purge out.db = Db.purge db) ∧
    (¬ expireatOverflow n →
      (db.live k = none → out.reply = .int 0 ∧ Db.purge out.db = Db.purge db) ∧
      (∀ it, db.live k = some it → it.value.isEmptyColl = false →
        out.reply = .int 1 ∧
        out.db.live k = (if n * TICKS ≤ db.time then none else some ⟨it.value, some (n * TICKS)⟩) ∧
        ∀ k', k' ≠ k → out.db.live k' = db.live k')) :=
  expire_gen "expireat" Cmd.expireat (fun _ s => Cmd.expireMsBad (s * 1000) 0) (fun _ s => s * TICKS)
    (fun _ s => expireatOverflow s) (fun _ s => by rw [expireMsBad_iff, Int.add_zero]; rfl) (fun _ _ _ => rfl)
    ctx k sb n hs nd hctx

/-- PEXPIREAT: the instant is the absolute `n·TICKS_MS`. -/
theorem pexpireat_rule (ctx : Ctx) (k sb : Bytes) (n : Int) (hs : Conv.int sb = .ok n) (db : Db)
    (nd : NodupKeys db.dict) (hctx : ctx.time = db.time) :
    let out := run "pexpireat" ctx [k, sb] db
    (db.live k = none → out.reply = .int 0 ∧ Db.purge out.db = Db.purge db) ∧
    (∀ it, db.live k = some it → it.value.isEmptyColl = false →
      out.reply = .int 1 ∧
      out.db.live k = (if n * TICKS_MS ≤ db.time then none else some ⟨it.value, some (n * TICKS_MS)⟩) ∧
      ∀ k', k' ≠ k → out.db.live k' = db.live k') :=
  (expire_gen "pexpireat" Cmd.pexpireat (fun _ _ => false) (fun _ s => s * TICKS_MS) (fun _ _ => False)
    (fun _ _ => by simp) (fun _ _ _ => rfl) ctx k sb n hs nd hctx).2 id

/-- EXPIRE k n with a deadline outside the signed 64-bit millisecond range (`expireOverflow now n`): refused with
`ERR invalid expire time in expire`, and nothing changes — whether or not the key exists. -/
theorem expire_overflow_refused (ctx : Ctx) (k sb : Bytes) (n : Int) (hs : Conv.int sb = .ok n) (db : Db)
    (nd : NodupKeys db.dict) (hctx : ctx.time = db.time) (hov : expireOverflow db.time n) :
    let out := run "expire" ctx [k, sb] db
    out.reply = .err (strBytes (Msgs.fmt1 Msgs.INVALID_EXPIRE_MSG "expire")) ∧ Db.purge out.db = Db.purge db :=
  (expire_rule ctx k sb n hs db nd hctx).1 hov

/-- PEXPIRE k n out of range (`pexpireOverflow now n`): refused with `ERR invalid expire time in pexpire`. -/
theorem pexpire_overflow_refused (ctx : Ctx) (k sb : Bytes) (n : Int) (hs : Conv.int sb = .ok n) (db : Db)
    (nd : NodupKeys db.dict) (hctx : ctx.time = db.time) (hov : pexpireOverflow db.time n) :
    let out := run "pexpire" ctx [k, sb] db
    out.reply = .err (strBytes (Msgs.fmt1 Msgs.INVALID_EXPIRE_MSG "pexpire")) ∧ Db.purge out.db = Db.purge db :=
  (pexpire_rule ctx k sb n hs db nd hctx).1 hov

/-- EXPIREAT k n out of range (`expireatOverflow n`, independent of the clock): refused with
`ERR invalid expire time in expireat`. -/
theorem expireat_overflow_refused (ctx : Ctx) (k sb : Bytes) (n : Int) (hs : Conv.int sb = .ok n) (db : Db)
    (nd : NodupKeys db.dict) (hctx : ctx.time = db.time) (hov : expireatOverflow n) :
    let out := run "expireat" ctx [k, sb] db
    out.reply = .err (strBytes (Msgs.fmt1 Msgs.INVALID_EXPIRE_MSG "expireat")) ∧ Db.purge out.db = Db.purge db :=
  (expireat_rule ctx k sb n hs db nd hctx).1 hov

/-- PERSIST: reply 1 iff there was a deadline, which is removed (value untouched); otherwise reply 0, no change. -/
theorem persist_rule (ctx : Ctx) (k : Bytes) (db : Db) (nd : NodupKeys db.dict) :
    let out := run "persist" ctx [k] db
    (deadline db k = none → out.reply = .int 0 ∧ Db.purge out.db = Db.purge db) ∧
    (∀ it e, db.live k = some it → it.expireat = some e → it.value.isEmptyColl = false →
      out.reply = .int 1 ∧ out.db.live k = some ⟨it.value, none⟩ ∧
      ∀ k', k' ≠ k → out.db.live k' = db.live k') := by
  intro out
  have ha := applyL_K db.live "persist" false 1 0 false k
  refine ⟨fun hd => ?_, fun it e hl he hv => ?_⟩
  · have hb : Cmd.persist ctx [.key 0] [ciOf none k (db.live k)] = .ok ⟨.int 0, [ciOf none k (db.live k)], 0⟩ := by
      simp only [Cmd.persist, ciAt, List.getD_cons_zero, ciOf_expireat]
      unfold deadline at hd
      rw [hd]; rfl
    exact run_untouched _ Cmd.persist ctx _ nd ha hb rfl
  · have hb : Cmd.persist ctx [.key 0] [ciOf none k (db.live k)] =
        .ok ⟨.int 1, [ciOf none k (db.live k)].set 0 ((ciOf none k (db.live k)).setExpire none), 0⟩ := by
      simp only [Cmd.persist, ciAt, List.getD_cons_zero, ciOf_expireat, hl, Option.bind_some, he]
      rfl
    have h := run_writes _ Cmd.persist ctx _ nd ha hb 0 (by simp) _ rfl
    simp only [CI.setExpire, ciOf_key] at h
    refine ⟨h.1, h.2.1.trans ?_, h.2.2⟩
    rw [hl]
    simp only [wbLive, ciOf, if_true, hv, Bool.false_eq_true, if_false]
    rfl

/-- non-vacuity: EXPIRE b 5 sets 6 s; EXPIRE a -1 removes a; EXPIRE of a missing key; PERSIST a -/
example : Conv.int [53] = .ok 5 ∧ Conv.int [45, 49] = .ok (-1) ∧ db0.live [98] = some ⟨.str [2], none⟩ ∧
    (run "expire" ctx0 [[98], [53]] db0).reply = .int 1 ∧
    (run "expire" ctx0 [[98], [53]] db0).db.live [98] = some ⟨.str [2], some 60000000⟩ ∧
    (run "expire" ctx0 [[97], [45, 49]] db0).db.live [97] = none ∧
    (run "expire" ctx0 [[99], [53]] db0).reply = .int 0 ∧
    (run "pexpireat" ctx0 [[98], [53]] db0).db.live [98] = none ∧
    (run "persist" ctx0 [[97]] db0).reply = .int 1 ∧
    (run "persist" ctx0 [[97]] db0).db.live [97] = some ⟨.str [1], none⟩ ∧
    (run "persist" ctx0 [[98]] db0).reply = .int 0 :=
  ⟨rfl, rfl, rfl, rfl, rfl, rfl, rfl, rfl, rfl, rfl, rfl⟩

/-- `9223372036854775807` = 2^63 - 1 and `-9223372036854775808` = -2^63 as argument bytes -/
def maxB : Bytes := [57, 50, 50, 51, 51, 55, 50, 48, 51, 54, 56, 53, 52, 55, 55, 53, 56, 48, 55]
def minB : Bytes := [45, 57, 50, 50, 51, 51, 55, 50, 48, 51, 54, 56, 53, 52, 55, 55, 53, 56, 48, 56]
/-- `9223372036854775` = (2^63 - 1) / 1000 (rounded down) -/
def maxSecB : Bytes := [57, 50, 50, 51, 51, 55, 50, 48, 51, 54, 56, 53, 52, 55, 55, 53]

/-- non-vacuity of the refusals (clock 1 s): `EXPIRE k 9223372036854775807`, `EXPIRE k -9223372036854775808`,
`PEXPIRE k 9223372036854775807`, `EXPIREAT k 9223372036854775807` are refused on the live key `b` and on the missing key
`c` alike, and `b` is untouched; `EXPIRE b 9223372036854775` (deadline 2^63 - 808 + 1000 ms ≥ 2^63) is refused too
while `EXPIREAT b 9223372036854775` is accepted; `PEXPIRE k -9223372036854775808` is in range: accepted, removes the
key. -/
example : Conv.int maxB = .ok 9223372036854775807 ∧ Conv.int minB = .ok (-9223372036854775808) ∧
    Conv.int maxSecB = .ok 9223372036854775 ∧
    expireOverflow db0.time 9223372036854775807 ∧ expireOverflow db0.time (-9223372036854775808) ∧
    expireOverflow db0.time 9223372036854775 ∧
    pexpireOverflow db0.time 9223372036854775807 ∧ ¬ pexpireOverflow db0.time (-9223372036854775808) ∧
    expireatOverflow 9223372036854775807 ∧ ¬ expireatOverflow 9223372036854775 ∧
    (run "expire" ctx0 [[98], maxB] db0).reply = .err (strBytes (Msgs.fmt1 Msgs.INVALID_EXPIRE_MSG "expire")) ∧
    (run "expire" ctx0 [[98], maxB] db0).db.live [98] = some ⟨.str [2], none⟩ ∧
    (run "expire" ctx0 [[99], maxB] db0).reply = .err (strBytes (Msgs.fmt1 Msgs.INVALID_EXPIRE_MSG "expire")) ∧
    (run "expire" ctx0 [[98], minB] db0).reply = .err (strBytes (Msgs.fmt1 Msgs.INVALID_EXPIRE_MSG "expire")) ∧
    (run "expire" ctx0 [[98], maxSecB] db0).reply = .err (strBytes (Msgs.fmt1 Msgs.INVALID_EXPIRE_MSG "expire")) ∧
    (run "pexpire" ctx0 [[98], maxB] db0).reply = .err (strBytes (Msgs.fmt1 Msgs.INVALID_EXPIRE_MSG "pexpire")) ∧
    (run "pexpire" ctx0 [[99], maxB] db0).reply = .err (strBytes (Msgs.fmt1 Msgs.INVALID_EXPIRE_MSG "pexpire")) ∧
    (run "pexpire" ctx0 [[98], minB] db0).reply = .int 1 ∧
    (run "pexpire" ctx0 [[98], minB] db0).db.live [98] = none ∧
    (run "expireat" ctx0 [[98], maxB] db0).reply = .err (strBytes (Msgs.fmt1 Msgs.INVALID_EXPIRE_MSG "expireat")) ∧
    (run "expireat" ctx0 [[99], maxB] db0).reply = .err (strBytes (Msgs.fmt1 Msgs.INVALID_EXPIRE_MSG "expireat")) ∧
    (run "expireat" ctx0 [[98], maxSecB] db0).reply = .int 1 ∧
    (run "expireat" ctx0 [[98], maxSecB] db0).db.live [98] = some ⟨.str [2], some 92233720368547750000000⟩ ∧
    (run "pexpireat" ctx0 [[98], maxB] db0).reply = .int 1 :=
  ⟨rfl, rfl, rfl,
   by decide, by decide, by decide, by decide, by decide, by decide, by decide,
   (expire_overflow_refused ctx0 [98] maxB 9223372036854775807 rfl db0 db0_nd rfl (by decide)).1,
   rfl, rfl, rfl, rfl,
   (pexpire_overflow_refused ctx0 [98] maxB 9223372036854775807 rfl db0 db0_nd rfl (by decide)).1, rfl, rfl, rfl,
   (expireat_overflow_refused ctx0 [98] maxB 9223372036854775807 rfl db0 db0_nd rfl (by decide)).1, rfl, rfl, rfl, rfl⟩

/-! ## 3. SETEX / PSETEX / SET EX|PX -/

/-- SETEX k n v: a non-positive (or overflowing) time is an error and changes nothing; otherwise the string is
stored with exactly the deadline `now + n·TICKS`, whatever was there before. -/
theorem setex_rule (ctx : Ctx) (k sb v : Bytes) (n : Int) (hs : Conv.int sb = .ok n) (db : Db)
    (nd : NodupKeys db.dict) (hctx : ctx.time = db.time) :
    let out := run "setex" ctx [k, sb, v] db
    ((n ≤ 0 ∨ db.time + n * TICKS ≥ 2 ^ 63 * TICKS_MS) →
      out.reply = .err (strBytes (Msgs.fmt1 Msgs.INVALID_EXPIRE_MSG "setex")) ∧ Db.purge out.db = Db.purge db) ∧
    (¬ (n ≤ 0 ∨ db.time + n * TICKS ≥ 2 ^ 63 * TICKS_MS) →
      out.reply = .ok ∧ out.db.live k = some ⟨.str v, some (db.time + n * TICKS)⟩ ∧
      ∀ k', k' ≠ k → out.db.live k' = db.live k') := by
  have e := StrKeys.setex_runL ctx db.time db.live hctx k sb v
  simp only [hs] at e
  refine ⟨fun hbad => ?_, fun hgood => ?_⟩
  · exact run_refused StrKeys.find_setex rfl ctx _ nd (e.trans (if_pos hbad))
  · exact run_point StrKeys.find_setex rfl ctx _ nd (e.trans (if_neg hgood))

theorem psetex_rule (ctx : Ctx) (k sb v : Bytes) (n : Int) (hs : Conv.int sb = .ok n) (db : Db)
    (nd : NodupKeys db.dict) (hctx : ctx.time = db.time) :
    let out := run "psetex" ctx [k, sb, v] db
    ((n ≤ 0 ∨ db.time + n * TICKS_MS ≥ 2 ^ 63 * TICKS_MS) →
      out.reply = .err (strBytes (Msgs.fmt1 Msgs.INVALID_EXPIRE_MSG "psetex")) ∧ Db.purge out.db = Db.purge db) ∧
    (¬ (n ≤ 0 ∨ db.time + n * TICKS_MS ≥ 2 ^ 63 * TICKS_MS) →
      out.reply = .ok ∧ out.db.live k = some ⟨.str v, some (db.time + n * TICKS_MS)⟩ ∧
      ∀ k', k' ≠ k → out.db.live k' = db.live k') := by
  have e := StrKeys.psetex_runL ctx db.time db.live hctx k sb v
  simp only [hs] at e
  refine ⟨fun hbad => ?_, fun hgood => ?_⟩
  · exact run_refused StrKeys.find_psetex rfl ctx _ nd (e.trans (if_pos hbad))
  · exact run_point StrKeys.find_psetex rfl ctx _ nd (e.trans (if_neg hgood))

/-- SET k v EX n (the option word in any letter case) -/
theorem set_ex_rule (ctx : Ctx) (k v tok sb : Bytes) (n : Int) (htok : casematch tok "ex" = true)
    (hs : Conv.int sb = .ok n) (db : Db) (nd : NodupKeys db.dict) (hctx : ctx.time = db.time) :
    let out := run "set" ctx [k, v, tok, sb] db
    ((n ≤ 0 ∨ db.time + n * TICKS ≥ 2 ^ 63 * TICKS_MS) →
      out.reply = .err (strBytes (Msgs.fmt1 Msgs.INVALID_EXPIRE_MSG "set")) ∧ Db.purge out.db = Db.purge db) ∧
    (¬ (n ≤ 0 ∨ db.time + n * TICKS ≥ 2 ^ 63 * TICKS_MS) →
      out.reply = .ok ∧ out.db.live k = some ⟨.str v, some (db.time + n * TICKS)⟩ ∧
      ∀ k', k' ≠ k → out.db.live k' = db.live k') := set_ex ctx k v tok sb n htok hs nd hctx

/-- SET k v PX n -/
theorem set_px_rule (ctx : Ctx) (k v tok sb : Bytes) (n : Int) (htok : casematch tok "px" = true)
    (hs : Conv.int sb = .ok n) (db : Db) (nd : NodupKeys db.dict) (hctx : ctx.time = db.time) :
    let out := run "set" ctx [k, v, tok, sb] db
    ((n ≤ 0 ∨ db.time + n * TICKS_MS ≥ 2 ^ 63 * TICKS_MS) →
      out.reply = .err (strBytes (Msgs.fmt1 Msgs.INVALID_EXPIRE_MSG "set")) ∧ Db.purge out.db = Db.purge db) ∧
    (¬ (n ≤ 0 ∨ db.time + n * TICKS_MS ≥ 2 ^ 63 * TICKS_MS) →
      out.reply = .ok ∧ out.db.live k = some ⟨.str v, some (db.time + n * TICKS_MS)⟩ ∧
      ∀ k', k' ≠ k → out.db.live k' = db.live k') := set_px ctx k v tok sb n htok hs nd hctx

example : casematch [69, 120] "ex" = true ∧ casematch [112, 88] "px" = true ∧ Conv.int [48] = .ok 0 ∧
    (run "setex" ctx0 [[97], [53], [9]] db0).db.live [97] = some ⟨.str [9], some 60000000⟩ ∧
    (run "psetex" ctx0 [[108], [53], [9]] db0).db.live [108] = some ⟨.str [9], some 10050000⟩ ∧
    (run "set" ctx0 [[98], [9], [69, 120], [53]] db0).db.live [98] = some ⟨.str [9], some 60000000⟩ ∧
    (run "set" ctx0 [[98], [9], [112, 88], [53]] db0).db.live [98] = some ⟨.str [9], some 10050000⟩ ∧
    (run "setex" ctx0 [[97], [48], [9]] db0).failed = true ∧
    (run "set" ctx0 [[98], [9], [69, 120], [48]] db0).reply =
      .err (strBytes (Msgs.fmt1 Msgs.INVALID_EXPIRE_MSG "set")) :=
  ⟨cm_ex, cm_px, rfl, rfl, rfl,
    ((set_ex_rule ctx0 [98] [9] [69, 120] [53] 5 cm_ex rfl db0 db0_nd rfl).2 (by decide)).2.1,
    ((set_px_rule ctx0 [98] [9] [112, 88] [53] 5 cm_px rfl db0 db0_nd rfl).2 (by decide)).2.1, rfl,
    ((set_ex_rule ctx0 [98] [9] [69, 120] [48] 0 cm_ex rfl db0 db0_nd rfl).1 (Or.inl (by decide))).1⟩

/-- RESTORE k ttl payload (no REPLACE option) on a free key with a well-formed payload that decodes to `v`:
a negative ttl is an error; otherwise `v` is stored with deadline `now + ttl·TICKS_MS` (ttl is relative, so it is
never in the past), and with no deadline for ttl 0. -/
theorem restore_rule (ctx : Ctx) (k tb payload : Bytes) (t : Int) (v : Value)
    (ht : Conv.int tb = .ok t) (hmagic : (payload.take Cmd.dumpMagic.length == Cmd.dumpMagic) = true)
    (hload : Cmd.loadValue (payload.drop Cmd.dumpMagic.length) = some v) (hv : v.isEmptyColl = false)
    (db : Db) (nd : NodupKeys db.dict) (hctx : ctx.time = db.time) (hfree : db.live k = none) :
    let out := run "restore" ctx [k, tb, payload] db
    (t < 0 → out.reply = .err (strBytes Msgs.RESTORE_INVALID_TTL_MSG) ∧ Db.purge out.db = Db.purge db) ∧
    (0 ≤ t → out.reply = .ok ∧
      out.db.live k = some ⟨v, if t = 0 then none else some (db.time + t * TICKS_MS)⟩ ∧
      ∀ k', k' ≠ k → out.db.live k' = db.live k') := by
  have hd : StrKeys.decodePayload payload = some v := by
    unfold StrKeys.decodePayload; rw [if_pos hmagic, hload]
  have e := StrKeys.restore_runL ctx db.time db.live hctx k tb payload (fun it h => by rw [hfree] at h; cases h) []
  simp only [ht, StrKeys.restoreSpec, hfree, hd, StrKeys.restoredItem, hv, List.all_nil, Bool.not_true,
    Option.isSome_none, Bool.false_and, Bool.false_eq_true, if_false] at e
  refine ⟨fun hneg => ?_, fun hpos => ?_⟩
  · exact run_refused StrKeys.find_restore rfl ctx _ nd (e.trans (if_pos hneg))
  · exact run_point StrKeys.find_restore rfl ctx _ nd (e.trans (if_neg (by omega)))

/-- non-vacuity: the payload of the empty string, ttl 5 ms, on the free key `x` -/
example : (run "restore" ctx0 [[120], [53], Cmd.dumpMagic ++ [83, 95]] db0).db.live [120] =
    some ⟨.str [], some 10050000⟩ :=
  ((restore_rule ctx0 [120] [53] (Cmd.dumpMagic ++ [83, 95]) 5 (.str []) rfl (by simp) (by simp; rfl) rfl
    db0 db0_nd rfl rfl).2 (by decide)).2.1

/-! ## 4. replacing commands clear the deadline; SET KEEPTTL keeps it -/

/-- SET k v -/
theorem set_clears (ctx : Ctx) (k v : Bytes) (db : Db) (nd : NodupKeys db.dict) (hctx : ctx.time = db.time) :
    let out := run "set" ctx [k, v] db
    out.reply = .ok ∧ out.db.live k = some ⟨.str v, none⟩ ∧ ∀ k', k' ≠ k → out.db.live k' = db.live k' :=
  (set_spec ctx k v [] nd hctx {} (StrKeys.parse_nil ..) rfl rfl).2 rfl

/-- SET k v KEEPTTL: new value, old deadline (none when the key did not exist) -/
theorem set_keepttl_keeps (ctx : Ctx) (k v tok : Bytes) (htok : casematch tok "keepttl" = true) (db : Db)
    (nd : NodupKeys db.dict) (hctx : ctx.time = db.time) :
    let out := run "set" ctx [k, v, tok] db
    out.reply = .ok ∧ out.db.live k = some ⟨.str v, deadline db k⟩ ∧ ∀ k', k' ≠ k → out.db.live k' = db.live k' :=
  (set_spec ctx k v [tok] nd hctx { keepttl := true }
    ((StrKeys.parse_flag _ tok [] {} .keepttl htok (Or.inr (Or.inr (Or.inl rfl)))).trans (StrKeys.parse_nil ..))
    rfl rfl).2 rfl

/-- SET with any option list that parses to `o` and passes the syntax checks: when NX/XX do not skip the write, the
deadline afterwards is `setDeadline now o old` = PX instant, else EX instant, else the old deadline under KEEPTTL,
else none. -/
theorem set_general (ctx : Ctx) (k v : Bytes) (opts : List Bytes) (db : Db) (nd : NodupKeys db.dict)
    (hctx : ctx.time = db.time) (o : Cmd.SetOpts)
    (hp : Cmd.parseSetOpts ctx.time opts {} = .ok o) (hsyn : setSyntaxBad ctx o = false)
    (hw : setWrong o (ciOf none k (db.live k)) = false) :
    let out := run "set" ctx (k :: v :: opts) db
    (setSkips o (ciOf none k (db.live k)) = true →
      out.reply = setOld o (ciOf none k (db.live k)) ∧ Db.purge out.db = Db.purge db) ∧
    (setSkips o (ciOf none k (db.live k)) = false →
      out.reply = (if o.get then setOld o (ciOf none k (db.live k)) else .ok) ∧
      out.db.live k = some ⟨.str v, setDeadline db.time o (deadline db k)⟩ ∧
      ∀ k', k' ≠ k → out.db.live k' = db.live k') := set_spec ctx k v opts nd hctx o hp hsyn hw

/-- GETSET: old string (or nil) returned, new string stored without deadline; on a non-string: WRONGTYPE, no change -/
theorem getset_clears (ctx : Ctx) (k v : Bytes) (db : Db) (nd : NodupKeys db.dict) :
    let out := run "getset" ctx [k, v] db
    (∀ it, db.live k = some it → it.value.ty ≠ .str →
      out.reply = .err (strBytes Msgs.WRONGTYPE_MSG) ∧ Db.purge out.db = Db.purge db) ∧
    ((∀ it, db.live k = some it → it.value.ty = .str) →
      out.reply = (match db.live k with | some ⟨.str b, _⟩ => .bulk b | _ => .nil) ∧
      out.db.live k = some ⟨.str v, none⟩ ∧ ∀ k', k' ≠ k → out.db.live k' = db.live k') := by
  have e := StrKeys.getset_runL ctx db.time db.live k v (StrKeys.fresh db k)
  refine ⟨fun it hl hty => ?_, fun hty => ?_⟩
  · obtain ⟨val, ex⟩ := it
    rw [hl] at e
    cases val with
    | str b => exact absurd rfl hty
    | _ => exact run_refused StrKeys.find_getset rfl ctx _ nd e
  · cases hl : db.live k with
    | none => rw [hl] at e; exact run_point StrKeys.find_getset rfl ctx _ nd e
    | some it =>
      obtain ⟨val, ex⟩ := it
      rw [hl] at e
      cases val with
      | str b => exact run_point StrKeys.find_getset rfl ctx _ nd e
      | _ => exact absurd (hty _ hl) (by simp [Value.ty])

example : casematch [75, 69, 69, 80, 84, 84, 76] "keepttl" = true ∧
    (run "set" ctx0 [[97], [9]] db0).db.live [97] = some ⟨.str [9], none⟩ ∧
    deadline db0 [97] = some 50000000 ∧
    (run "set" ctx0 [[97], [9], [75, 69, 69, 80, 84, 84, 76]] db0).db.live [97] = some ⟨.str [9], deadline db0 [97]⟩ ∧
    (run "getset" ctx0 [[97], [9]] db0).db.live [97] = some ⟨.str [9], none⟩ ∧
    (run "getset" ctx0 [[97], [9]] db0).reply = .bulk [1] ∧
    (run "getset" ctx0 [[108], [9]] db0).failed = true :=
  ⟨cm_keepttl, rfl, rfl, (set_keepttl_keeps ctx0 [97] [9] _ cm_keepttl db0 db0_nd rfl).2.1, rfl, rfl, rfl⟩

/-- MSET k₁ v₁ … kₙ vₙ (n ≥ 1, `flat` lays the pairs out as the argument list): reply OK; every named key holds the
string of its last pair and has no deadline; every other key is untouched. -/
theorem mset_clears (ctx : Ctx) (p : Bytes × Bytes) (ps : List (Bytes × Bytes)) (db : Db) (nd : NodupKeys db.dict) :
    let out := run "mset" ctx (flat (p :: ps)) db
    out.reply = .ok ∧
    (∀ k, k ∈ (p :: ps).map Prod.fst → ∃ v, out.db.live k = some ⟨.str v, none⟩) ∧
    (∀ k, k ∉ (p :: ps).map Prod.fst → out.db.live k = db.live k) := by
  intro out
  obtain ⟨h1, h2, _⟩ := run_reads StrKeys.find_mset rfl ctx _ nd
    (flat_eq (p :: ps) ▸ StrKeys.mset_runL ctx db.time db.live p ps)
  refine ⟨h1, fun k hk => ?_, fun k hk => ?_⟩
  · obtain ⟨q, hq, rfl⟩ := List.mem_map.1 hk
    obtain ⟨q', hq'⟩ := Option.isSome_iff_exists.1
      (List.find?_isSome.2 ⟨q, List.mem_reverse.2 hq, by simp⟩ : ((p :: ps).reverse.find? (fun x => x.1 == q.1)).isSome)
    exact ⟨q'.2, by rw [show out.db.live = _ from h2, StrKeys.msetLive_apply, hq']⟩
  · have hn : (p :: ps).reverse.find? (fun x => x.1 == k) = none :=
      List.find?_eq_none.2 fun x hx hxk => hk (List.mem_map.2 ⟨x, List.mem_reverse.1 hx, by simpa using hxk⟩)
    rw [show out.db.live = _ from h2, StrKeys.msetLive_apply, hn]

/-- SUNIONSTORE / SINTERSTORE / SDIFFSTORE dst src₁ … (any number of sources, the destination may be one of them):
whenever the command runs (no arity / type error), the destination holds a set without deadline — or is
removed when that set is empty — the reply is its size, and no other key changes.  (Which set it is: `HashSet.run_setopStore`.) -/
theorem store_clears (name : String) (hn : name ∈ storeNames) (ctx : Ctx) (dst : Bytes) (srcs : List Bytes)
    (db : Db) (nd : NodupKeys db.dict) :
    let out := run name ctx (dst :: srcs) db
    out.failed = false →
      (∃ ans, out.reply = .int ans.length ∧
        out.db.live dst = (if ans.isEmpty then none else some ⟨.set ans, none⟩)) ∧
      ∀ k', k' ≠ dst → out.db.live k' = db.live k' := by
  simp only [storeNames, List.mem_cons, List.mem_nil_iff, or_false] at hn
  rcases hn with rfl | rfl | rfl
  · exact setopStore_gen "sunionstore" .union rfl rfl ctx dst srcs nd
  · exact setopStore_gen "sinterstore" .inter rfl rfl ctx dst srcs nd
  · exact setopStore_gen "sdiffstore" .diff rfl rfl ctx dst srcs nd

example : "sunionstore" ∈ storeNames ∧
    (run "mset" ctx0 (flat [([97], [7]), ([108], [8])]) db0).db.live [97] = some ⟨.str [7], none⟩ ∧
    (run "mset" ctx0 (flat [([97], [7]), ([108], [8])]) db0).db.live [108] = some ⟨.str [8], none⟩ ∧
    (run "sunionstore" ctx0 [[97], [115]] dbS).failed = false ∧
    (run "sunionstore" ctx0 [[97], [115]] dbS).db.live [97] = some ⟨.set [[5]], none⟩ ∧
    (run "sinterstore" ctx0 [[115], [115], [120]] dbS).db.live [115] = none :=
  ⟨by decide, rfl, rfl, rfl, rfl, rfl⟩

/-! ## 5. the general rules for any body, and the in-place commands -/

/-- in place: for any signature and any body — if the items the body returns differ from the applied ones
only by in-place modifications (`InPlace`: same keys, same deadlines, deadline never assigned — what `CI.update`,
`CI.updated` and `{c with val := …, modified := true}` produce), every key that exists afterwards has the deadline it
had before (a created key has none). -/
theorem inplace_general (sig : Sig) (body : Body) (ctx : Ctx) (raw : List Bytes) (db : Db) (nd : NodupKeys db.dict)
    (args : List Arg) (cis : List CI) (o : BodyOut)
    (ha : applyL db.live sig raw = .ok (.ok args cis)) (hb : body ctx args cis = .ok o)
    (hip : InPlace cis o.cis) (k : Bytes) (it : Item)
    (hl : (runRegular sig body ctx none raw db).db.live k = some it) :
    it.expireat = deadline db k := inplace_keeps sig body ctx raw nd ha hb hip k it hl

/-- `CI.update`: the item produced by `update v` is stored with the old deadline. -/
theorem update_general (sig : Sig) (body : Body) (ctx : Ctx) (raw : List Bytes) (db : Db) (nd : NodupKeys db.dict)
    (args : List Arg) (cis : List CI) (o : BodyOut)
    (ha : applyL db.live sig raw = .ok (.ok args cis)) (hb : body ctx args cis = .ok o)
    (i : Nat) (hi : i < cis.length) (v : Value) (hv : v.isEmptyColl = false)
    (ho : o.cis = cis.set i ((ciAt cis i).update v)) :
    (runRegular sig body ctx none raw db).db.live (ciAt cis i).key = some ⟨v, deadline db (ciAt cis i).key⟩ := by
  rw [one_item sig body ctx raw nd ha hb i hi _ ho]
  have hmem : ciAt cis i ∈ cis := by
    simp only [ciAt, List.getD_eq_getElem?_getD, hi, List.getElem?_eq_getElem, Option.getD_some]
    exact List.getElem_mem hi
  simp only [CI.update, if_true, wbLive, hv, Bool.false_eq_true, if_false]
  rw [(applyL_fromLive ha _ hmem).expireat]
  exact keepLive_deadline db _ v

/-- value setter: the item produced by `CommandItem.value = v` is stored without deadline. -/
theorem setter_general (sig : Sig) (body : Body) (ctx : Ctx) (raw : List Bytes) (db : Db) (nd : NodupKeys db.dict)
    (args : List Arg) (cis : List CI) (o : BodyOut)
    (ha : applyL db.live sig raw = .ok (.ok args cis)) (hb : body ctx args cis = .ok o)
    (i : Nat) (hi : i < cis.length) (v : Value) (hv : v.isEmptyColl = false)
    (ho : o.cis = cis.set i ((ciAt cis i).setValue (some v))) :
    (runRegular sig body ctx none raw db).db.live (ciAt cis i).key = some ⟨v, none⟩ := by
  rw [one_item sig body ctx raw nd ha hb i hi _ ho]
  simp [CI.setValue, wbLive, hv, keepLive]

/-- `applyL` is `Signature.apply` (its result part) expressed on the live view -/
theorem applyL_is_apply (sig : Sig) (raw : List Bytes) (db : Db) (nd : NodupKeys db.dict) :
    (sig.apply raw db).2 = applyL db.live sig raw := apply_eq sig raw nd

/-- APPEND, INCRBY, SETRANGE, SETBIT, LPUSH, RPUSH, SADD, HSET, ZADD, LPOP, RPOP, PFMERGE — with any arguments, on any
outcome (success, error, wrong type): every key that exists afterwards has the deadline it had before. -/
theorem inplace_commands_keep (name : String) (hn : name ∈ inplaceNames) (ctx : Ctx) (raw : List Bytes) (db : Db)
    (nd : NodupKeys db.dict) (k : Bytes) (it : Item) (hl : (run name ctx raw db).db.live k = some it) :
    it.expireat = deadline db k := by
  obtain ⟨body, hb, hu⟩ := inplaceNames_update name hn
  exact updates_keep hb hu ctx raw nd k it hl

/-- non-vacuity: the commands do modify the value, and the key does survive with its deadline -/
example : "lpop" ∈ inplaceNames ∧
    (run "append" ctx0 [[97], [7]] db0).db.live [97] = some ⟨.str [1, 7], some 50000000⟩ ∧
    (run "sadd" ctx0 [[115], [5]] db0).db.live [115] = some ⟨.set [[5]], none⟩ ∧
    (run "setrange" ctx0 [[97], [49], [7]] db0).db.live [97] = some ⟨.str [1, 7], some 50000000⟩ ∧
    (run "lpush" ctx0 [[108], [0]] db0).db.live [108] = some ⟨.list [[0], [1], [2]], some 30000000⟩ ∧
    (run "rpush" ctx0 [[108], [0]] db0).db.live [108] = some ⟨.list [[1], [2], [0]], some 30000000⟩ ∧
    (run "lpop" ctx0 [[108]] db0).db.live [108] = some ⟨.list [[2]], some 30000000⟩ ∧
    (run "lpop" ctx0 [[108]] db0).reply = .bulk [1] :=
  ⟨by decide, rfl, rfl, rfl, rfl, rfl, rfl, rfl⟩

/-- PFMERGE dst src… keeps the destination's deadline (the destination is updated in place, `CI.update`; before the
fix it went through the value setter and dropped the deadline).  Whenever the command runs (no arity / type
error): reply OK, the destination holds the merged set with the deadline it had before (none when it did not exist)
— or is removed when the merged set is empty — and no other key changes.  Moreover, with any arguments and on any
outcome, every key that exists afterwards has the deadline it had before. -/
theorem pfmerge_keeps (ctx : Ctx) (dst : Bytes) (srcs : List Bytes) (db : Db) (nd : NodupKeys db.dict) :
    let out := run "pfmerge" ctx (dst :: srcs) db
    (out.failed = false →
      out.reply = .ok ∧
      (∃ ans, out.db.live dst = (if ans.isEmpty then none else some ⟨.set ans, deadline db dst⟩)) ∧
      ∀ k', k' ≠ dst → out.db.live k' = db.live k') ∧
    (∀ k it, out.db.live k = some it → it.expireat = deadline db k) := by
  have h1 : (HashSet.run "pfmerge" ctx (dst :: srcs) db).failed = false →
      (HashSet.run "pfmerge" ctx (dst :: srcs) db).reply = .ok ∧
      (∃ ans, (HashSet.run "pfmerge" ctx (dst :: srcs) db).db.live dst =
        (if ans.isEmpty then none else some ⟨.set ans, deadline db dst⟩)) ∧
      ∀ k', k' ≠ dst → (HashSet.run "pfmerge" ctx (dst :: srcs) db).db.live k' = db.live k' := by
    intro hnf
    cases srcs with
    | nil =>
      have har : ¬ HashSet.ArityOK (HashSet.sigOf "pfmerge") 1 := by decide
      rw [(HashSet.run_bad_arity "pfmerge" ctx [dst] nd har).2.2] at hnf
      cases hnf
    | cons k ks =>
      -- `HashSet.run_pfmerge` evaluates the command completely
      have h := HashSet.run_pfmerge ctx nd dst k ks
      simp only at h
      split at h
      · obtain ⟨h1, h2, _⟩ := h
        have he : (HashSet.ciOf db.live (some .set) dst).expireat = deadline db dst := by
          unfold HashSet.ciOf deadline; cases db.live dst <;> rfl
        rw [he] at h2
        exact ⟨h1, ⟨_, by rw [h2, HashSet.putAt_self]; rfl⟩, fun k' hk => by rw [h2, HashSet.putAt_ne _ _ _ hk]⟩
      · rw [h.2.2] at hnf; cases hnf
  exact ⟨h1, fun k it hl => inplace_commands_keep "pfmerge" (by decide) ctx (dst :: srcs) db nd k it hl⟩

/-- non-vacuity: `s = {5}` with deadline 5 s; PFMERGE s s, and PFMERGE s t into the same destination -/
example : (run "pfmerge" ctx0 [[115], [115]] dbS).failed = false ∧
    (run "pfmerge" ctx0 [[115], [115]] dbS).db.live [115] = some ⟨.set [[5]], some 50000000⟩ ∧
    deadline dbS [115] = some 50000000 ∧
    (run "pfmerge" ctx0 [[120], [115]] dbS).db.live [120] = some ⟨.set [[5]], none⟩ := ⟨rfl, rfl, rfl, rfl⟩

/-! ## 6. RENAME / RENAMENX / MOVE: the deadline travels with the key -/

/-- RENAME a b (a ≠ b): `b` receives the whole entry of `a` (value and deadline), `a` disappears, nothing else
changes; a missing source is an error; RENAME a a is a no-op. -/
theorem rename_rule (ctx : Ctx) (a b : Bytes) (db : Db) (nd : NodupKeys db.dict) :
    let out := run "rename" ctx [a, b] db
    (db.live a = none → out.reply = .err (strBytes Msgs.NO_KEY_MSG) ∧ Db.purge out.db = Db.purge db) ∧
    (∀ it, db.live a = some it → it.value.isEmptyColl = false → a ≠ b →
      out.reply = .ok ∧ out.db.live b = some it ∧ out.db.live a = none ∧
      ∀ k', k' ≠ a → k' ≠ b → out.db.live k' = db.live k') ∧
    (∀ it, db.live a = some it → it.value.isEmptyColl = false → a = b →
      out.reply = .ok ∧ Db.purge out.db = Db.purge db) := by
  have e := fun hne => StrKeys.rename_runL ctx db.time db.live a b (StrKeys.fresh db a) hne
  refine ⟨fun hl => ?_, fun it hl hv hab => ?_, fun it hl hv hab => ?_⟩
  · have e := e (fun it h => by rw [hl] at h; cases h)
    rw [hl] at e
    exact run_refused StrKeys.find_rename rfl ctx _ nd e
  · have e := e (fun it' h => by rw [hl] at h; cases h; exact hv)
    rw [hl] at e
    obtain ⟨h1, h2, _⟩ := run_reads StrKeys.find_rename rfl ctx _ nd e
    exact ⟨h1, renamed_reads hab h2⟩
  · subst hab
    have ht := StrKeys.truthy_ciA (live := db.live) (k := a) (fun it' h => by rw [hl] at h; cases h; exact hv)
    rw [hl] at ht
    exact rename_untouched StrKeys.find_rename rfl ctx a a nd
      (by simp [Cmd.rename, Cmd.renameCore, ciAt, ht, StrKeys.ciA_key])

/-- RENAMENX: the same when the destination is free (reply 1); reply 0 and no change when it exists. -/
theorem renamenx_rule (ctx : Ctx) (a b : Bytes) (db : Db) (nd : NodupKeys db.dict) :
    let out := run "renamenx" ctx [a, b] db
    (db.live a = none → out.reply = .err (strBytes Msgs.NO_KEY_MSG) ∧ Db.purge out.db = Db.purge db) ∧
    (∀ it, db.live a = some it → it.value.isEmptyColl = false → db.live b = none →
      out.reply = .int 1 ∧ out.db.live b = some it ∧ out.db.live a = none ∧
      ∀ k', k' ≠ a → k' ≠ b → out.db.live k' = db.live k') ∧
    (∀ it it', db.live a = some it → it.value.isEmptyColl = false → db.live b = some it' →
      it'.value.isEmptyColl = false → out.reply = .int 0 ∧ Db.purge out.db = Db.purge db) := by
  have e := fun hne hne' => StrKeys.renamenx_runL ctx db.time db.live a b (StrKeys.fresh db a) hne hne'
  refine ⟨fun hl => ?_, fun it hl hv hlb => ?_, fun it it' hl hv hlb hv' => ?_⟩
  · have e := e (fun it h => by rw [hl] at h; cases h) (fun h => by rw [hl] at h; cases h)
    rw [hl] at e
    exact run_refused StrKeys.find_renamenx rfl ctx _ nd e
  · have hab : a ≠ b := by intro h; subst h; rw [hl] at hlb; cases hlb
    have e := e (fun it' h => by rw [hl] at h; cases h; exact hv) (fun _ it' h => by rw [hlb] at h; cases h)
    rw [hl, hlb] at e
    obtain ⟨h1, h2, _⟩ := run_reads StrKeys.find_renamenx rfl ctx _ nd e
    exact ⟨h1, renamed_reads hab h2⟩
  · have ha := StrKeys.truthy_ciA (live := db.live) (k := a) (fun it' h => by rw [hl] at h; cases h; exact hv)
    have hb := StrKeys.truthy_ciA (live := db.live) (k := b) (fun it'' h => by rw [hlb] at h; cases h; exact hv')
    rw [hl] at ha
    rw [hlb] at hb
    exact rename_untouched StrKeys.find_renamenx rfl ctx a b nd (by simp [Cmd.renamenx, ciAt, ha, hb])

example : (run "rename" ctx0 [[97], [98]] db0).db.live [98] = some ⟨.str [1], some 50000000⟩ ∧
    (run "rename" ctx0 [[97], [98]] db0).db.live [97] = none ∧
    (run "renamenx" ctx0 [[108], [120]] db0).db.live [120] = some ⟨.list [[1], [2]], some 30000000⟩ ∧
    (run "renamenx" ctx0 [[97], [98]] db0).reply = .int 0 :=
  ⟨rfl, rfl, rfl, rfl⟩

/-- MOVE k dst (special command `moveCmd`, run on source database `d` with the applied item of `k`): when `k` is
live in `d` and free in `dst ≠ d`, the reply is 1, the target database receives the whole entry (value and
deadline), no other key of the target changes, the source database is only read, and the returned item
(`value = None`) makes the generic write-back delete the source key. -/
theorem move_rule (s : Sys) (d : Nat) (dst : Int) (cis : List CI) (it : Item)
    (hne : dst.toNat ≠ d) (htr : (ciAt cis 0).truthy = true)
    (hd : d < s.srv.dbs.length) (hdst : dst.toNat < s.srv.dbs.length)
    (nds : NodupKeys (dbAt s d).dict) (ndd : NodupKeys (dbAt s dst.toNat).dict)
    (hsrc : (dbAt s d).live (ciAt cis 0).key = some it)
    (hfree : (dbAt s dst.toNat).live (ciAt cis 0).key = none) :
    let r := moveCmd d [.key 0, .int dst] cis s
    r.1 = .ok (some (.int 1), cis.set 0 ((ciAt cis 0).setValue none)) ∧
    (dbAt r.2 dst.toNat).live (ciAt cis 0).key = some it ∧
    (∀ k', k' ≠ (ciAt cis 0).key → (dbAt r.2 dst.toNat).live k' = (dbAt s dst.toNat).live k') ∧
    Db.purge (dbAt r.2 d) = Db.purge (dbAt s d) ∧
    r.2.srv.time = s.srv.time := move_spec s d dst cis it hne htr hd hdst nds ndd hsrc hfree

/-- the write-back of the item MOVE returns removes the key (any clock, any previous entry) -/
theorem move_source_deleted (t : Int) (c : CI) (cur : Option Item) : wbLive t (c.setValue none) cur = none := by
  simp [wbLive, CI.setValue]

example :
    let s : Sys := { srv := { time := 10000000, dbs := [db0.dict, []] } }
    let cis : List CI := [ciOf none [97] (db0.live [97])]
    (moveCmd 0 [.key 0, .int 1] cis s).1 = .ok (some (.int 1), cis.set 0 ((ciAt cis 0).setValue none)) ∧
    (dbAt (moveCmd 0 [.key 0, .int 1] cis s).2 1).live [97] = some ⟨.str [1], some 50000000⟩ :=
  ⟨rfl, rfl⟩

/-! ## 7. inside MULTI / EXEC -/

/-- EXEC runs its queue with `runInner` (`FR.C05.exec_eq_sequential`), which for every command but EXEC (script
commands included) is `runCommand` (`FR.C05.runInner_eq_runCommand`); for a regular command this is `runRegular` on the
selected database with `ctx.time = db.time`, `ctx.inTx` and `ctx.dbnum` arbitrary — exactly the situation of every
theorem above.  So all rules hold in every database and inside transactions. -/
theorem inside_exec (mode : Mode) (c : Nat) (sig : Sig) (raw : List Bytes) (body : Body)
    (h : Cmd.regular sig.name = some body) (s : Sys) (hps : (s.conn c).pubsub = 0) :
    let o := runRegular sig body (ctxOf s c) none raw (dbAt s (s.conn c).db)
    (runInner mode c sig raw s).1 = some o.reply ∧
    (runInner mode c sig raw s).2.srv.dbs = s.srv.dbs.set (s.conn c).db o.db.dict ∧
    (runInner mode c sig raw s).2.srv.time = s.srv.time ∧
    (ctxOf s c).time = (dbAt s (s.conn c).db).time := by
  intro o
  rw [FR.runInner_regular mode c sig raw h s hps]
  exact ⟨rfl, Sys.afterRegular_dbs _ _ _, Sys.afterRegular_time _ _ _, rfl⟩

/-- outside a transaction the same function runs the command -/
theorem outside_exec (mode : Mode) (c : Nat) (sig : Sig) (raw : List Bytes) (hx : sig.name ≠ "exec") :
    runInner mode c sig raw = runCommand mode c sig raw false :=
  FR.C05.runInner_eq_runCommand mode c sig raw hx

/-- instance: TTL queued in a transaction on connection `c` (any selected database) answers by the rule of §1 -/
theorem ttl_inside_exec (mode : Mode) (c : Nat) (k : Bytes) (s : Sys) (hps : (s.conn c).pubsub = 0)
    (nd : NodupKeys (dbAt s (s.conn c).db).dict) (sig : Sig) (hsig : SigTable.find "ttl" = some sig) :
    (runInner mode c sig [k] s).1 = some (ttlAnswer s.srv.time 1 ((dbAt s (s.conn c).db).live k)) := by
  have : sig = _ := (Option.some.inj hsig).symm
  subst this
  rw [(inside_exec mode c _ [k] Cmd.ttl rfl s hps).1]
  exact congrArg some (ttl_reply (ctxOf s c) k _ nd).1

example : ∃ (s : Sys) (sig : Sig), (s.conn 7).pubsub = 0 ∧ SigTable.find "ttl" = some sig ∧
    NodupKeys (dbAt s (s.conn 7).db).dict ∧ (runInner {} 7 sig [[97]] s).1 = some (.int 4) :=
  ⟨{ srv := { time := 10000000, dbs := [[], db0.dict], conns := [{ id := 7, db := 1, inTx := true }] } }, _, rfl, rfl,
    by decide, rfl⟩

end FR.Props.C07t

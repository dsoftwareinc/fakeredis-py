import FR.Proofs.BufIndep
import FR.Proofs.ReplyEq
/-!
# The dispatcher answers the same whatever the split of the byte stream into `sendall` chunks (C04)

`FR/Props/C04.lean` proved chunk-insensitivity of `drain` / `sendall` under the hypothesis `BufIndependent mode c`
("command processing neither reads nor writes the connection's input buffer").  Here that hypothesis is proved for
every mode and every connection (`bufIndependent`; the non-interference argument through `processCommand`,
`runCommand`, `runWith`, `special` and every special body, EXEC's queue runner, the script runner, `cleanupClosed`
is in `FR/Proofs/BufIndep.lean`), and the theorems are restated without it:

* `sendall_append`   : `sendall a; sendall b = sendall (a ++ b)` for any split of any byte stream, when the connection
                       is alive after the first chunk;
* `sendall_append_dead` : the complementary case, exactly: the one-shot write stops at the request that killed the
                       connection and leaves the second chunk in the buffer;
* `drain_append`, `drain_fuel_irrelevant` : the parser loop itself;
* `sendChunks_flatten` : any number of chunks, sent one by one, equal one write of their concatenation;
* `chunking_irrelevant` : two chunkings of the same stream end in the same state — same replies, in the same order.

The aliveness side condition: a connection dies when an exception escapes `sendall` (the model's `crashed`), and the
next write to a dead connection raises `StopIteration` instead of buffering, whereas the one-shot write just stops
parsing.  Since the fix of KF-1 ((P)SUBSCRIBE / (P)UNSUBSCRIBE are refused inside MULTI instead of being queued) the
history that used to kill a connection no longer does (`kf1_history_alive`, section 5), and `FR/Props/C04k.lean`
discharges the hypothesis for reachable states.
-/
namespace FR.Props.C04s
open FR FR.BufIndep M

/-! ## 1. buffer independence -/

/-- **`BufIndependent` holds.**  For every mode, connection, request, buffer content and state: processing a request
on connection `c` commutes with overwriting `c`'s input buffer — the processing neither reads nor writes it. -/
theorem bufIndependent (mode : Mode) (c : Nat) : BufIndependent mode c :=
  FR.BufIndep.bufIndependent mode c

/-- The same for the buffer of any connection `c`, whichever connection `c'` the request is processed on: same
returned value, same final state up to the overwrite. -/
theorem processCommand_setBuf (mode : Mode) (c c' : Nat) (fields : List Bytes) (X : Bytes) (s : Sys) :
    (processCommand mode c' fields).run (setBuf c X s) =
      ((), setBuf c X ((processCommand mode c' fields).run s).2) :=
  ni_processCommand (c := c) (X := X) mode c' fields s

/-- In particular nothing observable depends on what sits in the buffer: replies, fault and crash flags, and the
server apart from the connection records are the same. -/
theorem processCommand_observables (mode : Mode) (c c' : Nat) (fields : List Bytes) (X : Bytes) (s : Sys) :
    let t₁ := ((processCommand mode c' fields).run s).2
    let t₂ := ((processCommand mode c' fields).run (setBuf c X s)).2
    t₂.out = t₁.out ∧ t₂.fault = t₁.fault ∧ t₂.crashed = t₁.crashed ∧ t₂.srv.dbs = t₁.srv.dbs ∧
      t₂.srv.subs = t₁.srv.subs ∧ t₂.srv.psubs = t₁.srv.psubs ∧ t₂.srv.scripts = t₁.srv.scripts ∧
      t₂.clocks = t₁.clocks ∧ t₂.picks = t₁.picks := by
  intro t₁ t₂
  have h : t₂ = setBuf c X t₁ := by
    show ((processCommand mode c' fields).run (setBuf c X s)).2 = _
    rw [processCommand_setBuf]
  rw [h]
  exact ⟨rfl, rfl, rfl, rfl, rfl, rfl, rfl, rfl, rfl⟩

/-! ## 2. the parser loop -/

/-- The fuel of the parser loop is irrelevant as soon as it exceeds the buffer length. -/
theorem drain_fuel_irrelevant (mode : Mode) (c : Nat) (f1 f2 : Nat) (s : Sys)
    (h1 : (connOf s c).buf.length < f1) (h2 : (connOf s c).buf.length < f2) :
    (drain mode c f1).run s = (drain mode c f2).run s :=
  drain_fuel_irrel (bufIndependent mode c) f1 f2 s h1 h2

/-- Draining `buf ++ b` is draining `buf`, appending `b`, and draining again (any sufficient fuels) — with no
hypothesis on the commands (unconditional version of `C04.drain_append_conditional`). -/
theorem drain_append (mode : Mode) (c : Nat) (b : Bytes)
    (fR : Nat) (R : Sys) (fL f2 : Nat) (hR : (connOf R c).buf.length < fR)
    (hL : (connOf R c).buf.length + b.length < fL)
    (h2 : (connOf ((drain mode c fR).run R).2 c).buf.length + b.length < f2) :
    (drain mode c fL).run (appendBuf c b R) =
      (drain mode c f2).run (appendBuf c b ((drain mode c fR).run R).2) :=
  FR.drain_append (bufIndependent mode c) b fR R fL f2 hR hL h2

/-! ## 3. two chunks -/

/-- **`sendall a; sendall b = sendall (a ++ b)`** on every state, for any split of any byte stream (complete
requests, half a header, garbage), provided the connection is still alive after the first chunk. -/
theorem sendall_append (mode : Mode) (c : Nat) (a b : Bytes) (s : Sys)
    (halive : (connOf ((sendall mode c a).run s).2 c).dead = false) :
    (do sendall mode c a; sendall mode c b : M Unit).run s = (sendall mode c (a ++ b)).run s :=
  FR.BufIndep.sendall_append mode c a b s halive

/-- The complementary case, exactly.  If the connection is alive before and dead after the first chunk (an exception
escaped while one of its requests was processed), the one-shot write processes the same requests, stops at the same
point and leaves chunk `b` unparsed in the buffer. -/
theorem sendall_append_dead (mode : Mode) (c : Nat) (a b : Bytes) (s : Sys)
    (h0 : (connOf s c).dead = false)
    (h1 : (connOf ((sendall mode c a).run s).2 c).dead = true) :
    (sendall mode c (a ++ b)).run s = ((), appendBuf c b ((sendall mode c a).run s).2) :=
  sendall_append_of_dead mode c a b s h0 h1

/-- When the first chunk kills the connection the replies are those of the first chunk alone, written at once or in
two chunks. -/
theorem sendall_append_dead_out (mode : Mode) (c : Nat) (a b : Bytes) (s : Sys)
    (h0 : (connOf s c).dead = false)
    (h1 : (connOf ((sendall mode c a).run s).2 c).dead = true) :
    ((sendall mode c (a ++ b)).run s).2.out = ((sendall mode c a).run s).2.out ∧
    ((do sendall mode c a; sendall mode c b : M Unit).run s).2.out = ((sendall mode c a).run s).2.out := by
  refine ⟨by rw [sendall_append_dead mode c a b s h0 h1]; rfl, ?_⟩
  show ((sendall mode c b).run ((sendall mode c a).run s).2).2.out = _
  rw [sendall_run mode c b, if_pos h1]

/-- Hence the replies never depend on the split into two chunks (alive or not), as long as the connection was alive
to begin with. -/
theorem sendall_append_out (mode : Mode) (c : Nat) (a b : Bytes) (s : Sys) (h0 : (connOf s c).dead = false) :
    ((do sendall mode c a; sendall mode c b : M Unit).run s).2.out = ((sendall mode c (a ++ b)).run s).2.out := by
  cases h1 : (connOf ((sendall mode c a).run s).2 c).dead with
  | false => rw [sendall_append mode c a b s h1]
  | true =>
    obtain ⟨e1, e2⟩ := sendall_append_dead_out mode c a b s h0 h1
    rw [e1, e2]

/-- If the one-shot write leaves the connection alive, it was alive after every prefix. -/
theorem alive_prefix (mode : Mode) (c : Nat) (a b : Bytes) (s : Sys)
    (h : (connOf ((sendall mode c (a ++ b)).run s).2 c).dead = false) :
    (connOf ((sendall mode c a).run s).2 c).dead = false :=
  FR.BufIndep.alive_prefix mode c a b s h

/-! ## 4. any number of chunks -/

/-- **n chunks.**  Sending the chunks `cs` one by one (`sendChunks = cs.forM sendall`) is the same as one `sendall` of
their concatenation — same value, same final state, hence the same replies in the same order — when the connection
is alive after each chunk but the last (`AliveThrough`).  (`cs ≠ []`: writing nothing at all is not the same as
`sendall []`, which re-runs the parser loop.) -/
theorem sendChunks_flatten (mode : Mode) (c : Nat) (cs : List Bytes) (hne : cs ≠ []) (s : Sys)
    (h : AliveThrough mode c cs s) :
    (sendChunks mode c cs).run s = (sendall mode c cs.flatten).run s :=
  sendChunks_eq mode c cs hne s h

/-- The same with the aliveness read off the one-shot run: if writing the whole stream at once leaves the connection
alive, every chunking of the stream does exactly the same. -/
theorem sendChunks_flatten_of_final (mode : Mode) (c : Nat) (cs : List Bytes) (hne : cs ≠ []) (s : Sys)
    (h : (connOf ((sendall mode c cs.flatten).run s).2 c).dead = false) :
    (sendChunks mode c cs).run s = (sendall mode c cs.flatten).run s :=
  sendChunks_eq mode c cs hne s (aliveThrough_of_final mode c cs s h)

/-- **The chunking is irrelevant.**  Two chunkings of the same byte stream end in the same state; in particular the
emitted replies `out` (all connections, in emission order) are the same. -/
theorem chunking_irrelevant (mode : Mode) (c : Nat) (cs cs' : List Bytes) (hne : cs ≠ []) (hne' : cs' ≠ [])
    (hflat : cs.flatten = cs'.flatten) (s : Sys)
    (h : AliveThrough mode c cs s) (h' : AliveThrough mode c cs' s) :
    (sendChunks mode c cs).run s = (sendChunks mode c cs').run s ∧
      ((sendChunks mode c cs).run s).2.out = ((sendChunks mode c cs').run s).2.out := by
  have e : (sendChunks mode c cs).run s = (sendChunks mode c cs').run s := by
    rw [sendChunks_flatten mode c cs hne s h, sendChunks_flatten mode c cs' hne' s h', hflat]
  exact ⟨e, by rw [e]⟩

/-- For a stream whose one-shot processing leaves the connection alive, all chunkings agree with the one-shot write. -/
theorem all_chunkings_agree (mode : Mode) (c : Nat) (stream : Bytes) (s : Sys)
    (h : (connOf ((sendall mode c stream).run s).2 c).dead = false)
    (cs : List Bytes) (hne : cs ≠ []) (hflat : cs.flatten = stream) :
    (sendChunks mode c cs).run s = (sendall mode c stream).run s := by
  subst hflat
  exact sendChunks_flatten_of_final mode c cs hne s h

/-! ## 5. the aliveness condition after the fix of KF-1

Before the fix of KF-1, `MULTI / SUBSCRIBE x / EXEC` killed the connection (SUBSCRIBE was queued, its `NoResponse`
tripped the assertion in EXEC).  fakeredis refuses (P)SUBSCRIBE / (P)UNSUBSCRIBE at queue time, and that history is an
instance of the theorems above (`kf1_history_alive`, `kf1_history_chunking`).  A script command queued in a MULTI is
run by EXEC like a direct one (`multi_eval_exec_alive`, `multi_script_load_exec_alive`); without the hints of the host
the run is declared unfaithful (`fault`), which is not a crash (`multi_eval_exec_unhinted`).  `FR/Props/C04k.lean`
discharges the aliveness hypothesis from reachability. -/

/-- a fresh server with one connection and a few clock readings -/
def s0 : Sys := { srv := { conns := [{ id := 1 }] }, clocks := [1, 2, 3, 4, 5, 6] }

/-- `*1 $4 ping` -/
def ping : Bytes := [42, 49, 13, 10, 36, 52, 13, 10, 112, 105, 110, 103, 13, 10]

/-- `MULTI`, `SUBSCRIBE x`, `EXEC` pipelined: SUBSCRIBE is refused ("Command not allowed inside a transaction"), the
transaction is marked failed, EXEC answers EXECABORT -/
def multiSubExec : Bytes :=
  [42, 49, 13, 10, 36, 53, 13, 10, 109, 117, 108, 116, 105, 13, 10,
   42, 50, 13, 10, 36, 57, 13, 10, 115, 117, 98, 115, 99, 114, 105, 98, 101, 13, 10, 36, 49, 13, 10, 120, 13, 10,
   42, 49, 13, 10, 36, 52, 13, 10, 101, 120, 101, 99, 13, 10]

example : multiSubExec = encodeRequest [strBytes "multi"] ++ encodeRequest [strBytes "subscribe", [120]] ++
    encodeRequest [strBytes "exec"] := by decide +kernel

/-- **The KF-1 history is harmless.**  After `MULTI / SUBSCRIBE x / EXEC` the connection is alive, no exception
escaped, the three replies are `+OK`, the refusal and `-EXECABORT`, the connection is back in normal mode and
subscribed to nothing. -/
theorem kf1_history_alive :
    (connOf s0 1).dead = false ∧
    (connOf ((sendall {} 1 multiSubExec).run s0).2 1).dead = false ∧
    ((sendall {} 1 multiSubExec).run s0).2.crashed = none ∧
    ((sendall {} 1 multiSubExec).run s0).2.fault = none ∧
    ((sendall {} 1 multiSubExec).run s0).2.out.reverse.map (fun p => (p.1, p.2.render)) =
      [(1, Reply.ok.render), (1, (Reply.err (strBytes Msgs.COMMAND_IN_MULTI_MSG)).render),
       (1, (Reply.err (strBytes Msgs.EXECABORT_MSG)).render)] ∧
    (connOf ((sendall {} 1 multiSubExec).run s0).2 1).tx = none ∧
    (connOf ((sendall {} 1 multiSubExec).run s0).2 1).pubsub = 0 ∧
    ((sendall {} 1 multiSubExec).run s0).2.srv.subs = [] := by
  have h : (connOf s0 1).dead = false ∧
      (connOf ((sendall {} 1 multiSubExec).run s0).2 1).dead = false ∧
      ((sendall {} 1 multiSubExec).run s0).2.crashed = none ∧
      ((sendall {} 1 multiSubExec).run s0).2.fault = none ∧
      ((sendall {} 1 multiSubExec).run s0).2.out.reverse =
        [(1, Reply.ok), (1, Reply.err (strBytes Msgs.COMMAND_IN_MULTI_MSG)),
         (1, Reply.err (strBytes Msgs.EXECABORT_MSG))] ∧
      (connOf ((sendall {} 1 multiSubExec).run s0).2 1).tx = none ∧
      (connOf ((sendall {} 1 multiSubExec).run s0).2 1).pubsub = 0 ∧
      ((sendall {} 1 multiSubExec).run s0).2.srv.subs = [] := by decide +kernel
  exact ⟨h.1, h.2.1, h.2.2.1, h.2.2.2.1, congrArg (List.map fun p => (p.1, p.2.render)) h.2.2.2.2.1, h.2.2.2.2.2⟩

/-- The chunking theorem applies to the KF-1 history: a further `PING` written as a second chunk, or everything at
once, is the same run (before the fix: `StopIteration` against `AssertionError`, different buffers) -/
theorem kf1_history_chunking :
    (do sendall {} 1 multiSubExec; sendall {} 1 ping : M Unit).run s0 = (sendall {} 1 (multiSubExec ++ ping)).run s0 :=
  sendall_append {} 1 multiSubExec ping s0 kf1_history_alive.2.1

/-- `MULTI`, `EVAL "return 1" 0`, `EXEC` pipelined -/
def multiEvalExec : Bytes :=
  encodeRequest [strBytes "multi"] ++ encodeRequest [strBytes "eval", strBytes "return 1", strBytes "0"] ++
    encodeRequest [strBytes "exec"]

/-- what the host records for a run of the script that ends in the Lua error `boom`: the SHA-1 of the source and the
error message.  (The hint of a *returned* Lua value goes through the hint parser `LuaVal.parse`, which is defined by
well-founded recursion and cannot be evaluated by `decide`; for returned values see `FR.Props.C19m`.) -/
def evalHints : List (List Bytes) :=
  [[strBytes "sha", strBytes "e0e1f9fabfc9d4800c877a703b823ac0578ff8db"], [strBytes "luaerror", strBytes "boom"]]

/-- `s0` with the hints of that run -/
def s0e : Sys := { s0 with picks := evalHints }

/-- **A script command queued in a MULTI is run by EXEC like a direct one.**  After `MULTI / EVAL … 0 / EXEC` the
connection is alive, no exception escaped, the run is faithful (`fault = none`), the hints are used up, the replies
are `+OK`, `+QUEUED` and the one-element array holding the script's error, the connection is back in normal mode and
the script is cached. -/
theorem multi_eval_exec_alive :
    (connOf ((sendall {} 1 multiEvalExec).run s0e).2 1).dead = false ∧
    ((sendall {} 1 multiEvalExec).run s0e).2.crashed = none ∧
    ((sendall {} 1 multiEvalExec).run s0e).2.fault = none ∧
    ((sendall {} 1 multiEvalExec).run s0e).2.picks = [] ∧
    ((sendall {} 1 multiEvalExec).run s0e).2.out.reverse.map (fun p => (p.1, p.2.render)) =
      [(1, Reply.ok.render), (1, Reply.queued.render),
       (1, (Reply.arr [.err (strBytes (scriptErrorMsg (strBytes "e0e1f9fabfc9d4800c877a703b823ac0578ff8db") "boom"))]).render)] ∧
    (connOf ((sendall {} 1 multiEvalExec).run s0e).2 1).tx = none ∧
    ((sendall {} 1 multiEvalExec).run s0e).2.srv.scripts =
      [(strBytes "e0e1f9fabfc9d4800c877a703b823ac0578ff8db", strBytes "return 1")] := by
  have h : (connOf ((sendall {} 1 multiEvalExec).run s0e).2 1).dead = false ∧
      ((sendall {} 1 multiEvalExec).run s0e).2.crashed = none ∧
      ((sendall {} 1 multiEvalExec).run s0e).2.fault = none ∧
      ((sendall {} 1 multiEvalExec).run s0e).2.picks = [] ∧
      ((sendall {} 1 multiEvalExec).run s0e).2.out.reverse =
        [(1, Reply.ok), (1, Reply.queued),
         (1, Reply.arr [.err (strBytes (scriptErrorMsg (strBytes "e0e1f9fabfc9d4800c877a703b823ac0578ff8db") "boom"))])] ∧
      (connOf ((sendall {} 1 multiEvalExec).run s0e).2 1).tx = none ∧
      ((sendall {} 1 multiEvalExec).run s0e).2.srv.scripts =
        [(strBytes "e0e1f9fabfc9d4800c877a703b823ac0578ff8db", strBytes "return 1")] := by decide +kernel
  exact ⟨h.1, h.2.1, h.2.2.1, h.2.2.2.1, congrArg (List.map fun p => (p.1, p.2.render)) h.2.2.2.2.1, h.2.2.2.2.2⟩

/-- The chunking theorem applies to `MULTI / EVAL … 0 / EXEC` followed by `PING` -/
theorem multi_eval_exec_chunking :
    (do sendall {} 1 multiEvalExec; sendall {} 1 ping : M Unit).run s0e = (sendall {} 1 (multiEvalExec ++ ping)).run s0e :=
  sendall_append {} 1 multiEvalExec ping s0e multi_eval_exec_alive.1

/-- `MULTI`, `SCRIPT LOAD "return 1"`, `EXEC`: the array holds the SHA-1, the script is cached -/
def multiLoadExec : Bytes :=
  encodeRequest [strBytes "multi"] ++ encodeRequest [strBytes "script", strBytes "load", strBytes "return 1"] ++
    encodeRequest [strBytes "exec"]

theorem multi_script_load_exec_alive :
    let s := { s0 with picks := [[strBytes "sha", strBytes "e0e1f9fabfc9d4800c877a703b823ac0578ff8db"]] }
    (connOf ((sendall {} 1 multiLoadExec).run s).2 1).dead = false ∧
    ((sendall {} 1 multiLoadExec).run s).2.crashed = none ∧
    ((sendall {} 1 multiLoadExec).run s).2.fault = none ∧
    ((sendall {} 1 multiLoadExec).run s).2.out.reverse.map (fun p => (p.1, p.2.render)) =
      [(1, Reply.ok.render), (1, Reply.queued.render),
       (1, (Reply.arr [.bulk (strBytes "e0e1f9fabfc9d4800c877a703b823ac0578ff8db")]).render)] ∧
    ((sendall {} 1 multiLoadExec).run s).2.srv.scripts =
      [(strBytes "e0e1f9fabfc9d4800c877a703b823ac0578ff8db", strBytes "return 1")] := by
  decide +kernel

/-- without the hints of the host the run is declared unfaithful (`fault`: the replay cannot follow the script) - that
is not an exception of the implementation: nothing crashes, the connection lives, and the two ways of writing agree -/
theorem multi_eval_exec_unhinted :
    (connOf ((sendall {} 1 multiEvalExec).run s0).2 1).dead = false ∧
    ((sendall {} 1 multiEvalExec).run s0).2.crashed = none ∧
    ((sendall {} 1 multiEvalExec).run s0).2.fault = some "eval: sha hint missing" ∧
    (do sendall {} 1 multiEvalExec; sendall {} 1 ping : M Unit).run s0 = (sendall {} 1 (multiEvalExec ++ ping)).run s0 := by
  have h : (connOf ((sendall {} 1 multiEvalExec).run s0).2 1).dead = false ∧
      ((sendall {} 1 multiEvalExec).run s0).2.crashed = none ∧
      ((sendall {} 1 multiEvalExec).run s0).2.fault = some "eval: sha hint missing" := by decide +kernel
  exact ⟨h.1, h.2.1, h.2.2, sendall_append {} 1 multiEvalExec ping s0 h.1⟩

/-! ## 6. non-vacuity -/

/-- two pipelined `PING`s, split in the middle of the second header -/
def chunkA : Bytes := [42, 49, 13, 10, 36, 52, 13, 10, 112, 105, 110, 103, 13, 10, 42, 49, 13]
def chunkB : Bytes := [10, 36, 52, 13, 10, 112, 105, 110, 103, 13, 10]

/-- `bufIndependent` on a concrete state: a `PING` processed with garbage in the buffer -/
example : ((processCommand {} 1 [[112, 105, 110, 103]]).run (setBuf 1 [1, 2, 3] s0)).2.out.map (fun p => p.2.render) =
    ["s:504f4e47"] ∧
    (connOf ((processCommand {} 1 [[112, 105, 110, 103]]).run (setBuf 1 [1, 2, 3] s0)).2 1).buf = [1, 2, 3] := by
  decide +kernel

/-- the hypothesis of `sendall_append` / `sendChunks_flatten` holds for the split `[chunkA, chunkB]` -/
theorem alive_AB : AliveThrough {} 1 [chunkA, chunkB] s0 := ⟨by decide +kernel, trivial⟩

/-- the one-shot write of `chunkA ++ chunkB` answers both requests, in order -/
example : ((sendall {} 1 (chunkA ++ chunkB)).run s0).2.out.map (fun p => (p.1, p.2.render)) =
    [(1, "s:504f4e47"), (1, "s:504f4e47")] := by decide +kernel

/-- after `chunkA` one reply is out and three bytes wait in the buffer -/
example : ((sendall {} 1 chunkA).run s0).2.out.length = 1 ∧ (connOf ((sendall {} 1 chunkA).run s0).2 1).buf = [42, 49, 13] := by
  decide +kernel

/-- `sendChunks_flatten` applies to the split `[chunkA, chunkB]` -/
example : (sendChunks {} 1 [chunkA, chunkB]).run s0 = (sendall {} 1 (chunkA ++ chunkB)).run s0 := by
  have := sendChunks_flatten {} 1 [chunkA, chunkB] (by simp) s0 alive_AB
  simpa using this

/-- byte-by-byte delivery of the same stream (28 chunks of one byte) agrees as well, by `all_chunkings_agree` -/
example : (sendChunks {} 1 ((chunkA ++ chunkB).map fun x => [x])).run s0 = (sendall {} 1 (chunkA ++ chunkB)).run s0 :=
  all_chunkings_agree {} 1 (chunkA ++ chunkB) s0 (by decide +kernel) _ (by decide) (by decide +kernel)

/-- a state no history reaches (`FR.Props.C04k`): the queue of connection 1 holds a name that is not a command -/
def sBadQueue : Sys := { srv := { conns := [{ id := 1, tx := some [("nosuchcommand", [])] }] }, clocks := [1, 2, 3, 4, 5, 6] }

/-- the hypotheses of `sendall_append_dead` are satisfiable in the model - from such an unreachable state only: there
EXEC meets the unknown queued name, the assertion path is taken and the connection dies -/
example : (sendall {} 1 (encodeRequest [strBytes "exec"] ++ ping)).run sBadQueue =
    ((), appendBuf 1 ping ((sendall {} 1 (encodeRequest [strBytes "exec"])).run sBadQueue).2) :=
  sendall_append_dead {} 1 (encodeRequest [strBytes "exec"]) ping sBadQueue (by decide +kernel) (by decide +kernel)

end FR.Props.C04s

import FR.Proofs.Prologue
/-!
# C17 — command-name normalisation touches the first field only
-/
namespace FR
namespace C17
open M

/-- `commandName` is ASCII lower-casing: lower-casing the input beforehand changes nothing -/
theorem commandName_lowercase_invariant (b : Bytes) : commandName (b.map lowerByte) = commandName b :=
  commandName_lower b

/-- the result of `commandName` is the lower-cased spelling, defined exactly for 7-bit names -/
theorem commandName_spec (b : Bytes) :
    commandName b = if b.all (fun c => c < 128) then some (bytesStr (b.map lowerByte)) else none := rfl

/-- names that differ only in ASCII case denote the same command -/
theorem commandName_case_insensitive (a b : Bytes) (h : a.map lowerByte = b.map lowerByte) :
    commandName a = commandName b :=
  commandName_congr h

theorem lookupSig_case_insensitive (a b : Bytes) (h : a.map lowerByte = b.map lowerByte) :
    lookupSig a = lookupSig b := by
  unfold lookupSig
  rw [commandName_congr h]

/-- `lowerByte` only moves `A`–`Z`. -/
theorem lowerByte_spec (c : UInt8) :
    (lowerByte c).toNat = if 65 ≤ c.toNat ∧ c.toNat ≤ 90 then c.toNat + 32 else c.toNat :=
  lowerByte_toNat c

/-- Structure of `processCommand`: the signature is a function (`lookupSig`) of the first field alone, and
the remaining fields are handed on (`dispatch … args`) byte for byte. -/
theorem name_normalisation_first_field_only (mode : Mode) (c : Nat) (name : Bytes) (args : List Bytes) :
    processCommand mode c (name :: args) = (do
      let conn ← getConn c
      match lookupSig name with
      | none =>
        if conn.tx.isSome then modifyConn c fun x => { x with txFailed := true }
        emit c (.err (strBytes unknownCommandPrefix))
      | some sig => dispatch mode c conn sig args) :=
  processCommand_cons mode c name args

/-- two requests whose names differ only in ASCII case and whose arguments are identical are processed identically -/
theorem processCommand_case_insensitive (mode : Mode) (c : Nat) (n1 n2 : Bytes) (args : List Bytes)
    (h : n1.map lowerByte = n2.map lowerByte) :
    processCommand mode c (n1 :: args) = processCommand mode c (n2 :: args) := by
  rw [processCommand_cons, processCommand_cons, lookupSig_case_insensitive n1 n2 h]

/-- MULTI branch, semantically: with an open transaction `q` on connection `c`, a known, arity-correct,
queueable command appends exactly `(sig.name, args)` — the argument bytes are stored unchanged
(not lower-cased, not truncated). -/
theorem multi_queues_args_unchanged (mode : Mode) (c : Nat) (name : Bytes) (args : List Bytes) (s : Sys)
    (sig : Sig) (q : List (String × List Bytes))
    (hsig : lookupSig name = some sig)
    (htx : txOf s c = some (some q))
    (har : sig.checkArity args.length = true)
    (hnq : SigTable.notQueued.contains sig.name = false)
    (hnm : SigTable.notInMulti.contains sig.name = false) :
    txOf ((processCommand mode c (name :: args)).run s).2 c = some (some (q ++ [(sig.name, args)])) := by
  obtain ⟨hc, htx⟩ := txOf_eq_some.1 htx
  have hp : s.prologue.HasConn c := (s.prologue_hasConn c).2 hc
  have hid : ∀ x : Conn, ({ x with tx := x.tx.map (· ++ [(sig.name, args)]) } : Conn).id = x.id := fun _ => rfl
  show txOf (processCommand mode c (name :: args) s).2 c = _
  rw [processCommand_eq, Sys.processed_known mode c args s hsig,
    Sys.dispatched_queued _ _ _ _ _ _ har (by rw [htx, hnq]; rfl) hnm]
  refine txOf_eq_some.2 ⟨(Sys.emitS_hasConn ..).2 ((Sys.hasConn_updConn _ hid).2 hp), ?_⟩
  rw [Sys.emitS_conn, Sys.conn_updConn_same _ hp hid]
  show (s.prologue.conn c).tx.map _ = _
  rw [s.prologue_conn c Conn.tx (fun _ => rfl), htx]; rfl

/-- MULTI branch, the refused commands ((P)SUBSCRIBE / (P)UNSUBSCRIBE, any case of the name): the queue is
left exactly as it was - nothing is stored. -/
theorem multi_refused_queue_unchanged (mode : Mode) (c : Nat) (name : Bytes) (args : List Bytes) (s : Sys)
    (sig : Sig) (q : List (String × List Bytes))
    (hsig : lookupSig name = some sig)
    (htx : txOf s c = some (some q))
    (har : sig.checkArity args.length = true)
    (hnq : SigTable.notQueued.contains sig.name = false)
    (hnm : SigTable.notInMulti.contains sig.name = true) :
    txOf ((processCommand mode c (name :: args)).run s).2 c = some (some q) := by
  obtain ⟨hc, htx⟩ := txOf_eq_some.1 htx
  have hp : s.prologue.HasConn c := (s.prologue_hasConn c).2 hc
  show txOf (processCommand mode c (name :: args) s).2 c = _
  rw [processCommand_eq, Sys.processed_known mode c args s hsig,
    Sys.dispatched_refused _ _ _ _ _ _ har (by rw [htx, hnq]; rfl) hnm]
  refine txOf_eq_some.2 ⟨(Sys.emitS_hasConn ..).2 ((Sys.hasConn_updConn ErrSys.markTxFailed (fun _ => rfl)).2 hp), ?_⟩
  rw [Sys.emitS_conn, Sys.conn_updConn_same ErrSys.markTxFailed hp (fun _ => rfl)]
  exact (s.prologue_conn c Conn.tx (fun _ => rfl)).trans htx

/-! ## non-vacuity -/

/-- `SeT` and `set` are the same command -/
example : commandName [83, 101, 84] = commandName [115, 101, 116] :=
  commandName_case_insensitive _ _ (by decide)
/-- a name with a byte ≥ 0x80 is no command at all -/
example : commandName [115, 101, 116, 200] = none := by rfl
/-- only `A`–`Z` move: `@`, `[`, `_`, NUL, CR stay -/
example : [64, 65, 90, 91, 95, 0, 13].map lowerByte = [64, 97, 122, 91, 95, 0, 13] := by decide


/-- `GeT KeY` inside MULTI: looked up as `get`, queued with the key's case intact -/
example :
    txOf ((processCommand {} 0 [[71, 101, 84], [75, 101, 89]]).run
      { srv := { conns := [{ id := 0, tx := some [] }] } }).2 0 =
      some (some [("get", [[75, 101, 89]])]) :=
  multi_queues_args_unchanged {} 0 _ _ _ _ [] lookupSig_GeT rfl rfl (by simp [SigTable.notQueued])
    (by simp [SigTable.notInMulti])

/-- `SubScribe Ch` inside MULTI: looked up as `subscribe`, refused, the queue stays empty -/
example :
    txOf ((processCommand {} 0 [[83, 117, 98, 83, 99, 114, 105, 98, 101], [67, 104]]).run
      { srv := { conns := [{ id := 0, tx := some [] }] } }).2 0 = some (some []) := by
  decide +kernel

end C17
end FR

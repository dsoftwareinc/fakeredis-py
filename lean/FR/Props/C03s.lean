import FR.Proofs.ZStore
/-!
# C03s — ZUNIONSTORE / ZINTERSTORE: functional specification of the model's `zunioninter`

Anchor: `fakeredis/_fakesocket.py: FakeSocket._zunioninter`.

Only final property theorems and non-vacuity examples; helper lemmas live in `FR/Proofs/ZStore.lean`.  §0 the body is
a pure description; §1 the stored set satisfies the two-index invariant; §2 the sources; §3 membership; §4 score and
the order of the fold; §5 options; §6 the command through `runWith`: reply, stored value, errors, notification.

Vocabulary (all defined in `FR/Proofs/ZStore.lean`, namespace `FR.ZStore`):
* `srcOf`, `srcAll db keys` – the source sorted sets (a missing key is empty, a plain set has scores `1.0`);
* `parseOpts` – the `WEIGHTS` / `AGGREGATE` options;
* `members union sets` – Python's `out_members`;
* `pairs sets weights` – `sorted(zip(sets, weights), key=len)` (stable);
* `contrib`, `nz`, `combine`, `newScore`, `scoreOf` – the score formula over `Dbl`;
* `result union agg sets weights` – the sorted set that is stored;
* `spec union db numkeysBytes rest` – error message or stored set of the whole command;
* `zsig name` – the signature `(Key(), Int, bytes), (bytes,)` shared by both commands.
-/
namespace FR.Props.C03s
open FR FR.ZStore

/-! ## 0. The monadic body of the model is the pure description -/

/-- `zunioninter` (three loops, two of them with early exits, in the state monad) equals `core`: the source
look-ups are its only effect on the state, its value is computed by `readSrc`, `parseOpts` and `result`. -/
theorem body_eq_core (union : Bool) (d dk : Nat) (numkeys : Int) (rest : List Arg) (cis : List CI) (s : Sys)
    (hd : d < s.srv.dbs.length) :
    zunioninter union d (.key dk :: .int numkeys :: rest) cis s =
      core union d dk numkeys (Cmd.rawArgs rest) cis s :=
  zunioninter_eq union d dk numkeys rest cis s hd

/-- `core` unfolded, so that what `body_eq_core` states can be read in this file -/
theorem core_def (union : Bool) (d dk : Nat) (numkeys : Int) (raw : List Bytes) (cis : List CI) (s : Sys) :
    core union d dk numkeys raw cis s =
      (if numkeys < 1 then (.error Msgs.ZUNIONSTORE_KEYS_MSG, s)
       else if numkeys > raw.length then (.error Msgs.SYNTAX_ERROR_MSG, s)
       else
        match (readSrc (raw.take numkeys.toNat) (s.dbAt d) []).2 with
        | .error e => (.error e, s.setDbS d (readSrc (raw.take numkeys.toNat) (s.dbAt d) []).1)
        | .ok sets =>
          match parseOpts numkeys.toNat ((raw.drop numkeys.toNat).length + 1) (raw.drop numkeys.toNat)
              (List.replicate numkeys.toNat Dbl.one) (strBytes "sum") with
          | .error e => (.error e, s.setDbS d (readSrc (raw.take numkeys.toNat) (s.dbAt d) []).1)
          | .ok (w, agg) =>
            (.ok (.int (result union agg sets w).len,
                  cis.set dk ((ciAt cis dk).setValue (some (.zset (result union agg sets w))))),
             s.setDbS d (readSrc (raw.take numkeys.toNat) (s.dbAt d) []).1)) := rfl

/-! ## 1. The stored sorted set satisfies the two-index invariant and holds no NaN -/

/-- For all sources, weights and aggregate names (NaN weights, non-invariant sources included) the stored set
satisfies `ZSet.Inv`: `byscore` strictly sorted by (score, member), every member once, both indexes agree,
no NaN score. -/
theorem stored_inv (union : Bool) (agg : Bytes) (sets : List ZSet) (weights : List Dbl) :
    (result union agg sets weights).Inv :=
  result_inv union agg sets weights

/-- `stored_inv` with `ZSet.Inv` spelled out -/
theorem stored_inv_spelled (union : Bool) (agg : Bytes) (sets : List ZSet) (weights : List Dbl) :
    let z := result union agg sets weights
    z.byscore.Pairwise (fun a b => pairLt a.1 (.val a.2) b.1 (.val b.2) = true)
    ∧ (z.bylex.map Prod.fst).Nodup
    ∧ (z.byscore.map Prod.snd).Nodup
    ∧ (∀ m s, (m, s) ∈ z.bylex ↔ (s, m) ∈ z.byscore)
    ∧ (∀ m s, z.get m = some s → s.isNaN = false) :=
  have h := result_inv union agg sets weights
  ⟨h.1, h.2.1, ZSet.members_nodup h, h.2.2.1, fun m s => result_no_nan union agg sets weights m s⟩

/-- the insertion-ordered index of the stored set is exactly the Python dict `out` -/
theorem stored_bylex (union : Bool) (agg : Bytes) (sets : List ZSet) (weights : List Dbl) :
    (result union agg sets weights).bylex = outDict union agg (members union sets) (pairs sets weights) :=
  result_bylex union agg sets weights

/-- whatever the command stores satisfies the invariant -/
theorem spec_stored_inv (union : Bool) (db : Db) (nkb : Bytes) (rest : List Bytes) (Z : ZSet)
    (h : spec union db nkb rest = .ok Z) : Z.Inv :=
  spec_ok_inv h

/-! ## 2. The sources -/

/-- The look-ups (`Database.get` on each source key, in order) see the live entries: their result is `srcAll`
of the live view, and the database only loses expired entries (`Reads`: same purged view, subset). -/
theorem sources_spec (keys : List Bytes) (db : Db) (nd : NodupKeys db.dict) :
    Reads db (readSrc keys db []).1 ∧
      (readSrc keys db []).2 = srcAll db keys := by
  obtain ⟨h1, h2⟩ := readSrc_spec keys db nd []
  refine ⟨h1, ?_⟩
  rw [h2]
  cases srcAll db keys <;> simp

/-- `srcAll` converts key by key: the i-th source is `srcOf` of the live entry of the i-th key -/
theorem sources_pointwise (db : Db) (keys : List Bytes) (sets : List ZSet) (h : srcAll db keys = .ok sets) :
    sets.length = keys.length ∧
    ∀ i (hi : i < keys.length), ∃ z, sets[i]? = some z ∧ srcOf (db.live keys[i]) = .ok z := by
  refine ⟨srcAll_length h, fun i hi => ?_⟩
  have hi' : i < sets.length := by rw [srcAll_length h]; exact hi
  exact ⟨sets[i], by simp [hi'], srcAll_getElem h i hi⟩

/-- a missing (or expired) key is the empty sorted set; a sorted set is itself; a plain set gives each of its
members the score `1.0`; anything else is `WRONGTYPE` -/
theorem source_of_entry :
    srcOf none = .ok ZSet.empty ∧
    (∀ z e, srcOf (some ⟨.zset z, e⟩) = .ok z) ∧
    (∀ s e z, srcOf (some ⟨.set s, e⟩) = .ok z → ∀ m, z.get m = if m ∈ s then some Dbl.one else none) ∧
    (∀ it e, srcOf (some it) = .error e → e = Msgs.WRONGTYPE_MSG ∧ it.value.ty ≠ .set ∧ it.value.ty ≠ .zset) :=
  ⟨rfl, fun _ _ => rfl, fun s _ z h m => zsetOfValue_set_get s z h m, fun _ _ h => zsetOfValue_error h⟩

/-- `WRONGTYPE` is raised exactly when some source key holds a live string, list or hash -/
theorem sources_error_iff (db : Db) (keys : List Bytes) :
    (∃ e, srcAll db keys = .error e) ↔
      ∃ k, k ∈ keys ∧ ∃ it, db.live k = some it ∧ it.value.ty ≠ .set ∧ it.value.ty ≠ .zset :=
  srcAll_error_iff db keys

/-- if every stored sorted set satisfies the invariant, so does every source -/
theorem sources_inv (db : Db) (hz : DbZInv db) (keys : List Bytes) (sets : List ZSet)
    (h : srcAll db keys = .ok sets) : ∀ z ∈ sets, z.Inv :=
  srcAll_inv hz h

/-! ## 3. Membership -/

/-- `m` is stored iff it is in some source (ZUNIONSTORE) / in every source (ZINTERSTORE). -/
theorem membership (union : Bool) (agg : Bytes) (sets : List ZSet) (weights : List Dbl)
    (hinv : ∀ z ∈ sets, z.Inv) (hlen : sets.length = weights.length) (hne : sets ≠ []) (m : Bytes) :
    (result union agg sets weights).contains m = true ↔
      if union then (∃ z ∈ sets, z.contains m = true) else (∀ z ∈ sets, z.contains m = true) :=
  result_contains union agg sets weights (fun z hz => (hinv z hz).2.1) hlen hne m

/-- `membership` for the sorted set a successful command stores -/
theorem membership_spec (union : Bool) (db : Db) (hz : DbZInv db) (nkb : Bytes) (rest : List Bytes) (Z : ZSet)
    (h : spec union db nkb rest = .ok Z) :
    ∃ (n : Int) (sets : List ZSet), Conv.int nkb = .ok n ∧ srcAll db (rest.take n.toNat) = .ok sets ∧
      ∀ m, Z.contains m = true ↔
        if union then (∃ z ∈ sets, z.contains m = true) else (∀ z ∈ sets, z.contains m = true) := by
  obtain ⟨n, sets, w, agg, h1, _, _, h4, _, rfl, h7, h8, h9, _⟩ := spec_ok h
  exact ⟨n, sets, h1, h4, fun m =>
    membership union agg sets w (srcAll_inv hz h4) (h7.trans h8.symm) h9 m⟩

/-! ## 4. Score -/

/-- The score formula (definitions restated): for each (source, weight) pair that contains `m`, in list order,
the contribution `weight·score` (NaN → 0 here for ZUNIONSTORE only) is folded into the accumulated score:
the first one by `nz`, a further one by `combine` (SUM: `nz (nz (x + old))`, MAX / MIN: `nz (max/min old x)`
with Python's `max` / `min`). -/
theorem score_formula (union : Bool) (agg : Bytes) (ps : List (ZSet × Dbl)) (m : Bytes) :
    scoreOf union agg ps m =
      ps.foldl (fun acc zw =>
        match zw.1.get m with
        | none => acc
        | some s0 =>
          some (match acc with
                | some old => combine agg old (contrib union s0 zw.2)
                | none => nz (contrib union s0 zw.2))) none
    ∧ (∀ x, nz x = if x.isNaN then Dbl.zero else x)
    ∧ (∀ s0 w, contrib union s0 w = if union && (s0.mul w).isNaN then Dbl.zero else s0.mul w)
    ∧ (∀ old x, combine agg old x =
        nz (if agg == strBytes "sum" then nz (x.add old)
            else if agg == strBytes "max" then old.pyMax x else old.pyMin x)) := by
  refine ⟨?_, fun _ => rfl, fun _ _ => rfl, fun _ _ => rfl⟩
  unfold scoreOf
  congr 1

/-- The stored score of `m` is `scoreOf` over the cardinality-sorted pairs (and `m` is absent when it is
not in `out_members`). -/
theorem score (union : Bool) (agg : Bytes) (sets : List ZSet) (weights : List Dbl)
    (hinv : ∀ z ∈ sets, z.Inv) (m : Bytes) :
    (result union agg sets weights).get m =
      if (members union sets).contains m then scoreOf union agg (pairs sets weights) m else none :=
  result_get union agg sets weights (fun z hz => (hinv z hz).2.1) m

/-- `score` for a member that is stored: no side condition is left -/
theorem score_of_stored (union : Bool) (agg : Bytes) (sets : List ZSet) (weights : List Dbl)
    (hinv : ∀ z ∈ sets, z.Inv) (m : Bytes) (x : Dbl) (h : (result union agg sets weights).get m = some x) :
    scoreOf union agg (pairs sets weights) m = some x := by
  rw [score union agg sets weights hinv] at h
  split at h
  · exact h
  · cases h

/-- the order in which the sources are folded: a permutation of `zip(sets, weights)`, ascending in cardinality,
and stable (sources of equal cardinality keep their argument order) -/
theorem fold_order (sets : List ZSet) (weights : List Dbl) :
    (pairs sets weights).Perm (sets.zip weights) ∧
    (pairs sets weights).Pairwise (fun a b => a.1.len ≤ b.1.len) ∧
    ∀ n, (pairs sets weights).filter (fun a => a.1.len == n) = (sets.zip weights).filter (fun a => a.1.len == n) :=
  ⟨pairs_perm sets weights, pairs_sorted sets weights, pairs_stable sets weights⟩

/-- `out_members` -/
theorem members_iff (union : Bool) (sets : List ZSet) (hne : sets ≠ []) (m : Bytes) :
    m ∈ members union sets ↔
      if union then (∃ z ∈ sets, z.contains m = true) else (∀ z ∈ sets, z.contains m = true) :=
  mem_members union sets hne m

/-- Result (not a defect, a precision of the informal statement): the fold is not in argument order.
With `A = {m ↦ 0.0, x ↦ 5.0}` and `B = {m ↦ -0.0}`, `ZUNIONSTORE dst 2 A B AGGREGATE MAX` folds `B` first
(smaller cardinality) and stores `-0.0` for `m`; folding in argument order would give `0.0`. -/
theorem fold_is_not_in_argument_order :
    let A := ((ZSet.empty.add [109] Dbl.zero).1.add [120] (Dbl.ofInt 5)).1
    let B := (ZSet.empty.add [109] (.fin true 0 (-1074))).1
    (result true (strBytes "max") [A, B] [Dbl.one, Dbl.one]).get [109] = some (.fin true 0 (-1074)) ∧
    scoreOf true (strBytes "max") ([A, B].zip [Dbl.one, Dbl.one]) [109] = some Dbl.zero := by
  decide +kernel

/-! ## 5. Options -/

/-- a successful option loop leaves `numkeys` weights and one of the three aggregate names; an error is the
syntax error or the float error; the `fuel` of the model's `while` loop is irrelevant -/
theorem options_spec (nk : Nat) (opts : List Bytes) :
    (∀ w agg, parseOpts nk (opts.length + 1) opts (List.replicate nk Dbl.one) (strBytes "sum") = .ok (w, agg) →
      w.length = nk ∧ (agg = strBytes "sum" ∨ agg = strBytes "min" ∨ agg = strBytes "max")) ∧
    (∀ e, parseOpts nk (opts.length + 1) opts (List.replicate nk Dbl.one) (strBytes "sum") = .error e →
      e = Msgs.SYNTAX_ERROR_MSG ∨ e = Msgs.INVALID_FLOAT_MSG) ∧
    (∀ fuel w a, opts.length < fuel → parseOpts nk fuel opts w a = parseOpts nk (opts.length + 1) opts w a) := by
  refine ⟨fun w agg h => ?_, fun e h => parseOpts_error _ _ _ _ _ h,
    fun fuel w a hf => parseOpts_fuel nk fuel _ opts w a hf (Nat.lt_succ_self _)⟩
  have := parseOpts_ok nk _ opts _ _ (by simp) ((badAgg_false_iff _).mpr (Or.inl rfl)) h
  exact ⟨this.1, (badAgg_false_iff agg).mp this.2⟩

/-- no options: weights `1.0`, aggregate `sum` -/
theorem options_default (nk : Nat) :
    parseOpts nk 1 [] (List.replicate nk Dbl.one) (strBytes "sum") = .ok (List.replicate nk Dbl.one, strBytes "sum") :=
  rfl

/-! ## 6. The command end to end: reply, stored value, errors, notification -/

/-- `spec` unfolded, for the same reason as `core_def` -/
theorem spec_def (union : Bool) (db : Db) (nkb : Bytes) (rest : List Bytes) :
    spec union db nkb rest =
      (match Conv.int nkb with
       | .error e => .error e
       | .ok n =>
         if n < 1 then .error Msgs.ZUNIONSTORE_KEYS_MSG
         else if n > rest.length then .error Msgs.SYNTAX_ERROR_MSG
         else
           match srcAll db (rest.take n.toNat) with
           | .error e => .error e
           | .ok sets =>
             match parseOpts n.toNat ((rest.drop n.toNat).length + 1) (rest.drop n.toNat)
                 (List.replicate n.toNat Dbl.one) (strBytes "sum") with
             | .error e => .error e
             | .ok (w, agg) => .ok (result union agg sets w)) := rfl

theorem spec_ok_parts (union : Bool) (db : Db) (nkb : Bytes) (rest : List Bytes) (Z : ZSet)
    (h : spec union db nkb rest = .ok Z) :
    ∃ (n : Int) (sets : List ZSet) (w : List Dbl) (agg : Bytes),
      Conv.int nkb = .ok n ∧ 1 ≤ n ∧ n ≤ rest.length ∧
      srcAll db (rest.take n.toNat) = .ok sets ∧
      parseOpts n.toNat ((rest.drop n.toNat).length + 1) (rest.drop n.toNat)
        (List.replicate n.toNat Dbl.one) (strBytes "sum") = .ok (w, agg) ∧
      Z = result union agg sets w ∧
      sets.length = n.toNat ∧ w.length = n.toNat ∧ sets ≠ [] ∧
      (agg = strBytes "sum" ∨ agg = strBytes "min" ∨ agg = strBytes "max") :=
  spec_ok h

/-- Success.  Running `ZUNIONSTORE/ZINTERSTORE dst numkeys k1 … [options]` on connection `c` (database `d`):
* the reply is the cardinality of the stored set `Z`;
* afterwards the live entry of `dst` is `Z` without deadline — whatever type, value and deadline `dst` had
  before — or `dst` is absent when `Z` is empty;
* every other key keeps its live entry; entries are only added for `dst`;
* the only other change of the state is `notify_watch(dst)` on every connection (`notifyFn d dst`). -/
theorem run_ok (inner : Inner) (mode : Mode) (c : Nat) (name : String)
    (h : name = "zunionstore" ∨ name = "zinterstore") (dst nkb b0 : Bytes) (bs : List Bytes) (fs : Bool) (s : Sys)
    (hd : (s.conn c).db < s.srv.dbs.length) (nd : NodupKeys (s.dbAt (s.conn c).db).dict)
    (hg : runGate (zsig name) fs ((s.conn c).pubsub > 0) = none) (Z : ZSet)
    (hs : spec (name == "zunionstore") (s.dbAt (s.conn c).db) nkb (b0 :: bs) = .ok Z) :
    ∃ dbf,
      runWith (special inner) mode c (zsig name) (dst :: nkb :: b0 :: bs) fs s =
        (some (.int Z.len), (s.setDbS (s.conn c).db dbf).mapConns (notifyFn (s.conn c).db dst)) ∧
      dbf.live dst = (if Z.len = 0 then none else some ⟨.zset Z, none⟩) ∧
      (∀ k, k ≠ dst → dbf.live k = (s.dbAt (s.conn c).db).live k) ∧
      NodupKeys dbf.dict ∧ dbf.time = (s.dbAt (s.conn c).db).time ∧
      (∀ q ∈ dbf.dict, q ∈ (s.dbAt (s.conn c).db).dict ∨ q = (dst, ⟨.zset Z, none⟩)) :=
  ZStore.run_ok inner mode c name h dst nkb b0 bs fs s hd nd hg Z hs

/-- the invariant "every stored sorted set satisfies `ZSet.Inv`" survives the command -/
theorem run_ok_preserves_zinv (inner : Inner) (mode : Mode) (c : Nat) (name : String)
    (h : name = "zunionstore" ∨ name = "zinterstore") (dst nkb b0 : Bytes) (bs : List Bytes) (fs : Bool) (s : Sys)
    (hd : (s.conn c).db < s.srv.dbs.length) (nd : NodupKeys (s.dbAt (s.conn c).db).dict)
    (hg : runGate (zsig name) fs ((s.conn c).pubsub > 0) = none) (Z : ZSet)
    (hs : spec (name == "zunionstore") (s.dbAt (s.conn c).db) nkb (b0 :: bs) = .ok Z)
    (hz : DbZInv (s.dbAt (s.conn c).db)) :
    DbZInv ((runWith (special inner) mode c (zsig name) (dst :: nkb :: b0 :: bs) fs s).2.dbAt (s.conn c).db) := by
  obtain ⟨dbf, h1, _, _, _, h5, h6⟩ := ZStore.run_ok inner mode c name h dst nkb b0 bs fs s hd nd hg Z hs
  rw [h1]
  simp only [Sys.mapConns_dbAt]
  rw [Sys.setDbS_dbAt_self s _ _ hd (by rw [h5]; rfl)]
  intro q hq z e
  rcases h6 q hq with h' | h'
  · exact hz q h' z e
  · subst h'
    simp only [Value.zset.injEq] at e
    subst e
    exact spec_ok_inv hs

/-- Errors.  `numkeys` not an integer, `numkeys ≤ 0`, `numkeys` larger than the number of remaining arguments,
a source of the wrong type, a malformed option, a non-float weight: the reply is the error and the state is
unchanged except for lazy deletion of expired entries of database `d` (`Reads`: same purged view, no new entry).
In particular no key changes its live entry and no watcher is notified. -/
theorem run_error (inner : Inner) (mode : Mode) (c : Nat) (name : String)
    (h : name = "zunionstore" ∨ name = "zinterstore") (dst nkb b0 : Bytes) (bs : List Bytes) (fs : Bool) (s : Sys)
    (hd : (s.conn c).db < s.srv.dbs.length) (nd : NodupKeys (s.dbAt (s.conn c).db).dict)
    (hg : runGate (zsig name) fs ((s.conn c).pubsub > 0) = none) (e : Err)
    (hs : spec (name == "zunionstore") (s.dbAt (s.conn c).db) nkb (b0 :: bs) = .error e) :
    ∃ db', Reads (s.dbAt (s.conn c).db) db' ∧
      (∀ k, db'.live k = (s.dbAt (s.conn c).db).live k) ∧
      runWith (special inner) mode c (zsig name) (dst :: nkb :: b0 :: bs) fs s =
        (some (.err (strBytes e)), s.setDbS (s.conn c).db db') := by
  obtain ⟨db', hr, hm⟩ := ZStore.run_error inner mode c name h dst nkb b0 bs fs s hd nd hg e hs
  exact ⟨db', hr, fun k => Reads.live hr k, hm⟩

/-- which errors: exactly these messages, in this order of precedence -/
theorem error_cases (union : Bool) (db : Db) (nkb : Bytes) (rest : List Bytes) (e : Err)
    (h : spec union db nkb rest = .error e) :
    Conv.int nkb = .error e ∨
    ∃ n, Conv.int nkb = .ok n ∧
      (e = Msgs.ZUNIONSTORE_KEYS_MSG ∨ e = Msgs.SYNTAX_ERROR_MSG ∨ e = Msgs.WRONGTYPE_MSG ∨
        e = Msgs.INVALID_FLOAT_MSG) := by
  unfold spec at h
  cases hn : Conv.int nkb with
  | error e' => rw [hn] at h; cases h; exact Or.inl rfl
  | ok n => rw [hn] at h; exact Or.inr ⟨n, rfl, specN_error_msg h⟩

theorem error_numkeys (union : Bool) (db : Db) (nkb : Bytes) (rest : List Bytes) (n : Int)
    (hn : Conv.int nkb = .ok n) :
    (n < 1 → spec union db nkb rest = .error Msgs.ZUNIONSTORE_KEYS_MSG) ∧
    (1 ≤ n → n > rest.length → spec union db nkb rest = .error Msgs.SYNTAX_ERROR_MSG) := by
  unfold spec specN
  rw [hn]
  refine ⟨fun h => ?_, fun h1 h2 => ?_⟩
  · simp only [if_pos h]
  · simp only [if_neg (by omega : ¬ n < 1), if_pos h2]

/-- fewer than three arguments: the state is untouched; the reply is the arity error — unless the connection is in
subscriber mode, whose refusal comes before any look at the arguments -/
theorem run_arity_error (inner : Inner) (mode : Mode) (c : Nat) (name : String)
    (h : name = "zunionstore" ∨ name = "zinterstore") (raw : List Bytes) (fs : Bool) (s : Sys)
    (hl : raw.length < 3) :
    runWith (special inner) mode c (zsig name) raw fs s =
      (some (if s.refuses c (zsig name) then refusalReply else .err (strBytes (zsig name).wrongArgs)), s) :=
  runWith_special_badArity _ mode c _ raw fs s (regular_none name h) (by
    have h3 : (raw.length != 3) = true := bne_iff_ne.mpr (by omega)
    simp [Sig.checkArity, zsig, h3, hl])

/-- refused by the gate (subscriber mode): the reply is the refusal and the state is literally unchanged, whatever
the arguments are (too few, `numkeys` not a number, …) — the destination is not looked up, nothing expires lazily -/
theorem run_gated (inner : Inner) (mode : Mode) (c : Nat) (name : String)
    (raw : List Bytes) (fs : Bool) (s : Sys) (e : Err)
    (hg : runGate (zsig name) fs ((s.conn c).pubsub > 0) = some e) :
    runWith (special inner) mode c (zsig name) raw fs s = (some (.err (strBytes e)), s) :=
  runWith_gate_closed _ mode c _ raw fs s e (Bool.and_false fs) hg

/-- `run_gated` in terms of the connection: a subscribed connection gets the context error -/
theorem run_subscribed (inner : Inner) (mode : Mode) (c : Nat) (name : String)
    (h : name = "zunionstore" ∨ name = "zinterstore") (raw : List Bytes) (fs : Bool) (s : Sys)
    (hps : (s.conn c).pubsub > 0) :
    runWith (special inner) mode c (zsig name) raw fs s =
      (some (.err (strBytes Msgs.BAD_COMMAND_IN_PUBSUB_MSG)), s) := by
  have hna : (zsig name).name ∉ SigTable.pubsubAllowed := by
    rcases h with rfl | rfl <;> decide
  exact runWith_refused _ mode c (zsig name) raw fs (Sys.refuses_eq_true.2 ⟨hps, hna⟩)

/-- Notification.  After a successful command every connection that watches `(d, dst)` has its
`watchNotified` flag set (its next EXEC aborts), whether or not the live entry of `dst` changed; the watch lists
are untouched.  (Hence in particular: whenever the live entry of `dst` changes, its watchers are notified.) -/
theorem watchers_notified (inner : Inner) (mode : Mode) (c : Nat) (name : String)
    (h : name = "zunionstore" ∨ name = "zinterstore") (dst nkb b0 : Bytes) (bs : List Bytes) (fs : Bool) (s : Sys)
    (hd : (s.conn c).db < s.srv.dbs.length) (nd : NodupKeys (s.dbAt (s.conn c).db).dict)
    (hg : runGate (zsig name) fs ((s.conn c).pubsub > 0) = none) (Z : ZSet)
    (hs : spec (name == "zunionstore") (s.dbAt (s.conn c).db) nkb (b0 :: bs) = .ok Z) :
    (runWith (special inner) mode c (zsig name) (dst :: nkb :: b0 :: bs) fs s).2.srv.conns =
        s.srv.conns.map (notifyFn (s.conn c).db dst) ∧
    ∀ x ∈ s.srv.conns, x.watches.contains ((s.conn c).db, dst) = true →
      (notifyFn (s.conn c).db dst x).watchNotified = true ∧ (notifyFn (s.conn c).db dst x).watches = x.watches := by
  obtain ⟨dbf, h1, _⟩ := ZStore.run_ok inner mode c name h dst nkb b0 bs fs s hd nd hg Z hs
  rw [h1]
  exact ⟨rfl, fun x _ hw => ⟨notifyFn_watch _ _ x hw, notifyFn_watches _ _ x⟩⟩

/-- a failing command notifies nobody -/
theorem error_notifies_nobody (inner : Inner) (mode : Mode) (c : Nat) (name : String)
    (h : name = "zunionstore" ∨ name = "zinterstore") (dst nkb b0 : Bytes) (bs : List Bytes) (fs : Bool) (s : Sys)
    (hd : (s.conn c).db < s.srv.dbs.length) (nd : NodupKeys (s.dbAt (s.conn c).db).dict)
    (hg : runGate (zsig name) fs ((s.conn c).pubsub > 0) = none) (e : Err)
    (hs : spec (name == "zunionstore") (s.dbAt (s.conn c).db) nkb (b0 :: bs) = .error e) :
    (runWith (special inner) mode c (zsig name) (dst :: nkb :: b0 :: bs) fs s).2.srv.conns = s.srv.conns ∧
    (runWith (special inner) mode c (zsig name) (dst :: nkb :: b0 :: bs) fs s).2.out = s.out ∧
    (runWith (special inner) mode c (zsig name) (dst :: nkb :: b0 :: bs) fs s).2.fault = s.fault := by
  obtain ⟨db', _, hm⟩ := ZStore.run_error inner mode c name h dst nkb b0 bs fs s hd nd hg e hs
  rw [hm]
  exact ⟨rfl, rfl, rfl⟩

/-- the signatures in the model's table are `zsig` -/
theorem sig_table :
    SigTable.find "zunionstore" = some (zsig "zunionstore") ∧
    SigTable.find "zinterstore" = some (zsig "zinterstore") := by
  decide +kernel


/-! ## Non-vacuity witnesses -/

/-- source `a = {x ↦ 1, y ↦ 2}` -/
def exA : ZSet := ((ZSet.empty.add [120] (Dbl.ofInt 1)).1.add [121] (Dbl.ofInt 2)).1
/-- a database at time 0: `a` a sorted set, `b` the plain set `{y, z}`, `s` a string,
`d` a string with a deadline in the future, `e` an expired sorted set -/
def exDict : Dict :=
  [([97], ⟨.zset exA, none⟩), ([98], ⟨.set [[121], [122]], none⟩), ([115], ⟨.str [118], none⟩),
   ([100], ⟨.str [111], some 100⟩), ([101], ⟨.zset exA, some (-5)⟩)]
def exDb : Db := ⟨exDict, 0⟩
/-- a state: database 0 is `exDb`; connection 1 watches `(0, d)` and `(0, q)`, connection 2 watches nothing -/
def exSys : Sys :=
  { srv := { dbs := exDict :: List.replicate 15 [],
             conns := [{ id := 1, watches := [(0, [100]), (0, [113])] }, { id := 2 }] } }

theorem ok_of_toOption {x : Except Err ZSet} {l : List (Dbl × Bytes)}
    (h : x.toOption.map (·.byscore) = some l) : ∃ Z, x = .ok Z ∧ Z.byscore = l := by
  cases x with
  | error e => simp [Except.toOption] at h
  | ok Z => exact ⟨Z, rfl, by simpa [Except.toOption] using h⟩

example : exA.Inv := ZSet.add_inv (ZSet.add_inv ZSet.empty_inv (by decide)) (by decide)

example : DbZInv exDb := by
  intro q hq z e
  simp only [exDb, exDict, List.mem_cons, List.not_mem_nil, or_false] at hq
  have hA : exA.Inv := ZSet.add_inv (ZSet.add_inv ZSet.empty_inv (by decide)) (by decide)
  rcases hq with rfl | rfl | rfl | rfl | rfl <;> simp only [Value.zset.injEq, reduceCtorEq] at e <;> subst e <;> exact hA

-- the sources of `a b` (a sorted set and a plain set), of a missing key, of an expired key
example : (srcAll exDb [[97], [98], [119], [101]]).toOption.map (fun l => l.map (·.byscore)) =
    some [[(Dbl.ofInt 1, [120]), (Dbl.ofInt 2, [121])], [(Dbl.one, [121]), (Dbl.one, [122])], [], []] := by
  decide +kernel
-- a string source is WRONGTYPE
example : (∃ e, srcAll exDb [[97], [115]] = .error e) :=
  (sources_error_iff exDb [[97], [115]]).mpr ⟨[115], by decide, ⟨.str [118], none⟩, by rfl, by decide, by decide⟩

-- ZUNIONSTORE dst 2 a b WEIGHTS 2 3  →  x ↦ 2, z ↦ 3, y ↦ 2·2 + 3·1 = 7
example : (spec true exDb (strBytes "2") [[97], [98], strBytes "WEIGHTS", strBytes "2", strBytes "3"]).toOption.map
    (·.byscore) = some [(Dbl.ofInt 2, [120]), (Dbl.ofInt 3, [122]), (Dbl.ofInt 7, [121])] := by
  decide +kernel
-- ZINTERSTORE dst 2 a b WEIGHTS 2 3 aggregate MAX  →  y ↦ max(4, 3) = 4
example : (spec false exDb (strBytes "2")
    [[97], [98], strBytes "WEIGHTS", strBytes "2", strBytes "3", strBytes "aggregate", strBytes "MAX"]).toOption.map
    (·.byscore) = some [(Dbl.ofInt 4, [121])] := by
  decide +kernel
-- ZINTERSTORE dst 2 a w (w missing) → empty
example : (spec false exDb (strBytes "2") [[97], [119]]).toOption.map (·.byscore) = some [] := by
  decide +kernel
-- the error cases, in order of precedence
example : (spec true exDb (strBytes "x") [[97]]).toOption = none ∧
    (spec true exDb (strBytes "0") [[97]]).toOption = none ∧
    (spec true exDb (strBytes "3") [[97], [98]]).toOption = none ∧
    (spec true exDb (strBytes "2") [[97], [115]]).toOption = none ∧
    (spec true exDb (strBytes "1") [[97], strBytes "WEIGHTS", strBytes "x"]).toOption = none ∧
    (spec true exDb (strBytes "1") [[97], strBytes "AGGREGATE", strBytes "avg"]).toOption = none ∧
    (spec true exDb (strBytes "1") [[97], strBytes "WEIGHTS"]).toOption = none := by
  decide +kernel
def errOf (x : Except Err ZSet) : Option Err := match x with | .error e => some e | .ok _ => none
example :
    errOf (spec true exDb (strBytes "x") [[97]]) = some Msgs.INVALID_INT_MSG ∧
    errOf (spec true exDb (strBytes "0") [[97]]) = some Msgs.ZUNIONSTORE_KEYS_MSG ∧
    errOf (spec true exDb (strBytes "3") [[97], [98]]) = some Msgs.SYNTAX_ERROR_MSG ∧
    errOf (spec true exDb (strBytes "2") [[97], [115]]) = some Msgs.WRONGTYPE_MSG ∧
    errOf (spec true exDb (strBytes "1") [[97], strBytes "WEIGHTS", strBytes "x"]) = some Msgs.INVALID_FLOAT_MSG ∧
    errOf (spec true exDb (strBytes "1") [[97], strBytes "AGGREGATE", strBytes "avg"]) = some Msgs.SYNTAX_ERROR_MSG ∧
    errOf (spec true exDb (strBytes "2") [[97], [115], strBytes "WEIGHTS", strBytes "x", strBytes "1"]) =
      some Msgs.WRONGTYPE_MSG := by
  decide +kernel

theorem error_of_errOf {x : Except Err ZSet} {e : Err} (h : errOf x = some e) : x = .error e := by
  cases x with
  | error e' => simp only [errOf, Option.some.injEq] at h; rw [h]
  | ok Z => simp [errOf] at h

-- the hypotheses of `run_error` hold in `exSys`: a wrong-typed source leaves everything as it was
example : ∃ db', Reads (exSys.dbAt 0) db' ∧ (∀ k, db'.live k = (exSys.dbAt 0).live k) ∧
    runWith (special (fun _ _ => pure none)) {} 1 (zsig "zinterstore")
        ([100] :: strBytes "2" :: [97] :: [[115]]) false exSys =
      (some (.err (strBytes Msgs.WRONGTYPE_MSG)), exSys.setDbS 0 db') :=
  run_error (fun _ _ => pure none) {} 1 "zinterstore" (Or.inr rfl) [100] (strBytes "2") [97] [[115]] false exSys
    (by decide) (by decide +kernel) (by decide +kernel) Msgs.WRONGTYPE_MSG
    (error_of_errOf (by decide +kernel))

-- the hypotheses of `membership` / `score` hold for the two example sources
example : ((result true (strBytes "sum") [exA, exA] [Dbl.one, Dbl.one]).contains [121] = true ↔
    ∃ z ∈ [exA, exA], z.contains [121] = true) := by
  have hA : exA.Inv := ZSet.add_inv (ZSet.add_inv ZSet.empty_inv (by decide)) (by decide)
  exact membership true (strBytes "sum") [exA, exA] [Dbl.one, Dbl.one]
    (fun z hz => by simp at hz; subst hz; exact hA) rfl (by simp) [121]

-- NaN → 0: `inf · 0` (both commands), `inf + -inf` under SUM
example :
    (result true (strBytes "sum") [(ZSet.empty.add [109] (.inf false)).1] [Dbl.zero]).get [109] = some Dbl.zero ∧
    (result false (strBytes "sum") [(ZSet.empty.add [109] (.inf false)).1] [Dbl.zero]).get [109] = some Dbl.zero ∧
    (result true (strBytes "sum") [(ZSet.empty.add [109] (.inf false)).1, (ZSet.empty.add [109] (.inf true)).1]
      [Dbl.one, Dbl.one]).get [109] = some Dbl.zero ∧
    (Dbl.mul (.inf false) Dbl.zero).isNaN = true ∧ (Dbl.add (.inf false) (.inf true)).isNaN = true := by
  decide +kernel

-- the hypotheses of `run_ok` / `watchers_notified` hold in `exSys` for connection 1 and
-- `ZUNIONSTORE d 2 a b WEIGHTS 2 3`; the theorem yields the reply 3 and the replaced destination
example : ∃ dbf Z,
    runWith (special (fun _ _ => pure none)) {} 1 (zsig "zunionstore")
        ([100] :: strBytes "2" :: [97] :: [[98], strBytes "WEIGHTS", strBytes "2", strBytes "3"]) false exSys =
      (some (.int 3), (exSys.setDbS 0 dbf).mapConns (notifyFn 0 [100])) ∧
    dbf.live [100] = some ⟨.zset Z, none⟩ ∧
    Z.byscore = [(Dbl.ofInt 2, [120]), (Dbl.ofInt 3, [122]), (Dbl.ofInt 7, [121])] ∧
    (exSys.dbAt 0).live [100] = some ⟨.str [111], some 100⟩ := by
  obtain ⟨Z, hZ, hb⟩ := ok_of_toOption (x := spec true exDb (strBytes "2")
    [[97], [98], strBytes "WEIGHTS", strBytes "2", strBytes "3"])
    (l := [(Dbl.ofInt 2, [120]), (Dbl.ofInt 3, [122]), (Dbl.ofInt 7, [121])]) (by decide +kernel)
  have hlen : Z.len = 3 := by
    rw [← ZSet.byscore_length (spec_ok_inv hZ), hb]; rfl
  obtain ⟨dbf, h1, h2, _⟩ := run_ok (fun _ _ => pure none) {} 1 "zunionstore" (Or.inl rfl) [100] (strBytes "2") [97]
    [[98], strBytes "WEIGHTS", strBytes "2", strBytes "3"] false exSys (by decide) (by decide +kernel)
    (by decide +kernel) Z hZ
  rw [hlen] at h1 h2
  exact ⟨dbf, Z, h1, h2, hb, by rfl⟩

-- connection 1 watches the destination: it is flagged
example : (notifyFn 0 [100] { id := 1, watches := [(0, [100]), (0, [113])] }).watchNotified = true := by decide

-- the hypothesis of `run_gated` / `run_subscribed` holds for a subscribed connection: `ZUNIONSTORE d x a` (numkeys
-- not a number, expired destination) is answered with the context error and nothing at all changes
example :
    runWith (special (fun _ _ => pure none)) {} 1 (zsig "zunionstore") ([101] :: strBytes "x" :: [[97]]) false
        { exSys with srv := { exSys.srv with conns := [{ id := 1, pubsub := 1 }] } } =
      (some (.err (strBytes Msgs.BAD_COMMAND_IN_PUBSUB_MSG)),
        { exSys with srv := { exSys.srv with conns := [{ id := 1, pubsub := 1 }] } }) :=
  run_gated (fun _ _ => pure none) {} 1 "zunionstore" _ false _ _ (by decide)

end FR.Props.C03s

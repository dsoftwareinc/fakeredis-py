import FR.Proofs.PubSubHist
/-!
# C10 over histories — pub/sub: the subscription tables of every reachable state, who is subscribed as a
function of the history, what PUBLISH delivers (outside and inside MULTI), in which order, and subscriber mode

Vocabulary (all from `FR/Proofs/PubSubHist.lean`):

* `runHistory evs` is the state after the events `evs` (from the initial state); every event starts with an empty
  `Sys.out`, so the replies of a whole history are `outLog {} evs` (oldest first).
* `LegalFrom {} evs`: a new socket has a fresh identity, only a registered socket is closed, only a registered and
  not closed socket sends requests (a closed `FakeSocket` has `_server = None`) — the histories client objects produce.
* `IsOpen s c`: `c` is registered and not closed.  `s.conn c` is `c`'s connection record.
* `IsSub s q c m`: `c` is listed under channel (`q = false`) / pattern (`q = true`) `m` and is not a closed socket
  awaiting clean-up — "the client currently subscribed".
* `liveSrv s`: the tables as the next known command sees them (after `_cleanup` of the closed sockets).
* `cnt t c`: the number of entries of table `t` that list `c`.
-/
namespace FR.Props.C10s
open FR FR.M FR.PubSubHist

/-- a decidable fingerprint of a reply, one level deep (`Reply` has no `DecidableEq`); used by the concrete examples -/
def fp : Reply → List (List Int)
  | .nil => [[0]]
  | .int n => [[1, n]]
  | .bulk b => [2 :: b.map fun x => (x.toNat : Int)]
  | .status b => [3 :: b.map fun x => (x.toNat : Int)]
  | .err b => [4 :: b.map fun x => (x.toNat : Int)]
  | .arr xs => [5] :: xs.map fun x => match x with
    | .int n => [1, n]
    | .bulk b => 2 :: b.map fun y => (y.toNat : Int)
    | _ => [9]

def fps (l : List (Nat × Reply)) : List (Nat × List (List Int)) := l.map fun p => (p.1, fp p.2)

/-! ## 1. the table invariant over all histories -/

/-- In every state reached by a legal history: names are unique in each table and every subscriber list is
duplicate-free; connection ids are unique; every listed id belongs to a registered connection, which is closed only
while it is still on `closedSockets` (i.e. between `close` and the next known command); `Conn.pubsub` of every open
connection is the number of channel entries plus pattern entries listing it — "the client's current subscription
count"; and every socket on `closedSockets` is registered and closed. -/
theorem table_invariant (evs : List Ev) (hl : LegalFrom {} evs) :
    let s := runHistory evs
    (TblOK s.srv.subs ∧ TblOK s.srv.psubs) ∧
    (s.srv.conns.map (·.id)).Nodup ∧
    (∀ e, e ∈ s.srv.subs ∨ e ∈ s.srv.psubs → ∀ c ∈ e.2,
      s.HasConn c ∧ ((s.conn c).closed = true → c ∈ s.srv.closedSockets)) ∧
    (∀ c, IsOpen s c → (s.conn c).pubsub = cnt s.srv.subs c + cnt s.srv.psubs c) ∧
    (∀ c ∈ s.srv.closedSockets, s.HasConn c ∧ (s.conn c).closed = true) :=
  psinv_unpack (psinv_runHistory evs hl)

/-- the invariant is inductive: every legal event preserves it, from any state that satisfies it (all eleven kinds of
events: raw `sendall`, MULTI/EXEC — also with queued (un)subscriptions —, scripts, wake-ups, asyncio resumptions) -/
theorem table_invariant_step (s : Sys) (e : Ev) (h : PSInv s) (hl : Legal s e) : PSInv (stepEv s e) :=
  psinv_step s e h hl

/-- after a known command has run (`closedSockets` is empty) nobody listed in a table is closed -/
theorem listed_are_open_after_cleanup (evs : List Ev) (hl : LegalFrom {} evs)
    (hcl : (runHistory evs).srv.closedSockets = []) :
    ∀ e, e ∈ (runHistory evs).srv.subs ∨ e ∈ (runHistory evs).srv.psubs → ∀ c ∈ e.2, IsOpen (runHistory evs) c :=
  fun e he c hc => let ⟨h1, h2⟩ := (table_invariant evs hl).2.2.1 e he c hc
    ⟨h1, Bool.eq_false_iff.2 fun hh => List.not_mem_nil (hcl ▸ h2 hh)⟩

/-- SUBSCRIBE by 7 to two channels and a pattern, by 8 to one channel; 8 closes -/
def demo : List Ev :=
  [.open 7, .open 8,
   .request {} 7 [strBytes "SUBSCRIBE", [1], [2], [1]] [5] [],
   .request {} 7 [strBytes "PSUBSCRIBE", [42]] [6] [],
   .request {} 8 [strBytes "subscribe", [1]] [7] [],
   .close 8]

example : LegalFrom {} demo ∧ (runHistory demo).srv.subs = [([1], [7, 8]), ([2], [7])] ∧
    (runHistory demo).srv.psubs = [([42], [7])] ∧ ((runHistory demo).conn 7).pubsub = 3 ∧
    (runHistory demo).srv.closedSockets = [8] := by decide +kernel

/-- **"No empty subscriber list is kept" is FALSE of the model**: (P)UNSUBSCRIBE removes an entry that becomes empty,
but the clean-up of a closed socket (and garbage collection) only empties the lists.  Witness: 7 subscribes to
channel `[1]`, closes; the next command of another client runs the clean-up: the entry `([1], [])` stays. -/
def emptyKept : List Ev :=
  [.open 7, .request {} 7 [strBytes "SUBSCRIBE", [1]] [5] [], .close 7, .open 8, .request {} 8 [strBytes "PING"] [6] []]

theorem empty_list_is_kept : LegalFrom {} emptyKept ∧ ([1], []) ∈ (runHistory emptyKept).srv.subs := by
  decide +kernel

/-- the true part: (P)SUBSCRIBE and (P)UNSUBSCRIBE themselves never leave a new empty entry -/
theorem no_new_empty_partial (t : Tbl) (n : Bytes) (c : Nat) (p : Bytes × List Nat) (he : p.2 = []) :
    (p ∈ (tblSubscribe t n c).1 → p ∈ t) ∧ (p ∈ (tblUnsubscribe t n c).1 → p ∈ t) :=
  ⟨fun hp => subscribe_no_new_empty t n c p hp he, fun hp => unsubscribe_no_new_empty t n c p hp he⟩

/-- `Conn.pubsub` of a CLOSED connection is not maintained: after the clean-up it is stale (the invariant speaks
about open connections only).  Same witness: 7 is listed nowhere but keeps the count 1. -/
theorem closed_count_is_stale :
    ((runHistory emptyKept).conn 7).pubsub = 1 ∧ cnt (runHistory emptyKept).srv.subs 7 = 0 := by decide +kernel

/-! ## 2. who is subscribed, as a function of the history -/

/-- For a history in which `c`'s own events are complete requests issued outside MULTI and no script commands
(`QuietFrom`; all other connections are unconstrained), `c` is a current subscriber of channel / pattern `m` iff the
replay of `c`'s own (P)SUBSCRIBE / (P)UNSUBSCRIBE requests says so: the last request naming `m` wins, (P)UNSUBSCRIBE
without arguments drops everything of that kind, close and garbage collection drop everything. -/
theorem subscribed_iff (evs : List Ev) (c : Nat) (q : Bool) (m : Bytes) (hq : QuietFrom c {} evs) :
    IsSub (runHistory evs) q c m ↔ subscribedTo evs c q m = true := by
  refine isSub_foldl evs {} c q m false hq ⟨fun h => ?_, fun h => by cases h⟩
  have := h.1
  unfold MemV tblMembers at this
  cases q <;> simp [view, View.tbl] at this

/-- no event of another connection — whatever it is — changes whether `c` is subscribed to `m` -/
theorem others_cannot_change (s : Sys) (e : Ev) (q : Bool) (c : Nat) (m : Bytes) (he : evConn e ≠ some c) :
    IsSub (stepEv s e) q c m ↔ IsSub s q c m :=
  sub_step_other s e q c m he

/-- one request of `c` outside MULTI: (P)SUBSCRIBE adds exactly the named ones (duplicates do not matter),
(P)UNSUBSCRIBE drops exactly the named ones, all without names -/
theorem subscribe_request (s : Sys) (mode : Mode) (c : Nat) (fields : List Bytes) (cl : List Int) (pk)
    (p : Bool) (names : List Bytes) (hk : psKind fields = .sub p names) (htx : (s.conn c).tx = none)
    (q : Bool) (m : Bytes) :
    IsSub (stepEv s (.request mode c fields cl pk)) q c m ↔ IsSub s q c m ∨ (q = p ∧ m ∈ names) :=
  isSub_request_sub s mode c fields cl pk p names hk htx q m

theorem unsubscribe_request (s : Sys) (mode : Mode) (c : Nat) (fields : List Bytes) (cl : List Int) (pk)
    (p : Bool) (names : List Bytes) (hk : psKind fields = .unsub p names) (htx : (s.conn c).tx = none)
    (q : Bool) (m : Bytes) :
    IsSub (stepEv s (.request mode c fields cl pk)) q c m ↔
      IsSub s q c m ∧ ¬ (q = p ∧ (names = [] ∨ m ∈ names)) :=
  isSub_request_unsub s mode c fields cl pk p names hk htx q m

/-- 7 subscribes to `[1] [2]`, unsubscribes from `[1]`, 8 does things in a MULTI, 7 unsubscribes from everything and
resubscribes to `[3]` -/
def demo2 : List Ev :=
  [.open 7, .open 8,
   .request {} 7 [strBytes "SUBSCRIBE", [1], [2]] [5] [],
   .request {} 7 [strBytes "UNSUBSCRIBE", [1]] [6] [],
   .request {} 8 [strBytes "MULTI"] [7] [],
   .request {} 8 [strBytes "SET", [9], [9]] [8] [],
   .request {} 8 [strBytes "EXEC"] [9] [],
   .request {} 7 [strBytes "PING"] [10] []]

example : QuietFrom 7 {} demo2 ∧ subscribedTo demo2 7 false [2] = true ∧ subscribedTo demo2 7 false [1] = false ∧
    IsSub (runHistory demo2) false 7 [2] ∧ ¬ IsSub (runHistory demo2) false 7 [1] := by decide +kernel

example : subscribedTo (demo2 ++ [.request {} 7 [strBytes "unsubscribe"] [11] [],
      .request {} 7 [strBytes "subscribe", [3]] [12] []]) 7 false [2] = false ∧
    subscribedTo (demo2 ++ [.request {} 7 [strBytes "unsubscribe"] [11] [],
      .request {} 7 [strBytes "subscribe", [3]] [12] []]) 7 false [3] = true := by decide +kernel

/-! ## 3. PUBLISH: what is delivered to whom -/

/-- A `PUBLISH ch m` request (outside MULTI, by an open client that has no subscription) after a legal history:
the event emits exactly — oldest first — `["message", ch, m]` to every subscriber of `ch` in table order, then
`["pmessage", p, ch, m]` for every pattern `p` that matches `ch` (table order) to each of its subscribers, then the
integer reply = the number of these deliveries to the publisher.  The tables are those after the clean-up of the
closed sockets (`liveSrv`). -/
theorem publish_delivers (evs : List Ev) (hl : LegalFrom {} evs) (mode : Mode) (P : Nat) (nameB ch msg : Bytes)
    (cl : List Int) (pk : List (List Bytes)) (hname : commandName nameB = some "publish")
    (hopen : IsOpen (runHistory evs) P) (htx : ((runHistory evs).conn P).tx = none)
    (hps : ((runHistory evs).conn P).pubsub = 0) :
    let s := runHistory evs
    (stepEv s (.request mode P [nameB, ch, msg] cl pk)).out.reverse =
      ((((liveSrv s).subs.lookup ch).getD []).map (fun c => (c, chanMsg ch msg))
        ++ ((liveSrv s).psubs.filter (fun p => Glob.globMatch p.1 ch)).flatMap
            (fun p => p.2.map fun c => (c, patMsg p.1 ch msg)))
      ++ [(P, .int (deliveries (liveSrv s) ch msg).length)] :=
  publish_request_out _ (psinv_runHistory evs hl) mode P nameB ch msg cl pk hname hopen htx hps

/-- the receivers are exactly the current subscribers: of the channel (`message`), of each matching pattern
(`pmessage`, once per pattern) — to nobody else, nothing else -/
theorem publish_receivers (evs : List Ev) (hl : LegalFrom {} evs) (ch msg : Bytes) (c : Nat) (r : Reply) :
    (c, r) ∈ deliveries (liveSrv (runHistory evs)) ch msg ↔
      (IsSub (runHistory evs) false c ch ∧ r = chanMsg ch msg) ∨
      (∃ pat, Glob.globMatch pat ch = true ∧ IsSub (runHistory evs) true c pat ∧ r = patMsg pat ch msg) :=
  mem_deliveries_live _ (psinv_runHistory evs hl) ch msg c r

/-- like `demo`, without the pattern (the glob matcher does not reduce in the kernel), and a third client 9 -/
def demoP : List Ev :=
  [.open 7, .open 8,
   .request {} 7 [strBytes "SUBSCRIBE", [1], [2], [1]] [5] [],
   .request {} 8 [strBytes "subscribe", [1]] [7] [],
   .close 8, .open 9]

/-- 9 publishes on `[1]` after `demoP`: 7 gets the message; 8 is closed: nothing; the reply is 1 -/
example :
    fps (stepEv (runHistory demoP) (.request {} 9 [strBytes "PUBLISH", [1], [77]] [8] [])).out.reverse =
      fps [(7, chanMsg [1] [77]), (9, .int 1)] := by decide +kernel

example : LegalFrom {} demoP ∧ IsOpen (runHistory demoP) 9 ∧
    ((runHistory demoP).conn 9).tx = none ∧ ((runHistory demoP).conn 9).pubsub = 0 ∧
    commandName (strBytes "PUBLISH") = some "publish" := by decide +kernel

/-! ## 4. order -/

/-- Two PUBLISH requests in a legal history (any publishers, anything in between), each on a channel `S` is subscribed
to at that moment: in the log of all replies (`outLog`, oldest first) `S`'s push for the first precedes `S`'s push for
the second. -/
theorem publish_order (pre mid post : List Ev) (mode1 mode2 : Mode) (P1 P2 : Nat) (n1 ch1 m1 n2 ch2 m2 : Bytes)
    (cl1 cl2 : List Int) (pk1 pk2 : List (List Bytes)) (S : Nat)
    (hlegal : LegalFrom {} (pre ++ .request mode1 P1 [n1, ch1, m1] cl1 pk1 ::
      (mid ++ .request mode2 P2 [n2, ch2, m2] cl2 pk2 :: post)))
    (hn1 : commandName n1 = some "publish") (hn2 : commandName n2 = some "publish")
    (htx1 : ((runHistory pre).conn P1).tx = none) (hps1 : ((runHistory pre).conn P1).pubsub = 0)
    (hS1 : IsSub (runHistory pre) false S ch1)
    (htx2 : ((runHistory (pre ++ .request mode1 P1 [n1, ch1, m1] cl1 pk1 :: mid)).conn P2).tx = none)
    (hps2 : ((runHistory (pre ++ .request mode1 P1 [n1, ch1, m1] cl1 pk1 :: mid)).conn P2).pubsub = 0)
    (hS2 : IsSub (runHistory (pre ++ .request mode1 P1 [n1, ch1, m1] cl1 pk1 :: mid)) false S ch2) :
    ∃ A B C, outLog {} (pre ++ .request mode1 P1 [n1, ch1, m1] cl1 pk1 ::
        (mid ++ .request mode2 P2 [n2, ch2, m2] cl2 pk2 :: post)) =
      A ++ (S, chanMsg ch1 m1) :: (B ++ (S, chanMsg ch2 m2) :: C) :=
  FR.PubSubHist.publish_order pre mid post mode1 mode2 P1 P2 n1 ch1 m1 n2 ch2 m2 cl1 cl2 pk1 pk2 S hlegal hn1 hn2
    htx1 hps1 hS1 htx2 hps2 hS2

example :
    LegalFrom {} (demoP ++ .request {} 9 [strBytes "PUBLISH", [1], [77]] [8] [] ::
      ([] ++ .request {} 9 [strBytes "PUBLISH", [2], [78]] [9] [] :: [])) ∧
    IsSub (runHistory demoP) false 7 [1] ∧
    IsSub (runHistory (demoP ++ .request {} 9 [strBytes "PUBLISH", [1], [77]] [8] [] :: [])) false 7 [2] ∧
    ((runHistory (demoP ++ .request {} 9 [strBytes "PUBLISH", [1], [77]] [8] [] :: [])).conn 9).tx = none ∧
    ((runHistory (demoP ++ .request {} 9 [strBytes "PUBLISH", [1], [77]] [8] [] :: [])).conn 9).pubsub = 0 := by
  decide +kernel

/-- the log is the concatenation of the events' outputs: per event, oldest first -/
theorem log_is_concatenation (s : Sys) (evs1 evs2 : List Ev) :
    outLog s (evs1 ++ evs2) = outLog s evs1 ++ outLog (evs1.foldl stepEv s) evs2 :=
  outLog_append s evs1 evs2

example : fps (((outLog {} (demoP ++ [.request {} 9 [strBytes "PUBLISH", [1], [77]] [8] [],
      .request {} 9 [strBytes "PUBLISH", [2], [78]] [9] []])).filter (fun x => x.1 == 7)).drop 3) =
    fps [(7, chanMsg [1] [77]), (7, chanMsg [2] [78])] := by
  decide +kernel

/-! ## 5. PUBLISH inside MULTI is delivered at EXEC -/

/-- at queue time nothing reaches a subscriber: the only reply is `QUEUED` to the caller, the tables are only
cleaned up -/
theorem publish_in_multi_is_queued (s : Sys) (mode : Mode) (c : Nat) (nameB ch msg : Bytes) (cl : List Int) (pk)
    (q : List (String × List Bytes)) (hname : commandName nameB = some "publish") (htx : (s.conn c).tx = some q) :
    let s' := stepEv s (.request mode c [nameB, ch, msg] cl pk)
    s'.out = (if (s.conn c).closed then [] else [(c, Reply.queued)]) ∧
    s'.srv.subs = (liveSrv s).subs ∧ s'.srv.psubs = (liveSrv s).psubs :=
  publish_queued_out s mode c nameB ch msg cl pk q hname htx

/-- at EXEC (queue of PUBLISH commands, not aborted, no touched watch) the deliveries appear, in queue order,
followed by the array of the counts -/
theorem exec_delivers_queued_publishes (evs : List Ev) (hl : LegalFrom {} evs) (mode : Mode) (c : Nat) (nameB : Bytes)
    (pubs : List (Bytes × Bytes)) (cl : List Int) (pk : List (List Bytes))
    (hname : commandName nameB = some "exec") (hopen : IsOpen (runHistory evs) c)
    (htx : ((runHistory evs).conn c).tx = some (pubQueue pubs)) (hf : ((runHistory evs).conn c).txFailed = false)
    (hw : ((runHistory evs).conn c).watchNotified = false) (hps : ((runHistory evs).conn c).pubsub = 0) :
    (stepEv (runHistory evs) (.request mode c [nameB] cl pk)).out.reverse =
      (pubs.flatMap fun p => deliveries (liveSrv (runHistory evs)) p.1 p.2) ++
        [(c, .arr (pubs.map fun p => .int (deliveries (liveSrv (runHistory evs)) p.1 p.2).length))] :=
  exec_publishes_out _ (psinv_runHistory evs hl) mode c nameB pubs cl pk hname hopen htx hf hw hps

def demo5 : List Ev :=
  demoP ++ [.request {} 9 [strBytes "MULTI"] [8] [],
    .request {} 9 [strBytes "PUBLISH", [2], [77]] [9] [], .request {} 9 [strBytes "PUBLISH", [1], [78]] [10] []]

example : fps (runHistory demo5).out = fps [(9, Reply.queued)] ∧
    ((runHistory demo5).conn 9).tx = some (pubQueue [([2], [77]), ([1], [78])]) ∧
    ((runHistory demo5).conn 9).txFailed = false ∧ ((runHistory demo5).conn 9).watchNotified = false ∧
    fps (stepEv (runHistory demo5) (.request {} 9 [strBytes "EXEC"] [11] [])).out.reverse =
      fps [(7, chanMsg [2] [77]), (7, chanMsg [1] [78]), (9, .arr [.int 1, .int 1])] := by decide +kernel

/-- KF-1, fixed: (P)SUBSCRIBE inside MULTI is refused at queue time ("Command not allowed inside a transaction"),
so it never reaches EXEC: EXEC answers EXECABORT, nothing crashes, the connection is alive and in normal mode, and
no subscription has been made.  (Before the fix this history ended with `crashed = some "AssertionError"`, the
connection dead and the subscription made; the theorems above exclude it by asking for a queue of PUBLISH commands /
`QuietFrom`, which remains sound.) -/
example :
    let s := runHistory [.open 7, .request {} 7 [strBytes "MULTI"] [5] [],
      .request {} 7 [strBytes "SUBSCRIBE", [1]] [6] [], .request {} 7 [strBytes "EXEC"] [7] []]
    s.crashed = none ∧ s.fault = none ∧ (s.conn 7).dead = false ∧ (s.conn 7).tx = none ∧ (s.conn 7).pubsub = 0 ∧
      s.srv.subs = [] ∧ fps s.out = fps [(7, .err (strBytes Msgs.EXECABORT_MSG))] := by decide +kernel

/-! ## 6. subscriber mode -/

/-- While `Conn.pubsub > 0`, a request (outside MULTI, right number of arguments) for a command other than
(P)SUBSCRIBE / (P)UNSUBSCRIBE / PING / QUIT is answered with the fixed error, and neither the conversion of the
arguments (`Signature.apply`) nor the body runs: the state is the one after the clean-up and clock refresh that
precede every known command, plus the reply. -/
theorem subscriber_mode_refuses (mode : Mode) (c : Nat) (nameB : Bytes) (args : List Bytes) (s : Sys) (sig : Sig)
    (hsig : lookupSig nameB = some sig) (har : sig.checkArity args.length = true) (htx : (s.conn c).tx = none)
    (hps : (s.conn c).pubsub > 0) (hna : sig.name ∉ SigTable.pubsubAllowed) :
    processCommand mode c (nameB :: args) s =
      ((), finish c ((prep s).emitS c (.err (strBytes Msgs.BAD_COMMAND_IN_PUBSUB_MSG)))) :=
  process_gated mode c nameB args s sig hsig har htx hps hna

/-- A command refused in subscriber mode changes nothing besides the reply: the final state is literally the state
after the clean-up and the clock refresh plus the reply; in particular the whole server record — tables, connection
records, all databases (no lazy expiry in the selected one either) — is the one after the clean-up -/
theorem subscriber_mode_changes_nothing (mode : Mode) (c : Nat) (nameB : Bytes) (args : List Bytes) (s : Sys) (sig : Sig)
    (hsig : lookupSig nameB = some sig) (har : sig.checkArity args.length = true) (htx : (s.conn c).tx = none)
    (hps : (s.conn c).pubsub > 0) (hna : sig.name ∉ SigTable.pubsubAllowed) (hcr : s.crashed = none) :
    let s' := (processCommand mode c (nameB :: args) s).2
    s' = (prep s).emitS c (.err (strBytes Msgs.BAD_COMMAND_IN_PUBSUB_MSG)) ∧
    s'.srv = (prep s).srv ∧
    s'.out = (if (s.conn c).closed then s.out else (c, .err (strBytes Msgs.BAD_COMMAND_IN_PUBSUB_MSG)) :: s.out) :=
  process_gated_frame mode c nameB args s sig hsig har htx hps hna hcr

/-- `_run_command` itself, in any state: for a subscribed connection and a command outside the allow-list the reply is
the context error and the state is returned as it is — whatever the arguments `raw` are (too few or too many, not
convertible, keys missing, expired or of the wrong type), from a script or not, for regular, special and script
commands alike -/
theorem run_command_refuses_first (mode : Mode) (c : Nat) (sig : Sig) (raw : List Bytes) (fromScript : Bool) (s1 : Sys)
    (hps : (s1.conn c).pubsub > 0) (hna : sig.name ∉ SigTable.pubsubAllowed) :
    runCommand mode c sig raw fromScript s1 = (some (.err (strBytes Msgs.BAD_COMMAND_IN_PUBSUB_MSG)), s1) ∧
    (∀ special, runWith special mode c sig raw fromScript s1 =
      (some (.err (strBytes Msgs.BAD_COMMAND_IN_PUBSUB_MSG)), s1)) :=
  ⟨runCommand_refused mode c sig raw fromScript (Sys.refuses_eq_true.2 ⟨hps, hna⟩),
   fun special => runWith_refused special mode c sig raw fromScript (Sys.refuses_eq_true.2 ⟨hps, hna⟩)⟩

/-- **The subscriber-mode check comes before the arguments** (repair of KF-2).  A request of a subscribed connection
(outside MULTI, right number of arguments) for a command outside the allow-list: the reply is the context error, and the
state is literally unchanged apart from what `_process_command` does before `_run_command` (clean-up of the closed
sockets, clock refresh: `prep s`).  No argument error takes precedence, no missing-key short-cut (`LINDEX nokey 0`
used to answer nil), no lazy expiry of the keys named by the request: `_run_command`, started in `prep s`, hands back
`prep s` itself for any argument list. -/
theorem subscriber_gate_before_arguments (mode : Mode) (c : Nat) (nameB : Bytes) (args : List Bytes) (s : Sys) (sig : Sig)
    (hsig : lookupSig nameB = some sig) (har : sig.checkArity args.length = true) (htx : (s.conn c).tx = none)
    (hps : (s.conn c).pubsub > 0) (hna : sig.name ∉ SigTable.pubsubAllowed) :
    -- `_run_command` in the state after the prologue: the error, the state as it was, whatever the arguments
    (∀ raw fromScript, runCommand mode c sig raw fromScript (prep s) =
      (some (.err (strBytes Msgs.BAD_COMMAND_IN_PUBSUB_MSG)), prep s)) ∧
    -- the whole request
    processCommand mode c (nameB :: args) s =
      ((), finish c ((prep s).emitS c (.err (strBytes Msgs.BAD_COMMAND_IN_PUBSUB_MSG)))) ∧
    -- unless the model had already recorded a crash: the final state is `prep s` plus the reply, nothing else
    (s.crashed = none →
      (processCommand mode c (nameB :: args) s).2 = (prep s).emitS c (.err (strBytes Msgs.BAD_COMMAND_IN_PUBSUB_MSG)) ∧
      (processCommand mode c (nameB :: args) s).2.srv.dbs = (prep s).srv.dbs ∧
      (processCommand mode c (nameB :: args) s).2.out =
        (if (s.conn c).closed then s.out else (c, .err (strBytes Msgs.BAD_COMMAND_IN_PUBSUB_MSG)) :: s.out)) := by
  have hps' : ((prep s).conn c).pubsub > 0 := by rw [prep_pubsub]; exact hps
  refine ⟨fun raw fs => (run_command_refuses_first mode c sig raw fs (prep s) hps' hna).1,
    process_gated mode c nameB args s sig hsig har htx hps hna, fun hcr => ?_⟩
  obtain ⟨h1, h2, h3⟩ := process_gated_frame mode c nameB args s sig hsig har htx hps hna hcr
  exact ⟨h1, by rw [h2], h3⟩

/-- PUBLISH itself is refused in subscriber mode, nothing is delivered -/
theorem publish_refused_when_subscribed (mode : Mode) (c : Nat) (nameB ch msg : Bytes) (s : Sys)
    (hname : commandName nameB = some "publish") (htx : (s.conn c).tx = none) (hps : (s.conn c).pubsub > 0) :
    processCommand mode c [nameB, ch, msg] s =
      ((), finish c ((prep s).emitS c (.err (strBytes Msgs.BAD_COMMAND_IN_PUBSUB_MSG)))) :=
  process_gated mode c nameB [ch, msg] s sigPublish
    (by rw [lookupSig_of_name _ _ hname (by decide +kernel), find_publish]) rfl htx hps (by decide)

/-- 7 (subscribed) tries SET, GET and PUBLISH: the fixed error each time, no key is written, nothing is delivered;
PING is allowed -/
example :
    fps (stepEv (runHistory demo) (.request {} 7 [strBytes "SET", [9], [9]] [8] [])).out =
      fps [(7, .err (strBytes Msgs.BAD_COMMAND_IN_PUBSUB_MSG))] ∧
    (stepEv (runHistory demo) (.request {} 7 [strBytes "SET", [9], [9]] [8] [])).srv.dbs.all (·.isEmpty) = true ∧
    fps (stepEv (runHistory demo) (.request {} 7 [strBytes "PUBLISH", [1], [9]] [8] [])).out =
      fps [(7, .err (strBytes Msgs.BAD_COMMAND_IN_PUBSUB_MSG))] ∧
    fps (stepEv (runHistory demo) (.request {} 7 [strBytes "PING"] [8] [])).out =
      fps [(7, .arr [.bulk (strBytes "pong"), .bulk []])] := by decide +kernel

example : (lookupSig (strBytes "SET")).any (fun sig => sig.checkArity 2 && !SigTable.pubsubAllowed.contains sig.name) = true ∧
    ((runHistory demo).conn 7).tx = none ∧ ((runHistory demo).conn 7).pubsub > 0 := by decide +kernel

/-- 7 stores `k` with a deadline and subscribes; later (the deadline of `k` has passed) it tries commands whose
arguments used to be looked at first -/
def demoGate : List Ev :=
  [.open 7,
   .request {} 7 [strBytes "SET", [107], [118], strBytes "PX", strBytes "1"] [5] [],
   .request {} 7 [strBytes "SUBSCRIBE", [1]] [6] []]

/-- non-vacuity of `subscriber_gate_before_arguments`, and its content on a concrete history: in subscriber mode
* `LINDEX nokey 0` (missing key: the `missing_return` short-cut used to answer nil) ⇒ the context error;
* `INCRBY k x` (`x` is not an integer: the conversion error used to come first) ⇒ the context error;
* `GET k` with `k` expired ⇒ the context error, and the expired entry is still stored (no lazy expiry): the
  databases are exactly those before the request. -/
example :
    (lookupSig (strBytes "LINDEX")).any (fun sig => sig.checkArity 2 && !SigTable.pubsubAllowed.contains sig.name) = true ∧
    ((runHistory demoGate).conn 7).tx = none ∧ ((runHistory demoGate).conn 7).pubsub > 0 ∧
    (runHistory demoGate).crashed = none ∧
    fps (stepEv (runHistory demoGate) (.request {} 7 [strBytes "LINDEX", strBytes "nokey", strBytes "0"] [20000] [])).out =
      fps [(7, .err (strBytes Msgs.BAD_COMMAND_IN_PUBSUB_MSG))] ∧
    fps (stepEv (runHistory demoGate) (.request {} 7 [strBytes "INCRBY", [107], strBytes "x"] [20000] [])).out =
      fps [(7, .err (strBytes Msgs.BAD_COMMAND_IN_PUBSUB_MSG))] ∧
    fps (stepEv (runHistory demoGate) (.request {} 7 [strBytes "GET", [107]] [20000] [])).out =
      fps [(7, .err (strBytes Msgs.BAD_COMMAND_IN_PUBSUB_MSG))] ∧
    (stepEv (runHistory demoGate) (.request {} 7 [strBytes "GET", [107]] [20000] [])).srv.time = 20000 ∧
    ((stepEv (runHistory demoGate) (.request {} 7 [strBytes "GET", [107]] [20000] [])).srv.dbs.map
        (·.map fun p => (p.1, p.2.expireat))) =
      ((runHistory demoGate).srv.dbs.map (·.map fun p => (p.1, p.2.expireat))) ∧
    ((runHistory demoGate).srv.dbs.map (·.map fun p => (p.1, p.2.expireat))).take 1 = [[([107], some 10005)]] := by
  decide +kernel

end FR.Props.C10s

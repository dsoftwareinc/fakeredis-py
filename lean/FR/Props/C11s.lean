import FR.Proofs.Conserve
import FR.Proofs.ListBooks
import FR.Props.C11
/-!
# C11 at history level — no lost wake-up, conservation, a wake-up serves the first non-empty key

Vocabulary (see `FR/Proofs/Invariant.lean`, `FR/Proofs/Conserve.lean`):
* `Ev`, `stepEv`, `runHistory evs` — the events of the system model and the state after a history from the initial state;
* `serveKeys p` — the keys a parked connection can be served from: all its keys for BLPOP / BRPOP, the *source* only for
  BRPOPLPUSH (this is what `parkedPass`, the re-check of the blocked loop, looks at);
* `ListAt d k` — dictionary `d` stores a list under `k` (expired or not); `HoldsList db k` — `k` holds a live list;
* `stored s` — all elements of all lists of all databases of `s`; `delivered out` — the elements handed to clients by
  the `[key, element]` replies among `out`; permutation `~` of lists = equality of multisets (`List.Perm.count_eq`);
* `NoTTL s` — no stored entry has an expiry time (an invariant of every history without EXPIRE-type commands; with
  TTLs, elements of expired lists vanish at the lazy deletions, so no conservation law holds across time).
-/
namespace FR.Props.C11s
open FR FR.M FR.Conserve

/-! ## 2. No lost wake-up: an invariant over ALL histories (all events, all commands) -/

/-- The invariant is inductive: it holds initially and every event — any command of any connection through the parser or
directly, EXEC, scripts, wake-ups, time-outs (both front-ends), open / close / gc — preserves it. -/
theorem inv_inductive : Conserve.Inv {} ∧ ∀ s e, Conserve.Inv s → Conserve.Inv (stepEv s e) := ⟨inv_init, inv_stepEv⟩

/-- **No lost wake-up.**  In every reachable state, for every parked connection record `p` (sync or asyncio front-end):
if one of the keys it can be served from stores a list in database `p.db`, then `p.woken = true` — the connection has
been notified and re-checks at its next wake-up. -/
theorem no_lost_wakeup (evs : List Ev) :
    ∀ x ∈ (runHistory evs).srv.conns, ∀ p, x.parked = some p →
      ∀ k ∈ serveKeys p, ListAt ((runHistory evs).srv.dbs.getD p.db []) k → p.woken = true := by
  intro x hx p hp k hk hl
  cases hw : p.woken with
  | true => rfl
  | false => exact absurd hl ((inv_runHistory evs).2 x hx p hp hw k hk)

/-- the same for live lists (`HoldsList`: the key holds an unexpired list), addressed by connection number -/
theorem no_lost_wakeup_live (evs : List Ev) (c : Nat) (p : Parked)
    (hp : ((runHistory evs).conn c).parked = some p) (k : Bytes) (hk : k ∈ serveKeys p)
    (hl : HoldsList ((runHistory evs).dbAt p.db) k) : p.woken = true := by
  obtain ⟨it, l, hlive, hv⟩ := hl
  rcases (runHistory evs).conn_mem_or_default c with hm | he
  · exact no_lost_wakeup evs _ hm p hp k hk ⟨it, l, live_some_mem hlive, hv⟩
  · rw [he] at hp; cases hp

/-- in a reachable state the stored lists are never empty, so "holds a list" is "holds a non-empty list" -/
theorem stored_lists_nonempty (evs : List Ev) (i : Nat) (k : Bytes) (it : Item) (l : List Bytes)
    (h : (k, it) ∈ ((runHistory evs).dbAt i).dict) (hv : it.value = .list l) : l ≠ [] := by
  have := ((inv_runHistory evs).1.dbAt i).2 _ h
  intro e; subst e
  simp [hv, Value.isEmptyColl] at this

/-- for BLPOP / BRPOP the serving keys are all the keys of the command -/
theorem serveKeys_bpop (p : Parked) (h : p.kind ≠ "brpoplpush") : serveKeys p = p.keys := by
  unfold serveKeys
  split
  · rename_i h1 _; exact absurd h1 h
  · rfl

theorem listAt_of_elemsAt {d : Dict} {k : Bytes} (h : elemsAt d k ≠ []) : ListAt d k := by
  unfold elemsAt at h
  cases hl : d.lookup k with
  | none => rw [hl] at h; exact absurd rfl h
  | some it =>
    rw [hl] at h
    cases hv : it.value with
    | list l => exact ⟨it, l, Db.lookup_some_mem hl, hv⟩
    | _ => simp [hv, elemsOf] at h

/-! ### the statement with *all* keys of the command is false for BRPOPLPUSH

`BRPOPLPUSH src dst` is served from `src` only; a non-empty destination does not (and must not) wake it.
Witness: connection 2 pushes to `d`, connection 1 blocks in `BRPOPLPUSH k d 0`: it is parked un-flagged although the
key `d` of its key list holds a non-empty list. -/

def histR : List Ev :=
  [.open 1, .open 2,
   .request { park := true } 2 [strBytes "RPUSH", [100], [97]] [5] [],
   .request { park := true } 1 [strBytes "BRPOPLPUSH", [107], [100], [48]] [10] []]

theorem no_lost_wakeup_all_keys_false :
    ¬ ∀ (evs : List Ev), ∀ x ∈ (runHistory evs).srv.conns, ∀ p, x.parked = some p →
      ∀ k ∈ p.keys, ListAt ((runHistory evs).srv.dbs.getD p.db []) k → p.woken = true := by
  intro h
  have hd : (runHistory histR).srv.conns.any (fun x => (x.parked.map (·.keys)) == some [[107], [100]]
      && (x.parked.map (·.woken)) == some false && (x.parked.map (·.db)) == some 0) = true ∧
      elemsAt ((runHistory histR).srv.dbs.getD 0 []) [100] ≠ [] := by
    decide +kernel
  obtain ⟨x, hx, hprop⟩ := List.any_eq_true.1 hd.1
  simp only [Bool.and_eq_true, beq_iff_eq] at hprop
  obtain ⟨⟨hkeys, hw⟩, hdb⟩ := hprop
  cases hpk : x.parked with
  | none => rw [hpk] at hkeys; cases hkeys
  | some p =>
    rw [hpk] at hkeys hw hdb
    simp only [Option.map_some, Option.some.injEq] at hkeys hw hdb
    have hl : ListAt ((runHistory histR).srv.dbs.getD p.db []) [100] := by
      rw [hdb]
      exact listAt_of_elemsAt hd.2
    have := h histR x hx p hpk [100] (by rw [hkeys]; simp) hl
    rw [hw] at this; cases this

/-! ## 1. Conservation -/

/-- **One pass of BLPOP / BRPOP** over a database without TTLs.  Served: the reply is `[k, x]` with `k` one of the keys
and the stored elements afterwards, plus `x`, are exactly the stored elements before (as multisets).  Not served
(nothing found, or WRONGTYPE on the first pass): the state is unchanged. -/
theorem bpop_pass_conserves (d : Nat) (left first : Bool) (keys : List Bytes) (s : Sys)
    (hd : s.DataInv) (ht : NoTTL s) :
    (∀ r, (bpopPass d left first keys s).1 = .ok (some r) →
      ∃ k x, k ∈ keys ∧ r = .arr [.bulk k, .bulk x] ∧
        (stored (bpopPass d left first keys s).2 ++ [x]).Perm (stored s)) ∧
    ((∀ r, (bpopPass d left first keys s).1 ≠ .ok (some r)) → (bpopPass d left first keys s).2 = s) :=
  ⟨fun r h => let ⟨k, x, hk, hr, hs⟩ := (FR.C11c.bpopPass_ok 0 d left first keys s hd ht).1 r h; ⟨k, x, hk, hr, hs.perm⟩,
   (FR.C11c.bpopPass_ok 0 d left first keys s hd ht).2⟩

/-- **Wake-up of a connection parked in BLPOP / BRPOP** (`.wake`): `stored s' + taken = stored s` with `taken` empty or
the one element `x`; what the client receives (`delivered`) is exactly `taken` — provided its socket is still open. -/
theorem wake_conserves (s : Sys) (c : Nat) (clocks : List Int) (p : Parked) (hd : s.DataInv) (ht : NoTTL s)
    (hp : (s.conn c).parked = some p) (hk : IsBpop p) :
    ∃ taken : List Bytes, taken.length ≤ 1 ∧
      (stored (stepEv s (.wake c clocks)) ++ taken).Perm (stored s) ∧
      delivered (stepEv s (.wake c clocks)).out = (if (s.conn c).closed then [] else taken) ∧
      (taken = [] → (stepEv s (.wake c clocks)).srv.dbs = s.srv.dbs) := by
  obtain ⟨left, he⟩ := parkedPass_bpop c p hk
  -- the event starts from `s0`: outputs reset, hints loaded
  generalize hs0 : s.beginEvent.withHints clocks [] = s0
  have hfr : FrEq s s0 := hs0 ▸ begin_frEq s clocks []
  have hout0 : s0.out = [] := by rw [← hs0]; rfl
  have hp0 : (s0.conn c).parked = some p := by rw [hfr.conn c]; exact hp
  have hd0 : s0.DataInv := hd.frame hfr.1
  have ht0 : NoTTL s0 := FR.C11c.noTTL_of_dbs ht hfr.1
  have hstep : stepEv s (.wake c clocks) = (wakeConn c s0).2 := by rw [← hs0]; rfl
  rw [hstep, wakeConn_eq, hp0]
  dsimp only
  rw [he]
  have hok := FR.C11c.bpopPass_ok c p.db left false p.keys s0 hd0 ht0
  generalize bpopPass p.db left false p.keys s0 = pr at hok
  obtain ⟨res, s1⟩ := pr
  dsimp only at hok ⊢
  -- the books of the pass: `taken` left the lists, nothing was emitted, the records are as before
  obtain ⟨taken, hlen, hs, hrep, hnil⟩ : ∃ taken : List Bytes, taken.length ≤ 1 ∧ FR.C11c.StepOk c taken [] s0 s1 ∧
      FR.C11c.takenOf res = taken ∧ (taken = [] → s1 = s0) := by
    rcases res with e | _ | r
    · obtain rfl := hok.2 nofun; exact ⟨[], by simp, .refl c hd0 ht0, rfl, fun _ => rfl⟩
    · obtain rfl := hok.2 nofun; exact ⟨[], by simp, .refl c hd0 ht0, rfl, fun _ => rfl⟩
    · obtain ⟨k, x, _, rfl, hs⟩ := hok.1 r rfl
      exact ⟨[x], by simp, hs, rfl, nofun⟩
  have hcl : (s1.conn c).closed = (s.conn c).closed := by
    have := hs.conn c
    simp only [FR.C11c.ckey, Prod.mk.injEq] at this
    rw [this.2.1, hfr.conn c]
  refine ⟨taken, hlen, ?_, ?_, fun h => ?_⟩
  · rw [stored_of_dbs (wakeState_dbs c p res s1), ← stored_of_dbs hfr.1]; exact hs.perm
  · rw [FR.C11c.delivered_wakeState c p res s1 ((hs.hasc c).2 (Sys.hasConn_of_parked hp0)) (hs.out.trans hout0),
      hrep, hcl]
  · rw [wakeState_dbs, hnil h]; exact hfr.1

/-- corollary, count-wise, for an open socket: every element is still stored or was delivered, exactly once -/
theorem wake_conserves_count (s : Sys) (c : Nat) (clocks : List Int) (p : Parked) (hd : s.DataInv) (ht : NoTTL s)
    (hp : (s.conn c).parked = some p) (hk : IsBpop p) (hopen : (s.conn c).closed = false) (x : Bytes) :
    (stored (stepEv s (.wake c clocks))).count x + (delivered (stepEv s (.wake c clocks)).out).count x
      = (stored s).count x := by
  obtain ⟨taken, _, hperm, hdel, _⟩ := wake_conserves s c clocks p hd ht hp hk
  rw [hdel, hopen]
  simp only [Bool.false_eq_true, if_false]
  rw [← List.count_append]
  exact hperm.count_eq x

/-- a time-out, and opening / closing / collecting a connection, take nothing and deliver nothing -/
theorem timeout_open_close_conserve (s : Sys) (c : Nat) :
    ((stepEv s (.timeout c)).srv.dbs = s.srv.dbs ∧ delivered (stepEv s (.timeout c)).out = []) ∧
    ((stepEv s (.open c)).srv.dbs = s.srv.dbs ∧ delivered (stepEv s (.open c)).out = []) ∧
    ((stepEv s (.close c)).srv.dbs = s.srv.dbs ∧ delivered (stepEv s (.close c)).out = []) ∧
    ((stepEv s (.gc c)).srv.dbs = s.srv.dbs ∧ delivered (stepEv s (.gc c)).out = []) :=
  ⟨timeout_conserve s c, (open_close_conserve s c).1, (open_close_conserve s c).2.1, (open_close_conserve s c).2.2⟩

/-! ### "delivered exactly once" is false in the presence of `close` events

A connection parked in BLPOP whose socket is closed stays parked; when it is woken the pass takes the element out of
the list and the reply is dropped (`emit` does nothing for a closed socket): the element is neither stored nor
delivered.  Witness (replayable on the Python code: `close()` the socket of a client blocked in BLPOP from another
thread, push to the key): -/

def histC : List Ev :=
  [.open 1, .open 2,
   .request { park := true } 1 [strBytes "BLPOP", [107], [48]] [10] [],
   .close 1,
   .request { park := true } 2 [strBytes "RPUSH", [107], [97]] [30] [],
   .wake 1 []]

theorem delivered_or_stored_false_with_close :
    stored (runHistory (histC.take 5)) = [[97]] ∧ stored (runHistory histC) = [] ∧
    delivered (runHistory histC).out = [] ∧ (runHistory histC).out = [] := by
  decide +kernel

/-! ## 3. A wake-up serves the first non-empty key; a time-out answers nil -/

/-- **Served in key order from the head / tail.**  `k` is the first key of the parked BLPOP / BRPOP that holds a live
list `l` (no earlier key does): the `.wake` un-parks the connection and its only output is the reply `[k, x]` to `c`,
`x` the head of `l` for BLPOP and its last element for BRPOP. -/
theorem wake_serves_first_nonempty_key (s : Sys) (c : Nat) (clocks : List Int) (p : Parked) (pre post : List Bytes)
    (k : Bytes) (it : Item) (l : List Bytes) (hd : s.DataInv)
    (hp : (s.conn c).parked = some p) (hb : IsBpop p) (hkeys : p.keys = pre ++ k :: post)
    (hpre : ∀ k' ∈ pre, ¬ HoldsList (s.dbAt p.db) k')
    (hk : (s.dbAt p.db).live k = some it) (hv : it.value = .list l) (hopen : (s.conn c).closed = false) :
    ((stepEv s (.wake c clocks)).conn c).parked = none ∧
    ∃ x, (stepEv s (.wake c clocks)).out = [(c, .arr [.bulk k, .bulk x])] ∧
      (if p.kind = "blpop" then l.head? = some x else l.getLast? = some x) :=
  wake_serves_first_key s c clocks p pre post k it l hd hp hb hkeys hpre hk hv hopen

/-- in a reachable state the hypothesis `DataInv` is free, and by `no_lost_wakeup_live` the connection is flagged -/
theorem wake_serves_reachable (evs : List Ev) (c : Nat) (clocks : List Int) (p : Parked) (pre post : List Bytes)
    (k : Bytes) (it : Item) (l : List Bytes)
    (hp : ((runHistory evs).conn c).parked = some p) (hb : IsBpop p) (hkeys : p.keys = pre ++ k :: post)
    (hpre : ∀ k' ∈ pre, ¬ HoldsList ((runHistory evs).dbAt p.db) k')
    (hk : ((runHistory evs).dbAt p.db).live k = some it) (hv : it.value = .list l)
    (hopen : ((runHistory evs).conn c).closed = false) :
    p.woken = true ∧
    ((stepEv (runHistory evs) (.wake c clocks)).conn c).parked = none ∧
    ∃ x, (stepEv (runHistory evs) (.wake c clocks)).out = [(c, .arr [.bulk k, .bulk x])] ∧
      (if p.kind = "blpop" then l.head? = some x else l.getLast? = some x) := by
  refine ⟨?_, wake_serves_first_key _ c clocks p pre post k it l (inv_runHistory evs).1 hp hb hkeys hpre hk hv hopen⟩
  have hbk : serveKeys p = p.keys := by
    unfold serveKeys
    split
    · rename_i h1 h2; exact absurd ⟨h1, _, _, h2⟩ hb
    · rfl
  exact no_lost_wakeup_live evs c p hp k (by rw [hbk, hkeys]; simp) ⟨it, l, hk, hv⟩

/-- **A time-out answers nil and un-parks**; it takes nothing (`timeout_open_close_conserve`). -/
theorem timeout_answers_nil (s : Sys) (c : Nat) (p : Parked) (hp : (s.conn c).parked = some p) :
    ((stepEv s (.timeout c)).conn c).parked = none ∧
    (stepEv s (.timeout c)).out = (if (s.conn c).closed then [] else [(c, .nil)]) := by
  have hstep : stepEv s (.timeout c) = (timeoutConn c s.beginEvent).2 := rfl
  have hp0 : (s.beginEvent.conn c).parked = some p := hp
  rw [hstep]
  obtain ⟨h1, h2, _, _⟩ := FR.Props.C11.timeoutConn_spec c p s.beginEvent hp0
  exact ⟨h1, h2⟩

/-! ### side finding: WRONGTYPE on a *later* pass (BRPOPLPUSH destination)

C11 says "a wrong-type key is an error on the initial attempt only".  For the keys BLPOP / BRPOP look at, and for the
source of BRPOPLPUSH, that is `bpopPass_wrongtype_only_first_pass` (C11).  For the *destination* of BRPOPLPUSH it is
false: `_brpoplpush_pass` raises WRONGTYPE for a non-list destination whatever `first_pass` is.  Witness: 1 blocks in
`BRPOPLPUSH k d 0`; 2 does `SET d x`, `RPUSH k a`; the wake-up of 1 answers the WRONGTYPE error (and un-parks; the
element stays in `k`). -/

def histW : List Ev :=
  [.open 1, .open 2,
   .request { park := true } 1 [strBytes "BRPOPLPUSH", [107], [100], [48]] [10] [],
   .request { park := true } 2 [strBytes "SET", [100], [120]] [20] [],
   .request { park := true } 2 [strBytes "RPUSH", [107], [97]] [30] [],
   .wake 1 []]

theorem wrongtype_on_later_pass_brpoplpush_dst :
    (runHistory (histW.take 3)).srv.conns.map (fun x => (x.id, x.parked.isSome)) = [(1, true), (2, false)] ∧
    (runHistory histW).out.map (fun p => (p.1, match p.2 with | .err m => some m | _ => none))
      = [(1, some (strBytes Msgs.WRONGTYPE_MSG))] ∧
    stored (runHistory histW) = [[97]] ∧
    (runHistory histW).srv.conns.map (fun x => (x.id, x.parked.isSome)) = [(1, false), (2, false)] := by
  decide +kernel

/-! ## non-vacuity: two consumers and a producer -/

def pk : Mode := { park := true }

/-- consumers 1 and 2 block in `BLPOP k 0`; producer 3 pushes `a`; 1 is woken and served; 3 pushes `b`; 2 is woken -/
def hist : List Ev :=
  [.open 1, .open 2, .open 3,
   .request pk 1 [strBytes "BLPOP", [107], [48]] [10] [],
   .request pk 2 [strBytes "BLPOP", [107], [48]] [20] [],
   .request pk 3 [strBytes "RPUSH", [107], [97]] [30] [],
   .wake 1 [],
   .request pk 3 [strBytes "RPUSH", [107], [98]] [40] [],
   .wake 2 []]

/-- both consumers park un-flagged; the push flags both (the hypothesis of `no_lost_wakeup` is met: `k` stores `[a]`) -/
example : (runHistory (hist.take 5)).srv.conns.map (fun x => (x.id, x.parked.map (·.woken)))
      = [(1, some false), (2, some false), (3, none)] ∧
    (runHistory (hist.take 6)).srv.conns.map (fun x => (x.id, x.parked.map (·.woken)))
      = [(1, some true), (2, some true), (3, none)] ∧
    stored (runHistory (hist.take 6)) = [[97]] := by decide +kernel

/-- consumer 1 receives `a` (exactly once: consumer 2, woken later, receives `b`), nothing is left, nobody is parked -/
example : (runHistory (hist.take 7)).out.map (fun p => (p.1, popElem p.2)) = [(1, [[97]])] ∧
    delivered (runHistory (hist.take 7)).out = [[97]] ∧
    stored (runHistory (hist.take 7)) = [] ∧
    (runHistory hist).out.map (fun p => (p.1, popElem p.2)) = [(2, [[98]])] ∧
    delivered (runHistory hist).out = [[98]] ∧
    stored (runHistory hist) = [] ∧
    (runHistory hist).srv.conns.map (fun x => (x.id, x.parked.isSome)) = [(1, false), (2, false), (3, false)] := by
  decide +kernel

/-- the hypotheses of `wake_conserves` / `wake_serves_first_nonempty_key` hold in the state before `.wake 1` -/
example : NoTTL (runHistory (hist.take 6)) ∧
    ((runHistory (hist.take 6)).conn 1).parked.map (fun p => (p.kind, p.keys, p.db)) = some ("blpop", [[107]], 0) ∧
    (((runHistory (hist.take 6)).dbAt 0).live [107]).map (fun it => (elemsOf it.value, it.expireat)) = some ([[97]], none) ∧
    ((runHistory (hist.take 6)).conn 1).closed = false := by
  have hk : (runHistory (hist.take 6)).srv.dbs.all (fun d => d.all (fun q => q.2.expireat == none)) = true ∧
      ((runHistory (hist.take 6)).conn 1).parked.map (fun p => (p.kind, p.keys, p.db)) = some ("blpop", [[107]], 0) ∧
      (((runHistory (hist.take 6)).dbAt 0).live [107]).map (fun it => (elemsOf it.value, it.expireat)) =
        some ([[97]], none) ∧
      ((runHistory (hist.take 6)).conn 1).closed = false := by decide +kernel
  refine ⟨?_, hk.2⟩
  intro d hd q hq
  have := List.all_eq_true.1 (List.all_eq_true.1 hk.1 d hd) q hq
  simpa using this

/-- a time-out: consumer 1 blocks with a deadline and is timed out: nil, un-parked -/
example : (runHistory [.open 1, .request pk 1 [strBytes "BLPOP", [107], [49]] [10, 11, 12] [], .timeout 1]).out.map
      (fun p => (p.1, match p.2 with | .nil => true | _ => false)) = [(1, true)] ∧
    (runHistory [.open 1, .request pk 1 [strBytes "BLPOP", [107], [49]] [10, 11, 12] [], .timeout 1]).srv.conns.map
      (fun x => x.parked.isSome) = [false] := by decide +kernel

end FR.Props.C11s

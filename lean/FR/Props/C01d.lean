import FR.Proofs.DumpRound
import FR.Props.C01k
import FR.Proofs.ZStore
import FR.Proofs.ScanSys
/-!
# C01, DUMP / RESTORE for all five types: "a DUMP payload is opaque, but RESTORE of it yields an independent
copy of the dumped value with the requested TTL"

`FR.Props.C01k` has the string case.  This file states the round trip of the model's payload codec
(`Cmd.dumpValue` / `Cmd.loadValue`) for lists, sets, hashes and sorted sets (proved in `FR/Proofs/DumpRound.lean`),
lifts it to `DUMP` and `RESTORE` run by `runRegular` with the signatures of `SigTable`, and states the independent-copy property for every
collection type (a later RPUSH / SADD / HSET / ZADD on the copy leaves the original alone).

Vocabulary (defined in `FR/Proofs/DumpRound.lean`):
* `restoredValue v` — what the decoder makes of the payload of `v`: `v` itself for strings, lists, hashes; the
  members in ascending byte order for a set; `restoredZ z` for a sorted set (same `byscore` index, `bylex`
  re-created in `byscore` order).
* `Same v' v` — equal up to what the codec normalises (see `same_def`).
* `ZWF v` — for a sorted set: the two-index invariant `ZSet.Inv` (C03) and `ScoresCanon` (every score is a
  canonical `Dbl`, `Canon`); nothing for the other types.
* `Canon d` — `d` is the canonical representation of a binary64 value; exactly the doubles with
  `Dbl.ofBits (Dbl.toBits d) = d` (`canon_iff`).
* `deadline time ttl` — `none` for ttl 0, else `time + ttl` milliseconds.

Negative results (the literal statement "`loadValue (dumpValue v) = some v`" is false of the model):
`set_not_exact`, `zset_not_exact` (member order / `bylex` order is normalised), `noncanonical_score_not_kept`
(a non-canonical `Dbl` changes its value), `nonimage_payload_accepted` (the decoder accepts bodies the encoder
never emits).
-/
namespace FR.Props.C01d
open FR FR.StrKeys FR.DumpRound

/-! ## 1. The codec -/

/-- Round trip, all five types at once: the payload of a value decodes to `restoredValue v`, which is the same
value up to what the codec normalises.  The only hypothesis concerns sorted sets (`ZWF`). -/
theorem roundtrip (v : Value) (h : ZWF v) :
    Cmd.loadValue (Cmd.dumpValue v) = some (restoredValue v) ∧ Same (restoredValue v) v ∧
    (restoredValue v).ty = v.ty ∧ (restoredValue v).isEmptyColl = v.isEmptyColl :=
  ⟨loadValue_dumpValue v h, restoredValue_same v h, restoredValue_ty v, restoredValue_isEmptyColl v h⟩

/-- what `Same` says, type by type -/
theorem same_def :
    (∀ a b : Bytes, Same (.str a) (.str b) ↔ a = b) ∧
    (∀ a b : List Bytes, Same (.list a) (.list b) ↔ a = b) ∧
    (∀ a b : List (Bytes × Bytes), Same (.hash a) (.hash b) ↔ a = b) ∧
    (∀ a b : List Bytes, Same (.set a) (.set b) ↔ a.Perm b) ∧
    (∀ a b : ZSet, Same (.zset a) (.zset b) ↔
      (a.byscore = b.byscore ∧ (∀ m, a.get m = b.get m) ∧ a.bylex.Perm b.bylex ∧ a.Inv)) :=
  ⟨fun _ _ => Iff.rfl, fun _ _ => Iff.rfl, fun _ _ => Iff.rfl, fun _ _ => Iff.rfl, fun _ _ => Iff.rfl⟩

/-- the same through the header check of RESTORE (`decodePayload`) -/
theorem decode_of_dump (v : Value) (h : ZWF v) :
    decodePayload (Cmd.dumpMagic ++ Cmd.dumpValue v) = some (restoredValue v) := by
  rw [decodePayload_dump, loadValue_dumpValue v h]

/-- Lists: exact, element order included; arbitrary bytes (empty elements, `,` `=` `_` inside elements) -/
theorem roundtrip_list (l : List Bytes) : Cmd.loadValue (Cmd.dumpValue (.list l)) = some (.list l) :=
  loadValue_dumpValue_list l

/-- Hashes: exact, field order included; arbitrary field and value bytes -/
theorem roundtrip_hash (h : List (Bytes × Bytes)) : Cmd.loadValue (Cmd.dumpValue (.hash h)) = some (.hash h) :=
  loadValue_dumpValue_hash h

/-- strings (from C01k) -/
theorem roundtrip_str (b : Bytes) : Cmd.loadValue (Cmd.dumpValue (.str b)) = some (.str b) :=
  loadValue_dumpValue_str b

/-- non-vacuity: elements that are empty or look like the separators, the empty list, `[""]` vs `[]` -/
example :
    Cmd.dumpValue (.list [[], [44], [61, 95], [95]]) = strBytes "L_,2c,3d5f,5f" ∧
    Cmd.dumpValue (.list [[]]) = strBytes "L_" ∧ Cmd.dumpValue (.list []) = strBytes "L" ∧
    Cmd.dumpValue (.hash [([], [44]), ([61], [])]) = strBytes "H_=2c,3d=_" := by
  decide +kernel

/-- Sets: the decoded set has the same members, no duplicates if there were none, the same cardinality, and is
in ascending byte order — whatever the stored order was -/
theorem roundtrip_set (s : List Bytes) :
    ∃ s', Cmd.loadValue (Cmd.dumpValue (.set s)) = some (.set s') ∧
      (∀ x, x ∈ s' ↔ x ∈ s) ∧ (s.Nodup → s'.Nodup) ∧ s'.length = s.length ∧ s'.Perm s ∧
      s'.Pairwise (fun a b => bytesLt b a = false) ∧
      (s.Nodup → s'.Pairwise (fun a b => bytesLt a b = true)) :=
  ⟨sortBy bytesLt s, loadValue_dumpValue_set s, fun _ => ScanSys.mem_sortBy bytesLt,
    ScanSys.nodup_sortBy bytesLt, ScanSys.length_sortBy bytesLt s, ScanSys.sortBy_perm bytesLt s,
    ScanSys.sortBy_sorted bytesLt (fun _ _ h => bytesLt_asymm h) (fun _ _ _ h1 h2 => bytesLt_trans h1 h2) s,
    ScanSys.sortBy_bytes_strict⟩

/-- Negative: for sets the literal round trip `= some v` is false (insertion order is not kept).
Witness: the set stored as `[b, a]` (SADD k b; SADD k a) comes back as `[a, b]`. -/
theorem set_not_exact :
    ∃ s : List Bytes, s.Nodup ∧ Cmd.loadValue (Cmd.dumpValue (.set s)) ≠ some (.set s) := by
  refine ⟨[[98], [97]], by decide, ?_⟩
  rw [loadValue_dumpValue_set]
  intro h
  have h' : sortBy bytesLt [[98], [97]] = [[98], [97]] := by
    injection h with h; injection h
  exact absurd h' (by decide)

/-- Sorted sets, unconditionally: the decoder rebuilds the sorted set by inserting the `byscore` entries in
order, every score sent through its 64-bit image -/
theorem roundtrip_zset_raw (z : ZSet) :
    Cmd.loadValue (Cmd.dumpValue (.zset z)) =
      some (.zset (rebuild (z.byscore.map fun p => (p.2, Dbl.ofBits (Dbl.toBits p.1))))) :=
  loadValue_dumpValue_zset_raw z

/-- Sorted sets with the two-index invariant and canonical scores: the copy has exactly the same `byscore`
index (scores bit for bit: ±inf, −0.0, subnormals included), the same member → score map, a `bylex` index with
the same pairs (in `byscore` order), and satisfies the invariant again -/
theorem roundtrip_zset (z : ZSet) (hz : z.Inv) (hc : ScoresCanon z) :
    ∃ z', Cmd.loadValue (Cmd.dumpValue (.zset z)) = some (.zset z') ∧
      z'.byscore = z.byscore ∧ z'.bylex = z.byscore.map (fun p => (p.2, p.1)) ∧
      (∀ m, z'.get m = z.get m) ∧ z'.bylex.Perm z.bylex ∧ z'.len = z.len ∧ z'.Inv ∧ ScoresCanon z' :=
  ⟨restoredZ z, loadValue_dumpValue_zset hz hc, rfl, rfl, restoredZ_get hz, restoredZ_bylex_perm hz,
    (restoredZ_bylex_perm hz).length_eq, restoredZ_inv hz, hc⟩

/-- the hypothesis on the scores is exact: `Canon d` holds iff `d` survives the 64-bit image -/
theorem canon_iff (d : Dbl) : Canon d ↔ Dbl.ofBits (Dbl.toBits d) = d := DumpRound.canon_iff d

/-- what `Canon` says -/
theorem canon_def :
    Canon .nan ∧ (∀ b, Canon (.inf b)) ∧
    (∀ neg m e, Canon (.fin neg m e) ↔
      ((m < 2^52 ∧ e = -1074) ∨ (2^52 ≤ m ∧ m < 2^53 ∧ -1074 ≤ e ∧ e ≤ 971))) :=
  ⟨trivial, fun _ => trivial, fun _ _ _ => Iff.rfl⟩

/-- everything the decoder itself produces is canonical (so a restored copy can be dumped again) -/
theorem canon_ofBits (b : UInt64) : Canon (Dbl.ofBits b) := DumpRound.canon_ofBits b

/-- non-vacuity: −inf, +inf, −0.0, +0.0, the smallest and the largest subnormal, the smallest normal, 1.0, the
largest double are canonical, and their images are the IEEE bit patterns -/
example :
    Canon (.inf true) ∧ Canon (.inf false) ∧ Canon (.fin true 0 (-1074)) ∧ Canon Dbl.zero ∧
    Canon (.fin false 1 (-1074)) ∧ Canon (.fin false (2^52 - 1) (-1074)) ∧ Canon (.fin false (2^52) (-1074)) ∧
    Canon Dbl.one ∧ Canon (.fin false (2^53 - 1) 971) ∧
    Dbl.toBits (.inf true) = 0xFFF0000000000000 ∧ Dbl.toBits (.fin true 0 (-1074)) = 0x8000000000000000 ∧
    Dbl.toBits (.fin false 1 (-1074)) = 1 ∧ Dbl.toBits Dbl.one = 0x3FF0000000000000 ∧
    Dbl.toBits (.fin false (2^53 - 1) 971) = 0x7FEFFFFFFFFFFFFF := by
  decide +kernel

/-- the sorted set of the examples: members e, a, d, b, c added in this order with the scores
+inf, −inf, 1.0, −0.0, 2^−1074 -/
def exZ : ZSet :=
  rebuild [([101], .inf false), ([97], .inf true), ([100], Dbl.one), ([98], .fin true 0 (-1074)),
    ([99], .fin false 1 (-1074))]

theorem exZ_wf : ZWF (.zset exZ) :=
  ⟨rebuild_inv _ (by decide), by unfold ScoresCanon; decide +kernel⟩

/-- non-vacuity of `roundtrip_zset`, and the two indexes of the example before and after the round trip -/
example :
    exZ.bylex.map Prod.fst = [[101], [97], [100], [98], [99]] ∧
    exZ.byscore.map Prod.snd = [[97], [98], [99], [100], [101]] ∧
    (restoredZ exZ).bylex.map Prod.fst = [[97], [98], [99], [100], [101]] ∧
    Cmd.dumpValue (.zset exZ) =
      strBytes "Z61=18442240474082181120,62=9223372036854775808,63=1,64=4607182418800017408,65=9218868437227405312" := by
  decide +kernel

/-- Negative: for sorted sets the literal round trip `= some v` is false: the `bylex` index (a Python dict in
insertion order) comes back in `byscore` order.  Witness: ZADD k 2 b; ZADD k 1 a.  (No command reply of the model
depends on the order of `bylex` alone — ZSCAN sorts it — so this is a difference of representation.) -/
theorem zset_not_exact :
    ∃ z : ZSet, z.Inv ∧ ScoresCanon z ∧ Cmd.loadValue (Cmd.dumpValue (.zset z)) ≠ some (.zset z) := by
  have hc : ScoresCanon (rebuild [([98], Dbl.ofInt 2), ([97], Dbl.ofInt 1)]) := by unfold ScoresCanon; decide +kernel
  refine ⟨rebuild [([98], Dbl.ofInt 2), ([97], Dbl.ofInt 1)], rebuild_inv _ (by decide), hc, ?_⟩
  rw [loadValue_dumpValue_zset (rebuild_inv _ (by decide)) hc]
  intro h
  have h' : restoredZ (rebuild [([98], Dbl.ofInt 2), ([97], Dbl.ofInt 1)]) =
      rebuild [([98], Dbl.ofInt 2), ([97], Dbl.ofInt 1)] := by
    injection h with h; injection h
  have h'' := congrArg (fun z => z.bylex.map Prod.fst) h'
  exact absurd h'' (by decide +kernel)

/-- Negative: a non-canonical `Dbl` does not survive: `.fin false 1 0` (the value 1.0 written with an
unnormalised mantissa) is encoded as the bit pattern 1 and comes back as 2^−1074, a different value.
`Canon` is therefore a necessary hypothesis of `roundtrip_zset` in the model; `scores_are_canonical` and the three
theorems after it show that the commands never store such a `Dbl`. -/
theorem noncanonical_score_not_kept :
    ¬ Canon (.fin false 1 0) ∧ Dbl.eq (.fin false 1 0) Dbl.one = true ∧
    Dbl.ofBits (Dbl.toBits (.fin false 1 0)) = .fin false 1 (-1074) ∧
    Dbl.eq (Dbl.ofBits (Dbl.toBits (.fin false 1 0))) (.fin false 1 0) = false := by
  decide +kernel

/-- Where canonical scores come from: every double the model computes is canonical — the rounding function
`Dbl.roundPos` (positive denominator), hence `+`, `*`, `int → float`, decimal literals, `0.0 + x`, and whatever a
`Float` converter (`Conv.float`, used for every score argument) accepts; `max`/`min` return one of their operands -/
theorem scores_are_canonical :
    (∀ neg num den, 0 < den → Canon (Dbl.roundPos neg num den)) ∧
    (∀ a b, Canon (Dbl.add a b)) ∧ (∀ a b, Canon (Dbl.mul a b)) ∧ (∀ n, Canon (Dbl.ofInt n)) ∧
    (∀ neg digits exp10, Canon (Dbl.ofDecimal neg digits exp10)) ∧ (∀ d : Dbl, Canon d.plusZero) ∧
    (∀ a b, Canon a → Canon b → Canon (Dbl.pyMax a b) ∧ Canon (Dbl.pyMin a b)) ∧
    (∀ x r, Conv.float x = .ok r → Canon r) :=
  ⟨roundPos_canon, add_canon, mul_canon, ofInt_canon, ofDecimal_canon, plusZero_canon,
    fun _ _ ha hb => ⟨pyMax_canon ha hb, pyMin_canon ha hb⟩, fun _ _ h => float_canon h⟩

example : (Conv.float (strBytes "1e-320")).isOk = true ∧ (Conv.float (strBytes "-0")).isOk = true ∧
    (Conv.float (strBytes "-inf")).isOk = true := by decide +kernel

/-- ZADD (all option combinations, INCR included) stores canonical scores only, whatever its arguments -/
theorem zadd_keeps_canonical (ctx : Ctx) (args : List Arg) (cis : List CI) (out : BodyOut)
    (hc : CIsCanon cis) (h : Cmd.zadd ctx args cis = .ok out) : CIsCanon out.cis :=
  Cmd.zadd_all canonKeeps hc h

/-- ZINCRBY stores canonical scores only (its increment argument comes out of a `Float` converter) -/
theorem zincrby_keeps_canonical (ctx : Ctx) (args : List Arg) (cis : List CI) (out : BodyOut)
    (hc : CIsCanon cis) (ha : ∀ d, Arg.flt d ∈ args → Canon d) (h : Cmd.zincrby ctx args cis = .ok out) :
    CIsCanon out.cis :=
  Cmd.zincrby_all canonKeeps hc (fun d hd _ => ha d hd) h

/-- `ZSet.add` / `ZSet.discard` (all the other sorted-set writers are built from them) keep canonical scores, and
whatever sorted set RESTORE decodes — from a forged payload as well — has canonical scores only -/
theorem zset_ops_keep_canonical :
    (∀ z m s, ScoresCanon z → Canon s → ScoresCanon (ZSet.add z m s).1) ∧
    (∀ z m, ScoresCanon z → ScoresCanon (ZSet.discard z m)) ∧
    (∀ body z, Cmd.loadValue body = some (.zset z) → ScoresCanon z) :=
  ⟨fun _ m _ hz hs => scoresCanon_add hz m hs, fun _ m hz => scoresCanon_discard hz m,
    fun _ _ h => loadValue_zset_canon h⟩

example : CIsCanon [⟨[1], some (.zset exZ), none, false, false⟩] := by
  intro c hc z hz
  simp only [List.mem_singleton] at hc
  subst hc
  simp only [Option.some.injEq, Value.zset.injEq] at hz
  subst hz
  exact exZ_wf.2

/-- The payload is canonical: dumping the restored copy gives the very same payload as dumping the original,
and decoding is idempotent -/
theorem payload_canonical (v : Value) :
    Cmd.dumpValue (restoredValue v) = Cmd.dumpValue v ∧ restoredValue (restoredValue v) = restoredValue v :=
  ⟨dumpValue_restoredValue v, restoredValue_idem v⟩

/-- the copy is well formed again: `ZWF`, unique hash fields, duplicate-free sets -/
theorem copy_wf (v : Value) (h : ZWF v) (hw : HashSet.ValueWF v) :
    ZWF (restoredValue v) ∧ HashSet.ValueWF (restoredValue v) :=
  ⟨restoredValue_zwf v h, restoredValue_valueWF hw⟩

/-- where the hypotheses come from: `ZSet.Inv` of every stored sorted set is the database invariant `DbZInv` of
C03 (`FR.Props.C03.zset_inv_preserved`, `FR.Props.C03s.run_ok_preserves_zinv`); unique hash fields and
duplicate-free sets are `FR.Props.C02h.invariants_preserved`; `DbCanon` says that the stored scores are canonical -/
theorem hypotheses_of_db (db : Db) (hz : ZStore.DbZInv db) (hc : DbCanon db) (k : Bytes) (it : Item)
    (h : db.live k = some it) : ZWF it.value := by
  have hm := (StrKeys.live_mem h).1
  cases hv : it.value with
  | zset z => exact ⟨hz _ hm z hv, hc _ hm z hv⟩
  | _ => trivial

/-! ## 2. RESTORE of a DUMP payload through the real runner -/

/-- the database of the examples: a list, a set, a hash, a sorted set, with and without deadlines; the clock
stands at 50; key `[9]` is free -/
def exDb : Db :=
  ⟨[([1], ⟨.list [[], [44], [61, 95]], some 70⟩), ([2], ⟨.set [[3], [1], [2]], none⟩),
    ([3], ⟨.hash [([], [44]), ([61], [])], none⟩), ([4], ⟨.zset exZ, some 90⟩)], 50⟩
def exCtx : Ctx := { version := 7, time := 50 }

theorem exDb_ok : NodupKeys exDb.dict ∧ NoEmpty exDb.dict ∧ exCtx.time = exDb.time ∧
    (exDb.live [9]).isSome = false ∧ Conv.int [53] = .ok 5 := by
  refine ⟨by decide, ?_, rfl, by decide +kernel, rfl⟩
  unfold NoEmpty; decide +kernel

/-- RESTORE k ttl payload [REPLACE …] where the payload is the DUMP of any stored value `v` (any of the five
types): BUSYKEY and no change iff `k` is live and no REPLACE is given; otherwise the reply is OK, `k` holds
`restoredValue v` (equal to `v` in the sense of `roundtrip`) with deadline `none` for ttl 0 and `now + ttl` ms
otherwise, and no other key changes. -/
theorem restore_of_dump (ctx : Ctx) (db : Db) (nd : NodupKeys db.dict) (ne : NoEmpty db.dict)
    (ht : ctx.time = db.time) (k ttlb : Bytes) (ttl : Int) (httl : Conv.int ttlb = .ok ttl) (h0 : 0 ≤ ttl)
    (v : Value) (hw : ZWF v) (hv : v.isEmptyColl = false)
    (opts : List Bytes) (hopts : ∀ a ∈ opts, casematch a "replace" = true) :
    let out := runRegular sigRestore Cmd.restore ctx none (k :: ttlb :: (Cmd.dumpMagic ++ Cmd.dumpValue v) :: opts) db
    (out.reply, out.db.live) =
      if (db.live k).isSome = true ∧ opts = [] then (.err (strBytes Msgs.RESTORE_KEY_EXISTS), db.live)
      else (.ok, upd db.live k (some ⟨restoredValue v, deadline db.time ttl⟩)) :=
  C01k.restore_of_decoded ctx db nd ne ht k httl h0 (decode_of_dump v hw) (by rw [restoredValue_isEmptyColl v hw, hv])
    opts hopts

/-- the copy of a stored value is not an empty collection -/
theorem restored_nonempty {db : Db} (ne : NoEmpty db.dict) {k0 : Bytes} {v : Value} {e0 : Option Int}
    (hlive : db.live k0 = some ⟨v, e0⟩) (hw : ZWF v) : (restoredValue v).isEmptyColl = false := by
  rw [restoredValue_isEmptyColl v hw]; exact (liveOK ne).nonempty k0 _ hlive

/-- `DUMP k₀` then `RESTORE k ttl payload [REPLACE …]` (`k` free, or a REPLACE given — `k = k₀` allowed then), for
every type: DUMP replies a payload and changes nothing; RESTORE replies OK; afterwards `k` holds a value that is
the same as the one at `k₀` (up to the codec's normalisation) with the requested deadline; every other key —
`k₀` included when `k ≠ k₀` — holds exactly what it held. -/
theorem dump_then_restore (ctx : Ctx) (db : Db) (nd : NodupKeys db.dict) (ne : NoEmpty db.dict)
    (ht : ctx.time = db.time) (k0 k ttlb : Bytes) (v : Value) (e0 : Option Int) (ttl : Int)
    (hlive : db.live k0 = some ⟨v, e0⟩) (hw : ZWF v)
    (httl : Conv.int ttlb = .ok ttl) (hpos : 0 ≤ ttl)
    (opts : List Bytes) (hopts : ∀ a ∈ opts, casematch a "replace" = true)
    (hfree : (db.live k).isSome = true → opts ≠ []) :
    let o1 := runRegular sigDump Cmd.dump ctx none [k0] db
    ∃ payload, o1.reply = .bulk payload ∧ o1.db.live = db.live ∧
      let o2 := runRegular sigRestore Cmd.restore ctx none (k :: ttlb :: payload :: opts) o1.db
      ∃ v', o2.reply = .ok ∧
        o2.db.live k = some ⟨v', deadline db.time ttl⟩ ∧ Same v' v ∧ v'.ty = v.ty ∧
        (∀ x, x ≠ k → o2.db.live x = db.live x) ∧
        (k ≠ k0 → o2.db.live k0 = some ⟨v, e0⟩) := by
  intro o1
  obtain ⟨payload, h1, h2⟩ := C01k.dump_then_restore_run ctx db nd ne ht k0 k hlive (decode_of_dump v hw)
    (restored_nonempty ne hlive hw) httl hpos opts hopts hfree
  have hl1 : o1.db.live = db.live := congrArg Prod.snd (C01k.dump_spec ctx db nd k0)
  refine ⟨payload, h1, hl1, ?_⟩
  intro o2
  obtain ⟨r2, l2, _, _, _⟩ := h2
  have l2' : o2.db.live = upd db.live k (some ⟨restoredValue v, deadline db.time ttl⟩) := l2
  refine ⟨restoredValue v, r2, by rw [l2', upd_self], restoredValue_same v hw, restoredValue_ty v, ?_, ?_⟩
  · intro x hx; rw [l2', upd_ne _ _ hx]
  · intro hne; rw [l2', upd_ne _ _ (fun e => hne e.symm), hlive]

/-- non-vacuity: the hypotheses hold for each of the four collection keys of `exDb`, free target key `[9]` -/
example :
    exDb.live [1] = some ⟨.list [[], [44], [61, 95]], some 70⟩ ∧
    exDb.live [2] = some ⟨.set [[3], [1], [2]], none⟩ ∧
    exDb.live [3] = some ⟨.hash [([], [44]), ([61], [])], none⟩ ∧
    exDb.live [4] = some ⟨.zset exZ, some 90⟩ ∧ ZWF (.zset exZ) ∧ ZWF (.set [[3], [1], [2]]) ∧
    casematch (strBytes "RePlAcE") "replace" = true :=
  ⟨rfl, rfl, rfl, rfl, exZ_wf, trivial, by decide +kernel⟩

/-- the representation invariants of C02 (unique hash fields, duplicate-free sets) hold again after the two
steps, and the copy of a sorted set satisfies `ZWF` again -/
theorem dump_then_restore_invariants (ctx : Ctx) (db : Db) (nd : NodupKeys db.dict) (ne : NoEmpty db.dict)
    (ht : ctx.time = db.time) (k0 k ttlb : Bytes) (v : Value) (e0 : Option Int) (ttl : Int)
    (hlive : db.live k0 = some ⟨v, e0⟩) (hw : ZWF v) (wf : HashSet.LiveWF db)
    (httl : Conv.int ttlb = .ok ttl) (hpos : 0 ≤ ttl)
    (opts : List Bytes) (hopts : ∀ a ∈ opts, casematch a "replace" = true)
    (hfree : (db.live k).isSome = true → opts ≠ []) :
    let o1 := runRegular sigDump Cmd.dump ctx none [k0] db
    ∃ payload, o1.reply = .bulk payload ∧
      let o2 := runRegular sigRestore Cmd.restore ctx none (k :: ttlb :: payload :: opts) o1.db
      NodupKeys o2.db.dict ∧ NoEmpty o2.db.dict ∧ o2.db.time = db.time ∧ HashSet.LiveWF o2.db ∧
      ∃ it, o2.db.live k = some it ∧ ZWF it.value := by
  intro o1
  obtain ⟨payload, h1, h2⟩ := C01k.dump_then_restore_run ctx db nd ne ht k0 k hlive (decode_of_dump v hw)
    (restored_nonempty ne hlive hw) httl hpos opts hopts hfree
  refine ⟨payload, h1, ?_⟩
  intro o2
  obtain ⟨_, l2, nd2, ne2, t2⟩ := h2
  have l2' : o2.db.live = upd db.live k (some ⟨restoredValue v, deadline db.time ttl⟩) := l2
  refine ⟨nd2, ne2, t2, liveWF_upd wf l2' (restoredValue_valueWF (wf k0 _ hlive)), _, by rw [l2', upd_self],
    restoredValue_zwf v hw⟩

/-- `DUMP k₀`, `RESTORE k ttl payload` into a free key `k ≠ k₀` (`C01k.copy_made` for the payload of a well-formed
value): the facts the three-step theorems start from -/
theorem copy_made (ctx : Ctx) (db : Db) (nd : NodupKeys db.dict) (ne : NoEmpty db.dict)
    (ht : ctx.time = db.time) (k0 k ttlb : Bytes) (v : Value) (e0 : Option Int) (ttl : Int)
    (hlive : db.live k0 = some ⟨v, e0⟩) (hw : ZWF v) (hk : db.live k = none) (hne : k ≠ k0)
    (httl : Conv.int ttlb = .ok ttl) (hpos : 0 ≤ ttl) :
    ∃ payload, (runRegular sigDump Cmd.dump ctx none [k0] db).reply = .bulk payload ∧
      let db1 := (runRegular sigDump Cmd.dump ctx none [k0] db).db
      let o2 := runRegular sigRestore Cmd.restore ctx none [k, ttlb, payload] db1
      o2.reply = .ok ∧
      o2.db.live k = some ⟨restoredValue v, deadline db.time ttl⟩ ∧
      o2.db.live k0 = some ⟨v, e0⟩ ∧
      NodupKeys o2.db.dict ∧ NoEmpty o2.db.dict :=
  C01k.copy_made ctx db nd ne ht k0 k hlive (decode_of_dump v hw) (restored_nonempty ne hlive hw) hk hne httl hpos

/-! ## 3. Independent copies: a later in-place command on the copy leaves the original alone -/

section copies
variable (ctx : Ctx) (db : Db) (nd : NodupKeys db.dict) (ne : NoEmpty db.dict) (ht : ctx.time = db.time)
  (k0 k ttlb : Bytes) (e0 : Option Int) (ttl : Int) (hk : db.live k = none) (hne : k ≠ k0)
  (httl : Conv.int ttlb = .ok ttl) (hpos : 0 ≤ ttl)
include nd ne ht hk hne httl hpos

/-- Lists: `DUMP k₀`, `RESTORE k ttl payload`, `RPUSH k x xs…`.  The copy got the list (same order) and the
requested deadline; RPUSH appended to the copy only and kept its deadline; `k₀` holds exactly what it held. -/
theorem independent_copy_list (l : List Bytes) (h0 : db.live k0 = some ⟨.list l, e0⟩) (x : Bytes) (xs : List Bytes) :
    let o1 := runRegular sigDump Cmd.dump ctx none [k0] db
    ∃ payload, o1.reply = .bulk payload ∧
      let o2 := runRegular sigRestore Cmd.restore ctx none [k, ttlb, payload] o1.db
      let o3 := HashSet.run "rpush" ctx (k :: x :: xs) o2.db
      o2.reply = .ok ∧
      o2.db.live k = some ⟨.list l, deadline db.time ttl⟩ ∧
      o2.db.live k0 = some ⟨.list l, e0⟩ ∧
      o3.reply = .int ((l ++ x :: xs).length : Nat) ∧
      o3.db.live k = some ⟨.list (l ++ x :: xs), deadline db.time ttl⟩ ∧
      o3.db.live k0 = some ⟨.list l, e0⟩ := by
  intro o1
  obtain ⟨payload, h1, h2⟩ := copy_made ctx db nd ne ht k0 k ttlb (.list l) e0 ttl h0 trivial hk hne httl hpos
  refine ⟨payload, h1, ?_⟩
  intro o2 o3
  obtain ⟨r2, hk2, hk02, nd2, ne2⟩ := h2
  obtain ⟨r3, l3⟩ := rpush_run ctx o2.db nd2 ne2 k l _ hk2 x xs
  obtain ⟨h3, h03⟩ := upd_frame l3 hne
  exact ⟨r2, hk2, hk02, r3, h3, h03.trans hk02⟩

/-- Sets: `DUMP k₀`, `RESTORE k ttl payload`, `SADD k m ms…`.  The copy got the members (ascending order); SADD
changed the copy only. -/
theorem independent_copy_set (s : List Bytes) (h0 : db.live k0 = some ⟨.set s, e0⟩) (m : Bytes) (ms : List Bytes) :
    let o1 := runRegular sigDump Cmd.dump ctx none [k0] db
    ∃ payload, o1.reply = .bulk payload ∧
      let o2 := runRegular sigRestore Cmd.restore ctx none [k, ttlb, payload] o1.db
      let o3 := HashSet.run "sadd" ctx (k :: m :: ms) o2.db
      o2.reply = .ok ∧
      o2.db.live k = some ⟨.set (sortBy bytesLt s), deadline db.time ttl⟩ ∧
      o2.db.live k0 = some ⟨.set s, e0⟩ ∧
      o3.reply = .int ((Cmd.setUnion (sortBy bytesLt s) (m :: ms)).length - s.length : Nat) ∧
      o3.db.live k = some ⟨.set (Cmd.setUnion (sortBy bytesLt s) (m :: ms)), deadline db.time ttl⟩ ∧
      (∀ x, x ∈ Cmd.setUnion (sortBy bytesLt s) (m :: ms) ↔ x ∈ s ∨ x ∈ m :: ms) ∧
      o3.db.live k0 = some ⟨.set s, e0⟩ := by
  intro o1
  obtain ⟨payload, h1, h2⟩ := copy_made ctx db nd ne ht k0 k ttlb (.set s) e0 ttl h0 trivial hk hne httl hpos
  refine ⟨payload, h1, ?_⟩
  intro o2 o3
  obtain ⟨r2, hk2, hk02, nd2, _⟩ := h2
  obtain ⟨r3, l3⟩ := sadd_run ctx o2.db nd2 k (sortBy bytesLt s) _ hk2 m ms
  obtain ⟨h3, h03⟩ := upd_frame l3 hne
  refine ⟨r2, hk2, hk02, ?_, h3, ?_, h03.trans hk02⟩
  · rw [show o3.reply = _ from r3, ScanSys.length_sortBy]
  · intro x; rw [HashSet.mem_setUnion, ScanSys.mem_sortBy]

/-- Hashes: `DUMP k₀`, `RESTORE k ttl payload`, `HSET k f v`.  The copy got the same fields in the same order;
HSET changed the copy only. -/
theorem independent_copy_hash (h : List (Bytes × Bytes)) (h0 : db.live k0 = some ⟨.hash h, e0⟩) (f v : Bytes) :
    let o1 := runRegular sigDump Cmd.dump ctx none [k0] db
    ∃ payload, o1.reply = .bulk payload ∧
      let o2 := runRegular sigRestore Cmd.restore ctx none [k, ttlb, payload] o1.db
      let o3 := HashSet.run "hset" ctx [k, f, v] o2.db
      o2.reply = .ok ∧
      o2.db.live k = some ⟨.hash h, deadline db.time ttl⟩ ∧
      o2.db.live k0 = some ⟨.hash h, e0⟩ ∧
      o3.reply = .int (if (h.lookup f).isSome then 0 else 1) ∧
      o3.db.live k = some ⟨.hash (ZSet.dictSet h f v), deadline db.time ttl⟩ ∧
      o3.db.live k0 = some ⟨.hash h, e0⟩ := by
  intro o1
  obtain ⟨payload, h1, h2⟩ := copy_made ctx db nd ne ht k0 k ttlb (.hash h) e0 ttl h0 trivial hk hne httl hpos
  refine ⟨payload, h1, ?_⟩
  intro o2 o3
  obtain ⟨r2, hk2, hk02, nd2, _⟩ := h2
  obtain ⟨r3, l3⟩ := hset_run ctx o2.db nd2 k h _ hk2 f v
  obtain ⟨h3, h03⟩ := upd_frame l3 hne
  exact ⟨r2, hk2, hk02, r3, h3, h03.trans hk02⟩

/-- Sorted sets: `DUMP k₀`, `RESTORE k ttl payload`, `ZADD k score member`.  The copy got the same `byscore`
index; ZADD changed the copy only (`ZSet.add` on the copy), the original keeps both of its indexes. -/
theorem independent_copy_zset (z : ZSet) (hz : z.Inv) (hc : ScoresCanon z)
    (h0 : db.live k0 = some ⟨.zset z, e0⟩) (sb m : Bytes) (s : Dbl)
    (hf : notZaddFlag sb) (hs : Conv.float sb = .ok s) :
    let o1 := runRegular sigDump Cmd.dump ctx none [k0] db
    ∃ payload, o1.reply = .bulk payload ∧
      let o2 := runRegular sigRestore Cmd.restore ctx none [k, ttlb, payload] o1.db
      let o3 := HashSet.run "zadd" ctx [k, sb, m] o2.db
      let z3 := ((restoredZ z).add m (zaddScore ctx.version s)).1
      o2.reply = .ok ∧
      o2.db.live k = some ⟨.zset (restoredZ z), deadline db.time ttl⟩ ∧
      (restoredZ z).byscore = z.byscore ∧
      o2.db.live k0 = some ⟨.zset z, e0⟩ ∧
      o3.reply = .int ((z3.len : Int) - z.len) ∧
      o3.db.live k = some ⟨.zset z3, deadline db.time ttl⟩ ∧ z3.Inv ∧ ScoresCanon z3 ∧
      o3.db.live k0 = some ⟨.zset z, e0⟩ := by
  intro o1
  obtain ⟨payload, h1, h2⟩ := copy_made ctx db nd ne ht k0 k ttlb (.zset z) e0 ttl h0 ⟨hz, hc⟩ hk hne httl hpos
  refine ⟨payload, h1, ?_⟩
  intro o2 o3 z3
  obtain ⟨r2, hk2, hk02, nd2, _⟩ := h2
  obtain ⟨r3, l3⟩ := zadd_run ctx o2.db nd2 k (restoredZ z) _ (ZCmd.zsetView_stored hk2) sb m s hf hs
  obtain ⟨hnan, hcan⟩ := zaddScore_facts hs ctx.version
  obtain ⟨h3, h03⟩ := upd_frame l3 hne
  refine ⟨r2, hk2, rfl, hk02, ?_, h3, ZSet.add_inv (restoredZ_inv hz) hnan,
    scoresCanon_add (z := restoredZ z) hc m hcan, h03.trans hk02⟩
  rw [show o3.reply = _ from r3]
  have : (restoredZ z).len = z.len := (restoredZ_bylex_perm hz).length_eq
  rw [this]

end copies

/-- `HashSet.run name` runs the registered signature and body of the command; the DUMP / RESTORE signatures used
above are the registered ones -/
theorem tables :
    (HashSet.sigOf "rpush", Cmd.regular "rpush") = (HashSet.sigOf "rpush", some Cmd.rpush) ∧
    Cmd.regular "sadd" = some Cmd.sadd ∧ Cmd.regular "hset" = some Cmd.hset ∧ Cmd.regular "zadd" = some Cmd.zadd ∧
    SigTable.find "dump" = some sigDump ∧ Cmd.regular "dump" = some Cmd.dump ∧
    SigTable.find "restore" = some sigRestore ∧ Cmd.regular "restore" = some Cmd.restore ∧
    (SigTable.find "rpush").isSome = true ∧ (SigTable.find "sadd").isSome = true ∧
    (SigTable.find "hset").isSome = true ∧ (SigTable.find "zadd").isSome = true :=
  ⟨rfl, rfl, rfl, rfl, by decide, rfl, by decide, rfl, by decide, by decide, by decide, by decide⟩

/-- non-vacuity of the four independent-copy theorems on `exDb` (ttl `5`, target key `[9]`), and the replayable
run for the sorted set: ZADD of a new member `f` with score `1.5` to the copy -/
example :
    ([9] : Bytes) ≠ [1] ∧ ([9] : Bytes) ≠ [2] ∧ ([9] : Bytes) ≠ [3] ∧ ([9] : Bytes) ≠ [4] ∧
    exDb.live [9] = none ∧ notZaddFlag (strBytes "1.5") ∧
    (∃ s, Conv.float (strBytes "1.5") = .ok s) ∧ exZ.Inv ∧ ScoresCanon exZ := by
  refine ⟨by decide, by decide, by decide, by decide, by decide +kernel, by decide +kernel, ?_, exZ_wf.1, exZ_wf.2⟩
  have hok : (Conv.float (strBytes "1.5")).isOk = true := by decide +kernel
  cases h : Conv.float (strBytes "1.5") with
  | ok s => exact ⟨s, rfl⟩
  | error e => rw [h] at hok; cases hok

/-- (for the example) the three steps on `exDb`: DUMP key `[4]`, RESTORE into `[9]` with ttl 5, ZADD `[9] 1.5 f` -/
def exO1 : RunOut := runRegular sigDump Cmd.dump exCtx none [[4]] exDb
def exO2 : RunOut :=
  runRegular sigRestore Cmd.restore exCtx none [[9], [53], match exO1.reply with | .bulk p => p | _ => []] exO1.db
def exO3 : RunOut := HashSet.run "zadd" exCtx [[9], strBytes "1.5", [102]] exO2.db
/-- (for the example) the members of a sorted-set entry in score order -/
def members (oi : Option Item) : List Bytes :=
  match oi with | some ⟨.zset z, _⟩ => z.byscore.map Prod.snd | _ => []

example :
    (match exO2.reply with | .status b => b | _ => []) = strBytes "OK" ∧ C01k.intView exO3.reply = some 1 ∧
    members (exO3.db.live [9]) = [[97], [98], [99], [100], [102], [101]] ∧
    members (exO3.db.live [4]) = [[97], [98], [99], [100], [101]] ∧
    (exO3.db.live [9]).map (·.expireat) = some (some (50 + 5 * TICKS_MS)) ∧
    (exO3.db.live [4]).map (·.expireat) = some (some 90) := by
  decide +kernel

/-! ## 4. Payloads that are not DUMP outputs -/

/-- the payloads RESTORE rejects are exactly: no DUMP header, or a header followed by a body that does not
decode -/
theorem rejected_iff (payload : Bytes) :
    decodePayload payload = none ↔
      (payload.take Cmd.dumpMagic.length == Cmd.dumpMagic) = false ∨
      ∃ body, payload = Cmd.dumpMagic ++ body ∧ Cmd.loadValue body = none :=
  decodePayload_none_iff payload

/-- RESTORE with a rejected payload — in particular a well-formed header ("checksum") with an undecodable body —
on a free key or with REPLACE: the payload error and no change at all; the ttl is not even looked at -/
theorem restore_undecodable (ctx : Ctx) (db : Db) (nd : NodupKeys db.dict) (ne : NoEmpty db.dict)
    (ht : ctx.time = db.time) (k ttlb payload : Bytes) (ttl : Int) (httl : Conv.int ttlb = .ok ttl)
    (hbad : decodePayload payload = none)
    (opts : List Bytes) (hopts : ∀ a ∈ opts, casematch a "replace" = true)
    (hfree : (db.live k).isSome = true → opts ≠ []) :
    let out := runRegular sigRestore Cmd.restore ctx none (k :: ttlb :: payload :: opts) db
    (out.reply, out.db.live) = (.err (strBytes Msgs.RESTORE_INVALID_CHECKSUM_MSG), db.live) :=
  C01k.restore_undecoded ctx db nd ne ht k httl hbad opts hopts hfree

/-- bodies that do not decode: the empty body and every unknown type tag -/
theorem undecodable_tag (t : UInt8) (rest : Bytes) (h : t ≠ 83 ∧ t ≠ 76 ∧ t ≠ 84 ∧ t ≠ 72 ∧ t ≠ 90) :
    decodePayload (Cmd.dumpMagic ++ t :: rest) = none ∧ decodePayload Cmd.dumpMagic = none :=
  ⟨decodePayload_undecodable _ (loadValue_bad_tag t rest h), by
    have := decodePayload_undecodable [] loadValue_nil
    simpa using this⟩

/-- bodies with a known tag that do not decode: an odd number of hex digits, a non-hex character, a hash item without `=` or with
two, a sorted-set item whose score is not a decimal number (each is a replayable witness) -/
example :
    (Cmd.loadValue (strBytes "L6")).isNone ∧ (Cmd.loadValue (strBytes "Szz")).isNone ∧
    (Cmd.loadValue (strBytes "L61,6")).isNone ∧ (Cmd.loadValue (strBytes "T6g")).isNone ∧
    (Cmd.loadValue (strBytes "H61")).isNone ∧ (Cmd.loadValue (strBytes "H61=62=63")).isNone ∧
    (Cmd.loadValue (strBytes "Z61=x")).isNone ∧ (Cmd.loadValue (strBytes "Z61=")).isNone ∧
    (Cmd.loadValue (strBytes "Z61=-1")).isNone := by
  decide +kernel

/-- Negative ("a payload that is not the image of `dumpValue` is rejected" is false of the model): the decoder
accepts upper-case hex digits, which the encoder never emits.  Witness: body `S4A` decodes (to the string `J`)
although no value is dumped as `S4A`.  (The real implementation accepts every correctly checksummed pickle, so
this does not contradict it.) -/
theorem nonimage_payload_accepted :
    (Cmd.loadValue (strBytes "S4A")).isSome = true ∧ ∀ v, Cmd.dumpValue v ≠ strBytes "S4A" := by
  refine ⟨by decide +kernel, ?_⟩
  have hlit : strBytes "S4A" = [83, 52, 65] := by decide +kernel
  rw [hlit]
  intro v hv
  cases v with
  | str b =>
    simp only [Cmd.dumpValue, List.cons.injEq, true_and] at hv
    rw [hexB_eq] at hv
    split at hv
    · simp at hv
    · exact absurd (hexBytes_not_mem b 65 (by rw [hv]; simp)) (by decide)
  | list l => simp [Cmd.dumpValue] at hv
  | set s => simp [Cmd.dumpValue] at hv
  | hash h => simp [Cmd.dumpValue] at hv
  | zset z => simp [Cmd.dumpValue] at hv

/-- more accepted non-images: an empty item (the encoder writes `_` for the empty string) decodes to the empty
string; and a forged payload can even break the representation invariant of sets (a duplicate member): RESTORE
does not validate what it decodes.  Witnesses: bodies `L61,,62` and `T61,61`. -/
example :
    (match Cmd.loadValue (strBytes "L61,,62") with | some (.list l) => l | _ => []) = [[97], [], [98]] ∧
    (match Cmd.loadValue (strBytes "T61,61") with | some (.set s) => s | _ => []) = [[97], [97]] := by
  decide +kernel

end FR.Props.C01d

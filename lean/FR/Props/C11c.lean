import FR.Proofs.C11cSys
/-!
# C11c — conservation of list elements over whole histories with blocked consumers

Property C11 (conservation part): *every pushed element is received by at most one client and is either received or still
in a list.*  `FR/Props/C11s.lean` has the one-step facts; this file has the **history-level** theorem.

## Vocabulary

* `Ev`, `stepEv`, `runHistory` — the events of the system model (`FR/Proofs/Invariant.lean`); `stepEv` resets the per-event
  output `out`, so the ledgers below are accumulated event by event.
* `stored s` — all elements of all lists of all databases of `s` (`FR/Proofs/Conserve.lean`), as a list = multiset.
* `popsOf name reply`, `pushesOf name args reply` (`FR/Proofs/C11cReg.lean`) — the two ledgers of one command, read off the
  request and its reply: the element(s) inside an LPOP / RPOP reply (bulk, or array of bulks for the counted form) and
  inside the `[key, element]` reply of BLPOP / BRPOP; the values `v₁ … vₙ` of `LPUSH/RPUSH/LPUSHX/RPUSHX key v₁ … vₙ` when
  the reply is a non-zero integer.  RPOPLPUSH / LMOVE / BRPOPLPUSH contribute to neither (the moved element stays stored).
  The reply of EXEC is read against the queue of the transaction (`popsReq`, `pushesReq`).
* `deliveredEv s e`, `pushedEv s e` — the ledgers of one event: all replies emitted by the event; a wake-up's reply
  `[key, element]` delivers `element` (`popElem`), the bulk reply of a woken BRPOPLPUSH delivers nothing.
* `deliveredH s evs`, `pushedH s evs`, `deliveredToH c s evs` — the ledgers of a history started in `s`.
* `Legal s e` / `LegalFrom s evs` — **which events a history may contain**:
  - `.request mode c fields clocks picks` with `fields = name :: args`, `name` (case-insensitively) one of
    LPUSH RPUSH LPUSHX RPUSHX LPOP RPOP RPOPLPUSH LMOVE LLEN LRANGE BLPOP BRPOP BRPOPLPUSH MULTI EXEC DISCARD, any arguments
    (also ill-formed ones), any `mode` (both front-ends, parking or not), provided the socket of `c` is not closed;
    inside MULTI the commands are queued and run by EXEC;
  - `.wake c clocks`, `.timeout c` (of any connection, parked or not), `.open c`, `.gc c`, `.version v`, `.conn up`;
  - `.close c` provided `c` is not parked (the exclusion is necessary *in the model*: `conservation_false_with_close`).
  Excluded: `.send` (raw bytes through the parser), `.awake` / `.atimeout` (asyncio re-try task, which re-enters the
  parser loop), and every command outside the family — in particular the destructive ones DEL, LTRIM, LREM, LSET, FLUSHDB,
  SET …, and everything that gives a key a TTL (EXPIRE …): with those, elements leave the lists without being delivered.
  `plainEv` is a purely syntactic sufficient condition (no `.close` at all): `legalFrom_of_plain`.

## Results

* `conservation` — for every legal history from the initial state and every element `x`:
  `count x stored + count x delivered = count x pushed`;  `conservation_perm` — the same as a multiset equation;
  `conservation_from` — from any state satisfying the invariant `LInv`.
* `delivered_or_stored`, `at_most_once`, `at_most_once_two` — consequences.
* `conservation_false_with_close` — the statement without the side condition on `.close` is false of the model.
-/
namespace FR.Props.C11c
open FR FR.M FR.Conserve FR.C11c

/-! ## histories -/

/-- every event of the history is legal in the state it occurs in -/
def LegalFrom : Sys → List Ev → Prop
  | _, [] => True
  | s, e :: es => Legal s e ∧ LegalFrom (stepEv s e) es

/-- the elements delivered to clients during the history `evs` started in `s` -/
def deliveredH : Sys → List Ev → List Bytes
  | _, [] => []
  | s, e :: es => deliveredEv s e ++ deliveredH (stepEv s e) es

/-- the elements delivered during the history by replies addressed to connection `c` -/
def deliveredToH (c : Nat) : Sys → List Ev → List Bytes
  | _, [] => []
  | s, e :: es => deliveredToEv c s e ++ deliveredToH c (stepEv s e) es

/-- the elements pushed during the history -/
def pushedH : Sys → List Ev → List Bytes
  | _, [] => []
  | s, e :: es => pushedEv s e ++ pushedH (stepEv s e) es

/-! ## conservation -/

/-- **Conservation from any state satisfying the invariant.** -/
theorem conservation_from (s : Sys) (evs : List Ev) (h : LInv s) (hl : LegalFrom s evs) :
    LInv (evs.foldl stepEv s) ∧
    ∀ x, (stored (evs.foldl stepEv s)).count x + (deliveredH s evs).count x = (stored s).count x + (pushedH s evs).count x := by
  induction evs generalizing s with
  | nil => exact ⟨h, fun x => rfl⟩
  | cons e es ih =>
    obtain ⟨h1, h2, _⟩ := stepEv_ok s e h hl.1
    obtain ⟨h3, h4⟩ := ih (stepEv s e) h1 hl.2
    refine ⟨h3, fun x => ?_⟩
    have a := h2 x
    have b := h4 x
    simp only [deliveredH, pushedH, List.count_append, List.foldl_cons]
    omega

theorem stored_init : stored ({} : Sys) = [] := by decide

/-- **Conservation (C11), history level.**  For every legal history from the initial state (empty databases) and every
element `x`: the number of occurrences of `x` still stored in lists plus the number of times `x` was delivered to a client
equals the number of times `x` was pushed. -/
theorem conservation (evs : List Ev) (hl : LegalFrom {} evs) (x : Bytes) :
    (stored (runHistory evs)).count x + (deliveredH {} evs).count x = (pushedH {} evs).count x := by
  have := (conservation_from {} evs linv_init hl).2 x
  rw [stored_init] at this
  simpa [runHistory] using this

/-- `conservation` as an equation between multisets: `stored + delivered = pushed` -/
theorem conservation_perm (evs : List Ev) (hl : LegalFrom {} evs) :
    (stored (runHistory evs) ++ deliveredH {} evs).Perm (pushedH {} evs) := by
  rw [List.perm_iff_count]
  intro x
  rw [List.count_append]
  exact conservation evs hl x

/-- every reachable state of a legal history satisfies the invariant (in particular: no key has a TTL, no list is empty) -/
theorem invariant (evs : List Ev) (hl : LegalFrom {} evs) : LInv (runHistory evs) :=
  (conservation_from {} evs linv_init hl).1

/-- **Delivered or stored.**  An element is delivered no more often than it was pushed, stored no more often than it was
pushed, and what was pushed but not delivered is still stored; nothing is delivered or stored that was never pushed. -/
theorem delivered_or_stored (evs : List Ev) (hl : LegalFrom {} evs) (x : Bytes) :
    (deliveredH {} evs).count x ≤ (pushedH {} evs).count x ∧
    (stored (runHistory evs)).count x = (pushedH {} evs).count x - (deliveredH {} evs).count x ∧
    (x ∉ pushedH {} evs → x ∉ deliveredH {} evs ∧ x ∉ stored (runHistory evs)) := by
  have h := conservation evs hl x
  refine ⟨by omega, by omega, fun hx => ?_⟩
  rw [← List.count_eq_zero] at hx ⊢
  rw [← List.count_eq_zero]
  omega

/-! ## at most once -/

/-- `Σ_{c ∈ cs} f c` -/
def total (f : Nat → Nat) : List Nat → Nat
  | [] => 0
  | c :: cs => f c + total f cs

theorem total_zero (f : Nat → Nat) (cs : List Nat) (h : ∀ c ∈ cs, f c = 0) : total f cs = 0 := by
  induction cs with
  | nil => rfl
  | cons c cs ih =>
    simp only [total, h c (by simp), Nat.zero_add]
    exact ih (fun c' hc' => h c' (by simp [hc']))

theorem total_add (f g : Nat → Nat) (cs : List Nat) : total (fun c => f c + g c) cs = total f cs + total g cs := by
  induction cs with
  | nil => rfl
  | cons c cs ih => simp only [total, ih]; omega

theorem total_congr {f g : Nat → Nat} (cs : List Nat) (h : ∀ c, f c = g c) : total f cs = total g cs := by
  have : f = g := funext h
  rw [this]

theorem total_ite_le (cs : List Nat) (hnd : cs.Nodup) (a : Nat) (n : Nat) :
    total (fun c => if (a == c) = true then n else 0) cs ≤ n := by
  induction cs with
  | nil => exact Nat.zero_le _
  | cons c cs ih =>
    rw [List.nodup_cons] at hnd
    simp only [total]
    by_cases hac : a = c
    · subst hac
      have : total (fun c => if (a == c) = true then n else 0) cs = 0 := by
        apply total_zero
        intro c' hc'
        have : a ≠ c' := fun e => hnd.1 (e ▸ hc')
        simp [this]
      rw [this]
      simp
    · have : (a == c) = false := by simpa using hac
      simp only [this, Bool.false_eq_true, if_false, Nat.zero_add]
      exact ih hnd.2

/-- the replies addressed to distinct connections are disjoint parts of the output -/
theorem total_filter_le (out : List (Nat × Reply)) (f : Nat × Reply → List Bytes) (cs : List Nat) (hnd : cs.Nodup) (x : Bytes) :
    total (fun c => ((out.filter fun p => p.1 == c).flatMap f).count x) cs ≤ (out.flatMap f).count x := by
  induction out with
  | nil =>
    simp only [List.filter_nil, List.flatMap_nil, List.count_nil]
    exact Nat.le_of_eq (total_zero _ cs (fun _ _ => rfl))
  | cons p rest ih =>
    have hstep : ∀ c, ((List.filter (fun q => q.1 == c) (p :: rest)).flatMap f).count x =
        (if (p.1 == c) = true then (f p).count x else 0) + ((rest.filter fun q => q.1 == c).flatMap f).count x := by
      intro c
      by_cases hpc : (p.1 == c) = true
      · simp [hpc, List.count_append]
      · simp [hpc]
    rw [total_congr cs hstep, total_add]
    simp only [List.flatMap_cons, List.count_append]
    have := total_ite_le cs hnd p.1 ((f p).count x)
    omega

theorem total_deliveredToEv_le (s : Sys) (e : Ev) (cs : List Nat) (hnd : cs.Nodup) (x : Bytes) :
    total (fun c => (deliveredToEv c s e).count x) cs ≤ (deliveredEv s e).count x := by
  have hzero : total (fun _ => ([] : List Bytes).count x) cs = 0 := total_zero _ cs (fun _ _ => rfl)
  cases e with
  | request mode c fields clocks picks =>
    cases fields with
    | nil => simp only [deliveredToEv, deliveredEv]; rw [hzero]; exact Nat.le_refl _
    | cons nameB args =>
      simp only [deliveredToEv, deliveredEv]
      cases lookupSig nameB with
      | none => simp only; rw [hzero]; exact Nat.le_refl _
      | some sig => exact total_filter_le _ _ cs hnd x
  | wake c clocks => exact total_filter_le _ _ cs hnd x
  | _ => simp only [deliveredToEv, deliveredEv]; rw [hzero]; exact Nat.le_refl _

theorem total_deliveredToH_le (s : Sys) (evs : List Ev) (cs : List Nat) (hnd : cs.Nodup) (x : Bytes) :
    total (fun c => (deliveredToH c s evs).count x) cs ≤ (deliveredH s evs).count x := by
  induction evs generalizing s with
  | nil =>
    simp only [deliveredToH, deliveredH, List.count_nil]
    exact Nat.le_of_eq (total_zero _ cs (fun _ _ => rfl))
  | cons e es ih =>
    have : ∀ c, (deliveredToH c s (e :: es)).count x =
        (deliveredToEv c s e).count x + (deliveredToH c (stepEv s e) es).count x := by
      intro c
      simp only [deliveredToH, List.count_append]
    rw [total_congr cs this, total_add]
    simp only [deliveredH, List.count_append]
    have a := total_deliveredToEv_le s e cs hnd x
    have b := ih (stepEv s e)
    omega

/-- **At most once.**  For pairwise different connections `cs`: the numbers of times `x` was delivered to each of them
(`total … cs` is their sum), plus the number of occurrences still stored, do not exceed the number of times `x` was
pushed — no occurrence of a pushed element is handed to two clients, or handed to a client and kept. -/
theorem at_most_once (evs : List Ev) (hl : LegalFrom {} evs) (cs : List Nat) (hnd : cs.Nodup) (x : Bytes) :
    total (fun c => (deliveredToH c {} evs).count x) cs + (stored (runHistory evs)).count x ≤ (pushedH {} evs).count x := by
  have a := total_deliveredToH_le {} evs cs hnd x
  have b := conservation evs hl x
  omega

/-- two different connections: an element pushed once is delivered to at most one of them -/
theorem at_most_once_two (evs : List Ev) (hl : LegalFrom {} evs) (c1 c2 : Nat) (hne : c1 ≠ c2) (x : Bytes) :
    (deliveredToH c1 {} evs).count x + (deliveredToH c2 {} evs).count x ≤ (pushedH {} evs).count x := by
  have := at_most_once evs hl [c1, c2] (by simp [hne]) x
  simp only [total] at this
  omega

/-! ## a syntactic sufficient condition for legality -/

/-- the request names a command of the family (or MULTI / EXEC / DISCARD) -/
def famReqB (fields : List Bytes) : Bool :=
  match fields with
  | nameB :: _ =>
    match lookupSig nameB with
    | some sig => famNames.contains sig.name || txNames.contains sig.name
    | none => false
  | [] => false

/-- family requests, wake-ups, time-outs, new connections, gc, version / outage switches — and no `close` at all -/
def plainEv : Ev → Bool
  | .request _ _ fields _ _ => famReqB fields
  | .wake _ _ => true
  | .timeout _ => true
  | .open _ => true
  | .gc _ => true
  | .version _ => true
  | .conn _ => true
  | _ => false

theorem familyReq_of_famReqB {fields : List Bytes} (h : famReqB fields = true) : FamilyReq fields := by
  unfold famReqB at h
  split at h
  · rename_i nameB args
    split at h
    · rename_i sig hsig
      refine ⟨nameB, args, sig, rfl, hsig, ?_⟩
      simp only [Bool.or_eq_true, List.contains_iff_mem] at h
      exact h
    · cases h
  · cases h

theorem legalFrom_of_plain_from (s : Sys) (evs : List Ev) (h : LInv s) (hopen : ∀ c, (s.conn c).closed = false)
    (hp : evs.all plainEv = true) : LegalFrom s evs := by
  induction evs generalizing s with
  | nil => trivial
  | cons e es ih =>
    simp only [List.all_cons, Bool.and_eq_true] at hp
    have hl : Legal s e := by
      cases e with
      | request mode c' fields clocks picks => exact ⟨familyReq_of_famReqB hp.1, hopen c'⟩
      | close c => exact absurd hp.1 (by simp [plainEv])
      | send mode c data clocks picks => exact absurd hp.1 (by simp [plainEv])
      | awake mode c clocks picks => exact absurd hp.1 (by simp [plainEv])
      | atimeout mode c clocks picks => exact absurd hp.1 (by simp [plainEv])
      | _ => trivial
    obtain ⟨h1, _, h3⟩ := stepEv_ok s e h hl
    refine ⟨hl, ih _ h1 (h3 ?_ hopen) hp.2⟩
    intro c hc
    subst hc
    exact absurd hp.1 (by simp [plainEv])

/-- a history made of family requests, wake-ups, time-outs, `open`, `gc`, `version`, `conn` events is legal -/
theorem legalFrom_of_plain (evs : List Ev) (hp : evs.all plainEv = true) : LegalFrom {} evs :=
  legalFrom_of_plain_from {} evs linv_init (fun _ => rfl) hp

/-- conservation for syntactically plain histories -/
theorem conservation_plain (evs : List Ev) (hp : evs.all plainEv = true) (x : Bytes) :
    (stored (runHistory evs)).count x + (deliveredH {} evs).count x = (pushedH {} evs).count x :=
  conservation evs (legalFrom_of_plain evs hp) x

/-! ## non-vacuity: two parked consumers, a push, a wake-up, a time-out, a transaction -/

def pk : Mode := { park := true }

/-- consumers 1 and 2 park in BLPOP on `k` (2 with a time-out of 1 s); producer 3 pushes `a`, `b`; 1 is woken and
served `a`; 2 times out (nil), `b` stays stored; 3 pops `b` with LPOP; then a transaction of 3: RPUSH `c`, `d`, BLPOP
(never blocks inside MULTI: served `c`), RPOPLPUSH `k` → `m` (moves `d`, which stays stored), run by EXEC -/
def hist : List Ev :=
  [.open 1, .open 2, .open 3,
   .request pk 1 [strBytes "BLPOP", [107], [48]] [10] [],
   .request pk 2 [strBytes "BLPOP", [107], [49]] [20, 21, 22] [],
   .request pk 3 [strBytes "RPUSH", [107], [97], [98]] [30] [],
   .wake 1 [],
   .timeout 2,
   .request pk 3 [strBytes "LPOP", [107]] [40] [],
   .request pk 3 [strBytes "MULTI"] [50] [],
   .request pk 3 [strBytes "RPUSH", [107], [99], [100]] [51] [],
   .request pk 3 [strBytes "BLPOP", [107], [48]] [52] [],
   .request pk 3 [strBytes "RPOPLPUSH", [107], [109]] [53] [],
   .request pk 3 [strBytes "EXEC"] [54] []]

/-- the history is plain, hence legal: the hypotheses of `conservation`, `at_most_once` are met -/
theorem hist_plain : hist.all plainEv = true := by decide +kernel

theorem hist_legal : LegalFrom {} hist := legalFrom_of_plain hist hist_plain

/-- both consumers are parked after the fifth event; the push flags both -/
example : (runHistory (hist.take 5)).srv.conns.map (fun x => (x.id, x.parked.map (·.woken)))
      = [(1, some false), (2, some false), (3, none)] ∧
    (runHistory (hist.take 6)).srv.conns.map (fun x => (x.id, x.parked.map (·.woken)))
      = [(1, some true), (2, some true), (3, none)] ∧
    stored (runHistory (hist.take 6)) = [[97], [98]] := by decide +kernel

/-- the wake-up serves 1 with `a`, the time-out answers nil to 2 and un-parks it -/
example : (stepEv (runHistory (hist.take 6)) (.wake 1 [])).out.map (fun p => (p.1, popElem p.2)) = [(1, [[97]])] ∧
    (stepEv (runHistory (hist.take 7)) (.timeout 2)).out.map (fun p => (p.1, match p.2 with | .nil => true | _ => false))
      = [(2, true)] ∧
    (runHistory (hist.take 8)).srv.conns.map (fun x => (x.id, x.parked.isSome)) = [(1, false), (2, false), (3, false)] := by
  decide +kernel

/-- the ledgers of the whole history: `d` is still stored (under `m`), `a b c` were delivered, `a b c d` were pushed -/
example : stored (runHistory hist) = [[100]] ∧ deliveredH {} hist = [[97], [98], [99]] ∧
    pushedH {} hist = [[97], [98], [99], [100]] ∧
    deliveredToH 1 {} hist = [[97]] ∧ deliveredToH 2 {} hist = [] ∧ deliveredToH 3 {} hist = [[98], [99]] := by
  decide +kernel

/-- the instance of `conservation` / `at_most_once_two` for this history -/
example (x : Bytes) : (stored (runHistory hist)).count x + (deliveredH {} hist).count x = (pushedH {} hist).count x :=
  conservation hist hist_legal x

example (x : Bytes) : (deliveredToH 1 {} hist).count x + (deliveredToH 3 {} hist).count x ≤ (pushedH {} hist).count x :=
  at_most_once_two hist hist_legal 1 3 (by decide) x

example (x : Bytes) : total (fun c => (deliveredToH c {} hist).count x) [1, 2, 3] + (stored (runHistory hist)).count x
    ≤ (pushedH {} hist).count x :=
  at_most_once hist hist_legal [1, 2, 3] (by decide) x

example : (deliveredH {} hist).count [97] ≤ (pushedH {} hist).count [97] ∧
    (stored (runHistory hist)).count [100] = (pushedH {} hist).count [100] - (deliveredH {} hist).count [100] :=
  ⟨(delivered_or_stored hist hist_legal [97]).1, (delivered_or_stored hist hist_legal [100]).2.1⟩

example : (stored (runHistory hist) ++ deliveredH {} hist).Perm (pushedH {} hist) := conservation_perm hist hist_legal

example (x : Bytes) : (stored (runHistory hist)).count x + (deliveredH {} hist).count x = (pushedH {} hist).count x :=
  conservation_plain hist hist_plain x

/-- `conservation_from`: a non-initial state satisfying `LInv` (it is reachable), and a legal continuation -/
example : LInv (runHistory (hist.take 6)) ∧ LegalFrom (runHistory (hist.take 6)) (hist.drop 6) := by
  have hd : (hist.take 6).all plainEv = true ∧
      (runHistory (hist.take 6)).srv.conns.all (fun x => x.closed == false) = true ∧
      (hist.drop 6).all plainEv = true := by decide +kernel
  have h6 : LegalFrom {} (hist.take 6) := legalFrom_of_plain _ hd.1
  refine ⟨invariant _ h6, ?_⟩
  have hopen : ∀ c, ((runHistory (hist.take 6)).conn c).closed = false := by
    intro c
    rcases (runHistory (hist.take 6)).conn_mem_or_default c with hm | he
    · simpa using List.all_eq_true.1 hd.2.1 _ hm
    · rw [he]
  exact legalFrom_of_plain_from _ _ (invariant _ h6) hopen hd.2.2

/-- a legal `close`: connection 2 closes its socket after it was un-parked -/
example : LegalFrom {} (hist.take 8 ++ [.close 2, .request pk 3 [strBytes "LLEN", [107]] [60] []]) := by
  have hd : (hist.take 8).all plainEv = true ∧
      (Sys.conn ((hist.take 8).foldl stepEv {}) 2).parked = none ∧
      famReqB [strBytes "LLEN", [107]] = true ∧
      (Sys.conn (stepEv ((hist.take 8).foldl stepEv {}) (.close 2)) 3).closed = false := by decide +kernel
  have h8 : LegalFrom {} (hist.take 8) := legalFrom_of_plain _ hd.1
  have happ : ∀ (s : Sys) (a b : List Ev), LegalFrom s a → LegalFrom (a.foldl stepEv s) b → LegalFrom s (a ++ b) := by
    intro s a
    induction a generalizing s with
    | nil => intro b _ hb; exact hb
    | cons e es ih => intro b ha hb; exact ⟨ha.1, ih _ b ha.2 hb⟩
  exact happ _ _ _ h8 ⟨hd.2.1, ⟨familyReq_of_famReqB hd.2.2.1, hd.2.2.2⟩, trivial⟩

/-! ## the side condition on `close` is necessary (in the model)

`.close c` of a *parked* connection: the record stays parked with `closed = true`; the push wakes it, the pass takes the
element out of the list and `emit` drops the reply.  The element is pushed, not stored, not delivered.

**This is a property of the model, not of the code**: replayed on the Python code (a thread blocked in `BLPOP k 0`, its
`FakeSocket.close()` called from the main thread, then `RPUSH k a` by another client) the blocked thread dies in
`_bpop_pass` with `AttributeError: 'NoneType' object has no attribute 'get'` (`close()` sets `self._db = None`) and `a`
stays in the list.  Real Redis frees a blocked client that disconnects; the element stays in the list as well. -/

def histC : List Ev :=
  [.open 1, .open 2,
   .request pk 1 [strBytes "BLPOP", [107], [48]] [10] [],
   .close 1,
   .request pk 2 [strBytes "RPUSH", [107], [97]] [30] [],
   .wake 1 []]

/-- every event of `histC` is a family request, a wake-up, an `open` — or the `close` of a parked connection -/
theorem histC_events : histC.all (fun e => plainEv e || (match e with | .close _ => true | _ => false)) = true := by
  decide +kernel

/-- the `close` is the one illegal event: connection 1 is parked when its socket is closed -/
theorem histC_close_illegal : LegalFrom {} (histC.take 3) ∧ ¬ Legal (runHistory (histC.take 3)) (.close 1) := by
  have hd : (histC.take 3).all plainEv = true ∧ ((runHistory (histC.take 3)).conn 1).parked.isSome = true := by
    decide +kernel
  refine ⟨legalFrom_of_plain _ hd.1, ?_⟩
  intro h
  have h' : ((runHistory (histC.take 3)).conn 1).parked = none := h
  have := hd.2
  rw [h'] at this; cases this

/-- **Conservation is false when a parked connection may be closed**: `a` was pushed, is not stored and was not delivered. -/
theorem conservation_false_with_close :
    ¬ ∀ evs : List Ev, evs.all (fun e => plainEv e || (match e with | .close _ => true | _ => false)) = true →
      ∀ x, (stored (runHistory evs)).count x + (deliveredH {} evs).count x = (pushedH {} evs).count x := by
  intro h
  have h1 := h histC histC_events [97]
  have h2 : stored (runHistory histC) = [] ∧ deliveredH {} histC = [] ∧ pushedH {} histC = [[97]] := by decide +kernel
  rw [h2.1, h2.2.1, h2.2.2] at h1
  simp at h1

end FR.Props.C11c

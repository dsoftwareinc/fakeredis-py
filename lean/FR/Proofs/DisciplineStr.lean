import FR.Proofs.DisciplineBase
/-!
# The `CommandItem` discipline (`FR/Proofs/DisciplineBase.lean`): the string, key and hash bodies, one lemma each
-/
namespace FR
namespace Cmd
variable {P : List CI → Prop}

/-! ## Strings -/

theorem append_keeps : Body.Updates append := by
  intro P hP ctx args cis hs
  unfold append
  keeps_body

theorem bitcount_keeps : Body.Reader bitcount := by
  intro P hP ctx args cis hs
  unfold bitcount
  keeps_body

theorem incrbyCore_keeps (hP : CIs.UpdClosed P) {cis : List CI} (hs : P cis) (k : Nat) (a : Int) :
    Out.Keeps P (incrbyCore cis k a) := by
  unfold incrbyCore
  keeps_body

theorem incrby_keeps : Body.Updates incrby := by
  intro P hP ctx args cis hs
  have hcore := @incrbyCore_keeps P hP
  unfold incrby
  keeps_body

theorem decrby_keeps : Body.Disciplined decrby := by
  intro P hP ctx args cis hs
  have hcore := @incrbyCore_keeps P hP.upd
  unfold decrby
  keeps_body

theorem incr_keeps : Body.Disciplined incr := by
  intro P hP ctx args cis hs
  have hcore := @incrbyCore_keeps P hP.upd
  unfold incr
  keeps_body

theorem decr_keeps : Body.Disciplined decr := by
  intro P hP ctx args cis hs
  have hcore := @incrbyCore_keeps P hP.upd
  unfold decr
  keeps_body

theorem incrbyfloat_keeps : Body.Disciplined incrbyfloat := by
  intro P hP ctx args cis hs
  unfold incrbyfloat
  keeps_body

theorem get_keeps : Body.Reader get := by
  intro P hP ctx args cis hs
  unfold get
  keeps_body

theorem getbit_keeps : Body.Reader getbit := by
  intro P hP ctx args cis hs
  unfold getbit
  keeps_body

theorem setbit_keeps : Body.Updates setbit := by
  intro P hP ctx args cis hs
  unfold setbit
  keeps_body

theorem getrange_keeps : Body.Reader getrange := by
  intro P hP ctx args cis hs
  unfold getrange
  keeps_body

theorem getset_keeps : Body.Disciplined getset := by
  intro P hP ctx args cis hs
  unfold getset
  keeps_body

theorem mget_keeps : Body.Reader mget := by
  intro P hP ctx args cis hs
  unfold mget
  keeps_body

theorem msetCore_keeps (hP : CIs.Closed P) (ps : List (Nat × Bytes)) {cis : List CI} (hs : P cis) :
    P (msetCore cis ps) := by
  unfold msetCore
  induction ps generalizing cis with
  | nil => exact hs
  | cons p ps ih => exact ih (hP _ _ _ hs rfl rfl)

theorem mset_keeps : Body.Disciplined mset := by
  intro P hP ctx args cis hs
  have hcore := @msetCore_keeps P hP
  unfold mset
  keeps_body

theorem msetnx_keeps : Body.Disciplined msetnx := by
  intro P hP ctx args cis hs
  have hcore := @msetCore_keeps P hP
  unfold msetnx
  keeps_body

theorem set_keeps : Body.Disciplined set := by
  intro P hP ctx args cis hs
  unfold set
  keeps_body

theorem setex_keeps : Body.Disciplined setex := by
  intro P hP ctx args cis hs
  unfold setex
  keeps_body

theorem psetex_keeps : Body.Disciplined psetex := by
  intro P hP ctx args cis hs
  unfold psetex
  keeps_body

theorem setnx_keeps : Body.Disciplined setnx := by
  intro P hP ctx args cis hs
  unfold setnx
  keeps_body

theorem setrange_keeps : Body.Updates setrange := by
  intro P hP ctx args cis hs
  unfold setrange
  keeps_body

theorem strlen_keeps : Body.Reader strlen := by
  intro P hP ctx args cis hs
  unfold strlen
  keeps_body

/-! ## Keys -/

theorem deleteCore_keeps (hP : CIs.Closed P) (ks : List Nat) {cis : List CI} (hs : P cis) :
    P (deleteCore cis ks).1 := by
  unfold deleteCore
  generalize (0 : Int) = n
  generalize ([] : List Bytes) = done
  induction ks generalizing cis n done with
  | nil => exact hs
  | cons k ks ih =>
    simp only [List.foldl_cons]
    split
    · exact ih (hP _ k ((ciAt cis k).setValue none) hs rfl rfl) _ _
    · exact ih hs _ _

theorem del_keeps : Body.Disciplined del := by
  intro P hP ctx args cis hs
  have h := deleteCore_keeps hP (keyIdxs args) hs
  unfold del
  split
  rename_i heq
  rw [heq] at h
  keeps_close

theorem exists__keeps : Body.Reader exists_ := by
  intro P hP ctx args cis hs
  unfold exists_
  keeps_body

theorem expireatCore_keeps (hP : CIs.Closed P) (ctx : Ctx) {cis : List CI} (hs : P cis) (k : Nat) (ts : Int) :
    Out.Keeps P (expireatCore ctx cis k ts) := by
  unfold expireatCore
  keeps_body

theorem expire_keeps : Body.Disciplined expire := by
  intro P hP ctx args cis hs
  have hcore0 := @expireatCore_keeps P hP
  unfold expire
  keeps_body

theorem expireat_keeps : Body.Disciplined expireat := by
  intro P hP ctx args cis hs
  have hcore0 := @expireatCore_keeps P hP
  unfold expireat
  keeps_body

theorem pexpire_keeps : Body.Disciplined pexpire := by
  intro P hP ctx args cis hs
  have hcore0 := @expireatCore_keeps P hP
  unfold pexpire
  keeps_body

theorem pexpireat_keeps : Body.Disciplined pexpireat := by
  intro P hP ctx args cis hs
  have hcore0 := @expireatCore_keeps P hP
  unfold pexpireat
  keeps_body

theorem ttlCore_keeps (ctx : Ctx) {cis : List CI} (hs : P cis) (k : Nat) (sc : Int) :
    Out.Keeps P (ttlCore ctx cis k sc) := by
  unfold ttlCore
  keeps_body

theorem ttl_keeps : Body.Reader ttl := by
  intro P hP ctx args cis hs
  have hcore0 := @ttlCore_keeps P
  unfold ttl
  keeps_body

theorem pttl_keeps : Body.Reader pttl := by
  intro P hP ctx args cis hs
  have hcore0 := @ttlCore_keeps P
  unfold pttl
  keeps_body

theorem type__keeps : Body.Reader type_ := by
  intro P hP ctx args cis hs
  unfold type_
  keeps_body

theorem persist_keeps : Body.Disciplined persist := by
  intro P hP ctx args cis hs
  unfold persist
  keeps_body

theorem renameCore_keeps (hP : CIs.Closed P) {cis : List CI} (hs : P cis) (k nk : Nat) :
    P (renameCore cis k nk) := by
  unfold renameCore
  dsimp only
  split
  · exact hP _ _ _ (hP _ _ _ hs rfl rfl)
      (ciAt_set_key (cis := cis) (j := nk) (c := ((ciAt cis nk).setValue _).setExpire _) rfl k).symm rfl
  · exact hs

theorem rename_keeps : Body.Disciplined rename := by
  intro P hP ctx args cis hs
  have hcore0 := @renameCore_keeps P hP
  unfold rename
  keeps_body

theorem renamenx_keeps : Body.Disciplined renamenx := by
  intro P hP ctx args cis hs
  have hcore0 := @renameCore_keeps P hP
  unfold renamenx
  keeps_body

theorem dump_keeps : Body.Reader dump := by
  intro P hP ctx args cis hs
  unfold dump
  keeps_body

theorem restore_keeps : Body.Disciplined restore := by
  intro P hP ctx args cis hs
  unfold restore
  keeps_body

/-! ## Hashes -/

theorem hdel_keeps : Body.Disciplined hdel := by
  intro P hP ctx args cis hs
  unfold hdel
  keeps_body

theorem hexists_keeps : Body.Reader hexists := by
  intro P hP ctx args cis hs
  unfold hexists
  keeps_body

theorem hget_keeps : Body.Reader hget := by
  intro P hP ctx args cis hs
  unfold hget
  keeps_body

theorem hgetall_keeps : Body.Reader hgetall := by
  intro P hP ctx args cis hs
  unfold hgetall
  keeps_body

theorem hincrby_keeps : Body.Disciplined hincrby := by
  intro P hP ctx args cis hs
  unfold hincrby
  keeps_body

theorem hincrbyfloat_keeps : Body.Disciplined hincrbyfloat := by
  intro P hP ctx args cis hs
  unfold hincrbyfloat
  keeps_body

theorem hkeys_keeps : Body.Reader hkeys := by
  intro P hP ctx args cis hs
  unfold hkeys
  keeps_body

theorem hvals_keeps : Body.Reader hvals := by
  intro P hP ctx args cis hs
  unfold hvals
  keeps_body

theorem hlen_keeps : Body.Reader hlen := by
  intro P hP ctx args cis hs
  unfold hlen
  keeps_body

theorem hmget_keeps : Body.Reader hmget := by
  intro P hP ctx args cis hs
  unfold hmget
  keeps_body

theorem hset_keeps : Body.Updates hset := by
  intro P hP ctx args cis hs
  unfold hset
  keeps_body

theorem hmset_keeps : Body.Updates hmset := by
  intro P hP ctx args cis hs
  have h := hset_keeps P hP ctx args cis hs
  unfold hmset
  split
  · rename_i o heq
    rw [heq, Out.keeps_ok_iff] at h
    rw [Out.keeps_ok_iff]
    exact ⟨h.1, rfl⟩
  · exact Out.keeps_error _

theorem hsetnx_keeps : Body.Updates hsetnx := by
  intro P hP ctx args cis hs
  have hcore : ∀ ctx args cis, P cis → Out.Keeps P (hset ctx args cis) := hset_keeps P hP
  unfold hsetnx
  keeps_body

theorem hstrlen_keeps : Body.Reader hstrlen := by
  intro P hP ctx args cis hs
  unfold hstrlen
  keeps_body

theorem hscan_keeps : Body.Reader hscan := by
  intro P hP ctx args cis hs
  unfold hscan
  keeps_body

end Cmd
end FR

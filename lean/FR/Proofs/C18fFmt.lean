import FR.Proofs.C18fRound
/-!
# C18f: `Dbl.fmtF17Human` of a finite double is a literal of the float grammar

`fmtF17Human (.fin neg m e)` prints `N / 10^17` where `N = humanN m e = round_half_even (m·2^e·10^17)`:
sign, the canonical digits of `N / 10^17`, and (when non-empty) `.` followed by the 17-digit zero-padded
rendering of `N % 10^17` with trailing zeros stripped.  The bytes are the rendering of a valid `DecLit` with no
exponent whose mantissa satisfies `mant · 10^17 = N · 10^(#fraction digits)` (`fmtF17Human_lit`).  The model builds the
text as a `String`; `digC_enc`, `flatMap_enc`, `stripZ_map` carry it to the bytes `strBytes` yields, digit by digit
(`fmtParts_strBytes`); the arithmetic of the fraction digits `fracB` is apart from that (`fracB_facts`).
-/
namespace FR.C18f
open FR FR.DumpRound

/-! ## the rounded integer -/

def humanNum (m : Nat) (e : Int) : Nat := if e ≥ 0 then m * Dbl.pow2 e.toNat else m
def humanDen (e : Int) : Nat := if e ≥ 0 then 1 else Dbl.pow2 (-e).toNat

/-- the integer `N = round_half_even(m·2^e · 10^17)` that `fmtF17Human` prints as `N / 10^17` (`rm`: the rounding step
`roundPos` uses as well) -/
def humanN (m : Nat) (e : Int) : Nat := rm (humanNum m e * 10 ^ 17) (humanDen e)

theorem humanDen_pos (e : Int) : 0 < humanDen e := by
  unfold humanDen
  split
  · decide
  · exact pow2_pos _

theorem humanN_exact (m : Nat) (e : Int) (h : e ≥ 0) : humanN m e = m * 2 ^ e.toNat * 10 ^ 17 := by
  unfold humanN humanNum humanDen
  rw [if_pos h, if_pos h, rm_den_one, pow2_eq]

/-! ## the characters of the output -/

/-- the model's (private) `stripZeros` -/
def stripZ (l : List Char) : List Char := (l.reverse.dropWhile (· == '0')).reverse

/-- the output as a function of the integer part and the 17-digit fraction -/
def fmtParts (neg : Bool) (ip fpN : Nat) : String :=
  let fs := (toString fpN).toList
  let fp := stripZ (List.replicate (17 - fs.length) '0' ++ fs)
  (if neg then "-" else "") ++ toString ip ++ (if fp.isEmpty then "" else "." ++ String.ofList fp)

def fmtOf (neg : Bool) (N : Nat) : String := fmtParts neg (N / 10 ^ 17) (N % 10 ^ 17)

theorem fmtF17Human_eq (neg : Bool) (m : Nat) (e : Int) :
    Dbl.fmtF17Human (.fin neg m e) = fmtOf neg (humanN m e) := by
  by_cases h : e ≥ 0
  · simp only [Dbl.fmtF17Human, humanN, humanNum, humanDen, if_pos h]
    rfl
  · simp only [Dbl.fmtF17Human, humanN, humanNum, humanDen, if_neg h]
    rfl

theorem toString_toList (n : Nat) : (toString n).toList = Nat.toDigits 10 n := by
  rw [Nat.toString_eq_ofList_toDigits, String.toList_ofList]

/-! ## digit characters and their bytes -/

def DigC (c : Char) : Prop := ∃ d, d < 10 ∧ c = Nat.digitChar d

def encC (c : Char) : UInt8 := digitByte (c.toNat - 48)

theorem digC_enc {c : Char} (h : DigC c) : String.utf8EncodeChar c = [encC c] := by
  obtain ⟨d, hd, rfl⟩ := h
  match d, hd with
  | 0, _ | 1, _ | 2, _ | 3, _ | 4, _ | 5, _ | 6, _ | 7, _ | 8, _ | 9, _ => decide

theorem digC_zero {c : Char} (h : DigC c) : (c == '0') = (encC c == 48) := by
  obtain ⟨d, hd, rfl⟩ := h
  match d, hd with
  | 0, _ | 1, _ | 2, _ | 3, _ | 4, _ | 5, _ | 6, _ | 7, _ | 8, _ | 9, _ => decide

theorem digC_char_zero : DigC '0' := ⟨0, by decide, rfl⟩
theorem encC_char_zero : encC '0' = 48 := by decide

theorem toDigits_digC (n : Nat) : ∀ c ∈ Nat.toDigits 10 n, DigC c := by
  induction n using Nat.strongRecOn with
  | _ n ih =>
    rw [Nat.toDigits_eq_if (by decide)]
    split
    · intro c hc
      rw [List.mem_singleton] at hc
      exact ⟨n, ‹_›, hc⟩
    · intro c hc
      rcases List.mem_append.mp hc with hc | hc
      · exact ih (n / 10) (by omega) c hc
      · rw [List.mem_singleton] at hc
        exact ⟨n % 10, Nat.mod_lt n (by decide), hc⟩

theorem flatMap_enc : ∀ (l : List Char), (∀ c ∈ l, DigC c) → l.flatMap String.utf8EncodeChar = l.map encC
  | [], _ => rfl
  | c :: l, h => by
    rw [List.flatMap_cons, List.map_cons, digC_enc (h c (List.mem_cons_self ..)),
      flatMap_enc l (fun x hx => h x (List.mem_cons_of_mem _ hx))]
    rfl

theorem natDigits_eq_map (n : Nat) : natDigits n = (Nat.toDigits 10 n).map encC := by
  rw [natDigits_eq_flatMap, flatMap_enc _ (toDigits_digC n)]

theorem strBytes_append (a b : String) : strBytes (a ++ b) = strBytes a ++ strBytes b := by
  rw [strBytes_eq_flatMap, strBytes_eq_flatMap, strBytes_eq_flatMap, String.toList_append, List.flatMap_append]

theorem strBytes_empty : strBytes "" = [] := by rw [strBytes_eq]; rfl
theorem strBytes_minus : strBytes "-" = [45] := by rw [strBytes_eq]; rfl
theorem strBytes_dot : strBytes "." = [46] := by rw [strBytes_eq]; rfl

theorem strBytes_ofList_digC {l : List Char} (h : ∀ c ∈ l, DigC c) : strBytes (String.ofList l) = l.map encC := by
  rw [strBytes_eq_flatMap, String.toList_ofList, flatMap_enc l h]

/-! ## stripping trailing zeros -/

def stripB (b : Bytes) : Bytes := (b.reverse.dropWhile (· == 48)).reverse

theorem map_dropWhile_zero : ∀ (l : List Char), (∀ c ∈ l, DigC c) →
    (l.dropWhile (· == '0')).map encC = (l.map encC).dropWhile (· == 48)
  | [], _ => rfl
  | c :: l, h => by
    have hc := digC_zero (h c (List.mem_cons_self ..))
    rw [List.map_cons, List.dropWhile_cons, List.dropWhile_cons]
    by_cases h0 : (c == '0') = true
    · rw [if_pos h0, if_pos (hc ▸ h0)]
      exact map_dropWhile_zero l (fun x hx => h x (List.mem_cons_of_mem _ hx))
    · rw [if_neg h0, if_neg (hc ▸ h0), List.map_cons]

theorem stripZ_map (l : List Char) (h : ∀ c ∈ l, DigC c) : (stripZ l).map encC = stripB (l.map encC) := by
  unfold stripZ stripB
  rw [List.map_reverse, map_dropWhile_zero _ (fun c hc => h c (List.mem_reverse.mp hc)), List.map_reverse]

theorem stripZ_mem {l : List Char} {c : Char} (h : c ∈ stripZ l) : c ∈ l := by
  unfold stripZ at h
  exact List.mem_reverse.mp ((List.dropWhile_sublist _).subset (List.mem_reverse.mp h))

theorem dropWhile_zero_spec : ∀ (l : Bytes), ∃ j, l = List.replicate j 48 ++ l.dropWhile (· == 48)
  | [] => ⟨0, rfl⟩
  | c :: l => by
    rw [List.dropWhile_cons]
    split
    · rename_i h
      have hc : c = 48 := by simpa using h
      obtain ⟨j, hj⟩ := dropWhile_zero_spec l
      refine ⟨j + 1, ?_⟩
      rw [List.replicate_succ, List.cons_append, ← hj, hc]
    · exact ⟨0, rfl⟩

theorem stripB_spec (b : Bytes) : ∃ j, b = stripB b ++ List.replicate j 48 := by
  obtain ⟨j, hj⟩ := dropWhile_zero_spec b.reverse
  refine ⟨j, ?_⟩
  have := congrArg List.reverse hj
  rw [List.reverse_reverse, List.reverse_append, List.reverse_replicate] at this
  exact this

theorem dropWhile_zero_head : ∀ (l : Bytes), (l.dropWhile (· == 48)).head? ≠ some 48
  | [] => by simp
  | c :: l => by
    rw [List.dropWhile_cons]
    split
    · exact dropWhile_zero_head l
    · rename_i h
      intro hh
      rw [List.head?_cons, Option.some.injEq] at hh
      subst hh
      exact h rfl

theorem stripB_getLast (b : Bytes) : (stripB b).getLast? ≠ some 48 := by
  unfold stripB
  rw [List.getLast?_reverse]
  exact dropWhile_zero_head _

theorem decNat_zeros (j : Nat) : decNat (List.replicate j 48) = 0 := by
  induction j with
  | zero => rfl
  | succ j ih =>
    rw [List.replicate_succ, decNat, ih]
    simp

theorem digits_zeros (j : Nat) : Digits (List.replicate j 48) := by
  intro c hc
  rw [List.eq_of_mem_replicate hc]
  decide

/-- stripping the trailing zeros of a digit string divides its value by the power of ten -/
theorem stripB_facts {P : Bytes} (h : Digits P) :
    Digits (stripB P) ∧ (stripB P).length ≤ P.length ∧
      decNat (stripB P) * 10 ^ (P.length - (stripB P).length) = decNat P := by
  obtain ⟨j, hj⟩ := stripB_spec P
  have hl : P.length = (stripB P).length + j := by
    conv => lhs; rw [hj]
    rw [List.length_append, List.length_replicate]
  refine ⟨fun c hc => h c (by rw [hj]; exact List.mem_append_left _ hc), by omega, ?_⟩
  rw [show P.length - (stripB P).length = j by omega]
  conv => rhs; rw [hj]
  rw [decNat_append, decNat_zeros, List.length_replicate, Nat.add_zero]

/-! ## the length of `natDigits` -/

theorem natDigits_length_le {n k : Nat} (h : n < 10 ^ (k + 1)) : (natDigits n).length ≤ k + 1 := by
  obtain ⟨d, rest, hd, h48, h0⟩ := natDigits_head n
  by_cases hn : n = 0
  · rw [hd, h0 hn]; simp
  · have hdig : Digits (natDigits n) := (digits_iff_all _).mpr (natDigits_all_isDigit n)
    rw [hd] at hdig
    have hge := decNat_ge (rest := rest) hdig.head (fun hh => hn (h48.mp hh))
    rw [← hd, ← digitsVal_eq_decNat, digitsVal_natDigits] at hge
    rw [hd, List.length_cons]
    have : ¬ k + 1 ≤ rest.length := by
      intro hle
      have := Nat.pow_le_pow_right (n := 10) (by decide) hle
      omega
    omega

/-! ## the bytes of the output, and the literal they render -/

/-- the fraction digits printed for `fpN = N % 10^17`: zero-padded to 17 digits, trailing zeros stripped -/
def fracB (fpN : Nat) : Bytes := stripB (List.replicate (17 - (natDigits fpN).length) 48 ++ natDigits fpN)

theorem fracB_facts {fpN : Nat} (hlt : fpN < 10 ^ (16 + 1)) :
    Digits (fracB fpN) ∧ (fracB fpN).length ≤ 17 ∧ decNat (fracB fpN) * 10 ^ (17 - (fracB fpN).length) = fpN ∧
      (fracB fpN).getLast? ≠ some 48 := by
  have hDlen := natDigits_length_le hlt
  have hD : Digits (natDigits fpN) := (digits_iff_all _).mpr (natDigits_all_isDigit fpN)
  unfold fracB
  generalize hP : List.replicate (17 - (natDigits fpN).length) 48 ++ natDigits fpN = P
  have hPdig : Digits P := hP ▸ (digits_zeros _).append hD
  have hPlen : P.length = 17 := by
    rw [← hP, List.length_append, List.length_replicate]; omega
  have hPval : decNat P = fpN := by
    rw [← hP, decNat_append, decNat_zeros, ← digitsVal_eq_decNat, digitsVal_natDigits]; simp
  obtain ⟨f1, f2, f3⟩ := stripB_facts hPdig
  rw [hPlen] at f2 f3
  rw [hPval] at f3
  exact ⟨f1, f2, f3, stripB_getLast P⟩

/-- the model's characters, byte by byte -/
theorem fmtParts_strBytes (neg : Bool) (ip fpN : Nat) :
    strBytes (fmtParts neg ip fpN) =
      (if neg then [45] else []) ++ (natDigits ip ++ (if fracB fpN = [] then [] else 46 :: fracB fpN)) := by
  have hC : ∀ c ∈ List.replicate (17 - (toString fpN).toList.length) '0' ++ (toString fpN).toList, DigC c := by
    intro c hc
    rcases List.mem_append.mp hc with hc | hc
    · rw [List.eq_of_mem_replicate hc]; exact digC_char_zero
    · rw [toString_toList] at hc; exact toDigits_digC fpN c hc
  have hB : (stripZ (List.replicate (17 - (toString fpN).toList.length) '0' ++ (toString fpN).toList)).map encC =
      fracB fpN := by
    unfold fracB
    rw [stripZ_map _ hC, List.map_append, List.map_replicate, encC_char_zero, toString_toList, natDigits_eq_map,
      List.length_map]
  have hfp : ∀ c ∈ stripZ _, DigC c := fun c hc => hC c (stripZ_mem hc)
  unfold fmtParts
  show strBytes (_ ++ _ ++ if (stripZ _).isEmpty then "" else "." ++ String.ofList (stripZ _)) = _
  generalize stripZ (List.replicate (17 - (toString fpN).toList.length) '0' ++ (toString fpN).toList) = fp at hB hfp
  rw [strBytes_append, strBytes_append, strBytes_toString, List.append_assoc, ← hB]
  congr 1
  · cases neg with
    | false => exact strBytes_empty
    | true => exact strBytes_minus
  · congr 1
    cases fp with
    | nil => exact strBytes_empty
    | cons a t =>
      rw [List.map_cons, if_neg (List.cons_ne_nil _ _), ← List.map_cons]
      show strBytes ("." ++ String.ofList (a :: t)) = _
      rw [strBytes_append, strBytes_ofList_digC hfp, strBytes_dot]
      rfl

/-- the literal printed for the rounded integer `N` -/
def humanLit (neg : Bool) (N : Nat) (F : Bytes) : DecLit :=
  { sign := if neg then Sgn.minus else Sgn.none
    ip := natDigits (N / 10 ^ 17)
    frac := if F = [] then none else some F
    exp := none }

theorem humanLit_fp (neg : Bool) (N : Nat) (F : Bytes) : (humanLit neg N F).fp = F := by
  unfold DecLit.fp humanLit
  by_cases h : F = []
  · simp [h]
  · simp [h]

theorem humanLit_fracBytes (neg : Bool) (N : Nat) (F : Bytes) :
    (humanLit neg N F).fracBytes = if F = [] then [] else 46 :: F := by
  unfold DecLit.fracBytes humanLit
  by_cases h : F = []
  · simp [h]
  · simp [h]

theorem fmtF17Human_lit (neg : Bool) (m : Nat) (e : Int) :
    ∃ L : DecLit, L.Valid ∧ strBytes (Dbl.fmtF17Human (.fin neg m e)) = L.render ∧
      L.sign = (if neg then Sgn.minus else Sgn.none) ∧ L.exp = none ∧ L.fp.length ≤ 17 ∧
      L.mant * 10 ^ 17 = humanN m e * 10 ^ L.fp.length ∧
      L.ip = natDigits (humanN m e / 10 ^ 17) ∧
      decNat L.fp * 10 ^ (17 - L.fp.length) = humanN m e % 10 ^ 17 ∧
      L.fp.getLast? ≠ some 48 ∧ (L.frac = none ↔ L.fp = []) := by
  generalize hN : humanN m e = N
  obtain ⟨hFd, hFl, hFv, hnz⟩ := fracB_facts (fpN := N % 10 ^ 17) (Nat.mod_lt _ (Nat.pow_pos (by decide)))
  have hb := fmtParts_strBytes neg (N / 10 ^ 17) (N % 10 ^ 17)
  generalize fracB (N % 10 ^ 17) = F at *
  have hfp := humanLit_fp neg N F
  refine ⟨humanLit neg N F, ?_, ?_, rfl, rfl, ?_, ?_, rfl, ?_, ?_, ?_⟩
  · refine ⟨?_, ?_, Or.inl (natDigits_ne_nil _), ?_⟩
    · exact (digits_iff_all _).mpr (natDigits_all_isDigit _)
    · rw [hfp]; exact hFd
    · intro x hx; cases hx
  · rw [fmtF17Human_eq, hN]
    unfold fmtOf DecLit.render
    rw [hb, humanLit_fracBytes]
    have h1 : (humanLit neg N F).sign.bytes = if neg then [45] else [] := by
      cases neg <;> rfl
    have h2 : (humanLit neg N F).expBytes = [] := rfl
    rw [h1, h2, List.append_nil]
    rfl
  · rw [hfp]; exact hFl
  · rw [hfp]
    show decNat (natDigits (N / 10 ^ 17) ++ (humanLit neg N F).fp) * 10 ^ 17 = _
    rw [hfp, decNat_append, ← digitsVal_eq_decNat, digitsVal_natDigits]
    have hsplit : N = 10 ^ 17 * (N / 10 ^ 17) + N % 10 ^ 17 := (Nat.div_add_mod N (10 ^ 17)).symm
    have hpow : (10 : Nat) ^ 17 = 10 ^ F.length * 10 ^ (17 - F.length) := by
      rw [← Nat.pow_add]; congr 1; omega
    rw [← hFv] at hsplit
    generalize N / 10 ^ 17 = ip at *
    generalize decNat F = dF at *
    conv => rhs; rw [hsplit]
    rw [hpow]
    generalize (10 : Nat) ^ F.length = A
    generalize (10 : Nat) ^ (17 - F.length) = B
    rw [Nat.add_mul, Nat.add_mul]
    congr 1
    · ac_rfl
    · ac_rfl
  · rw [hfp]; exact hFv
  · rw [hfp]; exact hnz
  · rw [hfp]
    unfold humanLit
    by_cases h : F = []
    · simp [h]
    · simp [h]

end FR.C18f

import FR.Proofs.DisciplineBase
/-!
# The `CommandItem` discipline (`FR/Proofs/DisciplineBase.lean`): the list, set and sorted-set bodies, one lemma each
-/
namespace FR
namespace Cmd
variable {P : List CI → Prop}

/-! ## Lists -/

theorem setList_keeps (hP : CIs.UpdClosed P) {cis : List CI} (hs : P cis) (k : Nat) (l : List Bytes) :
    P (setList cis k l) := hP _ _ _ hs rfl rfl rfl rfl

theorem lindex_keeps : Body.Reader lindex := by
  intro P hP ctx args cis hs
  unfold lindex
  keeps_body

theorem linsert_keeps : Body.Disciplined linsert := by
  intro P hP ctx args cis hs
  have hcore0 := @setList_keeps P hP.upd
  unfold linsert
  keeps_body

theorem llen_keeps : Body.Reader llen := by
  intro P hP ctx args cis hs
  unfold llen
  keeps_body

theorem lpush_keeps : Body.Updates lpush := by
  intro P hP ctx args cis hs
  have hcore0 := @setList_keeps P hP
  unfold lpush
  keeps_body

theorem rpush_keeps : Body.Updates rpush := by
  intro P hP ctx args cis hs
  have hcore0 := @setList_keeps P hP
  unfold rpush
  keeps_body

theorem lpushx_keeps : Body.Updates lpushx := by
  intro P hP ctx args cis hs
  have hcore : ∀ ctx args cis, P cis → Out.Keeps P (lpush ctx args cis) := lpush_keeps P hP
  unfold lpushx
  keeps_body

theorem rpushx_keeps : Body.Updates rpushx := by
  intro P hP ctx args cis hs
  have hcore : ∀ ctx args cis, P cis → Out.Keeps P (rpush ctx args cis) := rpush_keeps P hP
  unfold rpushx
  keeps_body

theorem lrange_keeps : Body.Reader lrange := by
  intro P hP ctx args cis hs
  unfold lrange
  keeps_body

theorem lrem_keeps : Body.Disciplined lrem := by
  intro P hP ctx args cis hs
  have hcore0 := @setList_keeps P hP.upd
  unfold lrem
  keeps_body

theorem lset_keeps : Body.Disciplined lset := by
  intro P hP ctx args cis hs
  have hcore0 := @setList_keeps P hP.upd
  unfold lset
  keeps_body

theorem ltrim_keeps : Body.Disciplined ltrim := by
  intro P hP ctx args cis hs
  have hcore0 := @setList_keeps P hP.upd
  unfold ltrim
  keeps_body

theorem listPop_keeps (left : Bool) : Body.Updates (listPop left) := by
  intro P hP ctx args cis hs
  have hcore := @setList_keeps P hP
  unfold listPop
  keeps_body

theorem lpop_keeps : Body.Updates lpop := listPop_keeps true
theorem rpop_keeps : Body.Updates rpop := listPop_keeps false

theorem moveCore_keeps (hP : CIs.Closed P) {cis : List CI} (hs : P cis) (s d : Nat) (fl tl : Bool) :
    Out.Keeps P (moveCore cis s d fl tl) := by
  have hcore := @setList_keeps P hP.upd
  unfold moveCore
  keeps_body

theorem rpoplpush_keeps : Body.Disciplined rpoplpush := by
  intro P hP ctx args cis hs
  have hcore0 := @moveCore_keeps P hP
  unfold rpoplpush
  keeps_body

theorem lmove_keeps : Body.Disciplined lmove := by
  intro P hP ctx args cis hs
  have hcore0 := @moveCore_keeps P hP
  unfold lmove
  keeps_body

/-! ## Sets -/

theorem putSet_keeps (hP : CIs.UpdClosed P) {cis : List CI} (hs : P cis) (k : Nat) (s : List Bytes) :
    P (putSet cis k s) := hP _ _ _ hs rfl rfl rfl rfl

theorem saddCore_keeps (hP : CIs.UpdClosed P) {cis : List CI} (hs : P cis) (k : Nat) (ms : List Bytes) :
    P (saddCore cis k ms).1 := putSet_keeps hP hs _ _

theorem sadd_keeps : Body.Updates sadd := by
  intro P hP ctx args cis hs
  unfold sadd
  split
  · rename_i k ms
    have h := saddCore_keeps hP hs k (rawArgs ms)
    split
    rename_i heq
    rw [heq] at h
    keeps_close
  · keeps_close

theorem pfadd_keeps : Body.Disciplined pfadd := by
  intro P hP ctx args cis hs
  unfold pfadd
  split
  · rename_i k ms
    have h := saddCore_keeps hP.upd hs k (rawArgs ms)
    split
    rename_i heq
    rw [heq] at h
    keeps_close
  · keeps_close

theorem scard_keeps : Body.Reader scard := by
  intro P hP ctx args cis hs
  unfold scard
  keeps_body

theorem setopRead_keeps (op : SetOp) : Body.Reader (setopRead op) := by
  intro P hP ctx args cis hs
  unfold setopRead
  keeps_body

theorem setopStore_keeps (op : SetOp) : Body.Disciplined (setopStore op) := by
  intro P hP ctx args cis hs
  unfold setopStore
  keeps_body

theorem sdiff_keeps : Body.Reader sdiff := setopRead_keeps _
theorem sinter_keeps : Body.Reader sinter := setopRead_keeps _
theorem sunion_keeps : Body.Reader sunion := setopRead_keeps _
theorem sdiffstore_keeps : Body.Disciplined sdiffstore := setopStore_keeps _
theorem sinterstore_keeps : Body.Disciplined sinterstore := setopStore_keeps _
theorem sunionstore_keeps : Body.Disciplined sunionstore := setopStore_keeps _

theorem sismember_keeps : Body.Reader sismember := by
  intro P hP ctx args cis hs
  unfold sismember
  keeps_body

theorem smismember_keeps : Body.Reader smismember := by
  intro P hP ctx args cis hs
  unfold smismember
  keeps_body

theorem smembers_keeps : Body.Reader smembers := by
  intro P hP ctx args cis hs
  unfold smembers
  keeps_body

theorem smove_keeps : Body.Disciplined smove := by
  intro P hP ctx args cis hs
  have hcore0 := @putSet_keeps P hP.upd
  unfold smove
  keeps_body

theorem srandmember_keeps : Body.Reader srandmember := by
  intro P hP ctx args cis hs
  unfold srandmember
  keeps_body

theorem spop_keeps : Body.Disciplined spop := by
  intro P hP ctx args cis hs
  have hcore := @putSet_keeps P hP.upd
  unfold spop
  keeps_body

theorem srem_keeps : Body.Disciplined srem := by
  intro P hP ctx args cis hs
  have hcore0 := @putSet_keeps P hP.upd
  unfold srem
  keeps_body

theorem sscan_keeps : Body.Reader sscan := by
  intro P hP ctx args cis hs
  unfold sscan
  keeps_body

theorem pfcount_keeps : Body.Reader pfcount := by
  intro P hP ctx args cis hs
  unfold pfcount
  keeps_body

theorem pfmerge_keeps : Body.Updates pfmerge := by
  intro P hP ctx args cis hs
  unfold pfmerge
  keeps_body

/-! ## Sorted sets -/

theorem putZ_keeps (hP : CIs.UpdClosed P) {cis : List CI} (hs : P cis) (k : Nat) (z : ZSet) :
    P (putZ cis k z) := hP _ _ _ hs rfl rfl rfl rfl

theorem zincrbyCore_keeps (hP : CIs.UpdClosed P) (ctx : Ctx) {cis : List CI} (hs : P cis) (k : Nat) (incr : Dbl) (m : Bytes) :
    Out.Keeps P (zincrbyCore ctx cis k incr m) := by
  have hcore := @putZ_keeps P hP
  unfold zincrbyCore
  keeps_body

theorem zadd_keeps : Body.Updates zadd := by
  intro P hP ctx args cis hs
  have hcore0 := @putZ_keeps P hP
  have hcore1 := @zincrbyCore_keeps P hP
  unfold zadd
  keeps_body

theorem zcard_keeps : Body.Reader zcard := by
  intro P hP ctx args cis hs
  unfold zcard
  keeps_body

theorem zcount_keeps : Body.Reader zcount := by
  intro P hP ctx args cis hs
  unfold zcount
  keeps_body

theorem zincrby_keeps : Body.Disciplined zincrby := by
  intro P hP ctx args cis hs
  have hcore0 := @zincrbyCore_keeps P hP.upd
  unfold zincrby
  keeps_body

theorem zlexcount_keeps : Body.Reader zlexcount := by
  intro P hP ctx args cis hs
  unfold zlexcount
  keeps_body

theorem zrangeGen_keeps (rev : Bool) : Body.Reader (zrangeGen rev) := by
  intro P hP ctx args cis hs
  unfold zrangeGen
  keeps_body

theorem zrange_keeps : Body.Reader zrange := zrangeGen_keeps _
theorem zrevrange_keeps : Body.Reader zrevrange := zrangeGen_keeps _

theorem zrangebylexGen_keeps (rev : Bool) (mn : LexB) (mne : Bool) (mx : LexB) (mxe : Bool) (k : Nat)
    (opts : List Bytes) {cis : List CI} (hs : P cis) :
    Out.Keeps P (zrangebylexGen rev mn mne mx mxe k opts cis) := by
  unfold zrangebylexGen
  keeps_body

theorem zrangebylex_keeps : Body.Reader zrangebylex := by
  intro P hP ctx args cis hs
  have hcore0 := @zrangebylexGen_keeps P
  unfold zrangebylex
  keeps_body

theorem zrevrangebylex_keeps : Body.Reader zrevrangebylex := by
  intro P hP ctx args cis hs
  have hcore0 := @zrangebylexGen_keeps P
  unfold zrevrangebylex
  keeps_body

theorem zrangebyscoreGen_keeps (rev : Bool) (ctx : Ctx) (mn : Dbl) (mne : Bool) (mx : Dbl) (mxe : Bool)
    (k : Nat) (opts : List Bytes) {cis : List CI} (hs : P cis) :
    Out.Keeps P (zrangebyscoreGen rev ctx mn mne mx mxe k opts cis) := by
  unfold zrangebyscoreGen
  keeps_body

theorem zrangebyscore_keeps : Body.Reader zrangebyscore := by
  intro P hP ctx args cis hs
  have hcore0 := @zrangebyscoreGen_keeps P
  unfold zrangebyscore
  keeps_body

theorem zrevrangebyscore_keeps : Body.Reader zrevrangebyscore := by
  intro P hP ctx args cis hs
  have hcore0 := @zrangebyscoreGen_keeps P
  unfold zrevrangebyscore
  keeps_body

theorem zrank_keeps : Body.Reader zrank := by
  intro P hP ctx args cis hs
  unfold zrank
  keeps_body

theorem zrevrank_keeps : Body.Reader zrevrank := by
  intro P hP ctx args cis hs
  unfold zrevrank
  keeps_body

theorem zremCore_keeps (hP : CIs.Closed P) {cis : List CI} (hs : P cis) (k : Nat) (ms : List Bytes) :
    Out.Keeps P (zremCore cis k ms) := by
  have hcore := @putZ_keeps P hP.upd
  unfold zremCore
  keeps_body

theorem zrem_keeps : Body.Disciplined zrem := by
  intro P hP ctx args cis hs
  have hcore0 := @zremCore_keeps P hP
  unfold zrem
  keeps_body

theorem zremrangebylex_keeps : Body.Disciplined zremrangebylex := by
  intro P hP ctx args cis hs
  have hcore0 := @zremCore_keeps P hP
  unfold zremrangebylex
  keeps_body

theorem zremrangebyscore_keeps : Body.Disciplined zremrangebyscore := by
  intro P hP ctx args cis hs
  have hcore0 := @zremCore_keeps P hP
  unfold zremrangebyscore
  keeps_body

theorem zremrangebyrank_keeps : Body.Disciplined zremrangebyrank := by
  intro P hP ctx args cis hs
  have hcore0 := @zremCore_keeps P hP
  unfold zremrangebyrank
  keeps_body

theorem zscan_keeps : Body.Reader zscan := by
  intro P hP ctx args cis hs
  unfold zscan
  keeps_body

theorem zscore_keeps : Body.Reader zscore := by
  intro P hP ctx args cis hs
  unfold zscore
  keeps_body

end Cmd
end FR

import FR.Proofs.ScanSys
import FR.Proofs.Request
import FR.Proofs.Discipline
import FR.Proofs.Emptied
/-!
# The views of the key space at system level (C09)

On a connection in normal mode, with no hypothesis on pending exceptions:
* §1–3 DBSIZE, KEYS and RANDOMKEY (`len(self._db)`, `list(self._db)`, `random.choice(list(self._db.keys()))`: each removes
  the expired entries first) through `_run_command` and `_process_command`.  DBSIZE and KEYS in closed form; the body of
  RANDOMKEY is shown to satisfy the relation `Randomkey`, which is handed on.
* §4–5 `Answered`: what one request did; the view requests and an arbitrary regular command, answered.
* §6 the live view `purgeAt t D` at one and at several clock readings.
* §7 a key under which nothing is stored (`Absent`, `FR/Proofs/Emptied.lean`) is not live at any clock reading.
-/
namespace FR.C09v
open FR FR.M FR.Cmd FR.ScanSys
set_option linter.unusedSimpArgs false
set_option linter.unusedVariables false

/-! ## 1. signatures -/

def dbsizeSig : Sig := ⟨"dbsize", [], [], false, 0, 0, false⟩
def keysSig : Sig := ⟨"keys", [.bytes], [], false, 1, 0, false⟩
def randomkeySig : Sig := ⟨"randomkey", [], [], false, 0, 0, false⟩

theorem find_dbsize : SigTable.find "dbsize" = some dbsizeSig := by decide
theorem find_keys : SigTable.find "keys" = some keysSig := by decide
theorem find_randomkey : SigTable.find "randomkey" = some randomkeySig := by decide

/-- `Signature.check_arity` accepts at least the fixed arguments, and exactly those when nothing repeats -/
theorem checkArity_le {s : Sig} {n : Nat} (h : s.checkArity n = true) : s.fixed.length ≤ n := by
  unfold Sig.checkArity at h
  split at h
  · simp only [Bool.not_eq_true', Bool.or_eq_false_iff, decide_eq_false_iff_not] at h
    omega
  · rename_i hn
    simp only [bne_iff_ne, ne_eq, Decidable.not_not] at hn
    omega

theorem checkArity_fixed {s : Sig} (hr : s.rep = []) {n : Nat} (h : s.checkArity n = true) : n = s.fixed.length := by
  unfold Sig.checkArity at h
  split at h
  · simp [hr] at h
  · rename_i hn
    simpa using hn

theorem apply_dbsize (db : Db) : dbsizeSig.apply [] db = (db, .ok (.ok [] [])) := rfl
theorem apply_randomkey (db : Db) : randomkeySig.apply [] db = (db, .ok (.ok [] [])) := rfl
theorem apply_keys (p : Bytes) (db : Db) : keysSig.apply [p] db = (db, .ok (.ok [.raw p] [])) := rfl


/-! ## 2. the three key-less special commands through `_run_command` -/

theorem writebackAll_nil (d : Nat) (s : Sys) : writebackAll d [] s = ((), s) := rfl

/-- DBSIZE is `len(self._db)`, and `Database.__len__` removes the expired entries first -/
theorem special_dbsize (inner : Inner) (mode : Mode) (c : Nat) (s : Sys) :
    special inner mode c "dbsize" [] [] s =
      (.ok (some (.int ((Db.purge (s.dbAt (s.conn c).db)).dict.map Prod.fst).length), []),
        s.setDbS (s.conn c).db (Db.purge (s.dbAt (s.conn c).db))) := by
  unfold special
  simp only [bind, StateT.bind, getConn_run, liveKeys_run]
  rfl

theorem special_keys (inner : Inner) (mode : Mode) (c : Nat) (p : Bytes) (s : Sys) :
    special inner mode c "keys" [.raw p] [] s =
      (.ok (some (Reply.bulks (if p = [42] then (Db.purge (s.dbAt (s.conn c).db)).dict.map Prod.fst
          else ((Db.purge (s.dbAt (s.conn c).db)).dict.map Prod.fst).filter (Glob.globMatch p))), []),
        s.setDbS (s.conn c).db (Db.purge (s.dbAt (s.conn c).db))) := by
  unfold special
  simp only [bind, StateT.bind, getConn_run, liveKeys_run, Cmd.rawArgs]
  by_cases hp : p = [42]
  · subst hp; rfl
  · have : (p == [42]) = false := by simpa using hp
    simp only [this, hp, if_false, Bool.false_eq_true]
    rfl


theorem fault_run (msg : String) (s : Sys) : M.fault msg s = ((), s.faultS (some msg)) := rfl

theorem special_randomkey (inner : Inner) (mode : Mode) (c : Nat) (s : Sys) :
    special inner mode c "randomkey" [] [] s = randomkeyCmd (s.conn c).db [] s := by
  unfold special
  simp only [bind, StateT.bind, getConn_run]

/-- what RANDOMKEY answers for the live keys `K` and the recorded hints -/
def randomkeyAnswer (K : List Bytes) (picks : List (List Bytes)) : Reply :=
  if K.isEmpty then .nil
  else match picks with
    | [x] :: _ => if K.contains x then .bulk x else .err (strBytes "model: bad hint")
    | _ => .err (strBytes "model: bad hint")

def randomkeyLegal (K : List Bytes) (picks : List (List Bytes)) : Bool :=
  K.isEmpty || (match picks with | [x] :: _ => K.contains x | _ => false)

/-- the purge of the selected database: what `list(db)` leaves behind -/
def purgeSel (s : Sys) (d : Nat) : Sys := s.setDbS d (Db.purge (s.dbAt d))

def liveKeysOf (s : Sys) (d : Nat) : List Bytes := (Db.purge (s.dbAt d)).dict.map Prod.fst

/-- What RANDOMKEY (`random.choice(keys)`, replayed from the recorded hint) can do once the database is purged (`s1`; `K`
its live keys): nil when there is no live key; the recorded choice, consumed, when it is a single live key; otherwise
the model's own error and a model fault -/
inductive Randomkey (K : List Bytes) (s1 : Sys) : Reply → Sys → Prop
  | empty : K = [] → Randomkey K s1 .nil s1
  | hit (x : Bytes) (rest : List (List Bytes)) : s1.picks = [x] :: rest → x ∈ K →
      Randomkey K s1 (.bulk x) { s1 with picks := rest }
  | bad (m : String) : K ≠ [] → (∀ x rest, s1.picks = [x] :: rest → x ∉ K) →
      Randomkey K s1 (.err (strBytes "model: bad hint")) ((s1.faultS (some m)).faultS (some "model: bad hint"))

/-- the one walk through the body `randomkeyCmd` -/
theorem afterSpecial_randomkey (d : Nat) (s : Sys) :
    ∃ r s', afterSpecial d [] (randomkeyCmd d []) s = (some r, s') ∧ Randomkey (liveKeysOf s d) (purgeSel s d) r s' := by
  have hp : (purgeSel s d).picks = s.picks := rfl
  have hbad : String.startsWith "model: bad hint" "model:" = true := by decide +kernel
  unfold afterSpecial randomkeyCmd liveKeysOf
  simp only [bind, StateT.bind, liveKeys_run]
  cases hK : (Db.purge (s.dbAt d)).dict.map Prod.fst with
  | nil => exact ⟨_, _, rfl, .empty rfl⟩
  | cons a as =>
    have hne : a :: as ≠ [] := List.cons_ne_nil _ _
    simp only [List.isEmpty_cons, Bool.false_eq_true, if_false, MonadState.get, getThe, MonadStateOf.get, StateT.get,
      bind, StateT.bind, pure, StateT.pure]
    rw [show (s.setDbS d (Db.purge (s.dbAt d))).picks = s.picks from rfl]
    have bad : ∀ m, (∀ x rest, s.picks = [x] :: rest → x ∉ a :: as) →
        Randomkey (a :: as) (purgeSel s d) (.err (strBytes "model: bad hint"))
          (((purgeSel s d).faultS (some m)).faultS (some "model: bad hint")) :=
      fun m h => .bad m hne (fun x rest hx => h x rest (hp.symm.trans hx))
    have nohit : ∀ {p : List (List Bytes)}, s.picks = p → (∀ x rest, p ≠ [x] :: rest) →
        ∀ x rest, s.picks = [x] :: rest → x ∉ a :: as := fun h hn x rest hx => absurd (h.symm.trans hx) (hn x rest)
    rcases hpk : s.picks with _ | ⟨_ | ⟨x, _ | ⟨y, ys⟩⟩, rest⟩
    · refine ⟨?_, ?_, ?_, ?_⟩
      rotate_left 2
      · simp only [StateT.bind, StateT.pure, fault_run, bind, pure, hbad, if_true, writebackAll_nil]; rfl
      · exact bad _ (nohit hpk (by intro _ _ h; cases h))
    · refine ⟨?_, ?_, ?_, ?_⟩
      rotate_left 2
      · simp only [StateT.bind, StateT.pure, fault_run, bind, pure, hbad, if_true, writebackAll_nil]; rfl
      · exact bad _ (nohit hpk (by intro _ _ h; cases h))
    · by_cases hx : (a :: as).contains x = true
      · refine ⟨?_, ?_, ?_, ?_⟩
        rotate_left 2
        · simp only [hx, if_true]; rfl
        · exact .hit x rest (hp.trans hpk) (List.contains_iff_mem.1 hx)
      · refine ⟨?_, ?_, ?_, ?_⟩
        rotate_left 2
        · simp only [hx, if_false, Bool.false_eq_true, StateT.bind, StateT.pure, fault_run, bind, pure, hbad, if_true,
            writebackAll_nil]; rfl
        · exact bad _ (fun x' rest' h => by
            rw [hpk] at h; cases h; exact fun hm => hx (List.contains_iff_mem.2 hm))
    · refine ⟨?_, ?_, ?_, ?_⟩
      rotate_left 2
      · simp only [StateT.bind, StateT.pure, fault_run, bind, pure, hbad, if_true, writebackAll_nil]; rfl
      · exact bad _ (nohit hpk (by intro _ _ h; cases h))


theorem runCommand_keyless (mode : Mode) (c : Nat) (sig : Sig) (raw : List Bytes) (a : List Arg) (s : Sys)
    (hns : scriptNames.contains sig.name = false) (hreg : Cmd.regular sig.name = none)
    (hap : ∀ db, sig.apply raw db = (db, .ok (.ok a []))) (hpub : (s.conn c).pubsub = 0) :
    runCommand mode c sig raw false s =
      afterSpecial (s.conn c).db [] (special (runInner mode c) mode c sig.name a []) s := by
  have hr := Sys.refuses_of_unsubscribed (s := s) (c := c) sig hpub
  unfold runCommand
  rw [hns]
  refine (runWith_keyless _ mode c sig raw false s hreg hr (hap _)).trans ?_
  rw [(runGate_of_not_refused false hr).trans (runGate_direct sig)]

theorem afterSpecial_ok (d : Nat) (x : M SpecialOut) (s s1 : Sys) (r : Reply)
    (h : x s = (.ok (some r, []), s1)) : afterSpecial d [] x s = (some r, s1) := by
  unfold afterSpecial
  simp only [bind, StateT.bind, h]
  rfl

theorem Randomkey.frame {K : List Bytes} {s1 s' : Sys} {r : Reply} (h : Randomkey K s1 r s') :
    RunFrame s1 s' ∧ s'.srv.dbs = s1.srv.dbs := by
  cases h with
  | empty => exact ⟨.refl _, rfl⟩
  | hit => exact ⟨⟨rfl, rfl, rfl, fun _ _ => rfl, fun _ => .rfl, fun _ => rfl⟩, rfl⟩
  | bad => rw [Sys.faultS_eq, Sys.faultS_eq]; exact ⟨⟨rfl, rfl, rfl, fun _ _ => rfl, fun _ => .rfl, fun _ => rfl⟩, rfl⟩


theorem runCommand_dbsize (mode : Mode) (c : Nat) (s : Sys) (hpub : (s.conn c).pubsub = 0) :
    runCommand mode c dbsizeSig [] false s =
      (some (.int (liveKeysOf s (s.conn c).db).length), purgeSel s (s.conn c).db) := by
  rw [runCommand_keyless mode c dbsizeSig [] [] s (by decide) rfl apply_dbsize hpub]
  exact afterSpecial_ok _ _ _ _ _ (special_dbsize _ mode c s)

theorem runCommand_keys (mode : Mode) (c : Nat) (p : Bytes) (s : Sys) (hpub : (s.conn c).pubsub = 0) :
    runCommand mode c keysSig [p] false s =
      (some (Reply.bulks (if p = [42] then liveKeysOf s (s.conn c).db
          else (liveKeysOf s (s.conn c).db).filter (Glob.globMatch p))), purgeSel s (s.conn c).db) := by
  rw [runCommand_keyless mode c keysSig [p] [.raw p] s (by decide) rfl (apply_keys p) hpub]
  exact afterSpecial_ok _ _ _ _ _ (special_keys _ mode c p s)

theorem runCommand_randomkey (mode : Mode) (c : Nat) (s : Sys) (hpub : (s.conn c).pubsub = 0) :
    ∃ r s', runCommand mode c randomkeySig [] false s = (some r, s') ∧
      Randomkey (liveKeysOf s (s.conn c).db) (purgeSel s (s.conn c).db) r s' := by
  have : special (runInner mode c) mode c randomkeySig.name [] [] s = randomkeyCmd (s.conn c).db [] s :=
    special_randomkey _ mode c s
  rw [runCommand_keyless mode c randomkeySig [] [] s (by decide) rfl apply_randomkey hpub,
    afterSpecial_congr _ _ _ _ _ this]
  exact afterSpecial_randomkey _ s

/-! ## 3. the same through `_process_command` -/

/-- the end of `_process_command`: queue the reply, mark the connection dead -/
def finishS (s1 : Sys) (c : Nat) (r : Reply) : Sys := markDead (s1.emitS c r) c

/-- `R` and `T`: reply and state of `_run_command` as functions of the state after the clock refresh and the selected
database -/
theorem processCommand_of_runCommand (mode : Mode) (c : Nat) (nameB : Bytes) (args : List Bytes) (sig : Sig)
    (R : Sys → Nat → Reply) (T : Sys → Nat → Sys)
    (hrun : ∀ s : Sys, (s.conn c).pubsub = 0 →
      runCommand mode c sig args false s = (some (R s (s.conn c).db), T s (s.conn c).db))
    (s : Sys) (hname : lookupSig nameB = some sig) (har : sig.checkArity args.length = true)
    (htx : (s.conn c).tx = none) (hpub : (s.conn c).pubsub = 0) :
    processCommand mode c (nameB :: args) s =
      ((), finishS (T (prologue s) (s.conn c).db) c (R (prologue s) (s.conn c).db)) := by
  rw [processCommand_answered mode c args s hname har htx
    (hrun _ ((s.prologue_conn c Conn.pubsub (fun _ => rfl)).trans hpub)), s.prologue_conn c Conn.db (fun _ => rfl)]
  rfl

/-! ## 4. reading the closed forms -/

def connView (x : Conn) : Nat × Option (List (String × List Bytes)) × Nat × Bool := (x.db, x.tx, x.pubsub, x.closed)

theorem connView_cleared (x : Conn) : connView x.cleared = connView x := rfl

theorem faultS_picks (s : Sys) (f : Option String) : (s.faultS f).picks = s.picks := by rw [Sys.faultS_eq]

theorem faultS_none (s : Sys) : s.faultS none = s := rfl

theorem faultS_some_ne_none (s : Sys) (m : String) : (s.faultS (some m)).fault ≠ none := by
  rw [Sys.faultS_eq]
  cases s.fault <;> simp

theorem afterRegular_fault (s : Sys) (d : Nat) (o : RunOut) (h : o.fault = none) :
    (s.afterRegular d o).fault = s.fault := by
  rw [Sys.afterRegular_eq, h]
  cases s.fault <;> rfl

/-- What one request did: one reply `r` queued for the sender `c`; the selected dictionary became `D'`, no other
database changed; the clock shows the reading `t` the request took; no exception; the connection is in normal mode on
the same database. -/
structure Answered (s s' : Sys) (c : Nat) (t : Int) (r : Reply) (D' : Dict) : Prop where
  out : s'.out = (c, r) :: s.out
  dbs : s'.srv.dbs = s.srv.dbs.set (s.conn c).db D'
  time : s'.srv.time = t
  crashed : s'.crashed = s.crashed
  db : (s'.conn c).db = (s.conn c).db
  tx : (s'.conn c).tx = none
  pubsub : (s'.conn c).pubsub = 0
  closed : (s'.conn c).closed = false

theorem _root_.FR.Ran.answered {s s' : Sys} {c : Nat} {r : Reply} {D' : Dict} (h : Ran s s' c r D')
    (htx : (s.conn c).tx = none) (hpub : (s.conn c).pubsub = 0) (hcl : (s.conn c).closed = false) :
    Answered s s' c (reading s) r D' :=
  ⟨by rw [h.out, hcl]; rfl, h.dbs, h.time, h.crashed, h.field Conn.db (fun _ => rfl) c,
    (h.field Conn.tx (fun _ => rfl) c).trans htx, (h.field Conn.pubsub (fun _ => rfl) c).trans hpub,
    (h.field Conn.closed (fun _ => rfl) c).trans hcl⟩

theorem purgeSel_prologue_dbs (s : Sys) (d : Nat) :
    (purgeSel (prologue s) d).srv.dbs = s.srv.dbs.set d (purgeAt (reading s) (s.srv.dbs.getD d [])) := by
  unfold purgeSel Sys.setDbS
  rw [prologue_dbAt, prologue_dbs]
  rfl

theorem liveKeysOf_prologue (s : Sys) (d : Nat) :
    liveKeysOf (prologue s) d = (purgeAt (reading s) (s.srv.dbs.getD d [])).map Prod.fst := by
  unfold liveKeysOf
  rw [prologue_dbAt]
  rfl


/-! ## 5. the view requests, answered -/

theorem ctxAt_time (s : Sys) (c : Nat) : (ctxAt s c).time = (viewAt s c).time := by
  show (prologue s).srv.time = reading s
  exact prologue_time s

theorem purged_answered {s : Sys} {c : Nat} (r : Reply) (htx : (s.conn c).tx = none)
    (hpub : (s.conn c).pubsub = 0) (hcl : (s.conn c).closed = false) :
    Answered s (finishS (purgeSel (prologue s) (s.conn c).db) c r) c (reading s) r
      (purgeAt (reading s) (s.srv.dbs.getD (s.conn c).db [])) ∧
    (finishS (purgeSel (prologue s) (s.conn c).db) c r).fault = (prologue s).fault := by
  refine ⟨(Ran.of_run (r := r) (RunFrame.setDbS s.prologue _ _) (purgeSel_prologue_dbs s _)).answered htx hpub hcl, ?_⟩
  exact afterRun_proj (·.fault) (fun _ _ _ => rfl) c r _

theorem dbsize_answered (mode : Mode) (c : Nat) (nameB : Bytes) (s : Sys)
    (hname : lookupSig nameB = some dbsizeSig) (htx : (s.conn c).tx = none) (hpub : (s.conn c).pubsub = 0)
    (hcl : (s.conn c).closed = false) :
    Answered s (processCommand mode c [nameB] s).2 c (reading s)
      (.int ((purgeAt (reading s) (s.srv.dbs.getD (s.conn c).db [])).map Prod.fst).length)
      (purgeAt (reading s) (s.srv.dbs.getD (s.conn c).db [])) ∧
    (processCommand mode c [nameB] s).2.fault = (prologue s).fault := by
  rw [processCommand_of_runCommand mode c nameB [] dbsizeSig (fun s d => .int (liveKeysOf s d).length) purgeSel
    (runCommand_dbsize mode c) s hname (by decide) htx hpub, liveKeysOf_prologue]
  exact purged_answered _ htx hpub hcl

theorem keys_answered (mode : Mode) (c : Nat) (nameB p : Bytes) (s : Sys)
    (hname : lookupSig nameB = some keysSig) (htx : (s.conn c).tx = none) (hpub : (s.conn c).pubsub = 0)
    (hcl : (s.conn c).closed = false) :
    Answered s (processCommand mode c [nameB, p] s).2 c (reading s)
      (Reply.bulks (if p = [42] then (purgeAt (reading s) (s.srv.dbs.getD (s.conn c).db [])).map Prod.fst
        else ((purgeAt (reading s) (s.srv.dbs.getD (s.conn c).db [])).map Prod.fst).filter (Glob.globMatch p)))
      (purgeAt (reading s) (s.srv.dbs.getD (s.conn c).db [])) ∧
    (processCommand mode c [nameB, p] s).2.fault = (prologue s).fault := by
  rw [processCommand_of_runCommand mode c nameB [p] keysSig
    (fun s d => Reply.bulks (if p = [42] then liveKeysOf s d else (liveKeysOf s d).filter (Glob.globMatch p)))
    purgeSel (runCommand_keys mode c p) s hname (by rfl) htx hpub, liveKeysOf_prologue]
  exact purged_answered _ htx hpub hcl

/-- `sR`: the state `_run_command` left; the state after the request differs from it in the reply queue only -/
theorem randomkey_answered (mode : Mode) (c : Nat) (nameB : Bytes) (s : Sys)
    (hname : lookupSig nameB = some randomkeySig) (htx : (s.conn c).tx = none) (hpub : (s.conn c).pubsub = 0)
    (hcl : (s.conn c).closed = false) :
    ∃ r sR, Randomkey ((purgeAt (reading s) (s.srv.dbs.getD (s.conn c).db [])).map Prod.fst)
        (purgeSel (prologue s) (s.conn c).db) r sR ∧
      Answered s (processCommand mode c [nameB] s).2 c (reading s) r
        (purgeAt (reading s) (s.srv.dbs.getD (s.conn c).db [])) ∧
      (processCommand mode c [nameB] s).2.picks = sR.picks ∧ (processCommand mode c [nameB] s).2.fault = sR.fault := by
  obtain ⟨r, sR, hrun, ho⟩ := runCommand_randomkey mode c (prologue s)
    ((s.prologue_conn c Conn.pubsub (fun _ => rfl)).trans hpub)
  have hdb : ((prologue s).conn c).db = (s.conn c).db := s.prologue_conn c Conn.db (fun _ => rfl)
  rw [hdb, liveKeysOf_prologue] at ho
  rw [processCommand_answered mode c [] s hname (by decide) htx hrun]
  obtain ⟨hf, hd⟩ := ho.frame
  exact ⟨r, sR, ho, (Ran.of_run ((RunFrame.setDbS s.prologue _ _).trans hf)
    (hd.trans (purgeSel_prologue_dbs s _))).answered htx hpub hcl,
    afterRun_proj (·.picks) (fun _ _ _ => rfl) c r sR, afterRun_proj (·.fault) (fun _ _ _ => rfl) c r sR⟩

theorem scan_answered (mode : Mode) (c : Nat) (nameB cb : Bytes) (opts : List Bytes) (s : Sys)
    (hname : lookupSig nameB = some scanSig) (htx : (s.conn c).tx = none) (hpub : (s.conn c).pubsub = 0)
    (hcl : (s.conn c).closed = false) :
    Answered s (processCommand mode c (nameB :: cb :: opts) s).2 c (reading s) (scanAnswer (viewAt s c) cb opts)
      (if scanReaches cb opts then purgeAt (reading s) (s.srv.dbs.getD (s.conn c).db [])
        else s.srv.dbs.getD (s.conn c).db []) := by
  rw [processCommand_scan mode c nameB cb opts s hname htx hpub]
  unfold scanStep afterScan
  rw [show scanAnswer ((prologue s).dbAt (s.conn c).db) cb opts = scanAnswer (viewAt s c) cb opts from
    congrArg (scanAnswer · cb opts) (prologue_dbAt s _)]
  cases scanReaches cb opts
  · exact (Ran.of_run (.refl _) ((prologue_dbs s).trans (set_getD_self ..).symm)).answered htx hpub hcl
  · exact (purged_answered _ htx hpub hcl).1

theorem regular_answered (mode : Mode) (c : Nat) (nameB : Bytes) (args : List Bytes) (sig : Sig) (body : Body)
    (s : Sys) (hname : lookupSig nameB = some sig) (hb : Cmd.regular sig.name = some body)
    (har : sig.checkArity args.length = true)
    (htx : (s.conn c).tx = none) (hpub : (s.conn c).pubsub = 0) (hcl : (s.conn c).closed = false) :
    Answered s (processCommand mode c (nameB :: args) s).2 c (reading s)
      (runRegular sig body (ctxAt s c) none args (viewAt s c)).reply
      (runRegular sig body (ctxAt s c) none args (viewAt s c)).db.dict :=
  (regular_ran mode c args s hname hb har htx hpub).answered htx hpub hcl

/-! ## 6. the live view at one and at several clock readings -/

theorem mem_purgeAt {t : Int} {D : Dict} {p : Bytes × Item} : p ∈ purgeAt t D ↔ p ∈ D ∧ LiveAt p.2 t := by
  unfold purgeAt
  rw [Db.purge_dict, List.mem_filter]
  simp only [Bool.not_eq_eq_eq_not, Bool.not_true]
  rw [expired_false_iff]

theorem purgeAt_eq_filter (t : Int) (D : Dict) : purgeAt t D = D.filter (fun p => !Db.expired ⟨D, t⟩ p.2) := rfl

theorem liveAt_mono {t t' : Int} (h : t ≤ t') {it : Item} (hl : LiveAt it t') : LiveAt it t :=
  fun e he => Int.le_trans h (hl e he)

theorem purgeAt_purgeAt_le {t t' : Int} (h : t ≤ t') (D : Dict) : purgeAt t' (purgeAt t D) = purgeAt t' D := by
  unfold purgeAt
  simp only [Db.purge_dict, List.filter_filter]
  apply List.filter_congr
  intro p _
  have e1 : Db.expired ⟨D.filter (fun p => !Db.expired ⟨D, t⟩ p.2), t'⟩ p.2 = Db.expired ⟨D, t'⟩ p.2 := rfl
  rw [e1]
  cases h1 : Db.expired ⟨D, t'⟩ p.2 with
  | true => rfl
  | false =>
    have := liveAt_mono h ((expired_false_iff D t' p.2).1 h1)
    rw [(expired_false_iff D t p.2).2 this]
    rfl

/-- lazy deletions made at reading `t` are invisible at every later reading -/
theorem reads_later {D D' : Dict} {t t' : Int} (h : t ≤ t') (hr : purgeAt t D' = purgeAt t D) :
    purgeAt t' D' = purgeAt t' D := by
  rw [← purgeAt_purgeAt_le h D', hr, purgeAt_purgeAt_le h D]

theorem live_def (D : Dict) (t : Int) (k : Bytes) : Db.live ⟨D, t⟩ k = (purgeAt t D).lookup k := rfl

theorem lookup_isSome_iff_mem_keys (l : Dict) (k : Bytes) : (l.lookup k).isSome = true ↔ k ∈ l.map Prod.fst := by
  rw [Option.isSome_iff_ne_none, Ne, ZSet.lookup_none_iff, Classical.not_not]

theorem mem_liveKeys_iff (D : Dict) (t : Int) (k : Bytes) :
    k ∈ (purgeAt t D).map Prod.fst ↔ (Db.live ⟨D, t⟩ k).isSome = true := by
  rw [live_def, lookup_isSome_iff_mem_keys]

theorem live_some_iff {D : Dict} (nd : NodupKeys D) (t : Int) (k : Bytes) (it : Item) :
    Db.live ⟨D, t⟩ k = some it ↔ (k, it) ∈ D ∧ LiveAt it t :=
  ⟨fun h => mem_purgeAt.1 (Db.lookup_some_mem (d := purgeAt t D) h),
    fun h => WatchSys.lookup_of_mem (Db.purge_nodup (db := ⟨D, t⟩) nd) (mem_purgeAt.2 h)⟩

theorem liveKeys_nodup {D : Dict} (nd : NodupKeys D) (t : Int) : ((purgeAt t D).map Prod.fst).Nodup :=
  Db.purge_nodup (db := ⟨D, t⟩) nd

theorem live_later {D : Dict} (nd : NodupKeys D) {t t' : Int} (h : t ≤ t') (k : Bytes) :
    Db.live ⟨D, t'⟩ k =
      match Db.live ⟨D, t⟩ k with
      | none => none
      | some it => if Db.expired ⟨D, t'⟩ it then none else some it := by
  rw [live_def, live_def, ← purgeAt_purgeAt_le h D]
  have nd' : NodupKeys (purgeAt t D) := Db.purge_nodup (db := ⟨D, t⟩) nd
  have := Db.lookup_filter (d := purgeAt t D) (fun p => !Db.expired ⟨purgeAt t D, t'⟩ p.2) k nd'
  show ((purgeAt t D).filter (fun p => !Db.expired ⟨purgeAt t D, t'⟩ p.2)).lookup k = _
  rw [this]
  cases (purgeAt t D).lookup k with
  | none => rfl
  | some it =>
    simp only
    have e : Db.expired ⟨purgeAt t D, t'⟩ it = Db.expired ⟨D, t'⟩ it := rfl
    rw [e]
    cases Db.expired ⟨D, t'⟩ it <;> rfl

theorem live_later_congr {D D' : Dict} (nd : NodupKeys D) (nd' : NodupKeys D') {t t' : Int} (h : t ≤ t')
    (hl : (fun k => Db.live ⟨D', t⟩ k) = fun k => Db.live ⟨D, t⟩ k) (k : Bytes) :
    Db.live ⟨D', t'⟩ k = Db.live ⟨D, t'⟩ k := by
  rw [live_later nd' h k, live_later nd h k, congrFun hl k]
  rfl

theorem runRegular_reads_of_readOnly (sig : Sig) (body : Body) (hb : NotifyKeys.Body.ReadOnly body) (ctx : Ctx)
    (gate : Option Err) (raw : List Bytes) {db : Db} (nd : NodupKeys db.dict) :
    Reads db (runRegular sig body ctx gate raw db).db := by
  have hr := Sig.apply_reads sig raw nd
  rcases runRegular_out sig body ctx gate raw db with ⟨hd, _⟩ | ⟨args, cis, cis', ha, hc, hd, _⟩
  · exact hd ▸ hr
  · have hk := Sig.apply_clean sig raw db ha
    have hcis : cis' = cis := by
      rcases hc with ⟨h, _⟩ | ⟨o, ho, h, _⟩
      · exact h
      · exact h.trans (hb ctx args cis o ho)
    rw [hd, hcis, writebackPure_clean hk]
    exact hr

theorem reads_purgeAt {D D' : Dict} {t : Int} (h : Reads ⟨D, t⟩ ⟨D', t⟩) : purgeAt t D' = purgeAt t D :=
  congrArg Db.dict h.eq


/-! ## 7. a key under which nothing is stored -/

theorem absent_not_live {D : Dict} {k : Bytes} (h : Absent D k) (t : Int) : Db.live ⟨D, t⟩ k = none := by
  rw [live_def, Db.lookup_none_iff]
  intro q hq
  exact h q (mem_purgeAt.1 hq).1

end FR.C09v

import FR.Glob.Redis
/-!
# The compiled glob matcher agrees with Redis's `stringmatchlen` (C16)

`nextAtom` is one round of the loop of `compile_pattern`; the class scanner of `compile` and the one of Redis read the same
bytes and accept the same byte (`classAtom_snd`, `classAtom_matches`).  With these, `matchA (compile p)` and `rglob p`
are compared by induction on pattern and subject (`matchA_compile_eq_rtail`); `FR/Props/C16.lean` states the result.
-/
namespace FR.Glob

theorem matchA_nil (s : B) : matchA [] s = s.isEmpty := matchA.eq_1 s

theorem matchA_star_nil (as : List Atom) : matchA (.star :: as) [] = matchA as [] := by
  rw [matchA.eq_2]; simp

theorem matchA_star_cons (as : List Atom) (c : UInt8) (t : B) :
    matchA (.star :: as) (c :: t) = (matchA as (c :: t) || matchA (.star :: as) t) :=
  matchA.eq_3 as c t

theorem matchA_cons_nil (a : Atom) (as : List Atom) (h : a ≠ .star) :
    matchA (a :: as) [] = false := matchA.eq_4 a as h

theorem matchA_cons_cons (a : Atom) (as : List Atom) (c : UInt8) (t : B) (h : a ≠ .star) :
    matchA (a :: as) (c :: t) = (a.matches1 c && matchA as t) := matchA.eq_5 a as c t h

theorem matchA_star_only (s : B) : matchA [.star] s = true := by
  induction s with
  | nil => rw [matchA_star_nil, matchA_nil]; rfl
  | cons c t ih => rw [matchA_star_cons, ih]; simp

theorem matchA_star_star (as : List Atom) (s : B) :
    matchA (.star :: .star :: as) s = matchA (.star :: as) s := by
  induction s with
  | nil => rw [matchA_star_nil]
  | cons c t ih =>
    rw [matchA_star_cons, ih, matchA_star_cons (as := as)]
    cases matchA as (c :: t) <;> cases matchA (.star :: as) t <;> rfl

/-- one round of the loop of `compile_pattern`: the atom emitted for a pattern that starts with `c`, and the rest of the
pattern the loop goes on with -/
def nextAtom (c : UInt8) (rest : B) : Atom × B :=
  if c == cQ then (.any, rest)
  else if c == cStar then (.star, rest)
  else if c == cBS then
    match rest with
    | [] => (.lit cBS, [])
    | x :: rest' => (.lit x, rest')
  else if c == cLB then classAtom rest
  else (.lit c, rest)

theorem compile_cons (c : UInt8) (rest : B) :
    compile (c :: rest) = (nextAtom c rest).1 :: compile (nextAtom c rest).2 := by
  show _ = (fun p : Atom × B => p.1 :: compile p.2) (nextAtom c rest)
  unfold nextAtom
  cases rest <;> simp only [compile, apply_ite (fun p : Atom × B => p.1 :: compile p.2)]

theorem nextAtom_cases (c : UInt8) (rest : B) (P : Atom × B → Prop) (any : P (.any, rest))
    (star : (c == cStar) = true → P (.star, rest)) (bsEnd : rest = [] → P (.lit cBS, []))
    (bs : ∀ x rest', rest = x :: rest' → P (.lit x, rest')) (cls : P (classAtom rest)) (lit : P (.lit c, rest)) :
    P (nextAtom c rest) := by
  unfold nextAtom
  split
  · exact any
  split
  · exact star ‹_›
  split
  · split
    · exact bsEnd rfl
    · exact bs _ _ rfl
  split
  · exact cls
  · exact lit

theorem nextAtom_len (c : UInt8) (rest : B) : (nextAtom c rest).2.length ≤ rest.length :=
  nextAtom_cases c rest (fun p => p.2.length ≤ rest.length) (Nat.le_refl _) (fun _ => Nat.le_refl _)
    (fun _ => Nat.zero_le _) (fun x r h => by simp [h]) (classAtom_len rest) (Nat.le_refl _)

theorem compile_star (rest : B) : compile (cStar :: rest) = .star :: compile rest := by
  rw [compile_cons]; rfl

/-! ## the class scanner -/

theorem u8_min (a b : UInt8) : min a b = if b < a then b else a := by
  show (if a ≤ b then a else b) = _
  simp only [← UInt8.not_le, ite_not]

theorem u8_max (a b : UInt8) : max a b = if b < a then a else b := by
  show (if a ≤ b then b else a) = _
  simp only [← UInt8.not_le, ite_not]

theorem rClassLoop_eq (x : UInt8) (p : B) (m : Bool) :
    rClassLoop x p m = (m || (scanClass p).1.any (CItem.matches x), (scanClass p).2) := by
  induction p, m using rClassLoop.induct x with
  | case1 m => simp [rClassLoop, scanClass]
  | case2 a m h => simp [rClassLoop, scanClass, h]
  | case3 a m h => simp [rClassLoop, scanClass, h, CItem.matches]
  | case4 a y rest m h ih =>
    cases rest <;> (rw [rClassLoop, scanClass]; simp [h, ih, CItem.matches, Bool.or_assoc])
  | case5 a y rest m h1 h2 =>
    cases rest <;> (rw [rClassLoop, scanClass]; simp [h1, h2])
  | case6 a y m h1 h2 b rest' h3 ih => 
    rw [rClassLoop, scanClass]
    simp only [gt_iff_lt, dite_eq_ite] at ih
    simp [h1, h2, h3, ih, CItem.matches, Bool.or_assoc, u8_min, u8_max]
  | case7 a y m h1 h2 b rest' h3 ih => 
    rw [rClassLoop, scanClass]; simp [h1, h2, h3, ih, CItem.matches, Bool.or_assoc]
  | case8 a y m h1 h2 ih => 
    rw [rClassLoop, scanClass]; simp [h1, h2, ih, CItem.matches, Bool.or_assoc]


theorem classAtom_snd (x : UInt8) (p : B) : (classAtom p).2 = (rClass x p).2 := by
  simp only [classAtom, rClass, rClassLoop_eq]

theorem classAtom_ne_star (p : B) : (classAtom p).1 ≠ .star := by
  simp only [classAtom]
  split
  · split <;> simp
  · simp

theorem classAtom_matches (x : UInt8) (p : B) :
    (classAtom p).1.matches1 x = (rClass x p).1 := by
  simp only [classAtom, rClass, rClassLoop_eq, Bool.false_or]
  cases h : (scanClass (splitNeg p).2).1 with
  | nil => cases (splitNeg p).1 <;> simp [Atom.matches1]
  | cons i is => cases (splitNeg p).1 <;> simp [Atom.matches1]

theorem nextAtom_ne_star {c : UInt8} (h : (c == cStar) = false) (rest : B) : (nextAtom c rest).1 ≠ .star :=
  nextAtom_cases c rest (fun p => p.1 ≠ .star) nofun (fun hs => absurd hs (by simp [h])) (fun _ => nofun)
    (fun _ _ _ => nofun) (classAtom_ne_star rest) nofun

theorem matchA_compile_nil (p : B) : matchA (compile p) [] = (dropStars p).isEmpty := by
  induction p with
  | nil => simp [compile, dropStars, matchA_nil]
  | cons c r ih =>
    by_cases h : (c == cStar) = true
    · have hc : c = cStar := by simpa using h
      subst hc
      rw [compile_star, matchA_star_nil, ih]
      simp [dropStars]
    · have h' : (c == cStar) = false := by simpa using h
      rw [compile_cons, matchA_cons_nil _ _ (nextAtom_ne_star h' r)]
      simp [dropStars, h']

theorem dropStars_idem (p : B) : dropStars (dropStars p) = dropStars p := by
  induction p with
  | nil => simp [dropStars]
  | cons c r ih =>
    by_cases h : (c == cStar) = true
    · simp [dropStars, h, ih]
    · simp [dropStars, h]

theorem matchA_star_compile_dropStars (p : B) (s : B) :
    matchA (.star :: compile p) s = matchA (.star :: compile (dropStars p)) s := by
  induction p with
  | nil => simp [dropStars]
  | cons c r ih =>
    by_cases h : (c == cStar) = true
    · have hc : c = cStar := by simpa using h
      subst hc
      rw [compile_star, matchA_star_star, ih]
      simp [dropStars]
    · simp [dropStars, h]

/-- what `stringmatchlen` still has to do after a byte of the subject is consumed: it leaves its loop when the subject is
used up, and then only skips trailing stars -/
def rtail (p t : B) : Bool := if t.isEmpty then (dropStars p).isEmpty else rglob p t

theorem rglob_cons_cons {c : UInt8} (h : (c == cStar) = false) (p' : B) (x : UInt8) (t : B) :
    rglob (c :: p') (x :: t) = ((nextAtom c p').1.matches1 x && rtail (nextAtom c p').2 t) := by
  rw [rglob.eq_def]
  unfold nextAtom rtail
  simp only [h, Bool.false_eq_true, if_false]
  by_cases hq : (c == cQ) = true
  · simp [hq, Atom.matches1]
  by_cases hl : (c == cLB) = true
  · have hb : (c == cBS) = false := by rw [beq_iff_eq] at hl; subst hl; rfl
    simp only [hq, hl, hb, if_true, Bool.false_eq_true, if_false, classAtom_matches, classAtom_snd x]
    cases (rClass x p').1 <;> simp
  by_cases hb : (c == cBS) = true
  · cases p' with
    | nil =>
      simp only [hq, hl, hb, if_true, Bool.false_eq_true, if_false, Atom.matches1]
      rw [beq_iff_eq] at hb; subst hb
      cases t <;> by_cases hx : cBS = x <;> simp [dropStars, rglob, hx]
    | cons y p'' => simp only [hq, hl, hb, if_true, Bool.false_eq_true, if_false, Atom.matches1]; cases y == x <;> simp
  · simp only [hq, hl, hb, Bool.false_eq_true, if_false, Atom.matches1]; cases c == x <;> simp

theorem rglob_star_cons (p' : B) (x : UInt8) (t : B) :
    rglob (cStar :: p') (x :: t) = ((dropStars p').isEmpty ||
      (rglob (dropStars p') (x :: t) || (!t.isEmpty && rglob (cStar :: p') t))) := by
  rw [rglob.eq_def]; simp only [show (cStar == cStar) = true from rfl, if_true]
  cases t <;> split <;> simp [*]

theorem rtail_cons (p : B) (x : UInt8) (t : B) : rtail p (x :: t) = rglob p (x :: t) := rfl

/-- the compiled matcher is Redis's `stringmatchlen` followed by its skipping of trailing stars, on every subject -/
theorem matchA_compile_eq_rtail : ∀ (p s : B), matchA (compile p) s = rtail p s
  | p, [] => matchA_compile_nil p
  | [], x :: t => by simp [compile, matchA_nil, rtail, rglob]
  | c :: p', x :: t => by
    rw [rtail_cons]
    by_cases hc : (c == cStar) = true
    · have hc' : c = cStar := by simpa using hc
      subst hc'
      have := dropStars_len p'
      rw [compile_star, matchA_star_compile_dropStars, rglob_star_cons, matchA_star_cons]
      cases he : (dropStars p').isEmpty with
      | true => rw [List.isEmpty_iff.mp he]; simp [compile, matchA_star_only, matchA_nil]
      | false =>
        rw [matchA_compile_eq_rtail (dropStars p') (x :: t), rtail_cons, Bool.false_or,
          ← matchA_star_compile_dropStars p' t, ← compile_star, matchA_compile_eq_rtail (cStar :: p') t]
        cases t <;> simp [rtail, dropStars, he]
    · have hc' : (c == cStar) = false := by simpa using hc
      have := nextAtom_len c p'
      rw [compile_cons, matchA_cons_cons _ _ _ _ (nextAtom_ne_star hc' p'), rglob_cons_cons hc',
        matchA_compile_eq_rtail _ t]
termination_by p s => p.length + s.length
decreasing_by all_goals (simp only [List.length_cons]; omega)

theorem compile_lit (c : UInt8) (rest : B)
    (h : c ≠ 42 ∧ c ≠ 63 ∧ c ≠ 91 ∧ c ≠ 92) : compile (c :: rest) = .lit c :: compile rest := by
  rw [compile_cons]
  simp [nextAtom, cQ, cStar, cBS, cLB, h.1, h.2.1, h.2.2.1, h.2.2.2]

end FR.Glob

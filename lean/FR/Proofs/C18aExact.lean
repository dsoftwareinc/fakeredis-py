import FR.Proofs.C18aAlg
import Mathlib.Data.Rat.Floor
/-!
# C18a: exact cases — a zero sum, `0.0 + d` (`plusZero`), `ofInt`, `truncToInt`
-/
namespace FR.C18a
open FR FR.C18f FR.DumpRound

/-- an exact zero sum: `+0`, unless both operands carry the sign bit -/
theorem add_zero_sum {a b : Dbl} {x y : ℚ} (ha : a.toRat = some x) (hb : b.toRat = some y) (h : x + y = 0) :
    Dbl.add a b = .fin (a.signBit && b.signBit) 0 (-1074) := by
  rw [add_eq_RN ha hb, h, RN_zero]

/-- `0.0 + d`: identity on canonical doubles, except that `-0` becomes `+0` -/
theorem plusZero_eq (d : Dbl) (hwf : Dbl.WF d) :
    d.plusZero = if d.isZero then .fin false 0 (-1074) else d := by
  cases d with
  | nan => rfl
  | inf n => rfl
  | fin n m e =>
    cases m with
    | zero => exact plusZero_zero n
    | succ k => exact plusZero_eq_self n (k + 1) e ((wf_iff_canon _).mp hwf) (Nat.succ_ne_zero k)

theorem add_zero' (n : Bool) (m : Nat) (e : Int) (hwf : Dbl.WF (.fin n m e)) :
    Dbl.add (.fin n m e) Dbl.zero = if m = 0 then .fin false 0 (-1074) else .fin n m e := by
  rw [add_comm']
  show (Dbl.fin n m e).plusZero = _
  rw [plusZero_eq _ hwf]
  cases m <;> rfl

theorem ofInt_eq_RN (n : Int) : Dbl.ofInt n = Dbl.RN false (n : ℚ) := by
  unfold Dbl.ofInt Dbl.RN
  by_cases h : n = 0
  · subst h; simp [Dbl.zero]
  · have hb : (n == 0) = false := by simpa using h
    have hq : (n : ℚ) ≠ 0 := by exact_mod_cast h
    rw [hb, if_neg hq]
    simp only [Bool.false_eq_true, if_false]
    have hneg : decide (n < 0) = decide ((n : ℚ) < 0) := by
      congr 1; rw [eq_iff_iff]; exact Int.cast_lt_zero.symm
    rw [hneg]
    symm
    apply roundAbs_of_abs _ _ _ _ (by decide)
    rw [← Int.cast_abs, Int.abs_eq_natAbs]
    simp

/-- integers up to `2^53` in magnitude fit the 53-bit significand: `ofInt` is exact on them -/
theorem ofInt_exact (n : Int) (h : n.natAbs ≤ 2 ^ 53) :
    ∃ m e, Dbl.ofInt n = .fin (decide (n < 0)) m e ∧ Dbl.val (.fin (decide (n < 0)) m e) = (n : ℚ) := by
  by_cases h0 : n = 0
  · subst h0; exact ⟨0, -1074, rfl, by rw [val_fin]; simp⟩
  · by_cases h53 : n.natAbs = 2 ^ 53
    · refine ⟨2 ^ 52, 1, ?_, ?_⟩
      · have hb : (n == 0) = false := by simpa using h0
        unfold Dbl.ofInt
        rw [hb, h53]
        simp only [Bool.false_eq_true, if_false]
        cases decide (n < 0) <;> decide +kernel
      · rw [val_fin]
        by_cases hn : n < 0
        · have : n = -(2 ^ 53 : Int) := by omega
          subst this; norm_num
        · have : n = (2 ^ 53 : Int) := by omega
          subst this; norm_num
    · have hb : (n == 0) = false := by simpa using h0
      obtain ⟨m, e, hr, he1, he2, hm⟩ :=
        roundPos_exact_int (decide (n < 0)) n.natAbs (by omega) (by omega)
      refine ⟨m, e, ?_, ?_⟩
      · unfold Dbl.ofInt
        rw [hb]; simpa using hr
      · obtain ⟨k, hk⟩ : ∃ k : Nat, e = -(k : Int) := ⟨(-e).toNat, by omega⟩
        subst hk
        have hk' : (- -(k : Int)).toNat = k := by omega
        rw [hk'] at hm
        rw [val_fin, hm, zpow_neg, zpow_natCast]
        push_cast
        have hp : ((2 : ℚ) ^ k) ≠ 0 := by positivity
        have hcast : ((n.natAbs : Nat) : ℚ) = |(n : ℚ)| := by
          rw [← Int.cast_abs, Int.abs_eq_natAbs]; simp
        rw [hcast]
        by_cases hn : n < 0
        · have hq : (n : ℚ) < 0 := by exact_mod_cast hn
          simp only [hn, decide_true, if_true, abs_of_neg hq]
          field_simp
        · have hq : (0 : ℚ) ≤ (n : ℚ) := by exact_mod_cast (not_lt.mp hn)
          simp only [hn, decide_false, Bool.false_eq_true, if_false, abs_of_nonneg hq]
          field_simp

theorem ofInt_toRat (n : Int) (h : n.natAbs ≤ 2 ^ 53) : (Dbl.ofInt n).toRat = some (n : ℚ) := by
  obtain ⟨m, e, h1, h2⟩ := ofInt_exact n h
  rw [h1]; show some _ = some _; rw [h2]

theorem ofInt_signBit (n : Int) (h : n.natAbs ≤ 2 ^ 53) : (Dbl.ofInt n).signBit = decide (n < 0) := by
  obtain ⟨m, e, h1, _⟩ := ofInt_exact n h
  rw [h1]; rfl

theorem truncToInt_fin (n : Bool) (m : Nat) (e : Int) :
    Dbl.truncToInt (.fin n m e) = (if n then -1 else 1) * ⌊(m : ℚ) * (2 : ℚ) ^ e⌋ := by
  have hmag : (((if e ≥ 0 then m * Dbl.pow2 e.toNat else m / Dbl.pow2 (-e).toNat : Nat)) : Int) =
      ⌊(m : ℚ) * (2 : ℚ) ^ e⌋ := by
    simp only [pow2_eq]
    split
    · rename_i he
      have : e = (e.toNat : Int) := by omega
      conv_rhs => rw [this, zpow_natCast]
      have : (m : ℚ) * (2 : ℚ) ^ e.toNat = ((m * 2 ^ e.toNat : Nat) : ℚ) := by push_cast; ring
      rw [this, Int.floor_natCast]
    · rename_i he
      have : e = -((-e).toNat : Int) := by omega
      conv_rhs => rw [this, zpow_neg, zpow_natCast, ← div_eq_mul_inv]
      have : (m : ℚ) / (2 : ℚ) ^ (-e).toNat = ((m : Int) : ℚ) / ((2 ^ (-e).toNat : Nat) : ℚ) := by push_cast; ring
      rw [this, Rat.floor_intCast_div_natCast]
      push_cast
      rfl
  unfold Dbl.truncToInt
  simp only []
  rw [hmag]
  cases n <;> simp

/-- `truncToInt` is truncation toward zero of the value -/
theorem truncToInt_eq (n : Bool) (m : Nat) (e : Int) :
    Dbl.truncToInt (.fin n m e) =
      if Dbl.val (.fin n m e) < 0 then ⌈Dbl.val (.fin n m e)⌉ else ⌊Dbl.val (.fin n m e)⌋ := by
  rw [truncToInt_fin, val_fin]
  cases n
  · have : ¬ ((if false = true then (-1 : ℚ) else 1) * (m : ℚ) * (2 : ℚ) ^ e < 0) := by
      simp only [Bool.false_eq_true, if_false, one_mul, not_lt]
      exact mul_nonneg (by positivity) (two_zpow_pos e).le
    rw [if_neg this]
    simp
  · simp only [if_true]
    have e1 : (-1 : ℚ) * (m : ℚ) * (2 : ℚ) ^ e = -((m : ℚ) * (2 : ℚ) ^ e) := by ring
    rw [e1, Int.ceil_neg, Int.floor_neg]
    split
    · ring
    · rename_i h
      have h0 : (m : ℚ) * (2 : ℚ) ^ e = 0 := by
        have : (0 : ℚ) ≤ (m : ℚ) * (2 : ℚ) ^ e := mul_nonneg (by positivity) (two_zpow_pos e).le
        have := not_lt.mp h
        linarith
      rw [h0]; simp

end FR.C18a

import FR.Proofs.ErrSys
import FR.Proofs.C04k
import FR.Proofs.BlockKinds
/-!
# After the fix of KF-1: EXEC and `_process_command`

Built on the traversal of `FR/Proofs/C04k.lean`: from a state whose transaction queues hold only names that may be
queued (`TxWf`), EXEC and every other request are small steps that leave `crashed` alone, and only a blocking pop has
no reply of its own.  The events of a history are in `FR/Proofs/C04kHist.lean`.
-/
namespace FR.C04k
open FR FR.M FR.ErrSys

/-! ## 1. when does a special body return `NoResponse`? -/

/-- a special body returned normally without a reply (`NoResponse`) -/
def noneS : SpecialOut → Prop
  | .ok (none, _) => True
  | _ => False


theorem special_never_none (inner : Inner) (mode : Mode) (c : Nat) (name : String) (args : List Arg) (cis : List CI)
    (h : name ∉ gated) (hs : name ∉ scriptNames) (hb : name ∉ blockingNames) :
    Never noneS (special inner mode c name args cis) := by
  have hx : name ∉ gated ++ scriptNames ++ blockingNames := by
    simp only [List.mem_append, not_or]; exact ⟨⟨h, hs⟩, hb⟩
  unfold special okR
  refine Never.bind (fun conn => ?_)
  -- splitting before the bodies are unfolded keeps the goal that `split` rewrites small
  split
  all_goals try first
    | exact absurd (by decide) hx
    | (never; done)
  · unfold selectCmd okR; never
  · unfold swapdbCmd okR; never
  · unfold moveCmd; never
  · unfold randomkeyCmd okR; never
  · unfold scanCmd okR; never
  · unfold multiCmd okR; never
  · unfold discardCmd okR; never
  · unfold watchCmd okR; never

/-- `_blocking` inside EXEC (`inTx`), either front-end: never `NoResponse` — it answers nil at once instead of waiting -/
theorem blockCall_inTx_ne (mode : Mode) (c : Nat) (kind : String) (keys : List Bytes) (timeout : Int) (pass : Pass)
    (hpass : Framed (pass true)) (s : Sys) (hin : (s.conn c).inTx = true) :
    (blockCall mode c kind keys timeout pass s).1 ≠ .ok none := by
  rw [blockCall_inTx mode c kind keys timeout pass s (((hpass.frame s).inTx c).trans hin)]
  rcases (pass true s).1 with e | _ | r <;> nofun

theorem special_blocking_inTx (inner : Inner) (mode : Mode) (c : Nat) (name : String) (args : List Arg) (cis : List CI)
    (s : Sys) (hb : name ∈ blockingNames) (hin : (s.conn c).inTx = true) :
    ¬ noneS (special inner mode c name args cis s).1 := by
  rw [special_blocking inner mode c hb]
  unfold blockBody
  cases h : blockArgs name (s.conn c).db args with
  | error e => exact fun h => h
  | ok x =>
    obtain ⟨keys, t, pass⟩ := x
    dsimp only
    have hne := blockCall_inTx_ne mode c name keys t pass (blockArgs_framed h true) s hin
    rcases hr : (blockCall mode c name keys t pass s).1 with e | _ | r
    · exact fun h => h
    · exact absurd hr hne
    · exact fun h => h

theorem fault_isSome_after (msg : String) (s : Sys) : (M.fault msg s).2.fault.isSome = true := by
  show (if s.fault.isNone then ({ s with fault := some msg } : Sys) else s).fault.isSome = true
  split
  · rfl
  · rename_i h; cases hf : s.fault <;> simp_all

/-- a script command below `special` is not modelled: the model says so (`fault`) -/
theorem special_script_fault (inner : Inner) (mode : Mode) (c : Nat) (name : String) (args : List Arg) (cis : List CI)
    (s : Sys) (hs : name ∈ scriptNames) : (special inner mode c name args cis s).2.fault.isSome = true := by
  simp only [scriptNames, List.mem_cons, List.not_mem_nil, or_false] at hs
  -- for each of the three names `special` reduces to `scriptCmd`, whose state is that of `fault`
  rcases hs with rfl | rfl | rfl <;> exact fault_isSome_after _ s

theorem fault_mono_of_small {s s' : Sys} (h : Small s s') (hf : s.fault.isSome = true) : s'.fault.isSome = true :=
  h.fault hf

theorem afterSpecial_pure_sm {s0 : Sys} (d : Nat) (cis : List CI) (out : SpecialOut) :
    Pres (Small s0) (afterSpecial d cis (pure out)) := by
  unfold afterSpecial
  rw [pure_bind]
  have hJ := Pres.seq (Small s0)
  seq_descend hJ [sm_serverStable.fault _, sm_serverStable.writebackAll _ _]

theorem afterSpecial_spec (d : Nat) (cis : List CI) (X : M SpecialOut) (s : Sys) :
    Small (X s).2 (afterSpecial d cis X s).2 ∧ ((afterSpecial d cis X s).1 = none ↔ noneS (X s).1) := by
  refine ⟨afterSpecial_pure_sm d cis (X s).1 (X s).2 (Small.refl _), ?_⟩
  rw [afterSpecial_run]
  generalize X s = r
  obtain ⟨e | ⟨_ | r, cis'⟩, s1⟩ := r
  · exact ⟨nofun, fun h => h.elim⟩
  · exact ⟨fun _ => trivial, fun _ => rfl⟩
  · exact ⟨nofun, fun h => h.elim⟩

theorem runWith_regular_ne_none (special) (mode : Mode) (c : Nat) (sig : Sig) (raw : List Bytes) (fs : Bool) (s : Sys)
    {body : Body} (hreg : Cmd.regular sig.name = some body) : (runWith special mode c sig raw fs s).1 ≠ none := by
  cases hr : s.refuses c sig with
  | true => rw [runWith_refused _ mode c sig raw fs hr]; nofun
  | false => rw [runWith_regular_run _ mode c sig raw fs hreg s hr]; nofun

/-- `_run_command` on a special command: a reply without the body being run, or the body run from a state `s1` that
differs from `s` in the databases only, and `afterSpecial` behind it -/
theorem runWith_special_elim (special) (mode : Mode) (c : Nat) (sig : Sig) (raw : List Bytes) (fs : Bool) (s : Sys)
    (hreg : Cmd.regular sig.name = none) (P : Option Reply × Sys → Prop)
    (h1 : ∀ r s1, Small s s1 → P (some r, s1))
    (h2 : ∀ args cis s1, s1.srv.conns = s.srv.conns → Small s s1 → (fs = true → sig.noScript = false) →
      P (afterSpecial (s.conn c).db cis (special mode c sig.name args cis) s1)) :
    P (runWith special mode c sig raw fs s) := by
  have hs : Small s (s.setDbS (s.conn c).db (sig.apply raw (s.dbAt (s.conn c).db)).1) :=
    (Small.refl s).frame rfl rfl rfl rfl
  exact runWith_special_cases special mode c sig raw fs s hreg (fun _ => h1 _ s (Small.refl s)) (fun _ => h1 _ _ hs)
    (fun args cis _ hg => h2 args cis _ rfl hs (runGate_script hg))

/-- `_run_command` returned `NoResponse` -/
def isNoneO : Option Reply → Prop
  | none => True
  | some _ => False

theorem isNoneO_iff {r : Option Reply} : isNoneO r ↔ r = none := by
  cases r <;> simp [isNoneO]

theorem runScriptCmd_reply (mode : Mode) (c : Nat) (sig : Sig) (raw : List Bytes) (fs : Bool) :
    Never isNoneO (runScriptCmd mode c sig raw fs) := by
  unfold runScriptCmd; never

/-- `_run_command` behind the script check has no reply only where the body of a special command has none -/
theorem runWith_none (special) (mode : Mode) (c : Nat) (sig : Sig) (raw : List Bytes) (fs : Bool) (s : Sys)
    (h : (runWith special mode c sig raw fs s).1 = none) :
    ∃ args cis s1, s1.srv.conns = s.srv.conns ∧ noneS (special mode c sig.name args cis s1).1 := by
  cases hreg : Cmd.regular sig.name with
  | some body => exact absurd h (runWith_regular_ne_none _ mode c sig raw fs s hreg)
  | none =>
    revert h
    refine runWith_special_elim _ mode c sig raw fs s hreg (fun r => r.1 = none → _) (fun _ _ _ => nofun) ?_
    intro args cis s1 e1 _ _ h
    exact ⟨args, cis, s1, e1, (afterSpecial_spec _ cis _ s1).2.1 h⟩

/-- a queued command run by EXEC never returns `NoResponse`: no gated name is queued, a blocking pop answers at once
inside EXEC, and the direct script runner always answers -/
theorem runInner_none (mode : Mode) (c : Nat) (sig : Sig) (raw : List Bytes) (s : Sys)
    (hin : (s.conn c).inTx = true) (hne : sig.name ∉ gated) :
    (runInner mode c sig raw s).1 ≠ none := by
  cases hsn : scriptNames.contains sig.name with
  | true =>
    rw [runInner_script mode c sig raw hsn]
    exact fun h => runScriptCmd_reply mode c sig raw false s (isNoneO_iff.2 h)
  | false =>
    have hsc : sig.name ∉ scriptNames := scriptNames_contains_false_iff.1 hsn
    rw [runInner_not_script mode c sig raw hsn]
    intro h
    obtain ⟨args, cis, s1, e1, hnone⟩ := runWith_none _ mode c sig raw false s h
    have hin1 : (s1.conn c).inTx = true := by rw [conn_of_conns_eq e1]; exact hin
    by_cases hb : sig.name ∈ blockingNames
    · exact special_blocking_inTx _ mode c sig.name args cis s1 hb hin1 hnone
    · exact special_never_none _ mode c sig.name args cis hne hsc hb s1 hnone

/-! ## 2. EXEC -/

/-- a name that may sit in a transaction queue: a command of the table, not EXEC / DISCARD / MULTI / WATCH, not
(P)SUBSCRIBE / (P)UNSUBSCRIBE -/
def QOk (n : String) : Prop :=
  n ∉ SigTable.notInMulti ∧ n ∉ SigTable.notQueued ∧ ∃ sig, SigTable.find n = some sig

/-- the queue invariant: every queued name is `QOk` -/
def TxWf (s : Sys) : Prop := TxAll QOk s

theorem TxWf.clean {s : Sys} (h : TxWf s) : TxClean s := fun x hx q hq a ha => (h x hx q hq a ha).1
theorem TxWf.noCtl {s : Sys} (h : TxWf s) : TxNoCtl s := fun x hx q hq a ha => (h x hx q hq a ha).2.1
theorem TxWf.known {s : Sys} (h : TxWf s) : TxKnown s := fun x hx q hq a ha => (h x hx q hq a ha).2.2

theorem QOk.not_gated {n : String} (h : QOk n) : n ∉ gated := by
  intro hg
  simp only [gated, List.mem_cons] at hg
  rcases hg with rfl | hg
  · exact h.2.1 (by decide)
  · exact h.1 hg

theorem TxWf.queue {s : Sys} (h : TxWf s) (c : Nat) : ∀ q, (s.conn c).tx = some q → ∀ a ∈ q, QOk a.1 :=
  fun _ hq => TxAll.conn h c hq

theorem small_updConn (s : Sys) (c : Nat) (f : Conn → Conn) (hf : ∀ x, ConnStep x (f x)) : Small s (s.updConn c f) :=
  ⟨ConnsLe.updConn s c f hf, id, rfl, OutLe.refl _⟩

/-- what ends a transaction, in EXEC and in the refusal of a malformed EXEC: the queue is dropped, then the watches -/
theorem small_closeTx (s : Sys) (c : Nat) (f : Conn → Conn)
    (hf : ∀ x, (f x).id = x.id ∧ (f x).dead = x.dead ∧ (f x).closed = x.closed ∧ (f x).tx = none) :
    Small s ((s.updConn c f).updConn c fun x => { x with watchNotified := false, watches := [] }) :=
  (small_updConn s c f fun x => ⟨(hf x).1, (hf x).2.1, (hf x).2.2.1, .inr (.inl (hf x).2.2.2)⟩).trans
    (small_updConn _ c _ fun _ => ⟨rfl, rfl, rfl, .inl rfl⟩)

theorem queueStep_spec (mode : Mode) (c : Nat) (a : String × List Bytes) (s : Sys) (hc : s.HasConn c)
    (ha : QOk a.1) :
    Small s (queueStep (runInner mode c) c a s).2 ∧ (queueStep (runInner mode c) c a s).1 ≠ none := by
  obtain ⟨sig, hf⟩ := ha.2.2
  have hg : sig.name ∉ gated := by rw [SigTable.find_name hf]; exact ha.not_gated
  rw [queueStep_run _ c a hf]
  have hin : ((s.updConn c setInTx).conn c).inTx = true := by
    rw [Sys.conn_updConn_same setInTx hc (fun _ => rfl)]; rfl
  have h1 : Small s (s.updConn c setInTx) := small_updConn s c _ (fun _ => ⟨rfl, rfl, rfl, .inl rfl⟩)
  exact ⟨(runInner_sm mode c sig a.2 hg _ h1).trans (small_updConn _ c _ (fun _ => ⟨rfl, rfl, rfl, .inl rfl⟩)),
    runInner_none mode c sig a.2 _ hin hg⟩

theorem runQueue_spec (mode : Mode) (c : Nat) (q : List (String × List Bytes)) (s : Sys) (hc : s.HasConn c)
    (hq : ∀ a ∈ q, QOk a.1) :
    Small s (runQueue (runInner mode c) c q s).2 ∧ (runQueue (runInner mode c) c q s).1.any Option.isNone = false := by
  induction q generalizing s with
  | nil => exact ⟨Small.refl s, rfl⟩
  | cons a rest ih =>
    obtain ⟨h1, h1n⟩ := queueStep_spec mode c a s hc (hq a (List.mem_cons_self ..))
    obtain ⟨h2, h2n⟩ := ih _ ((h1.conns.hasConn c).2 hc) (fun b hb => hq b (List.mem_cons_of_mem _ hb))
    rw [runQueue_cons_run]
    refine ⟨h1.trans h2, ?_⟩
    rw [List.any_cons, h2n, Bool.or_false]
    cases hr : (queueStep (runInner mode c) c a s).1 with
    | none => exact absurd hr h1n
    | some _ => rfl

theorem execCmd_spec (mode : Mode) (c : Nat) (cis : List CI) (s : Sys)
    (hq : ∀ q, (s.conn c).tx = some q → ∀ a ∈ q, QOk a.1) :
    Small s (execCmd (runInner mode c) c cis s).2 ∧ ¬ noneS (execCmd (runInner mode c) c cis s).1 := by
  cases htx : (s.conn c).tx with
  | none =>
    rw [execCmd_run_none _ cis htx]
    exact ⟨Small.refl s, fun h => h⟩
  | some q =>
    cases hf : (s.conn c).txFailed with
    | true =>
      rw [execCmd_run_failed _ cis htx hf]
      exact ⟨small_closeTx s c _ fun _ => ⟨rfl, rfl, rfl, rfl⟩, fun h => h⟩
    | false =>
      have h1 : Small s (C19m.Sys.execStart s c) := small_closeTx s c _ fun _ => ⟨rfl, rfl, rfl, rfl⟩
      cases hw : (s.conn c).watchNotified with
      | true =>
        rw [execCmd_run_dirty _ cis htx hf hw]
        exact ⟨h1, fun h => h⟩
      | false =>
        rw [execCmd_run _ cis htx hf hw]
        have hc1 := (h1.conns.hasConn c).2 (Sys.hasConn_of_tx (by rw [htx]; rfl))
        obtain ⟨h2, h2n⟩ := runQueue_spec mode c q _ hc1 (hq q htx)
        rw [h2n, if_neg Bool.false_ne_true]
        exact ⟨h1.trans h2, fun h => h⟩

/-! ## 3. the command run at once (`runCommand`): all cases -/

/-- a small step as far as connection records and the `fault` marker go -/
structure Core (s s' : Sys) : Prop where
  conns : ConnsLe s s'
  fault : s.fault.isSome = true → s'.fault.isSome = true

theorem Core.refl (s : Sys) : Core s s := ⟨ConnsLe.refl s, id⟩
theorem Core.trans {a b c : Sys} (h1 : Core a b) (h2 : Core b c) : Core a c :=
  ⟨h1.conns.trans h2.conns, fun h => h2.fault (h1.fault h)⟩
theorem Small.core {s s' : Sys} (h : Small s s') : Core s s' := ⟨h.conns, h.fault⟩

theorem core_updConn (s : Sys) (c : Nat) (f : Conn → Conn) (hf : ∀ x, ConnStep x (f x)) : Core s (s.updConn c f) :=
  ⟨ConnsLe.updConn s c f hf, id⟩

theorem core_emitS (s : Sys) (c : Nat) (r : Reply) : Core s (s.emitS c r) :=
  ⟨ConnsLe.of_eq (by rw [Sys.emitS_srv]), fun h => by unfold Sys.emitS; split <;> exact h⟩

theorem core_setTbl_upd {s0 s : Sys} (h : Core s0 s ∧ s.crashed = s0.crashed) (p : Bool) (t : Tbl) (b : Bool) (c : Nat)
    (f : Conn → Conn) (hf : ∀ x, ConnStep x (f x)) :
    Core s0 (if b then (s.setTbl p t).updConn c f else s.setTbl p t) ∧
      (if b then (s.setTbl p t).updConn c f else s.setTbl p t).crashed = s0.crashed := by
  have h1 : Core s0 (s.setTbl p t) ∧ (s.setTbl p t).crashed = s0.crashed := by
    cases p <;> exact ⟨h.1.trans ⟨ConnsLe.of_eq rfl, id⟩, h.2⟩
  split
  · exact ⟨h1.1.trans (core_updConn _ c f hf), h1.2⟩
  · exact h1

theorem special_sub_core (inner : Inner) (mode : Mode) (c : Nat) (name : String) (args : List Arg) (cis : List CI)
    (s : Sys) (h : name ∈ SigTable.notInMulti) :
    (Core s (special inner mode c name args cis s).2 ∧ (special inner mode c name args cis s).2.crashed = s.crashed) ∧
      noneS (special inner mode c name args cis s).1 := by
  have hemit : ∀ r, Pres (fun s' => Core s s' ∧ s'.crashed = s.crashed) (emit c r) := fun r s' h' => by
    rw [emit_run]
    exact ⟨h'.1.trans (core_emitS s' c r), (Sys.emitS_crashed s' c r).trans h'.2⟩
  have hsub := Conserve.pres_subscribeGen hemit (fun s' p n h' =>
    core_setTbl_upd h' p _ _ c (fun x => { x with pubsub := x.pubsub + 1 }) (fun _ => ⟨rfl, rfl, rfl, .inl rfl⟩))
  have hunsub := Conserve.pres_unsubscribeGen hemit (fun s' p n h' =>
    core_setTbl_upd h' p _ _ c (fun x => { x with pubsub := x.pubsub - 1 }) (fun _ => ⟨rfl, rfl, rfl, .inl rfl⟩))
  simp only [SigTable.notInMulti, List.mem_cons, List.not_mem_nil, or_false] at h
  -- for each of the four names `special` reduces to the (un)subscription loop followed by `return .ok (none, cis)`
  rcases h with rfl | rfl | rfl | rfl
  · exact ⟨hsub false _ s ⟨Core.refl s, rfl⟩, trivial⟩
  · exact ⟨hsub true _ s ⟨Core.refl s, rfl⟩, trivial⟩
  · exact ⟨hunsub false _ s ⟨Core.refl s, rfl⟩, trivial⟩
  · exact ⟨hunsub true _ s ⟨Core.refl s, rfl⟩, trivial⟩

theorem gated_not_script {n : String} (hg : n ∈ gated) : n ∉ scriptNames := by
  revert n; decide

theorem gated_not_regular {n : String} (hg : n ∈ gated) : Cmd.regular n = none :=
  Option.isNone_iff_eq_none.1 ((by decide +kernel : ∀ n ∈ gated, (Cmd.regular n).isNone = true) n hg)

/-- only a blocking pop has no reply of its own: it parks, and the wake-up / time-out event answers -/
theorem runCommand_facts (mode : Mode) (c : Nat) (sig : Sig) (raw : List Bytes) (s : Sys)
    (hsub : sig.name ∉ SigTable.notInMulti)
    (hq : ∀ q, (s.conn c).tx = some q → ∀ a ∈ q, QOk a.1) :
    Small s (runCommand mode c sig raw false s).2 ∧
      (isNoneO (runCommand mode c sig raw false s).1 → sig.name ∈ blockingNames) := by
  by_cases hex : sig.name = "exec"
  · -- EXEC: the queue is run (`execCmd_spec`), and there is a reply
    have hg : sig.name ∈ gated := by rw [hex]; exact List.mem_cons_self ..
    rw [runCommand_not_script mode c sig raw false (gated_not_script hg)]
    refine runWith_special_elim _ mode c sig raw false s (gated_not_regular hg)
      (fun r => Small s r.2 ∧ (isNoneO r.1 → sig.name ∈ blockingNames)) ?_ ?_
    · intro r s1 hs
      exact ⟨hs, fun h => h.elim⟩
    · intro args cis s1 e1 hs _
      obtain ⟨ht, hnone⟩ := afterSpecial_spec (s.conn c).db cis (special (runInner mode c) mode c sig.name args cis) s1
      rw [special_exec _ mode c sig.name args cis hex] at ht hnone ⊢
      obtain ⟨hx, hnn⟩ := execCmd_spec mode c cis s1 (by rw [conn_of_conns_eq e1]; exact hq)
      exact ⟨hs.trans (hx.trans ht), fun h => absurd (hnone.1 (isNoneO_iff.1 h)) hnn⟩
  · -- any other command is within the traversal (`runCommand_sm`)
    have hg : sig.name ∉ gated := by
      simp only [gated, List.mem_cons, not_or]
      exact ⟨hex, hsub⟩
    refine ⟨runCommand_sm (s0 := s) mode c sig raw false hg s (Small.refl s), fun h => ?_⟩
    rw [isNoneO_iff] at h
    by_cases hsc : sig.name ∈ scriptNames
    · rw [runCommand_script mode c sig raw false hsc] at h
      exact (runScriptCmd_reply mode c sig raw false s (isNoneO_iff.2 h)).elim
    · rw [runCommand_not_script mode c sig raw false hsc] at h
      obtain ⟨args, cis, s1, _, hnone⟩ := runWith_none _ mode c sig raw false s h
      exact Classical.byContradiction fun hb => special_never_none _ mode c sig.name args cis hg hsc hb s1 hnone

theorem runCommand_spec (mode : Mode) (c : Nat) (sig : Sig) (raw : List Bytes) (s : Sys)
    (hq : ∀ q, (s.conn c).tx = some q → ∀ a ∈ q, QOk a.1) :
    Core s (runCommand mode c sig raw false s).2 ∧ (runCommand mode c sig raw false s).2.crashed = s.crashed := by
  by_cases hsub : sig.name ∈ SigTable.notInMulti
  · -- (P)SUBSCRIBE / (P)UNSUBSCRIBE: the acknowledgements go to the reply list, the rest is kept
    have hg : sig.name ∈ gated := by simp only [gated, List.mem_cons]; exact .inr hsub
    rw [runCommand_not_script mode c sig raw false (gated_not_script hg)]
    refine runWith_special_elim _ mode c sig raw false s (gated_not_regular hg)
      (fun r => Core s r.2 ∧ r.2.crashed = s.crashed) ?_ ?_
    · intro r s1 hs
      exact ⟨hs.core, hs.crashed⟩
    · intro args cis s1 _ hs _
      obtain ⟨ht, _⟩ := afterSpecial_spec (s.conn c).db cis (special (runInner mode c) mode c sig.name args cis) s1
      obtain ⟨⟨hc, hcr⟩, _⟩ := special_sub_core (runInner mode c) mode c sig.name args cis s1 hsub
      exact ⟨hs.core.trans (hc.trans ht.core), ht.crashed.trans (hcr.trans hs.crashed)⟩
  · obtain ⟨hsm, _⟩ := runCommand_facts mode c sig raw s hsub hq
    exact ⟨hsm.core, hsm.crashed⟩

/-! ## 4. `_process_command` -/

theorem mem_updConn {s : Sys} {c : Nat} {f : Conn → Conn} {x' : Conn} (h : x' ∈ (s.updConn c f).srv.conns) :
    ∃ x ∈ s.srv.conns, x' = f x ∨ x' = x := by
  simp only [Sys.updConn, List.mem_map] at h
  obtain ⟨x, hx, rfl⟩ := h
  refine ⟨x, hx, ?_⟩
  split
  · exact .inl rfl
  · exact .inr rfl

theorem TxAll.updConn {P : String → Prop} {s : Sys} (h : TxAll P s) (c : Nat) (f : Conn → Conn)
    (hf : ∀ x, ∀ q, (f x).tx = some q → ∀ a ∈ q, (∃ q0, x.tx = some q0 ∧ a ∈ q0) ∨ P a.1) :
    TxAll P (s.updConn c f) := by
  intro x' hx' q hq a ha
  obtain ⟨x, hx, rfl | rfl⟩ := mem_updConn hx'
  · rcases hf x q hq a ha with ⟨q0, h0, ha0⟩ | hp
    · exact h x hx q0 h0 a ha0
    · exact hp
  · exact h _ hx q hq a ha

theorem TxAll.emitS {P : String → Prop} {s : Sys} (h : TxAll P s) (c : Nat) (r : Reply) : TxAll P (s.emitS c r) := by
  unfold TxAll; rw [Sys.emitS_srv]; exact h

theorem AllAlive.updConn {s : Sys} (h : AllAlive s) (c : Nat) (f : Conn → Conn) (hf : ∀ x, (f x).dead = x.dead) :
    AllAlive (s.updConn c f) := by
  intro x' hx'
  obtain ⟨x, hx, rfl | rfl⟩ := mem_updConn hx'
  · rw [hf]; exact h x hx
  · exact h _ hx

theorem AllAlive.emitS {s : Sys} (h : AllAlive s) (c : Nat) (r : Reply) : AllAlive (s.emitS c r) := by
  unfold AllAlive; rw [Sys.emitS_srv]; exact h

theorem cleanupClosed_sm {s0 : Sys} : Pres (Small s0) cleanupClosed := by
  unfold cleanupClosed
  have hJ := Pres.seq (Small s0)
  seq_descend hJ [Pres.get, sm_modify_frame _ (fun _ => ⟨rfl, rfl, rfl, rfl⟩),
    (sm_closed {} _).clearWatches]

theorem small_prologue (s : Sys) : Small s s.prologue := by
  unfold Sys.prologue Sys.refresh
  have h1 := cleanupClosed_sm (s0 := s) s (Small.refl s)
  have h2 := (sm_serverStable (s0 := s)).nextClock _ h1
  exact h2.frame rfl rfl rfl rfl

/-- what one request does to the invariants -/
structure CmdFacts (s s' : Sys) (c : Nat) (fields : List Bytes) : Prop where
  wf : TxWf s'
  fault : s.fault.isSome = true → s'.fault.isSome = true
  crashed : s'.crashed = s.crashed
  alive : AllAlive s → s'.crashed = none → AllAlive s'

theorem cmdFacts_of_core {s s' : Sys} {c : Nat} {fields : List Bytes} (hwf : TxWf s) (h : Core s s')
    (hcr : s'.crashed = s.crashed) : CmdFacts s s' c fields :=
  ⟨hwf.le h.conns, h.fault, hcr, fun ha _ => ha.le h.conns⟩

/-- a request that begins with a core step (the prologue, what `_run_command` did) and goes on from `p` -/
theorem CmdFacts.after_core {s p s' : Sys} {c : Nat} {fields : List Bytes} (h : CmdFacts p s' c fields) (hc : Core s p)
    (hcr : p.crashed = s.crashed) : CmdFacts s s' c fields :=
  ⟨h.wf, fun hf => h.fault (hc.fault hf), h.crashed.trans hcr, fun ha hn => h.alive (ha.le hc.conns) hn⟩

theorem prologue_tx (s : Sys) (c : Nat) : (s.prologue.conn c).tx = (s.conn c).tx :=
  s.prologue_conn c Conn.tx (fun _ => rfl)

theorem markTxFailed_step (x : Conn) : ConnStep x (markTxFailed x) := ⟨rfl, rfl, rfl, .inl rfl⟩

theorem small_failTx (p : Sys) (c : Nat) (conn : Conn) : Small p (p.failTx c conn) := by
  unfold Sys.failTx
  split
  · exact small_updConn p c _ markTxFailed_step
  · exact Small.refl p

/-- a request answered without being run: small steps (the prologue, the requester's record marked), then the reply -/
theorem cmdFacts_answered {s p : Sys} {fields : List Bytes} (hwf : TxWf s) (c : Nat) (r : Reply) (h : Small s p) :
    CmdFacts s (p.emitS c r) c fields :=
  cmdFacts_of_core hwf (h.core.trans (core_emitS p c r)) ((Sys.emitS_crashed p c r).trans h.crashed)

/-- a request queued inside MULTI: the one step that adds a name to a queue -/
theorem cmdFacts_queued {p : Sys} {fields : List Bytes} (hwf : TxWf p) (c : Nat) {n : String} (hok : QOk n)
    (args : List Bytes) (r : Reply) :
    CmdFacts p ((p.updConn c fun x => { x with tx := x.tx.map (· ++ [(n, args)]) }).emitS c r) c fields := by
  refine ⟨TxAll.emitS (TxAll.updConn hwf c _ (fun x q hq a ha => ?_)) c r, ?_, ?_, fun hal _ => ?_⟩
  · cases hx : x.tx with
    | none => simp only [hx, Option.map_none] at hq; cases hq
    | some q0 =>
      simp only [hx, Option.map_some, Option.some.injEq] at hq
      subst hq
      rcases List.mem_append.1 ha with h | h
      · exact .inl ⟨q0, rfl, h⟩
      · simp only [List.mem_singleton] at h; subst h; exact .inr hok
  · exact fun hf => (core_emitS _ c r).fault hf
  · exact Sys.emitS_crashed _ c r
  · refine AllAlive.emitS (AllAlive.updConn hal c _ ?_) c r
    exact fun _ => rfl

/-- a connection is marked dead only in a state that is `crashed` -/
theorem cmdFacts_markDead {t : Sys} {fields : List Bytes} (hwf : TxWf t) (c : Nat) :
    CmdFacts t (if t.crashed.isSome then t.updConn c markDead else t) c fields := by
  split
  · rename_i hsome
    refine ⟨TxAll.updConn hwf c _ (fun x q hq a ha => .inl ⟨q, hq, ha⟩), id, rfl, fun _ hnone => ?_⟩
    rw [show t.crashed = none from hnone] at hsome
    cases hsome
  · exact cmdFacts_of_core hwf (Core.refl t) rfl

/-- behind `_run_command`: the reply, if there is one, and the dead mark -/
theorem cmdFacts_afterRun {fields : List Bytes} (c : Nat) (r : Option Reply × Sys) (hwf : TxWf r.2) :
    CmdFacts r.2 (afterRun c r) c fields := by
  obtain ⟨r1, t⟩ := r
  cases r1 with
  | none => exact cmdFacts_markDead hwf c
  | some x =>
    exact (cmdFacts_markDead (TxAll.emitS hwf c x) c).after_core (core_emitS t c x) (Sys.emitS_crashed t c x)

/-- one request through `_process_command` from a state with well-formed queues: the statement that parts (a) and (b)
of `FR/Props/C04k.lean` project from -/
theorem processCommand_spec (mode : Mode) (c : Nat) (fields : List Bytes) (s : Sys) (hwf : TxWf s) :
    CmdFacts s (processCommand mode c fields s).2 c fields := by
  cases fields with
  | nil => exact cmdFacts_of_core hwf (Core.refl s) rfl
  | cons nameB args =>
    have hp := small_prologue s
    have hwfp : TxWf s.prologue := hwf.le hp.conns
    refine processCommand_cases (P := fun s' => CmdFacts s s' c (nameB :: args)) mode c nameB args s
      (fun _ => cmdFacts_answered hwf c _ (small_failTx s c _))
      (fun sig _ _ _ => cmdFacts_answered hwf c _ (hp.trans (small_failTx _ c _)))
      (fun sig _ _ _ => cmdFacts_answered hwf c _
        ((hp.trans (small_failTx _ c _)).trans (small_closeTx _ c _ fun _ => ⟨rfl, rfl, rfl, rfl⟩)))
      (fun sig _ _ _ _ => cmdFacts_answered hwf c _ (hp.trans (small_updConn _ c _ markTxFailed_step))) ?_ ?_
    · intro sig hl ha hq hnm
      obtain ⟨n, _, _, hfind⟩ := lookupSig_some hl
      have hok : QOk sig.name := by
        simp only [Bool.and_eq_true, Bool.not_eq_true'] at hq
        exact ⟨by simpa using hnm, by simpa using hq.2, sig, by rw [SigTable.find_name hfind]; exact hfind⟩
      exact (cmdFacts_queued hwfp c hok args .queued).after_core hp.core hp.crashed
    · intro sig hl ha hq
      obtain ⟨hcore, hcr⟩ := runCommand_spec mode c sig args s.prologue (hwfp.queue c)
      exact (cmdFacts_afterRun c _ (hwfp.le hcore.conns)).after_core (hp.core.trans hcore) (hcr.trans hp.crashed)

/-! ## 5. does the command have a reply? -/

theorem ConnsLe.closed {s s' : Sys} (h : ConnsLe s s') (c : Nat) : (s'.conn c).closed = (s.conn c).closed :=
  (h.conn c).2.2.1

theorem afterRun_crashed (c : Nat) (r : Option Reply × Sys) : (afterRun c r).crashed = r.2.crashed := by
  rw [afterRun_conns (·.crashed) (fun _ _ => rfl)]
  cases r.1 with
  | none => rfl
  | some x => exact Sys.emitS_crashed ..

/-- the reply count of a command run at once: the pub/sub messages delivered meanwhile and, on top, the reply of
`_run_command` if it has one; `reply_count_run` and `reply_count_blocking_partial` of `FR/Props/C04k.lean` are its cases -/
theorem processCommand_reply (mode : Mode) (c : Nat) (nameB : Bytes) (args : List Bytes) (s : Sys) (hwf : TxWf s)
    (hcl : (s.conn c).closed = false) {sig : Sig} (hl : lookupSig nameB = some sig)
    (ha : sig.checkArity args.length = true)
    (hq : ((s.conn c).tx.isSome && !SigTable.notQueued.contains sig.name) = false)
    (hsub : sig.name ∉ SigTable.notInMulti) :
    ∃ D, (∀ p ∈ D, IsMsg p.2) ∧
      match (runCommand mode c sig args false s.prologue).1 with
      | some r => (processCommand mode c (nameB :: args) s).2.out = (c, r) :: D ++ s.out
      | none =>
        sig.name ∈ blockingNames ∧ (processCommand mode c (nameB :: args) s).2.out = D ++ s.out ∧
        ∀ {β : Type} (proj : Conn → β), (∀ x, proj (markDead x) = proj x) →
          proj ((processCommand mode c (nameB :: args) s).2.conn c) =
            proj ((runCommand mode c sig args false s.prologue).2.conn c) := by
  have hp := small_prologue s
  have hwfp : TxWf s.prologue := hwf.le hp.conns
  rw [processCommand_runs mode c args s hl ha hq]
  obtain ⟨hsm, hnone⟩ := runCommand_facts mode c sig args s.prologue hsub (hwfp.queue c)
  revert hsm hnone
  generalize runCommand mode c sig args false s.prologue = r
  obtain ⟨r1, s2⟩ := r
  intro hsm hnone
  dsimp only at hsm hnone ⊢
  obtain ⟨D, hD, hmsg⟩ := hsm.out
  rw [Sys.prologue_out] at hD
  refine ⟨D, hmsg, ?_⟩
  cases r1 with
  | some x =>
    have hc2 : (s2.conn c).closed = false := by
      rw [hsm.conns.closed c, hp.conns.closed c]; exact hcl
    simp only [afterRun_out, Sys.emitS_out, hc2, Bool.false_eq_true, if_false, hD, List.cons_append]
  | none =>
    refine ⟨hnone trivial, by rw [afterRun_out]; exact hD, fun proj hproj => ?_⟩
    unfold afterRun
    simp only
    split
    · exact Sys.conn_updConn_proj s2 c c markDead proj (fun _ => rfl) hproj
    · rfl

end FR.C04k

import FR.Proofs.Basic
/-! # LREM (C02)

The body of LREM as an index computation: `lremRm` are the indices it deletes, `lremKeep` the list it leaves, with
their counts (`lrem_count_semantics`).  Then the index-free specification `lremSpec` (delete the first / the last
`|count|` occurrences, or all) and `lrem_eq_spec`: the body computes it. -/
namespace FR.Proofs
open FR

/-- the index set LREM deletes -/
def lremRm (l : List Bytes) (count : Int) (v : Bytes) : List Nat :=
  let found := Cmd.occurrences l v
  if count > 0 then found.take count.toNat
  else if count < 0 then found.drop (found.length - (-count).toNat)
  else found

/-- the list LREM leaves -/
def lremKeep (l : List Bytes) (rm : List Nat) : List Bytes :=
  (l.zipIdx.filter (fun p => !rm.contains p.2)).map Prod.fst

theorem lrem_body (ctx : Ctx) (cis : List CI) (k : Nat) (count : Int) (v : Bytes) :
    Cmd.lrem ctx [.key k, .int count, .raw v] cis =
      (let l := Cmd.listOf (ciAt cis k)
       let rm := lremRm l count v
       if rm.isEmpty then ret (.int 0) cis
       else ret (.int rm.length) (Cmd.setList cis k (lremKeep l rm))) := rfl

theorem mem_occurrences (l : List Bytes) (v : Bytes) (i : Nat) :
    i ∈ Cmd.occurrences l v ↔ l[i]? = some v := by
  simp only [Cmd.occurrences, List.mem_map, List.mem_filter, List.mem_zipIdx_iff_getElem?,
    beq_iff_eq]
  constructor
  · rintro ⟨⟨x, j⟩, ⟨h1, h2⟩, rfl⟩
    simp only at h1 h2 ⊢
    rw [h1, h2]
  · intro h
    exact ⟨(v, i), ⟨h, rfl⟩, rfl⟩

theorem occurrences_sublist (l : List Bytes) (v : Bytes) :
    (Cmd.occurrences l v).Sublist (List.range' 0 l.length) := by
  unfold Cmd.occurrences
  rw [← List.zipIdx_map_snd 0 l]
  exact List.Sublist.map _ List.filter_sublist

theorem occurrences_sorted (l : List Bytes) (v : Bytes) :
    (Cmd.occurrences l v).Pairwise (· < ·) :=
  List.Pairwise.sublist (occurrences_sublist l v) (List.pairwise_lt_range' 1)

theorem occurrences_length (l : List Bytes) (v : Bytes) :
    (Cmd.occurrences l v).length = l.count v := by
  unfold Cmd.occurrences
  rw [List.length_map, ← List.countP_eq_length_filter, List.count_eq_countP]
  conv => rhs; rw [← List.zipIdx_map_fst 0 l, List.countP_map]
  rfl

theorem lremRm_sublist (l : List Bytes) (count : Int) (v : Bytes) :
    (lremRm l count v).Sublist (Cmd.occurrences l v) := by
  unfold lremRm
  simp only
  split
  · exact List.take_sublist _ _
  · split
    · exact List.drop_sublist _ _
    · exact List.Sublist.refl _

theorem lremRm_length (l : List Bytes) (count : Int) (v : Bytes) :
    (lremRm l count v).length =
      if count = 0 then l.count v else min count.natAbs (l.count v) := by
  unfold lremRm
  simp only
  rw [← occurrences_length]
  split
  · rw [List.length_take]; split <;> omega
  · split
    · rw [List.length_drop]; split <;> omega
    · have : count = 0 := by omega
      simp [this]

theorem filter_mem_of_sublist {α} [DecidableEq α] {r L : List α} (h : r.Sublist L) (hn : L.Nodup) :
    L.filter (fun x => decide (x ∈ r)) = r := by
  induction h with
  | slnil => rfl
  | @cons r' L' a hs ih =>
    have ⟨ha, hn'⟩ := List.nodup_cons.mp hn
    have : a ∉ r' := fun hm => ha (hs.subset hm)
    simp only [List.filter_cons, this, decide_false, Bool.false_eq_true, if_false]
    exact ih hn'
  | @cons_cons r' L' a hs ih =>
    have ⟨ha, hn'⟩ := List.nodup_cons.mp hn
    simp only [List.filter_cons, List.mem_cons, true_or, decide_true, if_true]
    congr 1
    have e : L'.filter (fun x => decide (x = a ∨ x ∈ r')) = L'.filter (fun x => decide (x ∈ r')) := by
      apply List.filter_congr
      intro x hx
      have : x ≠ a := fun e => ha (e ▸ hx)
      simp [this]
    rw [e]
    exact ih hn'

theorem lremKeep_length (l : List Bytes) (rm : List Nat)
    (h : rm.Sublist (List.range' 0 l.length)) :
    (lremKeep l rm).length + rm.length = l.length := by
  unfold lremKeep
  rw [List.length_map]
  have h1 := List.length_eq_countP_add_countP (fun p : Bytes × Nat => !rm.contains p.2) (l := l.zipIdx)
  rw [List.length_zipIdx] at h1
  rw [← List.countP_eq_length_filter]
  have h2 : List.countP (fun a : Bytes × Nat => decide ¬(!rm.contains a.2) = true) l.zipIdx = rm.length := by
    have e : (fun a : Bytes × Nat => decide ¬(!rm.contains a.2) = true)
        = (fun i : Nat => decide (i ∈ rm)) ∘ Prod.snd := by
      funext a; simp
    rw [e, ← List.countP_map, List.zipIdx_map_snd, List.countP_eq_length_filter,
      filter_mem_of_sublist h (List.nodup_range' 1)]
  omega

theorem lrem_count_semantics (l : List Bytes) (count : Int) (v : Bytes) :
    let rm := lremRm l count v
    let l' := lremKeep l rm
    rm.length = (if count = 0 then l.count v else min count.natAbs (l.count v)) ∧
    l'.length = l.length - rm.length ∧
    (∀ i ∈ rm, l[i]? = some v) ∧
    l'.filter (· != v) = l.filter (· != v) ∧
    l'.count v = l.count v - rm.length := by
  intro rm l'
  have hsub : rm.Sublist (List.range' 0 l.length) :=
    (lremRm_sublist l count v).trans (occurrences_sublist l v)
  have hlen : l'.length + rm.length = l.length := lremKeep_length l rm hsub
  have hv : ∀ i ∈ rm, l[i]? = some v := fun i hi =>
    (mem_occurrences l v i).mp ((lremRm_sublist l count v).subset hi)
  have hpres : l'.filter (· != v) = l.filter (· != v) := by
    show (lremKeep l rm).filter _ = _
    unfold lremKeep
    conv => rhs; rw [← List.zipIdx_map_fst 0 l]
    rw [List.filter_map, List.filter_map, List.filter_filter]
    congr 1
    apply List.filter_congr
    rintro ⟨x, i⟩ hx
    have hx := List.mem_zipIdx_iff_getElem?.mp hx
    simp only at hx
    simp only [Function.comp]
    by_cases hxv : x = v
    · simp [hxv]
    · have : i ∉ rm := fun hi => by
        have := hv i hi
        rw [hx] at this
        exact hxv (Option.some.inj this)
      simp [this]
  refine ⟨lremRm_length l count v, by omega, hv, hpres, ?_⟩
  -- count of `v` drops by exactly the number removed
  have c1 : ∀ m : List Bytes, m.length = m.count v + (m.filter (· != v)).length := by
    intro m
    have := List.length_eq_countP_add_countP (fun x => x == v) (l := m)
    rw [List.count_eq_countP, List.countP_eq_length_filter (p := fun x => decide ¬(x == v) = true)] at *
    have e : (fun x : Bytes => decide ¬(x == v) = true) = (fun x => x != v) := by
      funext x; by_cases h : x = v <;> simp [h]
    rw [e] at this
    exact this
  have a := c1 l
  have b := c1 l'
  rw [hpres] at b
  omega

/-! ## structural (index-free) specification of LREM -/

/-- delete the first `n` elements equal to `v` -/
def eraseFirstN (v : Bytes) : Nat → List Bytes → List Bytes
  | 0, l => l
  | _ + 1, [] => []
  | n + 1, x :: xs => if x == v then eraseFirstN v n xs else x :: eraseFirstN v (n + 1) xs

/-- keep the first `k` elements equal to `v`, delete every later one -/
def eraseAfterK (v : Bytes) : Nat → List Bytes → List Bytes
  | _, [] => []
  | 0, x :: xs => if x == v then eraseAfterK v 0 xs else x :: eraseAfterK v 0 xs
  | k + 1, x :: xs => if x == v then x :: eraseAfterK v k xs else x :: eraseAfterK v (k + 1) xs

/-- Redis LREM, declaratively: `count > 0` deletes the first `count` occurrences, `count < 0` the last
`-count` (i.e. all but the first `occurrences - |count|`), `count = 0` all of them -/
def lremSpec (l : List Bytes) (count : Int) (v : Bytes) : List Bytes :=
  if count > 0 then eraseFirstN v count.toNat l
  else if count < 0 then eraseAfterK v (l.count v - (-count).toNat) l
  else l.filter (· != v)

def occK (v : Bytes) (l : List Bytes) (k : Nat) : List Nat :=
  ((l.zipIdx k).filter (fun p => p.1 == v)).map Prod.snd
def keepK (l : List Bytes) (k : Nat) (rm : List Nat) : List Bytes :=
  ((l.zipIdx k).filter (fun p => !rm.contains p.2)).map Prod.fst

theorem occK_ge (v : Bytes) (l : List Bytes) (k i : Nat) (h : i ∈ occK v l k) : k ≤ i := by
  simp only [occK, List.mem_map, List.mem_filter] at h
  obtain ⟨p, ⟨hp, _⟩, rfl⟩ := h
  exact List.le_snd_of_mem_zipIdx hp

theorem occK_cons (v x : Bytes) (xs : List Bytes) (k : Nat) :
    occK v (x :: xs) k = if x == v then k :: occK v xs (k + 1) else occK v xs (k + 1) := by
  simp only [occK, List.zipIdx_cons, List.filter_cons]
  split <;> simp

theorem keepK_nil_rm (l : List Bytes) (k : Nat) : keepK l k [] = l := by
  simp only [keepK, List.contains_nil, Bool.not_false]
  rw [List.filter_eq_self.mpr (fun _ _ => rfl), List.zipIdx_map_fst]

theorem keepK_cons_keep (x : Bytes) (xs : List Bytes) (k : Nat) (rm : List Nat) (h : k ∉ rm) :
    keepK (x :: xs) k rm = x :: keepK xs (k + 1) rm := by
  simp [keepK, List.zipIdx_cons, h]

theorem keepK_cons_drop (x : Bytes) (xs : List Bytes) (k : Nat) (rm : List Nat) :
    keepK (x :: xs) k (k :: rm) = keepK xs (k + 1) rm := by
  simp only [keepK, List.zipIdx_cons, List.filter_cons, List.contains_cons, beq_self_eq_true,
    Bool.true_or, Bool.not_true, Bool.false_eq_true, if_false]
  congr 1
  apply List.filter_congr
  intro p hp
  have := List.le_snd_of_mem_zipIdx hp
  have : (p.2 == k) = false := by simp; omega
  simp [this]

theorem sublist_ge {r L : List Nat} {k : Nat} (h : r.Sublist L) (hL : ∀ i ∈ L, k + 1 ≤ i) : k ∉ r :=
  fun hk => by have := hL k (h.subset hk); omega

theorem keepK_take (v : Bytes) (l : List Bytes) : ∀ (k n : Nat),
    keepK l k ((occK v l k).take n) = eraseFirstN v n l := by
  induction l with
  | nil => intro k n; cases n <;> simp [keepK, eraseFirstN]
  | cons x xs ih =>
    intro k n
    cases n with
    | zero => simp [keepK_nil_rm, eraseFirstN]
    | succ n =>
      rw [occK_cons, eraseFirstN]
      split
      · rw [List.take_succ_cons, keepK_cons_drop, ih]
      · rw [keepK_cons_keep _ _ _ _ (sublist_ge (List.take_sublist _ _) (occK_ge v xs (k + 1))), ih]

theorem keepK_drop (v : Bytes) (l : List Bytes) : ∀ (k j : Nat),
    keepK l k ((occK v l k).drop j) = eraseAfterK v j l := by
  induction l with
  | nil => intro k j; simp [keepK, eraseAfterK]
  | cons x xs ih =>
    intro k j
    rw [occK_cons]
    cases j with
    | zero =>
      rw [eraseAfterK]
      split
      · rw [List.drop_zero, keepK_cons_drop]
        have := ih (k + 1) 0
        rwa [List.drop_zero] at this
      · rw [keepK_cons_keep _ _ _ _ (sublist_ge (List.drop_sublist _ _) (occK_ge v xs (k + 1))), ih]
    | succ j =>
      rw [eraseAfterK]
      split
      · rw [List.drop_succ_cons,
          keepK_cons_keep _ _ _ _ (sublist_ge (List.drop_sublist _ _) (occK_ge v xs (k + 1))), ih]
      · rw [keepK_cons_keep _ _ _ _ (sublist_ge (List.drop_sublist _ _) (occK_ge v xs (k + 1))), ih]

theorem eraseAfterK_zero (v : Bytes) (l : List Bytes) : eraseAfterK v 0 l = l.filter (· != v) := by
  induction l with
  | nil => rfl
  | cons x xs ih =>
    rw [eraseAfterK, ih, List.filter_cons]
    by_cases h : x = v <;> simp [h]

theorem lrem_eq_spec (l : List Bytes) (count : Int) (v : Bytes) :
    lremKeep l (lremRm l count v) = lremSpec l count v := by
  have hocc : Cmd.occurrences l v = occK v l 0 := rfl
  have hkeep : ∀ rm, lremKeep l rm = keepK l 0 rm := fun _ => rfl
  unfold lremRm lremSpec
  simp only
  rw [hkeep, occurrences_length, hocc]
  split
  · exact keepK_take v l 0 _
  · split
    · exact keepK_drop v l 0 _
    · have := keepK_drop v l 0 0
      rw [List.drop_zero] at this
      rw [this, eraseAfterK_zero]

theorem lremKeep_nil (l : List Bytes) : lremKeep l [] = l := keepK_nil_rm l 0

theorem lremRm_length_eq (l : List Bytes) (count : Int) (v : Bytes) :
    (lremRm l count v).length = l.length - (lremSpec l count v).length := by
  have := lremKeep_length l (lremRm l count v) ((lremRm_sublist l count v).trans (occurrences_sublist l v))
  rw [lrem_eq_spec] at this
  omega

theorem eraseFirstN_nil (v : Bytes) (n : Nat) : eraseFirstN v n [] = [] := by
  cases n <;> rfl

theorem eraseFirstN_append (v : Bytes) (a b : List Bytes) : ∀ m,
    eraseFirstN v m (a ++ b) = eraseFirstN v m a ++ eraseFirstN v (m - a.count v) b := by
  induction a with
  | nil => intro m; simp [eraseFirstN_nil]
  | cons x a' ih =>
    intro m
    cases m with
    | zero => simp [eraseFirstN]
    | succ m =>
      rw [List.cons_append, eraseFirstN, eraseFirstN, List.count_cons]
      by_cases h : (x == v) = true
      · rw [if_pos h, if_pos h, if_pos h, ih]
        congr 2
        omega
      · rw [if_neg h, if_neg h, if_neg h, ih]
        rfl

theorem eraseAfterK_cons_ne (v x : Bytes) (xs : List Bytes) (k : Nat) (h : ¬ (x == v) = true) :
    eraseAfterK v k (x :: xs) = x :: eraseAfterK v k xs := by
  cases k <;> rw [eraseAfterK, if_neg h]

/-- "keep only the first `occ - m` occurrences" is "delete the last `m` occurrences" -/
theorem eraseAfterK_eq_reverse (v : Bytes) (l : List Bytes) (m : Nat) :
    eraseAfterK v (l.count v - m) l = (eraseFirstN v m l.reverse).reverse := by
  induction l with
  | nil => simp [eraseAfterK, eraseFirstN_nil]
  | cons x xs ih =>
    rw [List.reverse_cons, eraseFirstN_append, List.reverse_append, ← ih, List.count_reverse,
      List.count_cons]
    by_cases h : (x == v) = true
    · rw [if_pos h]
      by_cases hm : xs.count v < m
      · have e1 : xs.count v + 1 - m = 0 := by omega
        have e2 : xs.count v - m = 0 := by omega
        obtain ⟨j, hj⟩ : ∃ j, m - xs.count v = j + 1 := ⟨m - xs.count v - 1, by omega⟩
        rw [e1, e2, hj, eraseAfterK, if_pos h, eraseFirstN, if_pos h, eraseFirstN_nil]
        rfl
      · have e1 : xs.count v + 1 - m = (xs.count v - m) + 1 := by omega
        have e2 : m - xs.count v = 0 := by omega
        rw [e1, e2, eraseAfterK, if_pos h]
        rfl
    · rw [if_neg h, Nat.add_zero, eraseAfterK_cons_ne _ _ _ _ h]
      cases hm : m - xs.count v with
      | zero => rfl
      | succ j => rw [eraseFirstN, if_neg h]; rfl

end FR.Proofs

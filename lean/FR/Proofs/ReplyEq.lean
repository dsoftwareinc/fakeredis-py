import FR.Prelude.Reply
import FR.Data.Value
/-!
# Decidable equality of replies and of stored values, for test vectors checked by `decide +kernel`
-/
namespace FR

mutual
/-- the `deriving` handler does not cover the nested occurrence in `arr` -/
def Reply.decEq : (a b : Reply) → Decidable (a = b)
  | .nil, .nil => isTrue rfl
  | .int n, .int m => decidable_of_iff (n = m) ⟨congrArg _, Reply.int.inj⟩
  | .bulk x, .bulk y => decidable_of_iff (x = y) ⟨congrArg _, Reply.bulk.inj⟩
  | .status x, .status y => decidable_of_iff (x = y) ⟨congrArg _, Reply.status.inj⟩
  | .err x, .err y => decidable_of_iff (x = y) ⟨congrArg _, Reply.err.inj⟩
  | .arr xs, .arr ys => @decidable_of_iff _ (xs = ys) ⟨congrArg _, Reply.arr.inj⟩ (Reply.decEqList xs ys)
  | .nil, .int _ | .nil, .bulk _ | .nil, .status _ | .nil, .err _ | .nil, .arr _ => isFalse nofun
  | .int _, .nil | .int _, .bulk _ | .int _, .status _ | .int _, .err _ | .int _, .arr _ => isFalse nofun
  | .bulk _, .nil | .bulk _, .int _ | .bulk _, .status _ | .bulk _, .err _ | .bulk _, .arr _ => isFalse nofun
  | .status _, .nil | .status _, .int _ | .status _, .bulk _ | .status _, .err _ | .status _, .arr _ => isFalse nofun
  | .err _, .nil | .err _, .int _ | .err _, .bulk _ | .err _, .status _ | .err _, .arr _ => isFalse nofun
  | .arr _, .nil | .arr _, .int _ | .arr _, .bulk _ | .arr _, .status _ | .arr _, .err _ => isFalse nofun
def Reply.decEqList : (xs ys : List Reply) → Decidable (xs = ys)
  | [], [] => isTrue rfl
  | [], _ :: _ | _ :: _, [] => isFalse nofun
  | x :: xs, y :: ys =>
    match Reply.decEq x y, Reply.decEqList xs ys with
    | isTrue h1, isTrue h2 => isTrue (by rw [h1, h2])
    | isFalse h, _ => isFalse fun e => h (List.cons.inj e).1
    | _, isFalse h => isFalse fun e => h (List.cons.inj e).2
end

instance : DecidableEq Reply := Reply.decEq

deriving instance DecidableEq for ZSet, Value, Item, Except

end FR

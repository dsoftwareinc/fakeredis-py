import FR.Proofs.AsyncLife
/-!
# BLPOP / BRPOP / BRPOPLPUSH as one body

The three blocking commands of `special` differ only in how they read their arguments: the keys the connection parks on,
the time-out, and the pass that `_blocking` runs.  `blockArgs` is that reading, `blockBody` the common rest,
`special_blocking` the equation; `blockBody_cases` gives the result outside a transaction and the parking record.
-/
namespace FR
open M

/-- how a blocking command reads its arguments: the keys it parks on, the time-out, its pass over database `d` -/
def blockArgs (name : String) (d : Nat) (args : List Arg) : Except Err (List Bytes × Int × Pass) :=
  if name = "brpoplpush" then
    match args with
    | [.raw src, .raw dst, .int t] => .ok ([src, dst], t, fun first => brpoplpushPass d src dst first)
    | _ => .error "model: bad args"
  else
    match (Cmd.rawArgs args).getLast? with
    | none => .error "model: bad args"
    | some tb =>
      match Conv.timeout tb with
      | .error e => .error e
      | .ok t => .ok ((Cmd.rawArgs args).dropLast, t,
          fun first => bpopPass d (name == "blpop") first (Cmd.rawArgs args).dropLast)

def blockBody (mode : Mode) (c : Nat) (name : String) (args : List Arg) (cis : List CI) (s : Sys) : SpecialOut × Sys :=
  match blockArgs name (s.conn c).db args with
  | .error e => (.error e, s)
  | .ok (keys, t, pass) =>
    match (blockCall mode c name keys t pass s).1 with
    | .error e => (.error e, (blockCall mode c name keys t pass s).2)
    | .ok r => (.ok (r, cis), (blockCall mode c name keys t pass s).2)

theorem special_blocking (inner : Inner) (mode : Mode) (c : Nat) {name : String} (h : name ∈ blockingNames)
    (args : List Arg) (cis : List CI) (s : Sys) :
    special inner mode c name args cis s = blockBody mode c name args cis s := by
  have fin : ∀ (X : M (Except Err (Option Reply))),
      (do match ← X with
          | .error e => return .error e
          | .ok r => return .ok (r, cis) : M SpecialOut) s =
      match (X s).1 with
      | .error e => (.error e, (X s).2)
      | .ok r => (.ok (r, cis), (X s).2) := by
    intro X; simp only [bind, StateT.bind]; obtain ⟨r, s2⟩ := X s; cases r <;> rfl
  simp only [blockingNames, List.mem_cons, List.not_mem_nil, or_false] at h
  rcases h with rfl | rfl | rfl
  · unfold special blockBody blockArgs
    simp only [bind, StateT.bind, getConn_run, String.reduceEq, ↓reduceIte]
    cases (Cmd.rawArgs args).getLast? with
    | none => rfl
    | some tb =>
      dsimp only
      cases Conv.timeout tb with
      | error e => rfl
      | ok t => exact fin _
  · unfold special blockBody blockArgs
    simp only [bind, StateT.bind, getConn_run, String.reduceEq, ↓reduceIte]
    cases (Cmd.rawArgs args).getLast? with
    | none => rfl
    | some tb =>
      dsimp only
      cases Conv.timeout tb with
      | error e => rfl
      | ok t => exact fin _
  · by_cases h : ∃ src dst t, args = [Arg.raw src, .raw dst, .int t]
    · obtain ⟨src, dst, t, rfl⟩ := h
      unfold special blockBody blockArgs
      simp only [bind, StateT.bind, getConn_run, String.reduceEq, ↓reduceIte]
      exact fin _
    · have e : ∀ d, blockArgs "brpoplpush" d args = .error "model: bad args" := by
        intro d; unfold blockArgs; rw [if_pos rfl]; split
        · exact absurd ⟨_, _, _, rfl⟩ h
        · rfl
      unfold special blockBody
      rw [e]
      simp only [bind, StateT.bind, getConn_run]
      split
      · exact absurd ⟨_, _, _, rfl⟩ h
      · rfl

theorem special_blocking' (inner : Inner) (mode : Mode) (c : Nat) {name : String} (h : name ∈ blockingNames)
    (args : List Arg) (cis : List CI) : special inner mode c name args cis = blockBody mode c name args cis :=
  funext (special_blocking inner mode c h args cis)

theorem blockArgs_framed {name : String} {d : Nat} {args : List Arg} {keys : List Bytes} {t : Int} {pass : Pass}
    (h : blockArgs name d args = .ok (keys, t, pass)) (first : Bool) : Framed (pass first) := by
  unfold blockArgs at h
  split at h
  · split at h
    · cases h; exact framed_brpoplpushPass ..
    · cases h
  · split at h
    · cases h
    · split at h
      · cases h
      · cases h; exact framed_bpopPass ..

/-- Only the result and, when it parks, the kind, keys and database of the parking record are stated; the whole final
state is `blockCall_run` with `Sys.unserved`. -/
theorem blockCall_cases (mode : Mode) (c : Nat) (name : String) (keys : List Bytes) (t : Int) (pass : Pass)
    (hpass : Framed (pass true)) (s : Sys) (hin : (s.conn c).inTx = false) (hc : s.HasConn c) :
    match (pass true s).1 with
    | .error e => (blockCall mode c name keys t pass s).1 = .error e
    | .ok (some r) => (blockCall mode c name keys t pass s).1 = .ok (some r)
    | .ok none =>
      if (mode.park || mode.async) = true then
        (blockCall mode c name keys t pass s).1 = .ok none ∧
        (∃ p, ((blockCall mode c name keys t pass s).2.conn c).parked = some p ∧ p.kind = name ∧ p.keys = keys ∧
          p.db = (s.conn c).db ∧ (t = 0 ∨ mode.async = true → p.deadline = none)) ∧
        (mode.async = true → ((blockCall mode c name keys t pass s).2.conn c).paused = true)
      else (blockCall mode c name keys t pass s).1 = .ok (some .nil) := by
  have hin1 := ((hpass.frame s).inTx c).trans hin
  have hdb1 := (hpass.frame s).db c
  have hc1 := ((hpass.frame s).hasConn c).2 hc
  rw [blockCall_run]
  generalize pass true s = X at hin1 hdb1 hc1
  obtain ⟨res, s1⟩ := X
  simp only at hin1 hdb1 hc1
  rcases res with e | _ | r
  · rfl
  · -- nothing served: `Sys.unserved`, outside a transaction
    have hpk : ∀ (s2 : Sys) (f : Conn → Conn) {β} (proj : Conn → β) (v : β), s2.HasConn c → (∀ x, (f x).id = x.id) →
        (∀ x, proj (f x) = v) → proj ((s2.updConn c f).conn c) = v :=
      fun s2 f _ proj v h hf hv => by rw [Sys.conn_updConn_same f h hf]; exact hv _
    cases hasync : mode.async <;> cases hpark : mode.park <;>
      simp only [Sys.unserved, hin1, hasync, hpark, Bool.or_false, Bool.or_true, Bool.or_self, Bool.false_eq_true,
        if_true, if_false]
    · refine ⟨trivial, ⟨⟨name, keys, (s1.conn c).db, s1.deadline t, false⟩,
        hpk _ _ Conn.parked _ ((Sys.clocked_hasConn ..).2 hc1) (fun _ => rfl) (fun _ => rfl),
        rfl, rfl, hdb1, fun h => ?_⟩, fun h => by cases h⟩
      rcases h with rfl | h
      · rfl
      · cases h
    all_goals
      exact ⟨trivial, ⟨⟨name, keys, (s1.conn c).db, none, false⟩,
        hpk _ _ Conn.parked _ hc1 (fun _ => rfl) (fun _ => rfl), rfl, rfl, hdb1, fun _ => rfl⟩,
        fun _ => hpk _ _ Conn.paused _ hc1 (fun _ => rfl) (fun _ => rfl)⟩
  · rfl

/-- `blockCall_cases` for the body of a blocking command, the three kinds at once -/
theorem blockBody_cases (mode : Mode) (c : Nat) (name : String) (args : List Arg) (cis : List CI) (s : Sys)
    (hin : (s.conn c).inTx = false) (hc : s.HasConn c) :
    match blockArgs name (s.conn c).db args with
    | .error e => blockBody mode c name args cis s = (.error e, s)
    | .ok (keys, t, pass) =>
      match (pass true s).1 with
      | .error e => (blockBody mode c name args cis s).1 = .error e
      | .ok (some r) => (blockBody mode c name args cis s).1 = .ok (some r, cis)
      | .ok none =>
        if (mode.park || mode.async) = true then
          (blockBody mode c name args cis s).1 = .ok (none, cis) ∧
          (∃ p, ((blockBody mode c name args cis s).2.conn c).parked = some p ∧ p.kind = name ∧ p.keys = keys ∧
            p.db = (s.conn c).db ∧ (t = 0 ∨ mode.async = true → p.deadline = none)) ∧
          (mode.async = true → ((blockBody mode c name args cis s).2.conn c).paused = true)
        else (blockBody mode c name args cis s).1 = .ok (some .nil, cis) := by
  unfold blockBody
  cases h : blockArgs name (s.conn c).db args with
  | error e => rfl
  | ok x =>
    obtain ⟨keys, t, pass⟩ := x
    dsimp only
    have hb := blockCall_cases mode c name keys t pass (blockArgs_framed h true) s hin hc
    revert hb
    generalize blockCall mode c name keys t pass s = X
    obtain ⟨br, s2⟩ := X
    dsimp only
    rcases (pass true s).1 with e | _ | r
    · rintro rfl; rfl
    · dsimp only
      split
      · rintro ⟨rfl, h2, h3⟩; exact ⟨rfl, h2, h3⟩
      · rintro rfl; rfl
    · rintro rfl; rfl

end FR

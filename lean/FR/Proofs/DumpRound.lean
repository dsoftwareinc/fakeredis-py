import FR.Proofs.StrKeys
import FR.Proofs.HashSetCmds
import FR.Proofs.Script
import FR.Proofs.C03zRun
import FR.Proofs.C02lLists
/-!
# The DUMP payload of the collection types

`Cmd.dumpValue` / `Cmd.loadValue` (FR/Cmd/Keys.lean) are the model's payload codec; `FR/Props/C01d.lean` states that a
restored key holds an independent copy equal to the original up to what the codec normalises.  Here, in order: split /
join and the bytes `hexB` emits; the round trip for lists, sets, hashes; canonical doubles (`Canon`) are exactly those
that survive `ofBits ∘ toBits`; the round trip for sorted sets (the decoder re-inserts the pairs in `byscore` order:
`restoredZ`); the value level in one statement (`restoredValue`, `loadValue_dumpValue`, `Same`) and RPUSH, SADD, HSET,
ZADD through the runner on a key holding a collection; the invariants of the copy and the bodies that do not decode;
last, every double the arithmetic produces is canonical and the sorted-set operations keep canonical scores, so that
the hypothesis `ScoresCanon` of the sorted-set round trip holds for every sorted set a command sequence can build.
-/
namespace FR.DumpRound
open FR FR.StrKeys

/-! ## Split / join -/

theorem go_end (sep : UInt8) (x : Bytes) (hx : sep ∉ x) (cur : Bytes) :
    Cmd.splitOn.go sep x cur = [cur.reverse ++ x] := by
  induction x generalizing cur with
  | nil => simp [Cmd.splitOn.go]
  | cons c cs ih =>
    have hc : (c == sep) = false := by
      simp only [beq_eq_false_iff_ne, ne_eq]
      intro e; exact hx (by simp [e])
    have hcs : sep ∉ cs := fun h => hx (List.mem_cons_of_mem _ h)
    rw [Cmd.splitOn.go, hc]
    simp only [Bool.false_eq_true, if_false]
    rw [ih hcs]
    simp

theorem go_sep (sep : UInt8) (x : Bytes) (hx : sep ∉ x) (rest cur : Bytes) :
    Cmd.splitOn.go sep (x ++ sep :: rest) cur = (cur.reverse ++ x) :: Cmd.splitOn.go sep rest [] := by
  induction x generalizing cur with
  | nil => simp [Cmd.splitOn.go]
  | cons c cs ih =>
    have hc : (c == sep) = false := by
      simp only [beq_eq_false_iff_ne, ne_eq]
      intro e; exact hx (by simp [e])
    have hcs : sep ∉ cs := fun h => hx (List.mem_cons_of_mem _ h)
    rw [List.cons_append, Cmd.splitOn.go, hc]
    simp only [Bool.false_eq_true, if_false]
    rw [ih hcs]
    simp

theorem splitOn_joinWith (sep : UInt8) (x : Bytes) (xs : List Bytes) (h : ∀ y ∈ x :: xs, sep ∉ y) :
    Cmd.splitOn sep (Cmd.joinWith sep (x :: xs)) = x :: xs := by
  unfold Cmd.splitOn
  induction xs generalizing x with
  | nil =>
    simp only [Cmd.joinWith]
    rw [go_end sep x (h x (by simp))]
    simp
  | cons y ys ih =>
    simp only [Cmd.joinWith]
    rw [go_sep sep x (h x (by simp))]
    rw [ih y (fun z hz => h z (List.mem_cons_of_mem _ hz))]
    simp

theorem joinWith_ne_nil (sep : UInt8) (x : Bytes) (xs : List Bytes) (hx : x ≠ []) :
    Cmd.joinWith sep (x :: xs) ≠ [] := by
  cases xs with
  | nil => simpa [Cmd.joinWith] using hx
  | cons y ys =>
    simp only [Cmd.joinWith]
    cases x with
    | nil => exact absurd rfl hx
    | cons a as => simp

theorem parseItems_joinWith (xs : List Bytes) (h : ∀ y ∈ xs, (44 : UInt8) ∉ y ∧ y ≠ []) :
    Cmd.parseItems (Cmd.joinWith 44 xs) = xs := by
  cases xs with
  | nil => rfl
  | cons x xs =>
    unfold Cmd.parseItems
    have hne := joinWith_ne_nil 44 x xs (h x (by simp)).2
    have : (Cmd.joinWith 44 (x :: xs)).isEmpty = false := by
      cases hj : Cmd.joinWith 44 (x :: xs) with
      | nil => exact absurd hj hne
      | cons _ _ => rfl
    rw [this]
    simp only [Bool.false_eq_true, if_false]
    exact splitOn_joinWith 44 x xs (fun y hy => (h y hy).1)

/-! ### the bytes `hexB` emits -/

theorem hexB_eq (b : Bytes) : Cmd.hexB b = if b.isEmpty then [95] else hexBytes b := by
  unfold Cmd.hexB
  split
  · rfl
  · exact strBytes_toHex b

theorem hexB_ne_nil (b : Bytes) : Cmd.hexB b ≠ [] := by
  rw [hexB_eq]
  cases b with
  | nil => simp
  | cons c cs => simp [hexBytes]

theorem hexB_no_sep (b : Bytes) : (44 : UInt8) ∉ Cmd.hexB b ∧ (61 : UInt8) ∉ Cmd.hexB b := by
  rw [hexB_eq]
  split
  · simp
  · exact ⟨hexBytes_no b 44 (by decide), hexBytes_no b 61 (by decide)⟩

theorem mapM_unhexB_hexB (l : List Bytes) : (l.map Cmd.hexB).mapM Cmd.unhexB = some l := by
  induction l with
  | nil => rfl
  | cons x xs ih => simp [List.mapM_cons, unhexB_hexB, ih]

/-! ## Lists, sets, hashes -/

theorem items_roundtrip (l : List Bytes) :
    (Cmd.parseItems (Cmd.joinWith 44 (l.map Cmd.hexB))).mapM Cmd.unhexB = some l := by
  rw [parseItems_joinWith _ (by
    intro y hy
    obtain ⟨b, _, rfl⟩ := List.mem_map.1 hy
    exact ⟨(hexB_no_sep b).1, hexB_ne_nil b⟩)]
  exact mapM_unhexB_hexB l

theorem loadValue_dumpValue_list (l : List Bytes) :
    Cmd.loadValue (Cmd.dumpValue (.list l)) = some (.list l) := by
  simp only [Cmd.dumpValue, Cmd.loadValue, items_roundtrip]; rfl

theorem loadValue_dumpValue_set (s : List Bytes) :
    Cmd.loadValue (Cmd.dumpValue (.set s)) = some (.set (sortBy bytesLt s)) := by
  simp only [Cmd.dumpValue, Cmd.loadValue, items_roundtrip]; rfl

/-- the decoder of one `field=value` item of a hash payload -/
def hashItem (it : Bytes) : Option (Bytes × Bytes) :=
  match Cmd.splitOn 61 it with
  | [a, b] => (Cmd.unhexB a).bind fun a' => (Cmd.unhexB b).map fun b' => (a', b')
  | _ => none

theorem splitOn_pair (a b : Bytes) (ha : (61 : UInt8) ∉ a) (hb : (61 : UInt8) ∉ b) :
    Cmd.splitOn 61 (a ++ 61 :: b) = [a, b] := by
  unfold Cmd.splitOn
  rw [go_sep 61 a ha, go_end 61 b hb]
  simp

theorem hashItem_enc (p : Bytes × Bytes) : hashItem (Cmd.hexB p.1 ++ 61 :: Cmd.hexB p.2) = some p := by
  unfold hashItem
  rw [splitOn_pair _ _ (hexB_no_sep p.1).2 (hexB_no_sep p.2).2]
  simp [unhexB_hexB]

theorem mapM_hashItem (h : List (Bytes × Bytes)) :
    (h.map fun p => Cmd.hexB p.1 ++ 61 :: Cmd.hexB p.2).mapM hashItem = some h := by
  induction h with
  | nil => rfl
  | cons x xs ih => simp [List.mapM_cons, hashItem_enc, ih]

theorem no44_append {a b : Bytes} (ha : (44 : UInt8) ∉ a) (hb : (44 : UInt8) ∉ b) :
    (44 : UInt8) ∉ a ++ 61 :: b := by
  intro h
  rcases List.mem_append.1 h with h | h
  · exact ha h
  · rcases List.mem_cons.1 h with h | h
    · exact absurd h (by decide)
    · exact hb h

theorem loadValue_dumpValue_hash (h : List (Bytes × Bytes)) :
    Cmd.loadValue (Cmd.dumpValue (.hash h)) = some (.hash h) := by
  simp only [Cmd.dumpValue, Cmd.loadValue]
  rw [parseItems_joinWith _ (by
    intro y hy
    obtain ⟨p, _, rfl⟩ := List.mem_map.1 hy
    refine ⟨no44_append (hexB_no_sep p.1).1 (hexB_no_sep p.2).1, ?_⟩
    cases Cmd.hexB p.1 <;> simp)]
  exact congrArg (Option.map Value.hash) (mapM_hashItem h)

/-! ## Canonical doubles and the bit image -/

/-- the canonical representation of a binary64 value inside `Dbl`: subnormals (and both zeros) are
`m < 2^52, e = -1074`; normals are `2^52 ≤ m < 2^53, -1074 ≤ e ≤ 971`; infinities and the NaN are canonical -/
def Canon : Dbl → Prop
  | .fin _ m e => (m < 2^52 ∧ e = -1074) ∨ (2^52 ≤ m ∧ m < 2^53 ∧ -1074 ≤ e ∧ e ≤ 971)
  | _ => True

instance (d : Dbl) : Decidable (Canon d) := by
  unfold Canon; split <;> infer_instance

theorem or3 (t fr : Nat) (hfr : fr < 2^52) : (t <<< 52 ||| fr) = t * 2^52 + fr := by
  rw [← Nat.shiftLeft_add_eq_or_of_lt hfr, Nat.shiftLeft_eq]

theorem bitsNat (s : Bool) (ex fr : Nat) (hex : ex < 2048) (hfr : fr < 2^52) :
    ((if s then (0x8000000000000000 : UInt64) else 0) ||| (UInt64.ofNat ex <<< 52) ||| UInt64.ofNat fr).toNat
      = (if s then 2^63 else 0) + ex * 2^52 + fr := by
  have h1 : ex % 2^64 = ex := Nat.mod_eq_of_lt (by omega)
  have h2 : fr % 2^64 = fr := Nat.mod_eq_of_lt (by omega)
  have h3 : (ex <<< 52) % 2^64 = ex <<< 52 := Nat.mod_eq_of_lt (by rw [Nat.shiftLeft_eq]; omega)
  have h4 : ((52 : UInt64).toNat % 64) = 52 := by decide
  simp only [UInt64.toNat_or, UInt64.toNat_shiftLeft, UInt64.toNat_ofNat', h1, h2, h4, h3]
  cases s with
  | false =>
    have : (0 : UInt64).toNat = 0 := rfl
    simp only [Bool.false_eq_true, if_false, this, Nat.zero_or, Nat.zero_add]
    exact or3 ex fr hfr
  | true =>
    have : (0x8000000000000000 : UInt64).toNat = 2048 <<< 52 := by decide
    simp only [if_true, this, ← Nat.shiftLeft_or_distrib]
    rw [or3 _ fr hfr]
    have : (2048 ||| ex) = 2048 + ex := by
      have := Nat.shiftLeft_add_eq_or_of_lt (i := 11) (b := ex) (by omega) 1
      simpa using this.symm
    rw [this]; omega

theorem fieldsNat (n : Nat) (s : Bool) (ex fr : Nat) (hex : ex < 2048) (hfr : fr < 2^52)
    (hn : n = (if s then 2^63 else 0) + ex * 2^52 + fr) :
    n >>> 63 = (if s then 1 else 0) ∧ (n >>> 52) &&& 0x7FF = ex ∧ n &&& 0xFFFFFFFFFFFFF = fr := by
  have e1 : (0x7FF : Nat) = 2^11 - 1 := by decide
  have e2 : (0xFFFFFFFFFFFFF : Nat) = 2^52 - 1 := by decide
  rw [e1, e2, Nat.and_two_pow_sub_one_eq_mod, Nat.and_two_pow_sub_one_eq_mod, Nat.shiftRight_eq_div_pow,
    Nat.shiftRight_eq_div_pow]
  subst hn
  cases s <;> simp only [if_true, Bool.false_eq_true, if_false] <;> omega

theorem ofBits_pack (s : Bool) (ex fr : Nat) (hex : ex < 2048) (hfr : fr < 2^52) :
    Dbl.ofBits ((if s then (0x8000000000000000 : UInt64) else 0) ||| (UInt64.ofNat ex <<< 52) ||| UInt64.ofNat fr) =
      if ex == 0x7FF then (if fr == 0 then .inf s else .nan)
      else if ex == 0 then .fin s fr (-1074)
      else .fin s (fr + Dbl.pow2 52) ((ex : Int) - 1075) := by
  obtain ⟨f1, f2, f3⟩ := fieldsNat _ s ex fr hex hfr (bitsNat s ex fr hex hfr)
  generalize (if s then (0x8000000000000000 : UInt64) else 0) ||| (UInt64.ofNat ex <<< 52) ||| UInt64.ofNat fr = b
    at f1 f2 f3
  have h63 : ((63 : UInt64).toNat % 64) = 63 := by decide
  have h52 : ((52 : UInt64).toNat % 64) = 52 := by decide
  have g1 : ((b >>> 63) == 1) = s := by
    have : (b >>> 63).toNat = if s then 1 else 0 := by rw [UInt64.toNat_shiftRight, h63]; exact f1
    cases s with
    | true =>
      have : b >>> 63 = 1 := UInt64.toNat_inj.1 (by rw [this]; rfl)
      rw [this]; rfl
    | false =>
      have hne : b >>> 63 ≠ 1 := by
        intro e; rw [e] at this; exact absurd this (by decide)
      simpa using hne
  have g2 : ((b >>> 52) &&& 0x7FF).toNat = ex := by
    rw [UInt64.toNat_and, UInt64.toNat_shiftRight, h52]; exact f2
  have g3 : (b &&& 0xFFFFFFFFFFFFF).toNat = fr := by
    rw [UInt64.toNat_and]; exact f3
  unfold Dbl.ofBits
  simp only [g1, g2, g3]

theorem pow2_52 : Dbl.pow2 52 = 2^52 := by decide

theorem ofBits_toBits {d : Dbl} (h : Canon d) : Dbl.ofBits (Dbl.toBits d) = d := by
  cases d with
  | nan => decide
  | inf neg => cases neg <;> decide
  | fin neg m e =>
    unfold Dbl.toBits
    simp only [pow2_52]
    rcases h with ⟨hm, he⟩ | ⟨h1, h2, h3, h4⟩
    · subst he
      have hz : (UInt64.ofNat 0 <<< 52) = 0 := by decide
      have : (if neg then (0x8000000000000000 : UInt64) else 0) ||| UInt64.ofNat m =
          (if neg then (0x8000000000000000 : UInt64) else 0) ||| (UInt64.ofNat 0 <<< 52) ||| UInt64.ofNat m := by
        rw [hz, UInt64.or_zero]
      simp only [hm, if_true]
      rw [this, ofBits_pack neg 0 m (by omega) hm]
      rfl
    · have hm : ¬ m < 2^52 := by omega
      simp only [hm, if_false]
      rw [ofBits_pack neg (e + 1075).toNat (m - 2^52) (by omega) (by omega)]
      have c1 : ((e + 1075).toNat == 0x7FF) = false := by
        simp only [beq_eq_false_iff_ne, ne_eq]; omega
      have c2 : ((e + 1075).toNat == 0) = false := by
        simp only [beq_eq_false_iff_ne, ne_eq]; omega
      rw [c1, c2]
      simp only [Bool.false_eq_true, if_false, pow2_52]
      congr 1
      · omega
      · omega

theorem canon_ofBits (b : UInt64) : Canon (Dbl.ofBits b) := by
  have hfr : (b &&& 0xFFFFFFFFFFFFF).toNat < 2^52 := by
    rw [UInt64.toNat_and]
    have : (0xFFFFFFFFFFFFF : UInt64).toNat = 2^52 - 1 := by decide
    rw [this, Nat.and_two_pow_sub_one_eq_mod]
    exact Nat.mod_lt _ (by decide)
  have hex : ((b >>> 52) &&& 0x7FF).toNat < 2048 := by
    rw [UInt64.toNat_and]
    have : (0x7FF : UInt64).toNat = 2^11 - 1 := by decide
    rw [this, Nat.and_two_pow_sub_one_eq_mod]
    exact Nat.mod_lt _ (by decide)
  unfold Dbl.ofBits
  simp only
  split
  · split <;> trivial
  · rename_i h1
    split
    · exact Or.inl ⟨hfr, rfl⟩
    · rename_i h2
      simp only [beq_iff_eq] at h1 h2
      rw [pow2_52]
      refine Or.inr ⟨?_, ?_, ?_, ?_⟩ <;> omega

theorem canon_iff (d : Dbl) : Canon d ↔ Dbl.ofBits (Dbl.toBits d) = d :=
  ⟨ofBits_toBits, fun h => h ▸ canon_ofBits _⟩

/-! ## Sorted sets -/

/-- the `bylex` entry of a `byscore` entry -/
def swap (p : Dbl × Bytes) : Bytes × Dbl := (p.2, p.1)

/-- the decoder of one `member=bits` item of a sorted-set payload -/
def zsetItem (it : Bytes) : Option (Bytes × Dbl) :=
  match Cmd.splitOn 61 it with
  | [a, b] =>
    (Cmd.unhexB a).bind fun a' =>
      if b.all isDigit && !b.isEmpty then some (a', Dbl.ofBits (UInt64.ofNat (digitsVal b))) else none
  | _ => none

/-- what the decoder does with the decoded pairs: insert them one after the other into the empty sorted set -/
def rebuild (ps : List (Bytes × Dbl)) : ZSet :=
  ps.foldl (fun (z : ZSet) (p : Bytes × Dbl) => (z.add p.1 p.2).1) ZSet.empty

theorem strBytes_toString (n : Nat) : strBytes (toString n) = natDigits n := rfl

theorem natDigits_no_sep (n : Nat) : (44 : UInt8) ∉ natDigits n ∧ (61 : UInt8) ∉ natDigits n := by
  constructor <;> intro h <;> exact absurd (natDigits_isDigit_of_mem h) (by decide)

theorem zsetItem_enc (p : Dbl × Bytes) :
    zsetItem (Cmd.hexB p.2 ++ 61 :: strBytes (toString (Dbl.toBits p.1).toNat)) =
      some (p.2, Dbl.ofBits (Dbl.toBits p.1)) := by
  unfold zsetItem
  rw [strBytes_toString, splitOn_pair _ _ (hexB_no_sep p.2).2 (natDigits_no_sep _).2]
  have hne : (natDigits (Dbl.toBits p.1).toNat).isEmpty = false := by
    cases h : natDigits (Dbl.toBits p.1).toNat with
    | nil => exact absurd h (natDigits_ne_nil _)
    | cons _ _ => rfl
  simp [unhexB_hexB, natDigits_all_isDigit, hne, digitsVal_natDigits]

theorem mapM_zsetItem (l : List (Dbl × Bytes)) :
    (l.map fun p => Cmd.hexB p.2 ++ 61 :: strBytes (toString (Dbl.toBits p.1).toNat)).mapM zsetItem =
      some (l.map fun p => (p.2, Dbl.ofBits (Dbl.toBits p.1))) := by
  induction l with
  | nil => rfl
  | cons x xs ih =>
    rw [List.map_cons, List.mapM_cons, zsetItem_enc, ih]
    rfl

theorem loadValue_dumpValue_zset_raw (z : ZSet) :
    Cmd.loadValue (Cmd.dumpValue (.zset z)) =
      some (.zset (rebuild (z.byscore.map fun p => (p.2, Dbl.ofBits (Dbl.toBits p.1))))) := by
  simp only [Cmd.dumpValue, Cmd.loadValue]
  rw [parseItems_joinWith _ (by
    intro y hy
    obtain ⟨p, _, rfl⟩ := List.mem_map.1 hy
    refine ⟨?_, ?_⟩
    · rw [strBytes_toString]; exact no44_append (hexB_no_sep p.2).1 (natDigits_no_sep _).1
    · cases Cmd.hexB p.2 <;> simp)]
  exact congrArg (Option.map fun (ps : List (Bytes × Dbl)) => Value.zset (rebuild ps)) (mapM_zsetItem z.byscore)

/-- every score of the sorted set is in canonical representation -/
def ScoresCanon (z : ZSet) : Prop := ∀ p ∈ z.byscore, Canon p.1

theorem map_canon {l : List (Dbl × Bytes)} (h : ∀ p ∈ l, Canon p.1) :
    (l.map fun p => (p.2, Dbl.ofBits (Dbl.toBits p.1))) = l.map swap := by
  apply List.map_congr_left
  intro p hp
  simp only [swap, ofBits_toBits (h p hp)]

theorem insertSortedPair_last (s : Dbl) (m : Bytes) (l : List (Dbl × Bytes))
    (h : ∀ p ∈ l, ZSet.PLt p (s, m)) : ZSet.insertSortedPair s m l = l ++ [(s, m)] := by
  induction l with
  | nil => rfl
  | cons x xs ih =>
    obtain ⟨s', m'⟩ := x
    have hx : pairLt s (.val m) s' (.val m') = false := pairLt_asymm (h (s', m') (by simp))
    unfold ZSet.insertSortedPair
    rw [hx]
    simp only [Bool.false_eq_true, if_false, List.cons_append]
    rw [ih (fun p hp => h p (List.mem_cons_of_mem _ hp))]

theorem map_swap_fst (l : List (Dbl × Bytes)) : (l.map swap).map Prod.fst = l.map Prod.snd := by
  rw [List.map_map]; rfl

theorem foldl_add_sorted (suf pre : List (Dbl × Bytes)) (hs : (pre ++ suf).Pairwise ZSet.PLt)
    (hn : ((pre ++ suf).map Prod.snd).Nodup) :
    (suf.map swap).foldl (fun (z : ZSet) (p : Bytes × Dbl) => (z.add p.1 p.2).1) ⟨pre.map swap, pre⟩ =
      ⟨(pre ++ suf).map swap, pre ++ suf⟩ := by
  induction suf generalizing pre with
  | nil => simp
  | cons x rest ih =>
    obtain ⟨s, m⟩ := x
    have hfresh : m ∉ pre.map Prod.snd := by
      intro hm
      rw [List.map_append, List.map_cons] at hn
      have := (List.nodup_append.1 hn).2.2 m hm m (by simp)
      exact this rfl
    have hlt : ∀ p ∈ pre, ZSet.PLt p (s, m) := by
      intro p hp
      exact (List.pairwise_append.1 hs).2.2 p hp (s, m) (by simp)
    have hget : (ZSet.mk (pre.map swap) pre).get m = none := by
      rw [ZSet.get_none_iff]
      show m ∉ (pre.map swap).map Prod.fst
      rw [map_swap_fst]; exact hfresh
    have hany : (pre.map swap).any (fun p => p.1 == m) = false := by
      cases h : (pre.map swap).any (fun p => p.1 == m) with
      | false => rfl
      | true =>
        rw [ZSet.any_key_iff, map_swap_fst] at h
        exact absurd h hfresh
    have hadd : ((ZSet.mk (pre.map swap) pre).add m s).1 =
        ⟨(pre ++ [(s, m)]).map swap, pre ++ [(s, m)]⟩ := by
      unfold ZSet.add
      rw [hget]
      simp only [ZSet.dictSet, hany, Bool.false_eq_true, if_false, insertSortedPair_last s m pre hlt,
        List.map_append, List.map_cons, List.map_nil, swap]
    simp only [List.map_cons, List.foldl_cons, swap]
    rw [hadd]
    have e : pre ++ (s, m) :: rest = (pre ++ [(s, m)]) ++ rest := by simp
    rw [e] at hs hn ⊢
    exact ih _ hs hn

/-- the sorted set the decoder builds from the payload of a well-formed one: the same `byscore` index, and a
`bylex` index holding the same pairs in `byscore` order -/
def restoredZ (z : ZSet) : ZSet := ⟨z.byscore.map swap, z.byscore⟩

theorem rebuild_byscore {z : ZSet} (hz : z.Inv) : rebuild (z.byscore.map swap) = restoredZ z := by
  have := foldl_add_sorted z.byscore [] (by simpa using hz.1) (by simpa using ZSet.members_nodup hz)
  simpa [rebuild, ZSet.empty, restoredZ] using this

theorem loadValue_dumpValue_zset {z : ZSet} (hz : z.Inv) (hc : ScoresCanon z) :
    Cmd.loadValue (Cmd.dumpValue (.zset z)) = some (.zset (restoredZ z)) := by
  rw [loadValue_dumpValue_zset_raw, map_canon hc, rebuild_byscore hz]

/-! ### what `restoredZ` keeps -/

theorem restoredZ_byscore (z : ZSet) : (restoredZ z).byscore = z.byscore := rfl

theorem restoredZ_inv {z : ZSet} (hz : z.Inv) : (restoredZ z).Inv := by
  refine ⟨hz.1, ?_, ?_, hz.2.2.2⟩
  · show ((z.byscore.map swap).map Prod.fst).Nodup
    rw [map_swap_fst]; exact ZSet.members_nodup hz
  · intro m s
    show (m, s) ∈ z.byscore.map swap ↔ (s, m) ∈ z.byscore
    simp only [List.mem_map, swap]
    constructor
    · rintro ⟨p, hp, e⟩
      obtain ⟨a, b⟩ := p
      simp only [Prod.mk.injEq] at e
      obtain ⟨rfl, rfl⟩ := e
      exact hp
    · intro h; exact ⟨(s, m), h, rfl⟩

theorem restoredZ_get {z : ZSet} (hz : z.Inv) (m : Bytes) : (restoredZ z).get m = z.get m := by
  have hr := restoredZ_inv hz
  cases h : z.get m with
  | some s =>
    rw [ZSet.get_iff_mem_byscore hr]
    exact (ZSet.get_iff_mem_byscore hz).1 h
  | none =>
    rw [ZSet.get_none_iff_byscore hr]
    exact (ZSet.get_none_iff_byscore hz).1 h

theorem restoredZ_bylex_perm {z : ZSet} (hz : z.Inv) : (restoredZ z).bylex.Perm z.bylex := by
  have h := (ZSet.byscore_perm hz).symm.map swap
  have e : (z.bylex.map (fun p => (p.2, p.1))).map swap = z.bylex := by
    rw [List.map_map]
    conv => rhs; rw [← List.map_id z.bylex]
    apply List.map_congr_left
    intro p _; rfl
  rw [e] at h
  exact h

theorem restoredZ_scoresCanon {z : ZSet} (hc : ScoresCanon z) : ScoresCanon (restoredZ z) := hc

/-- dumping the copy gives the very same payload again (the payload only depends on `byscore`) -/
theorem dumpValue_restoredZ (z : ZSet) : Cmd.dumpValue (.zset (restoredZ z)) = Cmd.dumpValue (.zset z) := rfl

theorem restoredZ_idem (z : ZSet) : restoredZ (restoredZ z) = restoredZ z := rfl

/-! ## The value level in one statement; the in-place commands on a copy -/

/-- what `loadValue` makes of the payload of `v`: sets come back in ascending byte order, sorted sets with
`bylex` re-created in `byscore` order; strings, lists and hashes come back as they are -/
def restoredValue : Value → Value
  | .set s => .set (sortBy bytesLt s)
  | .zset z => .zset (restoredZ z)
  | v => v

/-- the well-formedness the sorted-set case needs (nothing for the other types) -/
def ZWF : Value → Prop
  | .zset z => z.Inv ∧ ScoresCanon z
  | _ => True

theorem loadValue_dumpValue (v : Value) (h : ZWF v) :
    Cmd.loadValue (Cmd.dumpValue v) = some (restoredValue v) := by
  cases v with
  | str b => exact loadValue_dumpValue_str b
  | list l => exact loadValue_dumpValue_list l
  | set s => exact loadValue_dumpValue_set s
  | hash h' => exact loadValue_dumpValue_hash h'
  | zset z => exact loadValue_dumpValue_zset h.1 h.2

/-- "equal up to what the codec normalises": strings, lists (order), hashes (field order) are equal; a set has
the same members with the same multiplicities (a permutation); a sorted set has the same `byscore` index, the
same member → score map, and a `bylex` index that is a permutation of the original -/
def Same : Value → Value → Prop
  | .set s', .set s => s'.Perm s
  | .zset z', .zset z => z'.byscore = z.byscore ∧ (∀ m, z'.get m = z.get m) ∧ z'.bylex.Perm z.bylex ∧ z'.Inv
  | .str a, .str b => a = b
  | .list a, .list b => a = b
  | .hash a, .hash b => a = b
  | _, _ => False

theorem restoredValue_same (v : Value) (h : ZWF v) : Same (restoredValue v) v := by
  cases v with
  | str b => exact rfl
  | list l => exact rfl
  | set s => exact ScanSys.sortBy_perm bytesLt s
  | hash h' => exact rfl
  | zset z => exact ⟨rfl, restoredZ_get h.1, restoredZ_bylex_perm h.1, restoredZ_inv h.1⟩

theorem restoredValue_ty (v : Value) : (restoredValue v).ty = v.ty := by
  cases v <;> rfl

theorem isEmpty_of_length_eq {α β} {a : List α} {b : List β} (h : a.length = b.length) :
    a.isEmpty = b.isEmpty := by
  cases a <;> cases b <;> simp at h ⊢

theorem restoredValue_isEmptyColl (v : Value) (h : ZWF v) : (restoredValue v).isEmptyColl = v.isEmptyColl := by
  cases v with
  | str b => rfl
  | list l => rfl
  | set s => exact isEmpty_of_length_eq (ScanSys.length_sortBy bytesLt s)
  | hash h' => rfl
  | zset z =>
    show (z.byscore.map swap).isEmpty = z.bylex.isEmpty
    exact isEmpty_of_length_eq (by rw [List.length_map]; exact ZSet.byscore_length h.1)

theorem restoredValue_zwf (v : Value) (h : ZWF v) : ZWF (restoredValue v) := by
  cases v with
  | zset z => exact ⟨restoredZ_inv h.1, h.2⟩
  | _ => trivial

theorem sortBy_of_sorted {l : List Bytes} (h : l.Pairwise (fun a b => bytesLt b a = false)) :
    sortBy bytesLt l = l := by
  -- two lists sorted by an antisymmetric relation that are permutations of each other are equal
  refine List.Perm.eq_of_pairwise (le := fun a b => bytesLt b a = false) (fun a b _ _ h1 h2 => ?_)
    (ScanSys.sortBy_sorted bytesLt (fun _ _ h => bytesLt_asymm h) (fun _ _ _ h1 h2 => bytesLt_trans h1 h2) l)
    h (ScanSys.sortBy_perm bytesLt l)
  rcases bytesLt_trichotomy a b with h' | h' | h'
  · rw [h'] at h2; cases h2
  · exact h'
  · rw [h'] at h1; cases h1

theorem sortBy_idem (s : List Bytes) : sortBy bytesLt (sortBy bytesLt s) = sortBy bytesLt s :=
  sortBy_of_sorted (ScanSys.sortBy_sorted bytesLt (fun _ _ h => bytesLt_asymm h)
    (fun _ _ _ h1 h2 => bytesLt_trans h1 h2) s)

theorem restoredValue_idem (v : Value) : restoredValue (restoredValue v) = restoredValue v := by
  cases v with
  | set s => show Value.set _ = Value.set _; rw [sortBy_idem]
  | _ => rfl

theorem dumpValue_restoredValue (v : Value) : Cmd.dumpValue (restoredValue v) = Cmd.dumpValue v := by
  cases v with
  | set s => show (84 : UInt8) :: _ = 84 :: _; rw [sortBy_idem]
  | _ => rfl

/-- the deadline RESTORE assigns for a relative ttl in milliseconds -/
def deadline (time ttl : Int) : Option Int := if ttl = 0 then none else some (time + ttl * TICKS_MS)

/-! ### the in-place commands on the copy: RPUSH, SADD, HSET, ZADD through the real runner -/

theorem putAt_eq (live : HashSet.Live) (k : Bytes) (v : Value) (e : Option Int) (hv : v.isEmptyColl = false) :
    HashSet.putAt live k v e = upd live k (some ⟨v, e⟩) := by
  funext x
  simp [HashSet.putAt, upd, hv]

theorem rpush_run (ctx : Ctx) (db : Db) (nd : NodupKeys db.dict) (ne : NoEmpty db.dict) (k : Bytes) (l : List Bytes)
    (e : Option Int) (hl : db.live k = some ⟨.list l, e⟩) (x : Bytes) (xs : List Bytes) :
    (HashSet.run "rpush" ctx (k :: x :: xs) db).reply = .int ((l ++ x :: xs).length : Nat) ∧
    (HashSet.run "rpush" ctx (k :: x :: xs) db).db.live = upd db.live k (some ⟨.list (l ++ x :: xs), e⟩) := by
  have h := ListKeys.rpush_run ctx (k :: x :: xs) nd ne
  simp only [ListKeys.pushCmd, ListKeys.pushL, ListKeys.onList, ListKeys.listView_list hl, ListKeys.pushed,
    ListKeys.putList] at h
  simpa using Prod.mk.inj h

theorem setUnion_ne_nil (s : List Bytes) (m : Bytes) (ms : List Bytes) : Cmd.setUnion s (m :: ms) ≠ [] := by
  intro h
  have := (HashSet.mem_setUnion s (m :: ms) m).2 (Or.inr (by simp))
  rw [h] at this; cases this

theorem sadd_run (ctx : Ctx) (db : Db) (nd : NodupKeys db.dict) (k : Bytes) (s : List Bytes) (e : Option Int)
    (hl : db.live k = some ⟨.set s, e⟩) (m : Bytes) (ms : List Bytes) :
    (HashSet.run "sadd" ctx (k :: m :: ms) db).reply =
      .int ((Cmd.setUnion s (m :: ms)).length - s.length : Nat) ∧
    (HashSet.run "sadd" ctx (k :: m :: ms) db).db.live =
      upd db.live k (some ⟨.set (Cmd.setUnion s (m :: ms)), e⟩) := by
  have hv : HashSet.setView db.live k = some (s, e) := by simp [HashSet.setView, hl]
  have := HashSet.run_sadd ctx k nd hv m ms
  refine ⟨this.1, ?_⟩
  rw [this.2.1]
  refine putAt_eq _ _ _ _ ?_
  show (Cmd.setUnion s (m :: ms)).isEmpty = false
  cases h : Cmd.setUnion s (m :: ms) with
  | nil => exact absurd h (setUnion_ne_nil s m ms)
  | cons _ _ => rfl

theorem hset_run (ctx : Ctx) (db : Db) (nd : NodupKeys db.dict) (k : Bytes) (h : List (Bytes × Bytes))
    (e : Option Int) (hl : db.live k = some ⟨.hash h, e⟩) (f v : Bytes) :
    (HashSet.run "hset" ctx [k, f, v] db).reply = .int (if (h.lookup f).isSome then 0 else 1) ∧
    (HashSet.run "hset" ctx [k, f, v] db).db.live = upd db.live k (some ⟨.hash (ZSet.dictSet h f v), e⟩) := by
  have hv : HashSet.hashView db.live k = some (h, e) := by simp [HashSet.hashView, hl]
  have := HashSet.run_hset ctx k nd hv f v [] rfl
  have e1 : HashSet.hsetRec h (Cmd.fieldPairs [f, v]) =
      (ZSet.dictSet h f v, if (h.lookup f).isSome then 0 else 1) := by
    simp only [Cmd.fieldPairs, HashSet.hsetRec, HashSet.any_eq_isSome]
    cases (h.lookup f).isSome <;> rfl
  rw [e1] at this
  refine ⟨by rw [this.1]; cases (h.lookup f).isSome <;> rfl, ?_⟩
  rw [this.2.1]
  refine putAt_eq _ _ _ _ ?_
  show (ZSet.dictSet h f v).isEmpty = false
  unfold ZSet.dictSet
  split
  · rename_i hany
    cases h with
    | nil => simp at hany
    | cons _ _ => rfl
  · cases h <;> rfl

/-- the four option words of ZADD -/
def notZaddFlag (a : Bytes) : Prop :=
  casematch a "ch" = false ∧ casematch a "nx" = false ∧ casematch a "xx" = false ∧ casematch a "incr" = false

instance (a : Bytes) : Decidable (notZaddFlag a) := by unfold notZaddFlag; infer_instance

/-- the score ZADD stores for the parsed score `s` (version 7 adds `0.0 +`) -/
def zaddScore (version : Nat) (s : Dbl) : Dbl := if version ≥ 7 then s.plusZero else s

theorem add_ne_empty (z : ZSet) (m : Bytes) (s : Dbl) : (Value.zset (z.add m s).1).isEmptyColl = false := by
  obtain ⟨s', h, _⟩ := ZSet.get_add_self_eq z m s
  show (z.add m s).1.bylex.isEmpty = false
  cases hb : (z.add m s).1.bylex with
  | nil => simp [ZSet.get, hb] at h
  | cons _ _ => rfl

/-- ZADD k score member without option words, from `ZCmd.run_zadd` and `ZCmd.zaddRes_one` (its result for one pair) -/
theorem zadd_run (ctx : Ctx) (db : Db) (nd : NodupKeys db.dict) (k : Bytes) (z : ZSet) (e : Option Int)
    (hv : ZCmd.zsetView db.live k = some (z, e)) (sb m : Bytes) (s : Dbl)
    (hf : notZaddFlag sb) (hs : Conv.float sb = .ok s) :
    (HashSet.run "zadd" ctx [k, sb, m] db).reply =
      .int (((z.add m (zaddScore ctx.version s)).1.len : Int) - z.len) ∧
    (HashSet.run "zadd" ctx [k, sb, m] db).db.live =
      upd db.live k (some ⟨.zset (z.add m (zaddScore ctx.version s)).1, e⟩) := by
  have hd := ZCmd.run_zadd ctx k nd hv [sb, m] (HashSet.arity_var "zadd" _ 3 rfl rfl (by simp))
  rw [ZCmd.zaddRes_one ctx z hf hs] at hd
  cases hc : (z.add m (zaddScore ctx.version s)).2 with
  | true =>
    have w : ZCmd.Writes _ db k _ e _ := hd.pos hc
    exact ⟨w.1, w.2.1.trans (putAt_eq _ _ _ _ (add_ne_empty _ _ _))⟩
  | false =>
    have r : ZCmd.ReadOnly _ db _ := hd.neg (fun h => Bool.false_ne_true (hc.symm.trans h))
    refine ⟨r.1, r.2.1.trans ?_⟩
    -- nothing was stored: the member was there with an equal score, so the key holds `z`
    rcases ZCmd.zsetC.see_cases hv with ⟨_, rfl, _⟩ | hl
    · rw [ZSet.add_changed] at hc
      cases hc
    · rw [show (z.add m (zaddScore ctx.version s)).1 = z from ZSet.add_unchanged hc]
      funext x
      unfold upd
      split
      · rename_i hx; rw [hx, hl]
      · rfl

/-! ## Representation invariants of the copy; undecodable bodies -/

theorem restoredValue_valueWF {v : Value} (h : HashSet.ValueWF v) : HashSet.ValueWF (restoredValue v) := by
  cases v with
  | set s => exact ScanSys.nodup_sortBy bytesLt h
  | hash _ => exact h
  | str _ => trivial
  | list _ => trivial
  | zset _ => trivial

theorem liveWF_upd {db out : Db} (wf : HashSet.LiveWF db) {k : Bytes} {v : Value} {e : Option Int}
    (ho : out.live = upd db.live k (some ⟨v, e⟩)) (hv : HashSet.ValueWF v) : HashSet.LiveWF out := by
  intro x it hx
  rw [ho] at hx
  by_cases hk : x = k
  · subst hk
    rw [upd_self] at hx
    cases hx; exact hv
  · rw [upd_ne _ _ hk] at hx
    exact wf x it hx

/-- every sorted set stored in the database has canonical scores only -/
def DbCanon (db : Db) : Prop := ∀ q ∈ db.dict, ∀ z, q.2.value = .zset z → ScoresCanon z

theorem rebuild_inv (ps : List (Bytes × Dbl)) (hn : ∀ p ∈ ps, p.2.isNaN = false) : (rebuild ps).Inv :=
  Cmd.foldl_keeps ZSet.Inv _ ps (fun _ hz p hp => ZSet.add_inv hz (hn p hp)) _ ZSet.empty_inv

/-! ### bodies that do not decode -/

theorem loadValue_nil : Cmd.loadValue [] = none := rfl

theorem loadValue_bad_tag (t : UInt8) (rest : Bytes)
    (h : t ≠ 83 ∧ t ≠ 76 ∧ t ≠ 84 ∧ t ≠ 72 ∧ t ≠ 90) : Cmd.loadValue (t :: rest) = none := by
  obtain ⟨h1, h2, h3, h4, h5⟩ := h
  unfold Cmd.loadValue
  split <;> first | rfl | (rename_i heq; cases heq; contradiction)

theorem decodePayload_undecodable (body : Bytes) (h : Cmd.loadValue body = none) :
    decodePayload (Cmd.dumpMagic ++ body) = none := by
  rw [decodePayload_dump, h]

theorem decodePayload_no_header (payload : Bytes)
    (h : (payload.take Cmd.dumpMagic.length == Cmd.dumpMagic) = false) : decodePayload payload = none := by
  unfold decodePayload; rw [h]; rfl

theorem decodePayload_none_iff (payload : Bytes) :
    decodePayload payload = none ↔
      (payload.take Cmd.dumpMagic.length == Cmd.dumpMagic) = false ∨
      ∃ body, payload = Cmd.dumpMagic ++ body ∧ Cmd.loadValue body = none := by
  constructor
  · intro h
    cases hh : (payload.take Cmd.dumpMagic.length == Cmd.dumpMagic) with
    | false => exact Or.inl rfl
    | true =>
      right
      have e : payload = Cmd.dumpMagic ++ payload.drop Cmd.dumpMagic.length := by
        have := List.take_append_drop Cmd.dumpMagic.length payload
        rw [eq_of_beq hh] at this
        exact this.symm
      refine ⟨_, e, ?_⟩
      unfold decodePayload at h
      rw [hh] at h
      simpa using h
  · rintro (h | ⟨body, rfl, h⟩)
    · exact decodePayload_no_header _ h
    · exact decodePayload_undecodable _ h

/-! ## Every double the arithmetic produces is canonical -/

theorem pow2_eq (n : Nat) : Dbl.pow2 n = 2 ^ n := by
  unfold Dbl.pow2; exact Nat.one_shiftLeft n

theorem two_mul_div_le (N D : Nat) (hD : 0 < D) : (2 * N) / D ≤ 2 * (N / D) + 1 := by
  have h : (2 * N) / D < 2 * (N / D) + 2 := by
    rw [Nat.div_lt_iff_lt_mul hD]
    have h1 := Nat.div_add_mod N D
    have h2 := Nat.mod_lt N hD
    have e : (2 * (N / D) + 2) * D = 2 * (D * (N / D)) + 2 * D := by
      rw [Nat.add_mul, Nat.mul_assoc, Nat.mul_comm (N / D) D]
    rw [e]
    generalize D * (N / D) = u at *
    omega
  omega

theorem div_lt_pow (num den a b P K : Nat) (hn : num < 2 ^ (a + 1)) (hd : 2 ^ b ≤ den)
    (h : a + 1 + P ≤ 53 + b + K) : (num * 2 ^ P) / (den * 2 ^ K) < 2 ^ 53 := by
  have hpos : 0 < den * 2 ^ K := Nat.mul_pos (Nat.lt_of_lt_of_le (Nat.pow_pos (by decide)) hd) (Nat.pow_pos (by decide))
  rw [Nat.div_lt_iff_lt_mul hpos]
  calc num * 2 ^ P < 2 ^ (a + 1) * 2 ^ P := Nat.mul_lt_mul_of_pos_right hn (Nat.pow_pos (by decide))
    _ = 2 ^ (a + 1 + P) := (Nat.pow_add 2 _ _).symm
    _ ≤ 2 ^ (53 + b + K) := Nat.pow_le_pow_right (by decide) h
    _ = 2 ^ 53 * (2 ^ b * 2 ^ K) := by rw [Nat.pow_add, Nat.pow_add, Nat.mul_assoc]
    _ ≤ 2 ^ 53 * (den * 2 ^ K) := Nat.mul_le_mul_left _ (Nat.mul_le_mul_right _ hd)

theorem le_div_pow (num den a b P K : Nat) (hn : 2 ^ a ≤ num) (hd : den < 2 ^ (b + 1)) (hd0 : 0 < den)
    (h : 52 + (b + 1) + K ≤ a + P) : 2 ^ 52 ≤ (num * 2 ^ P) / (den * 2 ^ K) := by
  have hpos : 0 < den * 2 ^ K := Nat.mul_pos hd0 (Nat.pow_pos (by decide))
  rw [Nat.le_div_iff_mul_le hpos]
  calc 2 ^ 52 * (den * 2 ^ K) ≤ 2 ^ 52 * (2 ^ (b + 1) * 2 ^ K) :=
        Nat.mul_le_mul_left _ (Nat.mul_le_mul_right _ (Nat.le_of_lt hd))
    _ = 2 ^ (52 + (b + 1) + K) := by rw [← Nat.pow_add, ← Nat.pow_add]; congr 1; omega
    _ ≤ 2 ^ (a + P) := Nat.pow_le_pow_right (by decide) h
    _ = 2 ^ a * 2 ^ P := Nat.pow_add 2 _ _
    _ ≤ num * 2 ^ P := Nat.mul_le_mul_right _ hn

/-- the quotient `roundPos` looks at for the exponent `e` -/
def rq (num den : Nat) (e : Int) : Nat :=
  if e ≥ 0 then num / (den * Dbl.pow2 e.toNat) else (num * Dbl.pow2 (-e).toNat) / den

/-- uniform form: `floor (num · 2^(K−e) / (den · 2^K))` for any `K ≥ e` -/
theorem rq_eq (num den : Nat) (e : Int) (K : Nat) (hK : e ≤ K) :
    rq num den e = (num * 2 ^ ((K : Int) - e).toNat) / (den * 2 ^ K) := by
  unfold rq
  simp only [pow2_eq]
  by_cases he : e ≥ 0
  · rw [if_pos he]
    have hk : K = e.toNat + ((K : Int) - e).toNat := by omega
    conv => rhs; rw [hk, Nat.pow_add, ← Nat.mul_assoc]
    rw [← hk]
    exact (Nat.mul_div_mul_right _ _ (Nat.pow_pos (by decide))).symm
  · rw [if_neg he]
    have hk : ((K : Int) - e).toNat = (-e).toNat + K := by omega
    rw [hk, Nat.pow_add, ← Nat.mul_assoc]
    exact (Nat.mul_div_mul_right _ _ (Nat.pow_pos (by decide))).symm



def rE0 (num den : Nat) : Int := (num.log2 : Int) - (den.log2 : Int) - 52
def rE1 (num den : Nat) : Int :=
  if rq num den (rE0 num den) ≥ Dbl.pow2 53 then rE0 num den + 1
  else if rq num den (rE0 num den) < Dbl.pow2 52 then rE0 num den - 1 else rE0 num den
def rE (num den : Nat) : Int := if rE1 num den < -1074 then -1074 else rE1 num den

theorem rE1_facts (num den : Nat) (hnum : num ≠ 0) (hden : 0 < den) :
    2 ^ 52 ≤ rq num den (rE1 num den) ∧ rq num den (rE1 num den) < 2 ^ 53 ∧ rE1 num den ≤ rE0 num den := by
  have hn1 : 2 ^ num.log2 ≤ num := Nat.log2_self_le hnum
  have hn2 : num < 2 ^ (num.log2 + 1) := Nat.lt_log2_self
  have hd1 : 2 ^ den.log2 ≤ den := Nat.log2_self_le (by omega)
  have hd2 : den < 2 ^ (den.log2 + 1) := Nat.lt_log2_self
  have hK0 : rE0 num den ≤ ((rE0 num den).toNat + 1 : Nat) := by omega
  have hK1 : rE0 num den - 1 ≤ ((rE0 num den).toNat + 1 : Nat) := by omega
  have q0 := rq_eq num den (rE0 num den) _ hK0
  have q1 := rq_eq num den (rE0 num den - 1) _ hK1
  have hdef : rE0 num den = (num.log2 : Int) - (den.log2 : Int) - 52 := rfl
  have L1 : rq num den (rE0 num den) < 2 ^ 53 := by
    rw [q0]
    exact div_lt_pow num den num.log2 den.log2 _ _ hn2 hd1 (by omega)
  unfold rE1
  simp only [pow2_eq]
  rw [if_neg (by omega)]
  by_cases hlt : rq num den (rE0 num den) < 2 ^ 52
  · rw [if_pos hlt]
    refine ⟨?_, ?_, by omega⟩
    · rw [q1]
      exact le_div_pow num den num.log2 den.log2 _ _ hn1 hd2 hden (by omega)
    · have hP : (((rE0 num den).toNat + 1 : Nat) - (rE0 num den - 1)).toNat =
          (((rE0 num den).toNat + 1 : Nat) - rE0 num den).toNat + 1 := by omega
      rw [q1, hP, Nat.pow_succ, ← Nat.mul_assoc, Nat.mul_comm _ 2]
      have := two_mul_div_le (num * 2 ^ (((rE0 num den).toNat + 1 : Nat) - rE0 num den).toNat)
        (den * 2 ^ ((rE0 num den).toNat + 1)) (Nat.mul_pos hden (Nat.pow_pos (by decide)))
      rw [← q0] at this
      omega
  · rw [if_neg hlt]
    exact ⟨by omega, L1, by omega⟩

theorem rE_facts (num den : Nat) (hnum : num ≠ 0) (hden : 0 < den) :
    rq num den (rE num den) < 2 ^ 53 ∧ -1074 ≤ rE num den ∧
    (rE num den ≠ -1074 → 2 ^ 52 ≤ rq num den (rE num den)) := by
  obtain ⟨f1, f2, f3⟩ := rE1_facts num den hnum hden
  unfold rE
  by_cases hc : rE1 num den < -1074
  · rw [if_pos hc]
    refine ⟨?_, by omega, fun h => absurd rfl h⟩
    have hK1 : rE1 num den ≤ ((rE0 num den).toNat + 1 : Nat) := by omega
    have hK2 : (-1074 : Int) ≤ ((rE0 num den).toNat + 1 : Nat) := by omega
    have hle : rq num den (-1074) ≤ rq num den (rE1 num den) := by
      rw [rq_eq num den _ _ hK1, rq_eq num den _ _ hK2]
      apply Nat.div_le_div_right
      apply Nat.mul_le_mul_left
      apply Nat.pow_le_pow_right (by decide)
      omega
    omega
  · rw [if_neg hc]
    exact ⟨f2, by omega, fun _ => f1⟩

/-- the part of `roundPos` after the exponent has been chosen -/
def rTail (neg : Bool) (n' d' : Nat) (e : Int) : Dbl :=
  let qq := n' / d'
  let r := n' % d'
  let up := decide (2 * r > d') || (decide (2 * r == d') && qq % 2 == 1)
  let m := if up then qq + 1 else qq
  match (if m == Dbl.pow2 53 then (Dbl.pow2 52, e + 1) else (m, e)) with
  | (m, e) => if e > 971 then .inf neg else .fin neg m e

theorem rTail_canon (neg : Bool) (n' d' : Nat) (e : Int) (h53 : n' / d' < 2 ^ 53) (he : -1074 ≤ e)
    (hq : e ≠ -1074 → 2 ^ 52 ≤ n' / d') : Canon (rTail neg n' d' e) := by
  unfold rTail
  simp only [pow2_eq]
  generalize (decide (2 * (n' % d') > d') || (decide (2 * (n' % d') == d') && n' / d' % 2 == 1)) = up
  have hm : n' / d' ≤ (if up = true then n' / d' + 1 else n' / d') ∧
      (if up = true then n' / d' + 1 else n' / d') ≤ 2 ^ 53 := by
    cases up <;> simp <;> omega
  generalize (if up = true then n' / d' + 1 else n' / d') = m at hm
  by_cases h : m = 2 ^ 53
  · have : (m == 2 ^ 53) = true := by simpa using h
    simp only [this, if_true]
    split
    · trivial
    · exact Or.inr ⟨by omega, by omega, by omega, by omega⟩
  · have : (m == 2 ^ 53) = false := by simpa using h
    simp only [this, Bool.false_eq_true, if_false]
    split
    · trivial
    · by_cases hm52 : m < 2 ^ 52
      · by_cases he' : e = -1074
        · exact Or.inl ⟨hm52, he'⟩
        · have := hq he'; omega
      · exact Or.inr ⟨by omega, by omega, he, by omega⟩

theorem roundPos_eq (neg : Bool) (num den : Nat) :
    Dbl.roundPos neg num den =
      if num == 0 then .fin neg 0 (-1074)
      else
        match (if rE num den ≥ 0 then (num, den * Dbl.pow2 (rE num den).toNat)
               else (num * Dbl.pow2 (-(rE num den)).toNat, den)) with
        | (n', d') => rTail neg n' d' (rE num den) := by
  unfold Dbl.roundPos
  split
  · rfl
  · rfl

theorem roundPos_canon (neg : Bool) (num den : Nat) (hden : 0 < den) : Canon (Dbl.roundPos neg num den) := by
  rw [roundPos_eq]
  by_cases h0 : num = 0
  · subst h0; exact Or.inl ⟨by decide, rfl⟩
  · have : (num == 0) = false := by simpa using h0
    rw [this]
    simp only [Bool.false_eq_true, if_false]
    obtain ⟨f1, f2, f3⟩ := rE_facts num den h0 hden
    unfold rq at f1 f3
    by_cases hge : rE num den ≥ 0
    · rw [if_pos hge] at f1 f3 ⊢
      exact rTail_canon neg _ _ _ f1 f2 f3
    · rw [if_neg hge] at f1 f3 ⊢
      exact rTail_canon neg _ _ _ f1 f2 f3

section arith
open FR.Cmd

theorem canon_zero (neg : Bool) : Canon (.fin neg 0 (-1074)) := Or.inl ⟨by decide, rfl⟩

theorem pow2_pos (n : Nat) : 0 < Dbl.pow2 n := by rw [pow2_eq]; exact Nat.pow_pos (by decide)

theorem ite_canon (c : Prop) [Decidable c] {a b : Dbl} (ha : Canon a) (hb : Canon b) :
    Canon (if c then a else b) := by split <;> assumption

theorem addFin_canon (n1 : Bool) (m1 : Nat) (e1 : Int) (n2 : Bool) (m2 : Nat) (e2 : Int) :
    Canon (Dbl.addFin n1 m1 e1 n2 m2 e2) := by
  unfold Dbl.addFin
  apply ite_canon _ (canon_zero _)
  exact ite_canon _ (roundPos_canon _ _ _ (by decide)) (roundPos_canon _ _ _ (pow2_pos _))

theorem add_canon (a b : Dbl) : Canon (Dbl.add a b) := by
  unfold Dbl.add
  split <;> first | trivial | exact addFin_canon _ _ _ _ _ _ | (split <;> trivial)

theorem mul_canon (a b : Dbl) : Canon (Dbl.mul a b) := by
  unfold Dbl.mul
  split
  · trivial
  · trivial
  · trivial
  · split <;> trivial
  · split <;> trivial
  · apply ite_canon _ (canon_zero _)
    exact ite_canon _ (roundPos_canon _ _ _ (by decide)) (roundPos_canon _ _ _ (pow2_pos _))

theorem plusZero_canon (d : Dbl) : Canon d.plusZero := add_canon _ _

theorem ofInt_canon (n : Int) : Canon (Dbl.ofInt n) := by
  unfold Dbl.ofInt
  split
  · exact canon_zero _
  · exact roundPos_canon _ _ _ (by decide)

theorem ofDecimal_canon (neg : Bool) (digits : Nat) (exp10 : Int) : Canon (Dbl.ofDecimal neg digits exp10) := by
  unfold Dbl.ofDecimal
  split
  · exact canon_zero _
  · simp only []
    split
    · trivial
    · split
      · exact canon_zero _
      · split
        · exact roundPos_canon _ _ _ (by decide)
        · exact roundPos_canon _ _ _ (Nat.pow_pos (by decide))

theorem pyMax_canon {a b : Dbl} (ha : Canon a) (hb : Canon b) : Canon (Dbl.pyMax a b) := by
  unfold Dbl.pyMax; split <;> assumption

theorem pyMin_canon {a b : Dbl} (ha : Canon a) (hb : Canon b) : Canon (Dbl.pyMin a b) := by
  unfold Dbl.pyMin; split <;> assumption

theorem parseUnsigned_canon {neg : Bool} {b : Bytes} {d : Dbl} (h : PyFloat.parseUnsigned neg b = some d) :
    Canon d := by
  unfold PyFloat.parseUnsigned at h
  simp only [] at h
  repeat' (split at h)
  all_goals first | (cases h; done) | (cases h; trivial) | (cases h; exact ofDecimal_canon _ _ _)

theorem parse_canon {b : Bytes} {d : Dbl} (h : PyFloat.parse b = some d) : Canon d := by
  unfold PyFloat.parse at h
  simp only [] at h
  split at h <;> exact parseUnsigned_canon h

theorem floatGen_canon {msg : String} {a b c d : Bool} {x : Bytes} {r : Dbl}
    (h : Conv.floatGen msg a b c d x = .ok r) : Canon r :=
  parse_canon ((C18f.floatGen_gate msg a b c d x r).1 h).2.2.2.1

theorem float_canon {x : Bytes} {r : Dbl} (h : Conv.float x = .ok r) : Canon r := floatGen_canon h

theorem zaddScore_facts {sb : Bytes} {s : Dbl} (hs : Conv.float sb = .ok s) (version : Nat) :
    (zaddScore version s).isNaN = false ∧ Canon (zaddScore version s) := by
  unfold zaddScore
  split
  · exact ⟨Dbl.plusZero_not_nan (Cmd.Conv.float_not_nan hs), plusZero_canon _⟩
  · exact ⟨Cmd.Conv.float_not_nan hs, float_canon hs⟩

/-! ### canonical scores are preserved by the sorted-set operations -/

theorem scoresCanon_empty : ScoresCanon ZSet.empty := by intro p hp; cases hp

theorem scoresCanon_add {z : ZSet} (hc : ScoresCanon z) (m : Bytes) {s : Dbl} (hs : Canon s) :
    ScoresCanon (z.add m s).1 := by
  unfold ZSet.add
  split
  · split
    · exact hc
    · intro p hp
      rcases (ZSet.mem_insertSortedPair s m _ p).1 hp with e | hp
      · subst e; exact hs
      · exact hc p ((ZSet.mem_removePair m _ p).1 hp).1
  · intro p hp
    rcases (ZSet.mem_insertSortedPair s m _ p).1 hp with e | hp
    · subst e; exact hs
    · exact hc p hp

theorem scoresCanon_discard {z : ZSet} (hc : ScoresCanon z) (m : Bytes) : ScoresCanon (z.discard m) := by
  unfold ZSet.discard
  split
  · exact hc
  · intro p hp
    exact hc p ((ZSet.mem_removePair m _ p).1 hp).1

theorem scoresCanon_rebuild (ps : List (Bytes × Dbl)) (h : ∀ p ∈ ps, Canon p.2) : ScoresCanon (rebuild ps) :=
  foldl_keeps ScoresCanon _ ps (fun _ hz p hp => scoresCanon_add hz _ (h p hp)) _ scoresCanon_empty

/-- every command item that holds a sorted set holds one with canonical scores -/
def CIsCanon (cis : List CI) : Prop := ∀ c ∈ cis, ∀ z, c.val = some (.zset z) → ScoresCanon z

/-- canonical scores are a property the sorted-set write commands keep (`Cmd.zwrite_all`, `Cmd.zadd_all`, …) -/
theorem canonKeeps : ZKeeps ScoresCanon Canon :=
  ⟨scoresCanon_empty, fun hc m _ hs => scoresCanon_add hc m hs, scoresCanon_discard, float_canon,
    fun _ => plusZero_canon _, fun _ _ _ => add_canon _ _⟩

theorem mapM_some_mem {α β} {f : α → Option β} : ∀ {l : List α} {ps : List β}, l.mapM f = some ps →
    ∀ p ∈ ps, ∃ x ∈ l, f x = some p := by
  intro l
  induction l with
  | nil =>
    intro ps h p hp
    simp only [List.mapM_nil] at h
    cases h; cases hp
  | cons a as ih =>
    intro ps h p hp
    rw [List.mapM_cons] at h
    cases ha : f a with
    | none => rw [ha] at h; cases h
    | some b =>
      cases has : as.mapM f with
      | none => rw [ha, has] at h; cases h
      | some bs =>
        rw [ha, has] at h
        cases h
        rcases List.mem_cons.1 hp with e | hp
        · subst e; exact ⟨a, by simp, ha⟩
        · obtain ⟨x, hx, hfx⟩ := ih has p hp
          exact ⟨x, List.mem_cons_of_mem _ hx, hfx⟩

theorem zsetItem_canon {it : Bytes} {p : Bytes × Dbl} (h : zsetItem it = some p) : Canon p.2 := by
  unfold zsetItem at h
  split at h
  · rename_i a b _
    cases ha : unhexB a with
    | none => rw [ha] at h; cases h
    | some a' =>
      rw [ha] at h
      simp only [Option.bind_some] at h
      split at h
      · cases h; exact canon_ofBits _
      · cases h
  · cases h

/-- whatever sorted set RESTORE decodes — from a forged payload as well — has canonical scores only -/
theorem loadValue_zset_canon {body : Bytes} {z : ZSet} (h : Cmd.loadValue body = some (.zset z)) :
    ScoresCanon z := by
  unfold Cmd.loadValue at h
  split at h
  · cases hx : unhexB _ with
    | none => rw [hx] at h; cases h
    | some _ => rw [hx] at h; cases h
  · cases hx : List.mapM unhexB _ with
    | none => rw [hx] at h; cases h
    | some _ => rw [hx] at h; cases h
  · cases hx : List.mapM unhexB _ with
    | none => rw [hx] at h; cases h
    | some _ => rw [hx] at h; cases h
  · rename_i rest
    cases hx : (Cmd.parseItems rest).mapM hashItem with
    | none => exact absurd (show Option.map Value.hash ((Cmd.parseItems rest).mapM hashItem) = _ from h) (by rw [hx]; simp)
    | some _ => exact absurd (show Option.map Value.hash ((Cmd.parseItems rest).mapM hashItem) = _ from h) (by rw [hx]; simp)
  · rename_i rest
    have h' : Option.map (fun (ps : List (Bytes × Dbl)) => Value.zset (rebuild ps))
        ((Cmd.parseItems rest).mapM zsetItem) = some (.zset z) := h
    cases hx : (Cmd.parseItems rest).mapM zsetItem with
    | none => rw [hx] at h'; cases h'
    | some ps =>
      rw [hx] at h'
      simp only [Option.map_some, Option.some.injEq, Value.zset.injEq] at h'
      subst h'
      apply scoresCanon_rebuild
      intro p hp
      obtain ⟨it, _, hit⟩ := mapM_some_mem hx p hp
      exact zsetItem_canon hit
  · cases h

end arith

end FR.DumpRound

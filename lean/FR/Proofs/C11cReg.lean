import FR.Proofs.Conserve
import FR.Proofs.StrKeys
import FR.Proofs.Lists
import FR.Proofs.C02lLists
/-!
# C11c, database level: the regular list commands conserve list elements

For LPUSH / RPUSH / LPUSHX / RPUSHX / LPOP / RPOP (with and without count) / RPOPLPUSH / LMOVE / LLEN / LRANGE run by the
pure runner `runRegular` on a database without TTLs:

  `count x (elements stored afterwards) + count x (elements the reply hands out) =
   count x (elements stored before) + count x (elements the command pushed)`.

`popsOf name reply` / `pushesOf name args reply` read the two ledgers off the request and its reply.
-/
namespace FR.C11c
open FR FR.Db FR.Conserve FR.StrKeys
set_option linter.unusedSimpArgs false
set_option linter.unusedSectionVars false

/-! ## the two ledgers of one command -/

def bulkOf : Reply → List Bytes
  | .bulk b => [b]
  | _ => []

/-- the list elements a reply hands to the client, given the name of the command it answers: the element of an LPOP /
RPOP reply (a bulk) or all elements of its counted form (an array of bulks), the element of the `[key, element]` reply of
BLPOP / BRPOP; nothing for any other command (the element moved by RPOPLPUSH / LMOVE / BRPOPLPUSH stays stored) -/
def popsOf (name : String) (r : Reply) : List Bytes :=
  if name = "lpop" ∨ name = "rpop" then
    match r with
    | .bulk x => [x]
    | .arr xs => xs.flatMap bulkOf
    | _ => []
  else if name = "blpop" ∨ name = "brpop" then popElem r
  else []

/-- the elements a push command added, read off its arguments `key v₁ … vₙ` and its reply: all values when the reply is
a non-zero integer (the new length), nothing when it is `0` (LPUSHX / RPUSHX on a missing key) or an error -/
def pushesOf (name : String) (args : List Bytes) (r : Reply) : List Bytes :=
  if name = "lpush" ∨ name = "rpush" ∨ name = "lpushx" ∨ name = "rpushx" then
    match r with
    | .int n => if n = 0 then [] else args.tail
    | _ => []
  else []

theorem popsOf_err (name : String) (m : Bytes) : popsOf name (.err m) = [] := by
  unfold popsOf popElem
  split
  · rfl
  · split <;> rfl

theorem pushesOf_err (name : String) (args : List Bytes) (m : Bytes) : pushesOf name args (.err m) = [] := by
  unfold pushesOf; split <;> rfl

theorem popsOf_nil (name : String) : popsOf name .nil = [] := by
  unfold popsOf popElem
  split
  · rfl
  · split <;> rfl

theorem pushesOf_nil (name : String) (args : List Bytes) : pushesOf name args .nil = [] := by
  unfold pushesOf; split <;> rfl

theorem popsOf_status (name : String) (b : Bytes) : popsOf name (.status b) = [] := by
  unfold popsOf popElem
  split
  · rfl
  · split <;> rfl

theorem pushesOf_status (name : String) (args : List Bytes) (b : Bytes) : pushesOf name args (.status b) = [] := by
  unfold pushesOf; split <;> rfl

/-! ## databases without TTLs -/

theorem purge_noTTL {db : Db} (h : NoTTLd db.dict) : Db.purge db = db := by
  unfold Db.purge
  have : db.dict.filter (fun p => !db.expired p.2) = db.dict := by
    rw [List.filter_eq_self]
    intro q hq
    simp [Db.expired, h q hq]
  rw [this]

theorem live_noTTL {db : Db} (h : NoTTLd db.dict) : db.live = fun k => db.dict.lookup k := by
  funext k; unfold Db.live; rw [purge_noTTL h]

theorem reads_noTTL {db db' : Db} (hr : Reads db db') (h : NoTTLd db.dict) : db' = db := by
  have h' : NoTTLd db'.dict := fun q hq => h q (hr.sub q hq)
  have := hr.eq
  rw [purge_noTTL h, purge_noTTL h'] at this
  exact this

theorem apply_noTTL (sig : Sig) (raw : List Bytes) {db : Db} (nd : NodupKeys db.dict) (h : NoTTLd db.dict) :
    sig.apply raw db = (db, applyL sig raw (fun k => db.dict.lookup k)) := by
  have h1 := reads_noTTL (Sig.apply_reads sig raw nd) h
  have h2 := apply_eq sig raw nd
  rw [live_noTTL h] at h2
  exact Prod.ext h1 h2

/-- the outcomes of the pure runner on a database without TTLs -/
theorem runRegular_noTTL (sig : Sig) (body : Body) (ctx : Ctx) (gate : Option Err) (raw : List Bytes) {db : Db}
    (nd : NodupKeys db.dict) (h : NoTTLd db.dict) :
    ((runRegular sig body ctx gate raw db).db = db ∧
      ((∃ m, (runRegular sig body ctx gate raw db).reply = .err m) ∨
        ∃ r, applyL sig raw (fun k => db.dict.lookup k) = .ok (.short r) ∧ (runRegular sig body ctx gate raw db).reply = r)) ∨
    ∃ args cis out, applyL sig raw (fun k => db.dict.lookup k) = .ok (.ok args cis) ∧ body ctx args cis = .ok out ∧
      (runRegular sig body ctx gate raw db).db = (writebackPure db out.cis).1 ∧
      (runRegular sig body ctx gate raw db).reply = out.reply := by
  rw [runRegular_eq, apply_noTTL sig raw nd h]
  have hc := fun args cis => Sig.apply_clean sig raw db (args := args) (cis := cis)
  rw [apply_noTTL sig raw nd h] at hc
  simp only at hc ⊢
  generalize applyL sig raw (fun k => db.dict.lookup k) = x at hc ⊢
  cases x with
  | error e => exact .inl ⟨rfl, .inl ⟨_, rfl⟩⟩
  | ok ap =>
    cases ap with
    | short r => exact .inl ⟨rfl, .inr ⟨r, rfl, rfl⟩⟩
    | ok args cis =>
      cases gate with
      | some e => exact .inl ⟨rfl, .inl ⟨_, rfl⟩⟩
      | none =>
        simp only [runTail]
        cases hb : body ctx args cis with
        | error e =>
          simp only
          rw [writebackPure_clean (hc args cis rfl)]
          exact .inl ⟨rfl, .inl ⟨_, rfl⟩⟩
        | ok o => exact .inr ⟨args, cis, o, rfl, hb, rfl, rfl⟩

/-! ## write-back of list values: counts -/

theorem count_dictElems_split {d : Dict} (nd : NodupKeys d) (k : Bytes) (x : Bytes) :
    (dictElems d).count x = (elemsAt d k).count x + (dictElems (erase d k)).count x := by
  rw [(dictElems_split nd k).count_eq x, List.count_append]

/-- a `CommandItem` carrying a (possibly empty) list that was modified, on a key without TTL -/
structure ListCI (c : CI) (l : List Bytes) : Prop where
  mod : c.modified = true
  val : c.val = some (.list l)
  exp : c.expireat = none

/-- writing back a modified list: the new elements replace those under the key -/
theorem count_writeback {db : Db} (nd : NodupKeys db.dict) (ht : NoTTLd db.dict) {c : CI} {l : List Bytes}
    (hc : ListCI c l) (x : Bytes) :
    (dictElems (c.writeback db).1.dict).count x + (elemsAt db.dict c.key).count x =
      (dictElems db.dict).count x + l.count x := by
  have h1 := (writeback_list_perm nd ht c hc.mod l hc.val).count_eq x
  rw [List.count_append] at h1
  have h2 := count_dictElems_split nd c.key x
  omega

theorem noTTL_erase {d : Dict} (h : NoTTLd d) (k : Bytes) : NoTTLd (erase d k) :=
  fun q hq => h q (mem_erase hq)

theorem noTTL_setRaw {d : Dict} (h : NoTTLd d) (k : Bytes) (it : Item) (hit : it.expireat = none) :
    NoTTLd (setRaw d k it) := by
  intro q hq
  rcases mem_setRaw hq with hq | rfl
  · exact h q hq
  · exact hit

theorem noTTL_writeback {db : Db} (ht : NoTTLd db.dict) {c : CI} {l : List Bytes} (hc : ListCI c l) :
    NoTTLd (c.writeback db).1.dict := by
  unfold CI.writeback
  simp only [hc.mod, if_true, hc.val]
  split
  · rw [pop_eq]; exact noTTL_erase ht _
  · unfold Db.put
    simp only [get_fst_noTTL ht]
    exact noTTL_setRaw ht _ _ hc.exp

theorem elemsAt_writeback_self {db : Db} (ht : NoTTLd db.dict) {c : CI} {l : List Bytes} (hc : ListCI c l) :
    elemsAt (c.writeback db).1.dict c.key = l := by
  unfold CI.writeback
  simp only [hc.mod, if_true, hc.val, Value.isEmptyColl, List.isEmpty_iff]
  by_cases hl : l = []
  · subst hl
    simp only [if_true, pop_eq]
    exact elemsAt_erase _ _
  · simp only [hl, if_false]
    unfold Db.put
    simp only [get_fst_noTTL ht]
    rw [elemsAt_setRaw]; rfl

theorem elemsAt_erase_ne (d : Dict) {k k' : Bytes} (h : k ≠ k') : elemsAt (erase d k') k = elemsAt d k := by
  unfold elemsAt; rw [lookup_erase_ne h]

theorem elemsAt_setRaw_ne (d : Dict) {k k' : Bytes} (it : Item) (h : k ≠ k') :
    elemsAt (setRaw d k' it) k = elemsAt d k := by
  unfold elemsAt; rw [lookup_setRaw_ne it h]

theorem elemsAt_writeback_ne {db : Db} (ht : NoTTLd db.dict) {c : CI} {l : List Bytes} (hc : ListCI c l)
    {k : Bytes} (h : k ≠ c.key) : elemsAt (c.writeback db).1.dict k = elemsAt db.dict k := by
  unfold CI.writeback
  simp only [hc.mod, if_true, hc.val]
  split
  · rw [pop_eq]; exact elemsAt_erase_ne _ h
  · unfold Db.put
    simp only [get_fst_noTTL ht]
    exact elemsAt_setRaw_ne _ _ h

/-! ## `Signature.apply` for a signature whose only key is its first argument -/

def NonKey (t : ArgTy) : Prop := ∀ ty mr, t ≠ .key ty mr

theorem types_length (sig : Sig) (n : Nat) (har : sig.checkArity n = true) : (sig.types n).length = n := by
  unfold Sig.types
  simp only [List.length_append, List.length_map, List.length_range]
  unfold Sig.checkArity at har
  split at har
  · simp only [Bool.not_eq_true', Bool.or_eq_false_iff, decide_eq_false_iff_not] at har
    omega
  · rename_i h
    simp only [bne_iff_ne, ne_eq, Decidable.not_not] at h
    omega

theorem decodeAll_raw (l : List (Bytes × ArgTy)) (h : ∀ x ∈ l, x.2 = .bytes ∨ x.2 = .sstr) :
    Ttl.decodeAll l = .ok ((l.map (·.1)).map Arg.raw) := by
  induction l with
  | nil => rfl
  | cons x rest ih =>
    obtain ⟨b, t⟩ := x
    have hd : Conv.decode t b = .ok (.raw b) := by
      rcases h (b, t) (by simp) with ht | ht <;> simp only at ht <;> subst ht <;> rfl
    simp only [Ttl.decodeAll, hd, List.map_cons]
    rw [ih (fun x hx => h x (by simp [hx]))]

theorem decodeAll_int (l : List (Bytes × ArgTy)) (h : ∀ x ∈ l, x.2 = .int) :
    (∃ e, Ttl.decodeAll l = .error e) ∨ ∃ ns : List Int, Ttl.decodeAll l = .ok (ns.map Arg.int) := by
  induction l with
  | nil => exact .inr ⟨[], rfl⟩
  | cons x rest ih =>
    obtain ⟨b, t⟩ := x
    have ht : t = .int := h (b, t) (by simp)
    subst ht
    simp only [Ttl.decodeAll, Conv.decode]
    cases Conv.int b with
    | error e => exact .inl ⟨e, rfl⟩
    | ok n =>
      rcases ih (fun x hx => h x (by simp [hx])) with ⟨e, he⟩ | ⟨ns, hns⟩
      · left; simp only [Except.map, he]; exact ⟨_, rfl⟩
      · right; refine ⟨n :: ns, ?_⟩
        simp only [Except.map, hns, List.map_cons]

/-- what `Signature.apply` knows about a key, on a dictionary without TTLs -/
structure FaithfulCI (d : Dict) (k : Bytes) (ci : CI) : Prop where
  key : ci.key = k
  mod : ci.modified = false
  exm : ci.expMod = false
  exp : ci.expireat = none
  elems : Cmd.listOf ci = elemsAt d k

/-- the `CommandItem` that `Signature.apply` builds for a key is faithful -/
theorem ciOf_faithful {d : Dict} (ht : NoTTLd d) (ty : Option Ty) (k : Bytes) :
    FaithfulCI d k (Ttl.ciOf ty k (d.lookup k)) := by
  unfold Ttl.ciOf
  cases hl : d.lookup k with
  | none =>
    refine ⟨rfl, rfl, rfl, rfl, ?_⟩
    cases ty with
    | none => simp [Cmd.listOf, elemsAt, hl]
    | some t => cases t <;> simp [Cmd.listOf, elemsAt, hl, Ty.default]
  | some it =>
    refine ⟨rfl, rfl, rfl, ht _ (lookup_some_mem hl), ?_⟩
    simp only [Cmd.listOf, elemsAt, hl]
    cases it.value <;> rfl

/-- the look-up of the single key never ends the command early; when it succeeds the arguments are numbered, the one item
is the key's, and an item of a key declared a list holds a list -/
theorem keyStep_ok {ty : Option Ty} {k : Bytes} {item : Option Item} {as : List Arg} {ap : Sig.Applied}
    (h : Ttl.keyStep ty k item as = .ok ap) :
    ap = .ok (.key 0 :: as) [Ttl.ciOf ty k item] ∧
      (ty = some .list → ∃ l e, Ttl.ciOf ty k item = ListKeys.lci k l e) := by
  unfold Ttl.keyStep at h
  split at h
  · rename_i ty' it
    split at h
    · cases h
    · rename_i hw
      cases h
      refine ⟨rfl, fun e => ?_⟩
      cases e
      cases hv : it.value with
      | list l => exact ⟨l, it.expireat, by simp [Ttl.ciOf, ListKeys.lci, hv]⟩
      | _ => rw [hv] at hw; simp [Value.ty] at hw
  · cases h
    refine ⟨rfl, fun e => ?_⟩
    subst e
    cases item with
    | none => exact ⟨[], none, rfl⟩
    | some it => rename_i hne; exact (hne _ _ rfl rfl).elim

/-! ## the single-key commands -/

theorem ciAt_single (ci : CI) : ciAt [ci] 0 = ci := rfl

theorem setList_single (ci : CI) (l : List Bytes) :
    Cmd.setList [ci] 0 l = [{ ci with val := some (.list l), modified := true }] := rfl

theorem listOf_of_val {ci : CI} {l : List Bytes} (h : ci.val = some (.list l)) : Cmd.listOf ci = l := by
  unfold Cmd.listOf; rw [h]

/-- the outcome of a single-key list command in terms of its `CommandItem`: nothing changed and the reply carries no
element, or the list was replaced by `l'` and the books balance -/
def OneKeyOut (name : String) (raw : List Bytes) (ci : CI) (out : BodyOut) : Prop :=
  (out.cis = [ci] ∧ popsOf name out.reply = [] ∧ pushesOf name raw out.reply = []) ∨
  ∃ l', out.cis = [{ ci with val := some (.list l'), modified := true }] ∧
    ∀ x, l'.count x + (popsOf name out.reply).count x = (Cmd.listOf ci).count x + (pushesOf name raw out.reply).count x

theorem one_key_conserve {db : Db} (nd : NodupKeys db.dict) (ht : NoTTLd db.dict) {ci : CI} {k : Bytes}
    (hf : FaithfulCI db.dict k ci) {out : BodyOut} {name : String} {raw : List Bytes}
    (h : OneKeyOut name raw ci out) :
    NoTTLd (writebackPure db out.cis).1.dict ∧
    ∀ x, (dictElems (writebackPure db out.cis).1.dict).count x + (popsOf name out.reply).count x =
      (dictElems db.dict).count x + (pushesOf name raw out.reply).count x := by
  rcases h with ⟨hc, hp, hq⟩ | ⟨l', hc, hbal⟩
  · rw [hc, hp, hq, writebackPure_clean (by intro c hc'; simp only [List.mem_singleton] at hc'; subst hc'; exact ⟨hf.mod, hf.exm⟩)]
    exact ⟨ht, fun _ => rfl⟩
  · have hL : ListCI ({ ci with val := some (.list l'), modified := true } : CI) l' := ⟨rfl, rfl, hf.exp⟩
    rw [hc, writebackPure_cons, writebackPure_nil]
    refine ⟨noTTL_writeback ht hL, fun x => ?_⟩
    have h1 := count_writeback nd ht hL x
    have h2 := hbal x
    have h3 : elemsAt db.dict ({ ci with val := some (.list l'), modified := true } : CI).key = Cmd.listOf ci := by
      rw [hf.elems]; show elemsAt db.dict ci.key = _; rw [hf.key]
    rw [h3] at h1
    simp only at h1 ⊢
    omega

/-- the conclusion at the level of the pure runner -/
def RegConserves (name : String) (raw : List Bytes) (db : Db) (o : RunOut) : Prop :=
  NoTTLd o.db.dict ∧
  ∀ x, (dictElems o.db.dict).count x + (popsOf name o.reply).count x =
    (dictElems db.dict).count x + (pushesOf name raw o.reply).count x

theorem regConserves_same {name : String} {raw : List Bytes} {db : Db} {o : RunOut} (ht : NoTTLd db.dict)
    (hdb : o.db = db) (hp : popsOf name o.reply = []) (hq : pushesOf name raw o.reply = []) :
    RegConserves name raw db o := by
  unfold RegConserves
  rw [hdb, hp, hq]
  exact ⟨ht, fun _ => rfl⟩

/-- a single-key list command run by the pure runner conserves, once its body is known to: `hbody` is asked for the
item of the key as `Signature.apply` builds it from any stored entry (`Ttl.applyL_keyFirst`) -/
theorem regular1_conserve (sig : Sig) (body : Body) (ty : Option Ty) (fx : List ArgTy)
    (hfix : sig.fixed = .key ty .unspecified :: fx) (hfx : ∀ t ∈ fx, Ttl.isKey t = false)
    (hrep : ∀ t ∈ sig.rep, Ttl.isKey t = false)
    (hbody : ∀ ctx k rest as item, Ttl.decodeAll (rest.zip (sig.types (rest.length + 1)).tail) = .ok as →
      sig.checkArity (rest.length + 1) = true →
      (ty = some .list → ∃ l e, Ttl.ciOf ty k item = ListKeys.lci k l e) →
      (∃ e, body ctx (.key 0 :: as) [Ttl.ciOf ty k item] = .error e) ∨
        ∃ out, body ctx (.key 0 :: as) [Ttl.ciOf ty k item] = .ok out ∧
          OneKeyOut sig.name (k :: rest) (Ttl.ciOf ty k item) out)
    (ctx : Ctx) (gate : Option Err) (raw : List Bytes) {db : Db} (nd : NodupKeys db.dict) (ht : NoTTLd db.dict) :
    RegConserves sig.name raw db (runRegular sig body ctx gate raw db) := by
  -- `Signature.apply` fails, or hands the body the numbered arguments and the item of the key
  have happ : (∃ e, applyL sig raw (fun k => db.dict.lookup k) = .error e) ∨
      ∃ k rest as, raw = k :: rest ∧ Ttl.decodeAll (rest.zip (sig.types (rest.length + 1)).tail) = .ok as ∧
        sig.checkArity (rest.length + 1) = true ∧
        (ty = some .list → ∃ l e, Ttl.ciOf ty k (db.dict.lookup k) = ListKeys.lci k l e) ∧
        applyL sig raw (fun k => db.dict.lookup k) = .ok (.ok (.key 0 :: as) [Ttl.ciOf ty k (db.dict.lookup k)]) := by
    rw [applyL_eq]
    cases raw with
    | nil => left; unfold Ttl.applyL Sig.checkArity; simp [hfix]
    | cons k rest =>
      by_cases har : sig.checkArity (rest.length + 1) = true
      · by_cases hrp : (!sig.rep.isEmpty && (rest.length + 1 - sig.fixed.length) % sig.rep.length != 0) = false
        · rw [Ttl.applyL_keyFirst _ sig ty fx hfix hfx hrep k rest har hrp]
          cases hd : Ttl.decodeAll (rest.zip (sig.types (rest.length + 1)).tail) with
          | error e => exact .inl ⟨e, rfl⟩
          | ok as =>
            dsimp only
            cases hk : Ttl.keyStep ty k (db.dict.lookup k) as with
            | error e => exact .inl ⟨e, rfl⟩
            | ok ap =>
              obtain ⟨rfl, hl⟩ := keyStep_ok hk
              exact .inr ⟨k, rest, as, rfl, hd, har, hl, rfl⟩
        · left; unfold Ttl.applyL; simp [har, hrp]
      · left; unfold Ttl.applyL; simp [har]
  rcases runRegular_noTTL sig body ctx gate raw nd ht with ⟨hdb, ⟨m, hm⟩ | ⟨r, hr, _⟩⟩ | ⟨args, cis, out, hap, hb, hdb, hrep'⟩
  · exact regConserves_same ht hdb (by rw [hm]; exact popsOf_err _ _) (by rw [hm]; exact pushesOf_err _ _ _)
  · rcases happ with ⟨e, he⟩ | ⟨_, _, _, _, _, _, _, he⟩ <;> rw [he] at hr <;> cases hr
  · rcases happ with ⟨e, he⟩ | ⟨k, rest, as, rfl, hd, har, hl, he⟩
    · rw [he] at hap; cases hap
    · rw [he] at hap
      cases hap
      rcases hbody ctx k rest as _ hd har hl with ⟨e, he'⟩ | ⟨out', ho, hone⟩
      · rw [he'] at hb; cases hb
      · rw [ho] at hb
        cases hb
        unfold RegConserves
        rw [hdb, hrep']
        exact one_key_conserve nd ht (ciOf_faithful ht ty k) hone

/-! ### the bodies -/

theorem nonKey_sstr : NonKey .sstr := fun _ _ h => by cases h

def IsPush (name : String) : Prop := name = "lpush" ∨ name = "rpush" ∨ name = "lpushx" ∨ name = "rpushx"
def IsPop (name : String) : Prop := name = "lpop" ∨ name = "rpop"
/-- on a command name; `Conserve.IsBpop` says the same of a parking record -/
def IsBPop (name : String) : Prop := name = "blpop" ∨ name = "brpop"

instance (name : String) : Decidable (IsPush name) := by unfold IsPush; infer_instance
instance (name : String) : Decidable (IsPop name) := by unfold IsPop; infer_instance
instance (name : String) : Decidable (IsBPop name) := by unfold IsBPop; infer_instance

theorem popsOf_of_not {name : String} (h1 : ¬ IsPop name) (h2 : ¬ IsBPop name) (r : Reply) : popsOf name r = [] := by
  unfold popsOf IsPop IsBPop at *
  rw [if_neg h1, if_neg h2]

theorem pushesOf_of_not {name : String} (h : ¬ IsPush name) (raw : List Bytes) (r : Reply) : pushesOf name raw r = [] := by
  unfold pushesOf IsPush at *
  rw [if_neg h]

theorem IsPush.not_pop {name : String} (h : IsPush name) : ¬ IsPop name ∧ ¬ IsBPop name := by
  unfold IsPush at h; unfold IsPop IsBPop
  rcases h with rfl | rfl | rfl | rfl <;> decide

theorem IsPop.not_push {name : String} (h : IsPop name) : ¬ IsPush name := by
  unfold IsPop at h; unfold IsPush
  rcases h with rfl | rfl <;> decide

theorem pushesOf_push {name : String} (hn : IsPush name) (raw : List Bytes) (r : Reply) :
    pushesOf name raw r = (match r with | .int n => if n = 0 then [] else raw.tail | _ => []) := if_pos hn

theorem popsOf_pop {name : String} (hn : IsPop name) (r : Reply) :
    popsOf name r = (match r with | .bulk x => [x] | .arr xs => xs.flatMap bulkOf | _ => []) := if_pos hn

/-- the outcome of a push that produced the list `l` from the values `vs` -/
theorem pushOut {name : String} (hn : IsPush name) (k : Bytes) (vs : List Bytes) (ci : CI) (l : List Bytes)
    (hl : ∀ x, l.count x = vs.count x + (Cmd.listOf ci).count x) :
    OneKeyOut name (k :: vs) ci { reply := .int l.length, cis := [{ ci with val := some (.list l), modified := true }] } := by
  right
  refine ⟨l, rfl, fun x => ?_⟩
  rw [popsOf_of_not hn.not_pop.1 hn.not_pop.2]
  have hp : pushesOf name (k :: vs) (.int l.length) = if (l.length : Int) = 0 then [] else vs := by
    rw [pushesOf_push hn]; rfl
  rw [hp]
  by_cases h0 : (l.length : Int) = 0
  · rw [if_pos h0]
    have : l = [] := by
      have : l.length = 0 := by exact_mod_cast h0
      exact List.length_eq_zero_iff.mp this
    have h := hl x
    rw [this] at h ⊢
    simp only [List.count_nil] at h ⊢
    omega
  · rw [if_neg h0]
    have h := hl x
    simp only [List.count_nil]
    omega

theorem zeroOut {name : String} (hn : IsPush name) (raw : List Bytes) (ci : CI) :
    OneKeyOut name raw ci { reply := .int 0, cis := [ci] } := by
  left
  refine ⟨rfl, popsOf_of_not hn.not_pop.1 hn.not_pop.2 _, ?_⟩
  rw [pushesOf_push hn]; rfl

/-- the four push bodies on the item of a list key -/
theorem push_out {name : String} (hn : IsPush name) (left x : Bool) (ctx : Ctx) (k : Bytes) (vs l : List Bytes)
    (e : Option Int) :
    ∃ out, ListKeys.pushBody left x ctx (.key 0 :: vs.map .raw) [ListKeys.lci k l e] = .ok out ∧
      OneKeyOut name (k :: vs) (ListKeys.lci k l e) out := by
  rw [ListKeys.pushBody_eval]
  split
  · exact ⟨_, rfl, zeroOut hn _ _⟩
  · refine ⟨_, rfl, pushOut hn k vs (ListKeys.lci k l e) (ListKeys.pushed left l vs) fun y => ?_⟩
    show (ListKeys.pushed left l vs).count y = vs.count y + l.count y
    unfold ListKeys.pushed
    cases left
    · simp only [Bool.false_eq_true, if_false, List.count_append]; omega
    · simp only [if_true, List.count_append, List.count_reverse]

/-! ### LPOP / RPOP -/

theorem flatMap_bulkOf (l : List Bytes) : (l.map Reply.bulk).flatMap bulkOf = l := by
  induction l with
  | nil => rfl
  | cons x xs ih => simp [bulkOf, ih]

theorem pops_counted {name : String} (hn : IsPop name) (popped : List Bytes) :
    popsOf name (Reply.bulks popped) = popped := by
  rw [popsOf_pop hn]; exact flatMap_bulkOf popped

theorem pops_single {name : String} (hn : IsPop name) (popped : List Bytes) (h : popped.length ≤ 1) :
    popsOf name (Reply.ofOptBulk popped.head?) = popped := by
  rw [popsOf_pop hn]
  match popped, h with
  | [], _ => rfl
  | [x], _ => rfl
  | _ :: _ :: _, h => simp at h

theorem popN_count (left : Bool) (l : List Bytes) (n : Nat) (x : Bytes) :
    (if left then Cmd.popLeftN l n else Cmd.popRightN l n).2.count x +
      (if left then Cmd.popLeftN l n else Cmd.popRightN l n).1.count x = l.count x := by
  cases left
  · simp only [Bool.false_eq_true, if_false]
    have := congrArg (List.count x) (FR.Proofs.popRightN_conserve l n)
    rw [List.count_append, List.count_reverse] at this
    exact this
  · simp only [if_true]
    have := congrArg (List.count x) (FR.Proofs.popLeftN_conserve l n)
    rw [List.count_append] at this
    omega

theorem pop1_length (left : Bool) (l : List Bytes) :
    (if left then Cmd.popLeftN l 1 else Cmd.popRightN l 1).1.length ≤ 1 := by
  cases left
  · simp only [Bool.false_eq_true, if_false]
    have := (FR.Proofs.popRightN_length l 1).1
    omega
  · simp only [if_true]
    have := (FR.Proofs.popLeftN_length l 1).1
    omega

theorem filterMap_ints (ns : List Int) :
    (ns.map Arg.int).filterMap (fun a => match a with | .int n => some n | _ => none) = ns := by
  induction ns with
  | nil => rfl
  | cons n ns ih => simp [ih]

theorem nilOut {name : String} (raw : List Bytes) (ci : CI) :
    OneKeyOut name raw ci { reply := .nil, cis := [ci] } :=
  .inl ⟨rfl, popsOf_nil _, pushesOf_nil _ _⟩

theorem popGo_out {name : String} (hn : IsPop name) (raw : List Bytes) (left : Bool) (ci : CI) (count : Nat) (single : Bool)
    (hs : single = true → count = 1) :
    (∃ e, ListKeys.popGo left [ci] 0 count single = .error e) ∨
    ∃ out, ListKeys.popGo left [ci] 0 count single = .ok out ∧ OneKeyOut name raw ci out := by
  unfold ListKeys.popGo
  rw [ciAt_single]
  cases ht : ci.truthy
  · right; exact ⟨_, rfl, nilOut raw ci⟩
  · simp only [Bool.not_true, Bool.false_eq_true, if_false]
    cases hv : ci.val with
    | none => exact .inl ⟨_, rfl⟩
    | some v =>
      cases v with
      | list l =>
        right
        refine ⟨_, rfl, .inr ⟨_, rfl, fun x => ?_⟩⟩
        rw [pushesOf_of_not hn.not_push, listOf_of_val hv]
        simp only [List.count_nil, Nat.add_zero]
        have hc := popN_count left l count x
        cases single
        · simp only [Bool.false_eq_true, if_false]
          rw [pops_counted hn]
          exact hc
        · simp only [if_true]
          have h1 := hs rfl
          subst h1
          rw [pops_single hn _ (pop1_length left l)]
          exact hc
      | _ => exact .inl ⟨_, rfl⟩

theorem listPop_out {name : String} (hn : IsPop name) (raw : List Bytes) (left : Bool) (ctx : Ctx) (ns : List Int) (ci : CI) :
    (∃ e, Cmd.listPop left ctx (.key 0 :: ns.map Arg.int) [ci] = .error e) ∨
    ∃ out, Cmd.listPop left ctx (.key 0 :: ns.map Arg.int) [ci] = .ok out ∧ OneKeyOut name raw ci out := by
  rw [ListKeys.listPop_eval]
  match ns with
  | [] => exact popGo_out hn raw left ci 1 true (fun _ => rfl)
  | [n] =>
    simp only
    split
    · exact .inl ⟨_, rfl⟩
    · split
      · exact .inr ⟨_, rfl, nilOut raw ci⟩
      · exact popGo_out hn raw left ci n.toNat false (fun h => by cases h)
  | _ :: _ :: _ => exact .inl ⟨_, rfl⟩

/-! ### LLEN / LRANGE -/

theorem keepOut {name : String} (h1 : ¬ IsPop name) (h2 : ¬ IsBPop name) (h3 : ¬ IsPush name) (raw : List Bytes)
    (ci : CI) (r : Reply) : OneKeyOut name raw ci { reply := r, cis := [ci] } :=
  .inl ⟨rfl, popsOf_of_not h1 h2 _, pushesOf_of_not h3 _ _⟩

theorem llen_out {name : String} (h1 : ¬ IsPop name) (h2 : ¬ IsBPop name) (h3 : ¬ IsPush name) (raw : List Bytes)
    (ctx : Ctx) (args : List Arg) (ci : CI) :
    (∃ e, Cmd.llen ctx args [ci] = .error e) ∨ ∃ out, Cmd.llen ctx args [ci] = .ok out ∧ OneKeyOut name raw ci out := by
  unfold Cmd.llen
  split
  · exact .inr ⟨_, rfl, keepOut h1 h2 h3 raw ci _⟩
  · exact .inl ⟨_, rfl⟩

theorem lrange_out {name : String} (h1 : ¬ IsPop name) (h2 : ¬ IsBPop name) (h3 : ¬ IsPush name) (raw : List Bytes)
    (ctx : Ctx) (args : List Arg) (ci : CI) :
    (∃ e, Cmd.lrange ctx args [ci] = .error e) ∨ ∃ out, Cmd.lrange ctx args [ci] = .ok out ∧ OneKeyOut name raw ci out := by
  unfold Cmd.lrange
  split
  · exact .inr ⟨_, rfl, keepOut h1 h2 h3 raw ci _⟩
  · exact .inl ⟨_, rfl⟩

/-! ### the single-key commands through the pure runner -/

theorem zip_tail_fst (sig : Sig) (rest : List Bytes) (har : sig.checkArity (rest.length + 1) = true) :
    (rest.zip (sig.types (rest.length + 1)).tail).map (·.1) = rest := by
  apply List.map_fst_zip
  rw [List.length_tail, types_length sig _ har]
  omega

/-- the types of the arguments of a variadic signature after its first -/
theorem mem_types_tail {sig : Sig} {t0 t : ArgTy} {fx : List ArgTy} (hfix : sig.fixed = t0 :: fx) (hrep : sig.rep = [t])
    (n : Nat) : ∀ u ∈ (sig.types n).tail, u ∈ fx ∨ u = t := by
  intro u hu
  rw [Ttl.types_rep_one hrep, hfix, List.cons_append, List.tail_cons, List.mem_append, List.mem_replicate] at hu
  exact hu.imp id And.right

theorem push_conserve (name : String) (hn : IsPush name) (left x : Bool)
    (ctx : Ctx) (gate : Option Err) (raw : List Bytes) {db : Db} (nd : NodupKeys db.dict) (ht : NoTTLd db.dict) :
    RegConserves name raw db (runRegular (ListKeys.sigPush name) (ListKeys.pushBody left x) ctx gate raw db) := by
  refine regular1_conserve (ListKeys.sigPush name) _ (some .list) [.bytes] rfl (by simp [Ttl.isKey])
    (by simp [ListKeys.sigPush, Ttl.isKey]) ?_ ctx gate raw nd ht
  intro ctx k rest as item hd har hl
  obtain ⟨l, e, hci⟩ := hl rfl
  have hall := mem_types_tail (sig := ListKeys.sigPush name) rfl rfl (rest.length + 1)
  rw [decodeAll_raw _ (fun p hp => by
    rcases hall _ (List.of_mem_zip hp).2 with h | h
    · exact .inl (List.mem_singleton.1 h)
    · exact .inl h), zip_tail_fst _ rest har] at hd
  cases hd
  rw [hci]
  exact .inr (push_out hn left x ctx k rest l e)

theorem pop_conserve (name : String) (hn : IsPop name) (left : Bool)
    (ctx : Ctx) (gate : Option Err) (raw : List Bytes) {db : Db} (nd : NodupKeys db.dict) (ht : NoTTLd db.dict) :
    RegConserves name raw db (runRegular (ListKeys.sigPop name) (Cmd.listPop left) ctx gate raw db) := by
  refine regular1_conserve (ListKeys.sigPop name) _ none [] rfl (by simp)
    (by simp [ListKeys.sigPop, Ttl.isKey]) ?_ ctx gate raw nd ht
  intro ctx k rest as item hd har _
  have hall := mem_types_tail (sig := ListKeys.sigPop name) rfl rfl (rest.length + 1)
  rcases decodeAll_int _ (fun p hp => (hall _ (List.of_mem_zip hp).2).resolve_left (by simp)) with ⟨e, he⟩ | ⟨ns, hns⟩
  · rw [he] at hd; cases hd
  · rw [hns] at hd
    cases hd
    exact listPop_out hn (k :: rest) left ctx ns _

theorem keep_conserve (sig : Sig) (body : Body) (fx : List ArgTy) (hfix : sig.fixed = ListKeys.KL :: fx)
    (hfx : ∀ t ∈ fx, Ttl.isKey t = false) (hrep : sig.rep = [])
    (hout : ∀ ctx args ci raw, (∃ e, body ctx args [ci] = .error e) ∨ ∃ out, body ctx args [ci] = .ok out ∧ OneKeyOut sig.name raw ci out)
    (ctx : Ctx) (gate : Option Err) (raw : List Bytes) {db : Db} (nd : NodupKeys db.dict) (ht : NoTTLd db.dict) :
    RegConserves sig.name raw db (runRegular sig body ctx gate raw db) :=
  regular1_conserve sig body (some .list) fx hfix hfx (by rw [hrep]; simp)
    (fun ctx _ _ _ _ _ _ _ => hout ctx _ _ _) ctx gate raw nd ht

/-! ### the two-key commands -/

theorem two_key_conserve {db : Db} (nd : NodupKeys db.dict) (ht : NoTTLd db.dict) {cs cd : CI} {ks kd : Bytes}
    (hfs : FaithfulCI db.dict ks cs) (hfd : FaithfulCI db.dict kd cd) (l1 l2 : List Bytes)
    (hbal : if cs.key = cd.key then l1 = l2 ∧ ∀ x, l2.count x = (Cmd.listOf cs).count x
      else ∀ x, l1.count x + l2.count x = (Cmd.listOf cs).count x + (Cmd.listOf cd).count x) :
    NoTTLd (writebackPure db [{ cs with val := some (.list l1), modified := true },
        { cd with val := some (.list l2), modified := true }]).1.dict ∧
    ∀ x, (dictElems (writebackPure db [{ cs with val := some (.list l1), modified := true },
        { cd with val := some (.list l2), modified := true }]).1.dict).count x = (dictElems db.dict).count x := by
  have hL1 : ListCI ({ cs with val := some (.list l1), modified := true } : CI) l1 := ⟨rfl, rfl, hfs.exp⟩
  have hL2 : ListCI ({ cd with val := some (.list l2), modified := true } : CI) l2 := ⟨rfl, rfl, hfd.exp⟩
  rw [writebackPure_cons, writebackPure_cons, writebackPure_nil]
  have nd1 := CI.writeback_nodup ({ cs with val := some (.list l1), modified := true } : CI) nd
  have ht1 := noTTL_writeback ht hL1
  refine ⟨noTTL_writeback ht1 hL2, fun x => ?_⟩
  have h1 := count_writeback nd ht hL1 x
  have h2 := count_writeback nd1 ht1 hL2 x
  have e0s : elemsAt db.dict ({ cs with val := some (.list l1), modified := true } : CI).key = Cmd.listOf cs := by
    rw [hfs.elems]; show elemsAt db.dict cs.key = _; rw [hfs.key]
  rw [e0s] at h1
  by_cases hk : cs.key = cd.key
  · rw [if_pos hk] at hbal
    have e1 : elemsAt (CI.writeback { cs with val := some (.list l1), modified := true } db).1.dict
        ({ cd with val := some (.list l2), modified := true } : CI).key = l1 := by
      show elemsAt _ cd.key = _
      rw [← hk]
      exact elemsAt_writeback_self ht hL1
    rw [e1] at h2
    obtain ⟨rfl, hb⟩ := hbal
    have := hb x
    simp only at h1 h2 ⊢
    omega
  · rw [if_neg hk] at hbal
    have e1 : elemsAt (CI.writeback { cs with val := some (.list l1), modified := true } db).1.dict
        ({ cd with val := some (.list l2), modified := true } : CI).key = Cmd.listOf cd := by
      show elemsAt _ cd.key = _
      rw [elemsAt_writeback_ne ht hL1 (fun e => hk e.symm), hfd.elems, hfd.key]
    rw [e1] at h2
    have := hbal x
    simp only at h1 h2 ⊢
    omega

theorem moveCore_out (cs cd : CI) (fromLeft toLeft : Bool) :
    ∃ out, Cmd.moveCore [cs, cd] 0 1 fromLeft toLeft = .ok out ∧
      (out.cis = [cs, cd] ∨ ∃ l1 l2, out.cis = [{ cs with val := some (.list l1), modified := true },
          { cd with val := some (.list l2), modified := true }] ∧
        (if cs.key = cd.key then l1 = l2 ∧ ∀ x, l2.count x = (Cmd.listOf cs).count x
          else ∀ x, l1.count x + l2.count x = (Cmd.listOf cs).count x + (Cmd.listOf cd).count x)) := by
  unfold Cmd.moveCore
  have hc0 : ciAt [cs, cd] 0 = cs := rfl
  have hc1 : ciAt [cs, cd] 1 = cd := rfl
  simp only [hc0, hc1]
  have hcnt := popN_count fromLeft (Cmd.listOf cs) 1
  have hlen := pop1_length fromLeft (Cmd.listOf cs)
  generalize (if fromLeft = true then Cmd.popLeftN (Cmd.listOf cs) 1 else Cmd.popRightN (Cmd.listOf cs) 1) = pr at hcnt hlen
  obtain ⟨popped, remaining⟩ := pr
  simp only at hcnt hlen ⊢
  match popped, hlen with
  | [], _ => exact ⟨_, rfl, .inl rfl⟩
  | [el], _ =>
    simp only [List.head?_cons]
    by_cases hk : cs.key = cd.key
    · have hb : (cs.key == cd.key) = true := by simpa using hk
      simp only [hb, if_true]
      refine ⟨_, rfl, .inr ⟨_, _, rfl, ?_⟩⟩
      rw [if_pos hk]
      refine ⟨rfl, fun x => ?_⟩
      have := hcnt x
      cases toLeft <;> simp only [List.count_cons, List.count_append, List.count_nil, if_true, Bool.false_eq_true, if_false] at this ⊢ <;> omega
    · have hb : (cs.key == cd.key) = false := by simpa using hk
      simp only [hb, Bool.false_eq_true, if_false]
      refine ⟨_, rfl, .inr ⟨_, _, rfl, ?_⟩⟩
      rw [if_neg hk]
      intro x
      have := hcnt x
      cases toLeft <;> simp only [List.count_cons, List.count_append, List.count_nil, if_true, Bool.false_eq_true, if_false] at this ⊢ <;> omega
  | _ :: _ :: _, h => simp at h

/-- the items `Signature.apply` builds for the two list keys of RPOPLPUSH / LMOVE are faithful -/
theorem moveApplied_ok {d : Dict} (ht : NoTTLd d) {s t : Bytes} {tl args : List Arg} {cis : List CI}
    (h : ListKeys.moveApplied (fun k => d.lookup k) s t tl = .ok (.ok args cis)) :
    ∃ cs cd, cis = [cs, cd] ∧ args = .key 0 :: .key 1 :: tl ∧ FaithfulCI d s cs ∧ FaithfulCI d t cd := by
  have fs := ciOf_faithful ht (some .list) s
  have fd := ciOf_faithful ht (some .list) t
  unfold ListKeys.moveApplied at h
  simp only at h
  cases hs : d.lookup s with
  | none => rw [hs] at h; cases h
  | some its =>
    rw [hs] at h fs
    simp only at h
    split at h
    · cases hd : d.lookup t with
      | none => rw [hd] at h fd; cases h; exact ⟨_, _, rfl, rfl, fs, fd⟩
      | some itd =>
        rw [hd] at h fd
        simp only at h
        split at h
        · cases h; exact ⟨_, _, rfl, rfl, fs, fd⟩
        · cases h
    · cases h

/-- the shapes of `Signature.apply` and of the body for RPOPLPUSH / LMOVE -/
def MoveApplied (sig : Sig) (body : Body) (raw : List Bytes) (live : Bytes → Option Item) : Prop :=
  (∃ e, applyL sig raw live = .error e) ∨
  ∃ s d tl, applyL sig raw live = ListKeys.moveApplied live s d tl ∧
    ∀ ctx cs cd, (∃ e, body ctx (.key 0 :: .key 1 :: tl) [cs, cd] = .error e) ∨
      ∃ fl t, body ctx (.key 0 :: .key 1 :: tl) [cs, cd] = Cmd.moveCore [cs, cd] 0 1 fl t

theorem rpoplpush_applied (raw : List Bytes) (live : Bytes → Option Item) :
    MoveApplied ListKeys.sigRpoplpush Cmd.rpoplpush raw live := by
  match raw with
  | [s, d] => exact .inr ⟨s, d, [], ListKeys.applyL_KLn_KL .., fun _ _ _ => .inr ⟨false, true, rfl⟩⟩
  | [] | [_] | _ :: _ :: _ :: _ => exact .inl ⟨_, ListKeys.applyL_arity_fixed _ _ _ rfl (by simp [ListKeys.sigRpoplpush])⟩

theorem lmove_applied (raw : List Bytes) (live : Bytes → Option Item) :
    MoveApplied ListKeys.sigLmove Cmd.lmove raw live := by
  match raw with
  | [s, d, a, b] =>
    refine .inr ⟨s, d, [.raw a, .raw b], ListKeys.applyL_KLn_KL_ss .., fun ctx cs cd => ?_⟩
    unfold Cmd.lmove
    simp only
    split
    · exact .inl ⟨_, rfl⟩
    · split
      · exact .inl ⟨_, rfl⟩
      · exact .inr ⟨_, _, rfl⟩
  | [] | [_] | [_, _] | [_, _, _] | _ :: _ :: _ :: _ :: _ :: _ =>
    exact .inl ⟨_, ListKeys.applyL_arity_fixed _ _ _ rfl (by simp [ListKeys.sigLmove])⟩

theorem move_conserve (sig : Sig) (body : Body) (h1 : ¬ IsPop sig.name) (h2 : ¬ IsBPop sig.name) (h3 : ¬ IsPush sig.name)
    (happ : ∀ raw live, MoveApplied sig body raw live)
    (ctx : Ctx) (gate : Option Err) (raw : List Bytes) {db : Db} (nd : NodupKeys db.dict) (ht : NoTTLd db.dict) :
    RegConserves sig.name raw db (runRegular sig body ctx gate raw db) := by
  unfold RegConserves
  simp only [popsOf_of_not h1 h2, pushesOf_of_not h3, List.count_nil, Nat.add_zero]
  rcases runRegular_noTTL sig body ctx gate raw nd ht with ⟨hdb, _⟩ | ⟨args, cis, out, hap, hb, hdb, _⟩
  · rw [hdb]; exact ⟨ht, fun _ => rfl⟩
  · rw [hdb]
    rcases happ raw (fun k => db.dict.lookup k) with ⟨e, he⟩ | ⟨s, d, tl, he, hbody⟩
    · rw [he] at hap; cases hap
    · rw [he] at hap
      obtain ⟨cs, cd, rfl, rfl, hfs, hfd⟩ := moveApplied_ok ht hap
      rcases hbody ctx cs cd with ⟨e, he'⟩ | ⟨fl, t, he'⟩
      · rw [he'] at hb; cases hb
      · rw [he'] at hb
        obtain ⟨out', ho, hcases⟩ := moveCore_out cs cd fl t
        rw [ho] at hb
        cases hb
        rcases hcases with hc | ⟨l1, l2, hc, hbal⟩
        · rw [hc, writebackPure_clean (by
            intro c hc'
            simp only [List.mem_cons, List.not_mem_nil, or_false] at hc'
            rcases hc' with rfl | rfl
            · exact ⟨hfs.mod, hfs.exm⟩
            · exact ⟨hfd.mod, hfd.exm⟩)]
          exact ⟨ht, fun _ => rfl⟩
        · rw [hc]
          exact two_key_conserve nd ht hfs hfd l1 l2 hbal

/-! ## all regular commands of the family -/

/-- the regular (non-blocking) commands of the list family -/
def regNames : List String :=
  ["lpush", "rpush", "lpushx", "rpushx", "lpop", "rpop", "rpoplpush", "lmove", "llen", "lrange"]

/-- conservation by the regular list commands, for the signature and body the tables give them
(`ListKeys.tables`). -/
theorem regular_family_conserve (sig : Sig) (body : Body) (hfind : SigTable.find sig.name = some sig)
    (hreg : Cmd.regular sig.name = some body) (hn : sig.name ∈ regNames)
    (ctx : Ctx) (gate : Option Err) (raw : List Bytes) {db : Db} (nd : NodupKeys db.dict) (ht : NoTTLd db.dict) :
    RegConserves sig.name raw db (runRegular sig body ctx gate raw db) := by
  have key : ∀ (n : String) (sg : Sig) (bd : Body), sig.name = n → HashSet.sigOf n = sg ∧ Cmd.regular n = some bd →
      RegConserves n raw db (runRegular sg bd ctx gate raw db) →
      RegConserves sig.name raw db (runRegular sig body ctx gate raw db) := by
    intro n sg bd hname ht hc
    subst hname
    have e1 : sg = sig := by rw [← ht.1]; unfold HashSet.sigOf; rw [hfind]; rfl
    have e2 : bd = body := Option.some.inj (ht.2.symm.trans hreg)
    subst e1 e2
    exact hc
  obtain ⟨tLpush, tRpush, tLpushx, tRpushx, tLpop, tRpop, tLrange, _, tLlen, _, _, _, _, tRpoplpush, tLmove⟩ :=
    ListKeys.tables
  simp only [regNames, List.mem_cons, List.not_mem_nil, or_false] at hn
  rcases hn with h | h | h | h | h | h | h | h | h | h
  · exact key _ _ _ h tLpush (push_conserve _ (.inl rfl) true false ctx gate raw nd ht)
  · exact key _ _ _ h tRpush (push_conserve _ (.inr (.inl rfl)) false false ctx gate raw nd ht)
  · exact key _ _ _ h tLpushx (push_conserve _ (.inr (.inr (.inl rfl))) true true ctx gate raw nd ht)
  · exact key _ _ _ h tRpushx (push_conserve _ (.inr (.inr (.inr rfl))) false true ctx gate raw nd ht)
  · exact key _ _ _ h tLpop (pop_conserve _ (.inl rfl) true ctx gate raw nd ht)
  · exact key _ _ _ h tRpop (pop_conserve _ (.inr rfl) false ctx gate raw nd ht)
  · exact key _ _ _ h tRpoplpush
      (move_conserve ListKeys.sigRpoplpush _ (by decide) (by decide) (by decide) rpoplpush_applied ctx gate raw nd ht)
  · exact key _ _ _ h tLmove
      (move_conserve ListKeys.sigLmove _ (by decide) (by decide) (by decide) lmove_applied ctx gate raw nd ht)
  · exact key _ _ _ h tLlen (keep_conserve ListKeys.sigLlen _ [] rfl (by simp) rfl
      (fun ctx args ci raw => llen_out (by decide) (by decide) (by decide) raw ctx args ci) ctx gate raw nd ht)
  · exact key _ _ _ h tLrange (keep_conserve ListKeys.sigLrange _ [.int, .int] rfl (by simp [Ttl.isKey]) rfl
      (fun ctx args ci raw => lrange_out (by decide) (by decide) (by decide) raw ctx args ci) ctx gate raw nd ht)

end FR.C11c

import FR.Proofs.DumpRound
/-!
# C18f: what `Dbl.roundPos` / `Dbl.ofDecimal` compute

Everything is stated in natural numbers, cross-multiplied (`C18aRound.lean` restates the results over `ℚ`).  Values are
counted in units of `2^-1074`, the smallest subnormal: hence the factors `2^1074`, `2^(e+1074)` and the bound
`2^2098 = 2^1024 · 2^1074`; `971 = 1023 - 52` is the largest exponent of a 53-bit significand.

`rm_spec`: the rounded significand is within half a unit, ties to even (`rm_even`: so an even significand is reached from
the closed interval around it, which is what makes the two thresholds exact); `roundPos_cases`: everything `roundPos` does, on
`rE`, `rq`, `rTail` of `DumpRound.lean`.  From these: the result is a function of the rational `num/den`; the exact overflow
and underflow thresholds; `ofDecimal_eq_roundPos` (the two early exits of `ofDecimal` do not change the value);
`modelVal_eq_roundAbs` (under `NoClamp` the model value of a literal is the rounding of the rational it denotes);
exactness, half an ulp, ties to even, monotonicity (through `rV`, `Desc`); IEEE `==` and `0.0 + d` on canonical doubles.
-/
namespace FR.C18f
open FR FR.DumpRound

/-- the rounding decision of `roundPos` -/
def upBit (n' d' : Nat) : Bool :=
  decide (2 * (n' % d') > d') || (decide (2 * (n' % d') == d') && n' / d' % 2 == 1)

/-- the rounded significand -/
def rm (n' d' : Nat) : Nat := if upBit n' d' then n' / d' + 1 else n' / d'

theorem rTail_eq (neg : Bool) (n' d' : Nat) (e : Int) :
    rTail neg n' d' e =
      if rm n' d' = 2 ^ 53 then (if e + 1 > 971 then .inf neg else .fin neg (2 ^ 52) (e + 1))
      else (if e > 971 then .inf neg else .fin neg (rm n' d') e) := by
  show (match (if rm n' d' == Dbl.pow2 53 then (Dbl.pow2 52, e + 1) else (rm n' d', e)) with
    | (m, e) => if e > 971 then Dbl.inf neg else Dbl.fin neg m e) = _
  simp only [pow2_eq, beq_iff_eq]
  split <;> rfl

theorem rm_spec (n' d' : Nat) (hd : 0 < d') :
    2 * (rm n' d' * d') ≤ 2 * n' + d' ∧ 2 * n' ≤ 2 * (rm n' d' * d') + d' ∧
    n' / d' ≤ rm n' d' ∧ rm n' d' ≤ n' / d' + 1 ∧
    (2 * (rm n' d' * d') = 2 * n' + d' → rm n' d' % 2 = 0) ∧
    (2 * n' = 2 * (rm n' d' * d') + d' → rm n' d' % 2 = 0) := by
  have h1 := Nat.div_add_mod n' d'
  have h2 := Nat.mod_lt n' hd
  unfold rm upBit
  generalize n' / d' = q at *
  generalize n' % d' = r at *
  split
  · rename_i h
    simp only [Bool.or_eq_true, Bool.and_eq_true, decide_eq_true_eq, beq_iff_eq] at h
    rw [Nat.add_mul, Nat.one_mul, Nat.mul_comm q d']
    generalize d' * q = t at *
    omega
  · rename_i h
    simp only [Bool.or_eq_true, Bool.and_eq_true, decide_eq_true_eq, beq_iff_eq, not_or, not_and] at h
    rw [Nat.mul_comm q d']
    generalize d' * q = t at *
    omega

/-- an even significand `T` is reached from the closed interval `[T − ½, T + ½]`: the ties at both ends go to it -/
theorem rm_even {n' d' T : Nat} (hd : 0 < d') (hT : T % 2 = 0) :
    (T ≤ rm n' d' ↔ 2 * (T * d') ≤ 2 * n' + d') ∧ (rm n' d' ≤ T ↔ 2 * n' ≤ 2 * (T * d') + d') := by
  obtain ⟨s1, s2, _, _, s5, s6⟩ := rm_spec n' d' hd
  generalize rm n' d' = M at *
  -- a neighbour of `T` at distance exactly ½ would be a tie rounded to an odd significand
  have lo : M + 1 ≤ T → 2 * (T * d') ≤ 2 * n' + d' → False := fun h h' => by
    have hm := Nat.mul_le_mul_right d' h
    rw [Nat.add_mul, Nat.one_mul] at hm
    have := s6 (by omega)
    have : M + 1 = T := Nat.eq_of_mul_eq_mul_right hd (by rw [Nat.add_mul, Nat.one_mul]; omega)
    omega
  have hi : T + 1 ≤ M → 2 * n' ≤ 2 * (T * d') + d' → False := fun h h' => by
    have hm := Nat.mul_le_mul_right d' h
    rw [Nat.add_mul, Nat.one_mul] at hm
    have := s5 (by omega)
    have : T + 1 = M := Nat.eq_of_mul_eq_mul_right hd (by rw [Nat.add_mul, Nat.one_mul]; omega)
    omega
  refine ⟨⟨fun h => ?_, fun h => ?_⟩, ⟨fun h => ?_, fun h => ?_⟩⟩
  · have := Nat.mul_le_mul_right d' h
    omega
  · exact Decidable.byContradiction fun c => lo (by omega) h
  · have := Nat.mul_le_mul_right d' h
    omega
  · exact Decidable.byContradiction fun c => hi (by omega) h

/-- numerator and denominator of `num/den / 2^e` -/
def sN (num : Nat) (e : Int) : Nat := if e ≥ 0 then num else num * 2 ^ (-e).toNat
def sD (den : Nat) (e : Int) : Nat := if e ≥ 0 then den * 2 ^ e.toNat else den

theorem sD_pos {den : Nat} (hd : 0 < den) (e : Int) : 0 < sD den e := by
  unfold sD; split
  · exact Nat.mul_pos hd (Nat.pow_pos (by decide))
  · exact hd

theorem rq_view (num den : Nat) (e : Int) : rq num den e = sN num e / sD den e := by
  unfold rq sN sD
  simp only [pow2_eq]
  split <;> rfl

theorem roundPos_zero_num (neg : Bool) (den : Nat) : Dbl.roundPos neg 0 den = .fin neg 0 (-1074) := by
  unfold Dbl.roundPos; rfl

theorem roundPos_view (neg : Bool) (num den : Nat) (h0 : num ≠ 0) :
    Dbl.roundPos neg num den = rTail neg (sN num (rE num den)) (sD den (rE num den)) (rE num den) := by
  rw [roundPos_eq]
  have : (num == 0) = false := by simpa using h0
  rw [this]
  simp only [Bool.false_eq_true, if_false, pow2_eq]
  unfold sN sD
  split <;> rfl

/-- the one statement the rest of the file uses: with `e = rE num den` the result is `rm n' d' · 2^e`, renormalised when the
significand reaches `2^53`, infinite when the exponent exceeds 971 -/
theorem roundPos_cases (neg : Bool) (num den : Nat) (h0 : num ≠ 0) (hd : 0 < den) :
    let e := rE num den
    let n' := sN num e
    let d' := sD den e
    0 < d' ∧ n' / d' < 2 ^ 53 ∧ -1074 ≤ e ∧ (e ≠ -1074 → 2 ^ 52 ≤ n' / d') ∧
    Dbl.roundPos neg num den =
      if rm n' d' = 2 ^ 53 then (if e + 1 > 971 then .inf neg else .fin neg (2 ^ 52) (e + 1))
      else (if e > 971 then .inf neg else .fin neg (rm n' d') e) := by
  intro e n' d'
  obtain ⟨f1, f2, f3⟩ := rE_facts num den h0 hd
  rw [rq_view] at f1 f3
  exact ⟨sD_pos hd _, f1, f2, f3, by rw [roundPos_view neg num den h0, rTail_eq]⟩

/-- the overflow threshold `2^1024 − 2^970`: the midpoint between the largest double and `2^1024` -/
def ovf : Nat := (2 ^ 54 - 1) * 2 ^ 970

theorem isInf_ite (c : Prop) [Decidable c] (a b : Dbl) :
    (if c then a else b).isInf = if c then a.isInf else b.isInf := by split <;> rfl

theorem roundPos_shape (neg : Bool) (num den : Nat) :
    Dbl.roundPos neg num den = .inf neg ∨ ∃ m e, Dbl.roundPos neg num den = .fin neg m e := by
  by_cases h0 : num = 0
  · subst h0; exact Or.inr ⟨0, -1074, roundPos_zero_num neg den⟩
  · rw [roundPos_view neg num den h0, rTail_eq]
    split
    · split
      · exact Or.inl rfl
      · exact Or.inr ⟨_, _, rfl⟩
    · split
      · exact Or.inl rfl
      · exact Or.inr ⟨_, _, rfl⟩

theorem roundPos_fin_sign {neg n : Bool} {a b m : Nat} {e : Int} (h : Dbl.fin n m e = Dbl.roundPos neg a b) :
    n = neg := by
  rcases roundPos_shape neg a b with hi | ⟨m', e', hf⟩
  · rw [hi] at h
    cases h
  · rw [hf] at h
    injection h

theorem roundPos_eq_inf {neg : Bool} {a b : Nat} (h : (Dbl.roundPos neg a b).isInf = true) :
    Dbl.roundPos neg a b = .inf neg := by
  rcases roundPos_shape neg a b with hi | ⟨m, e, hf⟩
  · exact hi
  · rw [hf] at h; cases h

/-- a zero produced by `roundPos` has the canonical exponent -/
theorem roundPos_zero_canon {neg : Bool} {a b : Nat} (hb : 0 < b) (h : (Dbl.roundPos neg a b).isZero = true) :
    Dbl.roundPos neg a b = .fin neg 0 (-1074) := by
  rcases roundPos_shape neg a b with h1 | ⟨m, e, h1⟩
  · rw [h1] at h; cases h
  · have hc := roundPos_canon neg a b hb
    rw [h1] at h hc ⊢
    cases m with
    | succ k => cases h
    | zero =>
      rcases hc with ⟨_, he⟩ | ⟨h52, _⟩
      · rw [he]
      · exact absurd h52 (by decide)

/-! ### the result depends on `num/den` only -/

theorem rq_anti (num den : Nat) {e1 e2 : Int} (h : e1 ≤ e2) : rq num den e2 ≤ rq num den e1 := by
  have hK1 : e1 ≤ (e2.toNat : Int) := by omega
  have hK2 : e2 ≤ (e2.toNat : Int) := by omega
  rw [rq_eq num den e1 _ hK1, rq_eq num den e2 _ hK2]
  apply Nat.div_le_div_right
  apply Nat.mul_le_mul_left
  apply Nat.pow_le_pow_right (by decide)
  omega

theorem rq_double (num den : Nat) (e : Int) : 2 * rq num den e ≤ rq num den (e - 1) := by
  have hK1 : e - 1 ≤ (e.toNat : Int) := by omega
  have hK2 : e ≤ (e.toNat : Int) := by omega
  rw [rq_eq num den (e - 1) _ hK1, rq_eq num den e _ hK2]
  have : ((e.toNat : Int) - (e - 1)).toNat = ((e.toNat : Int) - e).toNat + 1 := by omega
  rw [this, Nat.pow_succ, ← Nat.mul_assoc]
  generalize num * 2 ^ ((e.toNat : Int) - e).toNat = a
  generalize den * 2 ^ e.toNat = b
  by_cases hb : b = 0
  · subst hb; simp
  · rw [Nat.le_div_iff_mul_le (Nat.pos_of_ne_zero hb)]
    have := Nat.div_mul_le_self a b
    rw [Nat.mul_assoc, Nat.mul_comm a 2]
    exact Nat.mul_le_mul_left 2 this

theorem window_unique (num den : Nat) {e1 e2 : Int}
    (h1 : 2 ^ 52 ≤ rq num den e1) (h1' : rq num den e1 < 2 ^ 53)
    (h2 : 2 ^ 52 ≤ rq num den e2) (h2' : rq num den e2 < 2 ^ 53) : e1 = e2 := by
  have key : ∀ a b : Int, a < b → 2 ^ 52 ≤ rq num den b → rq num den a < 2 ^ 53 → False := by
    intro a b hab hb ha
    have s1 := rq_anti num den (show a ≤ b - 1 by omega)
    have s2 := rq_double num den b
    omega
  rcases Int.lt_trichotomy e1 e2 with h | h | h
  · exact (key _ _ h h2 h1').elim
  · exact h
  · exact (key _ _ h h1 h2').elim

theorem div_le_div_of_cross {a b c d : Nat} (hb : 0 < b) (hd : 0 < d) (h : a * d ≤ c * b) : a / b ≤ c / d := by
  rw [Nat.le_div_iff_mul_le hd]
  -- (a/b)·d·b ≤ a·d ≤ c·b
  have h1 : a / b * b ≤ a := Nat.div_mul_le_self a b
  have h2 : a / b * d * b ≤ c * b := by
    calc a / b * d * b = a / b * b * d := by rw [Nat.mul_assoc, Nat.mul_comm d b, ← Nat.mul_assoc]
      _ ≤ a * d := Nat.mul_le_mul_right _ h1
      _ ≤ c * b := h
  exact Nat.le_of_mul_le_mul_right h2 hb

theorem rq_mono {a b c d : Nat} (hb : 0 < b) (hd : 0 < d) (h : a * d ≤ c * b) (e : Int) :
    rq a b e ≤ rq c d e := by
  have hK : e ≤ (e.toNat : Int) := by omega
  rw [rq_eq a b e _ hK, rq_eq c d e _ hK]
  apply div_le_div_of_cross (Nat.mul_pos hb (Nat.pow_pos (by decide))) (Nat.mul_pos hd (Nat.pow_pos (by decide)))
  generalize 2 ^ ((e.toNat : Int) - e).toNat = P
  generalize 2 ^ e.toNat = Q
  calc a * P * (d * Q) = a * d * (P * Q) := by
        simp only [Nat.mul_comm, Nat.mul_left_comm]
    _ ≤ c * b * (P * Q) := Nat.mul_le_mul_right _ h
    _ = c * P * (b * Q) := by simp only [Nat.mul_comm, Nat.mul_left_comm]

theorem ne_zero_of_cross {a b c d : Nat} (ha : a ≠ 0) (hd : 0 < d) (h : a * d ≤ c * b) : c ≠ 0 := by
  rintro rfl
  rw [Nat.zero_mul] at h
  have : 0 < a * d := Nat.mul_pos (Nat.pos_of_ne_zero ha) hd
  omega

theorem rE_mono {a b c d : Nat} (ha : a ≠ 0) (hb : 0 < b) (hd : 0 < d) (h : a * d ≤ c * b) :
    rE a b ≤ rE c d := by
  have hc := ne_zero_of_cross ha hd h
  obtain ⟨f1, f2, f3⟩ := rE_facts a b ha hb
  obtain ⟨g1, g2, g3⟩ := rE_facts c d hc hd
  by_cases hle : rE a b ≤ rE c d
  · exact hle
  · exfalso
    have h52 := f3 (by omega)
    have m1 := rq_mono hb hd h (rE a b)
    have m2 := rq_double c d (rE c d + 1)
    have m3 := rq_anti c d (show rE c d + 1 ≤ rE a b by omega)
    have : rE c d + 1 - 1 = rE c d := by omega
    rw [this] at m2
    omega

theorem rq_scale (k num den : Nat) (hk : 0 < k) (e : Int) : rq (k * num) (k * den) e = rq num den e := by
  unfold rq
  split
  · rw [Nat.mul_assoc]; exact Nat.mul_div_mul_left _ _ hk
  · rw [Nat.mul_assoc]; exact Nat.mul_div_mul_left _ _ hk

theorem rE_scale (k num den : Nat) (hk : 0 < k) (h0 : num ≠ 0) (hd : 0 < den) :
    rE (k * num) (k * den) = rE num den := by
  have hk0 : k * num ≠ 0 := Nat.mul_ne_zero (by omega) h0
  have hkd : 0 < k * den := Nat.mul_pos hk hd
  obtain ⟨a1, a2, _⟩ := rE1_facts (k * num) (k * den) hk0 hkd
  obtain ⟨b1, b2, _⟩ := rE1_facts num den h0 hd
  rw [rq_scale k num den hk] at a1 a2
  have := window_unique num den a1 a2 b1 b2
  unfold rE
  rw [this]

theorem rm_scale (k n' d' : Nat) (hk : 0 < k) : rm (k * n') (k * d') = rm n' d' := by
  unfold rm upBit
  rw [Nat.mul_div_mul_left _ _ hk, Nat.mul_mod_mul_left, Nat.mul_left_comm 2 k]
  have e1 : (k * (2 * (n' % d')) > k * d') ↔ (2 * (n' % d') > d') := Nat.mul_lt_mul_left hk
  have e2 : (k * (2 * (n' % d')) == k * d') = (2 * (n' % d') == d') := by
    rw [Bool.eq_iff_iff, beq_iff_eq, beq_iff_eq]
    exact Nat.mul_left_cancel_iff hk
  simp only [e1, e2]

theorem rm_congr {a b c d : Nat} (hb : 0 < b) (hd : 0 < d) (h : a * d = c * b) : rm a b = rm c d := by
  rw [← rm_scale d a b hd, ← rm_scale b c d hb, Nat.mul_comm d a, h, Nat.mul_comm c b, Nat.mul_comm d b]

theorem sN_scale (k num : Nat) (e : Int) : sN (k * num) e = k * sN num e := by
  unfold sN; split
  · rfl
  · rw [Nat.mul_assoc]

theorem sD_scale (k den : Nat) (e : Int) : sD (k * den) e = k * sD den e := by
  unfold sD; split
  · rw [Nat.mul_assoc]
  · rfl

set_option exponentiation.threshold 1100 in
/-- `sN / sD` is `num/den / 2^e`, here as a fraction over the unit `2^e` in units of `2^-1074` -/
theorem sN_sD_grid (num den : Nat) {e : Int} (he : -1074 ≤ e) :
    sN num e * (2 ^ (e + 1074).toNat * den) = num * 2 ^ 1074 * sD den e := by
  unfold sN sD
  split
  · have : (e + 1074).toNat = 1074 + e.toNat := by omega
    rw [this, Nat.pow_add]
    ac_rfl
  · have : (2 : Nat) ^ 1074 = 2 ^ (-e).toNat * 2 ^ (e + 1074).toNat := by
      rw [← Nat.pow_add]; congr 1; omega
    rw [this]
    ac_rfl

theorem roundPos_scale (neg : Bool) (k num den : Nat) (hk : 0 < k) (hd : 0 < den) :
    Dbl.roundPos neg (k * num) (k * den) = Dbl.roundPos neg num den := by
  by_cases h0 : num = 0
  · subst h0; rw [Nat.mul_zero, roundPos_zero_num, roundPos_zero_num]
  · have hk0 : k * num ≠ 0 := Nat.mul_ne_zero (by omega) h0
    rw [roundPos_view neg _ _ hk0, roundPos_view neg _ _ h0, rE_scale k num den hk h0 hd, rTail_eq, rTail_eq,
      sN_scale, sD_scale, rm_scale _ _ _ hk]

/-! ### the thresholds -/

theorem ovf_pos : 0 < ovf := Nat.mul_pos (by decide) (Nat.pow_pos (by decide))

theorem rE_ovf : rE ovf 1 = 971 := by decide +kernel
theorem rE_tiny : rE 1 (2 ^ 1075) = -1074 := by decide +kernel

set_option exponentiation.threshold 1100 in
theorem roundPos_isInf_iff (neg : Bool) (num den : Nat) (hd : 0 < den) :
    (Dbl.roundPos neg num den).isInf = true ↔ ovf * den ≤ num := by
  by_cases h0 : num = 0
  · subst h0
    rw [roundPos_zero_num]
    have := Nat.mul_pos ovf_pos hd
    exact ⟨fun h => (by cases h), fun h => (by omega)⟩
  obtain ⟨hd', hq, he, hq52, hres⟩ := roundPos_cases neg num den h0 hd
  obtain ⟨_, _, _, s4, _, _⟩ := rm_spec (sN num (rE num den)) (sD den (rE num den)) hd'
  -- the exponent is monotone in `num/den`, and it is 971 at the threshold
  have hlo : ovf * den ≤ num → 971 ≤ rE num den := fun h =>
    rE_ovf ▸ rE_mono (Nat.ne_of_gt ovf_pos) (by decide) hd (by rwa [Nat.mul_one])
  have hhi : ¬ ovf * den ≤ num → rE num den ≤ 971 := fun h =>
    rE_ovf ▸ rE_mono h0 hd (by decide) (by rw [Nat.mul_one]; omega)
  rw [hres]
  generalize rE num den = e at *
  by_cases c1 : 972 ≤ e
  · rw [if_pos (by omega : e + 1 > 971), if_pos (by omega : e > 971), ite_self]
    exact ⟨fun _ => Decidable.byContradiction fun h => by have := hhi h; omega, fun _ => rfl⟩
  · by_cases c2 : e = 971
    · -- here `n' / d' = num / (den · 2^971)`
      subst c2
      have hn : sN num 971 = num := rfl
      have hD : sD den 971 = den * 2 ^ 971 := rfl
      rw [hD] at hd'
      rw [hn, hD] at s4 hq ⊢
      -- the significand `2^53` is even, so the midpoint `ovf` itself overflows
      have hM := (rm_even (n' := num) hd' (T := 2 ^ 53) (by decide)).1
      generalize rm num (den * 2 ^ 971) = M at *
      unfold ovf
      by_cases cM : M = 2 ^ 53
      · rw [if_pos cM]
        exact ⟨fun _ => by have := hM.mp (by omega); omega, fun _ => rfl⟩
      · rw [if_neg cM]
        exact ⟨fun h => (by cases h), fun h => absurd (hM.mpr (by omega)) (by omega)⟩
    · rw [if_neg (by omega : ¬ e + 1 > 971), if_neg (by omega : ¬ e > 971), isInf_ite]
      simp only [Dbl.isInf, ite_self, Bool.false_eq_true, false_iff]
      exact fun h => by have := hlo h; omega

set_option exponentiation.threshold 1100 in
/-- `2^-1075` is half the smallest subnormal; the tie goes to the even neighbour 0 -/
theorem roundPos_isZero_iff (neg : Bool) (num den : Nat) (hd : 0 < den) :
    (Dbl.roundPos neg num den).isZero = true ↔ num * 2 ^ 1075 ≤ den := by
  by_cases h0 : num = 0
  · subst h0
    rw [roundPos_zero_num, Nat.zero_mul]
    exact ⟨fun _ => Nat.zero_le _, fun _ => rfl⟩
  obtain ⟨hd', hq, he, hq52, hres⟩ := roundPos_cases neg num den h0 hd
  obtain ⟨_, s2, s3, _, _, _⟩ := rm_spec (sN num (rE num den)) (sD den (rE num den)) hd'
  -- the exponent is monotone in `num/den`, and it is already -1074 at `2^-1075`
  have hlo : num * 2 ^ 1075 ≤ den → rE num den = -1074 := fun h => by
    have h1 : rE num den ≤ rE 1 (2 ^ 1075) := rE_mono h0 hd (Nat.pow_pos (by decide)) (by rwa [Nat.one_mul])
    rw [rE_tiny] at h1
    omega
  rw [hres]
  generalize rE num den = e at *
  -- a zero significand occurs at the bottom exponent only, where `n' / d' = num · 2^1074 / den`
  have key : rm (sN num e) (sD den e) = 0 → e = -1074 := fun hM =>
    Decidable.byContradiction fun c => by have := hq52 c; omega
  have hn : sN num (-1074) = num * 2 ^ 1074 := rfl
  have hD : sD den (-1074) = den := rfl
  constructor
  · intro hz
    have hM0 : rm (sN num e) (sD den e) = 0 := by
      generalize rm (sN num e) (sD den e) = M at *
      split at hz
      · split at hz <;> cases hz
      · split at hz
        · cases hz
        · cases M with
          | zero => rfl
          | succ k => cases hz
    have := key hM0
    subst this
    rw [hM0, hn, hD] at s2
    omega
  · intro hle
    have := hlo hle
    subst this
    rw [hD] at hd'
    rw [hn, hD]
    -- the significand 0 is even, so the midpoint `2^-1075` itself goes to zero
    rw [Nat.le_zero.mp ((rm_even (n' := num * 2 ^ 1074) hd' (T := 0) rfl).2.mpr (by omega))]
    rfl

/-! ### `ofDecimal`: the two clamps are shortcuts, not a change of value -/

theorem toString_length_bounds (M : Nat) (hM : M ≠ 0) :
    10 ^ ((toString M).length - 1) ≤ M ∧ M < 10 ^ (toString M).length ∧ 1 ≤ (toString M).length := by
  rw [Nat.toString_eq_ofList_toDigits, String.length_ofList]
  induction M using Nat.strongRecOn with
  | _ M ih =>
    rw [Nat.toDigits_eq_if (by decide)]
    split
    · rename_i h
      simp only [List.length_cons, List.length_nil]
      omega
    · rename_i h
      have h10 : M / 10 ≠ 0 := by omega
      obtain ⟨a, b, c⟩ := ih (M / 10) (by omega) h10
      rw [List.length_append, List.length_cons, List.length_nil]
      generalize (Nat.toDigits 10 (M / 10)).length = n at *
      have e1 : n + (0 + 1) - 1 = (n - 1) + 1 := by omega
      rw [e1, Nat.pow_succ, Nat.pow_succ]
      omega

/-- `ofDecimal` on a non-zero mantissa: the two early exits on the decimal magnitude, then the rounding -/
theorem ofDecimal_of_ne (neg : Bool) {M : Nat} (hM : M ≠ 0) (x : Int) :
    Dbl.ofDecimal neg M x =
      if x + ((toString M).length : Nat) > 400 then .inf neg
      else if x + ((toString M).length : Nat) < -400 then .fin neg 0 (-1074)
      else if x ≥ 0 then Dbl.roundPos neg (M * 10 ^ x.toNat) 1
      else Dbl.roundPos neg M (10 ^ (-x).toNat) := by
  unfold Dbl.ofDecimal
  rw [if_neg (by simpa using hM)]

set_option exponentiation.threshold 2000 in
/-- the two early exits (`x + #digits > 400`, `< -400`) return what the rounding would have returned -/
theorem ofDecimal_eq_roundPos (neg : Bool) (M : Nat) (x : Int) :
    Dbl.ofDecimal neg M x = Dbl.roundPos neg (M * 10 ^ x.toNat) (10 ^ (-x).toNat) := by
  by_cases hM : M = 0
  · subst hM
    rw [Nat.zero_mul, roundPos_zero_num]
    rfl
  obtain ⟨b1, b2, _⟩ := toString_length_bounds M hM
  have hden : 0 < 10 ^ (-x).toNat := Nat.pow_pos (by decide)
  rw [ofDecimal_of_ne neg hM]
  generalize (toString M).length = nd at *
  split
  · -- overflow: `ovf ≤ 10^400 ≤ 10^(nd-1) · 10^x ≤ M · 10^x`
    rename_i hov
    refine (roundPos_eq_inf ((roundPos_isInf_iff neg _ _ hden).mpr ?_)).symm
    calc ovf * 10 ^ (-x).toNat ≤ 10 ^ 400 * 10 ^ (-x).toNat :=
          Nat.mul_le_mul_right _ (by unfold ovf; decide +kernel)
      _ ≤ 10 ^ (nd - 1) * 10 ^ x.toNat := by
          rw [← Nat.pow_add, ← Nat.pow_add]; exact Nat.pow_le_pow_right (by decide) (by omega)
      _ ≤ M * 10 ^ x.toNat := Nat.mul_le_mul_right _ b1
  · split
    · -- underflow: `M · 10^x · 2^1075 ≤ 10^nd · 10^x · 10^400 ≤ 10^(-x)`
      rename_i hov hun
      refine (roundPos_zero_canon hden ((roundPos_isZero_iff neg _ _ hden).mpr ?_)).symm
      calc M * 10 ^ x.toNat * 2 ^ 1075 ≤ 10 ^ nd * 10 ^ x.toNat * 10 ^ 400 :=
            Nat.mul_le_mul (Nat.mul_le_mul_right _ (Nat.le_of_lt b2)) (by decide +kernel)
        _ ≤ 10 ^ (-x).toNat := by
            rw [← Nat.pow_add, ← Nat.pow_add]; exact Nat.pow_le_pow_right (by decide) (by omega)
    · split
      · rename_i hx
        have e0 : (-x).toNat = 0 := by omega
        rw [e0, Nat.pow_zero]
      · rename_i hx
        have e0 : x.toNat = 0 := by omega
        rw [e0, Nat.pow_zero, Nat.mul_one]

/-! ### rationals -/

/-- round-to-nearest-even of `|q|`, with the sign bit `neg` -/
def roundAbs (neg : Bool) (q : Rat) : Dbl := Dbl.roundPos neg q.num.natAbs q.den

theorem roundAbs_mkRat (neg : Bool) (n : Int) (d : Nat) (hd : 0 < d) :
    roundAbs neg (mkRat n d) = Dbl.roundPos neg n.natAbs d := by
  unfold roundAbs
  rw [Rat.num_mkRat, Rat.den_mkRat, if_neg (by omega), if_neg (by omega)]
  have hg : 0 < d.gcd n.natAbs := Nat.gcd_pos_of_pos_left _ hd
  have h1 : d.gcd n.natAbs ∣ d := Nat.gcd_dvd_left _ _
  have h2 : d.gcd n.natAbs ∣ n.natAbs := Nat.gcd_dvd_right _ _
  have h3 : ((d.gcd n.natAbs : Nat) : Int) ∣ n := Int.ofNat_dvd_left.mpr h2
  rw [Int.natAbs_ediv_of_dvd h3, Int.natAbs_natCast]
  generalize d.gcd n.natAbs = g at *
  obtain ⟨a, ha⟩ := h2
  obtain ⟨b, hb⟩ := h1
  rw [ha, hb, Nat.mul_div_cancel_left _ hg, Nat.mul_div_cancel_left _ hg]
  have hb0 : 0 < b := by
    rcases Nat.eq_zero_or_pos b with h | h
    · subst h; omega
    · exact h
  exact (roundPos_scale neg g a b hg hb0).symm

theorem ofDecimal_zero_mant (neg : Bool) (x : Int) : Dbl.ofDecimal neg 0 x = .fin neg 0 (-1074) := by
  unfold Dbl.ofDecimal; rfl

theorem ofDecimal_inf_of (neg : Bool) (M : Nat) (x : Int) (hM : M ≠ 0) (hx : 400 ≤ x) :
    Dbl.ofDecimal neg M x = .inf neg := by
  obtain ⟨_, _, b3⟩ := toString_length_bounds M hM
  rw [ofDecimal_of_ne neg hM, if_pos (by omega)]

theorem ofDecimal_zero_of (neg : Bool) (M : Nat) (x : Int) (K : Nat) (hM : M ≠ 0) (hK : M < 10 ^ K)
    (hx : x + K < -400) : Dbl.ofDecimal neg M x = .fin neg 0 (-1074) := by
  obtain ⟨b1, _, b3⟩ := toString_length_bounds M hM
  have hnd : (toString M).length - 1 < K := (Nat.pow_lt_pow_iff_right (by decide)).mp (Nat.lt_of_le_of_lt b1 hK)
  rw [ofDecimal_of_ne neg hM, if_neg (by omega), if_pos (by omega)]

theorem clampE_eq_of_le {ds : Bytes} (h : decNat ds ≤ 1000000) : clampE ds = (decNat ds : Int) := by
  unfold clampE
  split
  · omega
  · rfl

theorem clampE_of_ge {ds : Bytes} (h : 1000000 ≤ decNat ds) : clampE ds = 1000000 := by
  unfold clampE
  rw [if_pos h]

theorem expoC_eq_expo (L : DecLit) (h : L.expo.natAbs ≤ 1000000) : expoC L = L.expo := by
  unfold expoC DecLit.expo at *
  cases he : L.exp with
  | none => rfl
  | some x =>
    rw [he] at h
    simp only at h ⊢
    have : decNat x.digits ≤ 1000000 := by
      split at h <;> omega
    rw [clampE_eq_of_le this]

/-- the literal's exponent does not hit the model's saturation at `10^6` in a way that matters: either it is at
most `10^6` in magnitude, or the mantissa has at most 999 000 digits (then `±10^6` and the written exponent both
overflow, or both underflow) -/
def NoClamp (L : DecLit) : Prop := L.expo.natAbs ≤ 1000000 ∨ L.ip.length + L.fp.length ≤ 999000

theorem rat_eq (L : DecLit) : L.rat = mkRat ((if L.sign.neg then -1 else 1) * (L.ratNum : Int)) L.ratDen := rfl

theorem ratDen_pos (L : DecLit) : 0 < L.ratDen := Nat.pow_pos (by decide)

theorem roundAbs_rat (L : DecLit) : roundAbs L.sign.neg L.rat = Dbl.roundPos L.sign.neg L.ratNum L.ratDen := by
  rw [rat_eq, roundAbs_mkRat _ _ _ (ratDen_pos L)]
  congr 1
  cases L.sign.neg <;> simp

/-- partial: under `NoClamp` the model's value of a literal is the rounding of the rational it denotes -/
theorem modelVal_eq_roundAbs (L : DecLit) (hv : L.Valid) (hc : NoClamp L) :
    modelVal L = roundAbs L.sign.neg L.rat := by
  rw [roundAbs_rat]
  unfold modelVal DecLit.ratNum DecLit.ratDen DecLit.exp10
  by_cases hM : L.mant = 0
  · rw [hM, ofDecimal_zero_mant, Nat.zero_mul, roundPos_zero_num]
  · by_cases h6 : L.expo.natAbs ≤ 1000000
    · rw [expoC_eq_expo L h6, ofDecimal_eq_roundPos]
    · have hlen : L.ip.length + L.fp.length ≤ 999000 := by
        rcases hc with h | h
        · exact absurd h h6
        · exact h
      have hlt : L.mant < 10 ^ (L.ip.length + L.fp.length) := by
        have := decNat_lt (L.ip ++ L.fp) (hv.1.append hv.2.1)
        rwa [List.length_append] at this
      rw [← ofDecimal_eq_roundPos]
      -- the written exponent exceeds a million: both values are the same infinity / the same zero
      unfold expoC DecLit.expo at *
      cases he : L.exp with
      | none => rw [he] at h6
      | some x =>
        rw [he] at h6
        simp only at h6 ⊢
        by_cases hn : x.sign.neg = true
        · rw [if_pos hn] at h6 ⊢
          rw [if_pos hn]
          have hge : 1000000 ≤ decNat x.digits := by omega
          rw [clampE_of_ge hge]
          rw [ofDecimal_zero_of _ _ _ _ hM hlt (by omega), ofDecimal_zero_of _ _ _ _ hM hlt (by omega)]
        · rw [if_neg hn] at h6 ⊢
          rw [if_neg hn]
          have hge : 1000000 ≤ decNat x.digits := by omega
          rw [clampE_of_ge hge]
          rw [ofDecimal_inf_of _ _ _ hM (by omega), ofDecimal_inf_of _ _ _ hM (by omega)]

/-! ### exactness -/

theorem rm_den_one (n' : Nat) : rm n' 1 = n' := by
  unfold rm upBit
  simp [Nat.mod_one]

theorem roundPos_exact_int (neg : Bool) (n : Nat) (h0 : n ≠ 0) (hn : n < 2 ^ 53) :
    ∃ m e, Dbl.roundPos neg n 1 = .fin neg m e ∧ -1074 ≤ e ∧ e ≤ 0 ∧ m = n * 2 ^ (-e).toNat := by
  obtain ⟨hd', hq, he, hq52, hres⟩ := roundPos_cases neg n 1 h0 (by decide)
  generalize rE n 1 = e at *
  have he0 : e ≤ 0 := by
    by_cases c : e ≤ 0
    · exact c
    · exfalso
      have h52 := hq52 (by omega)
      have hle : 2 ^ 52 * sD 1 e ≤ sN n e := (Nat.le_div_iff_mul_le hd').mp h52
      unfold sN sD at hle
      rw [if_pos (by omega), if_pos (by omega)] at hle
      have hp : 2 ^ 1 ≤ 2 ^ e.toNat := Nat.pow_le_pow_right (by decide) (by omega)
      generalize 2 ^ e.toNat = P at *
      omega
  have hD : sD 1 e = 1 := by
    unfold sD
    split
    · have : e.toNat = 0 := by omega
      rw [this]
    · rfl
  have hN : sN n e = n * 2 ^ (-e).toNat := by
    unfold sN
    split
    · have : (-e).toNat = 0 := by omega
      rw [this, Nat.pow_zero, Nat.mul_one]
    · rfl
  rw [hD, rm_den_one] at hres
  rw [hD, Nat.div_one] at hq hq52
  rw [hres, hN, if_neg (by omega), if_neg (by omega)]
  exact ⟨_, _, rfl, he, he0, rfl⟩

/-- `Dbl.scaled` is the value times `2^1074` -/
theorem roundPos_int_scaled (neg : Bool) (n : Nat) (h0 : n ≠ 0) (hn : n < 2 ^ 53) :
    (Dbl.roundPos neg n 1).scaled = (if neg then -1 else 1) * ((n * 2 ^ 1074 : Nat) : Int) := by
  obtain ⟨m, e, h, he1, he2, hm⟩ := roundPos_exact_int neg n h0 hn
  rw [h]
  show (if neg = true then -1 else 1) * ((m * Dbl.pow2 (e + 1074).toNat : Nat) : Int) = _
  rw [pow2_eq, hm, Nat.mul_assoc, ← Nat.pow_add]
  have : (-e).toNat + (e + 1074).toNat = 1074 := by omega
  rw [this]

/-! ### `ofDecimal`: sign, overflow, underflow -/

theorem ofDecimal_shape (neg : Bool) (M : Nat) (x : Int) :
    Dbl.ofDecimal neg M x = .inf neg ∨ ∃ m e, Dbl.ofDecimal neg M x = .fin neg m e := by
  rw [ofDecimal_eq_roundPos]; exact roundPos_shape _ _ _

theorem ofDecimal_isInf_iff (neg : Bool) (M : Nat) (x : Int) :
    (Dbl.ofDecimal neg M x).isInf = true ↔ ovf * 10 ^ (-x).toNat ≤ M * 10 ^ x.toNat := by
  rw [ofDecimal_eq_roundPos]; exact roundPos_isInf_iff neg _ _ (Nat.pow_pos (by decide))

theorem ofDecimal_isZero_iff (neg : Bool) (M : Nat) (x : Int) :
    (Dbl.ofDecimal neg M x).isZero = true ↔ M = 0 ∨ M * 10 ^ x.toNat * 2 ^ 1075 ≤ 10 ^ (-x).toNat := by
  rw [ofDecimal_eq_roundPos, roundPos_isZero_iff neg _ _ (Nat.pow_pos (by decide))]
  exact ⟨Or.inr, fun h => h.elim (fun h0 => by rw [h0, Nat.zero_mul, Nat.zero_mul]; exact Nat.zero_le _) id⟩

theorem ofDecimal_zero_canon {neg : Bool} {M : Nat} {x : Int} (h : (Dbl.ofDecimal neg M x).isZero = true) :
    Dbl.ofDecimal neg M x = .fin neg 0 (-1074) := by
  rw [ofDecimal_eq_roundPos] at h ⊢
  exact roundPos_zero_canon (Nat.pow_pos (by decide)) h

theorem rm_exact (q d : Nat) (hd : 0 < d) : rm (q * d) d = q := by
  unfold rm upBit
  rw [Nat.mul_mod_left, Nat.mul_div_cancel _ hd]
  have : ¬ (2 * 0 > d) := by omega
  have h2 : (2 * 0 == d) = false := by
    have : ¬ (2 * 0 = d) := by omega
    simpa using this
  simp only [this, h2, decide_false, Bool.false_and, Bool.or_false, Bool.false_eq_true, if_false]

set_option exponentiation.threshold 1100 in
theorem rq_repr (m : Nat) (e : Int) (he : -1074 ≤ e) :
    rq (m * 2 ^ (e + 1074).toNat) (2 ^ 1074) e = m := by
  have hK : e ≤ ((e + 1074).toNat : Int) := by omega
  rw [rq_eq _ _ e _ hK]
  have : (((e + 1074).toNat : Int) - e).toNat = 1074 := by omega
  rw [this, Nat.mul_assoc, Nat.mul_comm (2 ^ (e + 1074).toNat), Nat.mul_comm (2 ^ 1074)]
  exact Nat.mul_div_cancel _ (Nat.mul_pos (Nat.pow_pos (by decide)) (Nat.pow_pos (by decide)))

set_option exponentiation.threshold 1100 in
theorem roundPos_exact_canon (neg : Bool) (m : Nat) (e : Int) (hc : Canon (.fin neg m e)) (hm : m ≠ 0) :
    Dbl.roundPos neg (m * 2 ^ (e + 1074).toNat) (2 ^ 1074) = .fin neg m e := by
  have he : -1074 ≤ e ∧ e ≤ 971 ∧ m < 2 ^ 53 := by
    rcases hc with ⟨h1, h2⟩ | ⟨h1, h2, h3, h4⟩
    · exact ⟨by omega, by omega, by omega⟩
    · exact ⟨h3, h4, h2⟩
  have hnum : m * 2 ^ (e + 1074).toNat ≠ 0 := Nat.mul_ne_zero hm (Nat.ne_of_gt (Nat.pow_pos (by decide)))
  have hden : 0 < 2 ^ 1074 := Nat.pow_pos (by decide)
  obtain ⟨w1, w2, _⟩ := rE1_facts _ _ hnum hden
  have hrq := rq_repr m e he.1
  have hE : rE (m * 2 ^ (e + 1074).toNat) (2 ^ 1074) = e := by
    unfold rE
    rcases hc with ⟨h1, h2⟩ | ⟨h1, h2, h3, h4⟩
    · -- subnormal: the window exponent lies below -1074
      subst h2
      have : rE1 (m * 2 ^ ((-1074 : Int) + 1074).toNat) (2 ^ 1074) < -1074 := by
        by_cases c : rE1 (m * 2 ^ ((-1074 : Int) + 1074).toNat) (2 ^ 1074) < -1074
        · exact c
        · exfalso
          have := rq_anti (m * 2 ^ ((-1074 : Int) + 1074).toNat) (2 ^ 1074)
            (show (-1074 : Int) ≤ rE1 (m * 2 ^ ((-1074 : Int) + 1074).toNat) (2 ^ 1074) by omega)
          omega
      rw [if_pos this]
    · have := window_unique _ _ w1 w2 (by rw [hrq]; exact h1) (by rw [hrq]; exact h2)
      rw [this, if_neg (by omega)]
  -- over the unit `2^e` the quotient is `m · K / K`
  have hK : 0 < 2 ^ (e + 1074).toNat * 2 ^ 1074 := Nat.mul_pos (Nat.pow_pos (by decide)) hden
  rw [roundPos_view neg _ _ hnum, hE, rTail_eq, rm_congr (sD_pos hden e) hK (sN_sD_grid _ _ he.1), Nat.mul_assoc,
    rm_exact _ _ hK, if_neg (by omega), if_neg (by omega)]

/-- the renormalisation of a significand rounded up to `2^53` keeps the value -/
theorem pow_renorm {e : Int} (he : -1074 ≤ e) :
    2 ^ 52 * 2 ^ (e + 1 + 1074).toNat = 2 ^ 53 * 2 ^ (e + 1074).toNat := by
  have : (e + 1 + 1074).toNat = (e + 1074).toNat + 1 := by omega
  rw [this, Nat.pow_succ (m := (e + 1074).toNat)]
  generalize 2 ^ (e + 1074).toNat = P
  omega

theorem roundPos_congr (neg : Bool) {a b c d : Nat} (hb : 0 < b) (hd : 0 < d) (h : a * d = c * b) :
    Dbl.roundPos neg a b = Dbl.roundPos neg c d := by
  rw [← roundPos_scale neg d a b hd hb, ← roundPos_scale neg b c d hb hd, Nat.mul_comm d a, h, Nat.mul_comm c b,
    Nat.mul_comm d b]

set_option exponentiation.threshold 1100 in
/-- with `e = rE num den` and `M` the rounding of `num/den / 2^e`, a finite result is `M · 2^e`, up to the renormalisation of
`M = 2^53` to `2^52 · 2^(e+1)` -/
theorem roundPos_fin {neg : Bool} {num den m : Nat} {e' : Int} (h0 : num ≠ 0) (hd : 0 < den)
    (hr : Dbl.roundPos neg num den = .fin neg m e') :
    -1074 ≤ rE num den ∧ rE num den ≤ e' ∧
    m * 2 ^ (e' + 1074).toNat =
      rm (num * 2 ^ 1074) (2 ^ (rE num den + 1074).toNat * den) * 2 ^ (rE num den + 1074).toNat ∧
    (m = rm (num * 2 ^ 1074) (2 ^ (rE num den + 1074).toNat * den) ∧ e' = rE num den ∨ m = 2 ^ 52) := by
  obtain ⟨hd', _, he, _, hres⟩ := roundPos_cases neg num den h0 hd
  rw [hres, rm_congr hd' (Nat.mul_pos (Nat.pow_pos (by decide)) hd) (sN_sD_grid num den he)] at hr
  generalize rE num den = e at *
  generalize rm (num * 2 ^ 1074) (2 ^ (e + 1074).toNat * den) = M at *
  split at hr
  · rename_i hM53
    split at hr
    · cases hr
    · injection hr with _ h2 h3
      subst h2 h3
      refine ⟨he, by omega, ?_, Or.inr rfl⟩
      rw [hM53]
      exact pow_renorm he
  · split at hr
    · cases hr
    · injection hr with _ h2 h3
      subst h2 h3
      exact ⟨he, Int.le_refl _, rfl, Or.inl ⟨rfl, rfl⟩⟩

/-- half a unit in the last place of the result, `2^e' / 2`; all quantities scaled by `2^1074 · den` -/
theorem roundPos_half_ulp (neg : Bool) (num den : Nat) (h0 : num ≠ 0) (hd : 0 < den) (m : Nat) (e' : Int)
    (hr : Dbl.roundPos neg num den = .fin neg m e') :
    -1074 ≤ e' ∧
    2 * (m * 2 ^ (e' + 1074).toNat * den) ≤ 2 * (num * 2 ^ 1074) + 2 ^ (e' + 1074).toNat * den ∧
    2 * (num * 2 ^ 1074) ≤ 2 * (m * 2 ^ (e' + 1074).toNat * den) + 2 ^ (e' + 1074).toNat * den := by
  obtain ⟨he, hee, hv, _⟩ := roundPos_fin h0 hd hr
  obtain ⟨s1, s2, _⟩ := rm_spec (num * 2 ^ 1074) (2 ^ (rE num den + 1074).toNat * den)
    (Nat.mul_pos (Nat.pow_pos (by decide)) hd)
  rw [← Nat.mul_assoc (rm _ _), ← hv] at s1 s2
  -- the unit of the result is at least the unit `2^e` of the rounding
  have hU : 2 ^ (rE num den + 1074).toNat * den ≤ 2 ^ (e' + 1074).toNat * den :=
    Nat.mul_le_mul_right _ (Nat.pow_le_pow_right (by decide) (by omega))
  generalize num * 2 ^ 1074 = A at *
  omega

/-! ### monotonicity -/

theorem sN_sD_cross {a b c d : Nat} (h : a * d ≤ c * b) (e : Int) : sN a e * sD d e ≤ sN c e * sD b e := by
  unfold sN sD
  split
  · calc a * (d * 2 ^ e.toNat) = a * d * 2 ^ e.toNat := by rw [Nat.mul_assoc]
      _ ≤ c * b * 2 ^ e.toNat := Nat.mul_le_mul_right _ h
      _ = c * (b * 2 ^ e.toNat) := by rw [Nat.mul_assoc]
  · calc a * 2 ^ (-e).toNat * d = a * d * 2 ^ (-e).toNat := by
          simp only [Nat.mul_assoc, Nat.mul_comm, Nat.mul_left_comm]
      _ ≤ c * b * 2 ^ (-e).toNat := Nat.mul_le_mul_right _ h
      _ = c * 2 ^ (-e).toNat * b := by simp only [Nat.mul_assoc, Nat.mul_comm]

theorem rm_mono_num {a c D : Nat} (hD : 0 < D) (h : a ≤ c) : rm a D ≤ rm c D := by
  obtain ⟨a1, _, _, _, a5, _⟩ := rm_spec a D hD
  obtain ⟨_, b2, _, _, _, b6⟩ := rm_spec c D hD
  generalize rm a D = M1 at *
  generalize rm c D = M2 at *
  by_cases hle : M1 ≤ M2
  · exact hle
  · exfalso
    have hM : (M2 + 1) * D ≤ M1 * D := Nat.mul_le_mul_right _ (by omega)
    rw [Nat.add_mul, Nat.one_mul] at hM
    -- `2·M1·D ≤ 2a + D ≤ 2c + D ≤ 2·M2·D + 2D ≤ 2·M1·D`: both are ties, so both are even, but they differ by one
    have hM1 : M1 = M2 + 1 := Nat.eq_of_mul_eq_mul_right hD (by rw [Nat.add_mul, Nat.one_mul]; omega)
    have p1 := a5 (by omega)
    have p2 := b6 (by omega)
    omega

theorem rm_mono {n1 d1 n2 d2 : Nat} (h1 : 0 < d1) (h2 : 0 < d2) (h : n1 * d2 ≤ n2 * d1) : rm n1 d1 ≤ rm n2 d2 := by
  have hD := Nat.mul_pos h1 h2
  rw [rm_congr h1 hD (show n1 * (d1 * d2) = n1 * d2 * d1 by rw [Nat.mul_comm d1 d2, Nat.mul_assoc]),
    rm_congr h2 hD (Nat.mul_assoc n2 d1 d2).symm]
  exact rm_mono_num hD h

/-- the value of the result in units of `2^-1074` (before the overflow test) -/
def rV (a b : Nat) : Nat :=
  if a = 0 then 0 else rm (sN a (rE a b)) (sD b (rE a b)) * 2 ^ (rE a b + 1074).toNat

/-- `x` is the double of sign `neg` and magnitude `V · 2^-1074`, or the infinity when `V ≥ 2^1024 · 2^1074` -/
def Desc (neg : Bool) (x : Dbl) (V : Nat) : Prop :=
  (x = .inf neg ∧ 2 ^ 2098 ≤ V) ∨
  (∃ m' e', x = .fin neg m' e' ∧ -1074 ≤ e' ∧ m' * 2 ^ (e' + 1074).toNat = V ∧ V < 2 ^ 2098)

theorem roundPos_desc (neg : Bool) (a b : Nat) (hb : 0 < b) : Desc neg (Dbl.roundPos neg a b) (rV a b) := by
  unfold rV
  by_cases h0 : a = 0
  · subst h0
    rw [roundPos_zero_num, if_pos rfl]
    exact Or.inr ⟨0, -1074, rfl, by omega, Nat.zero_mul _, Nat.pow_pos (by decide)⟩
  · rw [if_neg h0]
    obtain ⟨hd', hq, he, hq52, hres⟩ := roundPos_cases neg a b h0 hb
    obtain ⟨_, _, s3, s4, _, _⟩ := rm_spec (sN a (rE a b)) (sD b (rE a b)) hd'
    rw [hres]
    generalize rE a b = e at *
    generalize rm (sN a e) (sD b e) = M at *
    have h52 : e ≠ -1074 → 2 ^ 52 ≤ M := fun h => by have := hq52 h; omega
    -- compare `M · 2^k` with `2^2098` through the exponents
    have hle : ∀ {j k : Nat}, 2098 ≤ j + k → 2 ^ 2098 ≤ 2 ^ j * 2 ^ k := fun h => by
      rw [← Nat.pow_add]; exact Nat.pow_le_pow_right (by decide) h
    have hlt : ∀ {j k : Nat}, j + k < 2098 → 2 ^ j * 2 ^ k < 2 ^ 2098 := fun h => by
      rw [← Nat.pow_add]; exact Nat.pow_lt_pow_right (by decide) h
    by_cases c1 : M = 2 ^ 53
    · rw [if_pos c1]
      subst c1
      by_cases c2 : e + 1 > 971
      · rw [if_pos c2]
        exact Or.inl ⟨rfl, hle (by omega)⟩
      · rw [if_neg c2]
        refine Or.inr ⟨2 ^ 52, e + 1, rfl, by omega, ?_, ?_⟩
        · exact pow_renorm he
        · exact hlt (by omega)
    · rw [if_neg c1]
      by_cases c2 : e > 971
      · rw [if_pos c2]
        exact Or.inl ⟨rfl, Nat.le_trans (hle (j := 52) (by omega)) (Nat.mul_le_mul_right _ (h52 (by omega)))⟩
      · rw [if_neg c2]
        refine Or.inr ⟨M, e, rfl, he, rfl, ?_⟩
        calc M * 2 ^ (e + 1074).toNat < 2 ^ 53 * 2 ^ (e + 1074).toNat :=
              Nat.mul_lt_mul_of_pos_right (by omega) (Nat.pow_pos (by decide))
          _ ≤ 2 ^ 2098 := by rw [← Nat.pow_add]; exact Nat.pow_le_pow_right (by decide) (by omega)
theorem rV_mono {a b c d : Nat} (hb : 0 < b) (hd : 0 < d) (h : a * d ≤ c * b) : rV a b ≤ rV c d := by
  unfold rV
  by_cases ha : a = 0
  · rw [if_pos ha]; exact Nat.zero_le _
  · have hc := ne_zero_of_cross ha hd h
    rw [if_neg ha, if_neg hc]
    have hE := rE_mono ha hb hd h
    obtain ⟨hd1, hq1, he1, _, _⟩ := roundPos_cases false a b ha hb
    obtain ⟨hd2, hq2, he2, hq52, _⟩ := roundPos_cases false c d hc hd
    obtain ⟨_, _, _, u4, _, _⟩ := rm_spec (sN a (rE a b)) (sD b (rE a b)) hd1
    obtain ⟨_, _, v3, _, _, _⟩ := rm_spec (sN c (rE c d)) (sD d (rE c d)) hd2
    by_cases heq : rE a b = rE c d
    · rw [heq] at hd1 ⊢
      exact Nat.mul_le_mul_right _ (rm_mono hd1 hd2 (sN_sD_cross h (rE c d)))
    · -- a smaller exponent: `M1·2^e1 ≤ 2^53·2^e1 = 2^52·2^(e1+1) ≤ 2^52·2^e2 ≤ M2·2^e2`
      have h52 := hq52 (by omega)
      have hp : 2 ^ ((rE a b + 1074).toNat + 1) ≤ 2 ^ (rE c d + 1074).toNat :=
        Nat.pow_le_pow_right (by decide) (by omega)
      calc rm (sN a (rE a b)) (sD b (rE a b)) * 2 ^ (rE a b + 1074).toNat
          ≤ 2 ^ 53 * 2 ^ (rE a b + 1074).toNat := Nat.mul_le_mul_right _ (by omega)
        _ = 2 ^ 52 * 2 ^ ((rE a b + 1074).toNat + 1) := by
            rw [Nat.pow_succ (m := (rE a b + 1074).toNat), Nat.mul_comm _ 2, ← Nat.mul_assoc]
        _ ≤ 2 ^ 52 * 2 ^ (rE c d + 1074).toNat := Nat.mul_le_mul_left _ hp
        _ ≤ rm (sN c (rE c d)) (sD d (rE c d)) * 2 ^ (rE c d + 1074).toNat := Nat.mul_le_mul_right _ (by omega)

theorem scaled_fin (neg : Bool) (m : Nat) (e : Int) :
    (Dbl.fin neg m e).scaled = (if neg then -1 else 1) * ((m * 2 ^ (e + 1074).toNat : Nat) : Int) := by
  show (if neg = true then -1 else 1) * ((m * Dbl.pow2 (e + 1074).toNat : Nat) : Int) = _
  rw [pow2_eq]

/-- IEEE `≤` on finite doubles compares the signed magnitudes -/
theorem le_fin_iff_scaled (n1 n2 : Bool) (m1 m2 : Nat) (e1 e2 : Int) :
    Dbl.le (.fin n1 m1 e1) (.fin n2 m2 e2) = true ↔
      (if n1 then -1 else 1) * ((m1 * 2 ^ (e1 + 1074).toNat : Nat) : Int) ≤
        (if n2 then -1 else 1) * ((m2 * 2 ^ (e2 + 1074).toNat : Nat) : Int) := by
  show (decide ((Dbl.fin n1 m1 e1).scaled < (Dbl.fin n2 m2 e2).scaled) ||
    decide ((Dbl.fin n1 m1 e1).scaled = (Dbl.fin n2 m2 e2).scaled)) = true ↔ _
  rw [scaled_fin, scaled_fin, Bool.or_eq_true, decide_eq_true_eq, decide_eq_true_eq]
  exact Int.le_iff_lt_or_eq.symm

theorem le_of_desc (neg : Bool) {x y : Dbl} {V W : Nat} (hx : Desc neg x V) (hy : Desc neg y W) (h : V ≤ W) :
    (if neg then Dbl.le y x else Dbl.le x y) = true := by
  rcases hx with ⟨rfl, hv⟩ | ⟨m1, e1, rfl, _, rfl, hv⟩ <;> rcases hy with ⟨rfl, hw⟩ | ⟨m2, e2, rfl, _, rfl, hw⟩
  · cases neg <;> rfl
  · omega
  · cases neg <;> rfl
  · cases neg with
    | false =>
      rw [if_neg Bool.false_ne_true, le_fin_iff_scaled]
      simp only [Bool.false_eq_true, if_false, Int.one_mul]
      omega
    | true =>
      rw [if_pos rfl, le_fin_iff_scaled]
      simp only [if_true]
      omega

theorem roundPos_mono (neg : Bool) {a b c d : Nat} (hb : 0 < b) (hd : 0 < d) (h : a * d ≤ c * b) :
    (if neg then Dbl.le (Dbl.roundPos neg c d) (Dbl.roundPos neg a b)
      else Dbl.le (Dbl.roundPos neg a b) (Dbl.roundPos neg c d)) = true :=
  le_of_desc neg (roundPos_desc neg a b hb) (roundPos_desc neg c d hd) (rV_mono hb hd h)

theorem le_desc_neg_pos {x y : Dbl} {V W : Nat} (hx : Desc true x V) (hy : Desc false y W) : Dbl.le x y = true := by
  rcases hx with ⟨rfl, _⟩ | ⟨m1, e1, rfl, _, rfl, _⟩ <;> rcases hy with ⟨rfl, _⟩ | ⟨m2, e2, rfl, _, rfl, _⟩
  · rfl
  · rfl
  · rfl
  · rw [le_fin_iff_scaled]
    simp only [if_true, Bool.false_eq_true, if_false, Int.one_mul]
    omega

/-- IEEE `≤`, so a `+0` may be followed by a `-0` -/
theorem roundPos_mono_signed (n1 n2 : Bool) {a b c d : Nat} (hb : 0 < b) (hd : 0 < d)
    (h : (if n1 then -1 else 1) * (a : Int) * d ≤ (if n2 then -1 else 1) * (c : Int) * b) :
    Dbl.le (Dbl.roundPos n1 a b) (Dbl.roundPos n2 c d) = true := by
  have pa : (0 : Int) ≤ (a : Int) * d := Int.mul_nonneg (by omega) (by omega)
  have pc : (0 : Int) ≤ (c : Int) * b := Int.mul_nonneg (by omega) (by omega)
  cases n1 <;> cases n2 <;> simp only [Bool.false_eq_true, if_false, if_true, Int.one_mul, Int.neg_mul] at h
  · exact roundPos_mono false hb hd (by exact_mod_cast h)
  · -- `0 ≤ a/b ≤ -c/d ≤ 0`: both are zeros
    have z1 : (a : Int) * d = 0 := by omega
    have z2 : (c : Int) * b = 0 := by omega
    have a0 : a = 0 := (Nat.mul_eq_zero.mp (by exact_mod_cast z1)).resolve_right (by omega)
    have c0 : c = 0 := (Nat.mul_eq_zero.mp (by exact_mod_cast z2)).resolve_right (by omega)
    rw [a0, c0, roundPos_zero_num, roundPos_zero_num]
    decide
  · exact le_desc_neg_pos (roundPos_desc true _ _ hb) (roundPos_desc false _ _ hd)
  · have h' : (c : Int) * b ≤ (a : Int) * d := by omega
    exact roundPos_mono true hd hb (by exact_mod_cast h')


theorem roundPos_tie_even (neg : Bool) (num den : Nat) (h0 : num ≠ 0) (hd : 0 < den) (m : Nat) (e' : Int)
    (hr : Dbl.roundPos neg num den = .fin neg m e')
    (htie : 2 * (m * 2 ^ (e' + 1074).toNat * den) = 2 * (num * 2 ^ 1074) + 2 ^ (e' + 1074).toNat * den ∨
      2 * (num * 2 ^ 1074) = 2 * (m * 2 ^ (e' + 1074).toNat * den) + 2 ^ (e' + 1074).toNat * den) :
    m % 2 = 0 := by
  obtain ⟨_, _, _, ⟨hm, he'⟩ | hm⟩ := roundPos_fin h0 hd hr
  · obtain ⟨_, _, _, _, s5, s6⟩ := rm_spec (num * 2 ^ 1074) (2 ^ (rE num den + 1074).toNat * den)
      (Nat.mul_pos (Nat.pow_pos (by decide)) hd)
    rw [← hm, ← he', ← Nat.mul_assoc m] at s5 s6
    exact htie.elim s5 s6
  · rw [hm]

/-! ### canonical doubles: IEEE equality identifies the two zeros only; `0.0 + d` -/

theorem two_mul_le_of_pow {m1 m2 k1 k2 : Nat} (h : m1 * 2 ^ k1 = m2 * 2 ^ k2) (hk : k1 < k2) : 2 * m2 ≤ m1 := by
  obtain ⟨d, rfl⟩ : ∃ d, k2 = k1 + (d + 1) := ⟨k2 - k1 - 1, by omega⟩
  have hp : 0 < 2 ^ k1 := Nat.pow_pos (by decide)
  have h' : m1 * 2 ^ k1 = (m2 * (2 ^ d * 2)) * 2 ^ k1 := by
    rw [h, Nat.pow_add, Nat.pow_succ]
    simp only [Nat.mul_comm, Nat.mul_left_comm]
  have hm := Nat.eq_of_mul_eq_mul_right hp h'
  have hd : 1 ≤ 2 ^ d := Nat.pow_pos (by decide)
  subst hm
  calc 2 * m2 = m2 * (1 * 2) := by omega
    _ ≤ m2 * (2 ^ d * 2) := Nat.mul_le_mul_left _ (Nat.mul_le_mul_right _ hd)

/-- IEEE `==` on finite doubles: equal magnitudes, and equal signs unless both are zeros -/
theorem eq_fin_iff_mag (n1 n2 : Bool) (m1 m2 : Nat) (e1 e2 : Int) :
    Dbl.eq (.fin n1 m1 e1) (.fin n2 m2 e2) = true ↔
      m1 * 2 ^ (e1 + 1074).toNat = m2 * 2 ^ (e2 + 1074).toNat ∧ (n1 = n2 ∨ m1 * 2 ^ (e1 + 1074).toNat = 0) := by
  show decide ((Dbl.fin n1 m1 e1).scaled = (Dbl.fin n2 m2 e2).scaled) = true ↔ _
  rw [decide_eq_true_eq, scaled_fin, scaled_fin]
  generalize m1 * 2 ^ (e1 + 1074).toNat = A
  generalize m2 * 2 ^ (e2 + 1074).toNat = B
  cases n1 <;> cases n2 <;>
    simp only [if_true, Bool.false_eq_true, Bool.true_eq_false, if_false, true_or, false_or, and_true] <;> omega

/-- a magnitude has one canonical representation -/
theorem canon_unique {n1 n2 : Bool} {m1 m2 : Nat} {e1 e2 : Int} (ha : Canon (.fin n1 m1 e1))
    (hb : Canon (.fin n2 m2 e2)) (h : m1 * 2 ^ (e1 + 1074).toNat = m2 * 2 ^ (e2 + 1074).toNat) :
    m1 = m2 ∧ e1 = e2 := by
  -- what canonicity says, in a form `omega` can use
  have ca : m1 < 2 ^ 53 ∧ -1074 ≤ e1 ∧ (2 ^ 52 ≤ m1 ∨ e1 = -1074) := by
    rcases ha with ⟨_, _⟩ | ⟨_, _, _, _⟩ <;> omega
  have cb : m2 < 2 ^ 53 ∧ -1074 ≤ e2 ∧ (2 ^ 52 ≤ m2 ∨ e2 = -1074) := by
    rcases hb with ⟨_, _⟩ | ⟨_, _, _, _⟩ <;> omega
  -- a larger exponent would need a significand at most half as large
  have hlt : ¬ (e1 + 1074).toNat < (e2 + 1074).toNat := fun hk => by
    have := two_mul_le_of_pow h hk
    omega
  have hgt : ¬ (e2 + 1074).toNat < (e1 + 1074).toNat := fun hk => by
    have := two_mul_le_of_pow h.symm hk
    omega
  have he : e1 = e2 := by omega
  subst he
  exact ⟨Nat.eq_of_mul_eq_mul_right (Nat.pow_pos (by decide)) h, rfl⟩

theorem eq_of_eq_canon {a b : Dbl} (h : Dbl.eq a b = true) (ha : Canon a) (hb : Canon b)
    (hz : a.isZero = false) : a = b := by
  cases a with
  | nan => simp [Dbl.eq] at h
  | inf x =>
    cases b with
    | nan => simp [Dbl.eq] at h
    | inf y => simp only [Dbl.eq, beq_iff_eq] at h; rw [h]
    | fin _ _ _ => simp [Dbl.eq] at h
  | fin n1 m1 e1 =>
    cases b with
    | nan => simp [Dbl.eq] at h
    | inf y => simp [Dbl.eq] at h
    | fin n2 m2 e2 =>
      have hm1 : m1 ≠ 0 := by
        rintro rfl
        simp [Dbl.isZero] at hz
      obtain ⟨hmul, hs⟩ := (eq_fin_iff_mag ..).mp h
      obtain rfl := hs.resolve_right (Nat.mul_ne_zero hm1 (Nat.ne_of_gt (Nat.pow_pos (by decide))))
      obtain ⟨rfl, rfl⟩ := canon_unique ha hb hmul
      rfl

/-- the hypothesis `isZero = false` is needed: `+0 == -0` -/
example : Dbl.eq Dbl.one Dbl.one = true ∧ Canon Dbl.one ∧ Dbl.one.isZero = false ∧
    Dbl.eq (.fin false 0 (-1074)) (.fin true 0 (-1074)) = true ∧ Canon (.fin false 0 (-1074)) ∧
    Canon (.fin true 0 (-1074)) ∧ (Dbl.fin false 0 (-1074)) ≠ .fin true 0 (-1074) := by
  decide

theorem isZero_fin {d : Dbl} (hz : d.isZero = true) : ∃ n e, d = .fin n 0 e := by
  cases d with
  | nan => cases hz
  | inf b => cases hz
  | fin n m e =>
    cases m with
    | succ j => cases hz
    | zero => exact ⟨n, e, rfl⟩

theorem isZero_of_eq_zero {a b : Dbl} (h : Dbl.eq a b = true) (hz : a.isZero = true) : b.isZero = true := by
  obtain ⟨n1, e1, rfl⟩ := isZero_fin hz
  cases b with
  | nan => simp [Dbl.eq] at h
  | inf y => simp [Dbl.eq] at h
  | fin n2 m2 e2 =>
    have hB := ((eq_fin_iff_mag ..).mp h).1
    rw [Nat.zero_mul] at hB
    rcases Nat.mul_eq_zero.1 hB.symm with h0 | h0
    · rw [h0]; rfl
    · exact absurd h0 (Nat.ne_of_gt (Nat.pow_pos (by decide)))

theorem eq_of_zeros {a b : Dbl} (ha : a.isZero = true) (hb : b.isZero = true) : Dbl.eq a b = true := by
  obtain ⟨n1, e1, rfl⟩ := isZero_fin ha
  obtain ⟨n2, e2, rfl⟩ := isZero_fin hb
  exact (eq_fin_iff_mag ..).mpr ⟨by rw [Nat.zero_mul, Nat.zero_mul], Or.inr (Nat.zero_mul _)⟩

example : (Dbl.fin true 0 (-1074)).isZero = true ∧ (Dbl.fin false 0 (-1074)).isZero = true := by decide

theorem addFin_zero_left (n : Bool) (m : Nat) (e : Int) (he : -1074 ≤ e) :
    Dbl.addFin false 0 (-1074) n m e =
      if ((if n then -1 else 1) * ((m * 2 ^ (e + 1074).toNat : Nat) : Int) == 0) = true then .fin (false && n) 0 (-1074)
      else Dbl.roundPos (decide ((if n then -1 else 1) * ((m * 2 ^ (e + 1074).toNat : Nat) : Int) < 0))
        ((if n then -1 else 1) * ((m * 2 ^ (e + 1074).toNat : Nat) : Int)).natAbs (2 ^ 1074) := by
  unfold Dbl.addFin
  have hmin : min (-1074 : Int) e = -1074 := by omega
  have e1 : (e - -1074).toNat = (e + 1074).toNat := by omega
  have e2 : ((-1074 : Int) - -1074).toNat = 0 := by decide
  have e3 : (- (-1074 : Int)).toNat = 1074 := by decide
  simp only [hmin, e1, e2, e3, pow2_eq, Bool.false_eq_true, if_false, Nat.zero_mul, Int.one_mul,
    Int.natCast_zero, Int.zero_add]
  rw [if_neg (by decide : ¬ (-1074 : Int) ≥ 0)]

/-- a non-zero magnitude with a sign bit, as `addFin` takes it apart again -/
theorem signed_nat (n : Bool) {X : Nat} (hX : X ≠ 0) :
    ((if n then -1 else 1) * (X : Int) == 0) = false ∧ decide ((if n then -1 else 1) * (X : Int) < 0) = n ∧
      ((if n then -1 else 1) * (X : Int)).natAbs = X := by
  cases n with
  | false =>
    simp only [Bool.false_eq_true, if_false, Int.one_mul, Int.natAbs_natCast]
    exact ⟨beq_false_of_ne (by omega), decide_eq_false (by omega), trivial⟩
  | true =>
    simp only [if_true, Int.neg_mul, Int.one_mul, Int.natAbs_neg, Int.natAbs_natCast]
    exact ⟨beq_false_of_ne (by omega), decide_eq_true (by omega), trivial⟩

theorem plusZero_eq_self (n : Bool) (m : Nat) (e : Int) (hc : Canon (.fin n m e)) (hm : m ≠ 0) :
    (Dbl.fin n m e).plusZero = .fin n m e := by
  have he : -1074 ≤ e := by
    rcases hc with ⟨h1, h2⟩ | ⟨h1, h2, h3, h4⟩ <;> omega
  obtain ⟨h1, h2, h3⟩ := signed_nat n
    (Nat.mul_ne_zero hm (Nat.ne_of_gt (Nat.pow_pos (by decide))) : m * 2 ^ (e + 1074).toNat ≠ 0)
  show Dbl.addFin false 0 (-1074) n m e = _
  rw [addFin_zero_left n m e he, h1, if_neg Bool.false_ne_true, h2, h3]
  exact roundPos_exact_canon n m e hc hm

theorem plusZero_zero (n : Bool) {e : Int} : (Dbl.fin n 0 e).plusZero = .fin false 0 (-1074) := by
  show Dbl.addFin false 0 (-1074) n 0 e = _
  unfold Dbl.addFin
  simp

end FR.C18f

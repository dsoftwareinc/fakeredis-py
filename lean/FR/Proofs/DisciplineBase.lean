import FR.Proofs.Runner
/-!
# The `CommandItem` discipline: the notions and the closure lemmas

The idea is told in `FR/Proofs/Discipline.lean`, which holds the table.
-/
namespace FR

def CIs.Sound (cis : List CI) : Prop := ∀ c ∈ cis, c.ExpModSound

/-- `P` survives what a body does to its items: item `k` is replaced by a modified item with the same key -/
def CIs.Closed (P : List CI → Prop) : Prop :=
  ∀ cis k c, P cis → c.key = (ciAt cis k).key → c.modified = true → P (cis.set k c)

/-- the same for the stores that leave the deadline alone (`update` / `updated` of fakeredis' `CommandItem`) -/
def CIs.UpdClosed (P : List CI → Prop) : Prop :=
  ∀ cis k c, P cis → c.key = (ciAt cis k).key → c.modified = true → c.expireat = (ciAt cis k).expireat →
    c.expMod = (ciAt cis k).expMod → P (cis.set k c)

def Out.Keeps (P : List CI → Prop) (r : Except Err BodyOut) : Prop :=
  ∀ o, r = .ok o → P o.cis ∧ o.reply.isErr = false

/-- the discipline: what the body returns satisfies every predicate of the class `C` that its items satisfied -/
def Body.Keeps (C : (List CI → Prop) → Prop) (body : Body) : Prop :=
  ∀ P, C P → ∀ ctx args cis, P cis → Out.Keeps P (body ctx args cis)

/-- the body hands back the very items it was given: it keeps every predicate -/
abbrev Body.Reader (body : Body) : Prop := Body.Keeps (fun _ => True) body

abbrev Body.Disciplined (body : Body) : Prop := Body.Keeps CIs.Closed body

abbrev Body.Updates (body : Body) : Prop := Body.Keeps CIs.UpdClosed body

theorem CIs.Closed.upd {P : List CI → Prop} (h : CIs.Closed P) : CIs.UpdClosed P :=
  fun cis k c hs hk hm _ _ => h cis k c hs hk hm

theorem Body.Reader.disciplined {body : Body} (h : Body.Reader body) : Body.Disciplined body :=
  fun P _ => h P trivial

theorem Body.Updates.disciplined {body : Body} (h : Body.Updates body) : Body.Disciplined body :=
  fun P hP => h P hP.upd

/-! ## closure lemmas -/

theorem CIs.Sound.of_clean {cis : List CI} (h : ∀ c ∈ cis, c.Clean) : CIs.Sound cis :=
  fun c hc => (h c hc).sound

theorem CIs.Sound.set {cis : List CI} (h : CIs.Sound cis) {c : CI} (hc : c.ExpModSound) (k : Nat) :
    CIs.Sound (cis.set k c) := by
  intro c' hc'
  rcases List.mem_or_eq_of_mem_set hc' with h' | rfl
  · exact h c' h'
  · exact hc

theorem CIs.closed_sound : CIs.Closed CIs.Sound := fun _ k _ h _ hm => h.set (fun _ => hm) k

theorem CIs.closed_true : CIs.Closed fun _ => True := fun _ _ _ _ _ _ => trivial

theorem Out.keeps_error {P : List CI → Prop} (e : Err) : Out.Keeps P (.error e) := by
  intro o h; cases h

theorem Out.keeps_ok_iff {P : List CI → Prop} (o : BodyOut) :
    Out.Keeps P (.ok o) ↔ P o.cis ∧ o.reply.isErr = false := by
  constructor
  · intro h; exact h o rfl
  · intro h o' ho; cases ho; exact h

theorem Out.keeps_ret_iff {P : List CI → Prop} (r : Reply) (cis : List CI) :
    Out.Keeps P (ret r cis) ↔ P cis ∧ r.isErr = false := Out.keeps_ok_iff _

theorem Out.keeps_ite {P : List CI → Prop} {c : Prop} [Decidable c] {a b : Except Err BodyOut} (ha : Out.Keeps P a)
    (hb : Out.Keeps P b) : Out.Keeps P (if c then a else b) := by
  split <;> assumption

/-- the form of `CIs.Closed` that `simp` can use as a conditional rewrite rule -/
theorem CIs.Closed.set_simp {P : List CI → Prop} (hP : CIs.Closed P) {cis : List CI} {k : Nat} {c : CI} (h : P cis)
    (hk : (c.key = (ciAt cis k).key) = True) (hm : (c.modified = true) = True) : P (cis.set k c) :=
  hP cis k c h (of_eq_true hk) (of_eq_true hm)

theorem CIs.UpdClosed.set_simp {P : List CI → Prop} (hP : CIs.UpdClosed P) {cis : List CI} {k : Nat} {c : CI}
    (h : P cis) (hk : (c.key = (ciAt cis k).key) = True) (hm : (c.modified = true) = True)
    (he : (c.expireat = (ciAt cis k).expireat) = True) (hx : (c.expMod = (ciAt cis k).expMod) = True) :
    P (cis.set k c) :=
  hP cis k c h (of_eq_true hk) (of_eq_true hm) (of_eq_true he) (of_eq_true hx)

theorem ciAt_set_key {cis : List CI} {j : Nat} {c : CI} (hc : c.key = (ciAt cis j).key) (k : Nat) :
    (ciAt (cis.set j c) k).key = (ciAt cis k).key := by
  unfold ciAt at *
  simp only [List.getD_eq_getElem?_getD, List.getElem?_set] at *
  by_cases hjk : j = k
  · subst hjk
    by_cases hj : j < cis.length
    · simp [hj] at hc ⊢; exact hc
    · simp [hj]
  · simp [hjk]

namespace NotifyKeys

theorem CI.setValue_key (c : CI) (v : Option Value) : (c.setValue v).key = c.key := rfl
theorem CI.setExpire_key (c : CI) (e : Option Int) : (c.setExpire e).key = c.key := rfl
theorem CI.update_key (c : CI) (v : Value) : (c.update v).key = c.key := rfl
theorem CI.updated_key (c : CI) : c.updated.key = c.key := rfl

def readNames : List String :=
  ["bitcount", "get", "getbit", "getrange", "substr", "mget", "strlen", "exists", "ttl", "pttl", "type", "dump", "hexists", "hget", "hgetall", "hkeys", "hvals", "hlen", "hmget", "hstrlen", "hscan", "lindex", "llen", "lrange", "scard", "sdiff", "sinter", "sunion", "sismember", "smismember", "smembers", "srandmember", "sscan", "pfcount", "zcard", "zcount", "zlexcount", "zrange", "zrevrange", "zrangebylex", "zrevrangebylex", "zrangebyscore", "zrevrangebyscore", "zrank", "zrevrank", "zscan", "zscore"]

def Body.ReadOnly (body : Body) : Prop := ∀ ctx args cis o, body ctx args cis = .ok o → o.cis = cis

theorem Body.ReadOnly.of_reader {body : Body} (h : Body.Reader body) : Body.ReadOnly body :=
  fun ctx args cis o ho => (h (· = cis) trivial ctx args cis rfl o ho).1

end NotifyKeys

theorem CI.setValue_modified (c : CI) (v : Option Value) : (c.setValue v).modified = true := rfl
theorem CI.setExpire_modified (c : CI) (e : Option Int) : (c.setExpire e).modified = true := rfl
theorem CI.update_modified (c : CI) (v : Value) : (c.update v).modified = true := rfl
theorem CI.updated_modified (c : CI) : c.updated.modified = true := rfl

theorem CI.update_expireat (c : CI) (v : Value) : (c.update v).expireat = c.expireat := rfl
theorem CI.update_expMod (c : CI) (v : Value) : (c.update v).expMod = c.expMod := rfl
theorem CI.updated_expireat (c : CI) : c.updated.expireat = c.expireat := rfl
theorem CI.updated_expMod (c : CI) : c.updated.expMod = c.expMod := rfl

theorem Reply.isErr_nil : Reply.nil.isErr = false := rfl
theorem Reply.isErr_int (n : Int) : (Reply.int n).isErr = false := rfl
theorem Reply.isErr_bulk (b : Bytes) : (Reply.bulk b).isErr = false := rfl
theorem Reply.isErr_status (b : Bytes) : (Reply.status b).isErr = false := rfl
theorem Reply.isErr_arr (xs : List Reply) : (Reply.arr xs).isErr = false := rfl
theorem Reply.isErr_ok : Reply.ok.isErr = false := rfl

theorem Reply.ofOptBulk_not_err (x : Option Bytes) : (Reply.ofOptBulk x).isErr = false := by
  cases x <;> rfl

theorem Reply.bulks_not_err (l : List Bytes) : (Reply.bulks l).isErr = false := rfl

theorem Cmd.scanReply_not_err {α} {elems : List α} {keyOf : α → Bytes} {tn : Bytes → Bytes} {at_ : Bool}
    {cursor : Int} {opts : List Bytes} {render : List α → List Reply} {r : Reply}
    (h : Cmd.scanReply elems keyOf tn at_ cursor opts render = .ok r) : r.isErr = false := by
  unfold Cmd.scanReply at h
  repeat' split at h
  all_goals first | (cases h; done) | (cases h; rfl)

theorem Cmd.srandCore_not_err {ctx : Ctx} {s : List Bytes} {count : Option Int} {r : Reply} {u : Nat}
    {p : List Bytes} (h : Cmd.srandCore ctx s count = some (r, u, p)) : r.isErr = false := by
  unfold Cmd.srandCore at h
  repeat' (first | split at h | (dsimp only at h; split at h))
  all_goals first | (cases h; done) | (cases h; rfl)

/-- closes one exit of a body, from `hP : CIs.Closed P` (or `UpdClosed`) and `hs : P cis` -/
macro "keeps_close" : tactic => `(tactic|
  simp (config := { failIfUnchanged := false }) only
    [Out.keeps_error, Out.keeps_ret_iff, Out.keeps_ok_iff, CIs.Closed.set_simp, CIs.UpdClosed.set_simp, ciAt_set_key,
     NotifyKeys.CI.setValue_key, NotifyKeys.CI.setExpire_key, NotifyKeys.CI.update_key, NotifyKeys.CI.updated_key,
     CI.setValue_modified, CI.setExpire_modified, CI.update_modified, CI.updated_modified,
     CI.update_expireat, CI.update_expMod, CI.updated_expireat, CI.updated_expMod,
     Reply.isErr_nil, Reply.isErr_int, Reply.isErr_bulk, Reply.isErr_status,
     Reply.isErr_arr, Reply.isErr_ok, Reply.ofOptBulk_not_err, Reply.bulks_not_err,
     and_self, true_and, and_true, *])

/-- splits every `match`/`if` of a body and closes each exit by `keeps_close`; what is left is the reply of a SCAN or
of SRANDMEMBER/SPOP.  An `if` is taken by `Out.keeps_ite`: `split` simplifies the whole goal, slow on long bodies. -/
macro "keeps_body" : tactic => `(tactic|
  ((repeat' (first | with_reducible refine Out.keeps_ite ?_ ?_ | split | (dsimp only; split)));
   all_goals (keeps_close
              try first | exact Cmd.scanReply_not_err (by assumption) | exact Cmd.srandCore_not_err (by assumption))))

end FR

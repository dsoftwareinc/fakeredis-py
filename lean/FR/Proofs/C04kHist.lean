import FR.Proofs.C04kExec
import FR.Proofs.PubSubHist
/-!
# After the fix of KF-1: the events of a history

Every event of a history (`stepEv`) keeps the queues well-formed (`TxWf`); and an event other than a
write during an outage keeps "nothing crashed and every connection is alive" (whether or not the model's `fault`
marker is set: a run the replay cannot follow is still not a crash).
-/
namespace FR.C04k
open FR FR.M FR.ErrSys

/-! ## 1. invariants closed under small steps -/

/-- an invariant kept by every step that is small on the connection records and does not touch `crashed` -/
structure StepClosed (I : Sys → Prop) : Prop where
  step : ∀ {s s'}, I s → Core s s' → s'.crashed = s.crashed → I s'

theorem txWf_stepClosed : StepClosed TxWf := ⟨fun h hc _ => h.le hc.conns⟩

def K (s : Sys) : Prop := TxWf s ∧ s.crashed = none ∧ AllAlive s

theorem k_stepClosed : StepClosed K :=
  ⟨fun h hc hcr => ⟨h.1.le hc.conns, hcr.trans h.2.1, h.2.2.le hc.conns⟩⟩

section generic
variable {I : Sys → Prop}

theorem sc_of_small {α : Type} {m : M α} (hI : StepClosed I) (h : ∀ s0, Pres (Small s0) m) : Pres I m :=
  fun s hs => hI.step hs (h s s (Small.refl s)).core (h s s (Small.refl s)).crashed

theorem sc_modifyConn (hI : StepClosed I) (c : Nat) (f : Conn → Conn) (hf : ∀ x, ConnStep x (f x)) :
    Pres I (modifyConn c f) := sc_of_small hI (fun _ => sm_modifyConn c f hf)

theorem sc_emit (hI : StepClosed I) (c : Nat) (r : Reply) : Pres I (emit c r) := by
  intro s h
  rw [emit_run]
  exact hI.step h (core_emitS s c r) (Sys.emitS_crashed s c r)

theorem sc_nextClock (hI : StepClosed I) : Pres I nextClock := sc_of_small hI (fun _ => sm_serverStable.nextClock)
theorem sc_fault (hI : StepClosed I) (msg : String) : Pres I (M.fault msg) := sc_of_small hI (fun _ => sm_serverStable.fault msg)

theorem sc_modify_frame (hI : StepClosed I) (g : Sys → Sys)
    (hg : ∀ s, (g s).srv.conns = s.srv.conns ∧ (g s).fault = s.fault ∧ (g s).crashed = s.crashed ∧ (g s).out = s.out) :
    Pres I (modify g) := sc_of_small hI (fun _ => sm_modify_frame g hg)

theorem sc_parkedPass (hI : StepClosed I) (c : Nat) (p : Parked) : Pres I (parkedPass c p) :=
  sc_of_small hI (fun _ => sm_serverStable.parkedPass c p)

theorem sc_modifyConn_keep (hI : StepClosed I) (c : Nat) (f : Conn → Conn)
    (hf : ∀ x, (f x).id = x.id ∧ (f x).dead = x.dead ∧ (f x).closed = x.closed ∧ (f x).tx = x.tx) :
    Pres I (modifyConn c f) := sc_of_small hI (fun _ => sm_modifyConn_keep c f hf)

theorem sc_drain (hI : StepClosed I) (mode : Mode) (c : Nat) (hp : ∀ fields, Pres I (processCommand mode c fields))
    (fuel : Nat) : Pres I (drain mode c fuel) :=
  drain_of
    { toSeq := Pres.seq I
      process := hp
      getConn := Pres.getConn c
      setBuf := fun _ => sc_modifyConn_keep hI _ _ (fun _ => ⟨rfl, rfl, rfl, rfl⟩) } fuel

theorem sc_wake (hI : StepClosed I) (c : Nat) : Wake (@Pres I) c where
  toSeq := Pres.seq I
  getConn := Pres.getConn c
  fault := sc_fault hI
  emit := sc_emit hI c
  unpark := sc_modifyConn_keep hI _ _ (fun _ => ⟨rfl, rfl, rfl, rfl⟩)
  resume := sc_modifyConn_keep hI _ _ (fun _ => ⟨rfl, rfl, rfl, rfl⟩)
  nextClock := sc_nextClock hI
  parkedPass := sc_parkedPass hI c
  stay := fun _ => sc_modifyConn_keep hI _ _ (fun _ => ⟨rfl, rfl, rfl, rfl⟩)

theorem sc_wakeConnAsync (hI : StepClosed I) (mode : Mode) (c : Nat)
    (hp : ∀ fields, Pres I (processCommand mode c fields)) : Pres I (wakeConnAsync mode c) :=
  (sc_wake hI c).wakeConnAsync mode (sc_drain hI mode c hp)

theorem sc_timeoutConnAsync (hI : StepClosed I) (mode : Mode) (c : Nat)
    (hp : ∀ fields, Pres I (processCommand mode c fields)) : Pres I (timeoutConnAsync mode c) :=
  (sc_wake hI c).timeoutConnAsync mode (sc_drain hI mode c hp)

/-- one event from the state it starts in (`e.start s`); the write (`.send`: the outage check, the dead-connection
check) is left to the caller -/
theorem StepClosed.stepEv (hI : StepClosed I) (hp : ∀ mode c fields, Pres I (processCommand mode c fields))
    (ho : ∀ c, Pres I (openConn c)) (hc : ∀ c, Pres I (closeConn c)) (hg : ∀ c, Pres I (gcConn c)) (s : Sys) (e : Ev)
    (hw : ∀ mode c data cl pk, e = .send mode c data cl pk → I (e.start s) → I (stepEv s e))
    (h : I (e.start s)) : I (stepEv s e) :=
  Events.stepEv (P := fun s e s' => (∀ mode c data cl pk, e = .send mode c data cl pk → I (e.start s) → I s') →
      I (e.start s) → I s')
    { version := fun v _ _ h =>
        sc_modify_frame hI (fun s => { s with srv := { s.srv with version := v } }) (fun _ => ⟨rfl, rfl, rfl, rfl⟩) _ h
      opn := fun c _ _ h => ho c _ h
      close := fun c _ _ h => hc c _ h
      gc := fun c _ _ h => hg c _ h
      conn := fun up _ _ h =>
        sc_modify_frame hI (fun s => { s with srv := { s.srv with connected := up } }) (fun _ => ⟨rfl, rfl, rfl, rfl⟩) _ h
      request := fun mode c fields _ _ _ _ h => hp mode c fields _ h
      send := fun mode c data cl pk _ hw h => hw mode c data cl pk rfl h
      wake := fun c _ _ _ h => (sc_wake hI c).wakeConn _ h
      timeout := fun c _ _ h => (sc_wake hI c).timeoutConn _ h
      awake := fun mode c _ _ _ _ h => sc_wakeConnAsync hI mode c (hp mode c) _ h
      atimeout := fun mode c _ _ _ _ h => sc_timeoutConnAsync hI mode c (hp mode c) _ h } s e hw h

end generic

theorem mem_openConn {c : Nat} {s : Sys} {x : Conn} (hx : x ∈ (openConn c s).2.srv.conns) :
    x ∈ s.srv.conns ∨ x = { id := c } :=
  (List.mem_append.1 (hx : x ∈ s.srv.conns ++ [{ id := c }])).imp id List.mem_singleton.1

theorem mem_gcConn {c : Nat} {s : Sys} {x : Conn} (hx : x ∈ (gcConn c s).2.srv.conns) : x ∈ s.srv.conns :=
  (List.mem_filter.1 (hx : x ∈ s.srv.conns.filter (·.id != c))).1

theorem closeConn_txWf (c : Nat) : Pres TxWf (closeConn c) := by
  intro s h
  rw [closeConn_run]
  exact TxAll.updConn (s := { s with srv := { s.srv with closedSockets := s.srv.closedSockets ++ [c] } }) h c _
    (fun x q hq a ha => .inl ⟨q, hq, ha⟩)

/-! ## 2. (a) the queues stay well-formed: every event, every history -/

theorem processCommand_txWf (mode : Mode) (c : Nat) (fields : List Bytes) : Pres TxWf (processCommand mode c fields) :=
  fun s h => (processCommand_spec mode c fields s h).wf

theorem txWf_modify_conns (g : Sys → Sys) (hg : ∀ s, (g s).srv.conns = s.srv.conns) : Pres TxWf (modify g) :=
  fun s h => h.le (ConnsLe.of_eq (hg s))

theorem txWf_loop (mode : Mode) (c : Nat) : Loop (@Pres TxWf) mode c where
  toSeq := Pres.seq TxWf
  process := processCommand_txWf mode c
  readConnected := ReadOf.of_get (Pres.seq TxWf) Pres.get _
  getConn := Pres.getConn c
  setBuf := fun _ => sc_modifyConn_keep txWf_stepClosed _ _ (fun _ => ⟨rfl, rfl, rfl, rfl⟩)
  appendBuf := fun _ => sc_modifyConn_keep txWf_stepClosed _ _ (fun _ => ⟨rfl, rfl, rfl, rfl⟩)
  crash := fun _ => txWf_modify_conns _ (fun _ => rfl)

theorem openConn_txWf (c : Nat) : Pres TxWf (openConn c) := by
  intro s h x hx q hq a ha
  rcases mem_openConn hx with hx' | rfl
  · exact h x hx' q hq a ha
  · cases hq

theorem gcConn_txWf (c : Nat) : Pres TxWf (gcConn c) :=
  fun _ h x hx => h x (mem_gcConn hx)

theorem txWf_init : TxWf {} := fun x hx => by cases hx

theorem stepEv_txWf (s : Sys) (e : Ev) (h : TxWf s) : TxWf (stepEv s e) :=
  txWf_stepClosed.stepEv processCommand_txWf openConn_txWf closeConn_txWf gcConn_txWf s e
    (fun mode c data _ _ he => he ▸ sendallGuarded_of (txWf_loop mode c) data _) (by cases e <;> exact h)

theorem foldl_stepEv_txWf (evs : List Ev) (s : Sys) (h : TxWf s) : TxWf (evs.foldl stepEv s) := by
  induction evs generalizing s with
  | nil => exact h
  | cons e es ih => exact ih _ (stepEv_txWf s e h)

/-! ## 3. (b) nothing crashes, nobody dies -/

theorem processCommand_K (mode : Mode) (c : Nat) (fields : List Bytes) : Pres K (processCommand mode c fields) := by
  intro s h
  have hf := processCommand_spec mode c fields s h.1
  exact ⟨hf.wf, hf.crashed.trans h.2.1, hf.alive h.2.2 (hf.crashed.trans h.2.1)⟩

theorem AllAlive.conn {s : Sys} (h : AllAlive s) (c : Nat) : (s.conn c).dead = false := by
  rw [Sys.conn_def]
  cases hf : s.srv.conns.find? (·.id == c) with
  | none => rfl
  | some x => exact h x (List.mem_of_find?_eq_some hf)

theorem sendall_K (mode : Mode) (c : Nat) (data : Bytes) : Pres K (sendall mode c data) := by
  intro s h
  show K ((sendall mode c data).run s).2
  -- no connection is dead in a state satisfying `K`
  rw [sendall_run, connOf_eq_conn, h.2.2.conn c, if_neg Bool.false_ne_true]
  exact sc_drain k_stepClosed mode c (processCommand_K mode c) _ _
    (sc_modifyConn_keep k_stepClosed c (fun x => { x with buf := x.buf ++ data }) (fun _ => ⟨rfl, rfl, rfl, rfl⟩) s h)

theorem sendallGuarded_K (mode : Mode) (c : Nat) (data : Bytes) (s : Sys) (hup : s.srv.connected = true) (h : K s) :
    K (sendallGuarded mode c data s).2 := by
  rw [sendallGuarded_run_up mode c data s hup]
  exact sendall_K mode c data s h

theorem openConn_K (c : Nat) : Pres K (openConn c) := by
  intro s h
  refine ⟨openConn_txWf c s h.1, h.2.1, fun x hx => ?_⟩
  rcases mem_openConn hx with hx' | rfl
  · exact h.2.2 x hx'
  · rfl

theorem gcConn_K (c : Nat) : Pres K (gcConn c) :=
  fun s h => ⟨gcConn_txWf c s h.1, h.2.1, fun x hx => h.2.2 x (mem_gcConn hx)⟩

theorem closeConn_K (c : Nat) : Pres K (closeConn c) := by
  intro s h
  obtain ⟨h1, h2⟩ := h.2
  refine ⟨closeConn_txWf c s h.1, ?_⟩
  rw [closeConn_run]
  exact ⟨h1, AllAlive.updConn
      (s := { s with srv := { s.srv with closedSockets := s.srv.closedSockets ++ [c] } }) h2 c _ (fun _ => rfl)⟩

/-- the event is not a write while the server is marked disconnected (such a write raises the client library's
`ConnectionError` by design: `crashed := some "ConnectionError"`) -/
def _root_.FR.Ev.up (s : Sys) : Ev → Prop
  | .send _ _ _ _ _ => s.srv.connected = true
  | _ => True

instance (s : Sys) (e : Ev) : Decidable (e.up s) := by
  cases e <;> unfold Ev.up <;> infer_instance

theorem stepEv_K (s : Sys) (e : Ev) (h : TxWf s) (ha : AllAlive s) (hup : e.up s) : K (stepEv s e) :=
  k_stepClosed.stepEv processCommand_K openConn_K closeConn_K gcConn_K s e
    -- a `.send` with the server connected (`hup`); the state it starts from is as connected as `s`
    (fun mode c data _ _ he hk => by subst he; exact sendallGuarded_K mode c data _ hup hk)
    -- the state an event starts from has the `crashed` marker reset
    (by cases e <;> exact ⟨h, rfl, ha⟩)

/-- a history the model follows: no write during an outage, and no event ends with the `fault` marker set -/
def GoodFrom (s : Sys) : List Ev → Prop
  | [] => True
  | e :: es => e.up s ∧ (stepEv s e).fault = none ∧ GoodFrom (stepEv s e) es

instance decGoodFrom : (s : Sys) → (evs : List Ev) → Decidable (GoodFrom s evs)
  | _, [] => isTrue trivial
  | s, e :: es =>
    have := decGoodFrom (stepEv s e) es
    by unfold GoodFrom; infer_instance

theorem K.healthy {s : Sys} (h : K s) : s.crashed = none ∧ AllAlive s := h.2

/-- a history without a write during an outage -/
def UpFrom (s : Sys) : List Ev → Prop
  | [] => True
  | e :: es => e.up s ∧ UpFrom (stepEv s e) es

instance decUpFrom : (s : Sys) → (evs : List Ev) → Decidable (UpFrom s evs)
  | _, [] => isTrue trivial
  | s, e :: es =>
    have := decUpFrom (stepEv s e) es
    by unfold UpFrom; infer_instance

theorem GoodFrom.up : {s : Sys} → {evs : List Ev} → GoodFrom s evs → UpFrom s evs
  | _, [], _ => trivial
  | _, _ :: _, h => ⟨h.1, GoodFrom.up h.2.2⟩

theorem foldl_alive_up (evs : List Ev) (s : Sys) (h : TxWf s) (ha : AllAlive s) (hg : UpFrom s evs) :
    AllAlive (evs.foldl stepEv s) ∧ (evs ≠ [] → (evs.foldl stepEv s).crashed = none) := by
  induction evs generalizing s with
  | nil => exact ⟨ha, fun h => absurd rfl h⟩
  | cons e es ih =>
    obtain ⟨hup, hrest⟩ := hg
    have hk := stepEv_K s e h ha hup
    obtain ⟨hcr, hal⟩ := hk.healthy
    obtain ⟨h1, h2⟩ := ih (stepEv s e) hk.1 hal hrest
    refine ⟨h1, fun _ => ?_⟩
    cases es with
    | nil => exact hcr
    | cons e' es' => exact h2 (by simp)

theorem foldl_faultfree (evs : List Ev) (s : Sys) (hg : GoodFrom s evs) :
    evs ≠ [] → (evs.foldl stepEv s).fault = none := by
  induction evs generalizing s with
  | nil => exact fun h => absurd rfl h
  | cons e es ih =>
    obtain ⟨_, hff, hrest⟩ := hg
    intro _
    cases es with
    | nil => exact hff
    | cons e' es' => exact ih (stepEv s e) hrest (by simp)

theorem foldl_alive (evs : List Ev) (s : Sys) (h : TxWf s) (ha : AllAlive s) (hg : GoodFrom s evs) :
    AllAlive (evs.foldl stepEv s) ∧ (evs ≠ [] → (evs.foldl stepEv s).crashed = none ∧ (evs.foldl stepEv s).fault = none) :=
  ⟨(foldl_alive_up evs s h ha hg.up).1, fun hne => ⟨(foldl_alive_up evs s h ha hg.up).2 hne, foldl_faultfree evs s hg hne⟩⟩

/-! ## 4. EXEC after a queueing error -/

open FR.PubSubHist in
theorem process_exec_failed (mode : Mode) (c : Nat) (nameB : Bytes) (s : Sys) (q : List (String × List Bytes))
    (hname : commandName nameB = some "exec") (htx : (s.conn c).tx = some q) (hf : (s.conn c).txFailed = true)
    (hps : (s.conn c).pubsub = 0) :
    processCommand mode c [nameB] s = ((), finish c ((((prep s).updConn c fun x => { x with tx := none }).updConn c
      fun x => { x with watchNotified := false, watches := [] }).emitS c (.err (strBytes Msgs.EXECABORT_MSG)))) := by
  have hsig : lookupSig nameB = some sigExec := by
    rw [lookupSig_of_name _ _ hname (by decide +kernel), find_exec]
  have hptx : ((prep s).conn c).tx = some q := by rw [prep_tx]; exact htx
  have hpf : ((prep s).conn c).txFailed = true := by
    rcases prep_conn_cases s c with h | h <;> rw [h] <;> exact hf
  have hm : Msgs.EXECABORT_MSG.startsWith "model:" = false := by decide +kernel
  rw [processCommand_exec mode c s hsig hps, afterSpecial_run, ← prep_eq s,
    execCmd_run_failed (runInner mode c) [] hptx hpf]
  simp only [faulted, hm, Bool.false_eq_true, if_false]
  rfl

end FR.C04k

import FR.Proofs.Prologue
/-!
# One request that is run at once

`_run_command` of a regular command on a connection that is not subscribed is the pure runner on the selected database
(`Sys.run`); `_process_command` of it, outside MULTI, is that behind the prologue (`Sys.runAt`).  `Ran s s' c r D'` lists
what such a request changed, for every `_run_command` that stays inside `RunFrame` (`Ran.of_run`).  Last,
`_process_command` of EXEC as `execCmd` behind the prologue.
-/
namespace FR
open M ErrSys

/-! ## `_run_command` -/

/-- the context `_run_command` builds for connection `c` -/
def Ttl.ctxOf (s : Sys) (c : Nat) : Ctx :=
  { version := s.srv.version, time := s.srv.time, dbnum := (s.conn c).db, inTx := (s.conn c).inTx, picks := s.picks }

/-- the pure runner on the command `sig raw` of `c`, on the database `c` has selected: `Sys.regularOut` with the gate
open (`Sys.regularOut_open`) -/
def Sys.run (s : Sys) (c : Nat) (sig : Sig) (body : Body) (raw : List Bytes) : RunOut :=
  runRegular sig body (Ttl.ctxOf s c) none raw (s.dbAt (s.conn c).db)

theorem Sys.regularOut_open {s : Sys} {c : Nat} (sig : Sig) (body : Body) (raw : List Bytes)
    (h : (s.conn c).pubsub = 0) : s.regularOut c sig body raw false = s.run c sig body raw := by
  unfold Sys.regularOut Sys.run
  rw [h, show runGate sig false (decide (0 > 0)) = none from runGate_direct sig]
  rfl

section run
variable (mode : Mode) (c : Nat) (sig : Sig) (raw : List Bytes) {body : Body} (hb : Cmd.regular sig.name = some body)
  (s : Sys) (hps : (s.conn c).pubsub = 0)
include hb hps

theorem runCommand_regular :
    runCommand mode c sig raw false s =
      (some (s.run c sig body raw).reply, s.afterRegular (s.conn c).db (s.run c sig body raw)) := by
  unfold runCommand
  rw [regular_notScript hb, if_neg Bool.false_ne_true,
    runWith_regular_run _ mode c sig raw false hb s (Sys.refuses_of_unsubscribed sig hps), Sys.regularOut_open _ _ _ hps]

theorem runInner_regular :
    runInner mode c sig raw s =
      (some (s.run c sig body raw).reply, s.afterRegular (s.conn c).db (s.run c sig body raw)) := by
  rw [runInner_regular_eq mode c sig raw hb,
    runWith_regular_run _ mode c sig raw false hb s (Sys.refuses_of_unsubscribed sig hps), Sys.regularOut_open _ _ _ hps]

end run

/-! ## what `_run_command` leaves alone -/

/-- `t` differs from `p` in the databases, the hints, the model fault and the notification flags of connections at
most: what `_run_command` of a command that only reads and writes key spaces can do -/
structure RunFrame (p t : Sys) : Prop where
  out : t.out = p.out
  clocks : t.clocks = p.clocks
  crashed : t.crashed = p.crashed
  srv : ∀ {β : Type} (q : Server → β), (∀ (x : Server) dbs conns, q { x with dbs := dbs, conns := conns } = q x) →
    q t.srv = q p.srv
  has : ∀ c, t.HasConn c ↔ p.HasConn c
  conn : ∀ c, (t.conn c).core = (p.conn c).core

theorem RunFrame.refl (p : Sys) : RunFrame p p := ⟨rfl, rfl, rfl, fun _ _ => rfl, fun _ => .rfl, fun _ => rfl⟩

theorem RunFrame.trans {a b c : Sys} (h1 : RunFrame a b) (h2 : RunFrame b c) : RunFrame a c :=
  ⟨h2.out.trans h1.out, h2.clocks.trans h1.clocks, h2.crashed.trans h1.crashed,
    fun q hq => (h2.srv q hq).trans (h1.srv q hq), fun x => (h2.has x).trans (h1.has x),
    fun x => (h2.conn x).trans (h1.conn x)⟩

theorem RunFrame.setDbS (p : Sys) (d : Nat) (X : Db) : RunFrame p (p.setDbS d X) :=
  ⟨rfl, rfl, rfl, fun q hq => hq p.srv _ p.srv.conns, fun _ => .rfl, fun _ => rfl⟩

theorem Sys.afterRegular_frame (s : Sys) (d : Nat) (o : RunOut) : RunFrame s (s.afterRegular d o) := by
  refine ⟨Sys.afterRegular_out .., by rw [Sys.afterRegular_eq], Sys.afterRegular_crashed .., fun q hq => ?_,
    Sys.afterRegular_hasConn s d o, fun c => ?_⟩
  · rw [Sys.afterRegular_eq]; exact hq ..
  · exact Sys.afterRegular_pred s d o c (fun y => y.core = (s.conn c).core)
      (fun d key x hx => (notifyFn_core d key x).trans hx) rfl

/-! ## `_process_command` -/

namespace ScanSys

/-- `Sys.prologue` (equal by `rfl`) under the name the statements of ScanSys.lean and Props/C09v.lean use -/
def prologue (s : Sys) : Sys := (cleanupClosed s).2.refresh

/-- the clock reading the request brings (the old time when the hints are exhausted) -/
def reading (s : Sys) : Int := s.clocks.headD s.srv.time

end ScanSys

namespace C09v
open ScanSys

def ctxAt (s : Sys) (c : Nat) : Ctx := FR.Ttl.ctxOf (prologue s) c

def viewAt (s : Sys) (c : Nat) : Db := ⟨s.srv.dbs.getD (s.conn c).db [], reading s⟩

end C09v

/-- `Sys.run` behind the prologue (`Sys.prologue_run`), in terms of the state the request finds -/
def Sys.runAt (s : Sys) (c : Nat) (sig : Sig) (body : Body) (args : List Bytes) : RunOut :=
  runRegular sig body (C09v.ctxAt s c) none args (C09v.viewAt s c)

theorem Sys.prologue_run (s : Sys) (c : Nat) (sig : Sig) (body : Body) (args : List Bytes) :
    s.prologue.run c sig body args = s.runAt c sig body args := by
  unfold Sys.run Sys.runAt Sys.dbAt C09v.viewAt
  rw [s.prologue_dbs, s.prologue_time, s.prologue_conn c Conn.db (fun _ => rfl)]
  rfl

theorem processCommand_regular (mode : Mode) (c : Nat) {nameB : Bytes} (args : List Bytes) (s : Sys) {sig : Sig}
    {body : Body} (hname : lookupSig nameB = some sig) (hb : Cmd.regular sig.name = some body)
    (har : sig.checkArity args.length = true) (htx : (s.conn c).tx = none) (hpub : (s.conn c).pubsub = 0) :
    processCommand mode c (nameB :: args) s =
      ((), afterRun c (some (s.runAt c sig body args).reply,
        s.prologue.afterRegular (s.conn c).db (s.runAt c sig body args))) := by
  rw [processCommand_runs mode c args s hname har (by rw [htx]; rfl),
    runCommand_regular mode c sig args hb _ ((s.prologue_conn c Conn.pubsub (fun _ => rfl)).trans hpub),
    s.prologue_run, s.prologue_conn c Conn.db (fun _ => rfl)]

/-- a connection record up to what another connection's command or an escaping exception can change, and the input
buffer: it keeps `id`, `db`, `tx`, `txFailed`, `inTx`, `pubsub`, `paused`, `closed`, and `parked` but for `woken`
(`Ran.field`).  Not the front-end `Mode` -/
def Conn.mode (x : Conn) : Conn := { x.core with watches := [], dead := false, buf := [] }

theorem Conn.mode_core (x : Conn) : x.core.mode = x.mode := by
  obtain ⟨id, db, tx, txF, inTx, wn, w, ps, buf, paused, closed, dead, parked⟩ := x
  cases parked <;> rfl

/-- what a request that was run at once did: `s'` is `s` after connection `c` was answered `r` and its selected
database became `D'` -/
structure Ran (s s' : Sys) (c : Nat) (r : Reply) (D' : Dict) : Prop where
  out : s'.out = if (s.conn c).closed then s.out else (c, r) :: s.out
  dbs : s'.srv.dbs = s.srv.dbs.set (s.conn c).db D'
  time : s'.srv.time = ScanSys.reading s
  clocks : s'.clocks = s.clocks.tail
  crashed : s'.crashed = s.crashed
  version : s'.srv.version = s.srv.version
  connected : s'.srv.connected = s.srv.connected
  has : ∀ c', s'.HasConn c' ↔ s.HasConn c'
  conn : ∀ c', (s'.conn c').mode = (s.conn c').mode
  dead : s.crashed = none → ∀ c', (s'.conn c').dead = (s.conn c').dead

theorem Ran.field {s s' : Sys} {c : Nat} {r : Reply} {D' : Dict} (h : Ran s s' c r D') {β : Type}
    (p : Conn → β) (hp : ∀ x : Conn, p x.mode = p x) (c' : Nat) : p (s'.conn c') = p (s.conn c') :=
  (hp _).symm.trans ((congrArg p (h.conn c')).trans (hp _))

theorem Ran.updConn {s s' : Sys} {c : Nat} {r : Reply} {D' : Dict} (h : Ran s s' c r D') (f : Conn → Conn)
    (hid : ∀ x, (f x).id = x.id) (hm : ∀ x, (f x).mode = x.mode) (hd : ∀ x, (f x).dead = x.dead) :
    Ran s (s'.updConn c f) c r D' :=
  ⟨h.out, h.dbs, h.time, h.clocks, h.crashed, h.version, h.connected,
    fun c' => (Sys.hasConn_updConn f hid).trans (h.has c'),
    fun c' => (Sys.conn_updConn_proj s' c c' f Conn.mode hid hm).trans (h.conn c'),
    fun hcr c' => (Sys.conn_updConn_proj s' c c' f Conn.dead hid hd).trans (h.dead hcr c')⟩

theorem Ran.of_run {s t : Sys} {c : Nat} {r : Reply} {D' : Dict} (hf : RunFrame s.prologue t)
    (hdbs : t.srv.dbs = s.srv.dbs.set (s.conn c).db D') : Ran s (afterRun c (some r, t)) c r D' := by
  rw [afterRun_some]
  have hid : ∀ x : Conn, (if t.crashed.isSome then markDead x else x).id = x.id := fun x => by split <;> rfl
  have hconn : ∀ {β : Type} (p : Conn → β), (∀ x : Conn, p (markDead x) = p x) → (∀ x : Conn, p x.cleared = p x) →
      (∀ x : Conn, p x.core = p x) → ∀ c', p (((t.emitS c r).updConn c fun x =>
        if t.crashed.isSome then markDead x else x).conn c') = p (s.conn c') := fun p h1 h2 h3 c' => by
    rw [Sys.conn_updConn_proj _ c c' _ p hid (fun x => by split; exact h1 x; rfl), Sys.emitS_conn, ← h3,
      hf.conn, h3]
    exact s.prologue_conn c' p h2
  refine ⟨?_, ?_, ?_, ?_, ?_, ?_, ?_, fun c' => ?_, hconn Conn.mode (fun _ => rfl) (fun _ => rfl) Conn.mode_core,
    fun hcr => ?_⟩
  · rw [Sys.updConn_out, Sys.emitS_out, hf.out, s.prologue_out,
      ← hconn Conn.closed (fun _ => rfl) (fun _ => rfl) (fun _ => rfl) c,
      Sys.conn_updConn_proj _ c c _ Conn.closed hid (fun x => by split <;> rfl), Sys.emitS_conn]
  · rw [Sys.updConn_dbs, Sys.emitS_srv, hdbs]
  · rw [Sys.updConn_time, Sys.emitS_srv, hf.srv (fun x => x.time) (fun _ _ _ => rfl), s.prologue_time]; rfl
  · show (t.emitS c r).clocks = _
    rw [Sys.emitS_eq, hf.clocks, s.prologue_clocks]
  · show (t.emitS c r).crashed = _
    rw [Sys.emitS_crashed, hf.crashed, s.prologue_crashed]
  · show (t.emitS c r).srv.version = _
    rw [Sys.emitS_srv, hf.srv (fun x => x.version) (fun _ _ _ => rfl), s.prologue_version]
  · show (t.emitS c r).srv.connected = _
    rw [Sys.emitS_srv, hf.srv (fun x => x.connected) (fun _ _ _ => rfl), s.prologue_connected]
  · rw [Sys.hasConn_updConn _ hid, Sys.emitS_hasConn, hf.has, s.prologue_hasConn]
  · have : t.crashed.isSome = false := by rw [hf.crashed, s.prologue_crashed, hcr]; rfl
    simp only [this, Bool.false_eq_true, if_false]
    intro c'
    rw [Sys.conn_updConn_proj _ c c' _ Conn.dead (fun _ => rfl) (fun _ => rfl), Sys.emitS_conn]
    have := hf.conn c'
    exact (congrArg Conn.dead this :).trans (s.prologue_conn c' Conn.dead (fun _ => rfl))

theorem regular_ran (mode : Mode) (c : Nat) {nameB : Bytes} (args : List Bytes) (s : Sys) {sig : Sig} {body : Body}
    (hname : lookupSig nameB = some sig) (hb : Cmd.regular sig.name = some body)
    (har : sig.checkArity args.length = true) (htx : (s.conn c).tx = none) (hpub : (s.conn c).pubsub = 0) :
    Ran s (processCommand mode c (nameB :: args) s).2 c (s.runAt c sig body args).reply
      (s.runAt c sig body args).db.dict := by
  rw [processCommand_regular mode c args s hname hb har htx hpub]
  exact .of_run (Sys.afterRegular_frame ..) (by rw [Sys.afterRegular_dbs, s.prologue_dbs])

/-! ## EXEC -/

open C19m

theorem processCommand_exec (mode : Mode) (c : Nat) {nameB : Bytes} (s : Sys)
    (hsig : lookupSig nameB = some PubSubHist.sigExec) (hps : (s.conn c).pubsub = 0) :
    processCommand mode c [nameB] s =
      ((), afterRun c (afterSpecial (s.conn c).db [] (execCmd (runInner mode c) c []) s.prologue)) := by
  have hr : s.prologue.refuses c PubSubHist.sigExec = false :=
    Sys.refuses_of_unsubscribed _ ((s.prologue_conn c Conn.pubsub (fun _ => rfl)).trans hps)
  rw [processCommand_runs mode c [] s hsig rfl (by cases (s.conn c).tx.isSome <;> rfl),
    runCommand_not_script mode c PubSubHist.sigExec [] false (by decide),
    runWith_keyless _ mode c PubSubHist.sigExec [] false s.prologue rfl hr
      (r := .ok (.ok [] [])) rfl]
  simp only [(runGate_of_not_refused false hr).trans (runGate_direct _)]
  rw [afterSpecial_congr _ _ _ _ _ (congrFun (special_exec (runInner mode c) mode c PubSubHist.sigExec.name [] [] rfl) _),
    s.prologue_conn c Conn.db (fun _ => rfl)]

end FR

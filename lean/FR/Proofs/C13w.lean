import FR.Proofs.DbFrame
import FR.Proofs.BufIndep
import FR.Proofs.AsyncLife
/-!
# Independent databases for raw writes: the relation `Sim` through the parser loop (C13)

`DrainOkA`: every request the parser loop processes, judged along the run, satisfies the hypotheses of
`processCommand_rel`; then `drain`, `sendall`, `sendallGuarded` keep `Sim`.  `drainOkA_of_parse` is the static sufficient
condition on the complete requests in the buffer.  `OkEvW` / `OkHistW` admit raw writes among the events of a history.
-/
namespace FR.DbFrame
open FR FR.M
set_option linter.unusedSimpArgs false

/-- the hypotheses of `processCommand_rel` about one request -/
def ReqOkA (T : Nat → Prop) (A : String × List Bytes → Prop) (fields : List Bytes) : Prop :=
  QAllowed T (cmdName fields, fields.tail) ∧ cmdName fields ≠ "eval" ∧ cmdName fields ≠ "evalsha" ∧
    A (cmdName fields, fields.tail) ∧ (cmdName fields = "exec" → ∀ e, A e → QAllowed T e)

theorem ReqOk.toA {T : Nat → Prop} {fields : List Bytes} (h : ReqOk T fields) : ReqOkA T (QAllowed T) fields :=
  ⟨h.1, h.2.1, h.2.2, h.1, fun _ _ h => h⟩

theorem processCommand_frame {T : Nat → Prop} {A : String × List Bytes → Prop} {c : Nat} (mode : Mode)
    (fields : List Bytes) (s : Sys) (hsel : T (s.conn c).db) (hq : ∀ q, (s.conn c).tx = some q → ∀ e ∈ q, A e)
    (hok : ReqOkA T A fields) :
    ∀ j, ¬ T j → (processCommand mode c fields s).2.srv.dbs.getD j [] = s.srv.dbs.getD j [] :=
  Rel2.frame (b := true) (b' := true)
    (processCommand_rel mode fields hok.1 hok.2.1 hok.2.2.1 hok.2.2.2.1 hok.2.2.2.2) (fun _ => hsel) hq

def DrainOkA (T : Nat → Prop) (A : String × List Bytes → Prop) (mode : Mode) (c : Nat) : Nat → Sys → Prop
  | 0, _ => True
  | fuel + 1, s =>
    if (connOf s c).paused || (connOf s c).dead then True
    else match tryParse (connOf s c).buf with
      | none => True
      | some (fields, rest) =>
        ReqOkA T A fields ∧ DrainOkA T A mode c fuel ((processCommand mode c fields).run (setBuf c rest s)).2

section loop
variable {T : Nat → Prop} {c : Nat} {b : Bool} {A : String × List Bytes → Prop} {D1 D2 : List Dict}

theorem Sim.connOf {s1 s2 : Sys} (h : Sim T c b A D1 D2 s1 s2) (c' : Nat) : connOf s2 c' = connOf s1 c' := h.agree.conn c'

theorem Sim.setBuf {s1 s2 : Sys} (h : Sim T c b A D1 D2 s1 s2) (X : Bytes) :
    Sim T c b A D1 D2 (setBuf c X s1) (setBuf c X s2) :=
  ((rel_modifyConn c (fun x => { x with buf := X }) (fun _ => rfl) (fun _ => rfl) (fun _ => rfl)) s1 s2 h).2

theorem Sim.appendBuf {s1 s2 : Sys} (h : Sim T c b A D1 D2 s1 s2) (X : Bytes) :
    Sim T c b A D1 D2 (appendBuf c X s1) (appendBuf c X s2) :=
  ((rel_modifyConn c (fun x => { x with buf := x.buf ++ X }) (fun _ => rfl) (fun _ => rfl) (fun _ => rfl)) s1 s2 h).2

theorem drain_sim (mode : Mode) (fuel : Nat) {s1 s2 : Sys} (h : Sim T c true A D1 D2 s1 s2)
    (hok : DrainOkA T A mode c fuel s1) :
    Sim T c true A D1 D2 ((drain mode c fuel).run s1).2 ((drain mode c fuel).run s2).2 := by
  induction fuel generalizing s1 s2 with
  | zero => exact h
  | succ fuel ih =>
    rw [drain_succ, drain_succ, Sim.connOf h c]
    rw [DrainOkA] at hok
    split
    · exact h
    · rename_i hpd
      rw [if_neg hpd] at hok
      split
      · exact h
      · rename_i fields rest hp
        rw [hp] at hok
        obtain ⟨hr, hok'⟩ := hok
        have h1 := Sim.setBuf h rest
        have h2 := (processCommand_rel mode fields hr.1 hr.2.1 hr.2.2.1 hr.2.2.2.1 hr.2.2.2.2 _ _ h1).2
        exact ih h2 hok'

/-- what the write will process is covered, judged in the state it starts from -/
def SendOkA (T : Nat → Prop) (A : String × List Bytes → Prop) (mode : Mode) (c : Nat) (data : Bytes) (s : Sys) : Prop :=
  s.srv.connected = true → (connOf s c).dead = false →
    DrainOkA T A mode c ((connOf s c).buf.length + data.length + 1) (appendBuf c data s)

/-- a dead connection processes nothing, so nothing is asked of the requests then -/
theorem sendall_sim (mode : Mode) (data : Bytes) {s1 s2 : Sys} (h : Sim T c true A D1 D2 s1 s2)
    (hok : (connOf s1 c).dead = false →
      DrainOkA T A mode c ((connOf s1 c).buf.length + data.length + 1) (appendBuf c data s1)) :
    Sim T c true A D1 D2 ((sendall mode c data).run s1).2 ((sendall mode c data).run s2).2 := by
  rw [sendall_run, sendall_run, Sim.connOf h c]
  split
  · exact Sim.frame h (fun s => { s with crashed := some "StopIteration" }) (fun _ _ => rfl) rfl rfl rfl
  · rename_i hd
    exact drain_sim mode _ (Sim.appendBuf h data) (hok (by simpa using hd))

theorem sendallGuarded_sim (mode : Mode) (data : Bytes) {s1 s2 : Sys} (h : Sim T c true A D1 D2 s1 s2)
    (hok : SendOkA T A mode c data s1) :
    Sim T c true A D1 D2 (sendallGuarded mode c data s1).2 (sendallGuarded mode c data s2).2 := by
  have hc : s2.srv.connected = s1.srv.connected := by rw [h.eqv]
  cases hup : s1.srv.connected with
  | false =>
    rw [sendallGuarded_run_down mode c data s1 hup, sendallGuarded_run_down mode c data s2 (hc.trans hup)]
    exact Sim.frame h (fun s => { s with crashed := some "ConnectionError" }) (fun _ _ => rfl) rfl rfl rfl
  | true =>
    rw [sendallGuarded_run_up mode c data s1 hup, sendallGuarded_run_up mode c data s2 (hc.trans hup)]
    exact sendall_sim mode data h (hok hup)

theorem sendallGuarded_frame (mode : Mode) (data : Bytes) (s : Sys)
    (hok : SendOkA (fun j => j = (s.conn c).db) (fun _ => True) mode c data s) :
    ∀ j, j ≠ (s.conn c).db → (sendallGuarded mode c data s).2.srv.dbs.getD j [] = s.srv.dbs.getD j [] :=
  (sendallGuarded_sim (T := fun j => j = (s.conn c).db) mode data (Sim.refl s (fun _ => rfl) (fun _ _ _ _ => trivial))
    hok).off1

end loop

/-! ## A static sufficient condition: every complete request in the buffer is covered -/

theorem drainOkA_of_parse {T : Nat → Prop} {A : String × List Bytes → Prop} (mode : Mode) (c : Nat) (fuel : Nat)
    (s : Sys) (h : ∀ n, ∀ f ∈ (parseAll n (connOf s c).buf).1, ReqOkA T A f) : DrainOkA T A mode c fuel s := by
  induction fuel generalizing s with
  | zero => trivial
  | succ fuel ih =>
    rw [DrainOkA]
    split
    · trivial
    · split
      · trivial
      · rename_i fields rest hp
        refine ⟨h 1 fields (by simp [parseAll, hp]), ih _ ?_⟩
        intro n f hf
        rw [FR.BufIndep.bufIndependent mode c fields rest s] at hf
        cases hx : findConn ((processCommand mode c fields).run s).2 c with
        | none =>
          rw [show setBuf c rest ((processCommand mode c fields).run s).2 = _ from modifyConn_noconn c _ _ hx,
            connOf_none hx] at hf
          rw [show ({ id := c } : Conn).buf = [] from rfl, parseAll_nil] at hf
          cases hf
        | some x =>
          rw [connOf_setBuf_some hx] at hf
          exact h (n + 1) f (by simp only [parseAll, hp]; exact List.mem_cons_of_mem _ hf)

theorem sendOkA_of_parse {T : Nat → Prop} {A : String × List Bytes → Prop} (mode : Mode) (c : Nat) (data : Bytes)
    (s : Sys) (h : ∀ n, ∀ f ∈ (parseAll n ((connOf s c).buf ++ data)).1, ReqOkA T A f) : SendOkA T A mode c data s := by
  intro _ _
  refine drainOkA_of_parse mode c _ _ ?_
  cases hx : findConn s c with
  | none =>
    rw [show appendBuf c data s = s from modifyConn_noconn c _ s hx, connOf_none hx]
    intro n f hf
    rw [show ({ id := c } : Conn).buf = [] from rfl, parseAll_nil] at hf
    cases hf
  | some x =>
    rw [connOf_appendBuf_some hx, ← connOf_some hx]
    exact h

theorem parseAll_encodeStream_sub (reqs : List (List Bytes)) (tail : Bytes) (ht : tryParse tail = none) (n : Nat) :
    ∀ f ∈ (parseAll n (encodeStream reqs ++ tail)).1, f ∈ reqs := by
  induction reqs generalizing n with
  | nil =>
    intro f hf
    cases n with
    | zero => cases hf
    | succ n => simp [parseAll, encodeStream, ht] at hf
  | cons q qs ih =>
    intro f hf
    cases n with
    | zero => cases hf
    | succ n =>
      have e : encodeStream (q :: qs) ++ tail = encodeRequest q ++ (encodeStream qs ++ tail) := by
        simp [encodeStream, List.append_assoc]
      rw [e, parseAll, tryParse_encode'] at hf
      rcases List.mem_cons.1 hf with rfl | hf
      · exact List.mem_cons_self
      · exact List.mem_cons_of_mem _ (ih n f hf)

/-! ## Histories with raw writes -/

/-- `OkEv`, and a raw write when the connection is selected on `T`, its queue is covered and so is every request the
write will process (`SendOkA`, in the state the write runs from: outputs reset, hints loaded) -/
def OkEvW (T : Nat → Prop) (s : Sys) : Ev → Prop
  | .send mode c data clocks picks =>
    T (s.conn c).db ∧ (∀ q, (s.conn c).tx = some q → ∀ e ∈ q, QAllowed T e) ∧
      SendOkA T (QAllowed T) mode c data (s.beginEvent.withHints clocks picks)
  | e => OkEv T s e

theorem OkEv.toW {T : Nat → Prop} {s : Sys} {e : Ev} (h : OkEv T s e) : OkEvW T s e := by
  cases e <;> first | exact h | exact absurd h id

theorem stepEv_agreeW {T : Nat → Prop} {s1 s2 : Sys} (h : Agree T s1 s2) (e : Ev) (hok : OkEvW T s1 e) :
    StepOk T s1 s2 (stepEv s1 e) (stepEv s2 e) := by
  cases e with
  | send mode c data clocks picks =>
    obtain ⟨hsel, hq, hs⟩ := hok
    have hb : Agree T (s1.beginEvent.withHints clocks picks) (s2.beginEvent.withHints clocks picks) :=
      h.map (fun s => s.beginEvent.withHints clocks picks) (fun _ _ => rfl) (fun _ => rfl)
    exact .of_sim (sendallGuarded_sim mode data (hb.toSim c true (QAllowed T) (fun _ => hsel) hq) hs)
  | _ => exact stepEv_agree h _ hok

/-- `HistAll (OkEvW T)` of `FR/Proofs/Hist.lean`, written out (`okHistW_iff_histAll`) -/
def OkHistW (T : Nat → Prop) : Sys → List Ev → Prop
  | _, [] => True
  | s, e :: es => OkEvW T s e ∧ OkHistW T (stepEv s e) es

theorem okHistW_iff_histAll {T : Nat → Prop} {s : Sys} {evs : List Ev} :
    OkHistW T s evs ↔ HistAll (OkEvW T) s evs := by
  induction evs generalizing s with
  | nil => exact Iff.rfl
  | cons e es ih => exact and_congr_right' ih

theorem OkHist.toW {T : Nat → Prop} {s : Sys} {evs : List Ev} (h : OkHist T s evs) : OkHistW T s evs :=
  okHistW_iff_histAll.2 (HistAll.mono (fun _ _ => OkEv.toW) (okHist_iff_histAll.1 h))

theorem history_agreeW {T : Nat → Prop} (evs : List Ev) {s1 s2 : Sys} (h : Agree T s1 s2) (hok : OkHistW T s1 evs) :
    outs s2 evs = outs s1 evs ∧ StepOk T s1 s2 (evs.foldl stepEv s1) (evs.foldl stepEv s2) :=
  history_agree_of (fun _ _ _ h => h) stepEv_agreeW evs h hok

/-! ## The requests a write processes, as a list -/

def drainReqs (mode : Mode) (c : Nat) : Nat → Sys → List (List Bytes)
  | 0, _ => []
  | fuel + 1, s =>
    if (connOf s c).paused || (connOf s c).dead then []
    else match tryParse (connOf s c).buf with
      | none => []
      | some (fields, rest) =>
        fields :: drainReqs mode c fuel ((processCommand mode c fields).run (setBuf c rest s)).2

/-- the requests the write processes: none during an outage or on a dead connection -/
def sendReqs (mode : Mode) (c : Nat) (data : Bytes) (s : Sys) : List (List Bytes) :=
  if s.srv.connected && !(connOf s c).dead then
    drainReqs mode c ((connOf s c).buf.length + data.length + 1) (appendBuf c data s)
  else []

theorem drainOkA_iff {T : Nat → Prop} {A : String × List Bytes → Prop} (mode : Mode) (c : Nat) (fuel : Nat) (s : Sys) :
    DrainOkA T A mode c fuel s ↔ ∀ f ∈ drainReqs mode c fuel s, ReqOkA T A f := by
  induction fuel generalizing s with
  | zero => simp [DrainOkA, drainReqs]
  | succ fuel ih =>
    rw [DrainOkA, drainReqs]
    split
    · simp
    · split
      · simp
      · simp only [ih, List.mem_cons, forall_eq_or_imp]

theorem sendOkA_iff {T : Nat → Prop} {A : String × List Bytes → Prop} (mode : Mode) (c : Nat) (data : Bytes) (s : Sys) :
    SendOkA T A mode c data s ↔ ∀ f ∈ sendReqs mode c data s, ReqOkA T A f := by
  unfold SendOkA sendReqs
  rw [drainOkA_iff]
  cases s.srv.connected <;> cases (connOf s c).dead <;> simp

end FR.DbFrame

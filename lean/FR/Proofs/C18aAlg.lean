import FR.Proofs.C18aRound
/-!
# C18a: `add` / `mul` on all doubles — the two equations for all finite operands (`add_eq_RN`, `mul_eq_RN`),
commutativity, when the result is a NaN
-/
namespace FR.C18a
open FR FR.C18f FR.DumpRound

theorem wf_zero_signed (n : Bool) : Dbl.WF (.fin n 0 (-1074)) :=
  ⟨by decide, by decide, by decide, Or.inr rfl, fun _ => rfl⟩

/-! ### the general form of the two main theorems -/

theorem toRat_some {d : Dbl} {x : ℚ} (h : d.toRat = some x) : ∃ n m e, d = .fin n m e ∧ x = Dbl.val (.fin n m e) := by
  cases d with
  | nan => cases h
  | inf _ => cases h
  | fin n m e => injection h with h; exact ⟨n, m, e, rfl, h.symm⟩

theorem add_eq_RN {a b : Dbl} {x y : ℚ} (ha : a.toRat = some x) (hb : b.toRat = some y) :
    Dbl.add a b = Dbl.RN (a.signBit && b.signBit) (x + y) := by
  obtain ⟨n1, m1, e1, rfl, rfl⟩ := toRat_some ha
  obtain ⟨n2, m2, e2, rfl, rfl⟩ := toRat_some hb
  exact add_fin_eq_RN _ _ _ _ _ _

theorem mul_eq_RN {a b : Dbl} {x y : ℚ} (ha : a.toRat = some x) (hb : b.toRat = some y) :
    Dbl.mul a b = Dbl.RN (a.signBit != b.signBit) (x * y) := by
  obtain ⟨n1, m1, e1, rfl, rfl⟩ := toRat_some ha
  obtain ⟨n2, m2, e2, rfl, rfl⟩ := toRat_some hb
  exact mul_fin_eq_RN _ _ _ _ _ _

theorem addFin_comm (n1 : Bool) (m1 : Nat) (e1 : Int) (n2 : Bool) (m2 : Nat) (e2 : Int) :
    Dbl.addFin n1 m1 e1 n2 m2 e2 = Dbl.addFin n2 m2 e2 n1 m1 e1 := by
  rw [addFin_eq_RN, addFin_eq_RN, Bool.and_comm, add_comm]

theorem add_comm' (a b : Dbl) : Dbl.add a b = Dbl.add b a := by
  cases a with
  | nan => cases b <;> rfl
  | inf x =>
    cases b with
    | nan => rfl
    | inf y => cases x <;> cases y <;> rfl
    | fin _ _ _ => rfl
  | fin n1 m1 e1 =>
    cases b with
    | nan => rfl
    | inf y => rfl
    | fin n2 m2 e2 => exact addFin_comm _ _ _ _ _ _

theorem mul_comm' (a b : Dbl) : Dbl.mul a b = Dbl.mul b a := by
  cases a with
  | nan => cases b <;> rfl
  | inf x =>
    cases b with
    | nan => rfl
    | inf y => cases x <;> cases y <;> rfl
    | fin n m e =>
      show (if (m == 0) = true then Dbl.nan else Dbl.inf (x != n)) = (if (m == 0) = true then Dbl.nan else Dbl.inf (n != x))
      cases x <;> cases n <;> rfl
  | fin n1 m1 e1 =>
    cases b with
    | nan => rfl
    | inf y =>
      show (if (m1 == 0) = true then Dbl.nan else Dbl.inf (n1 != y)) = (if (m1 == 0) = true then Dbl.nan else Dbl.inf (y != n1))
      cases y <;> cases n1 <;> rfl
    | fin n2 m2 e2 =>
      rw [mul_fin_eq_RN, mul_fin_eq_RN, mul_comm]
      cases n1 <;> cases n2 <;> rfl

theorem add_eq_nan_iff (a b : Dbl) :
    Dbl.add a b = .nan ↔ a = .nan ∨ b = .nan ∨ ∃ s, a = .inf s ∧ b = .inf (!s) := by
  cases a with
  | nan => cases b <;> simp [Dbl.add]
  | inf x =>
    cases b with
    | nan => simp [Dbl.add]
    | inf y => cases x <;> cases y <;> simp [Dbl.add]
    | fin _ _ _ => simp [Dbl.add]
  | fin n1 m1 e1 =>
    cases b with
    | nan => simp [Dbl.add]
    | inf y => simp [Dbl.add]
    | fin n2 m2 e2 =>
      have := RN_not_nan (n1 && n2) (Dbl.val (.fin n1 m1 e1) + Dbl.val (.fin n2 m2 e2))
      rw [add_fin_eq_RN]
      constructor
      · intro h; rw [h] at this; cases this
      · rintro (h | h | ⟨s, h, _⟩) <;> cases h

theorem mul_eq_nan_iff (a b : Dbl) :
    Dbl.mul a b = .nan ↔ a = .nan ∨ b = .nan ∨ (a.isInf = true ∧ b.isZero = true) ∨ (a.isZero = true ∧ b.isInf = true) := by
  cases a with
  | nan => cases b <;> simp [Dbl.mul]
  | inf x =>
    cases b with
    | nan => simp [Dbl.mul]
    | inf y => simp [Dbl.mul, Dbl.isInf, Dbl.isZero]
    | fin n m e =>
      cases m with
      | zero => simp [Dbl.mul, Dbl.isInf, Dbl.isZero]
      | succ k => simp [Dbl.mul, Dbl.isInf, Dbl.isZero]
  | fin n1 m1 e1 =>
    cases b with
    | nan => simp [Dbl.mul]
    | inf y =>
      cases m1 with
      | zero => simp [Dbl.mul, Dbl.isInf, Dbl.isZero]
      | succ k => simp [Dbl.mul, Dbl.isInf, Dbl.isZero]
    | fin n2 m2 e2 =>
      have := RN_not_nan (n1 != n2) (Dbl.val (.fin n1 m1 e1) * Dbl.val (.fin n2 m2 e2))
      rw [mul_fin_eq_RN]
      constructor
      · intro h; rw [h] at this; cases this
      · rintro (h | h | ⟨h, _⟩ | ⟨_, h⟩) <;> cases h

end FR.C18a

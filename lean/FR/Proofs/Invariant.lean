import FR.Proofs.Blocking
import FR.Proofs.Seq
import Lean.Elab.Tactic
/-!
# The data invariant, `Pres`, and the events of a history

`Sys.DataInv`: every database dictionary has unique keys and stores no empty list / set / hash / zset (`Good.*`: what
the operations on one dictionary do to it).
* `Pres I m`: `m` keeps `I` from every state (`Pres.seq`); `PresAt I s m`: from the state `s` — after a read of the state
  (`Pres.get_bind`) the rest of the block is judged from the state read; `Pres.then` hands on a fact about a value (`Then`).
* `Ret Q m`: every value `m` can return satisfies `Q`; only the last statement of a block matters, loops carry `StepInv`.
* the events of a history: `Ev`, `stepEv`, `runHistory`.
-/
namespace FR
open M
set_option linter.unusedSimpArgs false

def Good (d : Dict) : Prop := NodupKeys d ∧ NoEmpty d

def Sys.DataInv (s : Sys) : Prop := ∀ d ∈ s.srv.dbs, NodupKeys d ∧ NoEmpty d

theorem good_nil : Good [] := ⟨by unfold NodupKeys; simp, fun _ h => by simp at h⟩

theorem Sys.dataInv_init : Sys.DataInv {} := by
  intro d hd
  have : d = [] := by
    simp only [List.mem_replicate] at hd
    exact hd.2
  subst this; exact good_nil

theorem Sys.DataInv.frame {s s' : Sys} (h : s.DataInv) (h1 : s'.srv.dbs = s.srv.dbs) : s'.DataInv := by
  unfold Sys.DataInv at *
  rw [h1]; exact h

theorem Sys.DataInv.dbAt {s : Sys} (h : s.DataInv) (i : Nat) : Good (s.dbAt i).dict := by
  show Good (s.srv.dbs.getD i [])
  rw [List.getD_eq_getElem?_getD]
  cases hi : s.srv.dbs[i]? with
  | none => exact good_nil
  | some d => exact h d (List.mem_of_getElem? hi)

theorem Sys.DataInv.setDbS {s : Sys} (h : s.DataInv) (i : Nat) {db : Db} (hg : Good db.dict) : (s.setDbS i db).DataInv := by
  intro d hd
  rcases List.mem_or_eq_of_mem_set hd with hd | rfl
  · exact h d hd
  · exact hg

theorem Good.get {db : Db} (h : Good db.dict) (k : Bytes) : Good (db.get k).1.dict :=
  ⟨Db.get_nodup k h.1, fun q hq => h.2 q (Db.get_dict_sub hq)⟩

theorem Good.get' {db db' : Db} {k : Bytes} {r : Option Item} (h : Good db.dict) (e : db.get k = (db', r)) :
    Good db'.dict := by
  have : db' = (db.get k).1 := by rw [e]
  subst this; exact h.get k

theorem Good.get_item {db db' : Db} {k : Bytes} {it : Item} (h : Good db.dict) (e : db.get k = (db', some it)) :
    it.value.isEmptyColl = false := by
  have : (db.get k).2 = some it := by rw [e]
  exact h.2 _ (Db.get_mem this)

theorem Good.get_snd {db : Db} {k : Bytes} {it : Item} (h : Good db.dict) (e : (db.get k).2 = some it) :
    it.value.isEmptyColl = false := h.2 _ (Db.get_mem e)

theorem Good.purge {db : Db} (h : Good db.dict) : Good (Db.purge db).dict :=
  ⟨Db.purge_nodup h.1, fun q hq => h.2 q (List.mem_filter.1 hq).1⟩

theorem Good.keys {db db' : Db} {ks : List Bytes} (h : Good db.dict) (e : db.keys = (db', ks)) : Good db'.dict := by
  have : db' = Db.purge db := by
    have := congrArg Prod.fst e
    exact this.symm
  subst this; exact h.purge

theorem Good.setRaw {d : Dict} (h : Good d) (k : Bytes) {it : Item} (hit : it.value.isEmptyColl = false) :
    Good (Db.setRaw d k it) := by
  refine ⟨Db.nodup_setRaw k it h.1, ?_⟩
  intro q hq
  rcases Db.mem_setRaw hq with hq | rfl
  · exact h.2 q hq
  · exact hit

theorem Good.writeback {db : Db} (h : Good db.dict) (ci : CI) : Good (ci.writeback db).1.dict :=
  ⟨ci.writeback_nodup h.1, ci.writeback_noEmpty h.2⟩

theorem Good.writeback' {db db' : Db} {n : Bool} (h : Good db.dict) {ci : CI} (e : ci.writeback db = (db', n)) :
    Good db'.dict := by
  have : db' = (ci.writeback db).1 := by rw [e]
  subst this; exact h.writeback ci

theorem Good.apply {db : Db} (h : Good db.dict) (sig : Sig) (raw : List Bytes) : Good (sig.apply raw db).1.dict :=
  ⟨(Sig.apply_reads sig raw h.1).nd, fun q hq => h.2 q ((Sig.apply_reads sig raw h.1).sub q hq)⟩

theorem Good.apply' {db db' : Db} {r} (h : Good db.dict) {sig : Sig} {raw : List Bytes}
    (e : sig.apply raw db = (db', r)) : Good db'.dict := by
  have : db' = (sig.apply raw db).1 := by rw [e]
  subst this; exact h.apply sig raw

theorem Good.runRegular {db : Db} (h : Good db.dict) (sig : Sig) (body : Body) (ctx : Ctx) (gate : Option Err)
    (raw : List Bytes) : Good (runRegular sig body ctx gate raw db).db.dict :=
  ⟨runRegular_nodup sig body ctx gate raw h.1, runRegular_noEmpty sig body ctx gate raw h.1 h.2⟩

/-! ## A small Hoare logic for `M` -/

def Pres (I : Sys → Prop) {α : Type} (m : M α) : Prop := ∀ s, I s → I (m s).2

def PresAt (I : Sys → Prop) {α : Type} (s : Sys) (m : M α) : Prop := I (m s).2

namespace Pres
variable {I : Sys → Prop} {α β : Type}

theorem pure (a : α) : Pres I (Pure.pure a : M α) := fun _ h => h

theorem bind {m : M α} {f : α → M β} (hm : Pres I m) (hf : ∀ a, Pres I (f a)) : Pres I (m >>= f) :=
  fun s h => hf (m s).1 (m s).2 (hm s h)

theorem bindV {m : M α} {f : α → M β} (R : α → Prop) (hm : ∀ s, I s → I (m s).2 ∧ R (m s).1)
    (hf : ∀ a, R a → Pres I (f a)) : Pres I (m >>= f) :=
  fun s h => hf (m s).1 (hm s h).2 (m s).2 (hm s h).1

theorem get_bind {f : Sys → M β} (hf : ∀ s, I s → PresAt I s (f s)) : Pres I (get >>= f) :=
  fun s h => hf s h

theorem at_of_pres {m : M α} {s : Sys} (hm : Pres I m) (h : I s) : PresAt I s m := hm s h

end Pres

theorem Pres.seq (I : Sys → Prop) : Seq (@Pres I) := ⟨Pres.pure, Pres.bind⟩

namespace Pres
variable {I : Sys → Prop} {α β : Type}

theorem map {m : M α} (g : α → β) (hm : Pres I m) : Pres I (g <$> m) := (Pres.seq I).map g hm

theorem forM {l : List α} {f : α → M PUnit} (hf : ∀ a, Pres I (f a)) : Pres I (l.forM f) := (Pres.seq I).forM hf

theorem forIn {l : List α} {f : α → β → M (ForInStep β)} (hf : ∀ a b, Pres I (f a b)) (init : β) :
    Pres I (forIn l init f) := (Pres.seq I).forIn hf init

theorem mapM {l : List α} {f : α → M β} (hf : ∀ a, Pres I (f a)) : Pres I (l.mapM f) := (Pres.seq I).mapM hf

end Pres

theorem Pres.getConn {I : Sys → Prop} (c : Nat) : Pres I (getConn c) := fun _ h => h
theorem Pres.get {I : Sys → Prop} : Pres I (get : M Sys) := fun _ h => h
theorem Pres.getDb {I : Sys → Prop} (i : Nat) : Pres I (getDb i) := fun _ h => h

/-! ## Histories -/

/-- the events of a history (those of the replay driver, plus a direct `_process_command` step) -/
inductive Ev where
  /-- choose the emulated server version -/
  | version (v : Nat)
  /-- a new `FakeSocket` -/
  | open (c : Nat)
  /-- `FakeSocket.close()` -/
  | close (c : Nat)
  /-- the connection object is garbage collected -/
  | gc (c : Nat)
  /-- the server is marked (dis)connected -/
  | conn (up : Bool)
  /-- `_process_command` of one parsed request, with the clock readings and random picks it may consume -/
  | request (mode : Mode) (c : Nat) (fields : List Bytes) (clocks : List Int) (picks : List (List Bytes))
  /-- `FakeSocket.sendall(data)` of arbitrary bytes (outage check, parser loop, every complete request) -/
  | send (mode : Mode) (c : Nat) (data : Bytes) (clocks : List Int) (picks : List (List Bytes))
  /-- a connection blocked in BLPOP/BRPOP/BRPOPLPUSH is woken (notified or spuriously) -/
  | wake (c : Nat) (clocks : List Int)
  /-- the wait of a blocked connection times out -/
  | timeout (c : Nat)
  /-- asyncio front-end: the retry task of a parked connection runs -/
  | awake (mode : Mode) (c : Nat) (clocks : List Int) (picks : List (List Bytes))
  /-- asyncio front-end: `async_timeout` fires -/
  | atimeout (mode : Mode) (c : Nat) (clocks : List Int) (picks : List (List Bytes))

/-- a client command: the RESP encoding of `fields` written to the socket -/
def Ev.cmd (mode : Mode) (c : Nat) (fields : List Bytes) (clocks : List Int := []) (picks : List (List Bytes) := []) : Ev :=
  .send mode c (encodeRequest fields) clocks picks

/-- the per-event outputs are reset, as the replay driver does -/
def Sys.beginEvent (s : Sys) : Sys := { s with out := [], fault := none, crashed := none }

def Sys.withHints (s : Sys) (clocks : List Int) (picks : List (List Bytes)) : Sys :=
  { s with clocks := clocks, picks := picks }

def stepEv (s : Sys) (e : Ev) : Sys :=
  let s := s.beginEvent
  match e with
  | .version v => { s with srv := { s.srv with version := v } }
  | .open c => (openConn c s).2
  | .close c => (closeConn c s).2
  | .gc c => (gcConn c s).2
  | .conn up => { s with srv := { s.srv with connected := up } }
  | .request mode c fields clocks picks => (processCommand mode c fields (s.withHints clocks picks)).2
  | .send mode c data clocks picks => (sendallGuarded mode c data (s.withHints clocks picks)).2
  | .wake c clocks => (wakeConn c (s.withHints clocks [])).2
  | .timeout c => (timeoutConn c s).2
  | .awake mode c clocks picks => (wakeConnAsync mode c (s.withHints clocks picks)).2
  | .atimeout mode c clocks picks => (timeoutConnAsync mode c (s.withHints clocks picks)).2

def runHistory (evs : List Ev) : Sys := evs.foldl stepEv {}

/-! ## Facts about returned values -/

theorem Pres.then {I : Sys → Prop} {α : Type} {m : M α} {Q : α → Prop} (h : ∀ s, I s → I (m s).2 ∧ Q (m s).1) :
    Then (@Pres I) m Q := fun _ hK => Pres.bindV Q h hK

def Ret {α : Type} (Q : α → Prop) (m : M α) : Prop := ∀ s, Q (m s).1

theorem Ret.pure {α : Type} {Q : α → Prop} {a : α} (h : Q a) : Ret Q (Pure.pure a : M α) := fun _ => h

theorem Ret.bind {α β : Type} {Q : β → Prop} {m : M α} {f : α → M β} (hf : ∀ a, Ret Q (f a)) : Ret Q (m >>= f) :=
  fun s => hf (m s).1 (m s).2

theorem Ret.bindV {α β : Type} {Q : β → Prop} (P : α → Prop) {m : M α} {f : α → M β} (hm : Ret P m)
    (hf : ∀ a, P a → Ret Q (f a)) : Ret Q (m >>= f) :=
  fun s => hf (m s).1 (hm s) (m s).2

def StepInv {β : Type} (Inv : β → Prop) : ForInStep β → Prop
  | .done b => Inv b
  | .yield b => Inv b

theorem Ret.forIn {α β : Type} (Inv : β → Prop) {l : List α} {f : α → β → M (ForInStep β)} {init : β}
    (h0 : Inv init) (hf : ∀ a b, Inv b → Ret (StepInv Inv) (f a b)) : Ret Inv (forIn l init f) := by
  induction l generalizing init with
  | nil => exact Ret.pure h0
  | cons a as ih =>
    rw [List.forIn_cons]
    refine Ret.bindV (StepInv Inv) (hf a init h0) (fun r hr => ?_)
    cases r with
    | done b => exact Ret.pure hr
    | yield b => exact ih hr

theorem Ret.loop_pure {β : Type} (Inv : β → Prop) (μ : β → Nat) (f : Unit → β → M (ForInStep β))
    (hf : ∀ b, ∃ r, f () b = Pure.pure r ∧ (Inv b → StepInv Inv r) ∧ ∀ b', r = .yield b' → μ b' < μ b)
    (init : β) (h0 : Inv init) : Ret Inv (ForIn.forIn Lean.Loop.mk init f) := by
  induction h : μ init using Nat.strongRecOn generalizing init with
  | _ n ih =>
    rw [loop_unfold]
    obtain ⟨r, hr, hinv, hdec⟩ := hf init
    rw [hr]
    intro s
    cases r with
    | done v => exact hinv h0
    | yield v => exact ih (μ v) (by rw [← h]; exact hdec v rfl) v (hinv h0) rfl s

end FR

import FR.Proofs.C18aArith
/-!
# C18a: what the rounding `Dbl.RN` / `roundAbs` means, in rational arithmetic

`roundPos_core`: the result of `roundPos neg num den` is `M · 2^e` where `M` is the integer nearest to
`X = num/den / 2^e` (ties to even) and `2^52 ≤ X` unless `e = -1074` (below the normal range).
`cand_far` / `nearest_of_core`: in units of `2^e` every other candidate `m' · 2^e'` is an integer or lies below `2^52 ≤ X`,
so none is closer than `M`.  `RN_fin_core` carries this to a finite `RN z q`; from it `RN_nearest` (among all canonical
doubles, either sign) and `RN_half_ulp`.  The thresholds `RN_isInf_iff`, `RN_eq_inf_iff`, `RN_isZero_iff` are those of
`roundPos` (C18fRound) in rational form; `RN_val`: the value of a canonical double rounds to that double.
-/
namespace FR.C18a
open FR FR.C18f FR.DumpRound

theorem sN_div_sD (num den : Nat) (hd : 0 < den) (e : Int) :
    (sN num e : ℚ) / (sD den e : ℚ) = (num : ℚ) / (den : ℚ) / (2 : ℚ) ^ e := by
  have hdq : (den : ℚ) ≠ 0 := by exact_mod_cast hd.ne'
  unfold sN sD
  split
  · rename_i he
    have : e = (e.toNat : Int) := by omega
    conv_rhs => rw [this, zpow_natCast]
    push_cast
    rw [div_div]
  · rename_i he
    have : e = -((-e).toNat : Int) := by omega
    conv_rhs => rw [this, zpow_neg, zpow_natCast]
    push_cast
    field_simp

theorem rm_rat (n' d' : Nat) (hd : 0 < d') :
    |(rm n' d' : ℚ) - (n' : ℚ) / (d' : ℚ)| ≤ 1 / 2 ∧
    (|(rm n' d' : ℚ) - (n' : ℚ) / (d' : ℚ)| = 1 / 2 → rm n' d' % 2 = 0) := by
  obtain ⟨s1, s2, _, _, s5, s6⟩ := rm_spec n' d' hd
  generalize rm n' d' = M at *
  have hdq : (0 : ℚ) < (d' : ℚ) := by exact_mod_cast hd
  have hrw : (M : ℚ) - (n' : ℚ) / (d' : ℚ) = ((M : ℚ) * d' - n') / d' := by field_simp
  have c1 : (2 : ℚ) * ((M : ℚ) * d') ≤ 2 * n' + d' := by exact_mod_cast s1
  have c2 : (2 : ℚ) * n' ≤ 2 * ((M : ℚ) * d') + d' := by exact_mod_cast s2
  rw [hrw, abs_div, abs_of_pos hdq]
  constructor
  · rw [div_le_iff₀ hdq, abs_le]
    constructor <;> linarith
  · intro h
    rw [div_eq_iff hdq.ne'] at h
    rcases abs_cases ((M : ℚ) * d' - n') with ⟨ha, _⟩ | ⟨ha, _⟩
    · apply s5
      have : (2 : ℚ) * ((M : ℚ) * d') = 2 * n' + d' := by linarith
      exact_mod_cast this
    · apply s6
      have : (2 : ℚ) * n' = 2 * ((M : ℚ) * d') + d' := by linarith
      exact_mod_cast this

/-- a zero numerator gives `e = -1074`, `M = 0` -/
theorem roundPos_core (neg : Bool) (num den : Nat) (hd : 0 < den) :
    ∃ (e : Int) (M : Nat),
      (e ≠ -1074 → (2 : ℚ) ^ 52 ≤ (num : ℚ) / den / (2 : ℚ) ^ e) ∧
      |(M : ℚ) - (num : ℚ) / den / (2 : ℚ) ^ e| ≤ 1 / 2 ∧
      (|(M : ℚ) - (num : ℚ) / den / (2 : ℚ) ^ e| = 1 / 2 → M % 2 = 0) ∧
      Dbl.roundPos neg num den =
        if M = 2 ^ 53 then (if e + 1 > 971 then .inf neg else .fin neg (2 ^ 52) (e + 1))
        else (if e > 971 then .inf neg else .fin neg M e) := by
  by_cases h0 : num = 0
  · subst h0
    refine ⟨-1074, 0, fun h => absurd rfl h, ?_, fun _ => rfl, roundPos_zero_num neg den⟩
    rw [Nat.cast_zero, zero_div, zero_div, sub_zero, abs_zero]
    norm_num
  obtain ⟨hd', _, _, hq52, hres⟩ := roundPos_cases neg num den h0 hd
  obtain ⟨r1, r2⟩ := rm_rat (sN num (rE num den)) (sD den (rE num den)) hd'
  rw [sN_div_sD num den hd] at r1 r2
  have hdq : (0 : ℚ) < (sD den (rE num den) : ℚ) := by exact_mod_cast hd'
  refine ⟨rE num den, rm (sN num (rE num den)) (sD den (rE num den)), fun h => ?_, r1, r2, hres⟩
  rw [← sN_div_sD num den hd, le_div_iff₀ hdq]
  have := (Nat.le_div_iff_mul_le hd').mp (hq52 h)
  exact_mod_cast this

theorem int_gap (X : ℚ) (M K : Nat) (hk : K ≠ M) : 1 ≤ |(K : ℚ) - X| + |(M : ℚ) - X| := by
  have h1 : (1 : ℚ) ≤ |(K : ℚ) - (M : ℚ)| := by
    have : (1 : Int) ≤ |(K : Int) - (M : Int)| := Int.one_le_abs (sub_ne_zero.mpr (by exact_mod_cast hk))
    exact_mod_cast this
  have := abs_sub_le (K : ℚ) X (M : ℚ)
  rw [abs_sub_comm X (M : ℚ)] at this
  linarith

theorem int_nearest (X : ℚ) (M K : Nat) (h : |(M : ℚ) - X| ≤ 1 / 2) : |(M : ℚ) - X| ≤ |(K : ℚ) - X| := by
  by_cases hk : K = M
  · rw [hk]
  · have := int_gap X M K hk
    linarith

theorem abs_scaled_sub (x : ℚ) (e : Int) (M : Nat) :
    |(M : ℚ) * (2 : ℚ) ^ e - x| = |(M : ℚ) - x / (2 : ℚ) ^ e| * (2 : ℚ) ^ e := by
  have hP : (0 : ℚ) < (2 : ℚ) ^ e := two_zpow_pos e
  have e1 : (M : ℚ) * (2 : ℚ) ^ e - x = ((M : ℚ) - x / (2 : ℚ) ^ e) * (2 : ℚ) ^ e := by field_simp
  rw [e1, abs_mul, abs_of_pos hP]

theorem abs_scaled_sub' (x : ℚ) (e e' : Int) (m' : Nat) :
    |(m' : ℚ) * (2 : ℚ) ^ e' - x| = |(m' : ℚ) * (2 : ℚ) ^ (e' - e) - x / (2 : ℚ) ^ e| * (2 : ℚ) ^ e := by
  have hP : (0 : ℚ) < (2 : ℚ) ^ e := two_zpow_pos e
  have e2 : (m' : ℚ) * (2 : ℚ) ^ e' - x = ((m' : ℚ) * (2 : ℚ) ^ (e' - e) - x / (2 : ℚ) ^ e) * (2 : ℚ) ^ e := by
    rw [zpow_sub₀ (by norm_num)]; field_simp
  rw [e2, abs_mul, abs_of_pos hP]

theorem cand_scaled (X : ℚ) (e : Int) (h52 : e ≠ -1074 → (2 : ℚ) ^ 52 ≤ X) (m' : Nat) (e' : Int)
    (hm' : m' < 2 ^ 53) (he' : -1074 ≤ e') :
    (∃ K : Nat, (m' : ℚ) * (2 : ℚ) ^ (e' - e) = (K : ℚ)) ∨
      ((m' : ℚ) * (2 : ℚ) ^ (e' - e) < (2 : ℚ) ^ 52 ∧ (2 : ℚ) ^ 52 ≤ X) := by
  by_cases hge : e ≤ e'
  · refine Or.inl ⟨m' * 2 ^ (e' - e).toNat, ?_⟩
    have : e' - e = ((e' - e).toNat : Int) := by omega
    rw [this, zpow_natCast]
    push_cast
    rfl
  · refine Or.inr ⟨?_, h52 (by omega)⟩
    have hk : e' - e = -((e - e').toNat : Int) := by omega
    have h1 : (2 : ℚ) ^ 1 ≤ (2 : ℚ) ^ (e - e').toNat := pow_le_pow_right₀ (by norm_num) (by omega)
    rw [hk, zpow_neg, zpow_natCast, ← div_eq_mul_inv]
    generalize (2 : ℚ) ^ (e - e').toNat = P at *
    have hPp : (0 : ℚ) < P := by linarith
    rw [div_lt_iff₀ hPp]
    have h2 : (m' : ℚ) < (2 : ℚ) ^ 53 := by exact_mod_cast hm'
    have h3 : (2 : ℚ) ^ 52 * (2 : ℚ) ^ 1 ≤ (2 : ℚ) ^ 52 * P := mul_le_mul_of_nonneg_left h1 (by positivity)
    have h4 : (2 : ℚ) ^ 52 * (2 : ℚ) ^ 1 = (2 : ℚ) ^ 53 := by norm_num
    linarith

theorem cand_far (X : ℚ) (e : Int) (h52 : e ≠ -1074 → (2 : ℚ) ^ 52 ≤ X) (M : Nat) (hM : |(M : ℚ) - X| ≤ 1 / 2)
    (m' : Nat) (e' : Int) (hm' : m' < 2 ^ 53) (he' : -1074 ≤ e') (hne : (m' : ℚ) * (2 : ℚ) ^ (e' - e) ≠ (M : ℚ)) :
    |(M : ℚ) - X| ≤ |(m' : ℚ) * (2 : ℚ) ^ (e' - e) - X| ∧
      (|(m' : ℚ) * (2 : ℚ) ^ (e' - e) - X| = |(M : ℚ) - X| → |(M : ℚ) - X| = 1 / 2) := by
  rcases cand_scaled X e h52 m' e' hm' he' with ⟨K, hK⟩ | ⟨hW, hX⟩
  · rw [hK] at hne ⊢
    have := int_gap X M K (by exact_mod_cast hne)
    exact ⟨by linarith, fun h => by linarith⟩
  · -- the candidate lies below `2^52 ≤ X`: strictly farther than the integer `2^52`, which is no closer than `M`
    generalize (m' : ℚ) * (2 : ℚ) ^ (e' - e) = W at *
    have := int_nearest X M (2 ^ 52) hM
    rw [Nat.cast_pow, Nat.cast_ofNat, abs_sub_comm ((2 : ℚ) ^ 52) X,
      abs_of_nonneg (by linarith : (0 : ℚ) ≤ X - (2 : ℚ) ^ 52)] at this
    rw [abs_sub_comm W X, abs_of_nonneg (by linarith : (0 : ℚ) ≤ X - W)]
    exact ⟨by linarith, fun h => by linarith⟩

theorem nearest_of_core (x : ℚ) (e : Int) (M : Nat) (h52 : e ≠ -1074 → (2 : ℚ) ^ 52 ≤ x / (2 : ℚ) ^ e)
    (hM : |(M : ℚ) - x / (2 : ℚ) ^ e| ≤ 1 / 2) (m' : Nat) (e' : Int) (hm' : m' < 2 ^ 53) (he' : -1074 ≤ e') :
    |(M : ℚ) * (2 : ℚ) ^ e - x| ≤ |(m' : ℚ) * (2 : ℚ) ^ e' - x| := by
  rw [abs_scaled_sub' x e e' m', abs_scaled_sub x e M]
  apply mul_le_mul_of_nonneg_right _ (two_zpow_pos e).le
  by_cases hW : (m' : ℚ) * (2 : ℚ) ^ (e' - e) = (M : ℚ)
  · rw [hW]
  · exact (cand_far _ e h52 M hM m' e' hm' he' hW).1

theorem roundAbs_wf (neg : Bool) (q : ℚ) : Dbl.WF (roundAbs neg q) :=
  (wf_iff_canon _).mpr (roundPos_canon neg _ _ q.den_pos)

theorem roundAbs_fin_core (neg : Bool) (q : ℚ) {n : Bool} {m : Nat} {e' : Int}
    (h : roundAbs neg q = .fin n m e') :
    n = neg ∧ ∃ (e : Int) (M : Nat), e ≤ e' ∧ (m : ℚ) * (2 : ℚ) ^ e' = (M : ℚ) * (2 : ℚ) ^ e ∧
      (e ≠ -1074 → (2 : ℚ) ^ 52 ≤ |q| / (2 : ℚ) ^ e) ∧ |(M : ℚ) - |q| / (2 : ℚ) ^ e| ≤ 1 / 2 ∧
      ((M = m ∧ e = e') ∨ m = 2 ^ 52) ∧ (|(M : ℚ) - |q| / (2 : ℚ) ^ e| = 1 / 2 → M % 2 = 0) := by
  obtain ⟨e, M, hX52, hhalf, htie, hres⟩ := roundPos_core neg q.num.natAbs q.den q.den_pos
  rw [← abs_eq_natAbs_div] at hX52 hhalf htie
  unfold roundAbs at h
  rw [hres] at h
  split at h
  · rename_i hM53
    split at h
    · cases h
    · injection h with h1 h2 h3
      subst h1 h2 h3 hM53
      refine ⟨rfl, e, 2 ^ 53, by omega, ?_, hX52, hhalf, Or.inr rfl, htie⟩
      rw [zpow_add₀ (by norm_num)]
      push_cast
      ring
  · split at h
    · cases h
    · injection h with h1 h2 h3
      subst h1 h2 h3
      exact ⟨rfl, e, M, le_refl _, rfl, hX52, hhalf, Or.inl ⟨rfl, rfl⟩, htie⟩

set_option exponentiation.threshold 1100 in
theorem ovf_cast : ((ovf : Nat) : ℚ) = (2 : ℚ) ^ 1024 - (2 : ℚ) ^ 970 := by
  have h : ovf + 2 ^ 970 = 2 ^ 1024 := by unfold ovf; decide +kernel
  have : ((ovf + 2 ^ 970 : Nat) : ℚ) = ((2 ^ 1024 : Nat) : ℚ) := by rw [h]
  push_cast at this
  linarith

/-- overflow from `2^1024 − 2^970` on: the midpoint between the largest double `2^1024 − 2^971` and `2^1024` -/
theorem roundAbs_isInf_iff (neg : Bool) (q : ℚ) :
    (roundAbs neg q).isInf = true ↔ (2 : ℚ) ^ 1024 - (2 : ℚ) ^ 970 ≤ |q| := by
  unfold roundAbs
  rw [roundPos_isInf_iff neg _ _ q.den_pos, ← ovf_cast, abs_eq_natAbs_div,
    le_div_iff₀ (by exact_mod_cast q.den_pos)]
  norm_cast

set_option exponentiation.threshold 1100 in
/-- underflow up to `2^-1075`: half the smallest subnormal `2^-1074` (the tie goes to the even significand 0) -/
theorem roundAbs_isZero_iff (neg : Bool) (q : ℚ) :
    (roundAbs neg q).isZero = true ↔ |q| ≤ (2 : ℚ) ^ (-1075 : Int) := by
  unfold roundAbs
  rw [roundPos_isZero_iff neg _ _ q.den_pos, abs_eq_natAbs_div,
    div_le_iff₀ (by exact_mod_cast q.den_pos), zpow_neg, show ((1075 : Int)) = ((1075 : Nat) : Int) from rfl,
    zpow_natCast, inv_mul_eq_div, le_div_iff₀ (by positivity)]
  norm_cast

theorem roundAbs_shape (neg : Bool) (q : ℚ) :
    roundAbs neg q = .inf neg ∨ ∃ m e, roundAbs neg q = .fin neg m e := roundPos_shape neg _ _

set_option exponentiation.threshold 1100 in
theorem roundAbs_exact (neg : Bool) (q : ℚ) (m : Nat) (e : Int) (hwf : Dbl.WF (.fin neg m e)) (hm : m ≠ 0)
    (h : |q| = (m : ℚ) * (2 : ℚ) ^ e) : roundAbs neg q = .fin neg m e := by
  have he : -1074 ≤ e := hwf.2.1
  rw [roundAbs_of_abs neg q (m * 2 ^ (e + 1074).toNat) (2 ^ 1074) (Nat.pow_pos (by decide))]
  · exact roundPos_exact_canon neg m e ((wf_iff_canon _).mp hwf) hm
  · rw [h]
    have : e = ((e + 1074).toNat : Int) - (1074 : Nat) := by omega
    conv_lhs => rw [this, zpow_sub₀ (by norm_num), zpow_natCast, zpow_natCast]
    push_cast
    ring

theorem RN_zero (z : Bool) : Dbl.RN z 0 = .fin z 0 (-1074) := by
  unfold Dbl.RN; rw [if_pos rfl]

theorem RN_of_ne {q : ℚ} (hq : q ≠ 0) (z : Bool) : Dbl.RN z q = roundAbs (decide (q < 0)) q := by
  unfold Dbl.RN; rw [if_neg hq]

theorem RN_roundAbs (z : Bool) (q : ℚ) :
    Dbl.RN z q = roundAbs (if q = 0 then z else decide (q < 0)) q := by
  unfold Dbl.RN
  split
  · rename_i h; subst h; rfl
  · rfl

theorem RN_wf (z : Bool) (q : ℚ) : Dbl.WF (Dbl.RN z q) := by
  rw [RN_roundAbs]; exact roundAbs_wf _ _

theorem RN_not_nan (z : Bool) (q : ℚ) : (Dbl.RN z q).isNaN = false := by
  rw [RN_roundAbs]; exact roundPos_not_nan _ _ _

theorem RN_signBit (z : Bool) (q : ℚ) : (Dbl.RN z q).signBit = if q = 0 then z else decide (q < 0) := by
  rw [RN_roundAbs]
  rcases roundAbs_shape (if q = 0 then z else decide (q < 0)) q with h | ⟨m, e, h⟩ <;> rw [h] <;> rfl

theorem abs_val_sub (z : Bool) (q : ℚ) (m : Nat) (e : Int) :
    |Dbl.val (.fin (if q = 0 then z else decide (q < 0)) m e) - q| = |(m : ℚ) * (2 : ℚ) ^ e - abs q| := by
  rw [val_fin]
  rcases lt_trichotomy q 0 with h | rfl | h
  · simp only [h.ne, h, decide_true, if_true, if_false, abs_of_neg h]
    rw [← abs_neg]
    congr 1
    ring
  · cases z <;> simp
  · simp only [h.ne', h.not_gt, decide_false, Bool.false_eq_true, if_false, abs_of_pos h, one_mul]

theorem wrong_sign_far {z : Bool} {q : ℚ} {n' : Bool} (hs : n' ≠ if q = 0 then z else decide (q < 0))
    (m' : Nat) (e' : Int) :
    |q| ≤ |Dbl.val (.fin n' m' e') - q| ∧ (|Dbl.val (.fin n' m' e') - q| = |q| → Dbl.val (.fin n' m' e') = 0) := by
  obtain ⟨v1, v2⟩ := val_sign n' m' e'
  rcases lt_trichotomy q 0 with hlt | rfl | hgt
  · rw [if_neg hlt.ne, decide_eq_true hlt] at hs
    have := v2 (Bool.eq_false_of_not_eq_true hs)
    rw [abs_of_neg hlt, abs_of_nonneg (by linarith)]
    exact ⟨by linarith, fun h => by linarith⟩
  · simp
  · rw [if_neg hgt.ne', decide_eq_false hgt.not_gt] at hs
    have := v1 (Bool.eq_true_of_not_eq_false hs)
    rw [abs_of_pos hgt, abs_sub_comm, abs_of_nonneg (by linarith)]
    exact ⟨by linarith, fun h => by linarith⟩

/-- `e`, `M` are those of `roundPos_core`; `m = M` and `e' = e`, unless `M = 2^53` was renormalised to `m = 2^52` -/
theorem RN_fin_core (z : Bool) (q : ℚ) {n : Bool} {m : Nat} {e' : Int} (h : Dbl.RN z q = .fin n m e') :
    n = (if q = 0 then z else decide (q < 0)) ∧ ∃ (e : Int) (M : Nat), e ≤ e' ∧
      |Dbl.val (.fin n m e') - q| = |(M : ℚ) - |q| / (2 : ℚ) ^ e| * (2 : ℚ) ^ e ∧
      (e ≠ -1074 → (2 : ℚ) ^ 52 ≤ |q| / (2 : ℚ) ^ e) ∧ |(M : ℚ) - |q| / (2 : ℚ) ^ e| ≤ 1 / 2 ∧
      ((M = m ∧ e = e') ∨ m = 2 ^ 52) ∧ (|(M : ℚ) - |q| / (2 : ℚ) ^ e| = 1 / 2 → M % 2 = 0) := by
  rw [RN_roundAbs] at h
  obtain ⟨rfl, e, M, hee, hv, h52, hhalf, hc, htie⟩ := roundAbs_fin_core _ q h
  exact ⟨rfl, e, M, hee, by rw [abs_val_sub, hv, abs_scaled_sub], h52, hhalf, hc, htie⟩

theorem RN_nearest (z : Bool) (q : ℚ) {n : Bool} {m : Nat} {e : Int} (h : Dbl.RN z q = .fin n m e)
    (n' : Bool) (m' : Nat) (e' : Int) (hwf : Dbl.WF (.fin n' m' e')) :
    |Dbl.val (.fin n m e) - q| ≤ |Dbl.val (.fin n' m' e') - q| := by
  obtain ⟨_, e0, M, _, hv, h52, hhalf, _, _⟩ := RN_fin_core z q h
  rw [hv, ← abs_scaled_sub]
  by_cases hs : n' = if q = 0 then z else decide (q < 0)
  · rw [hs, abs_val_sub]
    exact nearest_of_core |q| e0 M h52 hhalf m' e' hwf.1 hwf.2.1
  · -- the zero is a candidate, and it is `|q|` away
    have h0 := nearest_of_core |q| e0 M h52 hhalf 0 (-1074) (by decide) (by decide)
    rw [Nat.cast_zero, zero_mul, zero_sub, abs_neg, abs_abs] at h0
    exact le_trans h0 (wrong_sign_far hs m' e').1

theorem RN_half_ulp (z : Bool) (q : ℚ) {n : Bool} {m : Nat} {e : Int} (h : Dbl.RN z q = .fin n m e) :
    |Dbl.val (.fin n m e) - q| ≤ (2 : ℚ) ^ e / 2 := by
  obtain ⟨_, e0, M, hee, hv, _, hhalf, _, _⟩ := RN_fin_core z q h
  rw [hv]
  have hmono : (2 : ℚ) ^ e0 ≤ (2 : ℚ) ^ e := zpow_le_zpow_right₀ (by norm_num) hee
  have := mul_le_mul_of_nonneg_right hhalf (two_zpow_pos e0).le
  linarith

theorem RN_isInf_iff (z : Bool) (q : ℚ) :
    (Dbl.RN z q).isInf = true ↔ (2 : ℚ) ^ 1024 - (2 : ℚ) ^ 970 ≤ |q| := by
  rw [RN_roundAbs]; exact roundAbs_isInf_iff _ q

theorem RN_eq_inf_iff (z : Bool) (q : ℚ) (n : Bool) :
    Dbl.RN z q = .inf n ↔ (2 : ℚ) ^ 1024 - (2 : ℚ) ^ 970 ≤ |q| ∧ n = decide (q < 0) := by
  rw [← RN_isInf_iff z q]
  by_cases hq : q = 0
  · subst hq
    rw [RN_zero]
    constructor
    · intro h; cases h
    · rintro ⟨h, _⟩; cases h
  · rw [RN_of_ne hq]
    rcases roundAbs_shape (decide (q < 0)) q with h | ⟨m, e, h⟩ <;> rw [h]
    · constructor
      · intro h'; injection h' with h'; exact ⟨rfl, h'.symm⟩
      · rintro ⟨_, rfl⟩; rfl
    · constructor
      · intro h'; cases h'
      · rintro ⟨h', _⟩; cases h'

theorem RN_isZero_iff (z : Bool) (q : ℚ) :
    (Dbl.RN z q).isZero = true ↔ |q| ≤ (2 : ℚ) ^ (-1075 : Int) := by
  rw [RN_roundAbs]; exact roundAbs_isZero_iff _ q

theorem RN_val (n : Bool) (m : Nat) (e : Int) (hwf : Dbl.WF (.fin n m e)) :
    Dbl.RN n (Dbl.val (.fin n m e)) = .fin n m e := by
  by_cases hm : m = 0
  · subst hm
    have he : e = -1074 := hwf.2.2.2.2 rfl
    subst he
    rw [val_fin]
    simp only [Nat.cast_zero, mul_zero, zero_mul]
    exact RN_zero n
  · rw [RN_of_ne (mt (val_eq_zero_iff n m e).mp hm), decide_val_neg hm]
    exact roundAbs_exact n _ m e hwf hm (abs_val n m e)

theorem RN_val_of_ne (z n : Bool) (m : Nat) (e : Int) (hwf : Dbl.WF (.fin n m e)) (hm : m ≠ 0) :
    Dbl.RN z (Dbl.val (.fin n m e)) = .fin n m e := by
  have hv := mt (val_eq_zero_iff n m e).mp hm
  have := RN_val n m e hwf
  rw [RN_of_ne hv] at this
  rw [RN_of_ne hv, this]

end FR.C18a

import FR
/-!
# The decimal codec: `natDigits`, `intBytes`, `digitsVal`, `parseCanonInt`

* `strBytes_eq`: how `strBytes` of a literal computes;
* `natDigits_eq_if` (and the structural `natDigits'`): the recursion equation of `natDigits`, from `Nat.toDigits`;
* digit bytes; the shape of `natDigits` (only digits, no leading zero: `natDigits_head`);
* `digitsVal_natDigits`, `natDigits_digitsVal`: value and rendering are inverse on canonical digit strings;
* `parseCanonInt_eq_some_iff`: `parseCanonInt b = some n ↔ b = intBytes n`; `intBytes_injective`.
-/
namespace FR

/-! ### `ByteArray.toList` is the underlying list -/

theorem byteArray_toList_loop (bs : ByteArray) (i : Nat) (r : List UInt8) :
    ByteArray.toList.loop bs i r = r.reverse ++ bs.data.toList.drop i := by
  fun_induction ByteArray.toList.loop bs i r with
  | case1 i r h ih =>
    rw [ih]
    have h' : i < bs.data.toList.length := h
    rw [List.drop_eq_getElem_cons h']
    simp only [List.reverse_cons, List.append_assoc, List.singleton_append]
    congr 2
    have h2 : i < bs.data.size := by simpa using h'
    show bs.data[i]! = _
    rw [getElem!_pos bs.data i h2]
    simp
  | case2 i r h =>
    have h' : bs.data.toList.length ≤ i := Nat.le_of_not_lt h
    rw [List.drop_eq_nil_of_le h', List.append_nil]

theorem byteArray_toList (bs : ByteArray) : bs.toList = bs.data.toList := by
  unfold ByteArray.toList
  rw [byteArray_toList_loop]; simp

theorem strBytes_ofList (cs : List Char) :
    (String.ofList cs).toUTF8.toList = cs.flatMap String.utf8EncodeChar := by
  rw [byteArray_toList, String.toUTF8_eq_toByteArray, String.toByteArray_ofList, List.utf8Encode,
    List.toList_data_toByteArray]

theorem strBytes_eq_flatMap (s : String) : strBytes s = s.toList.flatMap String.utf8EncodeChar := by
  unfold strBytes
  rw [← strBytes_ofList, String.ofList_toList]

/-- `strBytes` of a literal computes by `rw [strBytes_eq]; rfl` (`ByteArray.toList` itself is
defined by well-founded recursion and does not reduce). -/
theorem strBytes_eq (s : String) : strBytes s = s.toUTF8.data.toList := byteArray_toList _

/-! ### the recursion equation of `natDigits` -/

def digitByte (d : Nat) : UInt8 := UInt8.ofNat (48 + d)

theorem utf8EncodeChar_digitChar {d : Nat} (h : d < 10) :
    String.utf8EncodeChar (Nat.digitChar d) = [digitByte d] := by
  match d, h with
  | 0, _ | 1, _ | 2, _ | 3, _ | 4, _ | 5, _ | 6, _ | 7, _ | 8, _ | 9, _ => decide

theorem natDigits_eq_flatMap (n : Nat) :
    natDigits n = (Nat.toDigits 10 n).flatMap String.utf8EncodeChar := by
  unfold natDigits
  rw [Nat.toString_eq_ofList_toDigits, strBytes_ofList]

theorem natDigits_eq_if (n : Nat) :
    natDigits n = if n < 10 then [digitByte n] else natDigits (n / 10) ++ [digitByte (n % 10)] := by
  rw [natDigits_eq_flatMap, natDigits_eq_flatMap, Nat.toDigits_eq_if (by decide)]
  split
  · simp [utf8EncodeChar_digitChar ‹_›]
  · simp [utf8EncodeChar_digitChar (Nat.mod_lt n (by decide : 0 < 10))]

theorem natDigits_lt {n : Nat} (h : n < 10) : natDigits n = [digitByte n] := by
  rw [natDigits_eq_if, if_pos h]

theorem natDigits_ge {n : Nat} (h : 10 ≤ n) :
    natDigits n = natDigits (n / 10) ++ [digitByte (n % 10)] := by
  rw [natDigits_eq_if, if_neg (by omega)]

/-- the equivalent structural definition -/
def natDigits' (n : Nat) : Bytes :=
  if n < 10 then [digitByte n] else natDigits' (n / 10) ++ [digitByte (n % 10)]

theorem natDigits_eq_natDigits' (n : Nat) : natDigits n = natDigits' n := by
  induction n using Nat.strongRecOn with
  | _ n ih =>
    rw [natDigits_eq_if, natDigits']
    split
    · rfl
    · rw [ih (n / 10) (by omega)]

theorem natDigits_zero : natDigits 0 = [48] := by
  rw [natDigits_lt (by decide)]; rfl

/-! ### digit bytes -/

theorem isDigit_iff (c : UInt8) : isDigit c = true ↔ 48 ≤ c.toNat ∧ c.toNat ≤ 57 := by
  simp [isDigit, UInt8.le_iff_toNat_le]

theorem digitByte_toNat {d : Nat} (h : d < 10) : (digitByte d).toNat = 48 + d := by
  unfold digitByte
  rw [UInt8.toNat_ofNat']; omega

theorem isDigit_digitByte {d : Nat} (h : d < 10) : isDigit (digitByte d) = true := by
  rw [isDigit_iff, digitByte_toNat h]; omega

theorem digitByte_of_isDigit {c : UInt8} (h : isDigit c = true) : digitByte (c.toNat - 48) = c := by
  rw [isDigit_iff] at h
  unfold digitByte
  rw [show 48 + (c.toNat - 48) = c.toNat by omega, UInt8.ofNat_toNat]

theorem digitByte_eq_48_iff {d : Nat} (h : d < 10) : digitByte d = 48 ↔ d = 0 := by
  rw [← UInt8.toNat_inj, digitByte_toNat h]
  show 48 + d = 48 ↔ _
  omega

/-! ### shape of `natDigits` -/

theorem natDigits_ne_nil (n : Nat) : natDigits n ≠ [] := by
  rw [natDigits_eq_if]; split <;> simp

theorem natDigits_all_isDigit (n : Nat) : (natDigits n).all isDigit = true := by
  induction n using Nat.strongRecOn with
  | _ n ih =>
    rw [natDigits_eq_if]
    split
    · simp [isDigit_digitByte ‹_›]
    · rw [List.all_append, ih (n / 10) (by omega)]
      simp [isDigit_digitByte (Nat.mod_lt n (by decide : 0 < 10))]

theorem natDigits_isDigit_of_mem {n : Nat} {c : UInt8} (h : c ∈ natDigits n) : isDigit c = true :=
  List.all_eq_true.mp (natDigits_all_isDigit n) c h

/-- no leading zero unless `n = 0` -/
theorem natDigits_head (n : Nat) :
    ∃ d rest, natDigits n = d :: rest ∧ (d = 48 ↔ n = 0) ∧ (n = 0 → rest = []) := by
  induction n using Nat.strongRecOn with
  | _ n ih =>
    by_cases h : n < 10
    · exact ⟨digitByte n, [], natDigits_lt h, digitByte_eq_48_iff h, fun _ => rfl⟩
    · obtain ⟨d, rest, e, hd, _⟩ := ih (n / 10) (by omega)
      refine ⟨d, rest ++ [digitByte (n % 10)], ?_, ?_, ?_⟩
      · rw [natDigits_ge (by omega), e]; rfl
      · rw [hd]; omega
      · omega

theorem natDigits_head_ne_zero {n : Nat} (h : n ≠ 0) :
    ∃ d rest, natDigits n = d :: rest ∧ d ≠ 48 := by
  obtain ⟨d, rest, e, hd, _⟩ := natDigits_head n
  exact ⟨d, rest, e, fun h48 => h (hd.mp h48)⟩

/-! ### `digitsVal` -/

theorem digitsVal_append_singleton (ds : Bytes) (c : UInt8) :
    digitsVal (ds ++ [c]) = digitsVal ds * 10 + (c.toNat - 48) := by
  simp [digitsVal, List.foldl_append]

theorem digitsVal_singleton (c : UInt8) : digitsVal [c] = c.toNat - 48 := by
  simp [digitsVal]

theorem digitsVal_natDigits (n : Nat) : digitsVal (natDigits n) = n := by
  induction n using Nat.strongRecOn with
  | _ n ih =>
    by_cases h : n < 10
    · rw [natDigits_lt h, digitsVal_singleton, digitByte_toNat h]; omega
    · rw [natDigits_ge (by omega), digitsVal_append_singleton, ih (n / 10) (by omega),
        digitByte_toNat (Nat.mod_lt n (by decide))]
      omega

theorem foldl_digits_ge (ds : Bytes) (acc : Nat) :
    acc ≤ ds.foldl (fun acc c => acc * 10 + (c.toNat - 48)) acc := by
  induction ds generalizing acc with
  | nil => exact Nat.le_refl _
  | cons c cs ih =>
    simp only [List.foldl_cons]
    exact Nat.le_trans (by omega) (ih _)

theorem digitsVal_pos {d : UInt8} {rest : Bytes} (hd : isDigit d = true) (h48 : d ≠ 48) :
    0 < digitsVal (d :: rest) := by
  rw [isDigit_iff] at hd
  have : d.toNat ≠ 48 := fun h => h48 (UInt8.toNat_inj.mp h)
  simp only [digitsVal, List.foldl_cons]
  exact Nat.lt_of_lt_of_le (by omega) (foldl_digits_ge rest _)

/-- a canonical digit string is the rendering of its value -/
theorem natDigits_digitsVal_aux (k : Nat) : ∀ ds : Bytes, ds.length = k →
    ds.all isDigit = true → ds ≠ [] → (ds.head? ≠ some 48 ∨ ds = [48]) →
    natDigits (digitsVal ds) = ds := by
  induction k with
  | zero => intro ds hl _ hne; exact absurd (List.length_eq_zero_iff.mp hl) hne
  | succ k ih =>
    intro ds hl hall hne hhead
    rcases List.eq_nil_or_concat ds with h | ⟨init, c, h⟩
    · exact absurd h hne
    · rw [List.concat_eq_append] at h
      subst h
      rw [List.all_append] at hall
      have hinit : init.all isDigit = true := by simp_all
      have hc : isDigit c = true := by simp_all
      have hc' := (isDigit_iff c).mp hc
      rw [digitsVal_append_singleton]
      cases init with
      | nil =>
        rw [show digitsVal [] = 0 from rfl, natDigits_lt (by omega)]
        simp only [Nat.zero_mul, Nat.zero_add, List.nil_append]
        rw [digitByte_of_isDigit hc]
      | cons d rest =>
        have hd48 : d ≠ 48 := by
          rcases hhead with h | h
          · intro e; apply h; simp [e]
          · simp at h
        have hd : isDigit d = true := by simp_all
        have hpos := digitsVal_pos (rest := rest) hd hd48
        have hlen : (d :: rest).length = k := by simpa using hl
        have hrec := ih (d :: rest) hlen hinit (by simp) (Or.inl (by simpa using hd48))
        rw [natDigits_ge (by omega)]
        rw [show (digitsVal (d :: rest) * 10 + (c.toNat - 48)) / 10 = digitsVal (d :: rest) by omega,
          show (digitsVal (d :: rest) * 10 + (c.toNat - 48)) % 10 = c.toNat - 48 by omega,
          hrec, digitByte_of_isDigit hc]

theorem natDigits_digitsVal {ds : Bytes} (hall : ds.all isDigit = true) (hne : ds ≠ [])
    (hhead : ds.head? ≠ some 48 ∨ ds = [48]) : natDigits (digitsVal ds) = ds :=
  natDigits_digitsVal_aux ds.length ds rfl hall hne hhead

/-! ### `parseCanonInt` -/

theorem parseCanonInt_cons {d : UInt8} (rest : Bytes) (h : d ≠ 45) :
    parseCanonInt (d :: rest) =
      if (d :: rest).all isDigit && (d != 48 || rest.isEmpty) then some (digitsVal (d :: rest) : Int)
      else none := by
  unfold parseCanonInt
  split
  · rename_i heq; simp at heq
  · rename_i heq
    simp only [List.cons.injEq] at heq
    exact absurd heq.1 h
  · rename_i heq
    simp only [List.cons.injEq] at heq
    obtain ⟨rfl, rfl⟩ := heq
    rfl

theorem parseCanonInt_neg (d : UInt8) (rest : Bytes) :
    parseCanonInt (45 :: d :: rest) =
      if (d :: rest).all isDigit && d != 48 then some (-(digitsVal (d :: rest) : Int)) else none := by
  rfl

theorem parseCanonInt_natDigits (n : Nat) : parseCanonInt (natDigits n) = some (n : Int) := by
  obtain ⟨d, rest, e, hd, h0⟩ := natDigits_head n
  have hall := natDigits_all_isDigit n
  have hval := digitsVal_natDigits n
  have hdig : isDigit d = true := natDigits_isDigit_of_mem (by rw [e]; simp)
  rw [e] at hall hval ⊢
  have h45 : d ≠ 45 := by
    intro h; subst h; revert hdig; decide
  rw [parseCanonInt_cons rest h45, hall, hval]
  have : (d != 48 || rest.isEmpty) = true := by
    by_cases hn : n = 0
    · simp [h0 hn]
    · have : d ≠ 48 := fun h => hn (hd.mp h)
      simp [this]
  simp [this]

theorem parseCanonInt_intBytes (n : Int) : parseCanonInt (intBytes n) = some n := by
  unfold intBytes
  split
  · rename_i hneg
    have hne : n.natAbs ≠ 0 := by omega
    obtain ⟨d, rest, e, hd⟩ := natDigits_head_ne_zero hne
    have hall := natDigits_all_isDigit n.natAbs
    have hval := digitsVal_natDigits n.natAbs
    rw [e] at hall hval ⊢
    rw [parseCanonInt_neg, hall, hval]
    have : (d != 48) = true := by simpa using hd
    rw [this]
    simp only [Bool.and_self, if_true, Option.some.injEq]
    omega
  · rename_i hpos
    rw [parseCanonInt_natDigits]
    congr 1; omega

theorem parseCanonInt_canonical {b : Bytes} {n : Int} (h : parseCanonInt b = some n) :
    b = intBytes n := by
  unfold parseCanonInt at h
  split at h
  · simp at h
  · rename_i ds
    split at h
    · simp at h
    · rename_i d rest
      split at h
      · rename_i hc
        simp only [Bool.and_eq_true, bne_iff_ne, ne_eq] at hc
        obtain ⟨hall, hd48⟩ := hc
        have hd : isDigit d = true := by simp_all
        have hpos := digitsVal_pos (rest := rest) hd hd48
        simp only [Option.some.injEq] at h
        subst h
        have hrt := natDigits_digitsVal hall (by simp) (Or.inl (by simpa using hd48))
        unfold intBytes
        rw [if_pos (by omega)]
        rw [show (-(digitsVal (d :: rest) : Int)).natAbs = digitsVal (d :: rest) by omega, hrt]
      · simp at h
  · rename_i d rest hne45
    split at h
    · rename_i hc
      simp only [Bool.and_eq_true, Bool.or_eq_true, bne_iff_ne, ne_eq, List.isEmpty_iff] at hc
      obtain ⟨hall, hcanon⟩ := hc
      simp only [Option.some.injEq] at h
      subst h
      have hrt := natDigits_digitsVal hall (by simp) (by
        rcases hcanon with h | h
        · left; simpa using h
        · by_cases h48 : d = 48
          · right; rw [h48, h]
          · left; simpa using h48)
      unfold intBytes
      rw [if_neg (by omega)]
      rw [show ((digitsVal (d :: rest) : Nat) : Int).natAbs = digitsVal (d :: rest) by omega, hrt]
    · simp at h

theorem parseCanonInt_eq_some_iff (b : Bytes) (n : Int) :
    parseCanonInt b = some n ↔ b = intBytes n :=
  ⟨parseCanonInt_canonical, fun h => h ▸ parseCanonInt_intBytes n⟩

theorem intBytes_injective {m n : Int} (h : intBytes m = intBytes n) : m = n := by
  have := parseCanonInt_intBytes m
  rw [h, parseCanonInt_intBytes] at this
  exact (Option.some.inj this).symm

theorem intBytes_ofNat (n : Nat) : intBytes (n : Int) = natDigits n := by
  unfold intBytes
  rw [if_neg (by omega)]; rfl

end FR

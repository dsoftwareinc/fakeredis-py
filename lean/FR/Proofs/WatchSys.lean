import FR.Proofs.History
import FR.Proofs.Discipline
import FR.Proofs.AsyncLife
import FR.Proofs.Sets
import FR.Proofs.Closure
import FR.Proofs.Returns
import FR.Proofs.Dispatch
import FR.Proofs.Swapdb
/-!
# WATCH: the flag of a watching connection through every event (C06)

For a fixed connection `c`, database `d`, key `k` the invariant `WInv strict c d k R T` says: `c` is not on the list of
closed sockets and watches `(d, k)`, and either `c.watchNotified` is set or (when `strict` is off) the raw entry stored
under `k` is still the reference entry `R`, possibly lazily deleted when `R` is expired at every clock reading in `T`;
when the readings in `T` cross the deadline of `R` nothing is claimed.  The invariant has the leaves of the command layer
(`wi_leaves`), guarded by what it needs to know: the watches of `c` are not cleared (EXEC / DISCARD / UNWATCH of `c`, the
clean-up of a closed socket, `gcConn c`), only sound `CommandItem`s are written back, SWAPDB gets valid indices.  On the
way: the items the special bodies return are sound (`special_closed`), every reachable state has 16 databases.

Then the events (`stepEv_wi`), histories (`history_sound`, `history_sticky`, `history_changed`), which events clear or add
watches, and two facts about a single command: a regular command sets the flag exactly when it notifies a watched pair
(`runWith_regular_flag`, with `FlagInv`), and the sharp one-request form `request_sound_sharp`.
-/
namespace FR.WatchSys
open FR FR.M FR.Db
set_option linter.unusedSimpArgs false

/-! ## the invariant -/

/-- the raw entry under `k` in database `d` -/
def rawAt (s : Sys) (d : Nat) (k : Bytes) : Option Item := (s.dbAt d).dict.lookup k

/-- the reference entry is expired at every clock reading in `T` -/
def DeadAll (R : Option Item) (T : Int → Prop) : Prop := ∀ it, R = some it → ∀ t, T t → expiredAt t it = true

/-- no two clock readings in `T` lie on different sides of the deadline of the reference entry -/
def NoCross (R : Option Item) (T : Int → Prop) : Prop :=
  ∀ it, R = some it → ∀ t t', T t → T t' → expiredAt t it = true → expiredAt t' it = true

/-- the raw entry is the reference entry, or the (dead) reference entry was lazily deleted; when the clock
readings in `T` do cross the deadline of `R` nothing is claimed -/
def RawOK (R : Option Item) (T : Int → Prop) (a : Option Item) : Prop :=
  a = R ∨ (a = none ∧ DeadAll R T) ∨ ¬ NoCross R T

theorem RawOK.step {R : Option Item} {T : Int → Prop} {t : Int} {a b : Option Item} (ht : T t)
    (h : RawOK R T a) (st : RawStep t a b) : RawOK R T b := by
  by_cases nc : NoCross R T
  · rcases st with rfl | ⟨rfl, it, ha, he⟩
    · exact h
    · rcases h with rfl | ⟨ha', _⟩ | hnc
      · exact .inr (.inl ⟨rfl, fun it' hit t' ht' => by
          rw [ha] at hit; cases hit; exact nc it ha t t' ht ht' he⟩)
      · rw [ha'] at ha; cases ha
      · exact absurd nc hnc
  · exact .inr (.inr nc)

theorem RawOK.liveOf {R : Option Item} {T : Int → Prop} {t : Int} {a : Option Item} (nc : NoCross R T) (ht : T t)
    (h : RawOK R T a) : liveOf t a = liveOf t R := by
  rcases h with rfl | ⟨rfl, hd⟩ | hnc
  · rfl
  · cases R with
    | none => rfl
    | some it => simp only [WatchSys.liveOf, hd it rfl t ht, if_true]
  · exact absurd nc hnc

/-- The invariant.  `strict` switches off the "raw entry unchanged" alternative (then the invariant is:
`c` watches `(d,k)` and its flag is set). -/
structure WInv (strict : Prop) (c d : Nat) (k : Bytes) (R : Option Item) (T : Int → Prop) (u : Sys) : Prop where
  data : u.DataInv
  len : u.srv.dbs.length = 16
  time : T u.srv.time
  clocks : ∀ t ∈ u.clocks, T t
  opened : c ∉ u.srv.closedSockets
  watching : (d, k) ∈ (u.conn c).watches
  ok : (u.conn c).watchNotified = true ∨ (¬ strict ∧ RawOK R T (rawAt u d k))

section
variable {strict : Prop} {c d : Nat} {k : Bytes} {R : Option Item} {T : Int → Prop}

-- `WI`: the invariant with all its parameters; each section below declares it again for its own variables
local notation "WI" => WInv strict c d k R T

theorem rawAt_congr {u u' : Sys} (h : u'.srv.dbs = u.srv.dbs) (d : Nat) (k : Bytes) : rawAt u' d k = rawAt u d k := by
  unfold rawAt Sys.dbAt; rw [h]

theorem rawAt_setDbS (s : Sys) (i : Nat) (db : Db) (d : Nat) (k : Bytes) :
    rawAt (s.setDbS i db) d k = if i = d ∧ d < s.srv.dbs.length then db.dict.lookup k else rawAt s d k := by
  unfold rawAt Sys.dbAt Sys.setDbS
  simp only
  by_cases hi : i = d
  · subst hi
    by_cases hl : i < s.srv.dbs.length
    · rw [getD_set_self _ _ _ _ hl]; simp [hl]
    · have : s.srv.dbs.set i db.dict = s.srv.dbs := List.set_eq_of_length_le (by omega)
      rw [this]; simp [hl]
  · rw [getD_set_ne _ _ _ _ _ (Ne.symm hi)]; simp [hi]

/-- the part of the invariant that looks at the connection record -/
def ConnOK (d : Nat) (k : Bytes) (P : Prop) (x : Conn) : Prop := (d, k) ∈ x.watches ∧ (x.watchNotified = true ∨ P)

theorem WInv.connOK {u : Sys} (h : WI u) : ConnOK d k (¬ strict ∧ RawOK R T (rawAt u d k)) (u.conn c) :=
  ⟨h.watching, h.ok⟩

theorem WInv.mk' {u u' : Sys} (h : WI u) (hd : u'.DataInv) (hl : u'.srv.dbs.length = u.srv.dbs.length)
    (ht : u'.srv.time = u.srv.time)
    (hc : ∀ t ∈ u'.clocks, t ∈ u.clocks) (ho : u'.srv.closedSockets = u.srv.closedSockets)
    (hx : ConnOK d k (¬ strict ∧ RawOK R T (rawAt u' d k)) (u'.conn c)) : WI u' :=
  ⟨hd, hl ▸ h.len, ht ▸ h.time, fun t ht' => h.clocks t (hc t ht'), ho ▸ h.opened, hx.1, hx.2⟩

theorem WInv.frame {u u' : Sys} (h : WI u) (h1 : u'.srv.dbs = u.srv.dbs) (h2 : u'.srv.time = u.srv.time)
    (h3 : u'.clocks = u.clocks) (h4 : u'.srv.closedSockets = u.srv.closedSockets)
    (h5 : u'.srv.conns = u.srv.conns) : WI u' := by
  refine h.mk' (h.data.frame h1) (by rw [h1]) h2 (fun t ht => h3 ▸ ht) h4 ?_
  have : u'.conn c = u.conn c := by simp only [Sys.conn_def, h5]
  rw [this, rawAt_congr h1]
  exact h.connOK

/-- storing a database: the raw entry under `(d,k)` must have moved by lazy deletion only, unless `c` is notified -/
theorem WInv.setDbS {s : Sys} (h : WI s) (i : Nat) {db : Db} (hg : Good db.dict)
    (hr : i = d → (s.conn c).watchNotified = true ∨ RawStep s.srv.time (rawAt s d k) (db.dict.lookup k)) :
    WI (s.setDbS i db) := by
  refine h.mk' (h.data.setDbS i hg) (Sys.setDbS_len _ _ _) rfl (fun t ht => ht) rfl ?_
  refine ⟨h.watching, ?_⟩
  show (s.conn c).watchNotified = true ∨ _
  rcases h.ok with hn | ⟨hs, hk⟩
  · exact .inl hn
  · rw [rawAt_setDbS]
    split
    · rename_i hc
      rcases hr hc.1 with hn | st
      · exact .inl hn
      · exact .inr ⟨hs, hk.step h.time st⟩
    · exact .inr ⟨hs, hk⟩

theorem WInv.setDbS_reads {s : Sys} (h : WI s) (i : Nat) {db : Db} (hr : Reads (s.dbAt i) db) : WI (s.setDbS i db) := by
  refine h.setDbS i ((Conserve.Del.of_reads hr).good (h.data.dbAt i)) (fun hi => .inr ?_)
  subst hi
  exact rawStep_of_reads (h.data.dbAt i).1 hr k

theorem WInv.mapConns {s : Sys} (h : WI s) (g : Conn → Conn) (hid : ∀ x, (g x).id = x.id)
    (hg : ∀ P x, ConnOK d k P x → ConnOK d k P (g x)) : WI (s.mapConns g) := by
  refine h.mk' h.data rfl rfl (fun t ht => ht) rfl ?_
  have := Sys.conn_mapConns_pred s g c (ConnOK d k (¬ strict ∧ RawOK R T (rawAt s d k))) hid (hg _) h.connOK
  exact this

theorem notifyFn_connOK (d' : Nat) (k' : Bytes) (P : Prop) (x : Conn) (h : ConnOK d k P x) :
    ConnOK d k P (notifyFn d' k' x) := by
  rw [notifyFn_fields]
  refine ⟨h.1, ?_⟩
  rcases h.2 with hn | hp
  · left; simp [hn]
  · exact .inr hp

theorem notifyFn_notified (x : Conn) (h : (d, k) ∈ x.watches) : (notifyFn d k x).watchNotified = true := by
  rw [notifyFn_fields]
  have : x.watches.contains (d, k) = true := List.contains_iff_mem.2 h
  simp [this, h]

theorem WInv.notify {s : Sys} (h : WI s) (d' : Nat) (k' : Bytes) : WI (s.mapConns (notifyFn d' k')) :=
  h.mapConns _ (notifyFn_id d' k') (notifyFn_connOK d' k')

theorem WInv.updConn {s : Sys} (h : WI s) (c' : Nat) (f : Conn → Conn) (hid : ∀ x, (f x).id = x.id)
    (hw : ∀ x, (d, k) ∈ x.watches → (d, k) ∈ (f x).watches)
    (hn : ∀ x, x.watchNotified = true → (f x).watchNotified = true) : WI (s.updConn c' f) := by
  rw [Sys.updConn_eq_mapConns]
  refine h.mapConns _ (fun x => by split <;> simp [hid]) (fun P x hx => ?_)
  split
  · exact ⟨hw x hx.1, hx.2.imp (hn x) id⟩
  · exact hx

theorem WInv.updConn_ne {s : Sys} (h : WI s) {c' : Nat} (hne : c' ≠ c) (f : Conn → Conn) (hid : ∀ x, (f x).id = x.id) :
    WI (s.updConn c' f) := by
  refine h.mk' h.data rfl rfl (fun t ht => ht) rfl ?_
  rw [Sys.conn_updConn_ne f (Ne.symm hne) hid]
  exact h.connOK

theorem WInv.wbStep {s : Sys} (h : WI s) (d' : Nat) {ci : CI} (hs : ci.ExpModSound) : WI (s.wbStep d' ci) := by
  unfold Sys.wbStep
  simp only
  by_cases hm : ci.modified = true
  · rw [if_pos hm]
    have hg : Good (ci.writeback (s.dbAt d')).1.dict := (h.data.dbAt d').writeback ci
    refine h.mk' (h.data.setDbS d' hg) (Sys.setDbS_len _ _ _) rfl (fun t ht => ht) rfl ?_
    · have hc : ((s.setDbS d' (ci.writeback (s.dbAt d')).1).mapConns (notifyFn d' ci.key)).conn c
          = notifyFn d' ci.key (s.conn c) :=
        Sys.conn_mapConns_notify _ d' ci.key c
      rw [hc]
      by_cases hk : d' = d ∧ ci.key = k
      · obtain ⟨rfl, rfl⟩ := hk
        exact ⟨(notifyFn_connOK _ _ _ _ h.connOK).1, .inl (notifyFn_notified _ h.watching)⟩
      · have hraw : rawAt ((s.setDbS d' (ci.writeback (s.dbAt d')).1).mapConns (notifyFn d' ci.key)) d k
            = rawAt s d k := by
          rw [rawAt_congr (Sys.mapConns_dbs _ _), rawAt_setDbS]
          split
          · rename_i hc'
            obtain ⟨rfl, _⟩ := hc'
            have : k ≠ ci.key := fun e => hk ⟨rfl, e.symm⟩
            exact writeback_lookup_ne ci _ this
          · rfl
        rw [hraw]
        exact notifyFn_connOK _ _ _ _ h.connOK
  · have hm : ci.modified = false := by simpa using hm
    have he : ci.expMod = false := by
      cases hh : ci.expMod with
      | false => rfl
      | true => rw [hs hh] at hm; cases hm
    rw [if_neg (by simp [hm]), CI.writeback_unmodified hm he, Sys.setDbS_self]
    exact h

theorem WInv.writebackAll {s : Sys} (h : WI s) (d' : Nat) {cis : List CI} (hs : CIs.Sound cis) :
    WI (writebackAll d' cis s).2 := by
  induction cis generalizing s with
  | nil => exact h
  | cons ci cis ih =>
    rw [writebackAll_cons]
    exact ih (h.wbStep d' (hs ci (by simp))) (fun c hc => hs c (by simp [hc]))


/-! ## the monadic primitives -/

theorem wi_get : Pres WI (get : M Sys) := Pres.get
theorem wi_getDb (i : Nat) : Pres WI (getDb i) := Pres.getDb i

theorem emitS_clocks (s : Sys) (c' : Nat) (r : Reply) : (s.emitS c' r).clocks = s.clocks := by
  unfold Sys.emitS; split <;> rfl

theorem wi_emit (c' : Nat) (r : Reply) : Pres WI (emit c' r) := by
  intro s h
  rw [emit_run]
  exact h.frame (by rw [Sys.emitS_srv]) (by rw [Sys.emitS_srv]) (emitS_clocks s c' r) (by rw [Sys.emitS_srv])
    (by rw [Sys.emitS_srv])

/-- lazy deletions and the replay's bookkeeping: hence `fault`, `nextClock`, the lazy reads, the picks, RANDOMKEY, SCAN -/
theorem wi_readStable : Conserve.ReadStable WI :=
  ⟨fun s d' _ h hr => h.setDbS_reads d' (hr (h.data.dbAt d').1), fun s s' h1 h2 h3 h4 hc h => by
    refine h.mk' (h.data.frame (by rw [h1])) (by rw [h1]) (by rw [h1]) hc (by rw [h1]) ?_
    have : s'.conn c = s.conn c := by simp only [Sys.conn_def, h1]
    rw [this, rawAt_congr (congrArg Server.dbs h1)]
    exact h.connOK⟩

theorem nextClock_T {s : Sys} (h : WI s) : T (nextClock s).1 := by
  rw [nextClock_run]
  split
  · rename_i t rest heq
    exact h.clocks t (by rw [heq]; simp)
  · exact h.time

theorem wi_modify (g : Sys → Sys)
    (hg : ∀ s, (g s).srv.dbs = s.srv.dbs ∧ (g s).srv.time = s.srv.time ∧ (g s).clocks = s.clocks ∧
      (g s).srv.closedSockets = s.srv.closedSockets ∧ (g s).srv.conns = s.srv.conns) : Pres WI (modify g) :=
  fun s h => h.frame (hg s).1 (hg s).2.1 (hg s).2.2.1 (hg s).2.2.2.1 (hg s).2.2.2.2

theorem wi_modifyConn (c' : Nat) (f : Conn → Conn) (hid : ∀ x, (f x).id = x.id)
    (hw : ∀ x, (d, k) ∈ x.watches → (d, k) ∈ (f x).watches)
    (hn : ∀ x, x.watchNotified = true → (f x).watchNotified = true) : Pres WI (modifyConn c' f) :=
  fun _ h => h.updConn c' f hid hw hn

theorem wi_modifyConn_ne {c' : Nat} (hne : c' ≠ c) (f : Conn → Conn) (hid : ∀ x, (f x).id = x.id) :
    Pres WI (modifyConn c' f) := fun _ h => h.updConn_ne hne f hid

theorem wi_clearWatches {c' : Nat} (hne : c' ≠ c) : Pres WI (clearWatches c') :=
  wi_modifyConn_ne hne _ (fun _ => rfl)

theorem wi_notifyWatch (d' : Nat) (k' : Bytes) : Pres WI (notifyWatch d' k') := fun _ h => h.notify d' k'

theorem wi_writebackAll (d' : Nat) {cis : List CI} (hs : CIs.Sound cis) : Pres WI (writebackAll d' cis) :=
  fun _ h => h.writebackAll d' hs

theorem wi_at_setDb {s : Sys} {i : Nat} {db : Db} (h : WI s) (hr : Reads (s.dbAt i) db) :
    PresAt WI s (setDb i db) := h.setDbS_reads i hr


theorem forM_notify_clocks (d' : Nat) (ks : List Bytes) (s : Sys) : (ks.forM (notifyWatch d') s).2.clocks = s.clocks :=
  forM_notifyWatch_frame (fun s => s.clocks) (fun _ _ => rfl) d' ks s

theorem forM_notify_srv (d' : Nat) (ks : List Bytes) (s : Sys) :
    (ks.forM (notifyWatch d') s).2.srv.dbs = s.srv.dbs ∧ (ks.forM (notifyWatch d') s).2.srv.time = s.srv.time ∧
    (ks.forM (notifyWatch d') s).2.srv.closedSockets = s.srv.closedSockets :=
  ⟨forM_notifyWatch_frame (fun s => s.srv.dbs) (fun _ _ => rfl) d' ks s,
   forM_notifyWatch_frame (fun s => s.srv.time) (fun _ _ => rfl) d' ks s,
   forM_notifyWatch_frame (fun s => s.srv.closedSockets) (fun _ _ => rfl) d' ks s⟩

theorem forM_notify_flag (d' : Nat) (ks : List Bytes) (s : Sys) (c : Nat) :
    ((ks.forM (notifyWatch d') s).2.conn c).watches = (s.conn c).watches ∧
    ((ks.forM (notifyWatch d') s).2.conn c).watchNotified =
      ((s.conn c).watchNotified || ks.any fun key => (s.conn c).watches.contains (d', key)) := by
  induction ks generalizing s with
  | nil => exact ⟨rfl, by show (s.conn c).watchNotified = _; simp⟩
  | cons a as ih =>
    rw [forM_cons_eq]
    simp only [bind, StateT.bind, notifyWatch_run]
    have hc : (s.mapConns (notifyFn d' a)).conn c = notifyFn d' a (s.conn c) :=
      Sys.conn_mapConns_notify s d' a c
    have := ih (s.mapConns (notifyFn d' a))
    rw [hc, notifyFn_fields] at this
    refine ⟨this.1, ?_⟩
    rw [this.2]
    simp only [List.any_cons, Bool.or_assoc]

theorem forM_notify_notified (ks : List Bytes) (s : Sys) (hw : (d, k) ∈ (s.conn c).watches) (hk : k ∈ ks) :
    ((ks.forM (notifyWatch d) s).2.conn c).watchNotified = true := by
  rw [(forM_notify_flag d ks s c).2, Bool.or_eq_true]
  exact .inr (List.any_eq_true.2 ⟨k, hk, List.contains_iff_mem.2 hw⟩)

/-- a state `s1` that differs from `s` in database `d'` (now `db`) and in irrelevant fields, followed by the
notifications `ks` on `d'`: fine when `k` is among them or its raw entry moved by lazy deletion only -/
theorem WInv.store_notify {s s1 : Sys} (h : WI s) (d' : Nat) (db : Db) (ks : List Bytes)
    (h1 : s1.srv.dbs = s.srv.dbs.set d' db.dict) (h2 : s1.srv.time = s.srv.time) (h3 : s1.clocks = s.clocks)
    (h4 : s1.srv.closedSockets = s.srv.closedSockets) (h5 : s1.srv.conns = s.srv.conns) (hg : Good db.dict)
    (hr : d' = d → k ∈ ks ∨ RawStep s.srv.time (rawAt s d k) (db.dict.lookup k)) :
    WI (ks.forM (notifyWatch d') s1).2 := by
  have hc1 : s1.conn c = s.conn c := by simp only [Sys.conn_def, h5]
  have hdb : (ks.forM (notifyWatch d') s1).2.srv.dbs = (s.setDbS d' db).srv.dbs := by
    rw [(forM_notify_srv d' ks s1).1, h1]; rfl
  have hQ := forM_notifyWatch_pred (ConnOK d k (¬ strict ∧ RawOK R T (rawAt s d k)))
    (fun d'' key x hx => notifyFn_connOK d'' key _ x hx) d' ks c s1 (by rw [hc1]; exact h.connOK)
  refine h.mk' ?_ ?_ ?_ ?_ ?_ ⟨hQ.1, ?_⟩
  · exact (h.data.setDbS d' hg).frame hdb
  · rw [hdb]; exact Sys.setDbS_len _ _ _
  · rw [(forM_notify_srv d' ks s1).2.1, h2]
  · rw [forM_notify_clocks, h3]; exact fun t ht => ht
  · rw [(forM_notify_srv d' ks s1).2.2, h4]
  · rcases hQ.2 with hn | ⟨hs, hk⟩
    · exact .inl hn
    · rw [rawAt_congr hdb, rawAt_setDbS]
      split
      · rename_i hc'
        obtain ⟨rfl, _⟩ := hc'
        rcases hr rfl with hmem | st
        · exact .inl (forM_notify_notified ks s1 (by rw [hc1]; exact h.watching) hmem)
        · exact .inr ⟨hs, hk.step h.time st⟩
      · exact .inr ⟨hs, hk⟩

theorem lookup_none_of_not_mem_keys {dct : Dict} {k : Bytes} (h : k ∉ dct.map Prod.fst) : dct.lookup k = none := by
  rw [lookup_none_iff]
  intro q hq e
  exact h (List.mem_map.2 ⟨q, hq, e⟩)

/-- `Database.clear`: every live key is notified first -/
theorem wi_clearDb (d' : Nat) : Pres WI (clearDb d') := by
  intro s h
  have hs1 : WI (s.setDbS d' (Db.purge (s.dbAt d'))) := h.setDbS_reads d' (Conserve.reads_purge (h.data.dbAt d').1)
  show WI (((((Db.purge (s.dbAt d')).dict.map Prod.fst).forM (notifyWatch d')
    (s.setDbS d' (Db.purge (s.dbAt d')))).2).setDbS d' ⟨[], 0⟩)
  generalize hks : (Db.purge (s.dbAt d')).dict.map Prod.fst = ks
  generalize hs1e : s.setDbS d' (Db.purge (s.dbAt d')) = s1 at hs1
  have hs2 : WI (ks.forM (notifyWatch d') s1).2 := Pres.forM (fun key => wi_notifyWatch d' key) s1 hs1
  refine hs2.setDbS d' good_nil (fun hd => ?_)
  subst hd
  by_cases hk : k ∈ ks
  · exact .inl (forM_notify_notified ks s1 hs1.watching hk)
  · right
    have : rawAt (ks.forM (notifyWatch d') s1).2 d' k = none := by
      rw [rawAt_congr (forM_notify_srv d' ks s1).1, ← hs1e, rawAt_setDbS]
      split
      · apply lookup_none_of_not_mem_keys; rw [hks]; exact hk
      · rename_i hc'
        have : s.srv.dbs.length ≤ d' := by
          have := fun hl => hc' ⟨rfl, hl⟩
          omega
        unfold rawAt; rw [Sys.dbAt_out_of_range s d' this]; rfl
    rw [this]; exact .inl rfl

end


/-! ## the special bodies, one lemma each -/

section
variable {strict : Prop} {c d : Nat} {k : Bytes} {R : Option Item} {T : Int → Prop}
local notation "WI" => WInv strict c d k R T

theorem subscribeGen_wi (c' : Nat) (pattern : Bool) (names : List Bytes) :
    Pres WI (subscribeGen c' pattern names) := by
  have hJ := Pres.seq WI
  unfold subscribeGen
  refine Pres.forM (fun name => Pres.bind wi_get (fun s => ?_))
  extract_lets t
  split
  seq_descend hJ [Pres.getConn _, wi_emit _ _, wi_modifyConn _ _ (fun _ => rfl) (fun _ => id) (fun _ => id),
    wi_modify _ (fun _ => by split <;> exact ⟨rfl, rfl, rfl, rfl, rfl⟩)]

theorem unsubscribeGen_wi (c' : Nat) (pattern : Bool) (names : List Bytes) :
    Pres WI (unsubscribeGen c' pattern names) := by
  have hJ := Pres.seq WI
  unfold unsubscribeGen
  -- the pure `let`s are named first: `split` would otherwise take the `if pattern` inside their values
  extract_lets mtype
  refine Pres.bind wi_get (fun s => ?_)
  extract_lets t names' jp
  have hjp : ∀ x, Pres WI (jp x) := by
    intro x
    refine Pres.forM (fun name => Pres.bind wi_get (fun s => ?_))
    extract_lets t
    split
    seq_descend hJ [Pres.getConn _, wi_emit _ _, wi_modifyConn _ _ (fun _ => rfl) (fun _ => id) (fun _ => id),
      wi_modify _ (fun _ => by split <;> exact ⟨rfl, rfl, rfl, rfl, rfl⟩)]
  clear_value jp
  seq_descend hJ [Pres.getConn _, wi_emit _ _, hjp _]

theorem publish_wi (ch msg : Bytes) : Pres WI (publish ch msg) := by
  have hJ := Pres.seq WI
  unfold publish; seq_descend hJ [wi_get, wi_emit _ _]

theorem foldl_watch_mem (d' : Nat) (ks : List Bytes) (w : List (Nat × Bytes)) (p : Nat × Bytes) (h : p ∈ w) :
    p ∈ ks.foldl (fun w key => if w.contains (d', key) then w else w ++ [(d', key)]) w := by
  induction ks generalizing w with
  | nil => exact h
  | cons a as ih =>
    simp only [List.foldl_cons]
    apply ih
    split
    · exact h
    · exact List.mem_append_left _ h

/-- the nested runner preserves the invariant for every signature of the table -/
def InnerOK (strict : Prop) (c d : Nat) (k : Bytes) (R : Option Item) (T : Int → Prop) (inner : Inner) : Prop :=
  ∀ (sig : Sig) (raw : List Bytes) (n : String), SigTable.find n = some sig → Pres (WInv strict c d k R T) (inner sig raw)

end

/-! ## MOVE and SWAPDB -/

section
variable {strict : Prop} {c d : Nat} {k : Bytes} {R : Option Item} {T : Int → Prop}
local notation "WI" => WInv strict c d k R T

theorem WInv.setRaw_notify {s : Sys} (h : WI s) (d' : Nat) (key : Bytes) {it : Item}
    (hit : it.value.isEmptyColl = false) :
    WI (notifyWatch d' key (s.setDbS d' { s.dbAt d' with dict := Db.setRaw (s.dbAt d').dict key it })).2 := by
  have := h.store_notify (s1 := s.setDbS d' { s.dbAt d' with dict := Db.setRaw (s.dbAt d').dict key it })
    d' { s.dbAt d' with dict := Db.setRaw (s.dbAt d').dict key it } [key] rfl rfl rfl rfl rfl
    ((h.data.dbAt d').setRaw key hit) (fun hd => by
      subst hd
      by_cases hk : k = key
      · left; simp [hk]
      · right
        show RawStep _ _ ((Db.setRaw (s.dbAt d').dict key it).lookup k)
        rw [lookup_setRaw_ne _ hk]
        exact RawStep.refl _ _)
  exact this

theorem moveCmd_wi (d' : Nat) (args : List Arg) (cis : List CI) : Pres WI (moveCmd d' args cis) := by
  unfold moveCmd
  split
  · rename_i kk dst
    extract_lets key
    split
    · exact Pres.pure _
    · split
      · exact Pres.pure _
      · refine Conserve.getDb_bind _ (fun s hs => ?_)
        dsimp only
        refine wi_readStable.at_setDb_bind hs (fun _ => Reads.get (hs.data.dbAt _).1 _) ?_
        split
        · exact Pres.pure _
        · refine Conserve.getDb_bind _ (fun s2 hs2 => ?_)
          refine wi_readStable.at_setDb_bind hs2 (fun _ => Reads.get (hs2.data.dbAt _).1 _) ?_
          split
          · exact Pres.pure _
          · rename_i it heq2
            have hit : it.value.isEmptyColl = false := Good.get_snd (hs2.data.dbAt d') heq2
            intro s3 hs3
            exact hs3.setRaw_notify dst.toNat key.key hit
  · exact Pres.pure _


theorem connPred_notify (Q : Conn → Prop) (hQ : ∀ d' k' x, Q x → Q (notifyFn d' k' x)) (d' : Nat) (k' : Bytes) :
    Pres (fun u => Q (u.conn c)) (notifyWatch d' k') :=
  fun s h => Sys.conn_mapConns_pred s _ c Q (notifyFn_id d' k') (hQ d' k') h

theorem swapNotify_conn (Q : Conn → Prop) (hQ : ∀ d' k' x, Q x → Q (notifyFn d' k' x)) (a b : Nat) (U : List Bytes) :
    Pres (fun u => Q (u.conn c)) (swapNotify a b U) :=
  Pres.forM (fun key => Pres.bind (connPred_notify Q hQ a key) (fun _ => connPred_notify Q hQ b key))

theorem swapNotify_notified (a b : Nat) (U : List Bytes) (s : Sys) (hw : (d, k) ∈ (s.conn c).watches)
    (hk : k ∈ U) (hd : d = a ∨ d = b) : ((swapNotify a b U s).2.conn c).watchNotified = true := by
  have hsticky : ∀ d' k' x, x.watchNotified = true → (notifyFn d' k' x).watchNotified = true := by
    intro d' k' x hx; rw [notifyFn_fields]; simp [hx]
  have hwatch : ∀ d' k' (x : Conn), (d, k) ∈ x.watches → (d, k) ∈ (notifyFn d' k' x).watches := by
    intro d' k' x hx; rw [notifyFn_fields]; exact hx
  induction U generalizing s with
  | nil => cases hk
  | cons x xs ih =>
    unfold swapNotify
    rw [forM_cons_eq]
    show (((xs.forM fun key => do notifyWatch a key; notifyWatch b key)
      (notifyWatch b x (notifyWatch a x s).2).2).2.conn c).watchNotified = true
    have hw1 : (d, k) ∈ ((notifyWatch a x s).2.conn c).watches := connPred_notify _ hwatch a x s hw
    have hw2 : (d, k) ∈ ((notifyWatch b x (notifyWatch a x s).2).2.conn c).watches :=
      connPred_notify _ hwatch b x _ hw1
    rcases List.mem_cons.1 hk with rfl | hk
    · apply swapNotify_conn (fun y => y.watchNotified = true) hsticky a b xs
      rcases hd with rfl | rfl
      · apply connPred_notify _ hsticky
        show ((notifyWatch d k s).2.conn c).watchNotified = true
        rw [notifyWatch_conn]; exact notifyFn_notified _ hw
      · show ((notifyWatch d k (notifyWatch a k s).2).2.conn c).watchNotified = true
        rw [notifyWatch_conn]; exact notifyFn_notified _ hw1
    · exact ih _ hw2 hk

theorem live_none_of_not_mem_keys {db : Db} {k : Bytes} (nd : NodupKeys db.dict)
    (h : k ∉ (Db.purge db).dict.map Prod.fst) : liveOf db.time (db.dict.lookup k) = none := by
  rw [← live_eq_liveOf nd]
  exact lookup_none_of_not_mem_keys h

theorem rawStep_to_none {t : Int} {a : Option Item} (h : liveOf t a = none) : RawStep t a none := by
  cases a with
  | none => exact .inl rfl
  | some it =>
    right
    refine ⟨rfl, it, rfl, ?_⟩
    simp only [liveOf] at h
    by_cases he : expiredAt t it = true
    · exact he
    · simp [he] at h

theorem _root_.FR.Sys.DataInv.swapped {s : Sys} (h : s.DataInv) (a b : Nat) : (s.swapped a b).DataInv := by
  have h1 := (h.setDbS a (h.dbAt b)).setDbS b (h.dbAt a)
  have h2 := h1.setDbS a (h1.dbAt a).purge
  exact h2.setDbS b (h2.dbAt b).purge

/-- SWAPDB of two distinct, valid indices (`swapdbCmd_run`), `U` the keys it notifies.  Everything but the databases `a`, `b`
is as in `s`; the one clause that needs an argument is the raw entry under `(d, k)`: if `k ∈ U` and `d` is `a` or `b`, the
loop notifies `c`; if `k ∉ U`, `k` is live in neither database, so the entry is now absent and was lazily deleted at most. -/
theorem swap_core {a b : Nat} (hab : a ≠ b) (ha : a < 16) (hb : b < 16) {s : Sys} (h : WI s) :
    WI (swapNotify a b (s.swapKeys a b) (s.swapped a b)).2 := by
  have hla : a < s.srv.dbs.length := by rw [h.len]; exact ha
  have hlb : b < s.srv.dbs.length := by rw [h.len]; exact hb
  have e3a := s.swapped_left hab hla
  have e3b := s.swapped_right hab hlb
  rw [s.swapKeys_eq hab hla hlb]
  generalize hs3 : s.swapped a b = s3 at e3a e3b
  have e3o : ∀ j, j ≠ a → j ≠ b → s3.dbAt j = s.dbAt j := fun j hja hjb => hs3 ▸ s.swapped_other hja hjb
  generalize hU : Cmd.setUnion ((Db.purge (s.dbAt b)).dict.map Prod.fst) ((Db.purge (s.dbAt a)).dict.map Prod.fst) = U
  have hd3 : s3.DataInv := hs3 ▸ h.data.swapped a b
  have l3 : s3.srv.dbs.length = s.srv.dbs.length := hs3 ▸ s.swapped_len a b
  have hc3 : s3.conn c = s.conn c := by rw [← hs3, s.swapped_eq]; rfl
  have hdbs : (swapNotify a b U s3).2.srv.dbs = s3.srv.dbs := swapNotify_frame (fun s => s.srv.dbs) (fun _ _ => rfl) a b U s3
  have hQ := swapNotify_conn (c := c) (ConnOK d k (¬ strict ∧ RawOK R T (rawAt s d k)))
    (fun d'' key x hx => notifyFn_connOK d'' key _ x hx) a b U s3 (by show ConnOK _ _ _ (s3.conn c); rw [hc3]; exact h.connOK)
  refine h.mk' (hd3.frame hdbs) (by rw [hdbs, l3]) ?_ ?_ ?_ ⟨hQ.1, ?_⟩
  · rw [swapNotify_frame (fun s => s.srv.time) (fun _ _ => rfl), ← hs3]; rfl
  · rw [swapNotify_frame (fun s => s.clocks) (fun _ _ => rfl), ← hs3]; exact fun t ht => ht
  · rw [swapNotify_frame (fun s => s.srv.closedSockets) (fun _ _ => rfl), ← hs3]; rfl
  · rcases hQ.2 with hn | ⟨hns, hk⟩
    · exact .inl hn
    · have hraw : rawAt (swapNotify a b U s3).2 d k = (s3.dbAt d).dict.lookup k := by
        rw [rawAt_congr hdbs]; rfl
      rw [hraw]
      by_cases hkU : k ∈ U ∧ (d = a ∨ d = b)
      · exact .inl (swapNotify_notified a b U s3 (by rw [hc3]; exact h.watching) hkU.1 hkU.2)
      · right
        refine ⟨hns, ?_⟩
        by_cases hda : d = a
        · subst hda
          have hkU' : k ∉ U := fun hm => hkU ⟨hm, .inl rfl⟩
          rw [← hU, HashSet.mem_setUnion, not_or] at hkU'
          rw [e3a, lookup_none_of_not_mem_keys hkU'.1]
          exact hk.step h.time (rawStep_to_none (live_none_of_not_mem_keys (h.data.dbAt d).1 hkU'.2))
        · by_cases hdb : d = b
          · subst hdb
            have hkU' : k ∉ U := fun hm => hkU ⟨hm, .inr rfl⟩
            rw [← hU, HashSet.mem_setUnion, not_or] at hkU'
            rw [e3b, lookup_none_of_not_mem_keys hkU'.2]
            exact hk.step h.time (rawStep_to_none (live_none_of_not_mem_keys (h.data.dbAt d).1 hkU'.1))
          · rw [e3o d hda hdb]; exact hk


/-- the database indices of SWAPDB are valid (guaranteed by the `DbIndex` converter) -/
def DbArgsOK (name : String) (args : List Arg) : Prop :=
  name = "swapdb" → ∀ i1 i2, args = [.int i1, .int i2] → (0 ≤ i1 ∧ i1 ≤ 15) ∧ (0 ≤ i2 ∧ i2 ≤ 15)

theorem swapdbCmd_wi (args : List Arg) (cis : List CI) (hargs : DbArgsOK "swapdb" args) :
    Pres WI (swapdbCmd args cis) := by
  unfold swapdbCmd
  split
  · rename_i i1 i2
    have hr := hargs rfl i1 i2 rfl
    intro s h
    show WI (swapdbCmd [.int i1, .int i2] cis s).2
    by_cases hne : i1 = i2
    · subst hne; rw [swapdbCmd_same]; exact h
    rw [swapdbCmd_run i1 i2 cis s hne]
    exact swap_core (by omega) (by omega) (by omega) h
  · exact Pres.pure _

end

/-! ## the `CommandItem`s returned by the special bodies are sound (`Ret`: facts about returned values) -/

section RetOut
variable {cis : List CI}

theorem selectCmd_ret (c' : Nat) (args : List Arg) : Ret (OutOf cis) (selectCmd c' args cis) := by
  unfold selectCmd okR; ret_out

theorem swapdbCmd_ret (args : List Arg) : Ret (OutOf cis) (swapdbCmd args cis) := by
  unfold swapdbCmd okR; ret_out

theorem moveCmd_ret (d' : Nat) (args : List Arg) : Ret (OutOf cis) (moveCmd d' args cis) := by
  unfold moveCmd; ret_out

theorem randomkeyCmd_ret (d' : Nat) : Ret (OutOf cis) (randomkeyCmd d' cis) := by
  unfold randomkeyCmd okR; ret_out

theorem scanCmd_ret (d' : Nat) (args : List Arg) : Ret (OutOf cis) (scanCmd d' args cis) := by
  unfold scanCmd okR; ret_out

theorem multiCmd_ret (c' : Nat) : Ret (OutOf cis) (multiCmd c' cis) := by
  unfold multiCmd okR; ret_out

theorem discardCmd_ret (c' : Nat) : Ret (OutOf cis) (discardCmd c' cis) := by
  unfold discardCmd okR; ret_out

theorem execCmd_ret (inner : Inner) (c' : Nat) : Ret (OutOf cis) (execCmd inner c' cis) := by
  unfold execCmd okR; ret_out

theorem watchCmd_ret (c' d' : Nat) (args : List Arg) : Ret (OutOf cis) (watchCmd c' d' args cis) := by
  unfold watchCmd okR; ret_out

theorem scriptCmd_ret (inner : Inner) (c' : Nat) (name : String) (args : List Arg) :
    Ret (OutOf cis) (scriptCmd inner c' name args cis) := by
  unfold scriptCmd
  exact Ret.bind (fun _ => Ret.pure (outOf_same _))

theorem special_ret (inner : Inner) (mode : Mode) (c' : Nat) (name : String) (args : List Arg) :
    Ret (OutOf cis) (special inner mode c' name args cis) := by
  unfold special okR
  simp only []
  refine Ret.bind (fun conn => ?_)
  split
  all_goals repeat' first
    | with_reducible exact selectCmd_ret _ _
    | with_reducible exact swapdbCmd_ret _
    | with_reducible exact moveCmd_ret _ _
    | with_reducible exact randomkeyCmd_ret _
    | with_reducible exact scanCmd_ret _ _
    | with_reducible exact multiCmd_ret _
    | with_reducible exact discardCmd_ret _
    | with_reducible exact execCmd_ret _ _
    | with_reducible exact watchCmd_ret _ _ _
    | with_reducible exact scriptCmd_ret _ _ _ _
    | with_reducible refine Ret.bindV (OutOf cis) (sortCmd_ret _ _ _) (fun _ _ => ?_)
    | with_reducible refine Ret.bindV (OutOf cis) (zunioninter_ret _ _ _) (fun _ _ => ?_)
    | ((with_reducible refine Ret.pure ?_); first
        | exact outOf_error _ | exact outOf_same _ | exact OutOf.reply ‹OutOf _ _› _)
    | with_reducible refine Ret.bind (fun _ => ?_)
    | split

/-- the special bodies keep the discipline of the regular ones (`Body.Disciplined`) -/
theorem special_closed (inner : Inner) {P : List CI → Prop} (hP : CIs.Closed P) {mode : Mode} {c' : Nat} {name : String}
    {args : List Arg} {s : Sys} {x : Option Reply} {cis' : List CI} (hs : P cis)
    (h : (special inner mode c' name args cis s).1 = .ok (x, cis')) : P cis' := by
  rcases special_ret inner mode c' name args s x cis' h with rfl | ⟨i, v, rfl⟩
  · exact hs
  · exact hP _ i _ hs rfl rfl

end RetOut

/-! ## the command layer: `WInv` as an instance of the tower -/

/-- the commands that clear the watches of the connection issuing them -/
def clearing : List String := ["exec", "discard", "unwatch"]

theorem swapdb_args (sig : Sig) (h1 : sig.fixed = [.dbIndex, .dbIndex]) (h2 : sig.rep = []) (raw : List Bytes)
    (db : Db) (args : List Arg) (cis : List CI) (h : (sig.apply raw db).2 = .ok (.ok args cis)) :
    ∀ i1 i2, args = [.int i1, .int i2] → (0 ≤ i1 ∧ i1 ≤ 15) ∧ (0 ≤ i2 ∧ i2 ≤ 15) := by
  match raw with
  | [b1, b2] =>
    simp only [Sig.apply, Sig.checkArity, Sig.types, h1, h2, List.length_cons, List.length_nil] at h
    simp [Sig.pass1, Sig.pass2, Conv.decode, Conv.dbIndex, Conv.intRange] at h
    cases h3 : parseCanonInt b1 with
    | none => simp [h3, Except.map] at h
    | some n1 =>
      by_cases hr1 : 0 ≤ n1 ∧ n1 ≤ 15
      · cases h4 : parseCanonInt b2 with
        | none => simp [h3, h4, hr1, Except.map] at h
        | some n2 =>
          by_cases hr2 : 0 ≤ n2 ∧ n2 ≤ 15
          · simp [h3, h4, hr1, hr2, Except.map, Sig.pass2] at h
            intro i1 i2 he
            rw [← h.1] at he
            simp only [List.cons.injEq, Arg.int.injEq, and_true] at he
            obtain ⟨rfl, rfl⟩ := he
            exact ⟨hr1, hr2⟩
          · simp [h3, h4, hr1, hr2, Except.map] at h
      · simp [h3, hr1, Except.map] at h
  | [] => simp [Sig.apply, Sig.checkArity, h1, h2] at h
  | [_] => simp [Sig.apply, Sig.checkArity, h1, h2] at h
  | _ :: _ :: _ :: _ => simp [Sig.apply, Sig.checkArity, h1, h2] at h

/-- the signature of SWAPDB is the one of the table -/
def SigOK (sig : Sig) : Prop := sig.name = "swapdb" → sig.fixed = [.dbIndex, .dbIndex] ∧ sig.rep = []

theorem sigs_sigOK : ∀ sig ∈ SigTable.sigs, SigOK sig := by
  unfold SigOK
  decide +kernel

theorem sigs_clearing_noScript : ∀ sig ∈ SigTable.sigs, sig.name ∈ clearing → sig.noScript = true := by
  unfold clearing
  decide +kernel

section
variable {strict : Prop} {c d : Nat} {k : Bytes} {R : Option Item} {T : Int → Prop}
local notation "WI" => WInv strict c d k R T

theorem faultS_clocks (s : Sys) (f : Option String) : (s.faultS f).clocks = s.clocks := by
  unfold Sys.faultS; split
  · split <;> rfl
  · rfl

theorem WInv.afterRegular {s : Sys} (h : WI s) (d' : Nat) (sig : Sig) {body : Body} (hb : body.ExpModSound) (ctx : Ctx)
    (gate : Option Err) (raw : List Bytes) : WI (s.afterRegular d' (runRegular sig body ctx gate raw (s.dbAt d'))) := by
  unfold Sys.afterRegular
  refine h.store_notify d' (runRegular sig body ctx gate raw (s.dbAt d')).db _ ?_ ?_ ?_ ?_ ?_ ?_ ?_
  · rw [Sys.faultS_srv]
  · rw [Sys.faultS_srv]
  · rw [faultS_clocks]
  · rw [Sys.faultS_srv]
  · rw [Sys.faultS_srv]
  · exact (h.data.dbAt _).runRegular ..
  · intro hd
    by_cases hk : k ∈ (runRegular sig body ctx gate raw (s.dbAt d')).notified
    · exact .inl hk
    · right
      rw [← hd]
      exact runRegular_raw sig body hb _ _ raw (h.data.dbAt _).1 hk

/-- of a command issued by `c'`: the watches of `c` are not cleared, SWAPDB gets the indices the signature of the table
converts, only sound `CommandItem`s are written back -/
def wiGuard (c c' : Nat) : Guard where
  clear := c' ≠ c
  args := fun sig _ args _ => SigOK sig → DbArgsOK sig.name args
  items := CIs.Sound

theorem wi_leaves (mode : Mode) (c' : Nat) : Leaves (@Pres WI) mode c' (wiGuard c c') where
  toSeq := Pres.seq _
  touch := fun d' _ => wi_readStable.touch d'
  liveKeys := fun d' _ => wi_readStable.liveKeys d'
  clearDb := fun d' _ => wi_clearDb d'
  writebackAll := fun d' _ _ h => wi_writebackAll d' (fun ci hci _ => h ci hci)
  fault := wi_readStable.fault
  takeSetOrder := wi_readStable.takeSetOrder
  getConn := fun _ hG => Pres.bind (Pres.getConn c') (fun x => hG x trivial)
  conn_db := fun _ _ => trivial
  conn_tx := fun _ _ _ _ _ _ => trivial
  conn := fun f op => by
    cases op with
    | unwatch h => exact wi_clearWatches h
    | watch d' ks => exact wi_modifyConn c' _ (fun _ => rfl) (fun x hx => foldl_watch_mem _ _ _ _ hx) (fun _ => id)
    | _ => exact wi_modifyConn c' _ (fun _ => rfl) (fun _ => id) (fun _ => id)
  randomkey := fun d' _ => wi_readStable.randomkeyCmd d'
  scan := fun d' _ => wi_readStable.scanCmd d'
  applySig := fun d' _ sig raw => Pres.then fun s hs =>
    ⟨hs.setDbS_reads d' (Sig.apply_reads sig raw (hs.data.dbAt _).1), fun args cis heq =>
      ⟨fun hsig hn => swapdb_args sig (hsig hn).1 (hsig hn).2 raw _ args cis heq,
        CIs.Sound.of_clean (Sig.apply_clean sig raw (s.dbAt d') heq)⟩⟩
  regular := fun x _ sig body raw fs hreg s hs => by
    rw [Conserve.regularStep_run]
    exact hs.afterRegular _ sig (regular_expModSound _ _ hreg) _ _ raw
  writeback := fun d' _ _ h => wi_writebackAll d' h
  nextClock := wi_readStable.nextClock
  nextPick := wi_readStable.nextPick
  readVersion := ReadOf.of_get (Pres.seq _) wi_get _
  readScripts := ReadOf.of_get (Pres.seq _) wi_get _
  cacheScript := fun _ _ => wi_modify _ (fun _ => ⟨rfl, rfl, rfl, rfl, rfl⟩)
  flushScripts := wi_modify _ (fun _ => ⟨rfl, rfl, rfl, rfl, rfl⟩)
  readLastsave := ReadOf.of_get (Pres.seq _) wi_get _
  setLastsave := fun _ => wi_modify _ (fun _ => ⟨rfl, rfl, rfl, rfl, rfl⟩)
  crash := fun _ _ => wi_modify _ (fun _ => ⟨rfl, rfl, rfl, rfl, rfl⟩)

theorem special_wi (inner : Inner) (mode : Mode) (c' : Nat) (hinner : c' ≠ c → InnerOK strict c d k R T inner)
    (name : String) (args : List Arg) (cis : List CI) (hcl : c' ≠ c ∨ name ∉ clearing)
    (hargs : DbArgsOK name args) : Pres WI (special inner mode c' name args cis) :=
  have L := wi_leaves (strict := strict) (c := c) (d := d) (k := k) (R := R) (T := T) mode c'
  -- the three bodies that clear the watches of `c'` are reached under their names only
  have hne : ∀ n, name = n → n ∈ clearing → c' ≠ c := fun n e hm => hcl.resolve_right (fun hn => hn (e ▸ hm))
  special_at (L.callees inner name args (fun _ _ _ => trivial) (fun _ _ => trivial)
    (fun e => e.elim (fun e => hne _ e (by decide)) (fun e => hne _ e (by decide)))
    (fun hn cis => swapdbCmd_wi args cis (hn ▸ hargs)) (fun _ d' _ => moveCmd_wi d' args)
    (fun hn => L.execCmd (hne _ hn (by decide)) trivial inner
      (fun sig raw hf _ => hinner (hne _ hn (by decide)) sig raw _ hf))
    (fun _ _ _ keys timeout => L.blockingPop trivial name keys timeout _ (fun _ => L.bpopPass trivial _ _ _))
    (fun _ _ _ _ _ timeout => L.blockingPop trivial name _ timeout _ (fun _ => L.brpoplpushPass trivial _ _ _))
    (fun _ => subscribeGen_wi c') (fun _ => unsubscribeGen_wi c') (fun _ => publish_wi) cis)

/-- behind the gate the command is not one of `c` that clears its watches -/
theorem wi_specialAt (mode : Mode) (c' : Nat) (inner : Inner) (hinner : c' ≠ c → InnerOK strict c d k R T inner)
    {n : String} {sig : Sig} (hf : SigTable.find n = some sig) (raw : List Bytes) (fs : Bool)
    (hcl : (fs = true → sig.noScript = false) → c' ≠ c ∨ sig.name ∉ clearing) :
    (wi_leaves (strict := strict) (c := c) (d := d) (k := k) (R := R) (T := T) mode c').SpecialAt (special inner) sig raw fs :=
  fun hg args cis hargs hs0 =>
    Pres.then (Q := fun r => ∀ x cis', r = .ok (x, cis') → CIs.Sound cis') fun u hu =>
      ⟨special_wi inner mode c' hinner sig.name args cis (hcl hg) (hargs (sigs_sigOK sig (SigTable.mem_of_find hf))) u hu,
        fun _ _ hr => special_closed inner CIs.closed_sound hs0 hr⟩

/-- the special body as a script calls it: the commands that clear the watches are refused by the `no_script` gate -/
theorem wi_stub (mode : Mode) (c' : Nat) {n : String} {sig : Sig} (hf : SigTable.find n = some sig) (raw : List Bytes) :
    (wi_leaves (strict := strict) (c := c) (d := d) (k := k) (R := R) (T := T) mode c').SpecialAt
      (special nestedStub) sig raw true :=
  wi_specialAt mode c' nestedStub (fun _ sig raw _ _ => (wi_leaves mode c').nestedStub sig raw) hf raw true
    (fun hg => .inr fun hm => by
      rw [sigs_clearing_noScript sig (SigTable.mem_of_find hf) hm] at hg
      exact absurd (hg rfl) (by decide))

theorem runInner_innerOK (mode : Mode) {c' : Nat} (hne : c' ≠ c) : InnerOK strict c d k R T (runInner mode c') :=
  fun sig raw _ hf => (wi_leaves mode c').runInner (fun _ _ raw hf => wi_stub mode c' hf raw) sig raw
    (wi_specialAt mode c' nestedStub (fun _ sig raw _ _ => (wi_leaves mode c').nestedStub sig raw) hf raw false
      (fun _ => .inl hne))

theorem runCommand_wi (mode : Mode) (c' : Nat) (sig : Sig) (raw : List Bytes) (fs : Bool) (n : String)
    (hf : SigTable.find n = some sig) (hcl : c' ≠ c ∨ sig.name ∉ clearing) :
    Pres WI (runCommand mode c' sig raw fs) :=
  (wi_leaves mode c').runCommand (fun _ _ raw hf => wi_stub mode c' hf raw) sig raw fs
    (wi_specialAt mode c' _ (fun hne => runInner_innerOK mode hne) hf raw fs (fun _ => hcl))

end

/-! ## `_process_command` -/

theorem foldl_forget_pres {P : Sys → Prop} {c : Nat} (hP : ∀ a s, a ≠ c → P s → P (s.forget a)) (l : List Nat)
    (s : Sys) (h : P s) (hc : c ∉ l) : P (l.foldl Sys.forget s) := by
  induction l generalizing s with
  | nil => exact h
  | cons a as ih => exact ih _ (hP a s (fun e => hc (by simp [e])) h) (fun hm => hc (List.mem_cons_of_mem _ hm))

section
variable {strict : Prop} {c d : Nat} {k : Bytes} {R : Option Item} {T : Int → Prop}
local notation "WI" => WInv strict c d k R T

theorem forget_wi {c' : Nat} (hne : c' ≠ c) {s : Sys} (h : WI s) : WI (s.forget c') := by
  unfold Sys.forget
  exact (h.frame (u' := { s with srv := { s.srv with
      subs := s.srv.subs.map (fun p => (p.1, p.2.filter (· != c'))),
      psubs := s.srv.psubs.map (fun p => (p.1, p.2.filter (· != c'))) } }) rfl rfl rfl rfl rfl).updConn_ne hne _
    (fun _ => rfl)

theorem forget_closed (s : Sys) (c' : Nat) : (s.forget c').srv.closedSockets = s.srv.closedSockets := rfl

theorem cleanupClosed_wi : Pres WI cleanupClosed := by
  intro s h
  rw [cleanupClosed_run]
  have h2 := foldl_forget_pres (fun a s hne h => forget_wi hne h) s.srv.closedSockets s h h.opened
  exact ⟨h2.data.frame rfl, h2.len, h2.time, h2.clocks, by simp [Sys.clearClosed], h2.watching, h2.ok⟩

theorem wi_setTime {now : Int} (hnow : T now) :
    Pres WI (modify fun s => { s with srv := { s.srv with time := now } }) :=
  fun _ h => ⟨h.data.frame rfl, h.len, hnow, h.clocks, h.opened, h.watching, h.ok⟩

/-- the request names a command that clears the watches of the connection issuing it -/
def Clearing (fields : List Bytes) : Prop :=
  ∃ nameB args sig, fields = nameB :: args ∧ lookupSig nameB = some sig ∧ sig.name ∈ clearing

theorem processCommand_wi (mode : Mode) (c' : Nat) (fields : List Bytes) (hcl : c' ≠ c ∨ ¬ Clearing fields) :
    Pres WI (processCommand mode c' fields) := by
  -- the command that is run, and whose arity error clears the watches when it is EXEC, is the one the request names
  have hsig : ∀ sig, reqSig fields = some sig →
      (c' ≠ c ∨ sig.name ∉ clearing) ∧ ∃ n, SigTable.find n = some sig := by
    intro sig h
    cases fields with
    | nil => cases h
    | cons nameB args => exact ⟨hcl.imp id (fun hn hm => hn ⟨nameB, args, sig, rfl, h, hm⟩), scriptSig_find h⟩
  exact processCommand_of
    { toSeq := Pres.seq _
      readCrashed := ReadOf.of_get (Pres.seq _) wi_get _
      getConn := fun _ hG => Pres.bind (Pres.getConn c') hG
      emit := wi_emit c'
      cleanupClosed := cleanupClosed_wi
      refresh := Pres.bindV T (fun s h => ⟨wi_readStable.nextClock s h, nextClock_T h⟩) (fun _ hnow => wi_setTime hnow)
      clearWatches := fun ⟨sig, h, he⟩ =>
        wi_clearWatches ((hsig sig h).1.resolve_right (fun hn => hn (he ▸ by decide)))
      poison := wi_modifyConn c' _ (fun _ => rfl) (fun _ => id) (fun _ => id)
      dropTx := wi_modifyConn c' _ (fun _ => rfl) (fun _ => id) (fun _ => id)
      enqueue := fun _ _ => wi_modifyConn c' _ (fun _ => rfl) (fun _ => id) (fun _ => id)
      markDead := wi_modifyConn c' _ (fun _ => rfl) (fun _ => id) (fun _ => id)
      runCommand := fun sig h =>
        (hsig sig h).2.elim fun n hf => runCommand_wi mode c' sig _ false n hf (hsig sig h).1 }

end

/-! ## the parser loop and the scheduler / asyncio events -/

/-- the requests the parser loop processes, in order -/
def drainCmds (mode : Mode) (c' : Nat) : Nat → Sys → List (List Bytes)
  | 0, _ => []
  | fuel + 1, s =>
    if (connOf s c').paused || (connOf s c').dead then []
    else match tryParse (connOf s c').buf with
      | none => []
      | some (fields, rest) => fields :: drainCmds mode c' fuel (processCommand mode c' fields (setBuf c' rest s)).2

section
variable {strict : Prop} {c d : Nat} {k : Bytes} {R : Option Item} {T : Int → Prop}
local notation "WI" => WInv strict c d k R T

theorem setBuf_wi (c' : Nat) (X : Bytes) {s : Sys} (h : WI s) : WI (setBuf c' X s) :=
  h.updConn c' _ (fun _ => rfl) (fun _ => id) (fun _ => id)

theorem drain_wi (mode : Mode) (c' : Nat) (fuel : Nat) (s : Sys) (h : WI s)
    (hq : c' ≠ c ∨ ∀ f ∈ drainCmds mode c' fuel s, ¬ Clearing f) : WI (drain mode c' fuel s).2 := by
  induction fuel generalizing s with
  | zero => exact h
  | succ fuel ih =>
    have e := drain_succ mode c' fuel s
    have e' : drain mode c' (fuel + 1) s = _ := e
    rw [e']
    unfold drainCmds at hq
    split
    · exact h
    · rename_i hp
      simp only [hp, if_false, Bool.false_eq_true] at hq
      split
      · exact h
      · rename_i fields rest heq
        simp only [heq] at hq
        have h1 : WI (processCommand mode c' fields (setBuf c' rest s)).2 :=
          processCommand_wi mode c' fields (hq.imp id (fun hh => hh fields (by simp))) _ (setBuf_wi c' rest h)
        exact ih _ h1 (hq.imp id (fun hh f hf => hh f (List.mem_cons_of_mem _ hf)))

theorem parkedPass_wi (c' : Nat) (p : Parked) : Pres WI (parkedPass c' p) :=
  (wi_leaves {} c').parkedPass c' p trivial

theorem wakeConn_wi (c' : Nat) : Pres WI (wakeConn c') := by
  have hJ := Pres.seq WI
  unfold wakeConn
  seq_descend hJ [Pres.getConn _, wi_readStable.fault _, parkedPass_wi _ _, wi_emit _ _, wi_readStable.nextClock,
    wi_modifyConn _ _ (fun _ => rfl) (fun _ => id) (fun _ => id)]

theorem timeoutConn_wi (c' : Nat) : Pres WI (timeoutConn c') := by
  have hJ := Pres.seq WI
  unfold timeoutConn
  seq_descend hJ [Pres.getConn _, wi_readStable.fault _, wi_emit _ _,
    wi_modifyConn _ _ (fun _ => rfl) (fun _ => id) (fun _ => id)]

theorem resumed_wi (c' : Nat) (r : Reply) {s : Sys} (h : WI s) : WI (s.resumed c' r) := by
  unfold Sys.resumed
  have h1 : WI (s.updConn c' Conn.unpark) := h.updConn c' _ (fun _ => rfl) (fun _ => id) (fun _ => id)
  have := wi_emit (strict := strict) (c := c) (d := d) (k := k) (R := R) (T := T) c' r _ h1
  rw [emit_run] at this
  exact this

def resumeCmds (mode : Mode) (c' : Nat) (s : Sys) : List (List Bytes) :=
  drainCmds mode c' ((s.conn c').buf.length + 1) s

/-- the requests processed by the re-try task of a parked asyncio connection -/
def awakeCmds (mode : Mode) (c' : Nat) (s : Sys) : List (List Bytes) :=
  match (s.conn c').parked with
  | none => []
  | some p =>
    match parkedPass c' p s with
    | (.error e, s1) => resumeCmds mode c' (s1.resumed c' (.err (strBytes e)))
    | (.ok (some r), s1) => resumeCmds mode c' (s1.resumed c' r)
    | (.ok none, _) => []

def atimeoutCmds (mode : Mode) (c' : Nat) (s : Sys) : List (List Bytes) :=
  match (s.conn c').parked with
  | none => []
  | some _ => resumeCmds mode c' (s.resumed c' .nil)

theorem wakeConnAsync_wi (mode : Mode) (c' : Nat) (s : Sys) (h : WI s)
    (hq : c' ≠ c ∨ ∀ f ∈ awakeCmds mode c' s, ¬ Clearing f) : WI (wakeConnAsync mode c' s).2 := by
  rw [wakeConnAsync_eq]
  cases hp : (s.conn c').parked with
  | none => exact wi_readStable.fault _ s h
  | some p =>
    unfold awakeCmds at hq
    simp only [hp] at hq
    have h1 := parkedPass_wi (strict := strict) (c := c) (d := d) (k := k) (R := R) (T := T) c' p s h
    dsimp only
    revert hq
    generalize parkedPass c' p s = res at h1
    obtain ⟨r, s1⟩ := res
    intro hq
    rcases r with e | _ | r
    · exact drain_wi mode c' _ _ (resumed_wi c' _ h1) hq
    · exact h1.updConn c' _ (fun _ => rfl) (fun _ => id) (fun _ => id)
    · exact drain_wi mode c' _ _ (resumed_wi c' _ h1) hq

theorem timeoutConnAsync_wi (mode : Mode) (c' : Nat) (s : Sys) (h : WI s)
    (hq : c' ≠ c ∨ ∀ f ∈ atimeoutCmds mode c' s, ¬ Clearing f) : WI (timeoutConnAsync mode c' s).2 := by
  rw [timeoutConnAsync_eq]
  cases hp : (s.conn c').parked with
  | none => exact wi_readStable.fault _ s h
  | some p =>
    unfold atimeoutCmds at hq
    simp only [hp] at hq
    exact drain_wi mode c' _ _ (resumed_wi c' _ h) hq

def sendCmds (mode : Mode) (c' : Nat) (data : Bytes) (s : Sys) : List (List Bytes) :=
  if !s.srv.connected then []
  else if (connOf s c').dead then []
  else drainCmds mode c' ((connOf s c').buf.length + data.length + 1) (appendBuf c' data s)

theorem sendallGuarded_wi (mode : Mode) (c' : Nat) (data : Bytes) (s : Sys) (h : WI s)
    (hq : c' ≠ c ∨ ∀ f ∈ sendCmds mode c' data s, ¬ Clearing f) : WI (sendallGuarded mode c' data s).2 := by
  unfold sendCmds at hq
  cases hc : s.srv.connected with
  | false =>
    rw [sendallGuarded_run_down mode c' data s hc]
    exact h.frame rfl rfl rfl rfl rfl
  | true =>
    rw [sendallGuarded_run_up mode c' data s hc]
    simp only [hc, Bool.not_true, Bool.false_eq_true, if_false] at hq
    have e := sendall_run mode c' data s
    have e' : sendall mode c' data s = _ := e
    rw [e']
    split
    · exact h.frame rfl rfl rfl rfl rfl
    · rename_i hd
      simp only [hd, if_false, Bool.false_eq_true] at hq
      exact drain_wi mode c' _ _ (h.updConn c' _ (fun _ => rfl) (fun _ => id) (fun _ => id)) hq

end

/-! ## events and histories -/

/-- the same as `Twin.Ev.clocks`; the statements of `FR/Props/C06s.lean` name this one -/
def evClocks : Ev → List Int
  | .request _ _ _ clocks _ => clocks
  | .send _ _ _ clocks _ => clocks
  | .wake _ clocks => clocks
  | .awake _ _ clocks _ => clocks
  | .atimeout _ _ clocks _ => clocks
  | _ => []

/-- Event `e`, run from `s`, does not clear the watches of connection `c`: it is not `close c` / `gc c`, and no
request it makes connection `c` process is EXEC, DISCARD or UNWATCH. -/
def Quiet (c : Nat) (s : Sys) : Ev → Prop
  | .close c' => c' ≠ c
  | .gc c' => c' ≠ c
  | .request _ c' fields _ _ => c' ≠ c ∨ ¬ Clearing fields
  | .send mode c' data clocks picks =>
    c' ≠ c ∨ ∀ f ∈ sendCmds mode c' data (s.beginEvent.withHints clocks picks), ¬ Clearing f
  | .awake mode c' clocks picks =>
    c' ≠ c ∨ ∀ f ∈ awakeCmds mode c' (s.beginEvent.withHints clocks picks), ¬ Clearing f
  | .atimeout mode c' clocks picks =>
    c' ≠ c ∨ ∀ f ∈ atimeoutCmds mode c' (s.beginEvent.withHints clocks picks), ¬ Clearing f
  | _ => True

/-- `HistAll (Quiet c)` of `FR/Proofs/Hist.lean`, written out -/
def QuietRun (c : Nat) : Sys → List Ev → Prop
  | _, [] => True
  | s, e :: es => Quiet c s e ∧ QuietRun c (stepEv s e) es

section
variable {strict : Prop} {c d : Nat} {k : Bytes} {R : Option Item} {T : Int → Prop}
local notation "WI" => WInv strict c d k R T

theorem WInv.beginEvent {s : Sys} (h : WI s) : WI s.beginEvent := h.frame rfl rfl rfl rfl rfl

theorem WInv.withHints {s : Sys} (h : WI s) (clocks : List Int) (picks : List (List Bytes)) (hT : ∀ t ∈ clocks, T t) :
    WI (s.beginEvent.withHints clocks picks) :=
  ⟨h.data.frame rfl, h.len, h.time, hT, h.opened, h.watching, h.ok⟩

/-- One event that does not clear the watches of `c` preserves the invariant.  Each arm reads `Quiet c s e` at its own
constructor (`c' ≠ c` for close and gc, a condition on the requests processed for a write or an asyncio resumption), so
the split is on the event itself; the fields of `Events` would have to repeat the same binders. -/
theorem stepEv_wi (s : Sys) (e : Ev) (h : WI s) (hq : Quiet c s e) (hT : ∀ t ∈ evClocks e, T t) : WI (stepEv s e) := by
  unfold stepEv
  cases e with
  | version v => exact h.frame rfl rfl rfl rfl rfl
  | «open» c' =>
    have h0 := h.beginEvent
    refine h0.mk' (h0.data.frame rfl) rfl rfl (fun t ht => ht) rfl ?_
    show ConnOK d k _ ((openConn c' s.beginEvent).2.conn c)
    rw [openConn_conn]
    exact h0.connOK
  | close c' =>
    have h0 := h.beginEvent
    have hne : c' ≠ c := hq
    show WI (closeConn c' s.beginEvent).2
    rw [closeConn_run]
    have h1 : WI ({ s.beginEvent with srv := { s.beginEvent.srv with closedSockets := s.beginEvent.srv.closedSockets ++ [c'] } } : Sys) :=
      ⟨h0.data.frame rfl, h0.len, h0.time, h0.clocks, by
        show c ∉ s.srv.closedSockets ++ [c']
        simp only [List.mem_append, List.mem_singleton, not_or]
        exact ⟨h.opened, fun e => hne e.symm⟩, h0.watching, h0.ok⟩
    exact h1.updConn_ne hne _ (fun _ => rfl)
  | gc c' =>
    have h0 := h.beginEvent
    have hne : c' ≠ c := hq
    refine ⟨h0.data.frame rfl, h0.len, h0.time, h0.clocks, ?_, ?_, ?_⟩
    · show c ∉ s.srv.closedSockets.filter (· != c')
      exact fun hm => h.opened (List.mem_filter.1 hm).1
    · show (d, k) ∈ ((gcConn c' s.beginEvent).2.conn c).watches
      rw [gcConn_conn_other c' c _ (Ne.symm hne)]; exact h0.watching
    · show ((gcConn c' s.beginEvent).2.conn c).watchNotified = true ∨ _
      rw [gcConn_conn_other c' c _ (Ne.symm hne)]; exact h0.ok
  | conn up => exact h.frame rfl rfl rfl rfl rfl
  | request mode c' fields clocks picks =>
    exact processCommand_wi mode c' fields hq _ (h.withHints clocks picks hT)
  | send mode c' data clocks picks =>
    exact sendallGuarded_wi mode c' data _ (h.withHints clocks picks hT) hq
  | wake c' clocks => exact wakeConn_wi c' _ (h.withHints clocks [] hT)
  | timeout c' => exact timeoutConn_wi c' _ h.beginEvent
  | awake mode c' clocks picks => exact wakeConnAsync_wi mode c' _ (h.withHints clocks picks hT) hq
  | atimeout mode c' clocks picks => exact timeoutConnAsync_wi mode c' _ (h.withHints clocks picks hT) hq

theorem foldl_stepEv_wi (evs : List Ev) (s : Sys) (h : WI s) (hq : QuietRun c s evs)
    (hT : ∀ e ∈ evs, ∀ t ∈ evClocks e, T t) : WI (evs.foldl stepEv s) := by
  induction evs generalizing s with
  | nil => exact h
  | cons e es ih =>
    exact ih _ (stepEv_wi s e h hq.1 (hT e (by simp))) hq.2 (fun e' he' => hT e' (by simp [he']))

end

/-! ## every reachable state has 16 databases (invariant `LenIs`) -/

def LenIs (N : Nat) (s : Sys) : Prop := s.srv.dbs.length = N

section
variable {N : Nat}

theorem len_get : Pres (LenIs N) (MonadState.get : M Sys) := fun _ h => h
theorem len_setDb (i : Nat) (db : Db) : Pres (LenIs N) (setDb i db) := by
  intro s h
  show (s.srv.dbs.set i db.dict).length = N
  rw [List.length_set]; exact h
theorem len_modify_frame (g : Sys → Sys) (h1 : ∀ s, (g s).srv.dbs = s.srv.dbs) : Pres (LenIs N) (modify g) := by
  intro s h
  show (g s).srv.dbs.length = N
  rw [h1]; exact h

theorem unwatch_len (c : Nat) (cis : List CI) :
    Pres (LenIs N) (do clearWatches c; okR .ok cis : M SpecialOut) :=
  Pres.bind (fun _ h => h) (fun _ => Pres.pure _)

/-- only `setDb` touches the list of databases, and it keeps the length -/
theorem len_stable (mode : Mode) (c : Nat) : Conserve.Stable (LenIs N) mode c :=
  (Conserve.StableBase.ofSetDb (c := c) (setDb := fun s i db h => len_setDb i db s h) (conn := fun _ _ _ h => h)
    (notify := fun _ _ _ h => h)
    (hint := fun s s' h1 _ _ _ hs => by
      show s'.srv.dbs.length = N
      rw [h1]; exact hs)
    (scripts := fun _ => len_modify_frame _ (fun _ => rfl))
    (lastsave := fun _ => len_modify_frame _ (fun _ => rfl))).toStable_ofSetDb
      (fun s i db h => len_setDb i db s h) (fun _ _ _ h => h)

theorem len_whole : Conserve.Whole (LenIs N) where
  cmd := len_stable
  frame := fun s s' h _ hs => by
    show s'.srv.dbs.length = N
    rw [h]; exact hs
  conn := fun _ _ _ _ h => h
  inTx := fun _ _ _ h => h
  unpark := fun _ _ _ _ h => h
  stay := fun s c p h _ _ => (len_stable {} c).parkedPass c p s h
  opn := fun _ _ h => h
  gc := fun _ _ h => h

end

theorem runHistory_len (evs : List Ev) : (runHistory evs).srv.dbs.length = 16 :=
  len_whole.runHistory (by show (List.replicate 16 ([] : Dict)).length = 16; simp) evs

/-! ## the theorems about histories -/

/-- the state in which the watch period starts: data invariant and 16 databases (both hold in every reachable state), `c`
not closed and watching `(d, k)` -/
structure Base (c d : Nat) (k : Bytes) (s : Sys) : Prop where
  data : s.DataInv
  len : s.srv.dbs.length = 16
  opened : c ∉ s.srv.closedSockets
  watching : (d, k) ∈ (s.conn c).watches

/-- the clock readings that can be in force during the history `evs` run from `s` -/
def Times (s : Sys) (evs : List Ev) (t : Int) : Prop :=
  t = s.srv.time ∨ t ∈ s.clocks ∨ ∃ e ∈ evs, t ∈ evClocks e

/-- the live entry of `k` in database `d` (expired entries count as absent) -/
def liveAt (s : Sys) (d : Nat) (k : Bytes) : Option Item := (s.dbAt d).live k

theorem liveAt_eq (s : Sys) (hd : s.DataInv) (d : Nat) (k : Bytes) : liveAt s d k = liveOf s.srv.time (rawAt s d k) :=
  live_eq_liveOf (hd.dbAt d).1 k

theorem liveOf_const {R : Option Item} {T : Int → Prop} (nc : NoCross R T) {t t' : Int} (ht : T t) (ht' : T t') :
    liveOf t R = liveOf t' R := by
  cases R with
  | none => rfl
  | some it =>
    simp only [liveOf]
    by_cases h1 : expiredAt t it = true
    · rw [h1, nc it rfl t t' ht ht' h1]
    · by_cases h2 : expiredAt t' it = true
      · exact absurd (nc it rfl t' t ht' ht h2) h1
      · simp [h1, h2]

section
variable {c d : Nat} {k : Bytes}

theorem QuietRun_append (s : Sys) (a b : List Ev) :
    QuietRun c s (a ++ b) ↔ QuietRun c s a ∧ QuietRun c (a.foldl stepEv s) b := by
  induction a generalizing s with
  | nil => simp [QuietRun]
  | cons e es ih => simp only [List.cons_append, QuietRun, List.foldl_cons, ih, and_assoc]

theorem WInv.base {strict : Prop} {R : Option Item} {T : Int → Prop} {u : Sys} (h : WInv strict c d k R T u) :
    Base c d k u := ⟨h.data, h.len, h.opened, h.watching⟩

theorem Base.init_sound {s : Sys} (b : Base c d k s) {T : Int → Prop}
    (ht : T s.srv.time) (hc : ∀ t ∈ s.clocks, T t) : WInv False c d k (rawAt s d k) T s :=
  ⟨b.data, b.len, ht, hc, b.opened, b.watching, .inr ⟨not_false, .inl rfl⟩⟩

theorem Base.init_strict {s : Sys} (b : Base c d k s) (hn : (s.conn c).watchNotified = true) :
    WInv True c d k none (fun _ => True) s :=
  ⟨b.data, b.len, trivial, fun _ _ => trivial, b.opened, b.watching, .inl hn⟩

theorem WInv.live_or_notified {R : Option Item} {T : Int → Prop} {u : Sys} (h : WInv False c d k R T u)
    (nc : NoCross R T) : (u.conn c).watchNotified = true ∨ liveAt u d k = liveOf u.srv.time R := by
  rcases h.ok with hn | ⟨_, hr⟩
  · exact .inl hn
  · right
    rw [liveAt_eq u h.data, hr.liveOf nc h.time]

/-- soundness over a history (C06 at system level, `FR/Props/C06s.lean`) -/
theorem history_sound (s : Sys) (evs : List Ev) (b : Base c d k s) (hq : QuietRun c s evs)
    (nc : NoCross (rawAt s d k) (Times s evs)) :
    Base c d k (evs.foldl stepEv s) ∧
    (liveAt (evs.foldl stepEv s) d k ≠ liveAt s d k → ((evs.foldl stepEv s).conn c).watchNotified = true) := by
  have h0 := b.init_sound (T := Times s evs) (.inl rfl) (fun t ht => .inr (.inl ht))
  have h1 := foldl_stepEv_wi evs s h0 hq (fun e he t ht => .inr (.inr ⟨e, he, ht⟩))
  refine ⟨h1.base, fun hne => ?_⟩
  rcases h1.live_or_notified nc with hn | hl
  · exact hn
  · exfalso
    apply hne
    rw [hl, liveAt_eq s b.data, liveOf_const nc h1.time (.inl rfl)]

theorem history_sticky (s : Sys) (evs : List Ev) (b : Base c d k s) (hq : QuietRun c s evs)
    (hn : (s.conn c).watchNotified = true) :
    Base c d k (evs.foldl stepEv s) ∧ ((evs.foldl stepEv s).conn c).watchNotified = true := by
  have h1 := foldl_stepEv_wi evs s (b.init_strict hn) hq (fun _ _ _ _ => trivial)
  refine ⟨h1.base, ?_⟩
  rcases h1.ok with hn | ⟨hf, _⟩
  · exact hn
  · exact absurd trivial hf

/-- "even if it was later changed back": whatever `post` does, the flag stays set -/
theorem history_changed (s : Sys) (pre post : List Ev) (b : Base c d k s) (hq : QuietRun c s (pre ++ post))
    (nc : NoCross (rawAt s d k) (Times s pre))
    (hch : liveAt (pre.foldl stepEv s) d k ≠ liveAt s d k) :
    Base c d k ((pre ++ post).foldl stepEv s) ∧ (((pre ++ post).foldl stepEv s).conn c).watchNotified = true := by
  rw [QuietRun_append] at hq
  have h1 := history_sound s pre b hq.1 nc
  rw [List.foldl_append]
  exact history_sticky _ post h1.1 hq.2 (h1.2 hch)

end


/-! ## which events clear the watches, which add -/

section
variable {c d : Nat} {k : Bytes}

theorem history_keeps_watch (s : Sys) (evs : List Ev) (b : Base c d k s) (hq : QuietRun c s evs) :
    Base c d k (evs.foldl stepEv s) :=
  (foldl_stepEv_wi evs s (b.init_sound (T := fun _ => True) trivial (fun _ _ => trivial)) hq
    (fun _ _ _ _ => trivial)).base

theorem conn_cleared (s : Sys) (c : Nat) :
    ((s.updConn c fun x => { x with watchNotified := false, watches := [] }).conn c).watches = [] ∧
    ((s.updConn c fun x => { x with watchNotified := false, watches := [] }).conn c).watchNotified = false := by
  generalize hu : (s.updConn c fun x => { x with watchNotified := false, watches := [] }) = u
  rcases Sys.conn_mem_or_default u c with hm | hd
  · have hid := Sys.conn_id u c
    rw [← hu] at hm
    obtain ⟨x, hx, hxe⟩ := List.mem_map.1 hm
    rw [hu] at hxe
    rw [← hxe] at hid ⊢
    by_cases hxc : (x.id == c) = true
    · simp [hxc]
    · simp only [hxc, if_false] at hid
      exact absurd (by simpa using hid) hxc
  · rw [hd]; exact ⟨rfl, rfl⟩

theorem cleanup_clears (s : Sys) (c : Nat) (hc : c ∈ s.srv.closedSockets) :
    ((cleanupClosed s).2.conn c).watches = [] ∧ ((cleanupClosed s).2.conn c).watchNotified = false := by
  rw [cleanupClosed_run]
  have key : ∀ (l : List Nat) (s : Sys),
      (c ∈ l ∨ ((s.conn c).watches = [] ∧ (s.conn c).watchNotified = false)) →
      ((l.foldl Sys.forget s).conn c).watches = [] ∧ ((l.foldl Sys.forget s).conn c).watchNotified = false := by
    intro l
    induction l with
    | nil =>
      intro s h
      rcases h with h | h
      · cases h
      · exact h
    | cons a as ih =>
      intro s h
      rw [List.foldl_cons]
      apply ih
      by_cases hac : a = c
      · right; subst hac; rw [Sys.forget_conn_same]; exact ⟨rfl, rfl⟩
      · rcases h with h | h
        · rcases List.mem_cons.1 h with rfl | h
          · exact absurd rfl hac
          · exact .inl h
        · right; rw [Sys.forget_conn_ne s (Ne.symm hac)]; exact h
  exact key _ s (.inl hc)

/-- the watch list after WATCH of the keys `ks` in database `d'` -/
def addWatches (d' : Nat) (ks : List Bytes) (w : List (Nat × Bytes)) : List (Nat × Bytes) :=
  ks.foldl (fun w key => if w.contains (d', key) then w else w ++ [(d', key)]) w

theorem mem_addWatches (d' : Nat) (ks : List Bytes) (w : List (Nat × Bytes)) (key : Bytes) (hk : key ∈ ks) :
    (d', key) ∈ addWatches d' ks w := by
  unfold addWatches
  induction ks generalizing w with
  | nil => cases hk
  | cons a as ih =>
    simp only [List.foldl_cons]
    rcases List.mem_cons.1 hk with rfl | hk
    · apply foldl_watch_mem
      split
      · rename_i h; exact List.contains_iff_mem.1 h
      · simp
    · exact ih _ hk

end

/-! ## completeness: the flag is set by `notify_watch` of a watched pair only (regular commands) -/

/-- the statement the completeness direction (`FR/Proofs/NotifyKeys.lean`) rests on -/
theorem runWith_regular_flag (sp : SpecialFn) (mode : Mode) (c' : Nat) (sig : Sig) (raw : List Bytes) (fs : Bool)
    {body : Body} (hreg : Cmd.regular sig.name = some body) (s : Sys) (c : Nat) :
    ((runWith sp mode c' sig raw fs s).2.conn c).watches = (s.conn c).watches ∧
    ((runWith sp mode c' sig raw fs s).2.conn c).watchNotified =
      ((s.conn c).watchNotified ||
        (s.regularOut c' sig body raw fs).notified.any fun key => (s.conn c).watches.contains ((s.conn c').db, key)) := by
  cases hr : s.refuses c' sig with
  | true =>
    -- refused in subscriber mode: nothing changes, and nothing is notified
    rw [runWith_refused sp mode c' sig raw fs hr, (Sys.regularOut_of_refused body raw fs hr).1]
    exact ⟨rfl, by simp⟩
  | false =>
  rw [runWith_regular_run sp mode c' sig raw fs hreg s hr]
  unfold Sys.afterRegular
  generalize s.regularOut c' sig body raw fs = o
  generalize hs1 : Sys.faultS ({ s with srv := { s.srv with dbs := s.srv.dbs.set (s.conn c').db o.db.dict }, picks := s.picks.drop o.picksUsed } : Sys) o.fault = s1
  have h := forM_notify_flag (s.conn c').db o.notified s1 c
  have hc : s1.conn c = s.conn c := by
    rw [← hs1]; simp only [Sys.conn_def, Sys.faultS_srv]
  rw [hc] at h
  exact h

/-- `c` is the watching connection: not closed, with watch list `W` and flag `b`; `c'` is the connection whose command
runs, selected on database `d0`, so that the pairs its write-back can notify are `(d0, key)`.  A computation that keeps
`FlagInv c c' W b d0` has left watch list and flag of `c` alone. -/
structure FlagInv (c c' : Nat) (W : List (Nat × Bytes)) (b : Bool) (d0 : Nat) (u : Sys) : Prop where
  opened : c ∉ u.srv.closedSockets
  watches : (u.conn c).watches = W
  flag : (u.conn c).watchNotified = b
  db : (u.conn c').db = d0

section
variable {c c' : Nat} {W : List (Nat × Bytes)} {b : Bool} {d0 : Nat}

theorem FlagInv.frame {u u' : Sys} (h : FlagInv c c' W b d0 u) (h1 : u'.srv.closedSockets = u.srv.closedSockets)
    (h2 : u'.srv.conns = u.srv.conns) : FlagInv c c' W b d0 u' := by
  have e : ∀ x, u'.conn x = u.conn x := fun x => by simp only [Sys.conn_def, h2]
  exact ⟨h1 ▸ h.opened, (e c) ▸ h.watches, (e c) ▸ h.flag, (e c') ▸ h.db⟩

theorem flag_emit (x : Nat) (r : Reply) : Pres (FlagInv c c' W b d0) (emit x r) := by
  intro s h
  rw [emit_run]
  exact h.frame (by rw [Sys.emitS_srv]) (by rw [Sys.emitS_srv])

theorem flag_modifyConn (x : Nat) (f : Conn → Conn) (hid : ∀ y, (f y).id = y.id := by intro _; rfl)
    (hw : ∀ y, (f y).watches = y.watches := by intro _; rfl)
    (hn : ∀ y, (f y).watchNotified = y.watchNotified := by intro _; rfl)
    (hd : ∀ y, (f y).db = y.db := by intro _; rfl) : Pres (FlagInv c c' W b d0) (modifyConn x f) := by
  intro s h
  refine ⟨h.opened, ?_, ?_, ?_⟩
  · exact Sys.conn_updConn_pred s x c f (fun y => y.watches = W) hid (fun y hy => (hw y).trans hy) h.watches
  · exact Sys.conn_updConn_pred s x c f (fun y => y.watchNotified = b) hid (fun y hy => (hn y).trans hy) h.flag
  · exact Sys.conn_updConn_pred s x c' f (fun y => y.db = d0) hid (fun y hy => (hd y).trans hy) h.db

theorem flag_cleanupClosed : Pres (FlagInv c c' W b d0) cleanupClosed := by
  intro s h
  rw [cleanupClosed_run]
  have step : ∀ a s, a ≠ c → FlagInv c c' W b d0 s → FlagInv c c' W b d0 (s.forget a) := by
    intro a s hac h
    refine ⟨h.opened, by rw [Sys.forget_conn_ne s (Ne.symm hac)]; exact h.watches, by rw [Sys.forget_conn_ne s (Ne.symm hac)]; exact h.flag, ?_⟩
    by_cases hac' : a = c'
    · subst hac'
      unfold Sys.forget
      exact Sys.conn_updConn_pred _ a a _ (fun y => y.db = d0) (fun _ => rfl) (fun y hy => hy) h.db
    · rw [Sys.forget_conn_ne s (Ne.symm hac')]; exact h.db
  have h2 := foldl_forget_pres step s.srv.closedSockets s h h.opened
  exact ⟨by simp [Sys.clearClosed], h2.watches, h2.flag, h2.db⟩

theorem regular_not_script {sig : Sig} {body : Body} (hreg : Cmd.regular sig.name = some body) :
    sig.name ∉ scriptNames := by
  intro hm
  simp only [scriptNames, List.mem_cons, List.mem_singleton, List.not_mem_nil, or_false] at hm
  rcases hm with h | h | h <;> rw [h] at hreg <;> cases hreg

end

/-! ## the sharp form for a single request: compare both dictionaries at the later state's time -/

def setTime (t : Int) (s : Sys) : Sys := { s with srv := { s.srv with time := t } }

theorem foldl_forget_setTime (t : Int) (l : List Nat) (s : Sys) :
    l.foldl Sys.forget (setTime t s) = setTime t (l.foldl Sys.forget s) := by
  induction l generalizing s with
  | nil => rfl
  | cons a as ih => rw [List.foldl_cons, List.foldl_cons]; exact ih (s.forget a)

/-- the prologue of `_process_command` overwrites the clock with its first reading -/
theorem prologue_setTime (t : Int) (rest : List Int) (s : Sys) (hc : s.clocks = t :: rest) :
    (setTime t s).prologue = s.prologue := by
  unfold Sys.prologue Sys.refresh
  rw [cleanupClosed_run, cleanupClosed_run]
  have e1 : (setTime t s).srv.closedSockets = s.srv.closedSockets := rfl
  rw [e1, foldl_forget_setTime]
  generalize hu : s.srv.closedSockets.foldl Sys.forget s = u
  have huc : u.clocks = t :: rest := by
    rw [← hu]
    have : ∀ (l : List Nat) (s : Sys), (l.foldl Sys.forget s).clocks = s.clocks := by
      intro l
      induction l with
      | nil => intro s; rfl
      | cons a as ih => intro s; rw [List.foldl_cons, ih]; rfl
    rw [this]; exact hc
  simp only [nextClock_run]
  have h1 : (setTime t u).clearClosed.clocks = t :: rest := huc
  have h2 : u.clearClosed.clocks = t :: rest := huc
  rw [h1, h2]
  rfl

/-- the event does not depend on the clock of the state it starts from -/
theorem processCommand_setTime (mode : Mode) (c' : Nat) (nameB : Bytes) (args : List Bytes) (sig : Sig)
    (hl : lookupSig nameB = some sig) (t : Int) (rest : List Int) (s : Sys) (hc : s.clocks = t :: rest) :
    processCommand mode c' (nameB :: args) (setTime t s) = processCommand mode c' (nameB :: args) s := by
  rw [processCommand_eq, processCommand_eq, Sys.processed_known mode c' args _ hl, Sys.processed_known mode c' args _ hl,
    prologue_setTime t rest s hc]
  rfl


section
variable {c d : Nat} {k : Bytes}

/-- Sharp one-step form: both dictionaries are compared at the new state's time `t`.  The only exclusion left concerns the
further readings `rest` the command itself may consume (TIME, SAVE, a blocking pop), which never become the server time. -/
theorem request_sound_sharp (s : Sys) (mode : Mode) (c' : Nat) (nameB : Bytes) (args : List Bytes) (t : Int)
    (rest : List Int) (picks : List (List Bytes)) (sig : Sig) (hl : lookupSig nameB = some sig)
    (b : Base c d k s) (hq : c' ≠ c ∨ ¬ Clearing (nameB :: args))
    (nc : NoCross (rawAt s d k) (· ∈ t :: rest)) :
    Base c d k (stepEv s (.request mode c' (nameB :: args) (t :: rest) picks)) ∧
    (liveAt (stepEv s (.request mode c' (nameB :: args) (t :: rest) picks)) d k ≠
        liveOf (stepEv s (.request mode c' (nameB :: args) (t :: rest) picks)).srv.time (rawAt s d k) →
      ((stepEv s (.request mode c' (nameB :: args) (t :: rest) picks)).conn c).watchNotified = true) := by
  have e : stepEv s (.request mode c' (nameB :: args) (t :: rest) picks) =
      (processCommand mode c' (nameB :: args) (setTime t (s.beginEvent.withHints (t :: rest) picks))).2 := by
    rw [processCommand_setTime mode c' nameB args sig hl t rest _ rfl]
    rfl
  rw [e]
  have h0 : WInv False c d k (rawAt s d k) (· ∈ t :: rest) (setTime t (s.beginEvent.withHints (t :: rest) picks)) :=
    ⟨b.data.frame rfl, b.len, by simp [setTime], fun t' ht' => ht', b.opened, b.watching,
      .inr ⟨not_false, .inl rfl⟩⟩
  have h1 := processCommand_wi mode c' (nameB :: args) hq _ h0
  refine ⟨h1.base, fun hne => ?_⟩
  rcases h1.live_or_notified nc with hn | hl'
  · exact hn
  · exact absurd hl' hne

theorem noCross_single (R : Option Item) (t : Int) : NoCross R (· ∈ [t]) := by
  intro it _ t1 t2 h1 h2 he
  simp only [List.mem_singleton] at h1 h2
  rw [h2, ← h1]; exact he

end

end FR.WatchSys

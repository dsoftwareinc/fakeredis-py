import FR.Proofs.Lockset
import FR.Sys.LockTable
import FR.Props.C12l
/-!
# C12: executions of a command through the static lock table, as lockset traces

`LExec tid t f held ltr`: thread `tid` running function `f` of table `t`, holding the lock or not, may produce the trace
`ltr`, each event labelled with the `(function, atom)` of its table entry.  Control flow is over-approximated: any accesses
and call edges of `f`, in any order, any number of times, with arbitrary object ids.  `Exec` is the same without labels.
`reports` scans a labelled trace with `Lockset.bad` / `next`; `exec_reports` is the invariant behind `FR/Props/C12t.lean`.
Last part: `LInv`, one thread's part of the scan state.
-/
namespace FR.Props.C12t
open FR.Lockset FR.LockTable FR.Props.C12l

/-- label of an event: (function, atom) of the table entry; atom `""` for the `acq` / `rel` of a `with` block -/
abbrev Lab := String × String
abbrev LTrace := List (Ev × Lab)

def proj (ltr : LTrace) : Trace := ltr.map (·.1)

/-- `with lock:` around `body` in function `f`; `b`: the `with` really takes the lock -/
def bracket (tid : Tid) (f : String) (b : Bool) (body : LTrace) : LTrace :=
  if b then (Ev.acq tid, (f, "")) :: body ++ [(Ev.rel tid, (f, ""))] else body

def accEvs (tid : Tid) (f a : String) (l held : Bool) (o : Nat) (w : Bool) : LTrace :=
  bracket tid f (l && !held) [(Ev.acc tid o w, (f, a))]

inductive LExec (tid : Tid) (t : Table) : String → Bool → LTrace → Prop
  | done (f : String) (held : Bool) : LExec tid t f held []
  | access {f : String} {held : Bool} {fn : Fn} {a : String} {l : Bool} {rest : LTrace} (o : Nat) (w : Bool) :
      fn ∈ t → fn.name = f → (a, l) ∈ fn.accesses → LExec tid t f held rest →
      LExec tid t f held (accEvs tid f a l held o w ++ rest)
  | call {f : String} {held : Bool} {fn : Fn} {g : String} {l : Bool} {body rest : LTrace} :
      fn ∈ t → fn.name = f → (g, l) ∈ fn.calls → LExec tid t g (held || l) body → LExec tid t f held rest →
      LExec tid t f held (bracket tid f (l && !held) body ++ rest)

inductive Exec (tid : Tid) (t : Table) : String → Bool → Trace → Prop
  | done (f : String) (held : Bool) : Exec tid t f held []
  | access {f : String} {held : Bool} {fn : Fn} {a : String} {l : Bool} {rest : Trace} (o : Nat) (w : Bool) :
      fn ∈ t → fn.name = f → (a, l) ∈ fn.accesses → Exec tid t f held rest →
      Exec tid t f held ((if l && !held then [Ev.acq tid, Ev.acc tid o w, Ev.rel tid] else [Ev.acc tid o w]) ++ rest)
  | call {f : String} {held : Bool} {fn : Fn} {g : String} {l : Bool} {body rest : Trace} :
      fn ∈ t → fn.name = f → (g, l) ∈ fn.calls → Exec tid t g (held || l) body → Exec tid t f held rest →
      Exec tid t f held ((if l && !held then Ev.acq tid :: body ++ [Ev.rel tid] else body) ++ rest)

theorem proj_append (a b : LTrace) : proj (a ++ b) = proj a ++ proj b := by simp [proj]

theorem proj_bracket (tid : Tid) (f : String) (b : Bool) (body : LTrace) :
    proj (bracket tid f b body) = if b then Ev.acq tid :: proj body ++ [Ev.rel tid] else proj body := by
  cases b <;> simp [bracket, proj]

theorem exec_labelled {tid : Tid} {t : Table} {f : String} {held : Bool} {tr : Trace} (h : Exec tid t f held tr) :
    ∃ ltr, LExec tid t f held ltr ∧ proj ltr = tr := by
  induction h with
  | done f held => exact ⟨[], .done f held, rfl⟩
  | @access f held fn a l rest o w hfn hname ha _ ih =>
    obtain ⟨lr, hl, hp⟩ := ih
    refine ⟨_, .access o w hfn hname ha hl, ?_⟩
    rw [proj_append, hp, accEvs, proj_bracket]
    cases (l && !held) <;> simp [proj]
  | @call f held fn g l body rest hfn hname hc _ _ ihb ihr =>
    obtain ⟨lb, hlb, hpb⟩ := ihb
    obtain ⟨lr, hlr, hpr⟩ := ihr
    refine ⟨_, .call hfn hname hc hlb hlr, ?_⟩
    rw [proj_append, hpr, proj_bracket, hpb]

theorem lexec_proj {tid : Tid} {t : Table} {f : String} {held : Bool} {ltr : LTrace} (h : LExec tid t f held ltr) :
    Exec tid t f held (proj ltr) := by
  induction h with
  | done f held => exact .done f held
  | @access f held fn a l rest o w hfn hname ha _ ih =>
    have := Exec.access (tid := tid) o w hfn hname ha ih
    rw [proj_append, accEvs, proj_bracket]
    cases hb : (l && !held) <;> simpa [proj, hb] using this
  | @call f held fn g l body rest hfn hname hc _ _ ihb ihr =>
    have := Exec.call (tid := tid) hfn hname hc ihb ihr
    rw [proj_append, proj_bracket]
    exact this

/-! ## scanning a labelled trace -/

def reports (st : St) : LTrace → List (String × Lab)
  | [] => []
  | (e, lab) :: rest =>
    (match bad st e with
      | some r => [(r, lab)]
      | none => []) ++ reports (next st e) rest

def run (st : St) : LTrace → St
  | [] => st
  | (e, _) :: rest => run (next st e) rest

theorem reports_append (st : St) (a b : LTrace) : reports st (a ++ b) = reports st a ++ reports (run st a) b := by
  induction a generalizing st with
  | nil => rfl
  | cons x xs ih => obtain ⟨e, lab⟩ := x; simp [reports, run, ih]

theorem run_append (st : St) (a b : LTrace) : run st (a ++ b) = run (run st a) b := by
  induction a generalizing st with
  | nil => rfl
  | cons x xs ih => obtain ⟨e, lab⟩ := x; simp [run, ih]

theorem wlFrom_of_reports_nil (st : St) (ltr : LTrace) (rest : Trace) (h : reports st ltr = []) :
    wlFrom st (proj ltr ++ rest) = wlFrom (run st ltr) rest := by
  induction ltr generalizing st with
  | nil => rfl
  | cons x xs ih =>
    obtain ⟨e, lab⟩ := x
    simp only [reports, List.append_eq_nil_iff] at h
    have hb : bad st e = none := by
      cases hbe : bad st e with
      | none => rfl
      | some r => rw [hbe] at h; exact absurd h.1 (by simp)
    simp only [proj, List.map_cons, List.cons_append, wlFrom, ok, hb, Option.isNone_none, Bool.true_and, run]
    exact ih _ h.2

def Inv (tid : Tid) (cid : Cid) (held : Bool) (st : St) : Prop :=
  st.holder = (if held then some tid else none) ∧ ∃ b, cget st.cur tid = some (cid, b)

def Benign (b : List (String × String)) (r : String × Lab) : Prop :=
  r.1 = "acc-without-lock" ∧ (r.2 ∈ b ∨ ("*", r.2.2) ∈ b)

theorem inv_acq {tid : Tid} {cid : Cid} {st : St} (h : Inv tid cid false st) :
    bad st (.acq tid) = none ∧ Inv tid cid true (next st (.acq tid)) := by
  obtain ⟨hh, b, hc⟩ := h
  exact ⟨Option.isNone_iff_eq_none.mp ((ok_iff st _).mpr ⟨hh, cid, cmdOf_eq_some.mpr ⟨b, hc⟩⟩), rfl, true,
    by simp [next, hc, cget_cset]⟩

theorem inv_rel {tid : Tid} {cid : Cid} {st : St} (h : Inv tid cid true st) :
    bad st (.rel tid) = none ∧ Inv tid cid false (next st (.rel tid)) :=
  ⟨Option.isNone_iff_eq_none.mp ((ok_iff st _).mpr h.1), rfl, h.2⟩

theorem inv_acc {tid : Tid} {cid : Cid} {st : St} (h : Inv tid cid true st) (o : Nat) (w : Bool) :
    bad st (.acc tid o w) = none :=
  Option.isNone_iff_eq_none.mp ((ok_iff st _).mpr h.1)

theorem inv_acc_free {tid : Tid} {cid : Cid} {st : St} (h : Inv tid cid false st) (o : Nat) (w : Bool) :
    bad st (.acc tid o w) = some "acc-without-lock" := by
  obtain ⟨hh, -⟩ := h
  simp only [Bool.false_eq_true, if_false] at hh
  simp [bad, hh]

/-- scanning `a ++ c`: `a` from `st`, then `c` from the state in which that ends -/
theorem scan_append {P : String × Lab → Prop} {J K : St → Prop} {st : St} {a c : LTrace}
    (ha : (∀ r ∈ reports st a, P r) ∧ J (run st a))
    (hc : ∀ st', J st' → (∀ r ∈ reports st' c, P r) ∧ K (run st' c)) :
    (∀ r ∈ reports st (a ++ c), P r) ∧ K (run st (a ++ c)) := by
  obtain ⟨c1, c2⟩ := hc _ ha.2
  refine ⟨fun r hr => ?_, by rw [run_append]; exact c2⟩
  rw [reports_append, List.mem_append] at hr
  exact hr.elim (ha.1 r) (c1 r)

/-- a table entry lexically inside `with lock:` (`l`), reached holding the lock or not (`held`): its events are scanned with
`held || l`, the `acq` / `rel` around them (if any) are accepted, and afterwards the lock is as before -/
theorem bracket_scan {tid : Tid} {cid : Cid} {f : String} {held l : Bool} {body : LTrace} {P : String × Lab → Prop}
    (hbody : ∀ st, Inv tid cid (held || l) st →
      (∀ r ∈ reports st body, P r) ∧ Inv tid cid (held || l) (run st body))
    {st : St} (h : Inv tid cid held st) :
    (∀ r ∈ reports st (bracket tid f (l && !held) body), P r) ∧
      Inv tid cid held (run st (bracket tid f (l && !held) body)) := by
  cases held with
  | true => simpa [bracket] using hbody st h
  | false =>
    cases l with
    | false => simpa [bracket] using hbody st h
    | true =>
      obtain ⟨ha, hi1⟩ := inv_acq h
      obtain ⟨hr, hi2⟩ := hbody _ hi1
      obtain ⟨hl, hi3⟩ := inv_rel hi2
      simp only [bracket, Bool.not_false, Bool.and_self, if_true]
      constructor
      · intro r hmem
        simp only [List.cons_append, reports, ha, List.nil_append, reports_append, hl, List.append_nil] at hmem
        exact hr r hmem
      · simp only [run, run_append]
        exact hi3

/-- the one statement `FR/Props/C12t.lean` rests on; `X`: a set that holds every function entered without the lock -/
theorem exec_reports {b : List (String × String)} {t : Table} {X : List String}
    (hclosed : closed t X = true) (hclean : clean b t X = true)
    {tid : Tid} {cid : Cid} {f : String} {held : Bool} {ltr : LTrace} (h : LExec tid t f held ltr) :
    ∀ st, Inv tid cid held st → (held = true ∨ f ∈ X) →
      (∀ r ∈ reports st ltr, Benign b r) ∧ Inv tid cid held (run st ltr) := by
  induction h with
  | done f held => intro st hi _; exact ⟨by simp [reports], hi⟩
  | @access f held fn a l rest o w hfn hname ha _ ih =>
    intro st hi hX
    subst hname
    refine scan_append (bracket_scan ?_ hi) (fun st' hi' => ih st' hi' hX)
    intro st' hi'
    cases hl : (held || l) with
    | true =>
      rw [hl] at hi'
      simp [reports, run, next, inv_acc hi' o w, hi']
    | false =>
      -- an access outside the lock: `f ∈ X` and the entry is not under `with lock:`, so `clean` makes it benign
      rw [hl] at hi'
      obtain ⟨rfl, rfl⟩ := Bool.or_eq_false_iff.mp hl
      refine ⟨fun r hr => ?_, hi'⟩
      simp only [reports, inv_acc_free hi' o w, List.append_nil, List.mem_singleton] at hr
      subst hr
      refine ⟨rfl, ?_⟩
      rcases clean_access hclean hfn (hX.resolve_left (by simp)) ha with h | h | h
      · cases h
      · exact .inl h
      · exact .inr h
  | @call f held fn g l body rest hfn hname hc _ _ ihb ihr =>
    intro st hi hX
    subst hname
    refine scan_append (bracket_scan (fun st' hi' => ihb st' hi' ?_) hi) (fun st' hi' => ihr st' hi' hX)
    -- the callee runs with the lock, or is reached from `f ∈ X` by an edge outside `with lock:`
    cases hl : (held || l) with
    | true => exact .inl rfl
    | false =>
      obtain ⟨rfl, rfl⟩ := Bool.or_eq_false_iff.mp hl
      exact .inr (closed_step hclosed hfn (hX.resolve_left (by simp)) hc)

/-! ## several threads: the thread-local part of the scan state -/

def evTid : Ev → Tid
  | .call t _ | .ret t _ | .acq t | .rel t | .acc t _ _ => t

def LInv (tid : Tid) (cid : Cid) (held : Bool) (st : St) : Prop :=
  (st.holder = some tid ↔ held = true) ∧ ∃ b, cget st.cur tid = some (cid, b)

theorem cget_next_ne {e : Ev} {t : Tid} (h : evTid e ≠ t) (st : St) : cget (next st e).cur t = cget st.cur t := by
  have h' : ¬ t = evTid e := fun x => h x.symm
  cases e <;> simp only [next, evTid] at h' ⊢
  · rw [cget_cset, if_neg h']
  · rw [cget_cdel, if_neg h']
  · split
    · rw [cget_cset, if_neg h']
    · rfl

end FR.Props.C12t

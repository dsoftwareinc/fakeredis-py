import FR.Proofs.C17cText
import FR.Proofs.ReplyEq
/-!
# `_decode` over nested replies: the vocabulary, and the inductions over a reply

* `subReply r p` / `subVal v p` — the sub-term at position `p` (child indices from the root);
* `leaves r` — the payloads of all `bulk` and `status` nodes of `r`, in depth-first, left-to-right order;
* `Rel leaf r v` — `v` has the shape of `r`: `nil ↦ nil`, `int n ↦ int n`, an error reply ↦ its exception object, an
  array ↦ a list of the same length related element-wise, and every `bulk b` / `status b` ↦ some `w` with `leaf b w`;
* `seen r` — `r` as far as the client can tell: status replies are bulks, an error message has lost its known code;
* `encodeBack enc v` — re-encode every text of `v` (`str.encode(enc)`), giving a reply again.

`decodeVal_ok_iff`: `_decode` returns `v` iff `Rel` holds with `Encoder.decode` at the leaves; `errOf_decodeVal`: otherwise
it raises what the first failing leaf raises; `decodeVal_off`: with `decode_responses=False` it returns the queue object itself (`rawVal`);
`encodeBack_of_rel`: a value related to `r` encodes back to `seen r`.
-/
namespace FR.Client
open FR

theorem reply_err_or (r : Reply) : (∃ m, r = .err m) ∨ (∀ m, r ≠ .err m) := by
  cases r with
  | err m => exact Or.inl ⟨m, rfl⟩
  | _ => exact Or.inr nofun

/-! ## positions -/

def subReply : Reply → List Nat → Option Reply
  | r, [] => some r
  | .arr xs, i :: p =>
    match xs[i]? with
    | some x => subReply x p
    | none => none
  | _, _ :: _ => none

def subVal : CVal → List Nat → Option CVal
  | v, [] => some v
  | .list vs, i :: p =>
    match vs[i]? with
    | some x => subVal x p
    | none => none
  | _, _ :: _ => none

mutual
def leaves : Reply → List Bytes
  | .bulk b => [b]
  | .status b => [b]
  | .arr xs => leavesL xs
  | _ => []
def leavesL : List Reply → List Bytes
  | [] => []
  | x :: xs => leaves x ++ leavesL xs
end

theorem leavesL_eq_flatMap : ∀ xs : List Reply, leavesL xs = xs.flatMap leaves
  | [] => rfl
  | x :: xs => by rw [leavesL, List.flatMap_cons, leavesL_eq_flatMap xs]

theorem mem_leaves_iff : ∀ (r : Reply) (b : Bytes),
    b ∈ leaves r ↔ ∃ p, subReply r p = some (.bulk b) ∨ subReply r p = some (.status b) := by
  intro r b
  constructor
  · exact mem_leaves_path r b
  · rintro ⟨p, h⟩
    exact path_mem_leaves p r b h
where
  mem_leaves_path : ∀ (r : Reply) (b : Bytes), b ∈ leaves r →
      ∃ p, subReply r p = some (.bulk b) ∨ subReply r p = some (.status b)
    | .nil, b, h => by simp [leaves] at h
    | .int _, b, h => by simp [leaves] at h
    | .err _, b, h => by simp [leaves] at h
    | .bulk c, b, h => by
      simp only [leaves, List.mem_singleton] at h
      exact ⟨[], Or.inl (by rw [h]; rfl)⟩
    | .status c, b, h => by
      simp only [leaves, List.mem_singleton] at h
      exact ⟨[], Or.inr (by rw [h]; rfl)⟩
    | .arr xs, b, h => by
      simp only [leaves] at h
      obtain ⟨i, x, hx, p, hp⟩ := mem_leavesL_path xs b h
      refine ⟨i :: p, ?_⟩
      simp only [subReply]
      rw [hx]
      exact hp
  mem_leavesL_path : ∀ (xs : List Reply) (b : Bytes), b ∈ leavesL xs →
      ∃ i x, xs[i]? = some x ∧ ∃ p, subReply x p = some (.bulk b) ∨ subReply x p = some (.status b)
    | [], b, h => by simp [leavesL] at h
    | x :: xs, b, h => by
      simp only [leavesL, List.mem_append] at h
      rcases h with h | h
      · exact ⟨0, x, rfl, mem_leaves_path x b h⟩
      · obtain ⟨i, y, hy, hp⟩ := mem_leavesL_path xs b h
        exact ⟨i + 1, y, by simpa using hy, hp⟩
  path_mem_leaves : ∀ (p : List Nat) (r : Reply) (b : Bytes),
      (subReply r p = some (.bulk b) ∨ subReply r p = some (.status b)) → b ∈ leaves r
    | [], r, b, h => by
      simp only [subReply, Option.some.injEq] at h
      rcases h with h | h <;> subst h <;> simp [leaves]
    | i :: p, r, b, h => by
      cases r with
      | arr xs =>
        simp only [subReply] at h
        cases hx : xs[i]? with
        | none => simp [hx] at h
        | some x =>
          simp only [hx] at h
          have := path_mem_leaves p x b h
          simp only [leaves, leavesL_eq_flatMap, List.mem_flatMap]
          exact ⟨x, List.mem_of_getElem? hx, this⟩
      | _ => simp [subReply] at h

/-! ## the shape relation -/

mutual
def Rel (leaf : Bytes → CVal → Prop) : Reply → CVal → Prop
  | .nil, v => v = .nil
  | .int n, v => v = .int n
  | .bulk b, v => leaf b v
  | .status b, v => leaf b v
  | .err m, v => v = errObj m
  | .arr xs, v => ∃ vs, v = .list vs ∧ RelL leaf xs vs
def RelL (leaf : Bytes → CVal → Prop) : List Reply → List CVal → Prop
  | [], vs => vs = []
  | x :: xs, vs => ∃ v vs', vs = v :: vs' ∧ Rel leaf x v ∧ RelL leaf xs vs'
end

theorem relL_iff_pointwise (leaf : Bytes → CVal → Prop) : ∀ (xs : List Reply) (vs : List CVal),
    RelL leaf xs vs ↔ vs.length = xs.length ∧ ∀ (i : Nat) x v, xs[i]? = some x → vs[i]? = some v → Rel leaf x v
  | [], vs => by
    simp only [RelL]
    constructor
    · rintro rfl; exact ⟨rfl, fun i x v hx => by simp at hx⟩
    · rintro ⟨h, _⟩; exact List.eq_nil_of_length_eq_zero h
  | x :: xs, vs => by
    simp only [RelL]
    constructor
    · rintro ⟨v, vs', rfl, h1, h2⟩
      have ih := (relL_iff_pointwise leaf xs vs').1 h2
      refine ⟨by simp [ih.1], fun i y w hy hw => ?_⟩
      cases i with
      | zero =>
        simp only [List.getElem?_cons_zero, Option.some.injEq] at hy hw
        subst hy; subst hw; exact h1
      | succ j =>
        simp only [List.getElem?_cons_succ] at hy hw
        exact ih.2 j y w hy hw
    · rintro ⟨hlen, hp⟩
      cases vs with
      | nil => simp at hlen
      | cons v vs' =>
        refine ⟨v, vs', rfl, hp 0 x v rfl rfl, (relL_iff_pointwise leaf xs vs').2 ⟨by simpa using hlen, ?_⟩⟩
        intro i y w hy hw
        exact hp (i + 1) y w (by simpa using hy) (by simpa using hw)

theorem relL_length (leaf : Bytes → CVal → Prop) (xs : List Reply) (vs : List CVal) (h : RelL leaf xs vs) :
    vs.length = xs.length :=
  ((relL_iff_pointwise leaf xs vs).1 h).1

theorem relL_getElem? (leaf : Bytes → CVal → Prop) (xs : List Reply) (vs : List CVal) (i : Nat) (x : Reply)
    (h : RelL leaf xs vs) (hx : xs[i]? = some x) : ∃ v, vs[i]? = some v ∧ Rel leaf x v := by
  obtain ⟨hlen, hp⟩ := (relL_iff_pointwise leaf xs vs).1 h
  have hi : i < vs.length := hlen ▸ (List.getElem?_eq_some_iff.1 hx).1
  exact ⟨vs[i], List.getElem?_eq_getElem hi, hp i x _ hx (List.getElem?_eq_getElem hi)⟩

theorem rel_path (leaf : Bytes → CVal → Prop) : ∀ (p : List Nat) (r r' : Reply) (v : CVal),
    Rel leaf r v → subReply r p = some r' → ∃ v', subVal v p = some v' ∧ Rel leaf r' v'
  | [], r, r', v, h, hp => by
    simp only [subReply, Option.some.injEq] at hp
    subst hp
    exact ⟨v, rfl, h⟩
  | i :: p, r, r', v, h, hp => by
    cases r with
    | arr xs =>
      simp only [Rel] at h
      obtain ⟨vs, rfl, hl⟩ := h
      simp only [subReply] at hp
      cases hx : xs[i]? with
      | none => simp [hx] at hp
      | some x =>
        simp only [hx] at hp
        obtain ⟨w, hw, hr⟩ := relL_getElem? leaf xs vs i x hl hx
        obtain ⟨v', hv', hr'⟩ := rel_path leaf p x r' w hr hp
        exact ⟨v', by simp only [subVal, hw, hv'], hr'⟩
    | _ => simp [subReply] at hp

/-- the value has no position the reply has not (a leaf value is not a list) -/
theorem rel_path_back (leaf : Bytes → CVal → Prop) (hleaf : ∀ b w, leaf b w → ∀ vs, w ≠ .list vs) :
    ∀ (p : List Nat) (r : Reply) (v v' : CVal),
    Rel leaf r v → subVal v p = some v' → ∃ r', subReply r p = some r'
  | [], r, v, v', _, _ => ⟨r, rfl⟩
  | i :: p, r, v, v', h, hp => by
    cases r with
    | arr xs =>
      simp only [Rel] at h
      obtain ⟨vs, rfl, hl⟩ := h
      simp only [subVal] at hp
      cases hw : vs[i]? with
      | none => simp [hw] at hp
      | some w =>
        simp only [hw] at hp
        have hi : i < xs.length := by
          have := (List.getElem?_eq_some_iff.1 hw).1
          rw [relL_length leaf xs vs hl] at this
          exact this
        have hx : xs[i]? = some xs[i] := List.getElem?_eq_getElem hi
        obtain ⟨w', hw', hr⟩ := relL_getElem? leaf xs vs i _ hl hx
        rw [hw] at hw'
        cases hw'
        obtain ⟨r', hr'⟩ := rel_path_back leaf hleaf p xs[i] w v' hr hp
        exact ⟨r', by simp only [subReply, hx, hr']⟩
    | nil => simp only [Rel] at h; subst h; simp [subVal] at hp
    | int n => simp only [Rel] at h; subst h; simp [subVal] at hp
    | err m => simp only [Rel] at h; subst h; simp [subVal, errObj] at hp
    | bulk b =>
      simp only [Rel] at h
      cases v with
      | list vs => exact absurd rfl (hleaf b _ h vs)
      | _ => simp [subVal] at hp
    | status b =>
      simp only [Rel] at h
      cases v with
      | list vs => exact absurd rfl (hleaf b _ h vs)
      | _ => simp [subVal] at hp

mutual
theorem rel_mono {leaf leaf' : Bytes → CVal → Prop} : ∀ (r : Reply) (v : CVal),
    (∀ b ∈ leaves r, ∀ w, leaf b w → leaf' b w) → Rel leaf r v → Rel leaf' r v
  | .nil, _, _, h => h
  | .int _, _, _, h => h
  | .err _, _, _, h => h
  | .bulk b, v, hm, h => hm b (by simp [leaves]) v h
  | .status b, v, hm, h => hm b (by simp [leaves]) v h
  | .arr xs, v, hm, h => by
    simp only [Rel] at h ⊢
    obtain ⟨vs, rfl, hl⟩ := h
    exact ⟨vs, rfl, relL_mono xs vs (by simpa [leaves] using hm) hl⟩
theorem relL_mono {leaf leaf' : Bytes → CVal → Prop} : ∀ (xs : List Reply) (vs : List CVal),
    (∀ b ∈ leavesL xs, ∀ w, leaf b w → leaf' b w) → RelL leaf xs vs → RelL leaf' xs vs
  | [], _, _, h => h
  | x :: xs, vs, hm, h => by
    simp only [RelL] at h ⊢
    obtain ⟨v, vs', rfl, h1, h2⟩ := h
    refine ⟨v, vs', rfl, rel_mono x v (fun b hb => hm b ?_) h1, relL_mono xs vs' (fun b hb => hm b ?_) h2⟩
    · simp only [leavesL, List.mem_append]; exact Or.inl hb
    · simp only [leavesL, List.mem_append]; exact Or.inr hb
end

/-! ## `_decode` is the element-wise map of `Encoder.decode` -/

mutual
/-- `decodeVal` succeeds with `v` iff `v` is `r` with every bulk / status payload replaced by what
`Encoder.decode` returns for it — and nothing else changed. -/
theorem decodeVal_ok_iff (cfg : Cfg) : ∀ (r : Reply) (v : CVal),
    decodeVal cfg r = .ok v ↔ Rel (fun b w => decodeBytes cfg b = .ok w) r v
  | .nil, v => by simp only [decodeVal, Rel, Except.ok.injEq]; exact eq_comm
  | .int n, v => by simp only [decodeVal, Rel, Except.ok.injEq]; exact eq_comm
  | .err m, v => by simp only [decodeVal, Rel, Except.ok.injEq]; exact eq_comm
  | .bulk b, v => by simp only [decodeVal, Rel]
  | .status b, v => by simp only [decodeVal, Rel]
  | .arr xs, v => by
    simp only [decodeVal, Rel]
    cases hl : decodeList cfg xs with
    | error e =>
      simp only [Except.map]
      constructor
      · intro h; cases h
      · rintro ⟨vs, _, hr⟩
        rw [← decodeList_ok_iff cfg xs vs, hl] at hr
        cases hr
    | ok vs =>
      simp only [Except.map, Except.ok.injEq]
      constructor
      · rintro rfl
        exact ⟨vs, rfl, (decodeList_ok_iff cfg xs vs).1 hl⟩
      · rintro ⟨vs', rfl, hr⟩
        rw [← decodeList_ok_iff cfg xs vs', hl] at hr
        cases hr; rfl
theorem decodeList_ok_iff (cfg : Cfg) : ∀ (xs : List Reply) (vs : List CVal),
    decodeList cfg xs = .ok vs ↔ RelL (fun b w => decodeBytes cfg b = .ok w) xs vs
  | [], vs => by simp only [decodeList, RelL, Except.ok.injEq]; exact eq_comm
  | x :: xs, vs => by
    simp only [decodeList, RelL]
    cases hx : decodeVal cfg x with
    | error e =>
      simp only
      constructor
      · intro h; cases h
      · rintro ⟨v, vs', _, h1, _⟩
        rw [← decodeVal_ok_iff cfg x v, hx] at h1
        cases h1
    | ok v =>
      cases hl : decodeList cfg xs with
      | error e =>
        simp only
        constructor
        · intro h; cases h
        · rintro ⟨_, vs', _, _, h2⟩
          rw [← decodeList_ok_iff cfg xs vs', hl] at h2
          cases h2
      | ok vs0 =>
        simp only [Except.ok.injEq]
        constructor
        · rintro rfl
          exact ⟨v, vs0, rfl, (decodeVal_ok_iff cfg x v).1 hx, (decodeList_ok_iff cfg xs vs0).1 hl⟩
        · rintro ⟨v', vs', rfl, h1, h2⟩
          rw [← decodeVal_ok_iff cfg x v', hx] at h1
          rw [← decodeList_ok_iff cfg xs vs', hl] at h2
          cases h1; cases h2; rfl
end

/-! ## which exception surfaces: the first failing leaf in depth-first order -/

def errOf {α} : Except DecodeErr α → Option DecodeErr
  | .error e => some e
  | .ok _ => none

def firstErr (cfg : Cfg) (bs : List Bytes) : Option DecodeErr := bs.findSome? fun b => errOf (decodeBytes cfg b)

theorem firstErr_append (cfg : Cfg) (a b : List Bytes) :
    firstErr cfg (a ++ b) = (firstErr cfg a).or (firstErr cfg b) := by
  unfold firstErr
  rw [List.findSome?_append]

mutual
theorem errOf_decodeVal (cfg : Cfg) : ∀ r : Reply, errOf (decodeVal cfg r) = firstErr cfg (leaves r)
  | .nil => rfl
  | .int _ => rfl
  | .err _ => rfl
  | .bulk b => by
    simp only [decodeVal, leaves, firstErr, List.findSome?_cons, List.findSome?_nil]
    cases errOf (decodeBytes cfg b) <;> rfl
  | .status b => by
    simp only [decodeVal, leaves, firstErr, List.findSome?_cons, List.findSome?_nil]
    cases errOf (decodeBytes cfg b) <;> rfl
  | .arr xs => by
    simp only [decodeVal, leaves]
    rw [← errOf_decodeList cfg xs]
    cases decodeList cfg xs <;> rfl
theorem errOf_decodeList (cfg : Cfg) : ∀ xs : List Reply, errOf (decodeList cfg xs) = firstErr cfg (leavesL xs)
  | [] => rfl
  | x :: xs => by
    simp only [decodeList, leavesL]
    rw [firstErr_append, ← errOf_decodeVal cfg x, ← errOf_decodeList cfg xs]
    cases decodeVal cfg x with
    | error e => rfl
    | ok v =>
      cases decodeList cfg xs <;> rfl
end

theorem errOf_eq_none_iff {α} (x : Except DecodeErr α) : errOf x = none ↔ ∃ a, x = .ok a := by
  cases x with
  | error e => simp [errOf]
  | ok a => simp [errOf]

theorem errOf_eq_some_iff {α} (x : Except DecodeErr α) (e : DecodeErr) : errOf x = some e ↔ x = .error e := by
  cases x with
  | error e' => simp [errOf]
  | ok a => simp [errOf]

/-! ## no decoding: the queue object itself -/

mutual
theorem decodeVal_off (cfg : Cfg) (h : cfg.decodeResponses = false) : ∀ r : Reply, decodeVal cfg r = .ok (rawVal r)
  | .nil => rfl
  | .int _ => rfl
  | .err _ => rfl
  | .bulk b => by simp only [decodeVal, decodeBytes, h, rawVal]; rfl
  | .status b => by simp only [decodeVal, decodeBytes, h, rawVal]; rfl
  | .arr xs => by simp only [decodeVal, decodeList_off cfg h xs, rawVal]; rfl
theorem decodeList_off (cfg : Cfg) (h : cfg.decodeResponses = false) :
    ∀ xs : List Reply, decodeList cfg xs = .ok (rawList xs)
  | [] => rfl
  | x :: xs => by simp only [decodeList, decodeVal_off cfg h x, decodeList_off cfg h xs, rawList]
end

mutual
theorem rawVal_rel : ∀ r : Reply, Rel (fun b w => w = .bytes b) r (rawVal r)
  | .nil => rfl
  | .int _ => rfl
  | .err _ => rfl
  | .bulk _ => rfl
  | .status _ => rfl
  | .arr xs => ⟨rawList xs, rfl, rawList_rel xs⟩
theorem rawList_rel : ∀ xs : List Reply, RelL (fun b w => w = .bytes b) xs (rawList xs)
  | [] => rfl
  | x :: xs => ⟨rawVal x, rawList xs, rfl, rawVal_rel x, rawList_rel xs⟩
end

/-! ## encoding back -/

mutual
/-- what the client can tell about a reply: a status reply is a bulk, an error message has lost a known code -/
def seen : Reply → Reply
  | .status b => .bulk b
  | .err m => .err (parseError m).2
  | .arr xs => .arr (seenL xs)
  | r => r
def seenL : List Reply → List Reply
  | [] => []
  | x :: xs => seen x :: seenL xs
end

mutual
/-- every text re-encoded with `str.encode(enc)`; bytes and the rest as they are -/
def encodeBack (enc : Encoding) : CVal → Option Reply
  | .nil => some .nil
  | .int n => some (.int n)
  | .bytes b => some (.bulk b)
  | .text s => (encodeText enc s).map .bulk
  | .err _ m => some (.err m)
  | .list vs => (encodeBackL enc vs).map .arr
def encodeBackL (enc : Encoding) : List CVal → Option (List Reply)
  | [] => some []
  | v :: vs =>
    match encodeBack enc v, encodeBackL enc vs with
    | some r, some rs => some (r :: rs)
    | _, _ => none
end

mutual
theorem encodeBack_of_rel (enc : Encoding) (leaf : Bytes → CVal → Prop)
    (hleaf : ∀ b w, leaf b w → encodeBack enc w = some (.bulk b)) : ∀ (r : Reply) (v : CVal),
    Rel leaf r v → encodeBack enc v = some (seen r)
  | .nil, v, h => by simp only [Rel] at h; subst h; rfl
  | .int _, v, h => by simp only [Rel] at h; subst h; rfl
  | .err _, v, h => by simp only [Rel] at h; subst h; rfl
  | .bulk b, v, h => hleaf b v h
  | .status b, v, h => hleaf b v h
  | .arr xs, v, h => by
    simp only [Rel] at h
    obtain ⟨vs, rfl, hl⟩ := h
    simp only [encodeBack, encodeBackL_of_rel enc leaf hleaf xs vs hl, seen]
    rfl
theorem encodeBackL_of_rel (enc : Encoding) (leaf : Bytes → CVal → Prop)
    (hleaf : ∀ b w, leaf b w → encodeBack enc w = some (.bulk b)) : ∀ (xs : List Reply) (vs : List CVal),
    RelL leaf xs vs → encodeBackL enc vs = some (seenL xs)
  | [], vs, h => by simp only [RelL] at h; subst h; rfl
  | x :: xs, vs, h => by
    simp only [RelL] at h
    obtain ⟨v, vs', rfl, h1, h2⟩ := h
    simp only [encodeBackL, encodeBack_of_rel enc leaf hleaf x v h1, encodeBackL_of_rel enc leaf hleaf xs vs' h2, seenL]
end

def Plain (r : Reply) : Prop := ∀ p r', subReply r p = some r' → (∀ b, r' ≠ .status b) ∧ (∀ m, r' ≠ .err m)

mutual
theorem seen_eq_self_aux : ∀ r : Reply, (∀ p r', subReply r p = some r' → (∀ b, r' ≠ .status b) ∧ (∀ m, r' ≠ .err m)) →
    seen r = r
  | .nil, _ => rfl
  | .int _, _ => rfl
  | .bulk _, _ => rfl
  | .status b, h => absurd rfl ((h [] _ rfl).1 b)
  | .err m, h => absurd rfl ((h [] _ rfl).2 m)
  | .arr xs, h => by
    simp only [seen]
    rw [seenL_eq_self_aux xs fun i x hx p r' hp => h (i :: p) r' (by simp only [subReply, hx, hp])]
theorem seenL_eq_self_aux : ∀ xs : List Reply,
    (∀ (i : Nat) x, xs[i]? = some x → ∀ p r', subReply x p = some r' → (∀ b, r' ≠ .status b) ∧ (∀ m, r' ≠ .err m)) →
    seenL xs = xs
  | [], _ => rfl
  | x :: xs, h => by
    simp only [seenL]
    rw [seen_eq_self_aux x (h 0 x rfl), seenL_eq_self_aux xs fun i y hy => h (i + 1) y (by simpa using hy)]
end

theorem seen_eq_self (r : Reply) (h : Plain r) : seen r = r := seen_eq_self_aux r h

end FR.Client

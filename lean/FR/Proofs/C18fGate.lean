import FR.Proofs.C18fParse
/-!
# C18f: `Conv.floatGen` (Python `Float.decode`) in terms of the grammar

* the over/underflow detector `re.match(b'^[^a-zA-Z]*[1-9]', value)` on strings of the grammar;
* the alphabet of the grammar (no whitespace, no `_`);
* `floatGen_eq`, `floatGen_gate`: `Float.decode` as its chain of guards; `gates_parse_iff`: the character gates and the
  parser together are the grammar on the stripped string; `range_gate_iff`: the detector on a literal is the range rule;
  `floatGen_ok_iff`: the complete characterisation for the four flags; `floatGen_ok_lit`: the reading it used is the only one; `floatGen_refuses`: what it does not accept it refuses with
  the message it was given (`floatGen_error`: every failing branch raises that message).
-/
namespace FR.C18f
open FR

/-! ## the crude over/underflow detector `re.match(b'^[^a-zA-Z]*[1-9]', value)` -/

def IsLetter (c : UInt8) : Prop := (65 ≤ c ∧ c ≤ 90) ∨ (97 ≤ c ∧ c ≤ 122)
def IsNz (c : UInt8) : Prop := 49 ≤ c ∧ c ≤ 57
instance (c : UInt8) : Decidable (IsLetter c) := by unfold IsLetter; infer_instance
instance (c : UInt8) : Decidable (IsNz c) := by unfold IsNz; infer_instance

theorem nz_cons (c : UInt8) (t : Bytes) :
    Conv.nonzeroDigitBeforeLetter (c :: t) =
      if IsNz c then true else if IsLetter c then false else Conv.nonzeroDigitBeforeLetter t := by
  unfold IsNz IsLetter
  conv => lhs; unfold Conv.nonzeroDigitBeforeLetter
  simp only [Bool.and_eq_true, Bool.or_eq_true, decide_eq_true_eq]

theorem nz_cons_nz {c : UInt8} (t : Bytes) (h : IsNz c) : Conv.nonzeroDigitBeforeLetter (c :: t) = true := by
  rw [nz_cons, if_pos h]

theorem nz_cons_letter {c : UInt8} (t : Bytes) (h : IsLetter c) : Conv.nonzeroDigitBeforeLetter (c :: t) = false := by
  have h1 : ¬ IsNz c := by
    rintro ⟨_, h2⟩
    have h2' : c.toNat ≤ 57 := h2
    rcases h with ⟨h3, _⟩ | ⟨h3, _⟩
    · have : 65 ≤ c.toNat := h3
      omega
    · have : 97 ≤ c.toNat := h3
      omega
  rw [nz_cons, if_neg h1, if_pos h]

theorem nz_cons_skip {c : UInt8} (t : Bytes) (h1 : ¬ IsNz c) (h2 : ¬ IsLetter c) :
    Conv.nonzeroDigitBeforeLetter (c :: t) = Conv.nonzeroDigitBeforeLetter t := by
  rw [nz_cons, if_neg h1, if_neg h2]

theorem nz_nil : Conv.nonzeroDigitBeforeLetter [] = false := rfl

theorem nz_digits (l rest : Bytes) (h : Digits l) :
    Conv.nonzeroDigitBeforeLetter (l ++ rest) =
      if decNat l ≠ 0 then true else Conv.nonzeroDigitBeforeLetter rest := by
  induction l with
  | nil => simp [decNat]
  | cons c t ih =>
    have hc := h.head
    by_cases h48 : c = 48
    · subst h48
      rw [List.cons_append, nz_cons_skip _ (by decide) (by decide), ih h.tail, decNat]
      simp
    · have hge := decNat_ge (rest := t) hc h48
      have hp : 0 < 10 ^ t.length := Nat.pow_pos (by decide)
      rw [if_pos (by omega), List.cons_append]
      apply nz_cons_nz
      unfold IsDig at hc
      refine ⟨?_, hc.2⟩
      have h1 : 48 ≤ c.toNat := hc.1
      have h2 : c.toNat ≠ 48 := fun e => h48 (UInt8.toNat_inj.mp e)
      show (49 : UInt8).toNat ≤ c.toNat
      have : (49 : UInt8).toNat = 49 := rfl
      omega

theorem nz_sign (sg : Sgn) (rest : Bytes) :
    Conv.nonzeroDigitBeforeLetter (sg.bytes ++ rest) = Conv.nonzeroDigitBeforeLetter rest := by
  cases sg with
  | none => rfl
  | plus => exact nz_cons_skip _ (by decide) (by decide)
  | minus => exact nz_cons_skip _ (by decide) (by decide)

theorem nz_expBytes (L : DecLit) (hv : L.Valid) : Conv.nonzeroDigitBeforeLetter L.expBytes = false := by
  unfold DecLit.expBytes
  cases he : L.exp with
  | none => rfl
  | some x =>
    obtain ⟨hl, _, _⟩ := hv.2.2.2 x he
    apply nz_cons_letter
    rcases hl with h | h <;> rw [h]
    · exact Or.inr (by decide)
    · exact Or.inl (by decide)

/-- on a literal of the grammar the detector fires iff some mantissa digit is not `0` -/
theorem nz_render (L : DecLit) (hv : L.Valid) :
    Conv.nonzeroDigitBeforeLetter L.render = decide (L.mant ≠ 0) := by
  have hE := nz_expBytes L hv
  obtain ⟨hip, hfp, _, _⟩ := hv
  unfold DecLit.render DecLit.mant
  rw [nz_sign, nz_digits _ _ hip, decNat_append]
  unfold DecLit.fracBytes
  unfold DecLit.fp at hfp ⊢
  have hp : 0 < 10 ^ (L.frac.getD []).length := Nat.pow_pos (by decide)
  cases hf : L.frac with
  | none =>
    simp only [Option.getD_none, List.nil_append, hE, decNat, List.length_nil, Nat.pow_zero, Nat.mul_one,
      Nat.add_zero]
    by_cases h0 : decNat L.ip = 0 <;> simp [h0]
  | some f =>
    rw [hf] at hfp hp
    simp only [Option.getD_some] at hfp hp ⊢
    rw [List.cons_append, nz_cons_skip _ (by decide) (by decide), nz_digits _ _ hfp, hE]
    by_cases h0 : decNat L.ip = 0
    · by_cases h1 : decNat f = 0 <;> simp [h0, h1]
    · have : decNat L.ip * 10 ^ f.length ≠ 0 := Nat.mul_ne_zero h0 (by omega)
      simp [h0]
      exact Or.inl this

theorem nz_word (sg : Sgn) (w : Bytes) (h : InfWord w ∨ NanWord w) :
    Conv.nonzeroDigitBeforeLetter (sg.bytes ++ w) = false := by
  obtain ⟨c, t, rfl, hc⟩ := word_head h
  rw [nz_sign]
  exact nz_cons_letter t hc

theorem isSpace_le {c : UInt8} (h : PyFloat.isSpace c = true) : c.toNat ≤ 32 := by
  unfold PyFloat.isSpace at h
  have h' : c = 32 ∨ (9 ≤ c ∧ c ≤ 13) := by simpa using h
  rcases h' with e | ⟨_, h2⟩
  · rw [e]; decide
  · have : c.toNat ≤ 13 := h2
    omega

theorem isSpace_skip {c : UInt8} (h : PyFloat.isSpace c = true) : ¬ IsNz c ∧ ¬ IsLetter c := by
  have hc := isSpace_le h
  refine ⟨?_, ?_⟩
  · rintro ⟨h1, _⟩
    have : 49 ≤ c.toNat := h1
    omega
  · rintro (⟨h1, _⟩ | ⟨h1, _⟩)
    · have : 65 ≤ c.toNat := h1
      omega
    · have : 97 ≤ c.toNat := h1
      omega

theorem nz_dropSpaces (v : Bytes) :
    Conv.nonzeroDigitBeforeLetter (v.dropWhile PyFloat.isSpace) = Conv.nonzeroDigitBeforeLetter v := by
  induction v with
  | nil => rfl
  | cons c t ih =>
    rw [List.dropWhile_cons]
    split
    · rename_i h
      obtain ⟨h1, h2⟩ := isSpace_skip h
      rw [ih, nz_cons_skip _ h1 h2]
    · rfl


/-! ## the alphabet of the grammar -/

/-- the bytes that can occur in a string the parser accepts -/
def Alpha (c : UInt8) : Prop := IsDig c ∨ c = 43 ∨ c = 45 ∨ c = 46 ∨ IsLetter c

theorem Alpha.not_space {c : UInt8} (h : Alpha c) : PyFloat.isSpace c = false := by
  cases hs : PyFloat.isSpace c with
  | false => rfl
  | true =>
    exfalso
    have hc := isSpace_le hs
    rcases h with h | h | h | h | h
    · have : 48 ≤ c.toNat := h.1
      omega
    · rw [h] at hc; exact absurd hc (by decide)
    · rw [h] at hc; exact absurd hc (by decide)
    · rw [h] at hc; exact absurd hc (by decide)
    · exact (isSpace_skip hs).2 h

theorem Alpha.ne_95 {c : UInt8} (h : Alpha c) : c ≠ 95 := by
  rintro rfl
  rcases h with h | h | h | h | h
  all_goals exact absurd h (by decide)

theorem alpha_sign (sg : Sgn) : ∀ c ∈ sg.bytes, Alpha c := by
  intro c hc
  cases sg with
  | none => cases hc
  | plus =>
    have : c = 43 := by simpa [Sgn.bytes] using hc
    exact Or.inr (Or.inl this)
  | minus =>
    have : c = 45 := by simpa [Sgn.bytes] using hc
    exact Or.inr (Or.inr (Or.inl this))

theorem alpha_digits {l : Bytes} (h : Digits l) : ∀ c ∈ l, Alpha c := fun c hc => Or.inl (h c hc)

/-- a string over the alphabet passes the two whitespace gates of `Float.decode` -/
theorem alpha_head {s : Bytes} (ha : ∀ c ∈ s, Alpha c) : (s.head?.map PyFloat.isSpace).getD false = false := by
  cases h : s.head? with
  | none => rfl
  | some a => exact (ha a (List.mem_of_head? h)).not_space

theorem alpha_last {s : Bytes} (ha : ∀ c ∈ s, Alpha c) : (s.getLast?.map PyFloat.isSpace).getD false = false := by
  cases h : s.getLast? with
  | none => rfl
  | some a => exact (ha a (List.mem_of_getLast? h)).not_space

theorem alpha_render (L : DecLit) (hv : L.Valid) : ∀ c ∈ L.render, Alpha c := by
  obtain ⟨hip, hfp, _, hexp⟩ := hv
  intro c hc
  unfold DecLit.render at hc
  rcases List.mem_append.mp hc with h | h
  · exact alpha_sign _ c h
  rcases List.mem_append.mp h with h | h
  · exact alpha_digits hip c h
  rcases List.mem_append.mp h with h | h
  · unfold DecLit.fracBytes at h
    unfold DecLit.fp at hfp
    cases hf : L.frac with
    | none => rw [hf] at h; cases h
    | some f =>
      rw [hf] at h hfp
      rcases List.mem_cons.mp h with e | h
      · exact Or.inr (Or.inr (Or.inr (Or.inl e)))
      · exact alpha_digits hfp c h
  · unfold DecLit.expBytes at h
    cases he : L.exp with
    | none => rw [he] at h; cases h
    | some x =>
      rw [he] at h
      obtain ⟨hl, hd, _⟩ := hexp x he
      rcases List.mem_cons.mp h with e | h
      · right; right; right; right
        rcases hl with h1 | h1 <;> rw [e, h1]
        · exact Or.inr (by decide)
        · exact Or.inl (by decide)
      · rcases List.mem_append.mp h with h | h
        · exact alpha_sign _ c h
        · exact alpha_digits hd c h

theorem alpha_ciEq : ∀ (w lit : Bytes), (∀ l ∈ lit, 97 ≤ l ∧ l ≤ 122) → CIEq w lit → ∀ c ∈ w, Alpha c
  | [], _, _, _ => fun _ h => by cases h
  | _ :: _, [], _, h => h.elim
  | c :: w, l :: lit, hl, h => by
    intro x hx
    rcases List.mem_cons.mp hx with e | hx
    · right; right; right; right
      rw [e]
      rcases h.1 with e' | ⟨_, h2⟩
      · rw [e']; exact Or.inr (hl l (List.mem_cons_self ..))
      · exact Or.inl h2
    · exact alpha_ciEq w lit (fun y hy => hl y (List.mem_cons_of_mem _ hy)) h.2 x hx

theorem alpha_word {w : Bytes} (h : InfWord w ∨ NanWord w) : ∀ c ∈ w, Alpha c := by
  rcases h with (h | h) | h
  · exact alpha_ciEq _ _ (by decide) h
  · exact alpha_ciEq _ _ (by decide) h
  · exact alpha_ciEq _ _ (by decide) h

theorem alpha_signed_word (sg : Sgn) {w : Bytes} (hw : InfWord w ∨ NanWord w) :
    sg.bytes ++ w ≠ [] ∧ ∀ c ∈ sg.bytes ++ w, Alpha c := by
  obtain ⟨c, t, hb, _⟩ := word_head hw
  refine ⟨by rw [hb]; simp, fun x hx => ?_⟩
  rcases List.mem_append.mp hx with h | h
  · exact alpha_sign _ x h
  · exact alpha_word hw x h

theorem core_alpha {s : Bytes} {d : Dbl} (h : Core s d) : s ≠ [] ∧ ∀ c ∈ s, Alpha c := by
  rcases h with ⟨L, hv, hs, _⟩ | ⟨sg, w, hw, hs, _⟩ | ⟨sg, w, hw, hs, _⟩
  · obtain ⟨c, t, hb, _⟩ := body_head L hv
    rw [hs]
    refine ⟨?_, alpha_render L hv⟩
    rw [render_eq, hb]; simp
  · rw [hs]
    exact alpha_signed_word sg (Or.inl hw)
  · rw [hs]
    exact alpha_signed_word sg (Or.inr hw)

/-! ## `Conv.floatGen` -/

/-- the string `Float.decode` hands to Python's `float`: cut at the first NUL (`crop_null`), `b''` replaced by
`b'0.0'` (`allow_empty`) -/
def prep (allowEmpty cropNull : Bool) (b : Bytes) : Bytes :=
  let v := if cropNull then nullTerminate b else b
  if allowEmpty && v.isEmpty then strBytes "0.0" else v

theorem guard_ok_iff {ε α : Type} (c : Bool) (m : ε) (x : Except ε α) (d : α) :
    (if c then Except.error m else x) = .ok d ↔ c = false ∧ x = .ok d := by
  cases c
  · exact ⟨fun h => ⟨rfl, h⟩, fun h => h.2⟩
  · exact ⟨fun h => (nomatch h), fun h => (nomatch h.1)⟩

theorem guard_error {ε α : Type} {c : Bool} {m e : ε} {x : Except ε α}
    (h : (if c then Except.error m else x) = .error e) : e = m ∨ x = .error e := by
  cases c
  · exact Or.inr h
  · exact Or.inl (Except.error.inj h).symm

/-- `Float.decode` as its chain of guards -/
theorem floatGen_eq (msg : String) (w e m c : Bool) (b : Bytes) :
    Conv.floatGen msg w e m c b =
      (if !w && ((prep m c b).head?.map PyFloat.isSpace).getD false then .error msg
       else if ((prep m c b).getLast?.map PyFloat.isSpace).getD false then .error msg
       else if (prep m c b).contains 95 then .error msg
       else match PyFloat.parse (prep m c b) with
        | none => .error msg
        | some d =>
          if d.isNaN then .error msg
          else if !e && (d.isInf || d.isZero) && Conv.nonzeroDigitBeforeLetter (prep m c b) then .error msg
          else .ok d) := rfl

theorem floatGen_gate (msg : String) (w e m c : Bool) (b : Bytes) (d : Dbl) :
    Conv.floatGen msg w e m c b = .ok d ↔
      ((w = true ∨ ((prep m c b).head?.map PyFloat.isSpace).getD false = false) ∧
       ((prep m c b).getLast?.map PyFloat.isSpace).getD false = false ∧
       (prep m c b).contains 95 = false ∧
       PyFloat.parse (prep m c b) = some d ∧ d.isNaN = false ∧
       (e = true ∨ ((d.isInf || d.isZero) && Conv.nonzeroDigitBeforeLetter (prep m c b)) = false)) := by
  rw [floatGen_eq]
  generalize prep m c b = v
  have hw : ∀ x : Bool, (!w && x) = false ↔ (w = true ∨ x = false) := by cases w <;> simp
  have he : ∀ x y : Bool, (!e && x && y) = false ↔ (e = true ∨ (x && y) = false) := by cases e <;> simp
  rw [guard_ok_iff, guard_ok_iff, guard_ok_iff, hw]
  refine and_congr Iff.rfl (and_congr Iff.rfl (and_congr Iff.rfl ?_))
  cases PyFloat.parse v with
  | none => exact ⟨fun h => (nomatch h), fun h => (nomatch h.1)⟩
  | some d' =>
    show (if d'.isNaN then Except.error msg else
      if !e && (d'.isInf || d'.isZero) && Conv.nonzeroDigitBeforeLetter v then .error msg else .ok d') = .ok d ↔ _
    rw [guard_ok_iff, guard_ok_iff, he]
    constructor
    · rintro ⟨h5, h6, h7⟩
      cases h7
      exact ⟨rfl, h5, h6⟩
    · rintro ⟨h4, h5, h6⟩
      cases h4
      exact ⟨h5, h6, rfl⟩
/-- the string the grammar is applied to: with `allow_leading_whitespace` the leading ASCII whitespace
(bytes 9–13 and 32) is dropped first -/
def strip (allowLeadWs : Bool) (v : Bytes) : Bytes := if allowLeadWs then v.dropWhile PyFloat.isSpace else v

/-- the range rule of `allow_erange = False`, on the value `d` of a literal with mantissa digits `mant` -/
def RangeOK (allowErange : Bool) (mant : Nat) (d : Dbl) : Prop :=
  allowErange = true ∨ mant = 0 ∨ (d.isInf = false ∧ d.isZero = false)

theorem head_dropWhile_eq {v : Bytes} (h : (v.head?.map PyFloat.isSpace).getD false = false) :
    v.dropWhile PyFloat.isSpace = v := by
  cases v with
  | nil => rfl
  | cons a t =>
    simp only [List.head?_cons, Option.map_some, Option.getD_some] at h
    exact List.dropWhile_cons_of_neg (by simp [h])

theorem roundPos_aux (neg : Bool) (p : Nat × Int) :
    (match p with | (m, e) => if e > 971 then Dbl.inf neg else Dbl.fin neg m e).isNaN = false := by
  obtain ⟨m, e⟩ := p
  simp only []
  split <;> rfl

theorem roundPos_not_nan (neg : Bool) (num den : Nat) : (Dbl.roundPos neg num den).isNaN = false := by
  unfold Dbl.roundPos
  split
  · rfl
  · exact roundPos_aux neg _

theorem ofDecimal_not_nan (neg : Bool) (digits : Nat) (exp10 : Int) :
    (Dbl.ofDecimal neg digits exp10).isNaN = false := by
  unfold Dbl.ofDecimal
  split
  · rfl
  · simp only []
    split
    · rfl
    · split
      · rfl
      · split <;> exact roundPos_not_nan _ _ _

theorem strip_eq_dropWhile {w : Bool} {v : Bytes}
    (h : w = true ∨ (v.head?.map PyFloat.isSpace).getD false = false) : strip w v = v.dropWhile PyFloat.isSpace := by
  cases w with
  | true => rfl
  | false => exact (head_dropWhile_eq (h.resolve_left Bool.false_ne_true)).symm

theorem nz_strip (w : Bool) (v : Bytes) :
    Conv.nonzeroDigitBeforeLetter (strip w v) = Conv.nonzeroDigitBeforeLetter v := by
  cases w with
  | true => exact nz_dropSpaces v
  | false => rfl

theorem mem_dropWhile_of_neg {α} {p : α → Bool} {a : α} (hp : p a = false) {l : List α} (h : a ∈ l) :
    a ∈ l.dropWhile p := by
  rw [← List.takeWhile_append_dropWhile (p := p) (l := l)] at h
  rcases List.mem_append.mp h with h | h
  · rw [of_mem_takeWhile p l h] at hp; cases hp
  · exact h

/-- the three character gates and Python's `float` together say that the string, without its leading whitespace where
that is allowed, is one of the grammar (the `_` gate is implied by the others: the grammar has no `_`) -/
theorem gates_parse_iff (w : Bool) (v : Bytes) (d : Dbl) :
    ((w = true ∨ (v.head?.map PyFloat.isSpace).getD false = false) ∧
      (v.getLast?.map PyFloat.isSpace).getD false = false ∧ v.contains 95 = false ∧ PyFloat.parse v = some d) ↔
    Core (strip w v) d := by
  constructor
  · rintro ⟨h1, h2, _, h4⟩
    rwa [parse_eq, stripSpaces_of_last v h2, ← strip_eq_dropWhile h1, parseCore_iff] at h4
  · intro hc
    obtain ⟨hne, ha⟩ := core_alpha hc
    have h1 : w = true ∨ (v.head?.map PyFloat.isSpace).getD false = false := by
      cases w with
      | true => exact Or.inl rfl
      | false => exact Or.inr (alpha_head ha)
    rw [strip_eq_dropWhile h1] at hc hne ha
    have h2 : (v.getLast?.map PyFloat.isSpace).getD false = false := by
      rw [← getLast?_dropWhile _ _ hne]; exact alpha_last ha
    refine ⟨h1, h2, ?_, ?_⟩
    · cases h95 : v.contains 95 with
      | false => rfl
      | true => exact absurd rfl (ha 95 (mem_dropWhile_of_neg (by decide) (by simpa using h95))).ne_95
    · rw [parse_eq, stripSpaces_of_last v h2]
      exact (parseCore_iff _ _).mpr hc

/-- on a literal the gate of `allow_erange = False` is the range rule: the detector fires iff the mantissa is not zero -/
theorem range_gate_iff {L : DecLit} (hv : L.Valid) (e : Bool) (d : Dbl) :
    (e = true ∨ ((d.isInf || d.isZero) && Conv.nonzeroDigitBeforeLetter L.render) = false) ↔ RangeOK e L.mant d := by
  rw [nz_render L hv, Bool.and_eq_false_iff, Bool.or_eq_false_iff, decide_eq_false_iff_not, Classical.not_not,
    Or.comm (b := L.mant = 0)]
  rfl

theorem floatGen_ok_iff (msg : String) (w e m c : Bool) (b : Bytes) (d : Dbl) :
    Conv.floatGen msg w e m c b = .ok d ↔
      ((∃ L : DecLit, L.Valid ∧ strip w (prep m c b) = L.render ∧ d = modelVal L ∧ RangeOK e L.mant d) ∨
       (∃ (sg : Sgn) (wd : Bytes), InfWord wd ∧ strip w (prep m c b) = sg.bytes ++ wd ∧ d = .inf sg.neg)) := by
  rw [floatGen_gate, ← nz_strip w]
  generalize prep m c b = v
  constructor
  · rintro ⟨h1, h2, h3, h4, h5, h6⟩
    rcases (gates_parse_iff w v d).mp ⟨h1, h2, h3, h4⟩ with
      ⟨L, hv, hs, hd⟩ | ⟨sg, wd, hw, hs, hd⟩ | ⟨sg, wd, hw, hs, hd⟩
    · rw [hs] at h6
      exact Or.inl ⟨L, hv, hs, hd, (range_gate_iff hv e d).mp h6⟩
    · exact Or.inr ⟨sg, wd, hw, hs, hd⟩
    · rw [hd] at h5; cases h5
  · rintro (⟨L, hv, hs, hd, hr⟩ | ⟨sg, wd, hw, hs, hd⟩)
    · obtain ⟨h1, h2, h3, h4⟩ := (gates_parse_iff w v d).mpr (Or.inl ⟨L, hv, hs, hd⟩)
      refine ⟨h1, h2, h3, h4, by rw [hd]; exact ofDecimal_not_nan _ _ _, ?_⟩
      rw [hs]
      exact (range_gate_iff hv e d).mpr hr
    · obtain ⟨h1, h2, h3, h4⟩ := (gates_parse_iff w v d).mpr (Or.inr (Or.inl ⟨sg, wd, hw, hs, hd⟩))
      refine ⟨h1, h2, h3, h4, by rw [hd]; rfl, Or.inr ?_⟩
      rw [hs, nz_word sg wd (Or.inl hw), Bool.and_false]

theorem floatGen_ok_msg (msg msg' : String) (w e m c : Bool) (b : Bytes) (d : Dbl) :
    Conv.floatGen msg w e m c b = .ok d ↔ Conv.floatGen msg' w e m c b = .ok d := by
  rw [floatGen_ok_iff, floatGen_ok_iff]

/-- whatever the flags, the string the grammar is applied to when an argument is accepted is non-empty and over the
alphabet `[0-9+-.A-Za-z]` (so no NUL, no whitespace, no `_`) -/
theorem floatGen_ok_alpha {msg : String} {w e m c : Bool} {b : Bytes} {d : Dbl}
    (h : Conv.floatGen msg w e m c b = .ok d) :
    strip w (prep m c b) ≠ [] ∧ ∀ x ∈ strip w (prep m c b), Alpha x := by
  apply core_alpha (d := d)
  rcases (floatGen_ok_iff msg w e m c b d).mp h with ⟨L, hv, hs, hd, _⟩ | ⟨sg, wd, hw, hs, hd⟩
  · exact Or.inl ⟨L, hv, hs, hd⟩
  · exact Or.inr (Or.inl ⟨sg, wd, hw, hs, hd⟩)

/-- unique reading, for all flags: if the converter accepts and the prepared, stripped string is the rendering of a
valid `L`, then `L` is the reading that was used -/
theorem floatGen_ok_lit {msg : String} {w e m c : Bool} {b : Bytes} {d : Dbl}
    (h : Conv.floatGen msg w e m c b = .ok d) {L : DecLit} (hv : L.Valid) (hs : strip w (prep m c b) = L.render) :
    d = modelVal L ∧ RangeOK e L.mant d := by
  rcases (floatGen_ok_iff msg w e m c b d).mp h with ⟨L', hv', hs', hd, hr⟩ | ⟨sg, wd, hw, hs', _⟩
  · cases render_injective hv hv' (hs.symm.trans hs')
    exact ⟨hd, hr⟩
  · exact absurd (hs.symm.trans hs') (render_ne_word hv hw)

/-- every guard of `Float.decode` raises the message it was given -/
theorem _root_.FR.Cmd.Conv.floatGen_error {msg : String} {a b c d : Bool} {x : Bytes} {e : Err}
    (h : Conv.floatGen msg a b c d x = .error e) : e = msg := by
  rw [floatGen_eq] at h
  generalize prep c d x = v at h
  rcases guard_error h with h | h
  · exact h
  rcases guard_error h with h | h
  · exact h
  rcases guard_error h with h | h
  · exact h
  cases hp : PyFloat.parse v with
  | none =>
    rw [hp] at h
    exact (Except.error.inj h).symm
  | some r =>
    rw [hp] at h
    rcases guard_error h with h | h
    · exact h
    rcases guard_error h with h | h
    · exact h
    cases h

theorem floatGen_refuses {msg : String} {w e m c : Bool} {b : Bytes}
    (h : ∀ d, Conv.floatGen msg w e m c b ≠ .ok d) : Conv.floatGen msg w e m c b = .error msg := by
  cases hc : Conv.floatGen msg w e m c b with
  | ok d => exact absurd hc (h d)
  | error er => rw [Cmd.Conv.floatGen_error hc]

end FR.C18f

import FR.Proofs.History
import FR.Proofs.Dispatch
import FR.Proofs.Prologue
import FR.Proofs.Discipline
import FR.Proofs.Closure
import FR.Proofs.LiveApply
import FR.Proofs.Returns
/-!
# A command answered with an error changes nothing (C08, for `_process_command`, EXEC's queue and script calls)

`Quiet s0 s` : `s` differs from `s0` only by lazy deletions of already-expired entries (every database is
purge-equal) and by the bookkeeping fields of the replay (`clocks`, `picks`, `fault`, `crashed`).

The judgments pushed through `special`, `runWith`, `runCommand`, `processCommand`:

* `Pres (Quiet s0) m`  : `m` is quiet whatever it returns,
* `Spec s0 bad m`      : if `m` returns a `bad` value (an error), it has been quiet,
* `Never bad m`        : `m` never returns a `bad` value,
* `Raises s0 err okErr m` : both at once, for a special body,
* `Pres (OutGrows o0) m` : the reply list only grows at the front (for "the reply list grows by exactly one error").
-/
namespace FR.ErrSys
open FR FR.M FR.Db

/-! ## The relation -/

/-- two lists of dictionaries of equal length that are pairwise purge-equal at time `t` (and have unique keys) -/
def DbsSim (t : Int) (a b : List Dict) : Prop :=
  a.length = b.length ∧ ∀ i, Db.Sim ⟨a.getD i [], t⟩ ⟨b.getD i [], t⟩

/-- unique keys in every database: the part of `Sys.DataInv` that purge-equality needs -/
def NodupDbs (s : Sys) : Prop := ∀ d ∈ s.srv.dbs, NodupKeys d

theorem NodupDbs.of_dataInv {s : Sys} (h : s.DataInv) : NodupDbs s := fun d hd => (h d hd).1

theorem nodup_nil : NodupKeys ([] : Dict) := by unfold NodupKeys; simp

theorem nodupKeys_getD {a : List Dict} (h : ∀ d ∈ a, NodupKeys d) (i : Nat) : NodupKeys (a.getD i []) := by
  rw [List.getD_eq_getElem?_getD]
  cases hi : a[i]? with
  | none => exact nodup_nil
  | some d => exact h d (List.mem_of_getElem? hi)

theorem NodupDbs.getD {s : Sys} (h : NodupDbs s) (i : Nat) : NodupKeys (s.srv.dbs.getD i []) := nodupKeys_getD h i

theorem DbsSim.refl {t : Int} {a : List Dict} (h : ∀ d ∈ a, NodupKeys d) : DbsSim t a a :=
  ⟨rfl, fun i => Db.Sim.refl (nodupKeys_getD h i)⟩

theorem DbsSim.trans {t : Int} {a b c : List Dict} (h1 : DbsSim t a b) (h2 : DbsSim t b c) : DbsSim t a c :=
  ⟨h1.1.trans h2.1, fun i => (h1.2 i).trans (h2.2 i)⟩

theorem getD_set (l : List Dict) (i j : Nat) (x : Dict) :
    (l.set i x).getD j [] = if i = j ∧ i < l.length then x else l.getD j [] := by
  simp only [List.getD_eq_getElem?_getD, List.getElem?_set]
  by_cases hij : i = j
  · subst hij
    by_cases hl : i < l.length
    · simp [hl]
    · simp [hl]
  · simp [hij]

theorem DbsSim.set {t : Int} {a b : List Dict} (h : DbsSim t a b) (i : Nat) {x : Dict}
    (hx : Db.Sim ⟨a.getD i [], t⟩ ⟨x, t⟩) : DbsSim t a (b.set i x) := by
  refine ⟨by rw [List.length_set]; exact h.1, fun j => ?_⟩
  rw [getD_set]
  split
  · rename_i hij; obtain ⟨rfl, _⟩ := hij; exact hx
  · exact h.2 j

structure Quiet (s0 s : Sys) : Prop where
  dbs : DbsSim s0.srv.time s0.srv.dbs s.srv.dbs
  srv : s.srv = { s0.srv with dbs := s.srv.dbs }
  out : s.out = s0.out

theorem Quiet.refl {s : Sys} (h : NodupDbs s) : Quiet s s := ⟨DbsSim.refl h, rfl, rfl⟩

theorem Quiet.time {s0 s : Sys} (h : Quiet s0 s) : s.srv.time = s0.srv.time := by rw [h.srv]
theorem Quiet.conns {s0 s : Sys} (h : Quiet s0 s) : s.srv.conns = s0.srv.conns := by rw [h.srv]
theorem Quiet.subs {s0 s : Sys} (h : Quiet s0 s) : s.srv.subs = s0.srv.subs := by rw [h.srv]
theorem Quiet.psubs {s0 s : Sys} (h : Quiet s0 s) : s.srv.psubs = s0.srv.psubs := by rw [h.srv]
theorem Quiet.scripts {s0 s : Sys} (h : Quiet s0 s) : s.srv.scripts = s0.srv.scripts := by rw [h.srv]
theorem Quiet.version {s0 s : Sys} (h : Quiet s0 s) : s.srv.version = s0.srv.version := by rw [h.srv]
theorem Quiet.lastsave {s0 s : Sys} (h : Quiet s0 s) : s.srv.lastsave = s0.srv.lastsave := by rw [h.srv]
theorem Quiet.connected {s0 s : Sys} (h : Quiet s0 s) : s.srv.connected = s0.srv.connected := by rw [h.srv]
theorem Quiet.closedSockets {s0 s : Sys} (h : Quiet s0 s) : s.srv.closedSockets = s0.srv.closedSockets := by rw [h.srv]
theorem Quiet.len {s0 s : Sys} (h : Quiet s0 s) : s.srv.dbs.length = s0.srv.dbs.length := h.dbs.1.symm

theorem Quiet.conn {s0 s : Sys} (h : Quiet s0 s) (c : Nat) : s.conn c = s0.conn c := by
  simp only [Sys.conn_def, h.conns]

theorem DbsSim.purge_eq {s0 s : Sys} (h : DbsSim s0.srv.time s0.srv.dbs s.srv.dbs) (ht : s.srv.time = s0.srv.time)
    (i : Nat) : Db.purge (s.dbAt i) = Db.purge (s0.dbAt i) := by
  unfold Sys.dbAt
  rw [ht]
  exact (h.2 i).eq.symm

theorem Quiet.purge_eq {s0 s : Sys} (h : Quiet s0 s) (i : Nat) : Db.purge (s.dbAt i) = Db.purge (s0.dbAt i) :=
  h.dbs.purge_eq h.time i

theorem Quiet.nodup {s0 s : Sys} (h : Quiet s0 s) : NodupDbs s := by
  intro d hd
  obtain ⟨i, hi, rfl⟩ := List.mem_iff_getElem.1 hd
  have := (h.dbs.2 i).nd2
  simpa [List.getD_eq_getElem?_getD, List.getElem?_eq_getElem hi] using this

theorem Quiet.dbAt {s0 s : Sys} (h : Quiet s0 s) (i : Nat) : Db.Sim (s0.dbAt i) (s.dbAt i) := by
  unfold Sys.dbAt
  rw [h.time]
  exact h.dbs.2 i

theorem Quiet.trans {s0 s1 s2 : Sys} (h1 : Quiet s0 s1) (h2 : Quiet s1 s2) : Quiet s0 s2 := by
  refine ⟨h1.dbs.trans (by rw [← h1.time]; exact h2.dbs), ?_, h2.out.trans h1.out⟩
  rw [h2.srv, h1.srv]

theorem Quiet.frame {s0 s s' : Sys} (h : Quiet s0 s) (h1 : s'.srv = s.srv) (h2 : s'.out = s.out) : Quiet s0 s' := by
  refine ⟨by rw [h1]; exact h.dbs, ?_, h2.trans h.out⟩
  rw [h1]; exact h.srv

theorem Quiet.setDbS {s0 s : Sys} (h : Quiet s0 s) (i : Nat) {db : Db} (hdb : Db.Sim (s0.dbAt i) db) :
    Quiet s0 (s.setDbS i db) := by
  have ht : db.time = s0.srv.time := hdb.time.symm
  refine ⟨?_, ?_, h.out⟩
  · refine DbsSim.set h.dbs i ?_
    have : (⟨db.dict, s0.srv.time⟩ : Db) = db := by rw [← ht]
    rw [this]; exact hdb
  · show ({ s.srv with dbs := s.srv.dbs.set i db.dict } : Server) = _
    rw [h.srv]
    rfl

/-! ## The judgments -/

def Spec (s0 : Sys) {α : Type} (bad : α → Prop) (m : M α) : Prop :=
  ∀ s, Quiet s0 s → bad (m s).1 → Quiet s0 (m s).2

def Never {α : Type} (bad : α → Prop) (m : M α) : Prop := ∀ s, ¬ bad (m s).1

namespace Never
variable {α β : Type} {bad : β → Prop}

theorem pure {a : β} (h : ¬ bad a) : Never bad (Pure.pure a : M β) := fun _ => h

theorem bind {m : M α} {f : α → M β} (hf : ∀ a, Never bad (f a)) : Never bad (m >>= f) :=
  fun s => hf (m s).1 (m s).2

theorem map {m : M α} {g : α → β} {bad' : α → Prop} (hm : Never bad' m) (hg : ∀ a, ¬ bad' a → ¬ bad (g a)) :
    Never bad (g <$> m) := fun s => hg _ (hm s)

theorem ite {c : Prop} [Decidable c] {t e : M β} (ht : c → Never bad t) (he : ¬ c → Never bad e) :
    Never bad (if c then t else e) := by
  split
  · exact ht ‹_›
  · exact he ‹_›

theorem then_pure {m : M α} {b : β} (h : ¬ bad b) : Never bad (m >>= fun _ => Pure.pure b) :=
  bind (fun _ => pure h)

theorem bind_pure {m : M α} {f : α → M β} {bad1 : α → Prop} (hm : Never bad1 m)
    (hf : ∀ a, ∃ b, f a = Pure.pure b ∧ (bad b → bad1 a)) : Never bad (m >>= f) := by
  intro s hb
  obtain ⟨b, hb1, hb2⟩ := hf (m s).1
  have e : (m >>= f) s = (b, (m s).2) := by
    show f (m s).1 (m s).2 = _
    rw [hb1]; rfl
  rw [e] at hb
  exact hm s (hb2 hb)

end Never

namespace Spec
variable {s0 : Sys} {α β : Type} {bad : β → Prop}

theorem pure (a : β) : Spec s0 bad (Pure.pure a : M β) := fun _ h _ => h

theorem of_pres {m : M β} (h : Pres (Quiet s0) m) : Spec s0 bad m := fun s hs _ => h s hs

theorem of_never {m : M β} (h : Never bad m) : Spec s0 bad m := fun s _ hb => absurd hb (h s)

theorem bind {m : M α} {f : α → M β} (hm : Pres (Quiet s0) m) (hf : ∀ a, Spec s0 bad (f a)) :
    Spec s0 bad (m >>= f) :=
  fun s hs hb => hf (m s).1 (m s).2 (hm s hs) hb

theorem bindC {m : M α} {f : α → M β} {bad1 bad2 : α → Prop} (hm : Spec s0 bad1 m) (hn : Never bad2 m)
    (h1 : ∀ a, bad1 a → Spec s0 bad (f a))
    (h2 : ∀ a, ¬ bad1 a → ¬ bad2 a → Never bad (f a)) : Spec s0 bad (m >>= f) := by
  intro s hs hb
  by_cases hv : bad1 (m s).1
  · exact h1 _ hv _ (hm s hs hv) hb
  · exact absurd hb (h2 _ hv (hn s) _)

theorem get_bind {f : Sys → M β} (hf : ∀ s, Quiet s0 s → Spec s0 bad (f s)) : Spec s0 bad (get >>= f) :=
  fun s hs hb => hf s hs s hs hb

theorem bind_pure {m : M α} {f : α → M β} {bad1 : α → Prop} (hm : Spec s0 bad1 m)
    (hf : ∀ a, ∃ b, f a = Pure.pure b ∧ (bad b → bad1 a)) : Spec s0 bad (m >>= f) := by
  intro s hs hb
  obtain ⟨b, hb1, hb2⟩ := hf (m s).1
  have e : (m >>= f) s = (b, (m s).2) := by
    show f (m s).1 (m s).2 = _
    rw [hb1]; rfl
  rw [e] at hb ⊢
  exact hm s hs (hb2 hb)

theorem ite {p : Prop} [Decidable p] {t e : M β} (ht : p → Spec s0 bad t) (he : ¬ p → Spec s0 bad e) :
    Spec s0 bad (if p then t else e) := by
  split
  · exact ht ‹_›
  · exact he ‹_›

theorem guard {p : Prop} [Decidable p] {b : β} {m : M β} (h : Never bad m) :
    Spec s0 bad (if p then Pure.pure b else m) := by
  split
  · exact pure _
  · exact of_never h

end Spec

/-- `Spec` and `Never` of a special body at once: both are read off the same places of the body (the argument checks in
front of the first write, the values it returns), so one traversal shows them. -/
def Raises (s0 : Sys) {α : Type} (err okErr : α → Prop) (m : M α) : Prop := Never okErr m ∧ Spec s0 err m

namespace Raises
variable {s0 : Sys} {α β : Type} {err okErr : β → Prop}

theorem never {m : M β} (h : Raises s0 err okErr m) : Never okErr m := h.1
theorem spec {m : M β} (h : Raises s0 err okErr m) : Spec s0 err m := h.2

theorem pure {b : β} (h : ¬ okErr b) : Raises s0 err okErr (Pure.pure b : M β) := ⟨Never.pure h, Spec.pure b⟩

theorem of_never {m : M β} (h1 : Never err m) (h2 : Never okErr m) : Raises s0 err okErr m := ⟨h2, Spec.of_never h1⟩

theorem of_pres {m : M β} (hp : Pres (Quiet s0) m) (hn : Never okErr m) : Raises s0 err okErr m :=
  ⟨hn, Spec.of_pres hp⟩

theorem bind {m : M α} {f : α → M β} (hm : Pres (Quiet s0) m) (hf : ∀ a, Raises s0 err okErr (f a)) :
    Raises s0 err okErr (m >>= f) := ⟨Never.bind fun a => (hf a).1, Spec.bind hm fun a => (hf a).2⟩

theorem ite {p : Prop} [Decidable p] {t e : M β} (ht : p → Raises s0 err okErr t) (he : ¬ p → Raises s0 err okErr e) :
    Raises s0 err okErr (if p then t else e) :=
  ⟨Never.ite (fun h => (ht h).1) (fun h => (he h).1), Spec.ite (fun h => (ht h).2) (fun h => (he h).2)⟩

theorem guard {p : Prop} [Decidable p] {b : β} {m : M β} (hb : ¬ okErr b) (h1 : Never err m) (h2 : Never okErr m) :
    Raises s0 err okErr (if p then Pure.pure b else m) := ite (fun _ => pure hb) (fun _ => of_never h1 h2)

theorem bindV {err1 okErr1 : α → Prop} {m : M α} {f : α → M β} (hm : Raises s0 err1 okErr1 m)
    (hf : ∀ a, ¬ okErr1 a → (err1 a → Raises s0 err okErr (f a)) ∧ (¬ err1 a → Never err (f a) ∧ Never okErr (f a))) :
    Raises s0 err okErr (m >>= f) := by
  refine ⟨fun s => ?_, fun s hs hb => ?_⟩
  · by_cases he : err1 (m s).1
    · exact ((hf _ (hm.1 s)).1 he).1 _
    · exact ((hf _ (hm.1 s)).2 he).2 _
  · by_cases he : err1 (m s).1
    · exact ((hf _ (hm.1 s)).1 he).2 _ (hm.2 s hs he) hb
    · exact absurd hb (((hf _ (hm.1 s)).2 he).1 _)

theorem bind_pure {err1 okErr1 : α → Prop} {m : M α} {f : α → M β} (hm : Raises s0 err1 okErr1 m)
    (hf : ∀ a, ∃ b, f a = Pure.pure b ∧ (err b → err1 a) ∧ (okErr b → okErr1 a)) : Raises s0 err okErr (m >>= f) :=
  ⟨Never.bind_pure hm.1 fun a => (hf a).imp fun _ h => ⟨h.1, h.2.2⟩,
    Spec.bind_pure hm.2 fun a => (hf a).imp fun _ h => ⟨h.1, h.2.1⟩⟩

end Raises

/-! ## Leaves of the `Pres (Quiet s0)` logic -/

variable {s0 : Sys}

theorem q_getDb (i : Nat) : Pres (Quiet s0) (getDb i) := Pres.getDb i

theorem q_getDb_bind {β : Type} (i : Nat) {f : Db → M β}
    (hf : ∀ db, Db.Sim (s0.dbAt i) db → Pres (Quiet s0) (f db)) : Pres (Quiet s0) (getDb i >>= f) :=
  Pres.bindV (fun db => Db.Sim (s0.dbAt i) db) (fun _ h => ⟨h, h.dbAt i⟩) hf

theorem q_setDb (i : Nat) {db : Db} (h : Db.Sim (s0.dbAt i) db) : Pres (Quiet s0) (setDb i db) :=
  fun _ hs => hs.setDbS i h

theorem q_modify_frame (g : Sys → Sys) (h1 : ∀ s, (g s).srv = s.srv) (h2 : ∀ s, (g s).out = s.out) :
    Pres (Quiet s0) (modify g) := fun s h => h.frame (h1 s) (h2 s)

theorem sim_get {a db db' : Db} {k : Bytes} {r : Option Item} (h : Db.Sim a db) (e : db.get k = (db', r)) :
    Db.Sim a db' := by
  have : db' = (db.get k).1 := by rw [e]
  subst this
  exact h.trans ⟨h.nd2, get_nodup k h.nd2, (get_purge k h.nd2).symm⟩

theorem sim_reads {a db db' : Db} (h : Db.Sim a db) (r : Reads db db') : Db.Sim a db' :=
  h.trans ⟨h.nd2, r.nd, r.eq.symm⟩

theorem sim_apply {a db db' : Db} {res} {sig : Sig} {raw : List Bytes} (h : Db.Sim a db)
    (e : sig.apply raw db = (db', res)) : Db.Sim a db' := by
  have : db' = (sig.apply raw db).1 := by rw [e]
  subst this
  exact sim_reads h (Sig.apply_reads sig raw h.nd2)

theorem sim_apply1 {a db : Db} (sig : Sig) (raw : List Bytes) (h : Db.Sim a db) : Db.Sim a (sig.apply raw db).1 :=
  sim_reads h (Sig.apply_reads sig raw h.nd2)

/-- the leaves of `Closure.lean` for commands that only read -/
theorem quiet_readStable : Conserve.ReadStable (Quiet s0) :=
  ⟨fun _ d _ h hr => h.setDbS d (sim_reads (h.dbAt d) (hr (h.nodup.getD d))), fun _ _ h1 h2 _ _ _ h => h.frame h1 h2⟩

/-- side condition of `q_setDb`: the database stored came from the one read (hypothesis `hdb`) by `Database.get` or
`Signature.apply` — with the equation that `split` left in the context (`‹_›`), or written as a projection -/
syntax "q_good" : tactic
macro_rules | `(tactic| q_good) => `(tactic| first
  | (refine sim_get ?_ ‹_›; assumption)
  | (refine sim_apply ?_ ‹_›; assumption)
  | (refine sim_apply1 _ _ ?_; assumption))

theorem writebackAll_clean (d : Nat) {cis : List CI} (hc : ∀ c ∈ cis, c.Clean) (s : Sys) :
    writebackAll d cis s = ((), s) := by
  induction cis generalizing s with
  | nil => rfl
  | cons ci cis ih =>
    rw [writebackAll_cons]
    have h1 := hc ci (List.mem_cons_self ..)
    have : s.wbStep d ci = s := by
      unfold Sys.wbStep
      rw [CI.writeback_unmodified h1.1 h1.2]
      simp only [h1.1, Bool.false_eq_true, if_false]
      exact Sys.setDbS_self s d
    rw [this]
    exact ih (fun c hc' => hc c (List.mem_cons_of_mem _ hc')) s

theorem q_writebackAll_clean (d : Nat) {cis : List CI} (hc : ∀ c ∈ cis, c.Clean) :
    Pres (Quiet s0) (writebackAll d cis) := by
  intro s hs
  rw [writebackAll_clean d hc]; exact hs

/-! ### the `pres` descent of `History.lean` for `Pres (Quiet s0)`

Rules declared later are tried first, so the alternatives below come before those of `History.lean`: a read of a
database hands on that it is purge-equal to that of `s0` (`q_getDb_bind`, hypothesis `hdb`), a store asks it of the
database stored (`q_setDb`, discharged by `q_good`), `fault` is quiet.  A hypothesis of the context is a leaf
(`assumption`): this is how `have hw := q_writebackAll_clean …; pres` passes its fact in. -/

macro_rules | `(tactic| pres_leaf) => `(tactic| first
  | with_reducible exact quiet_readStable.fault _
  | ((with_reducible apply q_setDb); q_good))

macro_rules | `(tactic| pres_step) => `(tactic| (with_reducible refine q_getDb_bind _ (fun db hdb => ?_)))

/-! ## Bad values -/

def badO : Option Reply → Prop
  | some (.err _) => True
  | _ => False

def errS : SpecialOut → Prop
  | .error _ => True
  | _ => False

/-- a special body returned an error-shaped reply without raising (never happens) -/
def okErrS : SpecialOut → Prop
  | .ok (some (.err _), _) => True
  | _ => False

/-- an error was raised, whatever the type of the result -/
def raised {α : Type} : Except Err α → Prop
  | .error _ => True
  | _ => False

/-- an error-shaped reply was returned without raising (never happens); `π` reads the reply off the result -/
def okErr {α : Type} (π : α → Option Reply) : Except Err α → Prop
  | .ok a => badO (π a)
  | _ => False

theorem okErrS_ok {r : Option Reply} {cis : List CI} : okErrS (.ok (r, cis)) ↔ badO r := by
  cases r with
  | none => exact Iff.rfl
  | some r => cases r <;> exact Iff.rfl

theorem Spec.getDb_bind {β : Type} {bad : β → Prop} (i : Nat) {f : Db → M β}
    (hf : ∀ db, Db.Sim (s0.dbAt i) db → Spec s0 bad (f db)) : Spec s0 bad (getDb i >>= f) :=
  fun s hs hb => hf _ (hs.dbAt i) s hs hb

/-! ## Automation -/

open Lean Elab Tactic Meta in
/-- close the goal by `apply h` for the first hypothesis `h` of the context that is a `∀` or an implication and
leaves no goal behind (`assumption` does not instantiate such an `h`) -/
elab "forall_hyp" : tactic => withMainContext do
  let g ← getMainGoal
  for ldecl in (← getLCtx) do
    if ldecl.isImplementationDetail then continue
    let ty ← instantiateMVars ldecl.type
    unless ty.isForall do continue
    let saved ← saveState
    try
      let gs ← withReducible <| g.apply ldecl.toExpr
      if gs.isEmpty then
        replaceMainGoal []
        return
      else saved.restore
    catch _ => saved.restore
  throwError "forall_hyp: no applicable hypothesis"
/-- `Never bad m` by looking at the tail positions of `m` only (`Never.bind` ignores what comes first): each is a
`pure a` with `a` a constructor application on which `bad` computes to `False`, so `¬ bad a` is `False → False` and
`fun h => h` proves it.  Fails on a tail that returns what a callee returned: give `Never` of the callee by hand. -/
syntax "never" : tactic
macro_rules | `(tactic| never) => `(tactic| repeat' first
  | ((with_reducible refine Never.pure ?_); exact fun h => h)
  | (with_reducible refine Never.bind (fun _ => ?_))
  | (with_reducible refine Never.ite (fun _ => ?_) (fun _ => ?_))
  | split
  | (simp only []))

/-- `Spec s0 bad m` along the `do` block: at a `>>=` whose left part is quiet (`pres` closes `Pres (Quiet s0)` of it) go on
with the continuation (`Spec.bind`); at the first part that is not, the rest must never return a bad value (`never`);
a `pure` return is quiet.  `Spec` of a callee is taken from the context (`assumption`, or `forall_hyp` when it is
quantified). -/
syntax "spec" : tactic
macro_rules | `(tactic| spec) => `(tactic| repeat' first
  | with_reducible exact Spec.pure _
  | with_reducible assumption
  | forall_hyp
  | (with_reducible refine Spec.getDb_bind _ (fun db hdb => ?_))
  | ((with_reducible refine Spec.bind ?_ (fun _ => ?_)); focus (pres; done))
  | (refine Spec.of_never ?_; never; done)
  | (with_reducible refine Spec.ite (fun _ => ?_) (fun _ => ?_))
  | split
  | (simp only []))

theorem selectCmd_raises (c : Nat) (args : List Arg) (cis : List CI) :
    Raises s0 errS okErrS (selectCmd c args cis) := by
  unfold selectCmd okR
  split
  · exact Raises.of_never (Never.then_pure id) (Never.then_pure id)
  · exact Raises.pure id

theorem swapdbCmd_raises (args : List Arg) (cis : List CI) : Raises s0 errS okErrS (swapdbCmd args cis) := by
  unfold swapdbCmd okR
  split
  · exact Raises.of_never (by never) (by never)
  · exact Raises.pure id

theorem moveCmd_spec (d : Nat) (args : List Arg) (cis : List CI) : Spec s0 errS (moveCmd d args cis) := by
  unfold moveCmd; spec

theorem moveCmd_never (d : Nat) (args : List Arg) (cis : List CI) : Never okErrS (moveCmd d args cis) := by
  unfold moveCmd; never

theorem randomkeyCmd_never (d : Nat) (cis : List CI) : Never okErrS (randomkeyCmd d cis) := by
  unfold randomkeyCmd okR; never

theorem scanReply_arr {α} {elems : List α} {keyOf typeName allowType cursor opts render} {r : Reply}
    (h : Cmd.scanReply elems keyOf typeName allowType cursor opts render = .ok r) : ∃ xs, r = .arr xs := by
  unfold Cmd.scanReply at h
  repeat' split at h
  all_goals first
    | cases h; done
    | (injection h with h; exact ⟨_, h.symm⟩)

theorem scanCmd_never (d : Nat) (args : List Arg) (cis : List CI) : Never okErrS (scanCmd d args cis) := by
  unfold scanCmd okR
  split
  · refine Never.bind (fun ks => Never.bind (fun db => ?_))
    split
    · rename_i r heq
      obtain ⟨xs, rfl⟩ := scanReply_arr heq
      exact Never.pure (fun h => h)
    · exact Never.pure (fun h => h)
  · exact Never.pure (fun h => h)

/-! MULTI, DISCARD, WATCH: the state of the transaction is checked on the record before anything is written -/

theorem multiCmd_raises (c : Nat) (cis : List CI) : Raises s0 errS okErrS (multiCmd c cis) := by
  unfold multiCmd okR
  exact Raises.bind (Pres.getConn c) fun _ => Raises.guard id (Never.then_pure id) (Never.then_pure id)

theorem discardCmd_raises (c : Nat) (cis : List CI) : Raises s0 errS okErrS (discardCmd c cis) := by
  unfold discardCmd okR
  exact Raises.bind (Pres.getConn c) fun _ =>
    Raises.guard id (Never.bind fun _ => Never.then_pure id) (Never.bind fun _ => Never.then_pure id)

theorem watchCmd_raises (c d : Nat) (args : List Arg) (cis : List CI) :
    Raises s0 errS okErrS (watchCmd c d args cis) := by
  unfold watchCmd okR
  exact Raises.bind (Pres.getConn c) fun _ => Raises.guard id (Never.then_pure id) (Never.then_pure id)

theorem bpopPass_spec (d : Nat) (left first : Bool) (keys : List Bytes) :
    Spec s0 raised (bpopPass d left first keys) := by
  induction keys with
  | nil => unfold bpopPass; spec
  | cons k rest ih => unfold bpopPass; spec

theorem bpopPass_never (d : Nat) (left first : Bool) (keys : List Bytes) :
    Never (okErr id) (bpopPass d left first keys) := by
  intro s hb
  generalize hres : (bpopPass d left first keys s).1 = res at hb
  match res, hres, hb with
  | .ok (some (.err m)), hres, _ =>
    obtain ⟨k, l, h⟩ := bpopPass_reply _ _ _ _ _ _ hres
    simp [bpopReply] at h

theorem brpoplpushPass_spec (d : Nat) (src dst : Bytes) (first : Bool) :
    Spec s0 raised (brpoplpushPass d src dst first) := by
  unfold brpoplpushPass; spec

theorem brpoplpushPass_never (d : Nat) (src dst : Bytes) (first : Bool) :
    Never (okErr id) (brpoplpushPass d src dst first) := by
  intro s hb
  generalize hres : (brpoplpushPass d src dst first s).1 = res at hb
  match res, hres, hb with
  | .ok (some (.err m)), hres, _ =>
    obtain ⟨el, h⟩ := brpoplpushPass_reply _ _ _ _ _ _ hres
    cases h

theorem blocking_raises (c : Nat) (park : Bool) (kind : String) (keys : List Bytes) (timeout : Int)
    (pass : Bool → M (Except Err (Option Reply))) (hp : ∀ first, Raises s0 raised (okErr id) (pass first)) :
    Raises s0 raised (okErr id) (blocking c park kind keys timeout pass) := by
  unfold blocking
  refine Raises.bindV (hp true) (fun a ha => ?_)
  split
  · exact ⟨fun _ => Raises.pure id, fun h => (h trivial).elim⟩
  · exact ⟨fun h => h.elim, fun _ => ⟨Never.pure id, Never.pure ha⟩⟩
  · exact ⟨fun h => h.elim, fun _ => ⟨by never, by never⟩⟩

theorem blockingAsync_raises (c : Nat) (kind : String) (keys : List Bytes)
    (pass : Bool → M (Except Err (Option Reply))) (hp : ∀ first, Raises s0 raised (okErr id) (pass first)) :
    Raises s0 raised (okErr id) (blockingAsync c kind keys pass) := by
  unfold blockingAsync
  refine Raises.bindV (hp true) (fun a ha => ?_)
  split
  · exact ⟨fun _ => Raises.pure id, fun h => (h trivial).elim⟩
  · exact ⟨fun h => h.elim, fun _ => ⟨Never.pure id, Never.pure ha⟩⟩
  · exact ⟨fun h => h.elim, fun _ => ⟨by never, by never⟩⟩

theorem blockingEither_raises (mode : Mode) (c : Nat) (kind : String) (keys : List Bytes) (timeout : Int)
    (pass : Bool → M (Except Err (Option Reply))) (hp : ∀ first, Raises s0 raised (okErr id) (pass first)) :
    Raises s0 raised (okErr id) (if mode.async = true then blockingAsync c kind keys pass
      else blocking c mode.park kind keys timeout pass) :=
  Raises.ite (fun _ => blockingAsync_raises c kind keys pass hp)
    (fun _ => blocking_raises c mode.park kind keys timeout pass hp)

/-! ### SORT, ZUNIONSTORE / ZINTERSTORE -/

macro_rules | `(tactic| pres_leaf) => `(tactic| with_reducible exact quiet_readStable.lookupKey _ _ _)

theorem Stored.not_okErr {cis : List CI} {r : Except Err (Reply × List CI)} (h : Stored cis r) : ¬ okErr (some ·.1) r := by
  intro hb
  match r, hb with
  | .ok (.err e, cis'), _ => exact h.2 e cis' rfl

theorem zunioninter_never (u : Bool) (d : Nat) (args : List Arg) (cis : List CI) :
    Never (okErr (some ·.1)) (zunioninter u d args cis) := fun s => Stored.not_okErr (zunioninter_returns u d args s)

theorem q_set {s' : Sys} (h : Quiet s0 s') : Pres (Quiet s0) (set s') := fun _ _ => h

theorem sortCmd_never (c d : Nat) (args : List Arg) (cis : List CI) : Never (okErr (some ·.1)) (sortCmd c d args cis) :=
  fun s => Stored.not_okErr (sortCmd_returns c d args s)

theorem sortCmd_spec (c d : Nat) (args : List Arg) (cis : List CI) : Spec s0 raised (sortCmd c d args cis) := by
  unfold sortCmd
  split
  · extract_lets key wrong out x keyed err le jp
    split
    · spec
    · have hjp : ∀ x, Spec s0 raised (jp x) := by
        intro items?
        simp -zeta only [jp]
        split
        · spec
        · split
          · spec
          · extract_lets n start stop stop' gets sortby jp2
            have hjp2 : ∀ x, Spec s0 raised (jp2 x) := by
              intro sorted?
              simp -zeta only [jp2]
              spec
            clear_value jp2
            spec
      clear_value jp
      simp only []
      split
      · spec
      · spec
      · spec
      · refine Spec.get_bind (fun st hs => ?_)
        split
        · split
          · refine Spec.bind (q_set (hs.frame rfl rfl)) (fun _ => ?_)
            spec
          · spec
        · spec
      · spec
  · spec

/-! ## `special` -/

/-! `special` passes on what SORT / ZUNIONSTORE (`R`) and the blocking pops (`P`) return, repackaged. -/

theorem Raises.passR {m : M (Except Err (Reply × List CI))} {f : Except Err (Reply × List CI) → M SpecialOut}
    (hm : Raises s0 raised (okErr (some ·.1)) m) (hok : ∀ r cis', f (.ok (r, cis')) = Pure.pure (.ok (some r, cis')))
    (herr : ∀ e, f (.error e) = Pure.pure (.error e)) : Raises s0 errS okErrS (m >>= f) :=
  Raises.bind_pure hm fun a => match a with
    | .error e => ⟨_, herr e, id, id⟩
    | .ok (r, cis') => ⟨_, hok r cis', id, okErrS_ok.1⟩

theorem Raises.passP {cis : List CI} {m : M (Except Err (Option Reply))}
    {f : Except Err (Option Reply) → M SpecialOut} (hm : Raises s0 raised (okErr id) m)
    (hok : ∀ r, f (.ok r) = Pure.pure (.ok (r, cis))) (herr : ∀ e, f (.error e) = Pure.pure (.error e)) :
    Raises s0 errS okErrS (m >>= f) :=
  Raises.bind_pure hm fun a => match a with
    | .error e => ⟨_, herr e, id, id⟩
    | .ok r => ⟨_, hok r, id, okErrS_ok.1⟩

theorem scriptCmd_run (inner : Inner) (c : Nat) (name : String) (args : List Arg) (cis : List CI) (s : Sys) :
    (scriptCmd inner c name args cis s).1 = .ok (none, cis) := by
  unfold scriptCmd
  have : ∀ (e : Err) (y : Option Reply × List CI),
      ((Except.error e : SpecialOut) <|> Except.ok y) = Except.ok y := fun _ _ => rfl
  rw [this]
  rfl

theorem scriptCmd_raises (inner : Inner) (c : Nat) (name : String) (args : List Arg) (cis : List CI) :
    Raises s0 errS okErrS (scriptCmd inner c name args cis) :=
  Raises.of_never (fun s h => by rw [scriptCmd_run] at h; exact h) (fun s h => by rw [scriptCmd_run] at h; exact h)

theorem execCmd_never (inner : Inner) (c : Nat) (cis : List CI) : Never okErrS (execCmd inner c cis) := by
  unfold execCmd okR; never

/-- The goals are the cases of `match name with` in `special`, in the order of the source.  A body that can fail
checks its arguments before it writes, and no body builds an error-shaped reply itself. -/
theorem special_raises (inner : Inner) (mode : Mode) (c : Nat) (name : String) (args : List Arg) (cis : List CI)
    (hne : name ≠ "exec") : Raises s0 errS okErrS (special inner mode c name args cis) := by
  have hbpop : ∀ d left first keys, Raises s0 raised (okErr id) (bpopPass d left first keys) :=
    fun _ _ _ _ => ⟨bpopPass_never _ _ _ _, bpopPass_spec _ _ _ _⟩
  have hzu : ∀ u d args cis, Raises s0 raised (okErr (some ·.1)) (zunioninter u d args cis) :=
    fun _ _ _ _ => Raises.of_pres (quiet_readStable.zunioninter _ _ _ _) (zunioninter_never _ _ _ _)
  unfold special okR
  simp only []
  refine Raises.bind (Pres.getConn c) (fun conn => ?_)
  split
  -- echo, ping
  · exact Raises.pure id
  · split
    · exact Raises.pure id
    · refine Raises.of_never ?_ ?_ <;>
      · split
        · exact Never.pure id
        · split <;> exact Never.pure id
  · exact selectCmd_raises _ _ _
  · exact swapdbCmd_raises _ _
  -- keys
  · split
    · exact Raises.of_pres (Pres.bind (quiet_readStable.liveKeys _) (fun _ => by split <;> exact Pres.pure _))
        (Never.bind fun _ => by split <;> exact Never.pure id)
    · exact Raises.pure id
  · exact ⟨moveCmd_never _ _ _, moveCmd_spec _ _ _⟩
  · exact Raises.of_pres (quiet_readStable.randomkeyCmd _ _) (randomkeyCmd_never _ _)
  · exact Raises.of_pres (quiet_readStable.scanCmd _ _ _) (scanCmd_never _ _ _)
  · exact Raises.passR ⟨sortCmd_never _ _ _ _, sortCmd_spec _ _ _ _⟩ (fun _ _ => rfl) (fun _ => rfl)
  -- dbsize, flushdb, flushall, lastsave, save, bgsave, time
  · exact Raises.of_pres (Pres.bind (quiet_readStable.liveKeys _) (fun _ => Pres.pure _))
      (Never.bind fun _ => Never.pure id)
  · exact Raises.guard id (Never.then_pure id) (Never.then_pure id)
  · exact Raises.guard id (Never.then_pure id) (Never.then_pure id)
  · exact Raises.of_pres (Pres.bind Pres.get (fun _ => Pres.pure _)) (Never.bind fun _ => Never.pure id)
  · exact Raises.of_never (Never.bind fun _ => Never.then_pure id) (Never.bind fun _ => Never.then_pure id)
  · exact Raises.guard id (Never.bind fun _ => Never.then_pure id) (Never.bind fun _ => Never.then_pure id)
  · exact Raises.of_pres (Pres.bind quiet_readStable.nextClock (fun _ => Pres.pure _)) (Never.bind fun _ => Never.pure id)
  · exact multiCmd_raises _ _
  · exact discardCmd_raises _ _
  · exact absurd rfl hne
  · exact watchCmd_raises _ _ _ _
  -- unwatch, (p)subscribe, (p)unsubscribe
  · exact Raises.of_never (Never.then_pure id) (Never.then_pure id)
  · exact Raises.of_never (Never.then_pure id) (Never.then_pure id)
  · exact Raises.of_never (Never.then_pure id) (Never.then_pure id)
  · exact Raises.of_never (Never.then_pure id) (Never.then_pure id)
  · exact Raises.of_never (Never.then_pure id) (Never.then_pure id)
  -- publish
  · split
    · exact Raises.of_never (Never.bind fun _ => Never.pure id) (Never.bind fun _ => Never.pure id)
    · exact Raises.pure id
  -- blpop, brpop, brpoplpush
  · split
    · exact Raises.pure id
    · split
      · exact Raises.pure id
      · exact Raises.passP (blockingEither_raises _ _ _ _ _ _ (fun _ => hbpop _ _ _ _)) (fun _ => rfl) (fun _ => rfl)
  · split
    · exact Raises.pure id
    · split
      · exact Raises.pure id
      · exact Raises.passP (blockingEither_raises _ _ _ _ _ _ (fun _ => hbpop _ _ _ _)) (fun _ => rfl) (fun _ => rfl)
  · split
    · exact Raises.passP
        (blockingEither_raises _ _ _ _ _ _ (fun _ => ⟨brpoplpushPass_never _ _ _ _, brpoplpushPass_spec _ _ _ _⟩))
        (fun _ => rfl) (fun _ => rfl)
    · exact Raises.pure id
  -- zunionstore, zinterstore
  · exact Raises.passR (hzu _ _ _ _) (fun _ _ => rfl) (fun _ => rfl)
  · exact Raises.passR (hzu _ _ _ _) (fun _ _ => rfl) (fun _ => rfl)
  · exact scriptCmd_raises _ _ _ _ _
  · exact scriptCmd_raises _ _ _ _ _
  · exact scriptCmd_raises _ _ _ _ _
  -- a command that is not modelled
  · exact Raises.of_pres (Pres.bind (quiet_readStable.fault _) (fun _ => Pres.pure _)) (Never.then_pure id)

theorem special_spec (inner : Inner) (mode : Mode) (c : Nat) (name : String) (args : List Arg) (cis : List CI)
    (hne : name ≠ "exec") : Spec s0 errS (special inner mode c name args cis) :=
  (special_raises inner mode c name args cis hne).spec

theorem special_never (inner : Inner) (mode : Mode) (c : Nat) (name : String) (args : List Arg) (cis : List CI) :
    Never okErrS (special inner mode c name args cis) := by
  by_cases hne : name = "exec"
  · rw [special_exec inner mode c name args cis hne]
    exact execCmd_never inner c cis
  · exact (special_raises (s0 := {}) inner mode c name args cis hne).never

/-! ## `_run_command` -/

theorem afterSpecial_spec (d : Nat) {cis : List CI} (hc : ∀ c ∈ cis, c.Clean) {x : M SpecialOut}
    (hsp : Spec s0 errS x) (hnv : Never okErrS x) : Spec s0 badO (afterSpecial d cis x) := by
  unfold afterSpecial
  refine Spec.bindC hsp hnv (fun a ha => ?_) (fun a h1 h2 => ?_)
  · split
    · refine Spec.of_pres ?_
      have hw := q_writebackAll_clean (s0 := s0) d hc
      pres
    · cases ha
  · split
    · exact absurd trivial h1
    · exact Never.bind (fun _ => Never.pure (fun h => h2 (okErrS_ok.2 h)))

theorem runWith_special_spec (special : SpecialFn) (mode : Mode) (c : Nat) (sig : Sig) (raw : List Bytes)
    (fromScript : Bool) (hreg : Cmd.regular sig.name = none)
    (hsp : ∀ args cis, Spec s0 errS (special mode c sig.name args cis))
    (hnv : ∀ args cis, Never okErrS (special mode c sig.name args cis)) :
    Spec s0 badO (runWith special mode c sig raw fromScript) := by
  intro s hs
  have hq1 := hs.setDbS (s.conn c).db (sim_apply1 sig raw (hs.dbAt _))
  exact runWith_special_cases _ mode c sig raw fromScript s hreg (P := fun p => badO p.1 → Quiet s0 p.2)
    (fun _ _ => hs) (fun _ _ => hq1)
    (fun args cis hap _ => afterSpecial_spec _ (Sig.apply_clean sig raw _ hap) (hsp args cis) (hnv args cis) _ hq1)

/-! ### regular commands -/

theorem runRegular_failed_reply (sig : Sig) (body : Body) (ctx : Ctx) (gate : Option Err) (raw : List Bytes) (db : Db) :
    (runRegular sig body ctx gate raw db).failed = true → ∃ e, (runRegular sig body ctx gate raw db).reply = .err e :=
  runRegular_cases sig body ctx gate raw db (P := fun out => out.failed = true → ∃ e, out.reply = .err e)
    (fun _ _ _ => ⟨_, rfl⟩) (fun _ _ h => absurd h Bool.false_ne_true) (fun _ _ _ _ _ _ => ⟨_, rfl⟩)
    (fun _ _ _ _ _ _ _ => ⟨_, rfl⟩) (fun _ _ _ _ _ _ h => absurd h Bool.false_ne_true)

theorem runWith_regular_quiet (special : SpecialFn) (mode : Mode) (c : Nat) (sig : Sig) (raw : List Bytes)
    (fromScript : Bool) {body : Body} (h : Cmd.regular sig.name = some body) (s : Sys) (hq : Quiet s0 s)
    (hr : Reads (s.dbAt (s.conn c).db) (s.regularOut c sig body raw fromScript).db ∧
      (s.regularOut c sig body raw fromScript).notified = []) :
    Quiet s0 (runWith special mode c sig raw fromScript s).2 := by
  cases hrf : s.refuses c sig with
  | true => rw [runWith_refused special mode c sig raw fromScript hrf]; exact hq
  | false =>
  rw [runWith_regular_run special mode c sig raw fromScript h s hrf]
  unfold Sys.afterRegular
  rw [hr.2]
  show Quiet s0 (Sys.faultS _ _)
  refine Quiet.frame (s := s.setDbS (s.conn c).db (s.regularOut c sig body raw fromScript).db) ?_ ?_ ?_
  · exact hq.setDbS _ (sim_reads (hq.dbAt _) hr.1)
  · rw [Sys.faultS_srv]; rfl
  · unfold Sys.faultS
    split
    · split <;> rfl
    · rfl

theorem runWith_regular_failed (special : SpecialFn) (mode : Mode) (c : Nat) (sig : Sig) (raw : List Bytes)
    (fromScript : Bool) {body : Body} (h : Cmd.regular sig.name = some body) (s : Sys) (hq : Quiet s0 s)
    (hf : (s.regularOut c sig body raw fromScript).failed = true) :
    Quiet s0 (runWith special mode c sig raw fromScript s).2 :=
  runWith_regular_quiet special mode c sig raw fromScript h s hq
    (runRegular_failed sig body _ _ raw (hq.nodup.getD _) hf)

theorem runWith_regular_error (special : SpecialFn) (mode : Mode) (c : Nat) (sig : Sig) (raw : List Bytes) (fs : Bool)
    {body : Body} (hreg : Cmd.regular sig.name = some body) (s1 : Sys) (hnd : NodupDbs s1)
    (herr : s1.refuses c sig = true ∨ (s1.regularOut c sig body raw fs).failed = true) :
    (∃ e, (runWith special mode c sig raw fs s1).1 = some (.err e)) ∧
      Quiet s1 (runWith special mode c sig raw fs s1).2 := by
  cases hrf : s1.refuses c sig with
  | true =>
    rw [runWith_refused _ mode c sig raw fs hrf]
    exact ⟨⟨_, rfl⟩, Quiet.refl hnd⟩
  | false =>
    rw [hrf] at herr
    replace herr := herr.resolve_left (by simp)
    refine ⟨?_, runWith_regular_failed _ mode c sig raw fs hreg s1 (Quiet.refl hnd) herr⟩
    rw [runWith_regular_run _ mode c sig raw fs hreg s1 hrf]
    obtain ⟨e, he⟩ := runRegular_failed_reply _ _ _ _ _ _ herr
    exact ⟨e, congrArg some he⟩

/-! ### the script commands -/

theorem scriptBody_spec (special : SpecialFn) (mode : Mode) (c : Nat) (name : String) (args : List Arg)
    (h1 : name ≠ "eval") (h2 : name ≠ "evalsha") : Spec s0 raised (scriptBody special mode c name args) := by
  unfold scriptBody
  refine Spec.bind Pres.get (fun _ => ?_)
  split
  · exact absurd rfl h1
  · exact absurd rfl h2
  · simp only []
    split
    -- LOAD
    · split
      · refine Spec.bind quiet_readStable.shaHint (fun sha? => ?_)
        split
        · exact Spec.of_pres (Pres.bind (quiet_readStable.fault _) (fun _ => Pres.pure _))
        · exact Spec.of_never (Never.then_pure id)
      · exact Spec.pure _
    · split
      -- EXISTS
      · exact Spec.guard (Never.bind fun _ => Never.pure id)
      · split
        -- FLUSH
        · exact Spec.guard (Never.then_pure id)
        · exact Spec.pure _
  · exact Spec.pure _

theorem scriptBody_never (special : SpecialFn) (mode : Mode) (c : Nat) (name : String) (args : List Arg)
    (h1 : name ≠ "eval") (h2 : name ≠ "evalsha") : Never (okErr some) (scriptBody special mode c name args) := by
  unfold scriptBody
  refine Never.bind (fun _ => ?_)
  split
  · exact absurd rfl h1
  · exact absurd rfl h2
  · never
  · never

theorem runScriptCmd_spec (mode : Mode) (c : Nat) (sig : Sig) (raw : List Bytes) (fromScript : Bool)
    (h1 : sig.name ≠ "eval") (h2 : sig.name ≠ "evalsha") :
    Spec s0 badO (runScriptCmd mode c sig raw fromScript) := by
  unfold runScriptCmd
  refine Spec.bind (Pres.getConn c) (fun conn => ?_)
  split
  · exact Spec.pure _
  refine Spec.getDb_bind _ (fun db hdb => ?_)
  simp only []
  refine Spec.bind (by pres) (fun _ => ?_)
  split
  · exact Spec.pure _
  · exact Spec.pure _
  · split
    · exact Spec.pure _
    · refine Spec.bindC (scriptBody_spec _ mode c sig.name _ h1 h2) (scriptBody_never _ mode c sig.name _ h1 h2)
        (fun a ha => ?_) (fun a h1 h2 => ?_)
      · split
        · cases ha
        · refine Spec.of_pres ?_; pres
      · split
        · exact Never.pure (fun h => h2 (h))
        · exact absurd trivial h1

/-! ### `_run_command` -/

/-- EVAL / EVALSHA are excluded: a script that answers an error may have written before -/
theorem runCommand_special_spec (mode : Mode) (c : Nat) (sig : Sig) (raw : List Bytes) (fromScript : Bool)
    (hreg : Cmd.regular sig.name = none)
    (hne : sig.name ≠ "exec") (h1 : sig.name ≠ "eval") (h2 : sig.name ≠ "evalsha") :
    Spec s0 badO (runCommand mode c sig raw fromScript) := by
  unfold runCommand
  split
  · exact runScriptCmd_spec mode c sig raw fromScript h1 h2
  · exact runWith_special_spec _ mode c sig raw fromScript hreg
      (fun args cis => special_spec _ mode c sig.name args cis hne)
      (fun args cis => special_never _ mode c sig.name args cis)

theorem runInner_spec (mode : Mode) (c : Nat) (sig : Sig) (raw : List Bytes) (hreg : Cmd.regular sig.name = none)
    (hne : sig.name ≠ "exec") (h1 : sig.name ≠ "eval") (h2 : sig.name ≠ "evalsha") :
    Spec s0 badO (runInner mode c sig raw) := by
  rw [runInner_eq_runCommand' mode c sig raw hne]
  exact runCommand_special_spec mode c sig raw false hreg hne h1 h2

/-! ## `_process_command` -/

theorem lookupSig_some {nameB : Bytes} {sig : Sig} (h : lookupSig nameB = some sig) :
    ∃ n, commandName nameB = some n ∧ n.startsWith "_" = false ∧ SigTable.find n = some sig := by
  unfold lookupSig at h
  split at h
  · rename_i n hn
    split at h
    · cases h
    · exact ⟨n, hn, by cases hh : n.startsWith "_" <;> simp_all, h⟩
  · cases h

theorem lookupSig_none {nameB : Bytes} (h : lookupSig nameB = none) :
    commandName nameB = none ∨
      ∃ n, commandName nameB = some n ∧ (n.startsWith "_" = true ∨ (n.startsWith "_" = false ∧ SigTable.find n = none)) := by
  unfold lookupSig at h
  split at h
  · rename_i n hn
    split at h
    · exact .inr ⟨n, hn, .inl ‹_›⟩
    · exact .inr ⟨n, hn, .inr ⟨by cases hh : n.startsWith "_" <;> simp_all, h⟩⟩
  · exact .inl ‹_›

theorem prologue_dbs (s : Sys) : s.prologue.srv.dbs = s.srv.dbs := s.prologue_dbs

theorem prologue_nodup {s : Sys} (h : NodupDbs s) : NodupDbs s.prologue := by
  unfold NodupDbs; rw [s.prologue_dbs]; exact h

theorem prologue_srv_of_no_closed {s : Sys} (h : s.srv.closedSockets = []) :
    s.prologue.srv = { s.srv with time := (nextClock s).1 } ∧ s.prologue.out = s.out := by
  unfold Sys.prologue
  rw [cleanupClosed_run_nil h]
  refine ⟨?_, Sys.refresh_out s⟩
  unfold Sys.refresh
  simp only [nextClock_srv]

/-! ### the shape of the state after an error answer -/

/-- `s'` is `s1` after an error answer `r` to connection `c`: every database purge-equal, every other field of the
server identical, every connection record identical except that of `c`, which is changed by `f`; the reply is
appended (unless the socket is closed) -/
structure ErrStep (c : Nat) (r : Reply) (f : Conn → Conn) (s1 s' : Sys) : Prop where
  dbs : DbsSim s1.srv.time s1.srv.dbs s'.srv.dbs
  srv : s'.srv = { s1.srv with dbs := s'.srv.dbs, conns := s'.srv.conns }
  conns : s'.srv.conns = s1.srv.conns.map fun x => if x.id == c then f x else x
  out : s'.out = if (s1.conn c).closed then s1.out else (c, r) :: s1.out

theorem updConn_updConn (s : Sys) (c : Nat) (f g : Conn → Conn) (hf : ∀ x, (f x).id = x.id) :
    (s.updConn c f).updConn c g = s.updConn c (g ∘ f) := modifyConn_comp c f g hf s

theorem ErrStep.general {c : Nat} {r : Reply} {f g : Conn → Conn} {s1 s2 : Sys} (h : Quiet s1 s2)
    (hc : ∀ x, (f x).closed = x.closed) (hid : ∀ x, (f x).id = x.id) :
    ErrStep c r (g ∘ f) s1 (((s2.updConn c f).emitS c r).updConn c g) := by
  have hcl : ((s2.updConn c f).conn c).closed = (s1.conn c).closed := by
    rw [Sys.conn_updConn_proj s2 c c f Conn.closed hid hc, h.conn]
  have e : (((s2.updConn c f).emitS c r).updConn c g).srv =
      { s2.srv with conns := s2.srv.conns.map fun x => if x.id == c then (g ∘ f) x else x } := by
    have := congrArg Sys.srv (updConn_updConn s2 c f g hid)
    simp only [Sys.updConn, Sys.emitS_srv] at this ⊢
    exact this
  refine ⟨?_, ?_, ?_, ?_⟩
  · rw [e]; exact h.dbs
  · rw [e, h.srv]
  · rw [e]
    show (s2.srv.conns.map _) = _
    rw [h.conns]
  · show ((s2.updConn c f).emitS c r).out = _
    rw [Sys.emitS_out, hcl]
    show (if _ then s2.out else (c, r) :: s2.out) = _
    rw [h.out]

theorem ErrStep.emit_upd {c : Nat} {r : Reply} {f : Conn → Conn} {s1 s2 : Sys} (h : Quiet s1 s2)
    (hc : ∀ x, (f x).closed = x.closed) (hid : ∀ x, (f x).id = x.id) :
    ErrStep c r f s1 ((s2.updConn c f).emitS c r) := by
  have := ErrStep.general (c := c) (r := r) (f := f) (g := id) h hc hid
  rwa [Sys.updConn_id] at this

theorem ErrStep.emit {c : Nat} {r : Reply} {s1 s2 : Sys} (h : Quiet s1 s2) : ErrStep c r id s1 (s2.emitS c r) := by
  have := ErrStep.emit_upd (c := c) (r := r) (f := id) h (fun _ => rfl) (fun _ => rfl)
  rwa [Sys.updConn_id] at this

namespace ErrStep
variable {c : Nat} {r : Reply} {f : Conn → Conn} {s1 s' : Sys}

theorem purge_eq (h : ErrStep c r f s1 s') (i : Nat) : Db.purge (s'.dbAt i) = Db.purge (s1.dbAt i) :=
  h.dbs.purge_eq (by rw [h.srv]) i

theorem live_eq (h : ErrStep c r f s1 s') (i : Nat) (k : Bytes) : (s'.dbAt i).live k = (s1.dbAt i).live k := by
  unfold Db.live; rw [h.purge_eq]

end ErrStep

/-- request `fields` of connection `c`, processed in state `s`, is answered with an error: unknown command, wrong
arity, (P)SUBSCRIBE / (P)UNSUBSCRIBE inside MULTI, or — run at once — a regular command refused in subscriber mode or
ending on an error path (`failed`), a special one returning an error reply -/
def ErrAnswered (mode : Mode) (c : Nat) (fields : List Bytes) (s : Sys) : Prop :=
  match fields with
  | [] => False
  | nameB :: args =>
    match lookupSig nameB with
    | none => True
    | some sig =>
      if !sig.checkArity args.length then True
      else if (s.conn c).tx.isSome && !SigTable.notQueued.contains sig.name then
        -- inside MULTI: queued (`QUEUED`), except (P)SUBSCRIBE / (P)UNSUBSCRIBE, which are refused
        SigTable.notInMulti.contains sig.name = true
      else match Cmd.regular sig.name with
        | some body => s.prologue.refuses c sig = true ∨ (s.prologue.regularOut c sig body args false).failed = true
        | none => badO (runCommand mode c sig args false s.prologue).1

theorem badO_some {r : Option Reply} (h : badO r) : ∃ e, r = some (.err e) := by
  cases r with
  | none => cases h
  | some r =>
    cases r with
    | err m => exact ⟨m, rfl⟩
    | _ => cases h

/-- the one lemma behind `runCommand_error`, `runInner_error` and `runWith_error`: `run` is `_run_command` at either
nesting level or the nested runner of EXEC -/
theorem error_quiet {run : M (Option Reply)} (sp : SpecialFn) (mode : Mode) (c : Nat) (sig : Sig) (raw : List Bytes)
    (fs : Bool) (s1 : Sys) (hnd : NodupDbs s1)
    (hrun : ∀ body, Cmd.regular sig.name = some body → run = runWith sp mode c sig raw fs)
    (hspec : Cmd.regular sig.name = none → Spec s1 badO run)
    (herr : match Cmd.regular sig.name with
      | some body => s1.refuses c sig = true ∨ (s1.regularOut c sig body raw fs).failed = true
      | none => badO (run s1).1) :
    (∃ e, (run s1).1 = some (.err e)) ∧ Quiet s1 (run s1).2 := by
  cases hreg : Cmd.regular sig.name with
  | some body =>
    simp only [hreg] at herr
    rw [hrun body hreg]
    exact runWith_regular_error _ mode c sig raw fs hreg s1 hnd herr
  | none =>
    simp only [hreg] at herr
    exact ⟨badO_some herr, hspec hreg s1 (Quiet.refl hnd) herr⟩

theorem runCommand_error (mode : Mode) (c : Nat) (sig : Sig) (args : List Bytes) (s1 : Sys) (hnd : NodupDbs s1)
    (hne : sig.name ≠ "exec") (h1 : sig.name ≠ "eval") (h2 : sig.name ≠ "evalsha")
    (herr : match Cmd.regular sig.name with
      | some body => s1.refuses c sig = true ∨ (s1.regularOut c sig body args false).failed = true
      | none => badO (runCommand mode c sig args false s1).1) :
    (∃ e, (runCommand mode c sig args false s1).1 = some (.err e)) ∧
      Quiet s1 (runCommand mode c sig args false s1).2 :=
  error_quiet (special (runInner mode c)) mode c sig args false s1 hnd
    (fun _ hreg => runCommand_regular_eq mode c sig args false hreg)
    (fun hreg => runCommand_special_spec mode c sig args false hreg hne h1 h2) herr

theorem markDead_closed (x : Conn) : (markDead x).closed = x.closed := rfl
theorem markTxFailed_closed (x : Conn) : (markTxFailed x).closed = x.closed := rfl

/-! ## EXEC itself answered with an error -/

/-- what a refused EXEC does to the connection: the transaction is dropped, the watches are cleared -/
def abortTx (x : Conn) : Conn := { x with tx := none, watchNotified := false, watches := [] }

theorem execSeq_never (inner : Inner) (c : Nat) (cis : List CI) (q : List (String × List Bytes)) :
    Never errS (do
      modifyConn c fun x => { x with tx := none, txFailed := false }
      clearWatches c
      let results ← runQueue inner c q
      if results.any Option.isNone then
        modify fun s => { s with crashed := some "AssertionError" }
        return .ok (none, cis)
      else okR (.arr (results.map fun r => r.getD .nil)) cis : M SpecialOut) := by
  unfold okR; never

theorem execCmd_error (inner : Inner) (c : Nat) (cis : List CI) (s : Sys) (h : errS (execCmd inner c cis s).1) :
    (execCmd inner c cis s).2 = s ∨ (execCmd inner c cis s).2 = s.updConn c abortTx := by
  cases htx : (s.conn c).tx with
  | none => rw [execCmd_run_none inner cis htx]; exact .inl rfl
  | some q =>
    cases hf : (s.conn c).txFailed with
    | true =>
      rw [execCmd_run_failed inner cis htx hf]
      exact .inr ((updConn_updConn s c _ _ (by intro; rfl)).trans rfl)
    | false =>
      cases hw : (s.conn c).watchNotified with
      | true => rw [execCmd_run_dirty inner cis htx hf hw] at h; cases h
      | false =>
        rw [execCmd_eq_sequential inner cis htx hf hw] at h
        exact absurd h (execSeq_never inner c cis q s)

theorem faulted_updConn (e : Err) (t : Sys) (c : Nat) (f : Conn → Conn) :
    PubSubHist.faulted e (t.updConn c f) = (PubSubHist.faulted e t).updConn c f := by
  unfold PubSubHist.faulted; split
  · show (if (t.updConn c f).fault.isNone then { t.updConn c f with fault := some e } else t.updConn c f) =
      (if t.fault.isNone then { t with fault := some e } else t).updConn c f
    show (if t.fault.isNone then _ else _) = _
    split <;> rfl
  · rfl

theorem afterSpecial_error_run (d : Nat) {cis : List CI} (hc : ∀ c ∈ cis, c.Clean) (x : M SpecialOut) (s : Sys)
    (e : Err) (h : (x s).1 = .error e) :
    afterSpecial d cis x s = (some (.err (strBytes e)), PubSubHist.faulted e (x s).2) := by
  rw [afterSpecial_run, h]
  dsimp only
  rw [writebackAll_clean d hc]

theorem afterSpecial_ok_reply (d : Nat) (cis : List CI) (x : M SpecialOut) (s : Sys) (r : Option Reply) (cis' : List CI)
    (h : (x s).1 = .ok (r, cis')) : (afterSpecial d cis x s).1 = r := by
  rw [afterSpecial_run, h]

theorem afterSpecial_exec_error (inner : Inner) (c d : Nat) {cis : List CI} (hcl : ∀ c ∈ cis, c.Clean) (s s1 : Sys)
    (hq1 : Quiet s s1) (hb : badO (afterSpecial d cis (execCmd inner c cis) s1).1) :
    ∃ s2, Quiet s s2 ∧ ((afterSpecial d cis (execCmd inner c cis) s1).2 = s2 ∨
      (afterSpecial d cis (execCmd inner c cis) s1).2 = s2.updConn c abortTx) := by
  cases hres : (execCmd inner c cis s1).1 with
  | error e =>
    have hE := execCmd_error inner c cis s1 (by rw [hres]; trivial)
    rw [afterSpecial_error_run _ hcl _ _ e hres]
    refine ⟨PubSubHist.faulted e s1, hq1.frame (PubSubHist.faulted_srv e s1) (PubSubHist.faulted_out e s1), ?_⟩
    rcases hE with hE | hE
    · left; simp only [hE]
    · right; simp only [hE, faulted_updConn]
  | ok p =>
    obtain ⟨r, cis'⟩ := p
    rw [afterSpecial_ok_reply _ _ _ _ r cis' hres] at hb
    exact absurd (by rw [hres]; exact okErrS_ok.2 hb) (execCmd_never inner c cis s1)

/-- EXEC answered with an error has run no queued command; the record of `c` is untouched or has its transaction
dropped (EXECABORT after a queueing error) -/
theorem runWith_exec_error (inner : Inner) (mode : Mode) (c : Nat) (sig : Sig) (raw : List Bytes) (fs : Bool) (s : Sys)
    (hname : sig.name = "exec") (hnd : NodupDbs s)
    (hb : badO (runWith (special inner) mode c sig raw fs s).1) :
    ∃ s2, Quiet s s2 ∧ ((runWith (special inner) mode c sig raw fs s).2 = s2 ∨
      (runWith (special inner) mode c sig raw fs s).2 = s2.updConn c abortTx) := by
  have hq1 : Quiet s (s.setDbS (s.conn c).db (sig.apply raw (s.dbAt (s.conn c).db)).1) :=
    (Quiet.refl hnd).setDbS _ (sim_apply1 sig raw (Db.Sim.refl (hnd.getD _)))
  revert hb
  refine runWith_special_cases _ mode c sig raw fs s (by rw [hname]; rfl)
    (P := fun p => badO p.1 → ∃ s2, Quiet s s2 ∧ (p.2 = s2 ∨ p.2 = s2.updConn c abortTx))
    (fun _ _ => ⟨s, Quiet.refl hnd, .inl rfl⟩) (fun _ _ => ⟨_, hq1, .inl rfl⟩) (fun args cis hap _ hb => ?_)
  rw [afterSpecial_congr _ _ _ _ _ (congrFun (special_exec inner mode c sig.name args cis hname) _)] at hb ⊢
  exact afterSpecial_exec_error inner c _ (Sig.apply_clean sig raw _ hap) s _ hq1 hb

/-- `f` touches only the transaction fields (`tx`, `txFailed`, `watches`, `watchNotified`) and the `dead` marker of a
connection record: every other field is kept -/
def OnlyTx (f : Conn → Conn) : Prop :=
  ∀ x, (f x).id = x.id ∧ (f x).db = x.db ∧ (f x).inTx = x.inTx ∧ (f x).pubsub = x.pubsub ∧ (f x).buf = x.buf ∧
    (f x).paused = x.paused ∧ (f x).closed = x.closed ∧ (f x).parked = x.parked

theorem OnlyTx.id : OnlyTx id := fun _ => ⟨rfl, rfl, rfl, rfl, rfl, rfl, rfl, rfl⟩
theorem OnlyTx.abortTx : OnlyTx abortTx := fun _ => ⟨rfl, rfl, rfl, rfl, rfl, rfl, rfl, rfl⟩
theorem OnlyTx.markDead : OnlyTx markDead := fun _ => ⟨rfl, rfl, rfl, rfl, rfl, rfl, rfl, rfl⟩
theorem OnlyTx.markTxFailed : OnlyTx markTxFailed := fun _ => ⟨rfl, rfl, rfl, rfl, rfl, rfl, rfl, rfl⟩
theorem OnlyTx.comp {f g : Conn → Conn} (hf : OnlyTx f) (hg : OnlyTx g) : OnlyTx (g ∘ f) := by
  intro x
  obtain ⟨a1, a2, a3, a4, a5, a6, a7, a8⟩ := hf x
  obtain ⟨b1, b2, b3, b4, b5, b6, b7, b8⟩ := hg (f x)
  exact ⟨b1.trans a1, b2.trans a2, b3.trans a3, b4.trans a4, b5.trans a5, b6.trans a6, b7.trans a7, b8.trans a8⟩

/-- the arity error of EXEC (`EXEC arg`): the transaction is discarded -/
def discardTx (x : Conn) : Conn := { x with tx := none, txFailed := false, watchNotified := false, watches := [] }
theorem OnlyTx.discardTx : OnlyTx discardTx := fun _ => ⟨rfl, rfl, rfl, rfl, rfl, rfl, rfl, rfl⟩

theorem failTx_discardTx (p : Sys) (c : Nat) (conn : Conn) :
    ((p.failTx c conn).updConn c fun x => { x with tx := none, txFailed := false }).updConn c
      (fun x => { x with watchNotified := false, watches := [] }) = p.updConn c discardTx := by
  have e1 : ∀ t : Sys, ((t.updConn c fun x => { x with tx := none, txFailed := false }).updConn c
      fun x => { x with watchNotified := false, watches := [] }) = t.updConn c discardTx := by
    intro t
    refine (updConn_updConn t c _ _ ?_).trans ?_
    · intro _; rfl
    · rfl
  rw [e1]
  unfold Sys.failTx
  split
  · refine (updConn_updConn p c _ _ ?_).trans ?_
    · intro _; rfl
    · rfl
  · rfl

/-- the run branch of `_process_command`, when `_run_command` (value and state `p`) answered `r` and was quiet up to
`f0` on the record of `c` -/
theorem ErrStep.run {c : Nat} {r : Reply} {f0 : Conn → Conn} {s1 s2 : Sys} {p : Option Reply × Sys} (hQ : Quiet s1 s2)
    (hf0 : OnlyTx f0) (h1 : p.1 = some r) (h2 : p.2 = s2.updConn c f0) :
    ∃ f, ErrStep c r f s1 (afterRun c p) ∧ (f = f0 ∨ (f = markDead ∘ f0 ∧ (afterRun c p).crashed.isSome = true)) := by
  obtain ⟨p1, p2⟩ := p
  dsimp only at h1 h2
  subst h1 h2
  unfold afterRun
  simp only
  by_cases hc : ((s2.updConn c f0).emitS c r).crashed.isSome = true
  · rw [if_pos hc]
    exact ⟨_, ErrStep.general hQ (fun x => (hf0 x).2.2.2.2.2.2.1) (fun x => (hf0 x).1), .inr ⟨rfl, hc⟩⟩
  · rw [if_neg hc]
    refine ⟨f0, ?_, .inl rfl⟩
    have := ErrStep.general (c := c) (r := r) (f := f0) (g := id) hQ (fun x => (hf0 x).2.2.2.2.2.2.1)
      (fun x => (hf0 x).1)
    rwa [Sys.updConn_id] at this

theorem ErrStep.failTx {c : Nat} {r : Reply} {s1 s2 : Sys} (x : Conn) (h : Quiet s1 s2) :
    ∃ f, ErrStep c r f s1 ((s2.failTx c x).emitS c r) ∧ OnlyTx f ∧
      (f = id ∨ (f = markTxFailed ∧ x.tx.isSome = true)) := by
  unfold Sys.failTx
  split
  · exact ⟨_, .emit_upd h markTxFailed_closed (fun _ => rfl), .markTxFailed, .inr ⟨rfl, ‹_›⟩⟩
  · exact ⟨_, .emit h, .id, .inl rfl⟩

/-- C08 for one request through `_process_command` (EVAL / EVALSHA excepted: for their inner commands see
`runFromScript_error`).  The state compared with is the one in which the command is looked at: for a known command,
after the clean-up of closed sockets and the clock refresh.  `f` is `id`, `markTxFailed` (error while queueing inside
MULTI) or `markDead` (only under the `crashed` marker); for EXEC it drops the transaction (`OnlyTx f`). -/
theorem processCommand_errStep (mode : Mode) (c : Nat) (nameB : Bytes) (args : List Bytes) (s : Sys)
    (hnd : NodupDbs s) (herr : ErrAnswered mode c (nameB :: args) s)
    (hx : ∀ sig, lookupSig nameB = some sig → sig.name ≠ "eval" ∧ sig.name ≠ "evalsha") :
    ∃ e f, ErrStep c (.err e) f (if (lookupSig nameB).isSome then s.prologue else s)
        (processCommand mode c (nameB :: args) s).2 ∧ OnlyTx f ∧
      ((∀ sig, lookupSig nameB = some sig → sig.name ≠ "exec") →
        f = id ∨ (f = markTxFailed ∧ (s.conn c).tx.isSome = true) ∨
          (f = markDead ∧ (processCommand mode c (nameB :: args) s).2.crashed.isSome = true)) := by
  have hnd1 := prologue_nodup hnd
  have front : ∀ {s1 : Sys} r, NodupDbs s1 → ∃ f, ErrStep c r f s1 ((s1.failTx c (s.conn c)).emitS c r) ∧ OnlyTx f ∧
      (f = id ∨ (f = markTxFailed ∧ (s.conn c).tx.isSome = true)) := fun r h => ErrStep.failTx _ (Quiet.refl h)
  unfold ErrAnswered at herr
  refine processCommand_cases (P := fun s' => ∃ e f, ErrStep c (.err e) f (if (lookupSig nameB).isSome then s.prologue else s)
        s' ∧ OnlyTx f ∧ ((∀ sig, lookupSig nameB = some sig → sig.name ≠ "exec") →
        f = id ∨ (f = markTxFailed ∧ (s.conn c).tx.isSome = true) ∨ (f = markDead ∧ s'.crashed.isSome = true)))
      mode c nameB args s ?_ ?_ ?_ ?_ ?_ ?_
  · intro hl
    obtain ⟨f, h1, h2, h3⟩ := front (.err (strBytes unknownCommandPrefix)) hnd
    rw [hl]
    exact ⟨_, f, h1, h2, fun _ => h3.imp id .inl⟩
  · intro sig hl ha hne
    obtain ⟨f, h1, h2, h3⟩ := front (.err (strBytes sig.wrongArgs)) hnd1
    rw [hl]
    exact ⟨_, f, h1, h2, fun _ => h3.imp id .inl⟩
  · intro sig hl ha hex
    rw [hl, failTx_discardTx]
    exact ⟨_, discardTx, ErrStep.emit_upd (Quiet.refl hnd1) (fun _ => rfl) (fun _ => rfl), OnlyTx.discardTx,
      fun hne => absurd hex (hne sig rfl)⟩
  · intro sig hl ha hq hnm
    rw [hl]
    exact ⟨_, markTxFailed, ErrStep.emit_upd (Quiet.refl hnd1) markTxFailed_closed (fun _ => rfl),
      OnlyTx.markTxFailed, fun _ => .inr (.inl ⟨rfl, by simp only [Bool.and_eq_true] at hq; exact hq.1⟩)⟩
  · intro sig hl ha hq hnm
    simp only [hl, ha, hq, hnm, Bool.not_true, Bool.false_eq_true, if_false, if_true] at herr
  · intro sig hl ha hq
    obtain ⟨h1, h2⟩ := hx sig hl
    simp only [hl, ha, hq, Bool.not_true, Bool.false_eq_true, if_false] at herr
    rw [hl]
    have key : ∃ e s2 f0, Quiet s.prologue s2 ∧ OnlyTx f0 ∧ (sig.name ≠ "exec" → f0 = id) ∧
        (runCommand mode c sig args false s.prologue).1 = some (.err e) ∧
        (runCommand mode c sig args false s.prologue).2 = s2.updConn c f0 := by
      by_cases hex : sig.name = "exec"
      · have hreg : Cmd.regular sig.name = none := by rw [hex]; rfl
        simp only [hreg] at herr
        rw [runCommand_not_script mode c sig args false (by rw [hex]; decide)] at herr ⊢
        obtain ⟨e, he⟩ := badO_some herr
        obtain ⟨s2, hQ, hs2 | hs2⟩ := runWith_exec_error _ mode c sig args false s.prologue hex hnd1 herr
        · exact ⟨e, s2, id, hQ, OnlyTx.id, fun _ => rfl, he, by rw [Sys.updConn_id]; exact hs2⟩
        · exact ⟨e, s2, abortTx, hQ, OnlyTx.abortTx, fun h => absurd hex h, he, hs2⟩
      · obtain ⟨⟨e, he⟩, hQ⟩ := runCommand_error mode c sig args s.prologue hnd1 hex h1 h2 herr
        exact ⟨e, _, id, hQ, OnlyTx.id, fun _ => rfl, he, by rw [Sys.updConn_id]⟩
    obtain ⟨e, s2, f0, hQ, hf0, hid, he, hs2⟩ := key
    obtain ⟨f, hstep, hf⟩ := ErrStep.run hQ hf0 he hs2
    refine ⟨e, f, hstep, ?_, fun hne => ?_⟩
    · rcases hf with rfl | ⟨rfl, _⟩
      · exact hf0
      · exact hf0.comp OnlyTx.markDead
    · cases hid (hne sig rfl)
      exact hf.imp id .inr

/-! ## The inner commands of EXEC -/

/-- `s'` is `s` up to lazy deletions and the bookkeeping fields, except that the record of `c` is changed by `f` -/
structure QuietUpTo (c : Nat) (f : Conn → Conn) (s s' : Sys) : Prop where
  dbs : DbsSim s.srv.time s.srv.dbs s'.srv.dbs
  srv : s'.srv = { s.srv with dbs := s'.srv.dbs, conns := s'.srv.conns }
  conns : s'.srv.conns = s.srv.conns.map fun x => if x.id == c then f x else x
  out : s'.out = s.out

def setInTx (x : Conn) : Conn := { x with inTx := true }
def clearInTx (x : Conn) : Conn := { x with inTx := false }

/-- an inner command of EXEC (run in state `s1`, where `inTx` is set) ends on an error path (for a regular command:
refused in subscriber mode, or the generic runner fails) -/
def InnerErr (mode : Mode) (c : Nat) (sig : Sig) (fargs : List Bytes) (s1 : Sys) : Prop :=
  match Cmd.regular sig.name with
  | some body => s1.refuses c sig = true ∨ (s1.regularOut c sig body fargs false).failed = true
  | none => badO (runInner mode c sig fargs s1).1

theorem runInner_error (mode : Mode) (c : Nat) (sig : Sig) (fargs : List Bytes) (s1 : Sys) (hnd : NodupDbs s1)
    (hne : sig.name ≠ "exec") (h1 : sig.name ≠ "eval") (h2 : sig.name ≠ "evalsha")
    (herr : InnerErr mode c sig fargs s1) :
    (∃ e, (runInner mode c sig fargs s1).1 = some (.err e)) ∧ Quiet s1 (runInner mode c sig fargs s1).2 :=
  error_quiet (special nestedStub) mode c sig fargs false s1 hnd (fun _ hreg => runInner_regular_eq mode c sig fargs hreg)
    (fun hreg => runInner_spec mode c sig fargs hreg hne h1 h2) herr

theorem queueStep_run (inner : Inner) (c : Nat) (a : String × List Bytes) {sig : Sig} (hf : SigTable.find a.1 = some sig)
    (s : Sys) :
    queueStep inner c a s =
      ((inner sig a.2 (s.updConn c setInTx)).1, (inner sig a.2 (s.updConn c setInTx)).2.updConn c clearInTx) := by
  unfold queueStep
  simp only [hf, bind, StateT.bind, modifyConn_run, pure, StateT.pure]
  rfl

theorem queueStep_quiet (inner : Inner) (c : Nat) (a : String × List Bytes) {sig : Sig}
    (hf : SigTable.find a.1 = some sig) (s : Sys)
    (h : (∃ e, (inner sig a.2 (s.updConn c setInTx)).1 = some (.err e)) ∧
      Quiet (s.updConn c setInTx) (inner sig a.2 (s.updConn c setInTx)).2) :
    (∃ e, (queueStep inner c a s).1 = some (.err e)) ∧ QuietUpTo c clearInTx s (queueStep inner c a s).2 := by
  rw [queueStep_run _ c a hf]
  obtain ⟨he, hQ⟩ := h
  refine ⟨he, ?_⟩
  generalize (inner sig a.2 (s.updConn c setInTx)).2 = s2 at hQ
  have e : (s2.updConn c clearInTx).srv =
      { s2.srv with conns := s2.srv.conns.map fun x => if x.id == c then clearInTx x else x } := rfl
  have hcs : (s.updConn c setInTx).srv.conns.map (fun x => if x.id == c then clearInTx x else x) =
      s.srv.conns.map fun x => if x.id == c then clearInTx x else x :=
    congrArg (fun t : Sys => t.srv.conns) ((updConn_updConn s c setInTx clearInTx fun _ => rfl).trans rfl)
  refine ⟨?_, ?_, ?_, ?_⟩
  · rw [e]; exact hQ.dbs
  · rw [e, hQ.srv]
    show _ = ({ s.srv with dbs := s2.srv.dbs, conns := _ } : Server)
    rfl
  · rw [e]
    show (s2.srv.conns.map _) = _
    rw [hQ.conns]; exact hcs
  · show s2.out = _
    rw [hQ.out]; rfl

/-- C08 inside EXEC: a queued command that answers an error leaves the state as it was up to the `inTx` flag of `c`,
which EXEC sets around each inner command and leaves cleared. -/
theorem queueStep_error (mode : Mode) (c : Nat) (a : String × List Bytes) {sig : Sig}
    (hf : SigTable.find a.1 = some sig) (hne : sig.name ≠ "exec") (h1 : sig.name ≠ "eval") (h2 : sig.name ≠ "evalsha")
    (s : Sys) (hnd : NodupDbs s)
    (herr : InnerErr mode c sig a.2 (s.updConn c setInTx)) :
    (∃ e, (queueStep (runInner mode c) c a s).1 = some (.err e)) ∧
      QuietUpTo c clearInTx s (queueStep (runInner mode c) c a s).2 :=
  queueStep_quiet _ c a hf s (runInner_error mode c sig a.2 _ hnd hne h1 h2 herr)

theorem runQueue_split (inner : Inner) (c : Nat) (pre post : List (String × List Bytes)) (a : String × List Bytes)
    (s : Sys) :
    runQueue inner c (pre ++ a :: post) s =
      (let r1 := runQueue inner c pre s
       let r2 := queueStep inner c a r1.2
       let r3 := runQueue inner c post r2.2
       (r1.1 ++ r2.1 :: r3.1, r3.2)) := by
  rw [runQueue_append, runQueue_cons]
  rfl

theorem runQueue_each_error (mode : Mode) (c : Nat) (pre : List (String × List Bytes)) (a : String × List Bytes)
    {sig : Sig} (hf : SigTable.find a.1 = some sig) (hne : sig.name ≠ "exec")
    (h1 : sig.name ≠ "eval") (h2 : sig.name ≠ "evalsha") (s : Sys) (hinv : s.DataInv)
    (herr : InnerErr mode c sig a.2 ((runQueue (runInner mode c) c pre s).2.updConn c setInTx)) :
    QuietUpTo c clearInTx (runQueue (runInner mode c) c pre s).2
      (queueStep (runInner mode c) c a (runQueue (runInner mode c) c pre s).2).2 :=
  (queueStep_error mode c a hf hne h1 h2 _
    (NodupDbs.of_dataInv (runQueue_preserves _ (runInner_preserves mode c) c pre s hinv)) herr).2

/-! ## `redis.call` / `redis.pcall` inside a script -/

/-- the nested runner used by EXEC and by scripts has no EXEC of its own; this is `FR.nestedStub` written out, the
spelling of the statements of `FR/Props/C08s.lean` and `C13s.lean` -/
abbrev stubInner : Inner := fun _ _ => do M.fault "nested exec"; return none

/-- the command `sig raw`, run by `_run_command` in state `s1`, ends on an error path (for a regular command:
refused in subscriber mode, or the generic runner fails) -/
def CallErr (inner : Inner) (mode : Mode) (c : Nat) (sig : Sig) (raw : List Bytes) (fs : Bool) (s1 : Sys) : Prop :=
  match Cmd.regular sig.name with
  | some body => s1.refuses c sig = true ∨ (s1.regularOut c sig body raw fs).failed = true
  | none => badO (runWith (special inner) mode c sig raw fs s1).1

theorem runWith_error (inner : Inner) (mode : Mode) (c : Nat) (sig : Sig) (raw : List Bytes) (fs : Bool) (s1 : Sys)
    (hnd : NodupDbs s1) (hne : sig.name ≠ "exec") (herr : CallErr inner mode c sig raw fs s1) :
    (∃ e, (runWith (special inner) mode c sig raw fs s1).1 = some (.err e)) ∧
      Quiet s1 (runWith (special inner) mode c sig raw fs s1).2 :=
  error_quiet (special inner) mode c sig raw fs s1 hnd (fun _ _ => rfl)
    (fun hreg => runWith_special_spec _ mode c sig raw fs hreg
      (fun args cis => special_spec _ mode c sig.name args cis hne)
      (fun args cis => special_never _ mode c sig.name args cis)) herr

/-- C08 inside a script: a `redis.call` / `redis.pcall` whose command answers an error raises in Lua and has been
quiet. -/
theorem runFromScript_error (mode : Mode) (c : Nat) (nameB : Bytes) (largs : List LuaVal) (s : Sys)
    {sig : Sig} {raw : List Bytes} (hl : lookupSig nameB = some sig)
    (hraw : largs.mapM (luaToArg s.srv.version) = .ok raw) (hne : sig.name ≠ "exec") (hnd : NodupDbs s)
    (herr : CallErr stubInner mode c sig raw true s) :
    (∃ e, (runFromScript (special stubInner) mode c (.str nameB) largs s).1 = .error e) ∧
      Quiet s (runFromScript (special stubInner) mode c (.str nameB) largs s).2 := by
  obtain ⟨n, hn, hu, hf⟩ := lookupSig_some hl
  obtain ⟨⟨e, he⟩, hQ⟩ := runWith_error stubInner mode c sig raw true s hnd hne herr
  have hrun : runFromScript (special stubInner) mode c (.str nameB) largs s =
      (replyToLua (.err e), (runWith (special stubInner) mode c sig raw true s).2) := by
    unfold runFromScript
    simp only [bind, StateT.bind, MonadState.get, getThe, MonadStateOf.get, StateT.get, hn, hu, hf,
      Bool.false_eq_true, ↓reduceIte]
    show (match List.mapM (luaToArg s.srv.version) largs with
      | Except.error e => pure (Except.error e)
      | Except.ok raw =>
        StateT.bind (runWith (special stubInner) mode c sig raw true) fun __do_lift =>
          match __do_lift with
          | none => pure (Except.error "model: NoResponse from a script call")
          | some r => pure (replyToLua r) : M (Except Err LuaVal)) s = _
    rw [hraw]
    simp only [StateT.bind]
    revert he
    generalize runWith (special stubInner) mode c sig raw true s = r
    obtain ⟨r1, s2⟩ := r
    rintro rfl
    rfl
  rw [hrun]
  exact ⟨⟨_, rfl⟩, hQ⟩

/-! ## Wrong type -/

/-! `Signature.apply` on the live view (`FR/Proofs/LiveApply.lean`): the second pass is WRONGTYPE as soon as a typed key
holds another type; what remains is that the first pass hands the key arguments on, raw and in place. -/

section
open FR.Ttl

theorem pass2L_wrongtype {live : Bytes → Option Item} {s : Sig} {raw : List Bytes} {i : Nat} {k : Bytes} {T : Ty}
    {mr : MissingRet} {it : Item} (hi : (raw.zip (s.types raw.length))[i]? = some (k, .key (some T) mr))
    (hl : live k = some it) (ht : it.value.ty ≠ T) {args : List Arg}
    (h1 : pass1L live (raw.zip (s.types raw.length)) [] = .ok (.inr args)) :
    pass2L live (args.zip (s.types raw.length)) [] [] = .error Msgs.WRONGTYPE_MSG := by
  obtain ⟨as, hd, rfl⟩ := pass1L_inr h1
  rw [List.reverse_nil, List.nil_append, decodeT_zip _ _ hd, pass2L_closed, if_neg]
  intro hall
  have := List.all_eq_true.1 hall _ (mem_keysOf (List.mem_of_getElem? (decodeT_key_at hd hi)))
  rw [typeOK_live hl] at this
  exact ht (by simpa using this)

theorem applyL_wrongtype {live : Bytes → Option Item} {s : Sig} {raw : List Bytes} {i : Nat} {k : Bytes} {T : Ty}
    {mr : MissingRet} {it : Item} (hi : (raw.zip (s.types raw.length))[i]? = some (k, .key (some T) mr))
    (hl : live k = some it) (ht : it.value.ty ≠ T) :
    (∃ e, applyL live s raw = .error e) ∨ (∃ r, applyL live s raw = .ok (.short r)) := by
  unfold applyL
  split
  · exact .inl ⟨_, rfl⟩
  · split
    · exact .inl ⟨_, rfl⟩
    · split
      · exact .inl ⟨_, rfl⟩
      · exact .inr ⟨_, rfl⟩
      · rename_i args heq
        rw [pass2L_wrongtype hi hl ht heq]
        exact .inl ⟨_, rfl⟩

theorem applyL_wrongtype_msg {live : Bytes → Option Item} {s : Sig} {raw : List Bytes} {i : Nat} {k : Bytes} {T : Ty}
    {mr : MissingRet} {it : Item} (hi : (raw.zip (s.types raw.length))[i]? = some (k, .key (some T) mr))
    (hl : live k = some it) (ht : it.value.ty ≠ T) {args : List Arg}
    (harity : s.checkArity raw.length = true)
    (hrep : (!s.rep.isEmpty && (raw.length - s.fixed.length) % s.rep.length != 0) = false)
    (h1 : pass1L live (raw.zip (s.types raw.length)) [] = .ok (.inr args)) :
    applyL live s raw = .error Msgs.WRONGTYPE_MSG := by
  unfold applyL
  simp only [harity, hrep, Bool.not_true, Bool.false_eq_true, if_false, h1, pass2L_wrongtype hi hl ht h1]

/-- Wrong type, `Signature.apply`: a key argument of declared type `T` holds a live value of another type.  `apply`
fails (WRONGTYPE when both passes reach the key, otherwise an earlier argument error), or another key with a
`missing_return` is missing and the command is answered at once with that value. -/
theorem apply_wrongtype (sig : Sig) (raw : List Bytes) {db : Db} (nd : NodupKeys db.dict) {i : Nat} {k : Bytes}
    {T : Ty} {mr : MissingRet} {it : Item}
    (hi : (raw.zip (sig.types raw.length))[i]? = some (k, .key (some T) mr))
    (hl : db.live k = some it) (ht : it.value.ty ≠ T) :
    (∃ e, (sig.apply raw db).2 = .error e) ∨ (∃ r, (sig.apply raw db).2 = .ok (.short r)) := by
  rw [apply_eq sig raw nd]; exact applyL_wrongtype hi hl ht

end

theorem runRegular_wrongtype (sig : Sig) (body : Body) (ctx : Ctx) (gate : Option Err) (raw : List Bytes) {db : Db}
    (nd : NodupKeys db.dict) {i : Nat} {k : Bytes} {T : Ty} {mr : MissingRet} {it : Item}
    (hi : (raw.zip (sig.types raw.length))[i]? = some (k, .key (some T) mr))
    (hl : db.live k = some it) (ht : it.value.ty ≠ T) :
    ((runRegular sig body ctx gate raw db).failed = true ∨
        (sig.apply raw db).2 = .ok (.short (runRegular sig body ctx gate raw db).reply)) ∧
      Reads db (runRegular sig body ctx gate raw db).db ∧ (runRegular sig body ctx gate raw db).notified = [] ∧
      (runRegular sig body ctx gate raw db).db.live k = some it := by
  have key : ((runRegular sig body ctx gate raw db).failed = true ∨
        (sig.apply raw db).2 = .ok (.short (runRegular sig body ctx gate raw db).reply)) ∧
      Reads db (runRegular sig body ctx gate raw db).db ∧ (runRegular sig body ctx gate raw db).notified = [] := by
    rcases apply_wrongtype sig raw nd hi hl ht with ⟨e, he⟩ | ⟨r, hr⟩
    · have hf : (runRegular sig body ctx gate raw db).failed = true :=
        (runRegular_failed_iff sig body ctx gate raw db).2 (.inl ⟨e, he⟩)
      exact ⟨.inl hf, runRegular_failed sig body ctx gate raw nd hf⟩
    · rw [runRegular_eq, hr]
      exact ⟨.inr rfl, Sig.apply_reads sig raw nd, rfl⟩
  refine ⟨key.1, key.2.1, key.2.2, ?_⟩
  rw [live_eq_of_purge key.2.1.eq]; exact hl

/-- Wrong type, `_run_command` (directly, inside EXEC or from a script): answered `r`, which is an error or the
`missing_return` of another, missing key, and quiet. -/
theorem runWith_wrongtype_reply (special : SpecialFn) (mode : Mode) (c : Nat) (sig : Sig) (raw : List Bytes) (fs : Bool)
    {body : Body} (hreg : Cmd.regular sig.name = some body) (s : Sys) (hnd : NodupDbs s)
    {i : Nat} {k : Bytes} {T : Ty} {mr : MissingRet} {it : Item}
    (hi : (raw.zip (sig.types raw.length))[i]? = some (k, .key (some T) mr))
    (hl : (s.dbAt (s.conn c).db).live k = some it) (ht : it.value.ty ≠ T) :
    (∃ r, (runWith special mode c sig raw fs s).1 = some r ∧
        ((∃ e, r = Reply.err e) ∨ (sig.apply raw (s.dbAt (s.conn c).db)).2 = .ok (.short r))) ∧
      Quiet s (runWith special mode c sig raw fs s).2 ∧
      ((runWith special mode c sig raw fs s).2.dbAt (s.conn c).db).live k = some it := by
  have h := runRegular_wrongtype sig body
    { version := s.srv.version, time := s.srv.time, dbnum := (s.conn c).db, inTx := (s.conn c).inTx, picks := s.picks }
    (runGate sig fs ((s.conn c).pubsub > 0)) raw (hnd.getD _) hi hl ht
  have hQ := runWith_regular_quiet special mode c sig raw fs hreg s (Quiet.refl hnd) ⟨h.2.1, h.2.2.1⟩
  refine ⟨?_, hQ, (live_eq_of_purge (hQ.purge_eq _) k).trans hl⟩
  cases hrf : s.refuses c sig with
  | true =>
    -- refused in subscriber mode: the reply is the context error
    rw [runWith_refused special mode c sig raw fs hrf]
    exact ⟨_, rfl, .inl ⟨_, rfl⟩⟩
  | false =>
    rw [runWith_regular_run special mode c sig raw fs hreg s hrf]
    exact ⟨_, rfl, h.1.imp (runRegular_failed_reply _ _ _ _ _ _) id⟩

/-- Wrong type, `_run_command` (directly, inside EXEC or from a script): answered with an error, or with the
`missing_return` of another, missing key, and quiet. -/
theorem runWith_wrongtype (special : SpecialFn) (mode : Mode) (c : Nat) (sig : Sig) (raw : List Bytes) (fs : Bool)
    {body : Body} (hreg : Cmd.regular sig.name = some body) (s : Sys) (hnd : NodupDbs s)
    {i : Nat} {k : Bytes} {T : Ty} {mr : MissingRet} {it : Item}
    (hi : (raw.zip (sig.types raw.length))[i]? = some (k, .key (some T) mr))
    (hl : (s.dbAt (s.conn c).db).live k = some it) (ht : it.value.ty ≠ T) :
    ((∃ e, (runWith special mode c sig raw fs s).1 = some (.err e)) ∨
        ∃ r, (sig.apply raw (s.dbAt (s.conn c).db)).2 = .ok (.short r)) ∧
      Quiet s (runWith special mode c sig raw fs s).2 ∧
      ((runWith special mode c sig raw fs s).2.dbAt (s.conn c).db).live k = some it :=
  let ⟨⟨r, hr, h⟩, hQ⟩ := runWith_wrongtype_reply special mode c sig raw fs hreg s hnd hi hl ht
  ⟨h.imp (fun ⟨e, he⟩ => ⟨e, he ▸ hr⟩) (fun hs => ⟨r, hs⟩), hQ⟩

/-- Wrong type, `_process_command`: exactly one reply (an error, or the `missing_return` of another, missing key), the
state is that of an error answer (`ErrStep`), the key still holds the same item. -/
theorem processCommand_wrongtype (mode : Mode) (c : Nat) (nameB : Bytes) (args : List Bytes) (s : Sys)
    (hnd : NodupDbs s) {sig : Sig} {body : Body} (hl : lookupSig nameB = some sig)
    (hreg : Cmd.regular sig.name = some body) (ha : sig.checkArity args.length = true)
    (hq : ((s.conn c).tx.isSome && !SigTable.notQueued.contains sig.name) = false)
    {i : Nat} {k : Bytes} {T : Ty} {mr : MissingRet} {it : Item}
    (hi : (args.zip (sig.types args.length))[i]? = some (k, .key (some T) mr))
    (hlive : (s.prologue.dbAt (s.prologue.conn c).db).live k = some it) (ht : it.value.ty ≠ T) :
    ∃ r f, ((∃ e, r = Reply.err e) ∨
          (sig.apply args (s.prologue.dbAt (s.prologue.conn c).db)).2 = .ok (.short r)) ∧
      ErrStep c r f s.prologue (processCommand mode c (nameB :: args) s).2 ∧
      (f = id ∨ (f = markDead ∧ (processCommand mode c (nameB :: args) s).2.crashed.isSome = true)) ∧
      ((processCommand mode c (nameB :: args) s).2.dbAt (s.prologue.conn c).db).live k = some it := by
  obtain ⟨⟨r, hfst, hrep⟩, hQ, _⟩ := runWith_wrongtype_reply (special (runInner mode c)) mode c sig args false hreg
    s.prologue (prologue_nodup hnd) hi hlive ht
  rw [congrArg Prod.snd (processCommand_runs mode c args s hl ha hq), runCommand_regular_eq mode c sig args false hreg]
  obtain ⟨f, hstep, hf⟩ := ErrStep.run (c := c) hQ OnlyTx.id hfst (Sys.updConn_id ..).symm
  exact ⟨r, f, hrep, hstep, hf, (hstep.live_eq _ k).trans hlive⟩

/-! ## The reply list only grows

`OutGrows o0 s` : the reply list of `s` extends `o0` by replies none of which is an error. -/

def OutGrows (o0 : List (Nat × Reply)) (s : Sys) : Prop := ∃ X, s.out = X ++ o0 ∧ ∀ p ∈ X, p.2.isErr = false

variable {o0 : List (Nat × Reply)}

theorem OutGrows.frame {s s' : Sys} (h : OutGrows o0 s) (h1 : s'.out = s.out) : OutGrows o0 s' := by
  obtain ⟨X, hX, hn⟩ := h; exact ⟨X, h1.trans hX, hn⟩

theorem OutGrows.of_eq {s : Sys} (h : s.out = o0) : OutGrows o0 s := ⟨[], h, fun _ hp => nomatch hp⟩

/-- a reply list that grew from `o0` by replies that are no errors is not `o0` with one error in front -/
theorem OutGrows.out_ne {s : Sys} (h : OutGrows o0 s) (c : Nat) (e : Bytes) : s.out ≠ (c, .err e) :: o0 := by
  obtain ⟨X, hX, hn⟩ := h
  intro hout
  have hX1 : X = [(c, .err e)] := List.append_cancel_right (hX.symm.trans hout)
  cases hn (c, .err e) (by rw [hX1]; exact List.mem_singleton_self _)

/-- if sending one more reply makes it so, that reply is the error -/
theorem OutGrows.emitS_err {s : Sys} (h : OutGrows o0 s) {c : Nat} {x : Reply} {e : Bytes}
    (hout : (s.emitS c x).out = (c, .err e) :: o0) : x = .err e := by
  rw [Sys.emitS_out] at hout
  split at hout
  · exact absurd hout (h.out_ne c e)
  · exact (Prod.mk.inj (List.cons.inj hout).1).2

theorem og_modifyConn (c : Nat) (f : Conn → Conn) : Pres (OutGrows o0) (modifyConn c f) := fun _ h => h

theorem og_emit (c : Nat) (r : Reply) (hr : r.isErr = false) : Pres (OutGrows o0) (emit c r) := by
  intro s h
  rw [emit_run]
  obtain ⟨X, hX, hn⟩ := h
  unfold Sys.emitS
  split
  · exact ⟨X, hX, hn⟩
  · refine ⟨(c, r) :: X, by simp [hX], ?_⟩
    intro p hp
    rcases List.mem_cons.1 hp with rfl | hp
    · exact hr
    · exact hn p hp

theorem og_modify_frame (g : Sys → Sys) (h1 : ∀ s, (g s).out = s.out) : Pres (OutGrows o0) (modify g) :=
  fun s h => h.frame (h1 s)

theorem subscribeGen_og (c : Nat) (pattern : Bool) (names : List Bytes) :
    Pres (OutGrows o0) (subscribeGen c pattern names) := by
  have hJ := Pres.seq (OutGrows o0)
  unfold subscribeGen
  seq_descend hJ [Pres.get, Pres.getConn _, og_emit _ _ ?_, og_modify_frame _ (fun _ => rfl), og_modifyConn _ _]
  all_goals rfl

theorem unsubscribeGen_og (c : Nat) (pattern : Bool) (names : List Bytes) :
    Pres (OutGrows o0) (unsubscribeGen c pattern names) := by
  have hJ := Pres.seq (OutGrows o0)
  unfold unsubscribeGen
  seq_descend hJ [Pres.get, Pres.getConn _, og_emit _ _ ?_, og_modify_frame _ (fun _ => rfl), og_modifyConn _ _]
  all_goals rfl

theorem publish_og (ch msg : Bytes) : Pres (OutGrows o0) (publish ch msg) := by
  intro s h
  obtain ⟨X, hX, hn⟩ := h
  rw [publish_run]
  refine ⟨((deliveries s.srv ch msg).filter fun d => !(s.conn d.1).closed).reverse ++ X, by simp [hX], ?_⟩
  intro p hp
  rcases List.mem_append.1 hp with hp | hp
  · have hp' := (List.mem_filter.1 (List.mem_reverse.1 hp)).1
    obtain ⟨pc, pr⟩ := p
    rcases (mem_deliveries s.srv ch msg pc pr).1 hp' with ⟨_, rfl⟩ | ⟨_, _, _, _, _, rfl⟩ <;> rfl
  · exact hn p hp

theorem og_open (mode : Mode) (c : Nat) : Conserve.Open (OutGrows o0) mode c :=
  { (Conserve.StableBase.ofSetDb (c := c) (setDb := fun _ _ _ h => h) (conn := fun _ _ _ h => h)
      (notify := fun _ _ _ h => h) (hint := fun _ _ _ h _ _ hs => hs.frame h)
      (scripts := fun _ => og_modify_frame _ (fun _ => rfl))
      (lastsave := fun _ => og_modify_frame _ (fun _ => rfl))).toStable_ofSetDb
        (fun _ _ _ h => h) (fun _ _ _ h => h) with
    inTx := fun _ => og_modifyConn c _
    crash := fun _ => og_modify_frame _ (fun _ => rfl)
    pub := publish_og
    sub := subscribeGen_og c
    unsub := unsubscribeGen_og c }

theorem unwatch_og (c : Nat) (cis : List CI) :
    Pres (OutGrows o0) (do clearWatches c; okR .ok cis : M SpecialOut) :=
  Pres.bind (og_modifyConn c _) (fun _ => Pres.pure _)

theorem runCommand_og (mode : Mode) (c : Nat) (sig : Sig) (raw : List Bytes) (fromScript : Bool) :
    Pres (OutGrows o0) (runCommand mode c sig raw fromScript) := (og_open mode c).runCommand sig raw fromScript

/-! ## "The reply list grows by exactly one error" -/

theorem cleanupClosed_out (s : Sys) : (cleanupClosed s).2.out = s.out := by rw [cleanupClosed_eq]

/-- a command body never returns an error-shaped reply: it raises instead -/
def NoErrReply (body : Body) : Prop :=
  ∀ ctx args cis o, body ctx args cis = .ok o → o.reply.isErr = false

theorem afterRun_out (c : Nat) (r : Option Reply × Sys) :
    (afterRun c r).out = (match r.1 with | some x => r.2.emitS c x | none => r.2).out :=
  afterRun_conns (·.out) (fun _ _ => rfl) c r

/-- the run branch of `_process_command`: when `_run_command` (value and state `r`) sent no error itself and the reply
list has grown by exactly one error, that error is what `_run_command` returned -/
theorem afterRun_out_err {c : Nat} {r : Option Reply × Sys} {e : Bytes} (h : OutGrows o0 r.2)
    (hout : (afterRun c r).out = (c, .err e) :: o0) : r.1 = some (.err e) := by
  rw [afterRun_out] at hout
  obtain ⟨r1, t⟩ := r
  cases r1 with
  | none => exact absurd hout (h.out_ne c e)
  | some x => exact congrArg some (h.emitS_err hout)

/-- a reply list that grows by exactly `(c, .err e)` means `ErrAnswered` (a regular body never returns an error-shaped
reply: `hbody`) -/
theorem errAnswered_of_out (mode : Mode) (c : Nat) (nameB : Bytes) (args : List Bytes) (s : Sys) (e : Bytes)
    (hout : (processCommand mode c (nameB :: args) s).2.out = (c, .err e) :: s.out)
    (hbody : ∀ sig body, lookupSig nameB = some sig → Cmd.regular sig.name = some body → NoErrReply body) :
    ErrAnswered mode c (nameB :: args) s := by
  refine processCommand_cases (P := fun s' => s'.out = (c, .err e) :: s.out → ErrAnswered mode c (nameB :: args) s)
    mode c nameB args s ?_ ?_ ?_ ?_ ?_ ?_ hout
  · intro hl _
    simp only [ErrAnswered, hl]
  · intro sig hl ha _ _
    simp only [ErrAnswered, hl, ha, Bool.not_false, if_true]
  · intro sig hl ha _ _
    simp only [ErrAnswered, hl, ha, Bool.not_false, if_true]
  · intro sig hl ha hq hnm _
    simp only [ErrAnswered, hl, ha, hq, hnm, Bool.not_true, Bool.false_eq_true, if_false, if_true]
  · -- QUEUED is no error
    intro sig hl ha hq hnm hout
    cases OutGrows.emitS_err (s := s.prologue.updConn c _) (.of_eq s.prologue_out) hout
  · intro sig hl ha hq hout
    have key := afterRun_out_err (runCommand_og mode c sig args false s.prologue (.of_eq s.prologue_out)) hout
    simp only [ErrAnswered, hl, ha, hq, Bool.not_true, Bool.false_eq_true, if_false]
    cases hreg : Cmd.regular sig.name with
    | none => simp only; rw [key]; trivial
    | some body =>
      simp only
      cases hrf : s.prologue.refuses c sig with
      | true => exact .inl rfl
      | false =>
        rw [runCommand_regular_eq mode c sig args false hreg, runWith_regular_run _ mode c sig args false hreg _ hrf] at key
        exact .inr ((runRegular_isErr_iff_failed sig body (hbody sig body hl hreg) _ _ _ _).1
          (congrArg Reply.isErr (Option.some.inj key)))

theorem regular_noErrReply (name : String) (body : Body) (h : Cmd.regular name = some body) : NoErrReply body :=
  regular_reply_not_err name body h

/-! ## Readable consequences of `ErrStep`, decidability for examples -/

instance (r : Option Reply) : Decidable (badO r) := by
  cases r with
  | none => exact isFalse id
  | some r => cases r <;> first | exact isTrue trivial | exact isFalse id

instance (mode : Mode) (c : Nat) (fields : List Bytes) (s : Sys) : Decidable (ErrAnswered mode c fields s) := by
  unfold ErrAnswered
  cases fields with
  | nil => exact isFalse id
  | cons nameB args =>
    simp only
    cases lookupSig nameB with
    | none => exact isTrue trivial
    | some sig =>
      simp only
      cases Cmd.regular sig.name <;> simp only <;> infer_instance

theorem conn_of_conns_eq {s t : Sys} (h : s.srv.conns = t.srv.conns) (c : Nat) : s.conn c = t.conn c := by
  simp only [Sys.conn_def, h]

namespace ErrStep
variable {c : Nat} {r : Reply} {f : Conn → Conn} {s1 s' : Sys}

theorem time (h : ErrStep c r f s1 s') : s'.srv.time = s1.srv.time := by rw [h.srv]
theorem subs (h : ErrStep c r f s1 s') : s'.srv.subs = s1.srv.subs := by rw [h.srv]
theorem psubs (h : ErrStep c r f s1 s') : s'.srv.psubs = s1.srv.psubs := by rw [h.srv]
theorem scripts (h : ErrStep c r f s1 s') : s'.srv.scripts = s1.srv.scripts := by rw [h.srv]
theorem closedSockets (h : ErrStep c r f s1 s') : s'.srv.closedSockets = s1.srv.closedSockets := by rw [h.srv]
theorem lastsave (h : ErrStep c r f s1 s') : s'.srv.lastsave = s1.srv.lastsave := by rw [h.srv]
theorem len (h : ErrStep c r f s1 s') : s'.srv.dbs.length = s1.srv.dbs.length := h.dbs.1.symm

theorem conn_self (h : ErrStep c r f s1 s') (hid : ∀ x, (f x).id = x.id) (hc : s1.HasConn c) :
    s'.conn c = f (s1.conn c) := by
  have : s'.srv.conns = (s1.updConn c f).srv.conns := h.conns
  rw [conn_of_conns_eq this, Sys.conn_updConn_same f hc hid]

end ErrStep

namespace QuietUpTo
variable {c : Nat} {f : Conn → Conn} {s1 s' : Sys}

theorem purge_eq (h : QuietUpTo c f s1 s') (i : Nat) : Db.purge (s'.dbAt i) = Db.purge (s1.dbAt i) :=
  h.dbs.purge_eq (by rw [h.srv]) i

theorem subs (h : QuietUpTo c f s1 s') : s'.srv.subs = s1.srv.subs := by rw [h.srv]
theorem psubs (h : QuietUpTo c f s1 s') : s'.srv.psubs = s1.srv.psubs := by rw [h.srv]
theorem scripts (h : QuietUpTo c f s1 s') : s'.srv.scripts = s1.srv.scripts := by rw [h.srv]

theorem conn_other (h : QuietUpTo c f s1 s') (hid : ∀ x, (f x).id = x.id) {c' : Nat} (hne : c' ≠ c) :
    s'.conn c' = s1.conn c' := by
  have : s'.srv.conns = (s1.updConn c f).srv.conns := h.conns
  rw [conn_of_conns_eq this, Sys.conn_updConn_ne f hne hid]

end QuietUpTo

end FR.ErrSys

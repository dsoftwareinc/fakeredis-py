import FR.Proofs.History
import FR.Proofs.RelJ
import FR.Proofs.Tower
import FR.Proofs.Events
/-!
# Twin simulation: lazy expiry is unobservable at the level of the whole system (C07)

Two system states are *twins* when they are identical except that corresponding database dictionaries
agree after purging the entries that are expired at the (common) server time.  Every monadic building
block of `FR/Sys/Server.lean` / `FR/Sys/Process.lean` maps twins to twins and returns equal values, as long as
the clock readings that are consumed never run backwards.

The parts: the working relation `Tw fut t` (fixed server time) and `TwE`; the judgment `Sim` with the rules of `RelJ`; the
atomic accesses, the tactics, the special bodies (MOVE apart) and the command layer up to `_run_command`, all at a fixed
time; above it the clock refresh, the one place where the time changes, `_process_command`, `sendall`, the wake-ups; the
public relation `Twin` with `stepEv_twin`; histories; `expired_twin_deleted`, the pair of states C07 is about.
-/
namespace FR.Twin
open FR M
set_option linter.unusedSimpArgs false

/-! ## The relation -/

def withDbs (s : Sys) (dbs : List Dict) : Sys := { s with srv := { s.srv with dbs := dbs } }

def purgeAt (t : Int) (d : Dict) : Dict := (Db.purge ⟨d, t⟩).dict

/-- identical except for the database dictionaries, which agree after purging at the server time -/
def PurgeEq (s₁ s₂ : Sys) : Prop :=
  s₂ = withDbs s₁ s₂.srv.dbs ∧
  s₁.srv.dbs.map (purgeAt s₁.srv.time) = s₂.srv.dbs.map (purgeAt s₁.srv.time)

/-- every database dictionary has unique keys (the part of `Sys.DataInv` that matters here) -/
def KeysInv (s : Sys) : Prop := ∀ d ∈ s.srv.dbs, NodupKeys d

theorem KeysInv.of_dataInv {s : Sys} (h : s.DataInv) : KeysInv s := fun d hd => (h d hd).1

/-- the clock never runs backwards: current time, then the readings still to be consumed by the running event,
then the readings `fut` of later events (`none`: no discipline is imposed; enough for code that never sets the time) -/
def ClockMono (fut : Option (List Int)) (s : Sys) : Prop :=
  match fut with
  | none => True
  | some f => (s.srv.time :: (s.clocks ++ f)).Pairwise (· ≤ ·)

/-- The working relation: twins at server time `t` (the time of both states), unique keys on both sides, monotone clock.
`fut` holds the readings that later events will bring along, which the clock must not overtake (`ClockMono`); `none`
asks nothing, which is enough below `_process_command`, where the time is never set. -/
structure Tw (fut : Option (List Int)) (t : Int) (s₁ s₂ : Sys) : Prop where
  frame : s₂ = withDbs s₁ s₂.srv.dbs
  time : s₁.srv.time = t
  len : s₁.srv.dbs.length = s₂.srv.dbs.length
  sim : ∀ i, Db.Sim ⟨s₁.srv.dbs.getD i [], t⟩ ⟨s₂.srv.dbs.getD i [], t⟩
  clock : ClockMono fut s₁

def TwE (fut : Option (List Int)) (s₁ s₂ : Sys) : Prop := Tw fut s₁.srv.time s₁ s₂

def DbRel (t : Int) (a b : Db) : Prop := Db.Sim a b ∧ a.time = t

/-! ## The relational Hoare logic -/

/-- the statements of `FR/Props/C07s.lean` are written with `Sim` -/
def Sim {α : Type} (R : Sys → Sys → Prop) (Q : α → α → Prop) (m₁ m₂ : M α) : Prop :=
  ∀ s₁ s₂, R s₁ s₂ → Q (m₁ s₁).1 (m₂ s₂).1 ∧ R (m₁ s₁).2 (m₂ s₂).2

namespace Sim
variable {R : Sys → Sys → Prop} {α β : Type} {Q : α → α → Prop} {Q' : β → β → Prop}

/-- the rules below are those of `RelJ`, under the names the descent uses -/
theorem eq_relJ {m₁ m₂ : M α} : Sim R Q m₁ m₂ = RelJ R R Q m₁ m₂ := rfl

theorem pure_eq (a : α) : Sim R Eq (Pure.pure a : M α) (Pure.pure a) := RelJ.pure rfl

theorem bind {m₁ m₂ : M α} {f g : α → M β} (hm : Sim R Eq m₁ m₂)
    (hf : ∀ a, Sim R Q' (f a) (g a)) : Sim R Q' (m₁ >>= f) (m₂ >>= g) := RelJ.bindEq hm hf

theorem get_bind_same {f g : Sys → M β} (hR : ∀ s₁ s₂, R s₁ s₂ → ∃ D, s₂ = withDbs s₁ D)
    (hg : ∀ s D, g (withDbs s D) = g s) (hf : ∀ s, Sim R Q' (f s) (g s)) :
    Sim R Q' (get >>= f) (get >>= g) := RelJ.get_bind_same hR hg hf

theorem readOf (hR : ∀ s₁ s₂, R s₁ s₂ → ∃ D, s₂ = withDbs s₁ D) {γ : Type} (π : Sys → γ)
    (hπ : ∀ s D, π (withDbs s D) = π s) : ReadOf (fun {α} (m : M α) => Sim R Eq m m) π := RelJ.readOf hR π hπ

theorem map {m₁ m₂ : M α} (g : α → β) (hm : Sim R Eq m₁ m₂) : Sim R Eq (g <$> m₁) (g <$> m₂) := RelJ.map g hm

/-- one computation run from two related states: the values handed on are equal, so the continuation is the same
function of the same value on both sides -/
theorem seq (R : Sys → Sys → Prop) : Seq (fun {α} (m : M α) => Sim R Eq m m) := RelJ.seq R

theorem mono {Q₂ : α → α → Prop} {m₁ m₂ : M α} (h : Sim R Q m₁ m₂) (hq : ∀ a b, Q a b → Q₂ a b) :
    Sim R Q₂ m₁ m₂ := RelJ.conseq h (fun _ _ h => h) (fun _ _ h => h) hq

end Sim

/-! ## State-level facts -/

@[simp] theorem withDbs_dbs (s : Sys) (D) : (withDbs s D).srv.dbs = D := rfl
@[simp] theorem withDbs_self (s : Sys) : withDbs s s.srv.dbs = s := rfl
@[simp] theorem withDbs_withDbs (s : Sys) (D D') : withDbs (withDbs s D) D' = withDbs s D' := rfl

theorem Tw.exD {fut t s₁ s₂} (h : Tw fut t s₁ s₂) : ∃ D, s₂ = withDbs s₁ D := ⟨_, h.frame⟩

theorem Tw.time₂ {fut t s₁ s₂} (h : Tw fut t s₁ s₂) : s₂.srv.time = t := by
  rw [h.frame]; exact h.time

theorem Tw.dbAt {fut t s₁ s₂} (h : Tw fut t s₁ s₂) (i : Nat) : DbRel t (s₁.dbAt i) (s₂.dbAt i) := by
  unfold Sys.dbAt
  rw [h.time, h.time₂]
  exact ⟨h.sim i, rfl⟩

theorem DbRel.time₂ {t a b} (h : DbRel t a b) : b.time = t := by rw [← h.1.time]; exact h.2

theorem Tw.setDbS' {fut t s₁ s₂} (h : Tw fut t s₁ s₂) (i : Nat) {a b : Db}
    (hab : Db.Sim ⟨a.dict, t⟩ ⟨b.dict, t⟩) :
    Tw fut t (s₁.setDbS i a) (s₂.setDbS i b) := by
  obtain ⟨D, rfl⟩ := h.exD
  refine ⟨rfl, h.time, ?_, ?_, h.clock⟩
  · have := h.len
    simp only [Sys.setDbS, List.length_set] at this ⊢
    exact this
  · intro j
    by_cases hj : j = i
    · subst hj
      by_cases hl : j < s₁.srv.dbs.length
      · have hl' : j < D.length := by have := h.len; simp only [withDbs_dbs] at this; omega
        show Db.Sim ⟨(s₁.srv.dbs.set j a.dict).getD j [], t⟩ ⟨(D.set j b.dict).getD j [], t⟩
        rw [getD_set_self _ _ _ _ hl, getD_set_self _ _ _ _ hl']
        exact hab
      · have hl' : ¬ j < D.length := by have := h.len; simp only [withDbs_dbs] at this; omega
        show Db.Sim ⟨(s₁.srv.dbs.set j a.dict).getD j [], t⟩ ⟨(D.set j b.dict).getD j [], t⟩
        have e1 : s₁.srv.dbs.set j a.dict = s₁.srv.dbs := List.set_eq_of_length_le (by omega)
        have e2 : D.set j b.dict = D := List.set_eq_of_length_le (by omega)
        rw [e1, e2]; exact h.sim j
    · show Db.Sim ⟨(s₁.srv.dbs.set i a.dict).getD j [], t⟩ ⟨(D.set i b.dict).getD j [], t⟩
      rw [getD_set_ne _ _ _ _ _ hj, getD_set_ne _ _ _ _ _ hj]
      exact h.sim j

theorem Tw.setDbS {fut t s₁ s₂} (h : Tw fut t s₁ s₂) (i : Nat) {a b : Db} (hab : DbRel t a b) :
    Tw fut t (s₁.setDbS i a) (s₂.setDbS i b) := by
  refine h.setDbS' i ?_
  have h1 : (⟨a.dict, t⟩ : Db) = a := by rw [← hab.2]
  have h2 : (⟨b.dict, t⟩ : Db) = b := by rw [← hab.time₂]
  rw [h1, h2]; exact hab.1

/-- `g` neither reads nor writes the dictionaries, the time, the pending clock readings -/
structure FrameFn (g : Sys → Sys) : Prop where
  comm : ∀ s D, g (withDbs s D) = withDbs (g s) D
  time : ∀ s, (g s).srv.time = s.srv.time
  clocks : ∀ s, (g s).clocks = s.clocks

theorem FrameFn.dbs {g} (hg : FrameFn g) (s : Sys) : (g s).srv.dbs = s.srv.dbs := by
  have := hg.comm s s.srv.dbs
  rw [withDbs_self] at this
  have h2 := congrArg (fun x => x.srv.dbs) this
  simp only [withDbs_dbs] at h2
  exact h2

theorem Tw.frameFn {fut t s₁ s₂} (h : Tw fut t s₁ s₂) {g} (hg : FrameFn g) : Tw fut t (g s₁) (g s₂) := by
  obtain ⟨D, rfl⟩ := h.exD
  have hl := h.len
  have hs := h.sim
  simp only [withDbs_dbs] at hl hs
  refine ⟨?_, ?_, ?_, ?_, ?_⟩
  · rw [hg.comm]; rfl
  · rw [hg.time]; exact h.time
  · rw [hg.comm, withDbs_dbs, hg.dbs]; exact hl
  · intro i; rw [hg.comm, withDbs_dbs, hg.dbs]; exact hs i
  · have := h.clock
    unfold ClockMono at this ⊢
    rw [hg.time, hg.clocks]; exact this


/-! ## Leaves -/

variable {fut : Option (List Int)} {t : Int}

theorem sim_frameOp {α : Type} (m : M α)
    (hv : ∀ s D, (m (withDbs s D)).1 = (m s).1)
    (hs : ∀ s D, (m (withDbs s D)).2 = withDbs (m s).2 D)
    (ht : ∀ s, (m s).2.srv.time = s.srv.time) (hc : ∀ s, (m s).2.clocks = s.clocks) :
    Sim (Tw fut t) Eq m m := by
  intro s₁ s₂ h
  obtain ⟨D, rfl⟩ := h.exD
  refine ⟨(hv s₁ D).symm, ?_⟩
  have := h.frameFn (g := fun s => (m s).2) ⟨hs, ht, hc⟩
  exact this

theorem sim_modify_frame (g : Sys → Sys) (hg : FrameFn g) : Sim (Tw fut t) Eq (modify g) (modify g) :=
  fun _ _ h => ⟨rfl, h.frameFn hg⟩

theorem sim_getConn (c : Nat) : Sim (Tw fut t) Eq (getConn c) (getConn c) :=
  sim_frameOp _ (fun _ _ => rfl) (fun _ _ => rfl) (fun _ => rfl) (fun _ => rfl)

theorem sim_modifyConn (c : Nat) (f : Conn → Conn) : Sim (Tw fut t) Eq (modifyConn c f) (modifyConn c f) :=
  sim_modify_frame _ ⟨fun _ _ => rfl, fun _ => rfl, fun _ => rfl⟩

theorem sim_clearWatches (c : Nat) : Sim (Tw fut t) Eq (clearWatches c) (clearWatches c) := sim_modifyConn c _

theorem sim_notifyWatch (d : Nat) (k : Bytes) : Sim (Tw fut t) Eq (notifyWatch d k) (notifyWatch d k) :=
  sim_modify_frame _ ⟨fun _ _ => rfl, fun _ => rfl, fun _ => rfl⟩

theorem sim_fault (msg : String) : Sim (Tw fut t) Eq (M.fault msg) (M.fault msg) := by
  refine sim_modify_frame _ ⟨fun s D => ?_, fun s => ?_, fun s => ?_⟩
  · show (if (withDbs s D).fault.isNone then _ else _) = withDbs (if s.fault.isNone then _ else _) D
    show (if s.fault.isNone then _ else _) = withDbs (if s.fault.isNone then _ else _) D
    split <;> rfl
  · show (if s.fault.isNone then _ else _ : Sys).srv.time = _
    split <;> rfl
  · show (if s.fault.isNone then _ else _ : Sys).clocks = _
    split <;> rfl

theorem sim_getDb (i : Nat) : Sim (Tw fut t) (DbRel t) (getDb i) (getDb i) := fun _ _ h => ⟨h.dbAt i, h⟩

theorem sim_setDb (i : Nat) {a b : Db} (hab : DbRel t a b) : Sim (Tw fut t) Eq (setDb i a) (setDb i b) :=
  fun _ _ h => ⟨rfl, h.setDbS i hab⟩

theorem sim_setDb_nil (i : Nat) (t' : Int) : Sim (Tw fut t) Eq (setDb i ⟨[], t'⟩) (setDb i ⟨[], t'⟩) :=
  fun s₁ s₂ h => ⟨rfl, h.setDbS' i (Db.Sim.refl (by unfold NodupKeys; simp))⟩

theorem sim_getDb_bind {β : Type} {Q : β → β → Prop} (i : Nat) {f g : Db → M β}
    (hf : ∀ a b, DbRel t a b → Sim (Tw fut t) Q (f a) (g b)) :
    Sim (Tw fut t) Q (getDb i >>= f) (getDb i >>= g) := RelJ.bind (sim_getDb i) hf

theorem Tw.popClock {s₁ s₂ : Sys} (h : Tw fut t s₁ s₂) {x : Int} {rest : List Int} (hc : s₁.clocks = x :: rest) :
    Tw fut t { s₁ with clocks := rest } { s₂ with clocks := rest } := by
  obtain ⟨D, rfl⟩ := h.exD
  refine ⟨rfl, h.time, h.len, h.sim, ?_⟩
  have := h.clock
  unfold ClockMono at this ⊢
  cases fut with
  | none => trivial
  | some f =>
    simp only at this ⊢
    rw [hc] at this
    simp only [List.cons_append, List.pairwise_cons] at this ⊢
    exact ⟨fun a ha => this.1 a (List.mem_cons_of_mem _ ha), this.2.2⟩

theorem nextClock_nil {s : Sys} (h : s.clocks = []) :
    nextClock s = (s.srv.time, (M.fault "clock readings exhausted" s).2) := by
  rw [nextClock_run]
  split
  · rename_i hc; rw [h] at hc; cases hc
  · rfl

theorem nextClock_cons {s : Sys} {x rest} (h : s.clocks = x :: rest) :
    nextClock s = (x, { s with clocks := rest }) := by
  rw [nextClock_run]
  split
  · rename_i hc; rw [h] at hc; cases hc; rfl
  · rename_i hc; rw [h] at hc; cases hc

theorem sim_nextClock : Sim (Tw fut t) Eq nextClock nextClock := by
  intro s₁ s₂ h
  have hcl : s₂.clocks = s₁.clocks := by rw [h.frame]; rfl
  have hti : s₂.srv.time = s₁.srv.time := by rw [h.time, h.time₂]
  cases hc : s₁.clocks with
  | nil =>
    rw [nextClock_nil hc, nextClock_nil (hcl.trans hc)]
    exact ⟨hti.symm, sim_fault _ s₁ s₂ h |>.2⟩
  | cons x rest =>
    rw [nextClock_cons hc, nextClock_cons (hcl.trans hc)]
    exact ⟨rfl, h.popClock hc⟩


/-! ## Database primitives on related databases -/

theorem DbRel.get {a b : Db} (h : DbRel t a b) (k : Bytes) :
    (a.get k).2 = (b.get k).2 ∧ DbRel t (a.get k).1 (b.get k).1 :=
  ⟨(h.1.get k).1, (h.1.get k).2, (Db.get_time a k).trans h.2⟩

theorem DbRel.writeback {a b : Db} (h : DbRel t a b) (ci : CI) :
    (ci.writeback a).2 = (ci.writeback b).2 ∧ DbRel t (ci.writeback a).1 (ci.writeback b).1 :=
  ⟨(ci.writeback_sim h.1).2, (ci.writeback_sim h.1).1, (ci.writeback_time a).trans h.2⟩

theorem DbRel.keys {a b : Db} (h : DbRel t a b) :
    a.keys.2 = b.keys.2 ∧ DbRel t a.keys.1 b.keys.1 ∧ a.keys.1 = b.keys.1 := by
  unfold Db.keys
  simp only
  refine ⟨by rw [h.1.eq], ⟨⟨Db.purge_nodup h.1.nd1, Db.purge_nodup h.1.nd2, by rw [h.1.eq]⟩, h.2⟩, h.1.eq⟩

theorem DbRel.apply {a b : Db} (h : DbRel t a b) (sig : Sig) (raw : List Bytes) :
    (sig.apply raw a).2 = (sig.apply raw b).2 ∧ DbRel t (sig.apply raw a).1 (sig.apply raw b).1 := by
  refine ⟨(Sig.apply_sim sig raw h.1).1, (Sig.apply_sim sig raw h.1).2, ?_⟩
  have := congrArg Db.time (Sig.apply_reads sig raw h.1.nd1).eq
  simp only [Db.purge] at this
  exact this.trans h.2

theorem DbRel.nil : DbRel t ⟨[], t⟩ ⟨[], t⟩ := ⟨Db.Sim.refl (by unfold NodupKeys; simp), rfl⟩


/-- the recurring pattern `let db ← getDb d; let (db', x) := F db; setDb d db'; continue with x`, for an `F` that maps
related databases to equal values and related databases (`Database.get`, `keys()`, `Signature.apply`, `writeback`) -/
theorem sim_getDb_step {β γ : Type} {Q : β → β → Prop} (d : Nat) (F : Db → Db × γ)
    (hF : ∀ a b, DbRel t a b → (F a).2 = (F b).2 ∧ DbRel t (F a).1 (F b).1) {f g : Db → M β} (k₁ k₂ : γ → M β)
    (hf : ∀ db, f db = (setDb d (F db).1 >>= fun _ => k₁ (F db).2))
    (hg : ∀ db, g db = (setDb d (F db).1 >>= fun _ => k₂ (F db).2))
    (hk : ∀ x, Sim (Tw fut t) Q (k₁ x) (k₂ x)) :
    Sim (Tw fut t) Q (getDb d >>= f) (getDb d >>= g) := by
  refine sim_getDb_bind d (fun a b hab => ?_)
  rw [hf, hg]
  have h := hF a b hab
  rw [← h.1]
  exact Sim.bind (sim_setDb d h.2) (fun _ => hk _)

theorem sim_getDb_get {β : Type} {Q : β → β → Prop} (d : Nat) (key : Bytes) {f g : Db → M β}
    (k₁ k₂ : Option Item → M β)
    (hf : ∀ db, f db = (setDb d (db.get key).1 >>= fun _ => k₁ (db.get key).2))
    (hg : ∀ db, g db = (setDb d (db.get key).1 >>= fun _ => k₂ (db.get key).2))
    (hk : ∀ item, Sim (Tw fut t) Q (k₁ item) (k₂ item)) :
    Sim (Tw fut t) Q (getDb d >>= f) (getDb d >>= g) :=
  sim_getDb_step d (·.get key) (fun _ _ h => h.get key) k₁ k₂ hf hg hk

theorem sim_liveKeys (d : Nat) : Sim (Tw fut t) Eq (liveKeys d) (liveKeys d) :=
  sim_getDb_step d Db.keys (fun _ _ h => ⟨h.keys.1, h.keys.2.1⟩) pure pure (fun _ => rfl) (fun _ => rfl)
    (fun _ => Sim.pure_eq _)

theorem sim_okR (r : Reply) (cis : List CI) : Sim (Tw fut t) Eq (okR r cis) (okR r cis) := Sim.pure_eq _

/-! ## Automation -/

/-- leaves: the accesses the bodies make directly — records, replies, `fault`, watch flags, storing a related or an empty
database, `liveKeys`, a `modify` that keeps dictionaries, time and readings -/
syntax "tws_leaf" : tactic
macro_rules | `(tactic| tws_leaf) => `(tactic| first
  | with_reducible exact Sim.pure_eq _
  | with_reducible exact sim_getConn _
  | with_reducible exact sim_fault _
  | with_reducible exact sim_clearWatches _
  | with_reducible exact sim_notifyWatch _ _
  | with_reducible exact sim_modifyConn _ _
  | with_reducible exact sim_setDb_nil _ _
  | with_reducible exact sim_liveKeys _
  | with_reducible exact sim_okR _ _
  | ((with_reducible refine sim_modify_frame _ ?_); first
      | exact ⟨fun _ _ => rfl, fun _ => rfl, fun _ => rfl⟩
      | (refine ⟨fun _ _ => ?_, fun _ => ?_, fun _ => ?_⟩ <;> (simp only [withDbs]; split <;> rfl)))
  | ((with_reducible apply sim_setDb); assumption)
  | with_reducible assumption)

syntax "tws_step" : tactic
macro_rules | `(tactic| tws_step) => `(tactic| first
  | tws_leaf
  | ((with_reducible refine Sim.get_bind_same (fun _ _ => Tw.exD) ?_ (fun s => ?_)); exact fun _ _ => rfl)
  | (with_reducible refine Sim.bind ?_ (fun _ => ?_))
  | (with_reducible refine Seq.forM (Sim.seq _) (fun _ => ?_))
  | (with_reducible refine Seq.forIn (Sim.seq _) (fun _ _ => ?_) _)
  | (with_reducible refine Seq.ite (J := fun {α} (m : M α) => Sim _ Eq m m) (fun _ => ?_) (fun _ => ?_))
  | split
  | (simp only []))

/-- structural descent through a `do` block, on both sides at once; `tws_sim [h₁, …]` also closes goals by the `hᵢ` -/
syntax "tws_sim" (" [" term,* "]")? : tactic
macro_rules
  | `(tactic| tws_sim) => `(tactic| repeat' tws_step)
  | `(tactic| tws_sim [$hs,*]) => `(tactic| repeat' (first $[| with_reducible exact $hs]* | tws_step))

theorem sim_emit (c : Nat) (r : Reply) : Sim (Tw fut t) Eq (emit c r) (emit c r) := by
  unfold emit; tws_sim

macro_rules | `(tactic| tws_leaf) => `(tactic| with_reducible exact sim_emit _ _)

theorem sim_writebackAll (d : Nat) (cis : List CI) : Sim (Tw fut t) Eq (writebackAll d cis) (writebackAll d cis) := by
  unfold writebackAll
  refine Seq.forM (Sim.seq _) (fun ci => ?_)
  have hk : ∀ notified : Bool, Sim (Tw fut t) Eq (if notified then notifyWatch d ci.key else pure ())
      (if notified then notifyWatch d ci.key else pure ()) := fun _ => by tws_sim
  exact sim_getDb_step d ci.writeback (fun _ _ h => h.writeback ci) _ _ (fun _ => rfl) (fun _ => rfl) hk

theorem sim_clearDb (d : Nat) : Sim (Tw fut t) Eq (clearDb d) (clearDb d) := by
  unfold clearDb; tws_sim

/-! ## The special bodies -/

theorem sim_subscribeGen (c : Nat) (pattern : Bool) (names : List Bytes) :
    Sim (Tw fut t) Eq (subscribeGen c pattern names) (subscribeGen c pattern names) := by
  unfold subscribeGen; tws_sim

theorem sim_unsubscribeGen (c : Nat) (pattern : Bool) (names : List Bytes) :
    Sim (Tw fut t) Eq (unsubscribeGen c pattern names) (unsubscribeGen c pattern names) := by
  unfold unsubscribeGen; tws_sim


theorem sim_publish (ch msg : Bytes) : Sim (Tw fut t) Eq (publish ch msg) (publish ch msg) := by
  unfold publish; tws_sim

theorem Tw.picksFree : PicksFree (Tw fut t) where
  eq := fun _ _ h => by rw [h.frame]; rfl
  set := fun _ _ r h =>
    h.frameFn (g := fun s => { s with picks := r }) ⟨fun _ _ => rfl, fun _ => rfl, fun _ => rfl⟩

theorem sim_randomkeyCmd (d : Nat) (cis : List CI) :
    Sim (Tw fut t) Eq (randomkeyCmd d cis) (randomkeyCmd d cis) :=
  randomkeyCmd_relJ Tw.picksFree d cis (sim_liveKeys d) sim_fault


theorem liveKeys_run (d : Nat) (s : Sys) :
    liveKeys d s = ((s.dbAt d).keys.2, s.setDbS d (s.dbAt d).keys.1) := rfl

/-- after `liveKeys d` the dictionary `d` is purged on both sides, hence the very same -/
theorem sim_liveKeys_getDb {β : Type} {Q : β → β → Prop} (d : Nat) {f g : List Bytes → Db → M β}
    (hf : ∀ ks db, Sim (Tw fut t) Q (f ks db) (g ks db)) :
    Sim (Tw fut t) Q (liveKeys d >>= fun ks => getDb d >>= f ks) (liveKeys d >>= fun ks => getDb d >>= g ks) := by
  intro s₁ s₂ h
  have hk := (h.dbAt d).keys
  have h' : Tw fut t (s₁.setDbS d (s₁.dbAt d).keys.1) (s₂.setDbS d (s₂.dbAt d).keys.1) := h.setDbS d hk.2.1
  have hdb : (s₁.setDbS d (s₁.dbAt d).keys.1).dbAt d = (s₂.setDbS d (s₂.dbAt d).keys.1).dbAt d := by
    have hl := h.len
    by_cases hd : d < s₁.srv.dbs.length
    · rw [Sys.setDbS_dbAt_self _ _ _ hd (hk.2.1.2.trans h.time.symm),
        Sys.setDbS_dbAt_self _ _ _ (by omega) (hk.2.1.time₂.trans h.time₂.symm)]
      exact hk.2.2
    · unfold Sys.dbAt Sys.setDbS
      simp only
      rw [List.set_eq_of_length_le (by omega), List.set_eq_of_length_le (by omega)]
      rw [List.getD_eq_getElem?_getD, List.getD_eq_getElem?_getD,
        List.getElem?_eq_none (by omega), List.getElem?_eq_none (by omega), h.time, h.time₂]
  show Q (f (s₁.dbAt d).keys.2 ((s₁.setDbS d (s₁.dbAt d).keys.1).dbAt d) (s₁.setDbS d (s₁.dbAt d).keys.1)).1
      (g (s₂.dbAt d).keys.2 ((s₂.setDbS d (s₂.dbAt d).keys.1).dbAt d) (s₂.setDbS d (s₂.dbAt d).keys.1)).1 ∧
    Tw fut t (f (s₁.dbAt d).keys.2 ((s₁.setDbS d (s₁.dbAt d).keys.1).dbAt d) (s₁.setDbS d (s₁.dbAt d).keys.1)).2
      (g (s₂.dbAt d).keys.2 ((s₂.setDbS d (s₂.dbAt d).keys.1).dbAt d) (s₂.setDbS d (s₂.dbAt d).keys.1)).2
  rw [hdb, hk.1]
  exact hf _ _ _ _ h'

theorem sim_scanCmd (d : Nat) (args : List Arg) (cis : List CI) :
    Sim (Tw fut t) Eq (scanCmd d args cis) (scanCmd d args cis) := by
  unfold scanCmd
  split
  · refine sim_liveKeys_getDb d (fun ks db => ?_)
    tws_sim
  · tws_sim


theorem sim_swapdbCmd (args : List Arg) (cis : List CI) :
    Sim (Tw fut t) Eq (swapdbCmd args cis) (swapdbCmd args cis) := by
  unfold swapdbCmd okR
  split
  · split
    · refine sim_getDb_bind _ (fun a1 b1 hab1 => ?_)
      refine sim_getDb_bind _ (fun a2 b2 hab2 => ?_)
      tws_sim
    · tws_sim
  · tws_sim

/-! ### MOVE -/

def KLive (db : Db) (k : Bytes) : Prop := ∀ q ∈ db.dict, q.1 = k → (!db.expired q.2) = true

theorem DbRel.setRaw {a b : Db} (h : DbRel t a b) {k : Bytes} (it : Item) (ha : KLive a k) (hb : KLive b k) :
    DbRel t { a with dict := Db.setRaw a.dict k it } { b with dict := Db.setRaw b.dict k it } := by
  refine ⟨⟨Db.nodup_setRaw _ _ h.1.nd1, Db.nodup_setRaw _ _ h.1.nd2, ?_⟩, h.2⟩
  rw [Db.setRaw_purge k it ha, Db.setRaw_purge k it hb, h.1.eq]

/-- the part of MOVE after the destination has been probed -/
def moveTail (d : Nat) (k : Nat) (dst : Nat) (cis : List CI) : M SpecialOut := do
  let key := ciAt cis k
  let sdb ← getDb d
  let (sdb', sitem) := sdb.get key.key
  setDb d sdb'
  match sitem with
  | none => return .error "model: move source vanished"
  | some it =>
    let ddb ← getDb dst
    setDb dst { ddb with dict := Db.setRaw ddb.dict key.key it }
    notifyWatch dst key.key
    return .ok (some (.int 1), cis.set k (key.setValue none))

theorem moveCmd_eq (d : Nat) (k : Nat) (dst : Int) (cis : List CI) :
    moveCmd d [.key k, .int dst] cis = (do
      let key := ciAt cis k
      if dst.toNat == d then return .error Msgs.SRC_DST_SAME_MSG
      if !key.truthy then return .ok (some (.int 0), cis)
      let ddb ← getDb dst.toNat
      let (ddb', ditem) := ddb.get key.key
      setDb dst.toNat ddb'
      if ditem.isSome then return .ok (some (.int 0), cis)
      moveTail d k dst.toNat cis) := rfl


theorem moveTail_run (d k dst : Nat) (cis : List CI) (s : Sys) :
    moveTail d k dst cis s =
      match ((s.dbAt d).get (ciAt cis k).key).2 with
      | none => (.error "model: move source vanished", s.setDbS d ((s.dbAt d).get (ciAt cis k).key).1)
      | some it =>
        (.ok (some (.int 1), cis.set k ((ciAt cis k).setValue none)),
          (notifyWatch dst (ciAt cis k).key
            ((s.setDbS d ((s.dbAt d).get (ciAt cis k).key).1).setDbS dst
              { (s.setDbS d ((s.dbAt d).get (ciAt cis k).key).1).dbAt dst with
                dict := Db.setRaw ((s.setDbS d ((s.dbAt d).get (ciAt cis k).key).1).dbAt dst).dict (ciAt cis k).key it })).2) := by
  unfold moveTail
  simp only [bind, StateT.bind, getDb_run', setDb_run', pure, StateT.pure]
  cases ((s.dbAt d).get (ciAt cis k).key).2 <;> rfl

theorem moveTail_simAt {d k dst : Nat} (cis : List CI) (hne : dst ≠ d) {s₁ s₂ : Sys} (h : Tw fut t s₁ s₂)
    (h1 : KLive (s₁.dbAt dst) (ciAt cis k).key) (h2 : KLive (s₂.dbAt dst) (ciAt cis k).key) :
    (moveTail d k dst cis s₁).1 = (moveTail d k dst cis s₂).1 ∧
      Tw fut t (moveTail d k dst cis s₁).2 (moveTail d k dst cis s₂).2 := by
  rw [moveTail_run, moveTail_run]
  have hg := (h.dbAt d).get (ciAt cis k).key
  have hu := h.setDbS d hg.2
  rw [← hg.1]
  have e1 := Sys.setDbS_dbAt_ne s₁ d dst ((s₁.dbAt d).get (ciAt cis k).key).1 hne
  have e2 := Sys.setDbS_dbAt_ne s₂ d dst ((s₂.dbAt d).get (ciAt cis k).key).1 hne
  cases ((s₁.dbAt d).get (ciAt cis k).key).2 with
  | none => exact ⟨rfl, hu⟩
  | some it =>
    refine ⟨rfl, ?_⟩
    refine (sim_notifyWatch dst _ _ _ ?_).2
    refine hu.setDbS dst ?_
    rw [e1, e2]
    exact (h.dbAt dst).setRaw it h1 h2


/-- MOVE once source and destination are known to differ and the key is present -/
def moveProbe (d k dst : Nat) (cis : List CI) : M SpecialOut := do
  let ddb ← getDb dst
  let (ddb', ditem) := ddb.get (ciAt cis k).key
  setDb dst ddb'
  if ditem.isSome then return .ok (some (.int 0), cis)
  moveTail d k dst cis

theorem moveProbe_run (d k dst : Nat) (cis : List CI) (s : Sys) :
    moveProbe d k dst cis s =
      if ((s.dbAt dst).get (ciAt cis k).key).2.isSome then
        (.ok (some (.int 0), cis), s.setDbS dst ((s.dbAt dst).get (ciAt cis k).key).1)
      else moveTail d k dst cis (s.setDbS dst ((s.dbAt dst).get (ciAt cis k).key).1) := by
  unfold moveProbe
  simp only [bind, StateT.bind, getDb_run', setDb_run', pure, StateT.pure]
  cases ((s.dbAt dst).get (ciAt cis k).key).2 <;> rfl

theorem klive_after_get (s : Sys) (dst : Nat) (key : Bytes) (nd : NodupKeys (s.dbAt dst).dict) :
    KLive ((s.looked dst key).dbAt dst) key := by
  by_cases hd : dst < s.srv.dbs.length
  · rw [s.looked_dbAt hd key]
    exact Db.get_live key nd
  · have : (s.looked dst key).dbAt dst = ⟨[], s.srv.time⟩ := by
      unfold Sys.looked Sys.dbAt Sys.setDbS
      simp only
      rw [List.set_eq_of_length_le (by omega), List.getD_eq_getElem?_getD, List.getElem?_eq_none (by omega)]
      rfl
    rw [this]
    intro q hq
    cases hq

theorem sim_moveProbe {d k dst : Nat} (cis : List CI) (hne : dst ≠ d) :
    Sim (Tw fut t) Eq (moveProbe d k dst cis) (moveProbe d k dst cis) := by
  intro s₁ s₂ h
  rw [moveProbe_run, moveProbe_run]
  have hg := (h.dbAt dst).get (ciAt cis k).key
  have hu := h.setDbS dst hg.2
  rw [← hg.1]
  split
  · exact ⟨rfl, hu⟩
  · exact moveTail_simAt cis hne hu (klive_after_get s₁ dst _ (h.dbAt dst).1.nd1)
      (klive_after_get s₂ dst _ (h.dbAt dst).1.nd2)

theorem sim_moveCmd (d : Nat) (args : List Arg) (cis : List CI) :
    Sim (Tw fut t) Eq (moveCmd d args cis) (moveCmd d args cis) := by
  by_cases hargs : ∃ k dst, args = [.key k, .int dst]
  · obtain ⟨k, dst, rfl⟩ := hargs
    have e : moveCmd d [.key k, .int dst] cis = (do
        if dst.toNat == d then return .error Msgs.SRC_DST_SAME_MSG
        if !(ciAt cis k).truthy then return .ok (some (.int 0), cis)
        moveProbe d k dst.toNat cis) := rfl
    rw [e]
    split
    · tws_sim
    · rename_i hne
      have hne' : dst.toNat ≠ d := by simpa using hne
      have := sim_moveProbe (fut := fut) (t := t) (k := k) cis hne'
      tws_sim
  · unfold moveCmd
    split
    · exact absurd ⟨_, _, rfl⟩ hargs
    · tws_sim

/-! ## Lazy reads, picks, `_run_command`'s two steps on the database -/

theorem sim_touch (d : Nat) (k : Bytes) : Sim (Tw fut t) Eq (touchKey d k) (touchKey d k) :=
  sim_getDb_step d (·.get k) (fun _ _ h => h.get k) pure pure (fun _ => rfl) (fun _ => rfl) (fun _ => Sim.pure_eq _)

theorem sim_nextPick : Sim (Tw fut t) Eq nextPick nextPick := nextPick_relJ Tw.picksFree

theorem sim_takeSetOrder (l : List Bytes) : Sim (Tw fut t) Eq (takeSetOrder l) (takeSetOrder l) :=
  takeSetOrder_relJ Tw.picksFree l

theorem sim_applySig (d : Nat) (sig : Sig) (raw : List Bytes) :
    Sim (Tw fut t) Eq (applySig d sig raw) (applySig d sig raw) :=
  sim_getDb_step d (sig.apply raw) (fun _ _ h => h.apply sig raw) pure pure (fun _ => rfl) (fun _ => rfl)
    (fun _ => Sim.pure_eq _)

theorem sim_regularStep (x : Conn) (sig : Sig) (body : Body) (raw : List Bytes) (fromScript : Bool) :
    Sim (Tw fut t) Eq (regularStep x sig body raw fromScript) (regularStep x sig body raw fromScript) := by
  unfold regularStep
  refine sim_getDb_bind _ (fun a b hab => ?_)
  extract_lets gate
  clear_value gate
  refine Sim.get_bind_same (fun _ _ => Tw.exD) (fun _ _ => rfl) (fun s => ?_)
  extract_lets ctx o₁ jp₁ o₂ jp₂
  have hs : o₁.reply = o₂.reply ∧ o₁.notified = o₂.notified ∧ o₁.failed = o₂.failed ∧
      o₁.picksUsed = o₂.picksUsed ∧ o₁.fault = o₂.fault ∧ Db.Sim o₁.db o₂.db :=
    runRegular_sim sig body ctx gate raw hab.1
  have ht : o₁.db.time = a.time := runRegular_time sig body ctx gate raw hab.1.nd1
  simp -zeta only [jp₁, jp₂]
  clear jp₁ jp₂
  clear_value o₁ o₂
  obtain ⟨db1, reply1, notified1, picks1, failed1, fault1⟩ := o₁
  obtain ⟨db2, reply2, notified2, picks2, failed2, fault2⟩ := o₂
  simp only at hs ht ⊢
  obtain ⟨rfl, rfl, rfl, rfl, rfl, hsim⟩ := hs
  have hab' : DbRel t db1 db2 := ⟨hsim, ht.trans hab.2⟩
  tws_sim

/-! ## The command layer -/

theorem sim_leaves (mode : Mode) (c : Nat) : LeavesAll (fun {α} (m : M α) => Sim (Tw fut t) Eq m m) mode c where
  toSeq := Sim.seq _
  getConn := fun _ hf => Sim.bind (sim_getConn c) (fun x => hf x trivial)
  conn_db := fun _ _ => trivial
  conn_tx := fun _ _ _ _ _ _ => trivial
  conn := fun f _ => sim_modifyConn c f
  touch := fun d _ => sim_touch d
  liveKeys := fun d _ => sim_liveKeys d
  clearDb := fun d _ => sim_clearDb d
  writebackAll := fun d _ cis _ => sim_writebackAll d cis
  writeback := fun d _ cis _ => sim_writebackAll d cis
  randomkey := fun d _ => sim_randomkeyCmd d
  scan := fun d _ => sim_scanCmd d
  applySig := fun d _ sig raw => Then.of (Sim.seq _) (sim_applySig d sig raw) (fun _ _ _ _ => ⟨trivial, trivial⟩)
  regular := fun x _ sig body raw fromScript _ => sim_regularStep x sig body raw fromScript
  fault := sim_fault
  nextClock := sim_nextClock
  nextPick := sim_nextPick
  takeSetOrder := sim_takeSetOrder
  readVersion := Sim.readOf (fun _ _ => Tw.exD) _ (fun _ _ => rfl)
  readScripts := Sim.readOf (fun _ _ => Tw.exD) _ (fun _ _ => rfl)
  cacheScript := fun _ _ => sim_modify_frame _ ⟨fun _ _ => rfl, fun _ => rfl, fun _ => rfl⟩
  flushScripts := sim_modify_frame _ ⟨fun _ _ => rfl, fun _ => rfl, fun _ => rfl⟩
  readLastsave := Sim.readOf (fun _ _ => Tw.exD) _ (fun _ _ => rfl)
  setLastsave := fun _ => sim_modify_frame _ ⟨fun _ _ => rfl, fun _ => rfl, fun _ => rfl⟩
  crash := fun _ _ => sim_modify_frame _ ⟨fun _ _ => rfl, fun _ => rfl, fun _ => rfl⟩
  subscribe := sim_subscribeGen c
  unsubscribe := sim_unsubscribeGen c
  publish := sim_publish
  swapdb := sim_swapdbCmd
  move := sim_moveCmd

theorem sim_runCommand (mode : Mode) (c : Nat) (sig : Sig) (raw : List Bytes) (fromScript : Bool) :
    Sim (Tw fut t) Eq (runCommand mode c sig raw fromScript) (runCommand mode c sig raw fromScript) :=
  (sim_leaves mode c).runCommand sig raw fromScript

/-! ## Above `_run_command`: the server time changes -/

theorem TwE.exD {s₁ s₂ : Sys} (h : TwE fut s₁ s₂) : ∃ D, s₂ = withDbs s₁ D := Tw.exD h

/-- code that is a twin simulation at every fixed time is one when the time is not fixed -/
theorem Sim.liftE {α : Type} {Q : α → α → Prop} {m₁ m₂ : M α} (h : ∀ t, Sim (Tw fut t) Q m₁ m₂) :
    Sim (TwE fut) Q m₁ m₂ := by
  intro s₁ s₂ hr
  obtain ⟨hq, hr'⟩ := h s₁.srv.time s₁ s₂ hr
  refine ⟨hq, ?_⟩
  unfold TwE
  rw [hr'.time]
  exact hr'

theorem purge_later (d : Dict) {t t' : Int} (h : t ≤ t') :
    Db.purge ⟨(Db.purge ⟨d, t⟩).dict, t'⟩ = Db.purge ⟨d, t'⟩ := by
  unfold Db.purge
  simp only [Db.mk.injEq, and_true, List.filter_filter]
  apply List.filter_congr
  intro p hp
  unfold Db.expired
  cases p.2.expireat with
  | none => rfl
  | some e =>
    simp only
    by_cases h1 : e < t'
    · simp [h1]
    · have : ¬ e < t := by omega
      simp [h1, this]

theorem dbSim_later {d₁ d₂ : Dict} {t t' : Int} (h : Db.Sim ⟨d₁, t⟩ ⟨d₂, t⟩) (hle : t ≤ t') :
    Db.Sim ⟨d₁, t'⟩ ⟨d₂, t'⟩ := by
  refine ⟨h.nd1, h.nd2, ?_⟩
  rw [← purge_later d₁ hle, ← purge_later d₂ hle, h.eq]


/-- the clock refresh of `_process_command`: the only place where the server time changes -/
theorem sim_refresh {fl : List Int} :
    Sim (TwE (some fl)) Eq
      (nextClock >>= fun now => modify fun s => { s with srv := { s.srv with time := now } })
      (nextClock >>= fun now => modify fun s => { s with srv := { s.srv with time := now } }) := by
  intro s₁ s₂ h
  refine ⟨rfl, ?_⟩
  show TwE (some fl) { (nextClock s₁).2 with srv := { (nextClock s₁).2.srv with time := (nextClock s₁).1 } }
    { (nextClock s₂).2 with srv := { (nextClock s₂).2.srv with time := (nextClock s₂).1 } }
  have hcl : s₂.clocks = s₁.clocks := by rw [h.frame]; rfl
  cases hc : s₁.clocks with
  | nil =>
    -- no reading is left: the time is set to what it is
    rw [nextClock_nil hc, nextClock_nil (hcl.trans hc)]
    have e1 : ∀ s : Sys, ({ (M.fault "clock readings exhausted" s).2 with
        srv := { (M.fault "clock readings exhausted" s).2.srv with time := s.srv.time } } : Sys)
        = (M.fault "clock readings exhausted" s).2 := by
      intro s
      show ({ (if s.fault.isNone then _ else s : Sys) with srv := { (if s.fault.isNone then _ else s : Sys).srv with time := s.srv.time } } : Sys) = (if s.fault.isNone then _ else s : Sys)
      split <;> rfl
    simp only [e1]
    exact (Sim.liftE (fun t => sim_fault (fut := some fl) (t := t) "clock readings exhausted") s₁ s₂ h).2
  | cons x rest =>
    rw [nextClock_cons hc, nextClock_cons (hcl.trans hc)]
    obtain ⟨D, rfl⟩ := h.exD
    have hck := h.clock
    unfold ClockMono at hck
    simp only [hc, List.cons_append, List.pairwise_cons] at hck
    refine ⟨rfl, rfl, h.len, fun i => dbSim_later (h.sim i) (hck.1 x (List.mem_cons_self ..)), ?_⟩
    unfold ClockMono
    simp only [List.pairwise_cons]
    exact hck.2

theorem sim_cleanupClosed : Sim (Tw fut t) Eq cleanupClosed cleanupClosed := by
  unfold cleanupClosed; tws_sim

variable {fl : List Int}

/-- `_process_command` and the parser loop.  The leaves are proved at a fixed server time (`Tw fut t`) and lifted to `TwE` by
`Sim.liftE`; `refresh` is the one field where the time moves.  Two judgments being involved, the fields are given one by
one and not through `LeavesAll.process`, which asks for all leaves in one judgment. -/
theorem sim_loop (mode : Mode) (c : Nat) : Loop (fun {α} (m : M α) => Sim (TwE (some fl)) Eq m m) mode c where
  toSeq := Sim.seq _
  process := fun _ => processCommand_of
    { toSeq := Sim.seq _
      readCrashed := Sim.readOf (fun _ _ => TwE.exD) _ (fun _ _ => rfl)
      getConn := fun _ hf => (Sim.seq _).bind (Sim.liftE fun _ => sim_getConn c) hf
      emit := fun r => Sim.liftE fun _ => sim_emit c r
      cleanupClosed := Sim.liftE fun _ => sim_cleanupClosed
      refresh := sim_refresh
      clearWatches := fun _ => Sim.liftE fun _ => sim_clearWatches c
      poison := Sim.liftE fun _ => sim_modifyConn c _
      dropTx := Sim.liftE fun _ => sim_modifyConn c _
      enqueue := fun _ _ => Sim.liftE fun _ => sim_modifyConn c _
      markDead := Sim.liftE fun _ => sim_modifyConn c _
      runCommand := fun sig _ => Sim.liftE fun _ => sim_runCommand mode c sig _ false }
  readConnected := Sim.readOf (fun _ _ => TwE.exD) _ (fun _ _ => rfl)
  getConn := Sim.liftE fun _ => sim_getConn c
  setBuf := fun _ => Sim.liftE fun _ => sim_modifyConn c _
  appendBuf := fun _ => Sim.liftE fun _ => sim_modifyConn c _
  crash := fun _ => Sim.liftE fun _ => sim_modify_frame _ ⟨fun _ _ => rfl, fun _ => rfl, fun _ => rfl⟩

theorem sim_processCommand (mode : Mode) (c : Nat) (fields : List Bytes) :
    Sim (TwE (some fl)) Eq (processCommand mode c fields) (processCommand mode c fields) :=
  (sim_loop mode c).process fields

theorem sim_sendallGuarded (mode : Mode) (c : Nat) (data : Bytes) :
    Sim (TwE (some fl)) Eq (sendallGuarded mode c data) (sendallGuarded mode c data) :=
  sendallGuarded_of (sim_loop mode c) data

theorem sim_parkedPass (c : Nat) (p : Parked) : Sim (Tw fut t) Eq (parkedPass c p) (parkedPass c p) :=
  (sim_leaves {} c).parkedPass c p trivial

theorem sim_wake (c : Nat) : Wake (fun {α} (m : M α) => Sim (Tw fut t) Eq m m) c where
  toSeq := Sim.seq _
  getConn := sim_getConn c
  fault := sim_fault
  emit := sim_emit c
  unpark := sim_modifyConn c _
  resume := sim_modifyConn c _
  nextClock := sim_nextClock
  parkedPass := sim_parkedPass c
  stay := fun _ => sim_modifyConn c _

/-- asyncio: the parser resumes afterwards and may move the server time -/
theorem sim_wakeE (c : Nat) : Wake (fun {α} (m : M α) => Sim (TwE (some fl)) Eq m m) c where
  toSeq := Sim.seq _
  getConn := Sim.liftE fun _ => sim_getConn c
  fault := fun msg => Sim.liftE fun _ => sim_fault msg
  emit := fun r => Sim.liftE fun _ => sim_emit c r
  unpark := Sim.liftE fun _ => sim_modifyConn c _
  resume := Sim.liftE fun _ => sim_modifyConn c _
  nextClock := Sim.liftE fun _ => sim_nextClock
  parkedPass := fun p => Sim.liftE fun _ => sim_parkedPass c p
  stay := fun _ => Sim.liftE fun _ => sim_modifyConn c _

theorem sim_wakeConn (c : Nat) : Sim (Tw fut t) Eq (wakeConn c) (wakeConn c) := (sim_wake c).wakeConn

theorem sim_timeoutConn (c : Nat) : Sim (Tw fut t) Eq (timeoutConn c) (timeoutConn c) := (sim_wake c).timeoutConn

theorem sim_wakeConnAsync (mode : Mode) (c : Nat) :
    Sim (TwE (some fl)) Eq (wakeConnAsync mode c) (wakeConnAsync mode c) :=
  (sim_wakeE c).wakeConnAsync mode (drain_of (sim_loop mode c).toDrain)

theorem sim_timeoutConnAsync (mode : Mode) (c : Nat) :
    Sim (TwE (some fl)) Eq (timeoutConnAsync mode c) (timeoutConnAsync mode c) :=
  (sim_wakeE c).timeoutConnAsync mode (drain_of (sim_loop mode c).toDrain)

theorem sim_openConn (c : Nat) : Sim (Tw fut t) Eq (openConn c) (openConn c) := by
  unfold openConn; tws_sim

theorem sim_closeConn (c : Nat) : Sim (Tw fut t) Eq (closeConn c) (closeConn c) := by
  unfold closeConn; tws_sim

theorem sim_gcConn (c : Nat) : Sim (Tw fut t) Eq (gcConn c) (gcConn c) := by
  unfold gcConn; tws_sim

/-! ## The public relation and the step theorem -/

/-- twins: purge-equal states with unique keys on both sides -/
def Twin (s₁ s₂ : Sys) : Prop := PurgeEq s₁ s₂ ∧ KeysInv s₁ ∧ KeysInv s₂

theorem nodup_getD {s : Sys} (h : KeysInv s) (i : Nat) : NodupKeys (s.srv.dbs.getD i []) := by
  rw [List.getD_eq_getElem?_getD]
  cases hi : s.srv.dbs[i]? with
  | none => unfold NodupKeys; simp
  | some d => exact h d (List.mem_of_getElem? hi)

theorem purgeAt_getD (t : Int) (l : List Dict) (i : Nat) : purgeAt t (l.getD i []) = (l.map (purgeAt t)).getD i [] := by
  rw [List.getD_eq_getElem?_getD, List.getD_eq_getElem?_getD, List.getElem?_map]
  cases l[i]? <;> rfl

theorem twE_of_twin {fut : Option (List Int)} {s₁ s₂ : Sys} (h : Twin s₁ s₂) (hc : ClockMono fut s₁) :
    TwE fut s₁ s₂ := by
  obtain ⟨⟨hf, hm⟩, k1, k2⟩ := h
  refine ⟨hf, rfl, ?_, ?_, hc⟩
  · have := congrArg List.length hm
    simpa using this
  · intro i
    refine ⟨nodup_getD k1 i, nodup_getD k2 i, ?_⟩
    have := congrArg (fun l => l.getD i []) hm
    simp only [← purgeAt_getD] at this
    unfold purgeAt at this
    unfold Db.purge at this ⊢
    simp only at this ⊢
    rw [this]

theorem twin_of_tw {fut : Option (List Int)} {t : Int} {s₁ s₂ : Sys} (h : Tw fut t s₁ s₂) : Twin s₁ s₂ := by
  have hk : ∀ (s : Sys), (∀ i, NodupKeys (s.srv.dbs.getD i [])) → KeysInv s := by
    intro s hs d hd
    obtain ⟨i, hi, rfl⟩ := List.getElem_of_mem hd
    have := hs i
    rw [List.getD_eq_getElem?_getD, List.getElem?_eq_getElem hi] at this
    exact this
  refine ⟨⟨h.frame, ?_⟩, hk s₁ (fun i => (h.sim i).nd1), hk s₂ (fun i => (h.sim i).nd2)⟩
  rw [h.time]
  apply List.ext_getElem
  · simp only [List.length_map]; exact h.len
  · intro i h1 h2
    simp only [List.length_map] at h1 h2
    simp only [List.getElem_map]
    have := (h.sim i).eq
    rw [List.getD_eq_getElem?_getD, List.getD_eq_getElem?_getD, List.getElem?_eq_getElem h1,
      List.getElem?_eq_getElem h2] at this
    unfold purgeAt
    exact congrArg Db.dict this

theorem twin_of_twE {fut : Option (List Int)} {s₁ s₂ : Sys} (h : TwE fut s₁ s₂) : Twin s₁ s₂ := twin_of_tw h


/-- the clock readings an event brings along -/
def Ev.clocks : Ev → List Int
  | .request _ _ _ clocks _ => clocks
  | .send _ _ _ clocks _ => clocks
  | .wake _ clocks => clocks
  | .awake _ _ clocks _ => clocks
  | .atimeout _ _ clocks _ => clocks
  | _ => []

/-- the clock hypothesis of one event at server time `t`: the readings of an event that may run `_process_command`
(and so may set the server time) are non-decreasing and not before `t`.  Nothing is asked of the other events (the
readings of a wake-up only decide about its own time-out). -/
def EvClockOk (t : Int) : Ev → Prop
  | .request _ _ _ clocks _ => (t :: clocks).Pairwise (· ≤ ·)
  | .send _ _ _ clocks _ => (t :: clocks).Pairwise (· ≤ ·)
  | .awake _ _ clocks _ => (t :: clocks).Pairwise (· ≤ ·)
  | .atimeout _ _ clocks _ => (t :: clocks).Pairwise (· ≤ ·)
  | _ => True

instance (t : Int) (e : Ev) : Decidable (EvClockOk t e) := by
  cases e <;> (unfold EvClockOk; infer_instance)

theorem Twin.frame {s₁ s₂ : Sys} (h : Twin s₁ s₂) : s₂ = withDbs s₁ s₂.srv.dbs := h.1.1

theorem Twin.beginEvent {s₁ s₂ : Sys} (h : Twin s₁ s₂) : Twin s₁.beginEvent s₂.beginEvent := by
  have h0 := twE_of_twin (fut := none) h trivial
  exact twin_of_tw (h0.frameFn (g := Sys.beginEvent) ⟨fun _ _ => rfl, fun _ => rfl, fun _ => rfl⟩)

theorem Twin.withHints {s₁ s₂ : Sys} (h : Twin s₁ s₂) (clocks : List Int) (picks : List (List Bytes)) :
    Twin (s₁.withHints clocks picks) (s₂.withHints clocks picks) := by
  have h0 := twE_of_twin (fut := none) h trivial
  obtain ⟨D, hD⟩ := h0.exD
  subst hD
  exact twin_of_tw (fut := none) (t := s₁.srv.time) ⟨rfl, rfl, h0.len, h0.sim, trivial⟩

theorem twE_start {s₁ s₂ : Sys} (h : Twin s₁ s₂) (clocks : List Int) (picks : List (List Bytes)) (fl : List Int)
    (hc : (s₁.srv.time :: (clocks ++ fl)).Pairwise (· ≤ ·)) :
    TwE (some fl) (s₁.beginEvent.withHints clocks picks) (s₂.beginEvent.withHints clocks picks) :=
  twE_of_twin (h.beginEvent.withHints clocks picks) hc

theorem twE_start_none {s₁ s₂ : Sys} (h : Twin s₁ s₂) (clocks : List Int) (picks : List (List Bytes)) :
    TwE none (s₁.beginEvent.withHints clocks picks) (s₂.beginEvent.withHints clocks picks) :=
  twE_of_twin (h.beginEvent.withHints clocks picks) trivial

theorem pairwise_append_nil {t : Int} {clocks : List Int} (h : (t :: clocks).Pairwise (· ≤ ·)) :
    (t :: (clocks ++ [])).Pairwise (· ≤ ·) := by simpa using h

/-- One event: twins stay twins (so `out`, `fault`, `crashed`, every connection record, the
pub/sub tables, the script cache, the pending hints … are equal after the event) -/
theorem stepEv_twin {s₁ s₂ : Sys} (h : Twin s₁ s₂) (e : Ev) (hc : EvClockOk s₁.srv.time e) :
    Twin (stepEv s₁ e) (stepEv s₂ e) := by
  have hb0 : ∀ {s₁ s₂ : Sys}, Twin s₁ s₂ → TwE none s₁.beginEvent s₂.beginEvent :=
    fun h => twE_of_twin h.beginEvent trivial
  have hfr : ∀ g : Sys → Sys, FrameFn g → ∀ {s₁ s₂ : Sys}, Twin s₁ s₂ →
      Twin ((modify g : M PUnit) s₁.beginEvent).2 ((modify g : M PUnit) s₂.beginEvent).2 :=
    fun g hg _ _ h => twin_of_tw (sim_modify_frame g hg _ _ (hb0 h)).2
  refine Events.stepEv₂ (P := fun s₁ s₂ e r₁ r₂ => Twin s₁ s₂ → EvClockOk s₁.srv.time e → Twin r₁ r₂) ?_ s₁ s₂ e h hc
  exact
    { version := fun v _ _ h _ =>
        hfr (fun s => { s with srv := { s.srv with version := v } }) ⟨fun _ _ => rfl, fun _ => rfl, fun _ => rfl⟩ h
      opn := fun c _ _ h _ => twin_of_tw (sim_openConn c _ _ (hb0 h)).2
      close := fun c _ _ h _ => twin_of_tw (sim_closeConn c _ _ (hb0 h)).2
      gc := fun c _ _ h _ => twin_of_tw (sim_gcConn c _ _ (hb0 h)).2
      conn := fun up _ _ h _ =>
        hfr (fun s => { s with srv := { s.srv with connected := up } }) ⟨fun _ _ => rfl, fun _ => rfl, fun _ => rfl⟩ h
      request := fun mode c fields clocks picks _ _ h hc =>
        twin_of_twE (sim_processCommand mode c fields _ _ (twE_start h clocks picks [] (pairwise_append_nil hc))).2
      send := fun mode c data clocks picks _ _ h hc =>
        twin_of_twE (sim_sendallGuarded mode c data _ _ (twE_start h clocks picks [] (pairwise_append_nil hc))).2
      wake := fun c clocks _ _ h _ => twin_of_tw (sim_wakeConn c _ _ (twE_start_none h clocks [])).2
      timeout := fun c _ _ h _ => twin_of_tw (sim_timeoutConn c _ _ (hb0 h)).2
      awake := fun mode c clocks picks _ _ h hc =>
        twin_of_twE (sim_wakeConnAsync mode c _ _ (twE_start h clocks picks [] (pairwise_append_nil hc))).2
      atimeout := fun mode c clocks picks _ _ h hc =>
        twin_of_twE (sim_timeoutConnAsync mode c _ _ (twE_start h clocks picks [] (pairwise_append_nil hc))).2 }


theorem Twin.refl {s : Sys} (h : KeysInv s) : Twin s s := ⟨⟨rfl, rfl⟩, h, h⟩

theorem Twin.keys₁ {s₁ s₂ : Sys} (h : Twin s₁ s₂) : KeysInv s₁ := h.2.1
theorem Twin.keys₂ {s₁ s₂ : Sys} (h : Twin s₁ s₂) : KeysInv s₂ := h.2.2

theorem Twin.out_eq {s₁ s₂ : Sys} (h : Twin s₁ s₂) : s₂.out = s₁.out := by rw [h.frame]; rfl
theorem Twin.fault_eq {s₁ s₂ : Sys} (h : Twin s₁ s₂) : s₂.fault = s₁.fault := by rw [h.frame]; rfl
theorem Twin.crashed_eq {s₁ s₂ : Sys} (h : Twin s₁ s₂) : s₂.crashed = s₁.crashed := by rw [h.frame]; rfl
theorem Twin.conns_eq {s₁ s₂ : Sys} (h : Twin s₁ s₂) : s₂.srv.conns = s₁.srv.conns := by rw [h.frame]; rfl
theorem Twin.time_eq {s₁ s₂ : Sys} (h : Twin s₁ s₂) : s₂.srv.time = s₁.srv.time := by rw [h.frame]; rfl
theorem Twin.subs_eq {s₁ s₂ : Sys} (h : Twin s₁ s₂) : s₂.srv.subs = s₁.srv.subs ∧ s₂.srv.psubs = s₁.srv.psubs := by
  rw [h.frame]; exact ⟨rfl, rfl⟩
theorem Twin.scripts_eq {s₁ s₂ : Sys} (h : Twin s₁ s₂) : s₂.srv.scripts = s₁.srv.scripts := by rw [h.frame]; rfl

theorem bound_of_clock {fl : List Int} {s : Sys} (h : ClockMono (some fl) s) :
    (s.srv.time :: fl).Pairwise (· ≤ ·) := by
  unfold ClockMono at h
  exact h.sublist (List.Sublist.cons_cons _ (List.sublist_append_right _ _))

/-- the server time after an event is not later than any reading that has not been handed out yet -/
theorem stepEv_time_bound {s : Sys} (hk : KeysInv s) (e : Ev) (fl : List Int)
    (hc : (s.srv.time :: (Ev.clocks e ++ fl)).Pairwise (· ≤ ·)) :
    ((stepEv s e).srv.time :: fl).Pairwise (· ≤ ·) := by
  have hb0 : ∀ {s : Sys}, KeysInv s → TwE none s.beginEvent s.beginEvent :=
    fun hk => twE_of_twin (Twin.refl hk).beginEvent trivial
  have hsame : ∀ {s s' : Sys} {e : Ev}, (s.srv.time :: (Ev.clocks e ++ fl)).Pairwise (· ≤ ·) → s'.srv.time = s.srv.time →
      (s'.srv.time :: fl).Pairwise (· ≤ ·) :=
    fun hc e' => e' ▸ hc.sublist (List.Sublist.cons_cons _ (List.sublist_append_right _ _))
  refine Events.stepEv (P := fun s e s' => KeysInv s → (s.srv.time :: (Ev.clocks e ++ fl)).Pairwise (· ≤ ·) →
    (s'.srv.time :: fl).Pairwise (· ≤ ·)) ?_ s e hk hc
  exact
    { version := fun _ _ _ hc => hsame hc rfl
      opn := fun c _ hk hc => hsame hc (sim_openConn c _ _ (hb0 hk)).2.time
      close := fun c _ hk hc => hsame hc (sim_closeConn c _ _ (hb0 hk)).2.time
      gc := fun c _ hk hc => hsame hc (sim_gcConn c _ _ (hb0 hk)).2.time
      conn := fun _ _ _ hc => hsame hc rfl
      request := fun mode c fields clocks picks _ hk hc =>
        bound_of_clock (sim_processCommand mode c fields _ _ (twE_start (Twin.refl hk) clocks picks fl hc)).2.clock
      send := fun mode c data clocks picks _ hk hc =>
        bound_of_clock (sim_sendallGuarded mode c data _ _ (twE_start (Twin.refl hk) clocks picks fl hc)).2.clock
      wake := fun c clocks _ hk hc => hsame hc (sim_wakeConn c _ _ (twE_start_none (Twin.refl hk) clocks [])).2.time
      timeout := fun c _ hk hc => hsame hc (sim_timeoutConn c _ _ (hb0 hk)).2.time
      awake := fun mode c clocks picks _ hk hc =>
        bound_of_clock (sim_wakeConnAsync mode c _ _ (twE_start (Twin.refl hk) clocks picks fl hc)).2.clock
      atimeout := fun mode c clocks picks _ hk hc =>
        bound_of_clock (sim_timeoutConnAsync mode c _ _ (twE_start (Twin.refl hk) clocks picks fl hc)).2.clock }

/-! ## Histories -/

/-- the clock hypothesis along a history: every event meets `EvClockOk` at the server time it starts from
(`HistAll fun s e => EvClockOk s.srv.time e`, written out) -/
def HistClockOk : Sys → List Ev → Prop
  | _, [] => True
  | s, e :: es => EvClockOk s.srv.time e ∧ HistClockOk (stepEv s e) es

/-- what a history shows to the outside: after every event the replies it emitted and the fault / crash flags -/
def observe (s : Sys) : List Ev → List (List (Nat × Reply) × Option String × Option String)
  | [] => []
  | e :: es => ((stepEv s e).out, (stepEv s e).fault, (stepEv s e).crashed) :: observe (stepEv s e) es

theorem history_twin (evs : List Ev) {s₁ s₂ : Sys} (h : Twin s₁ s₂) (hc : HistClockOk s₁ evs) :
    Twin (evs.foldl stepEv s₁) (evs.foldl stepEv s₂) ∧ observe s₁ evs = observe s₂ evs := by
  induction evs generalizing s₁ s₂ with
  | nil => exact ⟨h, rfl⟩
  | cons e es ih =>
    have h' := stepEv_twin h e hc.1
    obtain ⟨ht, ho⟩ := ih h' hc.2
    refine ⟨ht, ?_⟩
    show _ :: _ = _ :: _
    rw [ho, h'.out_eq, h'.fault_eq, h'.crashed_eq]

theorem evClockOk_of_sorted {t : Int} (e : Ev) {fl : List Int}
    (h : (t :: (Ev.clocks e ++ fl)).Pairwise (· ≤ ·)) : EvClockOk t e := by
  have h' : (t :: Ev.clocks e).Pairwise (· ≤ ·) :=
    h.sublist (List.Sublist.cons_cons _ (List.sublist_append_left _ _))
  cases e <;> first | exact h' | trivial

theorem histClockOk_of_sorted (evs : List Ev) {s : Sys} (hk : KeysInv s)
    (h : (s.srv.time :: evs.flatMap Ev.clocks).Pairwise (· ≤ ·)) : HistClockOk s evs := by
  induction evs generalizing s with
  | nil => trivial
  | cons e es ih =>
    rw [List.flatMap_cons] at h
    refine ⟨evClockOk_of_sorted e h, ih ?_ (stepEv_time_bound hk e _ h)⟩
    exact (stepEv_twin (Twin.refl hk) e (evClockOk_of_sorted e h)).keys₁


/-! ## An expired key and a deleted key -/

/-- raw deletion of key `k` from the dictionary of database `d` -/
def delKey (s : Sys) (d : Nat) (k : Bytes) : Sys :=
  withDbs s (s.srv.dbs.set d (Db.erase (s.srv.dbs.getD d []) k))

theorem purgeAt_erase_expired {t : Int} {dict : Dict} (nd : NodupKeys dict) {k : Bytes} {it : Item}
    (hl : dict.lookup k = some it) (he : (⟨dict, t⟩ : Db).expired it = true) :
    purgeAt t (Db.erase dict k) = purgeAt t dict := by
  have hg : ((⟨dict, t⟩ : Db).get k).1 = ⟨Db.erase dict k, t⟩ := by
    unfold Db.get; simp [hl, he]
  have := Db.get_purge (db := ⟨dict, t⟩) k nd
  rw [hg] at this
  unfold purgeAt
  rw [this]

/-- a state in which key `k` of database `d` is past its deadline, and the same state with `k` deleted, are twins -/
theorem expired_twin_deleted {s : Sys} (hk : KeysInv s) (d : Nat) (k : Bytes) (it : Item)
    (hl : (s.srv.dbs.getD d []).lookup k = some it) (he : (s.dbAt d).expired it = true) :
    Twin s (delKey s d k) := by
  refine ⟨⟨rfl, ?_⟩, hk, ?_⟩
  · show _ = List.map _ (s.srv.dbs.set d _)
    rw [List.map_set, purgeAt_erase_expired (nodup_getD hk d) hl he, purgeAt_getD]
    apply List.ext_getElem
    · simp
    · intro i h1 h2
      rw [List.getElem_set]
      split
      · rename_i hdi
        subst hdi
        rw [List.getD_eq_getElem?_getD, List.getElem?_eq_getElem h1]
        rfl
      · rfl
  · intro d' hd'
    rcases List.mem_or_eq_of_mem_set hd' with hd' | rfl
    · exact hk d' hd'
    · exact Db.nodup_erase k (nodup_getD hk d)

end FR.Twin

import FR.Proofs.System
import FR.Proofs.Runner
/-!
# The state vocabulary of the system-level proofs; blocking pops, parking and wake-ups

* The state as functions: `Sys.dbAt` / `Sys.setDbS` (what `getDb` / `setDb` read and write), `Sys.wbStep`, `Sys.AllWoken`.
  Every file above this one speaks of the databases in these terms.
* One pass of BLPOP / BRPOP (`_bpop_pass`): the recursion once (`bpopPass_ind`), what an unserved pass does; one pass of
  BRPOPLPUSH in closed form (`brpoplpushPass_run`).
* `_blocking` on both front-ends in closed form (`blockCall_run` with `Sys.unserved`).
* What a pass may change: `PassFrame` / `Framed`.
* The wake-up and time-out of a parked connection in closed form (`wakeConn_eq` with `wakeState_eq`, `timeoutConn_eq`).
-/
namespace FR
open M Db
set_option linter.unusedSimpArgs false

/-! ## pure list level -/

theorem popLeftN_one {l : List Bytes} (h : l ≠ []) :
    ∃ x rem, Cmd.popLeftN l 1 = ([x], rem) ∧ x :: rem = l := by
  cases l with
  | nil => exact absurd rfl h
  | cons x rem => exact ⟨x, rem, rfl, rfl⟩

theorem popRightN_one {l : List Bytes} (h : l ≠ []) :
    ∃ x rem, Cmd.popRightN l 1 = ([x], rem) ∧ rem ++ [x] = l := by
  rcases List.eq_nil_or_concat l with h' | ⟨rem, x, rfl⟩
  · exact absurd h' h
  · refine ⟨x, rem, ?_, by simp⟩
    simp [Cmd.popRightN]

theorem end_split (left : Bool) {l : List Bytes} (h : l ≠ []) :
    ∃ x rem, (if left then l = x :: rem else l = rem ++ [x]) ∧
      (if left then Cmd.popLeftN l 1 else Cmd.popRightN l 1) = ([x], rem) ∧
      (if left then l.head? else l.getLast?) = some x ∧ (if left then l.tail else l.dropLast) = rem := by
  cases left
  · obtain ⟨x, rem, hp, rfl⟩ := popRightN_one h
    exact ⟨x, rem, by simp, hp, by simp, by simp⟩
  · obtain ⟨x, rem, hp, rfl⟩ := popLeftN_one h
    exact ⟨x, rem, by simp, hp, by simp, by simp⟩

/-! ## state level vocabulary -/

/-- database `i` as `getDb i` returns it -/
def Sys.dbAt (s : Sys) (i : Nat) : Db := ⟨s.srv.dbs.getD i [], s.srv.time⟩

def Sys.setDbS (s : Sys) (i : Nat) (db : Db) : Sys :=
  { s with srv := { s.srv with dbs := s.srv.dbs.set i db.dict } }

theorem getDb_run' (i : Nat) (s : Sys) : getDb i s = (s.dbAt i, s) := rfl
theorem setDb_run' (i : Nat) (db : Db) (s : Sys) : setDb i db s = ((), s.setDbS i db) := rfl

@[simp] theorem Sys.setDbS_conns (s : Sys) (i db) : (s.setDbS i db).srv.conns = s.srv.conns := rfl
@[simp] theorem Sys.setDbS_out (s : Sys) (i db) : (s.setDbS i db).out = s.out := rfl
@[simp] theorem Sys.setDbS_clocks (s : Sys) (i db) : (s.setDbS i db).clocks = s.clocks := rfl
@[simp] theorem Sys.setDbS_time (s : Sys) (i db) : (s.setDbS i db).srv.time = s.srv.time := rfl
@[simp] theorem Sys.setDbS_len (s : Sys) (i db) : (s.setDbS i db).srv.dbs.length = s.srv.dbs.length := by
  simp [Sys.setDbS]
theorem Sys.setDbS_conn (s : Sys) (i db c) : (s.setDbS i db).conn c = s.conn c := rfl
theorem Sys.setDbS_hasConn (s : Sys) (i db c) : (s.setDbS i db).HasConn c ↔ s.HasConn c := Iff.rfl

@[simp] theorem Sys.mapConns_dbs (s : Sys) (g) : (s.mapConns g).srv.dbs = s.srv.dbs := rfl
@[simp] theorem Sys.mapConns_out (s : Sys) (g) : (s.mapConns g).out = s.out := rfl
@[simp] theorem Sys.mapConns_clocks (s : Sys) (g) : (s.mapConns g).clocks = s.clocks := rfl
@[simp] theorem Sys.mapConns_time (s : Sys) (g) : (s.mapConns g).srv.time = s.srv.time := rfl
@[simp] theorem Sys.mapConns_dbAt (s : Sys) (g i) : (s.mapConns g).dbAt i = s.dbAt i := rfl

theorem Sys.setDbS_dbAt_self (s : Sys) (i : Nat) (db : Db) (hi : i < s.srv.dbs.length)
    (ht : db.time = s.srv.time) : (s.setDbS i db).dbAt i = db := by
  unfold Sys.dbAt Sys.setDbS
  simp only [getD_set_self _ _ _ _ hi]
  rw [← ht]

theorem Sys.setDbS_dbAt_ne (s : Sys) (i j : Nat) (db : Db) (h : j ≠ i) :
    (s.setDbS i db).dbAt j = s.dbAt j := by
  unfold Sys.dbAt Sys.setDbS
  simp only [getD_set_ne _ _ _ _ _ h]

theorem Sys.dbAt_time (s : Sys) (i : Nat) : (s.dbAt i).time = s.srv.time := rfl

/-! ## connection lookup under `mapConns` -/

/-- an unregistered connection reads as the default record, which `notifyFn` leaves alone -/
theorem Sys.conn_mapConns_notify (s : Sys) (d : Nat) (k : Bytes) (c : Nat) :
    (s.mapConns (notifyFn d k)).conn c = notifyFn d k (s.conn c) := by
  rw [Sys.conn_mapConns_if _ _ _ (notifyFn_id d k)]
  split
  · rfl
  · rename_i hc
    rw [Sys.hasConn_iff] at hc
    have hd : s.conn c = { id := c } := by
      rw [Sys.conn_def]
      cases h' : s.srv.conns.find? (·.id == c) with
      | none => rfl
      | some x => rw [h'] at hc; exact absurd rfl hc
    rw [hd]
    rfl

theorem notifyWatch_conn (d : Nat) (key : Bytes) (s : Sys) (c : Nat) :
    (notifyWatch d key s).2.conn c = notifyFn d key (s.conn c) := by
  rw [notifyWatch_run]
  exact Sys.conn_mapConns_notify s d key c

/-! ## `writebackAll` -/

/-- one `CommandItem` written back to database `d`, with the `notify_watch` call -/
def Sys.wbStep (s : Sys) (d : Nat) (ci : CI) : Sys :=
  let s1 := s.setDbS d (ci.writeback (s.dbAt d)).1
  if ci.modified then s1.mapConns (notifyFn d ci.key) else s1

theorem writebackAll_nil (d : Nat) (s : Sys) : writebackAll d [] s = ((), s) := rfl

theorem writebackAll_cons (d : Nat) (ci : CI) (cis : List CI) (s : Sys) :
    writebackAll d (ci :: cis) s = writebackAll d cis (s.wbStep d ci) := by
  unfold writebackAll Sys.wbStep
  rw [forM_cons_eq]
  simp only [bind, StateT.bind, getDb_run', setDb_run']
  have hf := CI.writeback_flag ci (s.dbAt d)
  revert hf
  generalize ci.writeback (s.dbAt d) = r
  obtain ⟨db', n⟩ := r
  intro hf
  simp only at hf
  subst hf
  cases hm : ci.modified <;> simp only [hm, if_true, if_false, Bool.false_eq_true, notifyWatch_run] <;> rfl

theorem writebackAll_single (d : Nat) (ci : CI) (s : Sys) :
    writebackAll d [ci] s = ((), s.wbStep d ci) := by
  rw [writebackAll_cons, writebackAll_nil]

/-- every connection parked on database `d` has its wake-up flag set -/
def Sys.AllWoken (s : Sys) (d : Nat) : Prop :=
  ∀ x ∈ s.srv.conns, ∀ p, x.parked = some p → p.db = d → p.woken = true

theorem notifyFn_parked (d : Nat) (key : Bytes) (x : Conn) :
    (notifyFn d key x).parked = x.parked.map fun p => if p.db == d then { p with woken := true } else p := by
  rw [notifyFn_fields]

theorem Sys.allWoken_notify (s : Sys) (d : Nat) (key : Bytes) : (s.mapConns (notifyFn d key)).AllWoken d := by
  intro x hx p hp hd
  simp only [Sys.mapConns, List.mem_map] at hx
  obtain ⟨y, hy, rfl⟩ := hx
  rw [notifyFn_parked] at hp
  cases hq : y.parked with
  | none => rw [hq] at hp; cases hp
  | some q =>
    rw [hq] at hp
    simp only [Option.map_some, Option.some.injEq] at hp
    by_cases hqd : q.db = d
    · simp only [hqd, BEq.rfl, if_true] at hp; rw [← hp]
    · have : (q.db == d) = false := by simpa using hqd
      simp only [this, Bool.false_eq_true, if_false] at hp
      subst hp; exact absurd hd hqd

theorem Sys.allWoken_notify_pres (s : Sys) (d d' : Nat) (key : Bytes) (h : s.AllWoken d) :
    (s.mapConns (notifyFn d' key)).AllWoken d := by
  intro x hx p hp hd
  simp only [Sys.mapConns, List.mem_map] at hx
  obtain ⟨y, hy, rfl⟩ := hx
  rw [notifyFn_parked] at hp
  cases hq : y.parked with
  | none => rw [hq] at hp; cases hp
  | some q =>
    rw [hq] at hp
    simp only [Option.map_some, Option.some.injEq] at hp
    split at hp
    · rw [← hp]
    · subst hp; exact h y hy q hq hd

theorem Sys.allWoken_wbStep_pres (s : Sys) (d d' : Nat) (ci : CI) (h : s.AllWoken d) :
    (s.wbStep d' ci).AllWoken d := by
  unfold Sys.wbStep
  simp only
  split
  · exact Sys.allWoken_notify_pres _ d d' _ h
  · exact h

theorem Sys.allWoken_wbStep (s : Sys) (d : Nat) (ci : CI) (hm : ci.modified = true) :
    (s.wbStep d ci).AllWoken d := by
  unfold Sys.wbStep
  simp only [hm, if_true]
  exact Sys.allWoken_notify _ d _

theorem writebackAll_allWoken_pres (d d' : Nat) (cis : List CI) (s : Sys) (h : s.AllWoken d) :
    (writebackAll d' cis s).2.AllWoken d := by
  induction cis generalizing s with
  | nil => exact h
  | cons ci cis ih => rw [writebackAll_cons]; exact ih _ (Sys.allWoken_wbStep_pres s d d' ci h)

theorem writebackAll_allWoken (d : Nat) (cis : List CI) (s : Sys) (h : ∃ ci ∈ cis, ci.modified = true) :
    (writebackAll d cis s).2.AllWoken d := by
  induction cis generalizing s with
  | nil => obtain ⟨ci, hci, _⟩ := h; cases hci
  | cons ci cis ih =>
    rw [writebackAll_cons]
    by_cases hm : ci.modified = true
    · exact writebackAll_allWoken_pres d d cis _ (Sys.allWoken_wbStep s d ci hm)
    · apply ih
      obtain ⟨ci', hci', hm'⟩ := h
      rcases List.mem_cons.1 hci' with rfl | h'
      · exact absurd hm' hm
      · exact ⟨ci', h', hm'⟩

theorem Sys.conn_mem_or_default (s : Sys) (c : Nat) : s.conn c ∈ s.srv.conns ∨ s.conn c = { id := c } := by
  rw [Sys.conn_def]
  cases h : s.srv.conns.find? (·.id == c) with
  | none => exact .inr rfl
  | some x => exact .inl (List.mem_of_find?_eq_some h)

theorem Sys.AllWoken.conn {s : Sys} {d : Nat} (h : s.AllWoken d) (c : Nat) (p : Parked)
    (hp : (s.conn c).parked = some p) (hd : p.db = d) : p.woken = true := by
  rcases s.conn_mem_or_default c with hm | he
  · exact h _ hm p hp hd
  · rw [he] at hp; cases hp

theorem forM_notifyWatch_allWoken_pres (d d' : Nat) (ks : List Bytes) (s : Sys) (h : s.AllWoken d) :
    (ks.forM (notifyWatch d') s).2.AllWoken d := by
  induction ks generalizing s with
  | nil => exact h
  | cons k ks ih =>
    rw [forM_cons_eq]
    simp only [bind, StateT.bind, notifyWatch_run]
    exact ih _ (Sys.allWoken_notify_pres _ d d' k h)

theorem forM_notifyWatch_allWoken (d : Nat) (ks : List Bytes) (s : Sys) (h : ks ≠ []) :
    (ks.forM (notifyWatch d) s).2.AllWoken d := by
  cases ks with
  | nil => exact absurd rfl h
  | cons k ks =>
    rw [forM_cons_eq]
    simp only [bind, StateT.bind, notifyWatch_run]
    exact forM_notifyWatch_allWoken_pres d d ks _ (Sys.allWoken_notify s d k)

theorem Sys.afterRegular_allWoken (s : Sys) (d : Nat) (o : RunOut) (h : o.notified ≠ []) :
    (s.afterRegular d o).AllWoken d := by
  unfold Sys.afterRegular
  exact forM_notifyWatch_allWoken d _ _ h

/-! ## `bpopPass`: step equations -/

/-- the `CommandItem` written back by a served pop -/
def bpopCI (left : Bool) (key : Bytes) (it : Item) (l : List Bytes) : CI :=
  { key := key, val := some (.list (if left then Cmd.popLeftN l 1 else Cmd.popRightN l 1).2),
    expireat := it.expireat, modified := true }

def bpopReply (left : Bool) (key : Bytes) (l : List Bytes) : Reply :=
  .arr [.bulk key, Reply.ofOptBulk (if left then Cmd.popLeftN l 1 else Cmd.popRightN l 1).1.head?]

theorem bpopPass_nil (d : Nat) (left first : Bool) (s : Sys) :
    bpopPass d left first [] s = (.ok none, s) := rfl

theorem bpopPass_cons_none (d : Nat) (left first : Bool) (key : Bytes) (rest : List Bytes) (s : Sys)
    (h : ((s.dbAt d).get key).2 = none) :
    bpopPass d left first (key :: rest) s =
      bpopPass d left first rest (s.setDbS d ((s.dbAt d).get key).1) := by
  rw [bpopPass]
  simp only [bind, StateT.bind, getDb_run', setDb_run']
  revert h
  generalize (s.dbAt d).get key = g
  obtain ⟨db', item⟩ := g
  intro h
  simp only at h
  subst h
  rfl

theorem bpopPass_cons_list (d : Nat) (left first : Bool) (key : Bytes) (rest : List Bytes) (s : Sys)
    {it : Item} {l : List Bytes} (h : ((s.dbAt d).get key).2 = some it) (hv : it.value = .list l) :
    bpopPass d left first (key :: rest) s =
      (.ok (some (bpopReply left key l)),
        (s.setDbS d ((s.dbAt d).get key).1).wbStep d (bpopCI left key it l)) := by
  rw [bpopPass]
  simp only [bind, StateT.bind, getDb_run', setDb_run']
  revert h
  generalize (s.dbAt d).get key = g
  obtain ⟨db', item⟩ := g
  intro h
  simp only at h
  subst h
  obtain ⟨v, e⟩ := it
  simp only at hv
  subst hv
  cases left <;> simp only [StateT.bind, writebackAll_single, bpopReply, bpopCI] <;> rfl

theorem bpopPass_cons_other (d : Nat) (left first : Bool) (key : Bytes) (rest : List Bytes) (s : Sys)
    {it : Item} (h : ((s.dbAt d).get key).2 = some it) (hv : ∀ l, it.value ≠ .list l) :
    bpopPass d left first (key :: rest) s =
      if first then (.error Msgs.WRONGTYPE_MSG, s.setDbS d ((s.dbAt d).get key).1)
      else bpopPass d left first rest (s.setDbS d ((s.dbAt d).get key).1) := by
  rw [bpopPass]
  simp only [bind, StateT.bind, getDb_run', setDb_run']
  revert h
  generalize (s.dbAt d).get key = g
  obtain ⟨db', item⟩ := g
  intro h
  simp only at h
  subst h
  obtain ⟨v, e⟩ := it
  cases v with
  | list l => exact absurd rfl (hv l)
  | _ => cases first <;> rfl

theorem Value.list_or_not (v : Value) : (∃ l, v = .list l) ∨ ∀ l, v ≠ .list l := by
  cases v with
  | list l => exact .inl ⟨l, rfl⟩
  | _ => exact .inr (fun l h => by cases h)

/-! ## the recursion of `_bpop_pass`, once -/

/-- the state after the lazy look-up of `key` in database `d` -/
def Sys.looked (s : Sys) (d : Nat) (key : Bytes) : Sys := s.setDbS d ((s.dbAt d).get key).1

/-- the look-up of a key lets the pass go on: nothing live is stored there, or (on a later pass) a value that is not a
list -/
def Skips (first : Bool) (o : Option Item) : Prop :=
  o = none ∨ (first = false ∧ ∃ it, o = some it ∧ ∀ l, it.value ≠ .list l)

/-- `_bpop_pass`, by what it can do at each key: go on after the lazy look-up (`Skips`), serve from a list, or (first
pass) raise WRONGTYPE.  A fact about a pass is proved by giving these four cases. -/
theorem bpopPass_ind (d : Nat) (left first : Bool)
    (P : List Bytes → Sys → Except Err (Option Reply) × Sys → Prop)
    (nil : ∀ s, P [] s (.ok none, s))
    (skip : ∀ key rest s r, Skips first ((s.dbAt d).get key).2 → P rest (s.looked d key) r → P (key :: rest) s r)
    (serve : ∀ key rest s it l, ((s.dbAt d).get key).2 = some it → it.value = .list l →
      P (key :: rest) s (.ok (some (bpopReply left key l)), (s.looked d key).wbStep d (bpopCI left key it l)))
    (wrong : ∀ key rest s it, first = true → ((s.dbAt d).get key).2 = some it → (∀ l, it.value ≠ .list l) →
      P (key :: rest) s (.error Msgs.WRONGTYPE_MSG, s.looked d key))
    (keys : List Bytes) (s : Sys) : P keys s (bpopPass d left first keys s) := by
  induction keys generalizing s with
  | nil => exact nil s
  | cons key rest ih =>
    cases hg : ((s.dbAt d).get key).2 with
    | none => rw [bpopPass_cons_none _ _ _ _ _ _ hg]; exact skip _ _ _ _ (.inl hg) (ih _)
    | some it =>
      rcases Value.list_or_not it.value with ⟨l, hv⟩ | hv
      · rw [bpopPass_cons_list _ _ _ _ _ _ hg hv]; exact serve _ _ _ _ _ hg hv
      · rw [bpopPass_cons_other _ _ _ _ _ _ hg hv]
        cases first
        · exact skip _ _ _ _ (.inr ⟨rfl, it, hg, hv⟩) (ih _)
        · exact wrong _ _ _ _ rfl hg hv

/-! ## frame principle: the passes only store databases and call `notify_watch` -/

theorem Sys.wbStep_frame (P : Sys → Prop) (hset : ∀ s i db, P s → P (s.setDbS i db))
    (hmap : ∀ s d k, P s → P (s.mapConns (notifyFn d k))) (s : Sys) (d : Nat) (ci : CI) (h : P s) :
    P (s.wbStep d ci) := by
  unfold Sys.wbStep
  simp only
  split
  · exact hmap _ _ _ (hset _ _ _ h)
  · exact hset _ _ _ h

theorem writebackAll_frame (P : Sys → Prop) (hset : ∀ s i db, P s → P (s.setDbS i db))
    (hmap : ∀ s d k, P s → P (s.mapConns (notifyFn d k))) (d : Nat) (cis : List CI) (s : Sys) (h : P s) :
    P (writebackAll d cis s).2 := by
  induction cis generalizing s with
  | nil => exact h
  | cons ci cis ih => rw [writebackAll_cons]; exact ih _ (Sys.wbStep_frame P hset hmap s d ci h)

theorem bpopPass_frame (P : Sys → Prop) (hset : ∀ s i db, P s → P (s.setDbS i db))
    (hmap : ∀ s d k, P s → P (s.mapConns (notifyFn d k)))
    (d : Nat) (left first : Bool) (keys : List Bytes) (s : Sys) : P s → P (bpopPass d left first keys s).2 :=
  bpopPass_ind d left first (fun _ s r => P s → P r.2) (fun _ h => h)
    (fun _ _ s _ _ ih h => ih (hset s d _ h))
    (fun key _ s it l _ _ h => Sys.wbStep_frame P hset hmap (s.looked d key) d (bpopCI left key it l) (hset s d _ h))
    (fun _ _ s _ _ _ _ h => hset s d _ h) keys s

theorem bpopPass_error (d : Nat) (left first : Bool) (keys : List Bytes) (s : Sys) :
    ∀ e, (bpopPass d left first keys s).1 = .error e → first = true ∧ e = Msgs.WRONGTYPE_MSG :=
  bpopPass_ind d left first (fun _ _ r => ∀ e, r.1 = .error e → first = true ∧ e = Msgs.WRONGTYPE_MSG)
    (fun _ _ => nofun) (fun _ _ _ _ _ ih => ih) (fun _ _ _ _ _ _ _ _ => nofun)
    (fun _ _ _ _ hf _ _ _ h => ⟨hf, (Except.error.inj h).symm⟩) keys s

/-! ## lazy deletions only -/

theorem Sys.setDbS_self (s : Sys) (d : Nat) : s.setDbS d (s.dbAt d) = s := by
  unfold Sys.setDbS Sys.dbAt
  have : s.srv.dbs.set d (s.srv.dbs.getD d []) = s.srv.dbs := by
    by_cases hd : d < s.srv.dbs.length
    · rw [List.getD_eq_getElem?_getD, List.getElem?_eq_getElem hd, Option.getD_some, List.set_getElem_self]
    · exact List.set_eq_of_length_le (by omega)
  simp only [this]

theorem Sys.setDbS_setDbS (s : Sys) (d : Nat) (a b : Db) : (s.setDbS d a).setDbS d b = s.setDbS d b := by
  unfold Sys.setDbS
  simp only [List.set_set]

/-- `s'` is `s` but for lazy deletions of expired entries in database `d` -/
def Sys.LazyStep (d : Nat) (s s' : Sys) : Prop :=
  ∃ db', s' = s.setDbS d db' ∧ Reads (s.dbAt d) db'

theorem Reads.time {a b : Db} (h : Reads a b) : b.time = a.time := by
  have := congrArg Db.time h.eq
  simpa using this

theorem Sys.LazyStep.refl {s : Sys} {d : Nat} (nd : NodupKeys (s.dbAt d).dict) : s.LazyStep d s :=
  ⟨s.dbAt d, (s.setDbS_self d).symm, Reads.refl nd⟩

theorem Sys.LazyStep.get {s : Sys} {d : Nat} (nd : NodupKeys (s.dbAt d).dict) (key : Bytes) :
    s.LazyStep d (s.looked d key) :=
  ⟨_, rfl, Reads.get nd key⟩

theorem Sys.LazyStep.dbAt {s s' : Sys} {d : Nat} (hd : d < s.srv.dbs.length) (h : s.LazyStep d s') :
    Reads (s.dbAt d) (s'.dbAt d) := by
  obtain ⟨db', rfl, hr⟩ := h
  rw [Sys.setDbS_dbAt_self s d db' hd hr.time]
  exact hr

theorem Sys.LazyStep.trans {s s1 s2 : Sys} {d : Nat} (hd : d < s.srv.dbs.length)
    (h1 : s.LazyStep d s1) (h2 : s1.LazyStep d s2) : s.LazyStep d s2 := by
  have hr1 := h1.dbAt hd
  obtain ⟨a, rfl, ha⟩ := h1
  obtain ⟨b, rfl, hb⟩ := h2
  exact ⟨b, Sys.setDbS_setDbS s d a b, hr1.trans hb⟩

theorem Sys.LazyStep.len {s s' : Sys} {d : Nat} (h : s.LazyStep d s') :
    s'.srv.dbs.length = s.srv.dbs.length := by
  obtain ⟨db', rfl, _⟩ := h; simp

theorem Sys.LazyStep.live {s s' : Sys} {d : Nat} (hd : d < s.srv.dbs.length) (h : s.LazyStep d s')
    (k : Bytes) : (s'.dbAt d).live k = (s.dbAt d).live k :=
  live_eq_of_purge (h.dbAt hd).eq k

theorem Sys.LazyStep.other {s s' : Sys} {d : Nat} (h : s.LazyStep d s') {j : Nat} (hj : j ≠ d) :
    s'.dbAt j = s.dbAt j := by
  obtain ⟨db', rfl, _⟩ := h
  exact Sys.setDbS_dbAt_ne s d j db' hj

theorem Sys.looked_dbAt (s : Sys) {d : Nat} (hd : d < s.srv.dbs.length) (key : Bytes) :
    (s.looked d key).dbAt d = ((s.dbAt d).get key).1 :=
  Sys.setDbS_dbAt_self s d _ hd (Db.get_time _ _)

/-! ## `bpopPass`: a pass that serves nothing -/

/-- key `k` cannot serve the pass: it is missing or expired, or (on a later pass) not a list -/
def Blocked (first : Bool) (db : Db) (k : Bytes) : Prop :=
  ∀ it, db.live k = some it → first = false ∧ ∀ l, it.value ≠ .list l

def HoldsList (db : Db) (k : Bytes) : Prop := ∃ it l, db.live k = some it ∧ it.value = .list l

/-- Of the statements about an unserved pass this is the one the others are read off; it needs unique keys and database
`d` to exist. -/
theorem bpopPass_unserved (d : Nat) (left first : Bool) (keys : List Bytes) (s : Sys) :
    d < s.srv.dbs.length → NodupKeys (s.dbAt d).dict →
    ((bpopPass d left first keys s).1 = .ok none →
      (∀ k ∈ keys, Blocked first (s.dbAt d) k) ∧ s.LazyStep d (bpopPass d left first keys s).2) ∧
    (∀ r, (bpopPass d left first keys s).1 = .ok (some r) → ∃ k ∈ keys, HoldsList (s.dbAt d) k) := by
  refine bpopPass_ind d left first (fun keys s r => d < s.srv.dbs.length → NodupKeys (s.dbAt d).dict →
    (r.1 = .ok none → (∀ k ∈ keys, Blocked first (s.dbAt d) k) ∧ s.LazyStep d r.2) ∧
    (∀ r', r.1 = .ok (some r') → ∃ k ∈ keys, HoldsList (s.dbAt d) k))
    (fun s _ nd => ⟨fun _ => ⟨fun _ hk => (by cases hk), Sys.LazyStep.refl nd⟩, nofun⟩) ?_ ?_ ?_ keys s
  · intro key rest s r hsk ih hd nd
    -- the look-up is a lazy deletion; it returns the live entry and keeps the live view
    have L1 := Sys.LazyStep.get nd key
    have hl := L1.live hd
    have hres : ((s.dbAt d).get key).2 = (s.dbAt d).live key := get_result key nd
    have hb : Blocked first (s.dbAt d) key := by
      intro it hit
      rw [← hres] at hit
      rcases hsk with hn | ⟨hf, it', hg, hv⟩
      · rw [hn] at hit; cases hit
      · rw [hg] at hit; cases hit; exact ⟨hf, hv⟩
    obtain ⟨i1, i2⟩ := ih (by rw [L1.len]; exact hd) (L1.dbAt hd).nd
    refine ⟨fun hn => ⟨?_, L1.trans hd (i1 hn).2⟩, fun r' hr => ?_⟩
    · intro k hk
      rcases List.mem_cons.1 hk with rfl | hk
      · exact hb
      · have := (i1 hn).1 k hk
        unfold Blocked at this ⊢
        rw [hl] at this; exact this
    · obtain ⟨k, hk, it, l, hlive, hv⟩ := i2 r' hr
      exact ⟨k, List.mem_cons_of_mem _ hk, it, l, by rw [← hl]; exact hlive, hv⟩
  · intro key rest s it l hg hv _ nd
    exact ⟨nofun, fun _ _ => ⟨key, List.mem_cons_self, it, l, (get_result key nd).symm.trans hg, hv⟩⟩
  · intro key rest s it _ _ _ _ _
    exact ⟨nofun, nofun⟩

/-! ## live entries; a database index that does not exist -/

theorem live_put_self {db : Db} (nd : NodupKeys db.dict) (k : Bytes) (v : Value) (e : Option Int)
    (he : db.expired ⟨v, e⟩ = false) : (db.put k v e).live k = some ⟨v, e⟩ := by
  unfold Db.live
  rw [put_purge k v e nd]
  simp only [purge_dict, purge_time]
  rw [lookup_filter _ k (nodup_setRaw k _ (nodup_filter _ nd)), lookup_setRaw_self]
  have : Db.expired { dict := setRaw (List.filter (fun p => !db.expired p.2) db.dict) k ⟨v, e⟩, time := db.time }
      = db.expired := expired_time rfl
  simp only [this, he, Bool.not_false, if_true]

theorem live_some_not_expired {db : Db} (nd : NodupKeys db.dict) {k : Bytes} {it : Item}
    (h : db.live k = some it) : db.expired it = false := by
  unfold Db.live at h
  rw [purge_dict, lookup_filter _ k nd] at h
  split at h
  · cases h
  · split at h
    · rename_i hp
      simp only [Option.some.injEq] at h
      subst h
      simpa using hp
    · cases h

theorem live_some_mem {db : Db} {k : Bytes} {it : Item} (h : db.live k = some it) : (k, it) ∈ db.dict := by
  unfold Db.live at h
  have := lookup_some_mem h
  rw [purge_dict] at this
  exact (List.mem_filter.1 this).1

theorem Sys.setDbS_out_of_range (s : Sys) (d : Nat) (db : Db) (h : s.srv.dbs.length ≤ d) : s.setDbS d db = s := by
  unfold Sys.setDbS
  simp only [List.set_eq_of_length_le h]

theorem Sys.dbAt_out_of_range (s : Sys) (d : Nat) (h : s.srv.dbs.length ≤ d) : s.dbAt d = ⟨[], s.srv.time⟩ := by
  unfold Sys.dbAt
  rw [List.getD_eq_getElem?_getD, List.getElem?_eq_none h]; rfl

theorem bpopPass_out_of_range (d : Nat) (left first : Bool) (keys : List Bytes) (s : Sys)
    (h : s.srv.dbs.length ≤ d) : bpopPass d left first keys s = (.ok none, s) := by
  -- every look-up in a database that does not exist finds nothing and changes nothing
  have look : ∀ key, ((s.dbAt d).get key).2 = none ∧ s.looked d key = s := fun key =>
    ⟨by rw [Sys.dbAt_out_of_range s d h]; rfl, Sys.setDbS_out_of_range s d _ h⟩
  refine bpopPass_ind d left first (fun _ s' r => s' = s → r = (.ok none, s)) (fun _ e => e ▸ rfl)
    (fun key _ _ _ _ ih e => ih (e ▸ (look key).2)) ?_ ?_ keys s rfl
  · rintro key _ _ it _ hg _ rfl; rw [(look key).1] at hg; cases hg
  · rintro key _ _ it _ hg _ rfl; rw [(look key).1] at hg; cases hg

/-- when a re-check (`first = false`) serves nothing, as a condition on the live view before the pass; for any `d` -/
theorem bpopPass_none_iff' (d : Nat) (left : Bool) (keys : List Bytes) (s : Sys)
    (nd : NodupKeys (s.dbAt d).dict) :
    (bpopPass d left false keys s).1 = .ok none ↔ ∀ k ∈ keys, ¬ HoldsList (s.dbAt d) k := by
  by_cases hd : d < s.srv.dbs.length
  · have spec := bpopPass_unserved d left false keys s hd nd
    constructor
    · intro h k hk ⟨it, l, hlive, hv⟩
      exact ((spec.1 h).1 k hk it hlive).2 l hv
    · intro hall
      cases hres : (bpopPass d left false keys s).1 with
      | error e => exact absurd (bpopPass_error d left false keys s e hres).1 (by simp)
      | ok o =>
        cases o with
        | none => rfl
        | some r =>
          obtain ⟨k, hk, hh⟩ := spec.2 r hres
          exact absurd hh (hall k hk)
  · have hd : s.srv.dbs.length ≤ d := by omega
    rw [bpopPass_out_of_range d left false keys s hd]
    refine ⟨fun _ k _ ⟨it, l, hlive, _⟩ => ?_, fun _ => rfl⟩
    rw [Sys.dbAt_out_of_range s d hd] at hlive
    cases hlive

/-- what an unserved pass (first or later) did to the state; for any `d` -/
theorem bpopPass_none_lazy (d : Nat) (left first : Bool) (keys : List Bytes) (s : Sys)
    (nd : NodupKeys (s.dbAt d).dict) (h : (bpopPass d left first keys s).1 = .ok none) :
    s.LazyStep d (bpopPass d left first keys s).2 := by
  by_cases hd : d < s.srv.dbs.length
  · exact ((bpopPass_unserved d left first keys s hd nd).1 h).2
  · rw [bpopPass_out_of_range d left first keys s (by omega)]
    exact Sys.LazyStep.refl nd

/-! ## `brpoplpushPass`, `parkedPass` -/

theorem bpopPass_reply (d : Nat) (left first : Bool) (keys : List Bytes) (s : Sys) :
    ∀ r, (bpopPass d left first keys s).1 = .ok (some r) → ∃ k l, r = bpopReply left k l :=
  bpopPass_ind d left first (fun _ _ x => ∀ r, x.1 = .ok (some r) → ∃ k l, r = bpopReply left k l)
    (fun _ _ => nofun) (fun _ _ _ _ _ ih => ih)
    (fun key _ _ _ l _ _ _ h => ⟨key, l, (Option.some.inj (Except.ok.inj h)).symm⟩)
    (fun _ _ _ _ _ _ _ _ => nofun) keys s

/-- what BRPOPLPUSH finds at its destination, as a list with its deadline (a missing key is the empty list); `none`:
a value of another type -/
def dstList : Option Item → Option (List Bytes × Option Int)
  | none => some ([], none)
  | some dit =>
    match dit.value with
    | .list dl => some (dl, dit.expireat)
    | _ => none

theorem dstList_some {o : Option Item} {dl : List Bytes} {dexp : Option Int} (h : dstList o = some (dl, dexp)) :
    (o = none ∧ dl = [] ∧ dexp = none) ∨ ∃ dit, o = some dit ∧ dit.value = .list dl ∧ dit.expireat = dexp := by
  cases o with
  | none => cases h; exact .inl ⟨rfl, rfl, rfl⟩
  | some dit =>
    obtain ⟨dv, de⟩ := dit
    cases dv with
    | list l => cases h; exact .inr ⟨_, rfl, rfl, rfl⟩
    | _ => cases h

/-- the `CommandItem`s a served BRPOPLPUSH writes back: the source keeps `rem`, `el` goes to the head of the destination
(`dl`, `dexp`: what is stored there); a single item when source and destination are the same key -/
def brplCIs (src dst : Bytes) (sexp : Option Int) (rem : List Bytes) (el : Bytes) (dl : List Bytes)
    (dexp : Option Int) : List CI :=
  if src == dst then [{ key := src, val := some (.list (el :: rem)), expireat := sexp, modified := true }]
  else [{ key := src, val := some (.list rem), expireat := sexp, modified := true },
        { key := dst, val := some (.list (el :: dl)), expireat := dexp, modified := true }]

/-- one pass of BRPOPLPUSH in closed form, by what the two lazy look-ups (source, then destination) return -/
theorem brpoplpushPass_run (d : Nat) (src dst : Bytes) (first : Bool) (s : Sys) :
    brpoplpushPass d src dst first s =
      match ((s.dbAt d).get src).2 with
      | none => (.ok none, s.looked d src)
      | some sit =>
        match sit.value with
        | .list sl =>
          match dstList (((s.looked d src).dbAt d).get dst).2 with
          | none => (.error Msgs.WRONGTYPE_MSG, (s.looked d src).looked d dst)
          | some (dl, dexp) =>
            match (Cmd.popRightN sl 1).1.head? with
            | none => (.ok none, (s.looked d src).looked d dst)
            | some el =>
              (.ok (some (.bulk el)),
                (writebackAll d (brplCIs src dst sit.expireat (Cmd.popRightN sl 1).2 el dl dexp)
                  ((s.looked d src).looked d dst)).2)
        | _ => (if first then .error Msgs.WRONGTYPE_MSG else .ok none, s.looked d src) := by
  unfold brpoplpushPass Sys.looked
  simp only [bind, StateT.bind, getDb_run', setDb_run']
  generalize (s.dbAt d).get src = g
  obtain ⟨db1, sitem⟩ := g
  rcases sitem with _ | ⟨sv, se⟩
  · rfl
  · cases sv with
    | list sl =>
      simp only [bind, StateT.bind, getDb_run', setDb_run']
      generalize s.setDbS d db1 = s1
      generalize (s1.dbAt d).get dst = g2
      obtain ⟨db2, ditem⟩ := g2
      generalize (Cmd.popRightN sl 1).fst.head? = ho
      rcases ditem with _ | ⟨dv, de⟩
      · cases ho with
        | none => rfl
        | some el => simp only [dstList, brplCIs]; split <;> rfl
      · cases dv with
        | list dl =>
          cases ho with
          | none => rfl
          | some el => simp only [dstList, brplCIs]; split <;> rfl
        | _ => rfl
    | _ => cases first <;> rfl

theorem brpoplpushPass_frame (P : Sys → Prop) (hset : ∀ s i db, P s → P (s.setDbS i db))
    (hmap : ∀ s d k, P s → P (s.mapConns (notifyFn d k)))
    (d : Nat) (src dst : Bytes) (first : Bool) (s : Sys) (h : P s) :
    P (brpoplpushPass d src dst first s).2 := by
  have h1 : P (s.looked d src) := hset s d _ h
  have h2 : P ((s.looked d src).looked d dst) := hset _ d _ h1
  rw [brpoplpushPass_run]
  split
  · exact h1
  · split
    · split
      · exact h2
      · split
        · exact h2
        · exact writebackAll_frame P hset hmap d _ _ h2
    · exact h1

theorem brpoplpushPass_reply (d : Nat) (src dst : Bytes) (first : Bool) (s : Sys) (r : Reply)
    (h : (brpoplpushPass d src dst first s).1 = .ok (some r)) : ∃ el, r = .bulk el := by
  rw [brpoplpushPass_run] at h
  split at h
  · cases h
  · split at h
    · split at h
      · cases h
      · split at h
        · cases h
        · exact ⟨_, (Option.some.inj (Except.ok.inj h)).symm⟩
    · cases first <;> cases h

theorem brpoplpushPass_error (d : Nat) (src dst : Bytes) (first : Bool) (s : Sys) (e : Err)
    (h : (brpoplpushPass d src dst first s).1 = .error e) : e = Msgs.WRONGTYPE_MSG := by
  rw [brpoplpushPass_run] at h
  split at h
  · cases h
  · split at h
    · split at h
      · exact (Except.error.inj h).symm
      · split at h <;> cases h
    · cases first
      · cases h
      · exact (Except.error.inj h).symm

/-! ## `_blocking` -/

/-- a pass of a blocking pop, as `_blocking` calls it: the argument is `first_pass` -/
abbrev Pass := Bool → M (Except Err (Option Reply))

def parkAs (kind : String) (keys : List Bytes) (db : Nat) (deadline : Option Int) (x : Conn) : Conn :=
  { x with parked := some { kind := kind, keys := keys, db := db, deadline := deadline } }

/-- parking on the asyncio front-end: the parser is paused as well, and there is no deadline -/
def parkAsync (kind : String) (keys : List Bytes) (db : Nat) (x : Conn) : Conn :=
  { x with paused := true, parked := some { kind := kind, keys := keys, db := db, deadline := none } }

/-- the `_blocking` call of BLPOP / BRPOP / BRPOPLPUSH: `AsyncFakeSocket._blocking` on the asyncio front-end,
`FakeSocket._blocking` otherwise.  `special` writes the call out (`if mode.async then blockingAsync … else blocking …`);
that is this term unfolded, so `blockCall_run` applies to it after `show blockCall … = _` (or by `rfl`). -/
def blockCall (mode : Mode) (c : Nat) (kind : String) (keys : List Bytes) (timeout : Int) (pass : Pass) :
    M (Except Err (Option Reply)) :=
  if mode.async then blockingAsync c kind keys pass else blocking c mode.park kind keys timeout pass

/-- the threaded `_blocking` reads the clock twice when a time-out was given (for the deadline, and on the first turn
of its loop) -/
def Sys.clocked (s1 : Sys) (timeout : Int) : Sys := if timeout != 0 then (nextClock (nextClock s1).2).2 else s1

def Sys.deadline (s1 : Sys) (timeout : Int) : Option Int :=
  if timeout != 0 then some ((nextClock s1).1 + timeout * TICKS) else none

/-- what `_blocking` does after a first pass that served nothing: nil at once inside a transaction; otherwise the asyncio
front-end parks and pauses, the scheduler harness (`mode.park`) parks with the deadline, and the single-threaded harness
answers nil (its wait times out at once) -/
def Sys.unserved (s1 : Sys) (mode : Mode) (c : Nat) (kind : String) (keys : List Bytes) (timeout : Int) :
    Except Err (Option Reply) × Sys :=
  if (s1.conn c).inTx then (.ok (some .nil), s1)
  else if mode.async then (.ok none, s1.updConn c (parkAsync kind keys (s1.conn c).db))
  else if mode.park then
    (.ok none, (s1.clocked timeout).updConn c (parkAs kind keys (s1.conn c).db (s1.deadline timeout)))
  else (.ok (some .nil), s1.clocked timeout)

/-- `_blocking` in closed form; the statements about blocking calls rest on this one -/
theorem blockCall_run (mode : Mode) (c : Nat) (kind : String) (keys : List Bytes) (timeout : Int) (pass : Pass)
    (s : Sys) :
    blockCall mode c kind keys timeout pass s =
      match (pass true s).1 with
      | .ok none => (pass true s).2.unserved mode c kind keys timeout
      | r => (r, (pass true s).2) := by
  unfold blockCall blocking blockingAsync Sys.unserved Sys.clocked Sys.deadline
  cases hp : pass true s with
  | mk r s1 =>
  -- a finite check: the pass result, `inTx`, the two mode switches, whether a time-out was given
  cases hin : (s1.conn c).inTx <;> cases mode.async <;> cases mode.park <;> by_cases ht : (timeout != 0) = true <;>
    rcases r with e | _ | r <;>
    simp only [hp, hin, ht, getConn_run, modifyConn_run, bind, StateT.bind, pure, StateT.pure, if_true, if_false,
      Bool.false_eq_true] <;> rfl

theorem blocking_run (c : Nat) (park : Bool) (kind : String) (keys : List Bytes) (timeout : Int) (pass : Pass) (s : Sys) :
    blocking c park kind keys timeout pass s =
      match (pass true s).1 with
      | .ok none => (pass true s).2.unserved ⟨park, false⟩ c kind keys timeout
      | r => (r, (pass true s).2) :=
  blockCall_run ⟨park, false⟩ c kind keys timeout pass s

theorem blockingAsync_run (c : Nat) (kind : String) (keys : List Bytes) (pass : Pass) (s : Sys) :
    blockingAsync c kind keys pass s =
      match (pass true s).1 with
      | .ok none => (pass true s).2.unserved ⟨false, true⟩ c kind keys 0
      | r => (r, (pass true s).2) :=
  blockCall_run ⟨false, true⟩ c kind keys 0 pass s

theorem blockCall_inTx (mode : Mode) (c : Nat) (kind : String) (keys : List Bytes) (timeout : Int) (pass : Pass)
    (s : Sys) (hin : ((pass true s).2.conn c).inTx = true) :
    blockCall mode c kind keys timeout pass s =
      match (pass true s).1 with
      | .ok none => (.ok (some .nil), (pass true s).2)
      | r => (r, (pass true s).2) := by
  rw [blockCall_run]
  generalize pass true s = X at hin
  obtain ⟨res, s1⟩ := X
  rcases res with e | _ | r
  · rfl
  · exact if_pos hin
  · rfl

theorem Sys.clocked_srv (s1 : Sys) (t : Int) : (s1.clocked t).srv = s1.srv := by
  unfold Sys.clocked; split
  · rw [nextClock_srv, nextClock_srv]
  · rfl

theorem Sys.clocked_hasConn (s1 : Sys) (t : Int) (c : Nat) : (s1.clocked t).HasConn c ↔ s1.HasConn c := by
  simp only [Sys.HasConn, Sys.clocked_srv]

theorem notifyFn_parked_isSome (d k x) : (notifyFn d k x).parked.isSome = x.parked.isSome := by
  rw [notifyFn_fields]; cases x.parked <;> rfl

namespace ListKeys

def errR (m : Err) : Reply := .err (strBytes m)

/-- the reply of a pass as the client sees it: `none` = not served (the command would block) -/
def passReply (r : Except Err (Option Reply)) : Option Reply :=
  match r with
  | .error e => some (errR e)
  | .ok o => o

theorem passReply_eq_none {res : Except Err (Option Reply)} (h : passReply res = none) : res = .ok none := by
  rcases res with e | _ | r
  · cases h
  · rfl
  · cases h

theorem passReply_eq_some {res : Except Err (Option Reply)} {r : Reply} :
    passReply res = some r ↔ res = .ok (some r) ∨ ∃ e, res = .error e ∧ r = .err (strBytes e) := by
  rcases res with e | _ | r'
  · exact ⟨fun h => .inr ⟨e, rfl, (Option.some.inj h).symm⟩, fun h => by rcases h with h | ⟨_, h, rfl⟩ <;> cases h; rfl⟩
  · exact ⟨nofun, fun h => by rcases h with h | ⟨_, h, _⟩ <;> cases h⟩
  · exact ⟨fun h => .inl (by cases h; rfl), fun h => by rcases h with h | ⟨_, h, _⟩ <;> cases h; rfl⟩

end ListKeys

/-! ## `parkedPass`, `wakeConn`, `timeoutConn` -/

theorem parkedPass_cases (c : Nat) (p : Parked) :
    (∃ src dst, p.kind = "brpoplpush" ∧ p.keys = [src, dst] ∧ parkedPass c p = brpoplpushPass p.db src dst false) ∨
    (p.kind = "blpop" ∧ parkedPass c p = bpopPass p.db true false p.keys) ∨
    (p.kind ≠ "blpop" ∧ parkedPass c p = bpopPass p.db false false p.keys) := by
  obtain ⟨kind, keys, db, dl, wk⟩ := p
  simp only [parkedPass]
  split
  · exact .inl ⟨_, _, rfl, rfl, rfl⟩
  · exact .inr (.inl ⟨rfl, rfl⟩)
  · rename_i h1 h2
    by_cases hk : kind = "blpop"
    · exact absurd hk h1
    · exact .inr (.inr ⟨hk, rfl⟩)

theorem parkedPass_frame (P : Sys → Prop) (hset : ∀ s i db, P s → P (s.setDbS i db))
    (hmap : ∀ s d k, P s → P (s.mapConns (notifyFn d k))) (c : Nat) (p : Parked) (s : Sys) (h : P s) :
    P (parkedPass c p s).2 := by
  rcases parkedPass_cases c p with ⟨src, dst, _, _, he⟩ | ⟨_, he⟩ | ⟨_, he⟩ <;> rw [he]
  · exact brpoplpushPass_frame P hset hmap _ _ _ _ s h
  · exact bpopPass_frame P hset hmap _ _ _ _ s h
  · exact bpopPass_frame P hset hmap _ _ _ _ s h

theorem parkedPass_not_nil (c : Nat) (p : Parked) (s : Sys) : (parkedPass c p s).1 ≠ .ok (some .nil) := by
  rcases parkedPass_cases c p with ⟨src, dst, _, _, he⟩ | ⟨_, he⟩ | ⟨_, he⟩ <;> rw [he]
  · intro h; obtain ⟨el, he⟩ := brpoplpushPass_reply _ _ _ _ _ _ h; cases he
  · intro h; obtain ⟨k, l, he⟩ := bpopPass_reply _ _ _ _ _ _ h; cases he
  · intro h; obtain ⟨k, l, he⟩ := bpopPass_reply _ _ _ _ _ _ h; cases he

theorem parkedPass_error (c : Nat) (p : Parked) (s : Sys) (e : Err) (h : (parkedPass c p s).1 = .error e) :
    e = Msgs.WRONGTYPE_MSG := by
  rcases parkedPass_cases c p with ⟨src, dst, _, _, he⟩ | ⟨_, he⟩ | ⟨_, he⟩ <;> rw [he] at h
  · exact brpoplpushPass_error _ _ _ _ _ _ h
  · exact (bpopPass_error _ _ _ _ _ _ h).2
  · exact (bpopPass_error _ _ _ _ _ _ h).2

/-! ## what a pass may change -/

/-- a connection record up to the notification flags (`watchNotified`, `parked.woken`) -/
def Conn.core (x : Conn) : Conn :=
  { x with watchNotified := false, parked := x.parked.map fun p => { p with woken := false } }

/-- what a blocking pass may change: the databases and the notification flags of connections -/
structure PassFrame (s s' : Sys) : Prop where
  out : s'.out = s.out
  clocks : s'.clocks = s.clocks
  picks : s'.picks = s.picks
  fault : s'.fault = s.fault
  crashed : s'.crashed = s.crashed
  subs : s'.srv.subs = s.srv.subs
  psubs : s'.srv.psubs = s.srv.psubs
  closedSockets : s'.srv.closedSockets = s.srv.closedSockets
  time : s'.srv.time = s.srv.time
  conn : ∀ c, (s'.conn c).core = (s.conn c).core
  hasConn : ∀ c, s'.HasConn c ↔ s.HasConn c

theorem PassFrame.refl (s : Sys) : PassFrame s s :=
  ⟨rfl, rfl, rfl, rfl, rfl, rfl, rfl, rfl, rfl, fun _ => rfl, fun _ => Iff.rfl⟩

theorem notifyFn_core (d : Nat) (key : Bytes) (x : Conn) : (notifyFn d key x).core = x.core := by
  rw [notifyFn_fields]
  obtain ⟨id, db, tx, txF, inTx, wn, w, ps, buf, paused, closed, dead, parked⟩ := x
  cases parked with
  | none => rfl
  | some p =>
    simp only [Conn.core, Option.map_some]
    split <;> rfl

theorem PassFrame.setDbS {s0 s : Sys} (h : PassFrame s0 s) (i : Nat) (db : Db) : PassFrame s0 (s.setDbS i db) :=
  ⟨h.out, h.clocks, h.picks, h.fault, h.crashed, h.subs, h.psubs, h.closedSockets, h.time, h.conn, h.hasConn⟩

theorem PassFrame.notify {s0 s : Sys} (h : PassFrame s0 s) (d : Nat) (k : Bytes) :
    PassFrame s0 (s.mapConns (notifyFn d k)) :=
  ⟨h.out, h.clocks, h.picks, h.fault, h.crashed, h.subs, h.psubs, h.closedSockets, h.time,
   fun c => by rw [Sys.conn_mapConns_notify, notifyFn_core]; exact h.conn c,
   fun c => (Sys.hasConn_mapConns s _ c (notifyFn_id d k)).trans (h.hasConn c)⟩

/-- the computation `x` changes at most what a blocking pass may change -/
structure Framed {α} (x : M α) : Prop where
  frame : ∀ s, PassFrame s (x s).2

theorem framed_getConn (c : Nat) : Framed (getConn c) := ⟨fun s => PassFrame.refl s⟩

theorem framed_bpopPass (d : Nat) (left first : Bool) (keys : List Bytes) : Framed (bpopPass d left first keys) :=
  ⟨fun s => bpopPass_frame (PassFrame s) (fun _ i db h => h.setDbS i db) (fun _ d k h => h.notify d k) d left first
    keys s (PassFrame.refl s)⟩

theorem framed_brpoplpushPass (d : Nat) (src dst : Bytes) (first : Bool) : Framed (brpoplpushPass d src dst first) :=
  ⟨fun s => brpoplpushPass_frame (PassFrame s) (fun _ i db h => h.setDbS i db) (fun _ d k h => h.notify d k) d src dst
    first s (PassFrame.refl s)⟩

theorem framed_parkedPass (c : Nat) (p : Parked) : Framed (parkedPass c p) :=
  ⟨fun s => parkedPass_frame (PassFrame s) (fun _ i db h => h.setDbS i db) (fun _ d k h => h.notify d k) c p s
    (PassFrame.refl s)⟩

theorem PassFrame.proj {β} {s s' : Sys} (h : PassFrame s s') (c : Nat) (p : Conn → β) (hp : ∀ x : Conn, p x.core = p x) :
    p (s'.conn c) = p (s.conn c) := by
  rw [← hp, h.conn c, hp]

theorem PassFrame.closed {s s' : Sys} (h : PassFrame s s') (c : Nat) : (s'.conn c).closed = (s.conn c).closed :=
  h.proj c Conn.closed (fun _ => rfl)
theorem PassFrame.paused {s s' : Sys} (h : PassFrame s s') (c : Nat) : (s'.conn c).paused = (s.conn c).paused :=
  h.proj c Conn.paused (fun _ => rfl)
theorem PassFrame.inTx {s s' : Sys} (h : PassFrame s s') (c : Nat) : (s'.conn c).inTx = (s.conn c).inTx :=
  h.proj c Conn.inTx (fun _ => rfl)
theorem PassFrame.buf {s s' : Sys} (h : PassFrame s s') (c : Nat) : (s'.conn c).buf = (s.conn c).buf :=
  h.proj c Conn.buf (fun _ => rfl)
theorem PassFrame.dead {s s' : Sys} (h : PassFrame s s') (c : Nat) : (s'.conn c).dead = (s.conn c).dead :=
  h.proj c Conn.dead (fun _ => rfl)
theorem PassFrame.tx {s s' : Sys} (h : PassFrame s s') (c : Nat) : (s'.conn c).tx = (s.conn c).tx :=
  h.proj c Conn.tx (fun _ => rfl)
theorem PassFrame.db {s s' : Sys} (h : PassFrame s s') (c : Nat) : (s'.conn c).db = (s.conn c).db :=
  h.proj c Conn.db (fun _ => rfl)
theorem PassFrame.watches {s s' : Sys} (h : PassFrame s s') (c : Nat) : (s'.conn c).watches = (s.conn c).watches :=
  h.proj c Conn.watches (fun _ => rfl)
theorem PassFrame.pubsub {s s' : Sys} (h : PassFrame s s') (c : Nat) : (s'.conn c).pubsub = (s.conn c).pubsub :=
  h.proj c Conn.pubsub (fun _ => rfl)
theorem PassFrame.parkedIsSome {s s' : Sys} (h : PassFrame s s') (c : Nat) :
    (s'.conn c).parked.isSome = (s.conn c).parked.isSome :=
  h.proj c (fun x => x.parked.isSome) (fun x => by cases hx : x.parked <;> simp [Conn.core, hx])

theorem nextClock_fst_congr {s s' : Sys} (h1 : s'.clocks = s.clocks) (h2 : s'.srv.time = s.srv.time) :
    (nextClock s').1 = (nextClock s).1 := by
  rw [nextClock_run, nextClock_run, h1]
  cases s.clocks with
  | nil => exact h2
  | cons t rest => rfl

theorem PassFrame.nextClock {s s' : Sys} (h : PassFrame s s') : (nextClock s').1 = (nextClock s).1 :=
  nextClock_fst_congr h.clocks h.time

theorem Sys.hasConn_of_parked {s : Sys} {c : Nat} {p : Parked} (h : (s.conn c).parked = some p) : s.HasConn c := by
  rcases s.conn_mem_or_default c with hm | he
  · exact ⟨_, hm, s.conn_id c⟩
  · rw [he] at h; cases h

def unpark (x : Conn) : Conn := { x with parked := none }
def stayParked (p : Parked) (x : Conn) : Conn := { x with parked := some { p with woken := false } }

/-- the state `wakeConn` ends in, from the result `res` and final state `s1` of the re-run pass -/
def wakeState (c : Nat) (p : Parked) (res : Except Err (Option Reply)) (s1 : Sys) : Sys :=
  match res with
  | .error e => (s1.updConn c unpark).emitS c (.err (strBytes e))
  | .ok (some r) => (s1.updConn c unpark).emitS c r
  | .ok none =>
    match p.deadline with
    | none => s1.updConn c (stayParked p)
    | some dl =>
      if dl - (nextClock s1).1 ≤ 0 then ((nextClock s1).2.updConn c unpark).emitS c .nil
      else (nextClock s1).2.updConn c (stayParked p)

theorem wakeConn_eq (c : Nat) (s : Sys) :
    wakeConn c s =
      match (s.conn c).parked with
      | none => M.fault "wake: connection is not parked" s
      | some p => ((), wakeState c p (parkedPass c p s).1 (parkedPass c p s).2) := by
  cases hp : (s.conn c).parked with
  | none => unfold wakeConn; simp only [bind, StateT.bind, getConn_run, hp]
  | some p =>
    show wakeConn c s = ((), wakeState c p (parkedPass c p s).1 (parkedPass c p s).2)
    unfold wakeConn wakeState
    simp only [bind, StateT.bind, getConn_run, hp]
    generalize parkedPass c p s = pr
    obtain ⟨res, s1⟩ := pr
    obtain ⟨kind, keys, db, dl, wk⟩ := p
    simp only
    cases res with
    | error e => simp only [bind, StateT.bind, modifyConn_run, emit_run]; rfl
    | ok o =>
      cases o with
      | some r => simp only [bind, StateT.bind, modifyConn_run, emit_run]; rfl
      | none =>
        simp only
        cases dl with
        | none => rfl
        | some dl =>
          simp only [bind, StateT.bind]
          generalize nextClock s1 = nc
          obtain ⟨t, s2⟩ := nc
          simp only
          split
          · simp only [bind, StateT.bind, modifyConn_run, emit_run]; rfl
          · rfl

/-- the reply with which a wake-up turn ends the wait, if it does: the error or the reply of the re-run pass, or nil
when the pass served nothing and the deadline has passed -/
def wakeReply (p : Parked) (res : Except Err (Option Reply)) (s1 : Sys) : Option Reply :=
  match res with
  | .error e => some (.err (strBytes e))
  | .ok (some r) => some r
  | .ok none =>
    match p.deadline with
    | none => none
    | some dl => if dl - (nextClock s1).1 ≤ 0 then some .nil else none

/-- an unserved re-check of a pop that has a deadline reads the clock -/
def wakeClock (p : Parked) : Except Err (Option Reply) → Sys → Sys
  | .ok none, s1 => if p.deadline.isSome then (nextClock s1).2 else s1
  | _, s1 => s1

theorem wakeReply_some {p : Parked} {res : Except Err (Option Reply)} {s1 : Sys} {rep : Reply}
    (h : wakeReply p res s1 = some rep) :
    (∃ e, res = .error e ∧ rep = .err (strBytes e)) ∨ res = .ok (some rep) ∨
      (res = .ok none ∧ rep = .nil ∧ ∃ dl, p.deadline = some dl ∧ dl - (nextClock s1).1 ≤ 0) := by
  unfold wakeReply at h
  rcases res with e | _ | r
  · cases h; exact .inl ⟨e, rfl, rfl⟩
  · cases hdl : p.deadline with
    | none => simp only [hdl] at h; cases h
    | some dl =>
      simp only [hdl] at h
      split at h
      · cases h; exact .inr (.inr ⟨rfl, rfl, dl, rfl, ‹_›⟩)
      · cases h
  · cases h; exact .inr (.inl rfl)

theorem wakeReply_none {p : Parked} {res : Except Err (Option Reply)} {s1 : Sys} (h : wakeReply p res s1 = none) :
    res = .ok none ∧ (p.deadline = none ∨ ∃ dl, p.deadline = some dl ∧ dl - (nextClock s1).1 > 0) := by
  unfold wakeReply at h
  rcases res with e | _ | r
  · cases h
  · cases hdl : p.deadline with
    | none => exact ⟨rfl, .inl rfl⟩
    | some dl =>
      simp only [hdl] at h
      split at h
      · cases h
      · exact ⟨rfl, .inr ⟨dl, rfl, by omega⟩⟩
  · cases h

theorem wakeState_eq (c : Nat) (p : Parked) (res : Except Err (Option Reply)) (s1 : Sys) :
    wakeState c p res s1 =
      match wakeReply p res s1 with
      | some r => ((wakeClock p res s1).updConn c unpark).emitS c r
      | none => (wakeClock p res s1).updConn c (stayParked p) := by
  unfold wakeState wakeReply wakeClock
  rcases res with e | _ | r
  · rfl
  · cases p.deadline with
    | none => rfl
    | some dl => dsimp only [Option.isSome]; split <;> rfl
  · rfl

theorem wakeClock_srv (p : Parked) (res) (s1 : Sys) : (wakeClock p res s1).srv = s1.srv := by
  unfold wakeClock; split
  · split
    · exact nextClock_srv s1
    · rfl
  · rfl

theorem wakeClock_out (p : Parked) (res) (s1 : Sys) : (wakeClock p res s1).out = s1.out := by
  unfold wakeClock; split
  · split
    · exact nextClock_out s1
    · rfl
  · rfl

theorem wakeClock_conn (p : Parked) (res) (s1 : Sys) (c : Nat) : (wakeClock p res s1).conn c = s1.conn c := by
  simp only [Sys.conn_def, wakeClock_srv]

theorem wakeClock_hasConn (p : Parked) (res) (s1 : Sys) (c : Nat) : (wakeClock p res s1).HasConn c ↔ s1.HasConn c := by
  simp only [Sys.HasConn, wakeClock_srv]

theorem wakeState_dbs (c : Nat) (p : Parked) (res) (s1 : Sys) : (wakeState c p res s1).srv.dbs = s1.srv.dbs := by
  rw [wakeState_eq]
  split
  · rw [Sys.emitS_srv, Sys.updConn_dbs, wakeClock_srv]
  · rw [Sys.updConn_dbs, wakeClock_srv]

theorem wakeState_out (c : Nat) (p : Parked) (res) (s1 : Sys) (h : s1.HasConn c) :
    (wakeState c p res s1).out =
      match wakeReply p res s1 with
      | some r => if (s1.conn c).closed then s1.out else (c, r) :: s1.out
      | none => s1.out := by
  rw [wakeState_eq]
  split
  · rw [Sys.emitS_out, Sys.conn_updConn_same unpark ((wakeClock_hasConn p res s1 c).2 h) (fun _ => rfl),
      Sys.updConn_out, wakeClock_out, wakeClock_conn]; rfl
  · rw [Sys.updConn_out, wakeClock_out]

theorem wakeState_parked (c : Nat) (p : Parked) (res) (s1 : Sys) (h : s1.HasConn c) :
    ((wakeState c p res s1).conn c).parked =
      match wakeReply p res s1 with
      | some _ => none
      | none => some { p with woken := false } := by
  have h' := (wakeClock_hasConn p res s1 c).2 h
  rw [wakeState_eq]
  split
  · rw [Sys.emitS_conn, Sys.conn_updConn_same unpark h' (fun _ => rfl)]; rfl
  · rw [Sys.conn_updConn_same (stayParked p) h' (fun _ => rfl)]; rfl

theorem timeoutConn_eq (c : Nat) (s : Sys) :
    timeoutConn c s =
      if (s.conn c).parked.isSome then ((), (s.updConn c unpark).emitS c .nil)
      else M.fault "timeout: connection is not parked" s := by
  unfold timeoutConn
  cases hp : (s.conn c).parked with
  | none => simp only [bind, StateT.bind, getConn_run, hp]; rfl
  | some p => simp only [bind, StateT.bind, getConn_run, hp, modifyConn_run, emit_run]; rfl

/-- what a turn that answers connection `c` leaves -/
theorem Sys.updConn_emitS_facts (s1 : Sys) (c : Nat) (f : Conn → Conn) (r : Reply) (h : s1.HasConn c)
    (hid : ∀ x, (f x).id = x.id) (hcl : ∀ x, (f x).closed = x.closed) :
    ((s1.updConn c f).emitS c r).conn c = f (s1.conn c) ∧
    ((s1.updConn c f).emitS c r).out = (if (s1.conn c).closed then s1.out else (c, r) :: s1.out) ∧
    ((s1.updConn c f).emitS c r).srv.dbs = s1.srv.dbs ∧
    (∀ c', c' ≠ c → ((s1.updConn c f).emitS c r).conn c' = s1.conn c') := by
  have hc : (s1.updConn c f).conn c = f (s1.conn c) := Sys.conn_updConn_same f h hid
  refine ⟨?_, ?_, ?_, ?_⟩
  · rw [Sys.emitS_conn, hc]
  · rw [Sys.emitS_out, hc, hcl]; rfl
  · rw [Sys.emitS_srv]; rfl
  · intro c' hne
    rw [Sys.emitS_conn, Sys.conn_updConn_ne f hne hid]

end FR

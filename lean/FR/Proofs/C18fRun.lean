import FR.Props.C01k
import FR.Props.C02h
import FR.Proofs.C18fRound
import FR.Proofs.C03zCmds
/-!
# C18f through the runner — what INCRBYFLOAT / HINCRBYFLOAT store and what ZADD-then-ZSCORE answers

About the real runner (`runRegular` / `HashSet.run`, registered signature and body), for every database satisfying the
standing invariants and both emulated versions.  `incrbyfloat_outcome`, `hincrbyfloat_outcome`: an error and no change, or
reply and stored string are the encoding of a finite canonical `cur + a`.  `zadd_zscore_exact`: ZSCORE answers the score sent
(after the version-7 normalisation `zaddScore`), except that an IEEE-equal old score keeps its representation
(`scoreAfter_cases`) — which only matters for the sign of a zero (`fmtScore_fin_zero`).
-/
namespace FR.C18f
open FR FR.StrKeys FR.DumpRound
set_option linter.unusedVariables false

/-! ## 1. INCRBYFLOAT -/

theorem incrFloatOn_outcome (version : Nat) (live : Bytes → Option Item) (k stored : Bytes) (e : Option Int)
    (amount : Bytes) :
    (∃ msg, (incrFloatOn version live k stored e amount).1 = .err msg ∧
      (incrFloatOn version live k stored e amount).2 = live) ∨
    (∃ cur a : Dbl, Conv.float stored = .ok cur ∧ Conv.float amount = .ok a ∧
      (Dbl.add cur a).isFinite = true ∧ Canon (Dbl.add cur a) ∧
      (incrFloatOn version live k stored e amount).1 = .bulk (Cmd.encodeFloat version (Dbl.add cur a) true) ∧
      (incrFloatOn version live k stored e amount).2 =
        upd live k (some ⟨.str (Cmd.encodeFloat version (Dbl.add cur a) true), e⟩)) := by
  unfold incrFloatOn
  cases hc : Conv.float stored with
  | error m => exact Or.inl ⟨_, rfl, rfl⟩
  | ok cur =>
    cases ha : Conv.float amount with
    | error m => exact Or.inl ⟨_, rfl, rfl⟩
    | ok a =>
      by_cases hf : (Dbl.add cur a).isFinite = true
      · refine Or.inr ⟨cur, a, rfl, rfl, hf, add_canon _ _, ?_, ?_⟩ <;> simp only [hf, if_true]
      · refine Or.inl ⟨strBytes Msgs.NONFINITE_MSG, ?_, ?_⟩ <;> simp only [hf] <;> rfl

theorem incrbyfloat_outcome (ctx : Ctx) (db : Db) (nd : NodupKeys db.dict) (ne : NoEmpty db.dict)
    (k amount : Bytes) :
    let out := runRegular sigIncrbyfloat Cmd.incrbyfloat ctx none [k, amount] db
    (∃ msg, out.reply = .err msg ∧ out.db.live = db.live) ∨
    (∃ (s : Dbl) (e : Option Int) (stored : Bytes) (cur a : Dbl),
      ((db.live k = none ∧ stored = strBytes "0" ∧ e = none) ∨ db.live k = some ⟨.str stored, e⟩) ∧
      Conv.float stored = .ok cur ∧ Conv.float amount = .ok a ∧ s = Dbl.add cur a ∧
      s.isFinite = true ∧ Canon s ∧
      out.reply = .bulk (Cmd.encodeFloat ctx.version s true) ∧
      out.db.live = upd db.live k (some ⟨.str (Cmd.encodeFloat ctx.version s true), e⟩)) := by
  intro out
  have h := Props.C01k.incrbyfloat_spec ctx db nd ne k amount
  have h1 : out.reply = _ := congrArg Prod.fst h
  have h2 : out.db.live = _ := congrArg Prod.snd h
  cases hl : db.live k with
  | none =>
    rw [hl] at h1 h2
    simp only at h1 h2
    rcases incrFloatOn_outcome ctx.version db.live k (strBytes "0") none amount with ⟨msg, e1, e2⟩ | ⟨cur, a, c1, c2, c3, c4, c5, c6⟩
    · exact Or.inl ⟨msg, h1.trans e1, h2.trans e2⟩
    · exact Or.inr ⟨_, none, strBytes "0", cur, a, Or.inl ⟨rfl, rfl, rfl⟩, c1, c2, rfl, c3, c4, h1.trans c5,
        h2.trans c6⟩
  | some it =>
    obtain ⟨v, e⟩ := it
    rw [hl] at h1 h2
    cases v with
    | str b =>
      simp only at h1 h2
      rcases incrFloatOn_outcome ctx.version db.live k b e amount with ⟨msg, e1, e2⟩ | ⟨cur, a, c1, c2, c3, c4, c5, c6⟩
      · exact Or.inl ⟨msg, h1.trans e1, h2.trans e2⟩
      · exact Or.inr ⟨_, e, b, cur, a, Or.inr rfl, c1, c2, rfl, c3, c4, h1.trans c5, h2.trans c6⟩
    | _ => exact Or.inl ⟨_, h1, h2⟩

/-- non-vacuity: both branches occur (`"1.5"` plus `"2"` keeps the deadline; `"inf"` is refused; a list is WRONGTYPE) -/
example :
    let db : Db := ⟨[([97], ⟨.str (strBytes "1.5"), some 70⟩), ([98], ⟨.list [[1]], none⟩)], 50⟩
    let ctx : Ctx := ⟨7, 50, 0, false, []⟩
    NodupKeys db.dict ∧ NoEmpty db.dict ∧
    (match (runRegular sigIncrbyfloat Cmd.incrbyfloat ctx none [[97], strBytes "2"] db).reply with
      | .bulk b => b | _ => []) = strBytes "3.5" ∧
    Props.C01k.strView ((runRegular sigIncrbyfloat Cmd.incrbyfloat ctx none [[97], strBytes "2"] db).db.live [97]) =
      some (strBytes "3.5", some 70) ∧
    (runRegular sigIncrbyfloat Cmd.incrbyfloat ctx none [[97], strBytes "inf"] db).reply.isErr = true ∧
    (runRegular sigIncrbyfloat Cmd.incrbyfloat ctx none [[98], strBytes "2"] db).reply.isErr = true := by
  have h :
      let db : Db := ⟨[([97], ⟨.str (strBytes "1.5"), some 70⟩), ([98], ⟨.list [[1]], none⟩)], 50⟩
      let ctx : Ctx := ⟨7, 50, 0, false, []⟩
      (match (runRegular sigIncrbyfloat Cmd.incrbyfloat ctx none [[97], strBytes "2"] db).reply with
        | .bulk b => b | _ => []) = strBytes "3.5" ∧
      Props.C01k.strView ((runRegular sigIncrbyfloat Cmd.incrbyfloat ctx none [[97], strBytes "2"] db).db.live [97]) =
        some (strBytes "3.5", some 70) ∧
      (runRegular sigIncrbyfloat Cmd.incrbyfloat ctx none [[97], strBytes "inf"] db).reply.isErr = true ∧
      (runRegular sigIncrbyfloat Cmd.incrbyfloat ctx none [[98], strBytes "2"] db).reply.isErr = true := by
    decide +kernel
  refine ⟨by decide, ?_, h⟩
  intro p hp
  simp only [List.mem_cons, List.not_mem_nil, or_false] at hp
  rcases hp with rfl | rfl <;> rfl

/-! ## 2. HINCRBYFLOAT -/

theorem hincrbyfloat_outcome (ctx : Ctx) (db : Db) (nd : NodupKeys db.dict) (wf : HashSet.LiveWF db) (key : Bytes)
    (h : HashSet.HashV) (e : Option Int) (hv : HashSet.hashView db.live key = some (h, e)) (f amt : Bytes) :
    let out := HashSet.run "hincrbyfloat" ctx [key, f, amt] db
    (∃ msg, out.reply = .err msg ∧ out.db.live = db.live) ∨
    (∃ (s cur a : Dbl),
      Conv.float ((HashSet.hmap db key f).getD (strBytes "0")) = .ok cur ∧ Conv.float amt = .ok a ∧
      s = Dbl.add cur a ∧ s.isFinite = true ∧ Canon s ∧
      out.reply = .bulk (Cmd.encodeFloat ctx.version s true) ∧
      HashSet.hmap out.db key f = some (Cmd.encodeFloat ctx.version s true) ∧
      (∀ x, x ≠ f → HashSet.hmap out.db key x = HashSet.hmap db key x) ∧
      out.db.live =
        HashSet.putAt db.live key (.hash (ZSet.dictSet h f (Cmd.encodeFloat ctx.version s true))) e ∧
      (∀ k', k' ≠ key → out.db.live k' = db.live k') ∧
      HashSet.LiveWF out.db) := by
  intro out
  have hr := Props.C02h.hincrbyfloat_refines ctx db nd wf key h e hv f amt
  simp only at hr
  cases hcur : Conv.float ((HashSet.hmap db key f).getD (strBytes "0")) with
  | error er =>
    rw [hcur] at hr
    exact Or.inl ⟨_, hr.1, hr.2.1⟩
  | ok cur =>
    cases ha : Conv.float amt with
    | error er =>
      rw [hcur, ha] at hr
      exact Or.inl ⟨_, hr.1, hr.2.1⟩
    | ok a =>
      rw [hcur, ha] at hr
      simp only at hr
      by_cases hf : (Dbl.add cur a).isFinite = true
      · rw [if_pos hf] at hr
        obtain ⟨r1, _, r3, r4, r5, r6⟩ := hr
        refine Or.inr ⟨_, cur, a, rfl, rfl, rfl, hf, add_canon _ _, r1, ?_, ?_, r4, r5, r6⟩
        · rw [r3 f, if_pos rfl]
        · intro x hx; rw [r3 x, if_neg hx]
      · rw [if_neg hf] at hr
        exact Or.inl ⟨_, hr.1, hr.2.1⟩

/-- non-vacuity on the database of `FR.Props.C02h`: a sum stored, a non-float field refused, a string key WRONGTYPE -/
example :
    NodupKeys Props.C02h.exDb.dict ∧ HashSet.LiveWF Props.C02h.exDb ∧
    HashSet.hashView Props.C02h.exDb.live [6] = some ([([10], [53])], none) ∧
    HashSet.hashView Props.C02h.exDb.live [2] = none ∧
    HashSet.hmap (HashSet.run "hincrbyfloat" Props.C02h.exCtx [[6], [10], strBytes "0.5"] Props.C02h.exDb).db [6] [10]
      = some (strBytes "5.5") ∧
    (HashSet.run "hincrbyfloat" Props.C02h.exCtx [[1], [10], [49]] Props.C02h.exDb).reply.isErr = true :=
  have h : HashSet.hmap
        (HashSet.run "hincrbyfloat" Props.C02h.exCtx [[6], [10], strBytes "0.5"] Props.C02h.exDb).db [6] [10]
        = some (strBytes "5.5") ∧
      (HashSet.run "hincrbyfloat" Props.C02h.exCtx [[1], [10], [49]] Props.C02h.exDb).reply.isErr = true := by
    decide +kernel
  ⟨by decide, HashSet.liveWF_of_dict (by decide), by rfl, by rfl, h⟩

/-! ## 3. ZADD then ZSCORE -/

/-- what a sorted-set command sees at `key`: the stored sorted set (the empty one when the key is missing) and the
deadline; `none` when another type is stored -/
def zsetView (live : HashSet.Live) (key : Bytes) : Option (ZSet × Option Int) :=
  match live key with
  | none => some (ZSet.empty, none)
  | some it =>
    match it.value with
    | .zset z => some (z, it.expireat)
    | _ => none

theorem zsetView_missing {live : HashSet.Live} {key : Bytes} (h : live key = none) :
    zsetView live key = some (ZSet.empty, none) :=
  ZCmd.zsetC.see_missing h

theorem live_of_view_get {live : HashSet.Live} {key : Bytes} {z : ZSet} {e : Option Int}
    (hv : zsetView live key = some (z, e)) {m : Bytes} {s : Dbl} (hg : z.get m = some s) :
    live key = some ⟨.zset z, e⟩ := by
  rcases ZCmd.zsetC.see_cases (show ZCmd.zsetView live key = some (z, e) from hv) with ⟨_, rfl, _⟩ | hl
  · cases hg
  · exact hl

theorem zscore_run (ctx : Ctx) (db : Db) (nd : NodupKeys db.dict) (k : Bytes) (z : ZSet) (e : Option Int)
    (hv : zsetView db.live k = some (z, e)) (m : Bytes) :
    (HashSet.run "zscore" ctx [k, m] db).reply =
      (match z.get m with | some s => .bulk (Cmd.fmtScore ctx s) | none => .nil) ∧
    (HashSet.run "zscore" ctx [k, m] db).db.live = db.live ∧
    (HashSet.run "zscore" ctx [k, m] db).failed = false :=
  ZCmd.run_zscore ctx k nd hv m

theorem zscore_wrongtype (ctx : Ctx) (db : Db) (nd : NodupKeys db.dict) (k m : Bytes)
    (hv : zsetView db.live k = none) :
    (HashSet.run "zscore" ctx [k, m] db).reply = .err (strBytes Msgs.WRONGTYPE_MSG) ∧
    (HashSet.run "zscore" ctx [k, m] db).db.live = db.live := by
  have := HashSet.typed_wrongtype ZCmd.zsetC (name := "zscore") ⟨rfl, by decide, by decide⟩ ctx k [m] nd
    (by show HashSet.ArityOK _ 2; decide) (as := [.raw m]) rfl hv
  exact ⟨this.1, this.2.1⟩

/-- the score of `m` after `ZSet.add z m s` -/
def scoreAfter (z : ZSet) (m : Bytes) (s : Dbl) : Dbl :=
  match z.get m with
  | some old => if Dbl.eq s old then old else s
  | none => s

theorem get_add_scoreAfter (z : ZSet) (m : Bytes) (s : Dbl) : (z.add m s).1.get m = some (scoreAfter z m s) := by
  rw [ZSet.get_add, if_pos rfl]
  unfold scoreAfter
  cases z.get m with
  | none => rfl
  | some old => simp only []; split <;> rfl

theorem scoreAfter_cases (z : ZSet) (m : Bytes) (s : Dbl) :
    (scoreAfter z m s = s ∧ ∀ old, z.get m = some old → ¬ Dbl.eq s old = true) ∨
    (∃ old, z.get m = some old ∧ Dbl.eq s old = true ∧ scoreAfter z m s = old) := by
  unfold scoreAfter
  cases hg : z.get m with
  | none => exact Or.inl ⟨rfl, fun _ h => by cases h⟩
  | some old =>
    simp only []
    by_cases he : Dbl.eq s old = true
    · rw [if_pos he]
      exact Or.inr ⟨old, rfl, he, rfl⟩
    · rw [if_neg he]
      exact Or.inl ⟨rfl, fun o ho => by cases ho; exact he⟩

/-- the answer is the formatted `scoreAfter`: the score sent (version 7: `0.0 +` it, `zaddScore`), unless the member had an
IEEE-equal score, whose representation `ZSet.add` keeps -/
theorem zadd_zscore_exact (ctx : Ctx) (db : Db) (nd : NodupKeys db.dict) (k : Bytes) (z : ZSet) (e : Option Int)
    (hv : zsetView db.live k = some (z, e)) (sb m : Bytes) (s : Dbl)
    (hf : notZaddFlag sb) (hs : Conv.float sb = .ok s) :
    let o1 := HashSet.run "zadd" ctx [k, sb, m] db
    let o2 := HashSet.run "zscore" ctx [k, m] o1.db
    o2.reply = .bulk (Cmd.fmtScore ctx (scoreAfter z m (zaddScore ctx.version s))) ∧
    o2.db.live = o1.db.live ∧
    o1.db.live k = some ⟨.zset (z.add m (zaddScore ctx.version s)).1, e⟩ := by
  intro o1 o2
  obtain ⟨_, l1⟩ := zadd_run ctx db nd k z e hv sb m s hf hs
  have nd1 : NodupKeys o1.db.dict := runRegular_nodup _ _ ctx none _ nd
  have hk : o1.db.live k = some ⟨.zset (z.add m (zaddScore ctx.version s)).1, e⟩ := by
    rw [show o1.db.live = _ from l1, upd_self]
  obtain ⟨r2, l2, _⟩ := zscore_run ctx o1.db nd1 k _ e (ZCmd.zsetView_stored hk) m
  refine ⟨?_, l2, hk⟩
  rw [show o2.reply = _ from r2, get_add_scoreAfter]

theorem zadd_zscore (ctx : Ctx) (db : Db) (nd : NodupKeys db.dict) (k : Bytes) (z : ZSet) (e : Option Int)
    (hv : zsetView db.live k = some (z, e)) (sb m : Bytes) (s : Dbl)
    (hf : notZaddFlag sb) (hs : Conv.float sb = .ok s) :
    let o1 := HashSet.run "zadd" ctx [k, sb, m] db
    let o2 := HashSet.run "zscore" ctx [k, m] o1.db
    (∃ s', o2.reply = .bulk (Cmd.fmtScore ctx s') ∧
      (s' = zaddScore ctx.version s ∨ (z.get m = some s' ∧ Dbl.eq (zaddScore ctx.version s) s' = true))) ∧
    o2.db.live = o1.db.live := by
  intro o1 o2
  obtain ⟨r, l, _⟩ := zadd_zscore_exact ctx db nd k z e hv sb m s hf hs
  refine ⟨⟨_, r, ?_⟩, l⟩
  rcases scoreAfter_cases z m (zaddScore ctx.version s) with ⟨h, _⟩ | ⟨old, hg, he, h⟩
  · exact Or.inl h
  · rw [h]
    exact Or.inr ⟨hg, he⟩

theorem zaddScore_v6 (version : Nat) (hv : version < 7) (s : Dbl) : zaddScore version s = s := by
  unfold zaddScore
  rw [if_neg (by omega)]

theorem zaddScore_v7 (version : Nat) (hv : 7 ≤ version) (s : Dbl) : zaddScore version s = s.plusZero := by
  unfold zaddScore
  rw [if_pos hv]

theorem zaddScore_isZero (version : Nat) {s : Dbl} (hz : s.isZero = true) : (zaddScore version s).isZero = true := by
  obtain ⟨n, e, rfl⟩ := isZero_fin hz
  unfold zaddScore
  split
  · rw [plusZero_zero]
    rfl
  · rfl

theorem zaddScore_v7_negzero (version : Nat) (hv : 7 ≤ version) :
    zaddScore version (.fin true 0 (-1074)) = .fin false 0 (-1074) := by
  rw [zaddScore_v7 version hv, plusZero_zero]

/-- the hypotheses of the theorems below are satisfiable with `-0` -/
example : Conv.float (strBytes "-0") = .ok (.fin true 0 (-1074)) ∧ notZaddFlag (strBytes "-0") :=
  ⟨by with_unfolding_all rfl, by decide +kernel⟩

theorem encode_fin_zero (n : Bool) (e : Int) :
    Dbl.encode (.fin n 0 e) false = strBytes (if n then "-0" else "0") := by
  have h : ∀ n : Bool, Dbl.fmtG17 (.fin n 0 e) = (if n then "-" else "") ++ "0" := fun n => rfl
  show strBytes (Dbl.fmtG17 (.fin n 0 e)) = _
  rw [h]
  cases n <;> rfl

/-- version 7 prints `0.0 + score`, so only version 6 can answer `-0` -/
theorem fmtScore_fin_zero (ctx : Ctx) (n : Bool) (e : Int) :
    Cmd.fmtScore ctx (.fin n 0 e) = strBytes (if n && decide (ctx.version < 7) then "-0" else "0") := by
  show Dbl.encode (zaddScore ctx.version (.fin n 0 e)) false = _
  by_cases h : 7 ≤ ctx.version
  · rw [zaddScore_v7 _ h, plusZero_zero, encode_fin_zero, decide_eq_false (by omega), Bool.and_false]
  · rw [zaddScore_v6 _ (by omega), encode_fin_zero, decide_eq_true (by omega), Bool.and_true]

theorem fmtScore_negzero_v6 (ctx : Ctx) (hv : ctx.version < 7) :
    Cmd.fmtScore ctx (.fin true 0 (-1074)) = strBytes "-0" := by
  rw [fmtScore_fin_zero, decide_eq_true hv]
  rfl

theorem fmtScore_negzero_v7 (ctx : Ctx) (hv : 7 ≤ ctx.version) :
    Cmd.fmtScore ctx (.fin true 0 (-1074)) = strBytes "0" := by
  rw [fmtScore_fin_zero, decide_eq_false (by omega)]
  rfl

theorem fmtScore_poszero (ctx : Ctx) : Cmd.fmtScore ctx (.fin false 0 (-1074)) = strBytes "0" := by
  rw [fmtScore_fin_zero]
  rfl

example : (⟨6, 0, 0, false, []⟩ : Ctx).version < 7 ∧ 7 ≤ (⟨7, 0, 0, false, []⟩ : Ctx).version := by decide

/-- the old score must be canonical (`ScoresCanon`, `hold_of_scoresCanon`) for an IEEE-equal old score to be the one sent -/
theorem zadd_zscore_nonzero (ctx : Ctx) (db : Db) (nd : NodupKeys db.dict) (k : Bytes) (z : ZSet) (e : Option Int)
    (hv : zsetView db.live k = some (z, e)) (sb m : Bytes) (s : Dbl)
    (hf : notZaddFlag sb) (hs : Conv.float sb = .ok s)
    (hold : ∀ old, z.get m = some old → Canon old)
    (hnz : (zaddScore ctx.version s).isZero = false) :
    let o1 := HashSet.run "zadd" ctx [k, sb, m] db
    let o2 := HashSet.run "zscore" ctx [k, m] o1.db
    o2.reply = .bulk (Cmd.fmtScore ctx (zaddScore ctx.version s)) ∧
    scoreAfter z m (zaddScore ctx.version s) = zaddScore ctx.version s ∧
    o2.db.live = o1.db.live := by
  intro o1 o2
  obtain ⟨r, l, _⟩ := zadd_zscore_exact ctx db nd k z e hv sb m s hf hs
  have hsa : scoreAfter z m (zaddScore ctx.version s) = zaddScore ctx.version s := by
    rcases scoreAfter_cases z m (zaddScore ctx.version s) with ⟨h, _⟩ | ⟨old, hg, he, h⟩
    · exact h
    · rw [h]
      exact (eq_of_eq_canon he (zaddScore_facts hs ctx.version).2 (hold old hg) hnz).symm
  refine ⟨?_, hsa, l⟩
  rw [← hsa]; exact r

theorem hold_of_scoresCanon {z : ZSet} (hz : z.Inv) (hc : ScoresCanon z) (m : Bytes) :
    ∀ old, z.get m = some old → Canon old := by
  intro old hg
  exact hc (old, m) ((ZSet.get_iff_mem_byscore hz).1 hg)

/-- for the examples: `m ↦ +0`, `n ↦ 1.5` stored under `z` with a deadline; `[2]` holds a string; `[9]` is missing -/
def runExZ : ZSet := rebuild [([109], .fin false 0 (-1074)), ([110], .fin false 6755399441055744 (-52))]
def runExDb : Db := ⟨[([122], ⟨.zset runExZ, some 90⟩), ([2], ⟨.str [7], none⟩)], 5⟩
def runExC6 : Ctx := ⟨6, 5, 0, false, []⟩
def runExC7 : Ctx := ⟨7, 5, 0, false, []⟩
def runBulkOf (r : Reply) : Bytes := match r with | .bulk b => b | _ => []

/-- the hypotheses of `zscore_run`, `zadd_run`, `zadd_zscore*` hold on it -/
example :
    NodupKeys runExDb.dict ∧ zsetView runExDb.live [122] = some (runExZ, some 90) ∧
    zsetView runExDb.live [9] = some (ZSet.empty, none) ∧ zsetView runExDb.live [2] = none ∧
    Conv.float (strBytes "1.5") = .ok (.fin false 6755399441055744 (-52)) ∧ notZaddFlag (strBytes "1.5") ∧
    runExZ.Inv ∧ ScoresCanon runExZ ∧
    (∀ old, runExZ.get [109] = some old → Canon old) ∧
    (zaddScore 7 (.fin false 6755399441055744 (-52))).isZero = false ∧
    (zaddScore 6 (.fin false 6755399441055744 (-52))).isZero = false ∧
    (zaddScore 6 (.fin true 0 (-1074))).isZero = true ∧ (zaddScore 7 (.fin true 0 (-1074))).isZero = true ∧
    runExZ.get [109] = some (.fin false 0 (-1074)) ∧ runExZ.get [111] = none := by
  have hinv : runExZ.Inv := rebuild_inv _ (by decide)
  have hc : ScoresCanon runExZ := by unfold ScoresCanon; decide +kernel
  exact ⟨by decide, by rfl, by rfl, by rfl, by with_unfolding_all rfl, by decide +kernel, hinv, hc,
    hold_of_scoresCanon hinv hc _, by decide +kernel, by decide +kernel, by decide +kernel, by decide +kernel,
    by decide +kernel, by decide +kernel⟩

/-- the sign of zero through the runner: `ZADD k -0 m` on a missing key answers `-0` in version 6, `0` in version 7; over an
old `+0` (version 6) the old `+0` is kept; over `1.5` the answer is `-0` -/
example :
    runBulkOf (HashSet.run "zscore" runExC6 [[9], [109]] (HashSet.run "zadd" runExC6 [[9], strBytes "-0", [109]] runExDb).db).reply
      = strBytes "-0" ∧
    runBulkOf (HashSet.run "zscore" runExC7 [[9], [109]] (HashSet.run "zadd" runExC7 [[9], strBytes "-0", [109]] runExDb).db).reply
      = strBytes "0" ∧
    runBulkOf (HashSet.run "zscore" runExC6 [[122], [109]]
      (HashSet.run "zadd" runExC6 [[122], strBytes "-0", [109]] runExDb).db).reply = strBytes "0" ∧
    runBulkOf (HashSet.run "zscore" runExC6 [[122], [110]]
      (HashSet.run "zadd" runExC6 [[122], strBytes "-0", [110]] runExDb).db).reply = strBytes "-0" ∧
    runBulkOf (HashSet.run "zscore" runExC7 [[122], [109]]
      (HashSet.run "zadd" runExC7 [[122], strBytes "1.5", [109]] runExDb).db).reply = strBytes "1.5" ∧
    (HashSet.run "zscore" runExC7 [[2], [109]] runExDb).reply.isErr = true := by
  decide +kernel

end FR.C18f

import FR.Proofs.AsyncLife
import FR.Proofs.BufIndep
import FR.Proofs.C04kHist
/-!
# C14, pipelining behind a parked blocking pop (asyncio front-end): helper lemmas

* the passes of a blocking pop commute with appending bytes to a connection's input buffer (`parkedPass_appendBuf`);
* writing to a parked, paused connection and the re-try task / the time-out commute
  (`wake_send_comm`, `timeout_send_comm`);
* one request at the head of a write: `sendall_encode_head`, `sendall_encode_parks`.
-/
namespace FR.C14p
open FR FR.M FR.BufIndep
set_option linter.unusedSimpArgs false

/-! ## appending to the buffer commutes with the passes of a blocking pop -/

/-- `BufIndep.EB`, here for the bytes of a write -/
theorem parkedPass_appendBuf (c c' : Nat) (p : Parked) (b : Bytes) (s : Sys) :
    parkedPass c' p (appendBuf c b s) = ((parkedPass c' p s).1, appendBuf c b (parkedPass c' p s).2) := by
  have h : EB c (· ++ b) (parkedPass c' p) := (BufIndep.ni_leaves (c := c) (e := (· ++ b)) {} c').parkedPass c' p trivial
  exact h s

/-! ## state algebra -/

theorem appendBuf_eq_updConn (c : Nat) (b : Bytes) (s : Sys) :
    appendBuf c b s = s.updConn c fun x => { x with buf := x.buf ++ b } := rfl

theorem appendBuf_updConn (c : Nat) (b : Bytes) (s : Sys) (f : Conn → Conn) (hid : ∀ x, (f x).id = x.id)
    (hf : ∀ x, f { x with buf := x.buf ++ b } = { f x with buf := (f x).buf ++ b }) :
    (appendBuf c b s).updConn c f = appendBuf c b (s.updConn c f) := by
  rw [appendBuf_eq_updConn, appendBuf_eq_updConn,
    ErrSys.updConn_updConn s c (fun x => { x with buf := x.buf ++ b }) f (fun _ => rfl),
    ErrSys.updConn_updConn s c f (fun x => { x with buf := x.buf ++ b }) hid]
  congr 1
  funext x
  exact hf x

theorem conn_appendBuf {c : Nat} {s : Sys} (b : Bytes) (h : s.HasConn c) :
    (appendBuf c b s).conn c = { s.conn c with buf := (s.conn c).buf ++ b } :=
  Sys.conn_updConn_same _ h (fun _ => rfl)

theorem hasConn_appendBuf {c c' : Nat} {s : Sys} (b : Bytes) : (appendBuf c b s).HasConn c' ↔ s.HasConn c' :=
  Sys.hasConn_updConn _ (fun _ => rfl)

theorem appendBuf_emitS (c : Nat) (b : Bytes) (s : Sys) (c' : Nat) (r : Reply) :
    (appendBuf c b s).emitS c' r = appendBuf c b (s.emitS c' r) := by
  have hcl : ((appendBuf c b s).conn c').closed = (s.conn c').closed :=
    Sys.conn_updConn_proj s c c' _ Conn.closed (fun _ => rfl) (fun _ => rfl)
  unfold Sys.emitS
  rw [hcl]
  split <;> rfl

theorem appendBuf_resumed (c : Nat) (b : Bytes) (s : Sys) (r : Reply) :
    (appendBuf c b s).resumed c r = appendBuf c b (s.resumed c r) := by
  unfold Sys.resumed
  rw [appendBuf_updConn c b s Conn.unpark (fun _ => rfl) (fun _ => rfl), appendBuf_emitS]

theorem resumed_hasConn {s : Sys} {c c' : Nat} (r : Reply) : (s.resumed c r).HasConn c' ↔ s.HasConn c' := by
  unfold Sys.resumed
  rw [Sys.emitS_hasConn]
  exact Sys.hasConn_updConn _ (fun _ => rfl)

/-! ## resuming the parser and writing more bytes commute -/

/-- needs the connection alive after the first loop: a dead connection raises on the write -/
theorem drain_then_send (mode : Mode) (c : Nat) (data : Bytes) (R : Sys) (hc : R.HasConn c)
    (halive : ((drain mode c ((R.conn c).buf.length + 1) R).2.conn c).dead = false) :
    drain mode c (((appendBuf c data R).conn c).buf.length + 1) (appendBuf c data R) =
      sendall mode c data (drain mode c ((R.conn c).buf.length + 1) R).2 := by
  have hs := sendall_run mode c data (drain mode c ((R.conn c).buf.length + 1) R).2
  have hd : (connOf (drain mode c ((R.conn c).buf.length + 1) R).2 c).dead = false := halive
  rw [hd] at hs
  simp only [Bool.false_eq_true, if_false] at hs
  refine Eq.trans ?_ hs.symm
  have hlen : ((appendBuf c data R).conn c).buf.length = (R.conn c).buf.length + data.length := by
    rw [conn_appendBuf data hc]; simp
  exact drain_append (bufIndependent mode c) data ((R.conn c).buf.length + 1) R _ _
    (Nat.lt_succ_self _) (by rw [hlen]; exact Nat.lt_succ_self _) (Nat.lt_succ_self _)

theorem resume_send_comm (mode : Mode) (c : Nat) (data : Bytes) (r : Reply) (s1 : Sys) (hc : s1.HasConn c)
    (halive : ((s1.resume mode c r).2.conn c).dead = false) :
    (appendBuf c data s1).resume mode c r = sendall mode c data (s1.resume mode c r).2 := by
  unfold Sys.resume at halive ⊢
  rw [appendBuf_resumed]
  exact drain_then_send mode c data _ ((resumed_hasConn _).2 hc) halive

theorem wake_send_comm (mode : Mode) (c : Nat) (data : Bytes) (s : Sys) (p : Parked)
    (hp : (s.conn c).parked = some p) (hpa : (s.conn c).paused = true) (hd : (s.conn c).dead = false)
    (halive : ((wakeConnAsync mode c s).2.conn c).dead = false) :
    wakeConnAsync mode c (sendall mode c data s).2 = sendall mode c data (wakeConnAsync mode c s).2 := by
  have hc : s.HasConn c := Sys.hasConn_of_parked hp
  have f := (framed_parkedPass c p).frame s
  have hc1 : (parkedPass c p s).2.HasConn c := (f.hasConn c).2 hc
  rw [sendall_paused mode c data s hpa hd]
  show wakeConnAsync mode c (appendBuf c data s) = _
  have hp' : ((appendBuf c data s).conn c).parked = some p := by rw [conn_appendBuf data hc]; exact hp
  rw [wakeConnAsync_eq, hp', wakeConnAsync_eq mode c s, hp]
  rw [wakeConnAsync_eq, hp] at halive
  dsimp only at halive ⊢
  rw [parkedPass_appendBuf]
  revert halive
  cases ListKeys.passReply (parkedPass c p s).1 with
  | some r => exact resume_send_comm mode c data r _ hc1
  | none =>
    intro _
    have hconn := Sys.conn_updConn_same (stayParked p) hc1 (fun _ => rfl)
    dsimp only
    rw [sendall_paused mode c data _ (by rw [hconn]; exact (f.paused c).trans hpa)
      (by rw [hconn]; exact (f.dead c).trans hd)]
    rw [appendBuf_updConn c data _ (stayParked p) (fun _ => rfl) (fun _ => rfl)]
    rfl

theorem timeout_send_comm (mode : Mode) (c : Nat) (data : Bytes) (s : Sys) (p : Parked)
    (hp : (s.conn c).parked = some p) (hpa : (s.conn c).paused = true) (hd : (s.conn c).dead = false)
    (halive : ((timeoutConnAsync mode c s).2.conn c).dead = false) :
    timeoutConnAsync mode c (sendall mode c data s).2 = sendall mode c data (timeoutConnAsync mode c s).2 := by
  have hc : s.HasConn c := Sys.hasConn_of_parked hp
  rw [sendall_paused mode c data s hpa hd]
  show timeoutConnAsync mode c (appendBuf c data s) = _
  have hp' : ((appendBuf c data s).conn c).parked = some p := by rw [conn_appendBuf data hc]; exact hp
  rw [timeoutConnAsync_eq, hp', timeoutConnAsync_eq mode c s, hp]
  rw [timeoutConnAsync_eq, hp] at halive
  exact resume_send_comm mode c data .nil s hc halive

/-! ## one request at the head of a write -/

theorem setBuf_eq_updConn (c : Nat) (X : Bytes) (s : Sys) : setBuf c X s = s.updConn c fun x => { x with buf := X } :=
  BufIndep.setBuf_eq_updConn c X s

theorem conn_setBuf {c : Nat} {s : Sys} (X : Bytes) (h : s.HasConn c) :
    (setBuf c X s).conn c = { s.conn c with buf := X } :=
  Sys.conn_updConn_same _ h (fun _ => rfl)

theorem hasConn_setBuf {c c' : Nat} {s : Sys} (X : Bytes) : (setBuf c X s).HasConn c' ↔ s.HasConn c' :=
  Sys.hasConn_updConn _ (fun _ => rfl)

theorem conn_setBuf_proj {β} (c c' : Nat) (X : Bytes) (s : Sys) (q : Conn → β)
    (hq : ∀ x : Conn, q { x with buf := X } = q x) : q ((setBuf c X s).conn c') = q (s.conn c') :=
  Sys.conn_updConn_proj s c c' _ q (fun _ => rfl) hq

theorem sendall_encode_head (mode : Mode) (c : Nat) (req : List Bytes) (rest : Bytes) (s : Sys) (hc : s.HasConn c)
    (hb : (s.conn c).buf = []) (hpa : (s.conn c).paused = false) (hd : (s.conn c).dead = false) :
    sendall mode c (encodeRequest req ++ rest) s =
      drain mode c (encodeRequest req ++ rest).length (setBuf c rest (processCommand mode c req s).2) := by
  have h := sendall_run mode c (encodeRequest req ++ rest) s
  have hd' : (connOf s c).dead = false := hd
  have hb' : (connOf s c).buf = [] := hb
  rw [hd', hb'] at h
  simp only [Bool.false_eq_true, if_false, List.length_nil, Nat.zero_add] at h
  refine h.trans ?_
  rw [drain_succ]
  have hconn : connOf (appendBuf c (encodeRequest req ++ rest) s) c =
      { s.conn c with buf := (s.conn c).buf ++ (encodeRequest req ++ rest) } := conn_appendBuf _ hc
  rw [hconn, hb]
  simp only [hpa, hd, Bool.or_self, Bool.false_eq_true, if_false, List.nil_append, tryParse_encode' req rest]
  rw [setBuf_appendBuf, bufIndependent mode c req rest s]
  rfl

theorem sendall_encode_parks (mode : Mode) (c : Nat) (req : List Bytes) (rest : Bytes) (s : Sys) (hc : s.HasConn c)
    (hb : (s.conn c).buf = []) (hpa : (s.conn c).paused = false) (hd : (s.conn c).dead = false)
    (hpark : ((processCommand mode c req s).2.conn c).paused = true) :
    sendall mode c (encodeRequest req ++ rest) s = ((), setBuf c rest (processCommand mode c req s).2) := by
  rw [sendall_encode_head mode c req rest s hc hb hpa hd]
  apply drain_paused
  rw [conn_setBuf_proj c c rest _ Conn.paused (fun _ => rfl)]
  exact hpark

theorem K_setBuf (c : Nat) (X : Bytes) (s : Sys) (h : FR.C04k.K s) : FR.C04k.K (setBuf c X s) :=
  FR.C04k.sc_modifyConn FR.C04k.k_stepClosed c (fun x => { x with buf := X })
    (fun _ => ⟨rfl, rfl, rfl, .inl rfl⟩) s h

theorem setBuf_setBuf (c : Nat) (X Y : Bytes) (s : Sys) : setBuf c Y (setBuf c X s) = setBuf c Y s :=
  modifyConn_comp c (fun x => { x with buf := X }) (fun x => { x with buf := Y }) (fun _ => rfl) s

theorem drain_empty (mode : Mode) (c : Nat) (n : Nat) (s : Sys) (hb : (s.conn c).buf = []) :
    drain mode c n s = ((), s) :=
  drain_starved (s := s) (by rw [connOf_eq_conn, hb]; rfl) n

end FR.C14p

import FR.Proofs.C18fGrammar
/-!
# C18f: analysis of the model's float parser (`PyFloat.parseExp`, `parseUnsigned`, `parse`)

Main result `parseCore_iff`: after whitespace stripping, the model's parser returns `some d` exactly on the
renderings of valid parse trees (`d = modelVal L`), on signed `inf`/`infinity` words, and on signed `nan` words.

`expCore`, `sgnSplit`, `fracSplit`, `expOpt`, `decCore`, `parseCore` are the pieces of the model's parser, cut out so that
`parseExp_eq'`, `parseUnsigned_eq`, `parse_eq` hold by `rfl`.  Each piece gets two lemmas: on the bytes of a valid tree it
returns the expected value (`parseExp_render`, `expOpt_expBytes`, `fracSplit_render`, `decCore_render`, `parseUnsigned_body`),
and whatever it accepts is the bytes of a valid tree (`parseExp_some`, `expOpt_some`, `fracSplit_some`, `decCore_some`,
`parseUnsigned_some`).  Before that:
the words (`ciEq_iff_lower`: `CIEq` is `lower() ==`), `stripSpaces`, the saturated exponent `clampE`.  Last part: the parse
tree of a string is unique (`render_injective`), and a signed word is not a literal (`render_ne_word`).
-/
namespace FR.C18f
open FR
theorem lowerByte_eq_iff (c l : UInt8) (hl : 97 ≤ l) :
    lowerByte c = l ↔ (c = l ∨ c + 32 = l ∧ 65 ≤ c ∧ c ≤ 90) := by
  unfold lowerByte
  by_cases h : (65 ≤ c && c ≤ 90) = true
  · rw [if_pos h]
    have h' : 65 ≤ c ∧ c ≤ 90 := by simpa using h
    constructor
    · intro e; exact Or.inr ⟨e, h'⟩
    · rintro (e | ⟨e, _⟩)
      · subst e
        exfalso
        have := h'.2
        rw [UInt8.le_iff_toNat_le] at this hl
        simp at this hl
        omega
      · exact e
  · rw [if_neg h]
    have h' : ¬(65 ≤ c ∧ c ≤ 90) := by simpa using h
    constructor
    · intro e; exact Or.inl e
    · rintro (e | ⟨_, h2⟩)
      · exact e
      · exact absurd h2 h'

/-- for a lower-case word `lit`, `CIEq w lit` is `w.lower() == lit` -/
theorem ciEq_iff_lower : ∀ (w lit : Bytes), (∀ l ∈ lit, 97 ≤ l) → (CIEq w lit ↔ w.map lowerByte = lit)
  | [], [], _ => by simp [CIEq]
  | [], _ :: _, _ => by simp [CIEq]
  | _ :: _, [], _ => by simp [CIEq]
  | c :: w, l :: lit, h => by
    have ih := ciEq_iff_lower w lit (fun x hx => h x (List.mem_cons_of_mem _ hx))
    have hl := h l (List.mem_cons_self ..)
    simp only [CIEq, List.map_cons, List.cons.injEq, ih, lowerByte_eq_iff c l hl]

theorem infWord_iff (w : Bytes) :
    InfWord w ↔ (w.map lowerByte == strBytes "inf" || w.map lowerByte == strBytes "infinity") = true := by
  unfold InfWord
  rw [ciEq_iff_lower _ _ (by decide), ciEq_iff_lower _ _ (by decide), lit_inf, lit_infinity]
  simp

theorem nanWord_iff (w : Bytes) : NanWord w ↔ (w.map lowerByte == strBytes "nan") = true := by
  unfold NanWord
  rw [ciEq_iff_lower _ _ (by decide), lit_nan]
  simp

/-! ## stripSpaces -/
theorem getLast?_dropWhile {α} (p : α → Bool) (l : List α) (h : l.dropWhile p ≠ []) :
    (l.dropWhile p).getLast? = l.getLast? := by
  have e : l = l.takeWhile p ++ l.dropWhile p := List.takeWhile_append_dropWhile.symm
  conv => rhs; rw [e, List.getLast?_append]
  cases hd : (l.dropWhile p).getLast? with
  | none => exact absurd (List.getLast?_eq_none_iff.mp hd) h
  | some x => rfl

theorem dropWhile_reverse_of_last {α} (p : α → Bool) (l : List α)
    (h : (l.getLast?.map p).getD false = false) : (l.reverse.dropWhile p).reverse = l := by
  cases hr : l.reverse with
  | nil => 
    have : l = [] := List.reverse_eq_nil_iff.mp hr
    subst this; rfl
  | cons a t =>
    have hl : l.getLast? = some a := by
      rw [← List.head?_reverse, hr]; rfl
    rw [hl] at h
    simp only [Option.map_some, Option.getD_some] at h
    rw [List.dropWhile_cons_of_neg (by simp [h]), ← hr, List.reverse_reverse]

theorem stripSpaces_of_last (v : Bytes) (h : (v.getLast?.map PyFloat.isSpace).getD false = false) :
    PyFloat.stripSpaces v = v.dropWhile PyFloat.isSpace := by
  unfold PyFloat.stripSpaces
  by_cases hn : v.dropWhile PyFloat.isSpace = []
  · rw [hn]; rfl
  · apply dropWhile_reverse_of_last
    rw [getLast?_dropWhile _ _ hn]
    exact h

theorem stripSpaces_of_first_last (v : Bytes) (h1 : (v.head?.map PyFloat.isSpace).getD false = false)
    (h : (v.getLast?.map PyFloat.isSpace).getD false = false) :
    PyFloat.stripSpaces v = v := by
  rw [stripSpaces_of_last v h]
  cases v with
  | nil => rfl
  | cons a t =>
    simp only [List.head?_cons, Option.map_some, Option.getD_some] at h1
    exact List.dropWhile_cons_of_neg (by simp [h1])
/-- the model's exponent value: saturates at one million -/
def clampE (ds : Bytes) : Int := if 1000000 ≤ decNat ds then 1000000 else (decNat ds : Int)

theorem digits_dropWhile {l : Bytes} (p : UInt8 → Bool) (h : Digits l) : Digits (l.dropWhile p) := by
  intro c hc
  exact h c ((List.dropWhile_suffix p).subset hc)

theorem clamp_eq (rest : Bytes) (h : Digits rest) :
    (if (rest.dropWhile (· == 48)).length > 6 then (1000000 : Int)
      else (digitsVal (rest.dropWhile (· == 48)) : Int)) = clampE rest := by
  unfold clampE
  rw [digitsVal_eq_decNat, ← decNat_dropZeros rest]
  have hd := digits_dropWhile (· == 48) h
  have hhead := List.head?_dropWhile_not (· == 48) rest
  generalize rest.dropWhile (· == 48) = ds at *
  cases ds with
  | nil => simp [decNat]
  | cons c t =>
    simp only [List.head?_cons] at hhead
    have hc : c ≠ 48 := by simpa using hhead
    have h1 := decNat_ge (rest := t) hd.head hc
    have h2 := decNat_lt _ hd
    rw [List.length_cons] at h2 ⊢
    by_cases hl : t.length + 1 > 6
    · rw [if_pos hl]
      have : 10 ^ 6 ≤ 10 ^ t.length := Nat.pow_le_pow_right (by decide) (by omega)
      rw [if_pos (by omega)]
    · rw [if_neg hl]
      have : 10 ^ (t.length + 1) ≤ 10 ^ 6 := Nat.pow_le_pow_right (by decide) (by omega)
      rw [if_neg (by omega)]

def expCore (neg : Bool) (rest : Bytes) : Option Int :=
  if rest.isEmpty || !rest.all isDigit then none
  else
    let ds := rest.dropWhile (· == 48)
    let v : Int := if ds.length > 6 then 1000000 else (digitsVal ds : Int)
    some (if neg then -v else v)

def sgnSplit (b : Bytes) : Bool × Bytes :=
  match b with
  | 43 :: r => (false, r)
  | 45 :: r => (true, r)
  | _ => (false, b)

theorem parseExp_eq' (b : Bytes) : PyFloat.parseExp b = expCore (sgnSplit b).1 (sgnSplit b).2 := rfl

theorem parseExp_eq (b : Bytes) :
    PyFloat.parseExp b = match b with
      | 43 :: r => expCore false r
      | 45 :: r => expCore true r
      | _ => expCore false b := by
  rw [parseExp_eq']
  unfold sgnSplit
  split <;> rfl

theorem expCore_digits (neg : Bool) (ds : Bytes) (h : Digits ds) (hne : ds ≠ []) :
    expCore neg ds = some (if neg then -(clampE ds) else clampE ds) := by
  unfold expCore
  have h1 : ds.isEmpty = false := by cases ds <;> simp_all
  have h2 : ds.all isDigit = true := (digits_iff_all ds).mp h
  simp only [h1, h2, Bool.not_true, Bool.or_self, Bool.false_eq_true, if_false, clamp_eq ds h]

theorem expCore_some {neg : Bool} {rest : Bytes} {v : Int} (h : expCore neg rest = some v) :
    Digits rest ∧ rest ≠ [] := by
  unfold expCore at h
  split at h
  · cases h
  · rename_i hc
    simp only [Bool.or_eq_true, Bool.not_eq_eq_eq_not, Bool.not_true, not_or, Bool.not_eq_false] at hc
    refine ⟨(digits_iff_all rest).mpr hc.2, ?_⟩
    intro e; subst e; simp at hc

theorem parseExp_render (sg : Sgn) (ds : Bytes) (h : Digits ds) (hne : ds ≠ []) :
    PyFloat.parseExp (sg.bytes ++ ds) = some (if sg.neg then -(clampE ds) else clampE ds) := by
  rw [parseExp_eq]
  cases sg with
  | plus => exact expCore_digits false ds h hne
  | minus => exact expCore_digits true ds h hne
  | none =>
    cases ds with
    | nil => exact absurd rfl hne
    | cons c t =>
      have hc := h.head
      unfold IsDig at hc
      show (match c :: t with
        | 43 :: r => expCore false r
        | 45 :: r => expCore true r
        | _ => expCore false (c :: t)) = _
      split
      · rename_i heq; cases heq; exact absurd hc (by decide)
      · rename_i heq; cases heq; exact absurd hc (by decide)
      · exact expCore_digits false _ h hne

theorem parseExp_some {b : Bytes} {v : Int} (h : PyFloat.parseExp b = some v) :
    ∃ sg ds, Digits ds ∧ ds ≠ [] ∧ b = Sgn.bytes sg ++ ds := by
  rw [parseExp_eq] at h
  split at h
  · obtain ⟨h1, h2⟩ := expCore_some h; exact ⟨.plus, _, h1, h2, rfl⟩
  · obtain ⟨h1, h2⟩ := expCore_some h; exact ⟨.minus, _, h1, h2, rfl⟩
  · obtain ⟨h1, h2⟩ := expCore_some h; exact ⟨.none, _, h1, h2, rfl⟩

def fracSplit (r1 : Bytes) : Bytes × Bytes :=
  match r1 with
  | 46 :: r => (r.takeWhile isDigit, r.dropWhile isDigit)
  | _ => ([], r1)

def expOpt (r2 : Bytes) : Option Int :=
  match r2 with
  | [] => some 0
  | c :: r => if c == 101 || c == 69 then PyFloat.parseExp r else none

def decCore (neg : Bool) (b : Bytes) : Option Dbl :=
  let ip := b.takeWhile isDigit
  let fr := fracSplit (b.dropWhile isDigit)
  if ip.isEmpty && fr.1.isEmpty then none
  else
    match expOpt fr.2 with
    | none => none
    | some ex => some (Dbl.ofDecimal neg (digitsVal (ip ++ fr.1)) (ex - (fr.1.length : Int)))

theorem parseUnsigned_eq (neg : Bool) (b : Bytes) :
    PyFloat.parseUnsigned neg b =
      if (b.map lowerByte == strBytes "inf" || b.map lowerByte == strBytes "infinity") = true then some (.inf neg)
      else if (b.map lowerByte == strBytes "nan") = true then some .nan
      else decCore neg b := rfl

/-- `rest` does not start with a digit -/
def NoDigHead (rest : Bytes) : Prop := ∀ c, rest.head? = some c → isDigit c = false

theorem takeWhile_digits_append {ip rest : Bytes} (h : Digits ip) (hr : NoDigHead rest) :
    (ip ++ rest).takeWhile isDigit = ip := by
  rw [List.takeWhile_append_of_pos (fun c hc => (isDig_iff c).mpr (h c hc))]
  cases rest with
  | nil => simp
  | cons c t =>
    have := hr c rfl
    rw [List.takeWhile_cons, if_neg (by simp [this]), List.append_nil]

theorem dropWhile_digits_append {ip rest : Bytes} (h : Digits ip) (hr : NoDigHead rest) :
    (ip ++ rest).dropWhile isDigit = rest := by
  rw [List.dropWhile_append_of_pos (fun c hc => (isDig_iff c).mpr (h c hc))]
  cases rest with
  | nil => rfl
  | cons c t =>
    have := hr c rfl
    exact List.dropWhile_cons_of_neg (by simp [this])

theorem noDigHead_dropWhile (l : Bytes) : NoDigHead (l.dropWhile isDigit) := by
  intro c hc
  have := List.head?_dropWhile_not isDigit l
  rw [hc] at this
  exact this

theorem noDigHead_nil : NoDigHead [] := fun _ h => by cases h
theorem noDigHead_cons {c : UInt8} {t : Bytes} (h : isDigit c = false) : NoDigHead (c :: t) := by
  intro x hx; cases hx; exact h

/-- the model's clamped exponent of a parse tree -/
def expoC (L : DecLit) : Int :=
  match L.exp with
  | none => 0
  | some x => if x.sign.neg then -(clampE x.digits) else clampE x.digits

/-- the double the model computes for a parse tree -/
def modelVal (L : DecLit) : Dbl := Dbl.ofDecimal L.sign.neg L.mant (expoC L - (L.fp.length : Int))

theorem noDigHead_expBytes (L : DecLit) (hv : L.Valid) : NoDigHead L.expBytes := by
  unfold DecLit.expBytes
  cases he : L.exp with
  | none => exact noDigHead_nil
  | some x =>
    obtain ⟨hl, _, _⟩ := hv.2.2.2 x he
    apply noDigHead_cons
    rcases hl with h | h <;> rw [h] <;> rfl

theorem expBytes_not46 (L : DecLit) (hv : L.Valid) (r : Bytes) : L.expBytes ≠ 46 :: r := by
  unfold DecLit.expBytes
  cases he : L.exp with
  | none => simp
  | some x =>
    obtain ⟨hl, _, _⟩ := hv.2.2.2 x he
    intro h
    injection h with h1 _
    rcases hl with h | h <;> rw [h] at h1 <;> exact absurd h1 (by decide)

theorem expOpt_expBytes (L : DecLit) (hv : L.Valid) : expOpt L.expBytes = some (expoC L) := by
  unfold DecLit.expBytes expoC
  cases he : L.exp with
  | none => rfl
  | some x =>
    obtain ⟨hl, hd, hne⟩ := hv.2.2.2 x he
    have : (x.letter == 101 || x.letter == 69) = true := by
      rcases hl with h | h <;> rw [h] <;> rfl
    simp only [expOpt, this, if_true]
    exact parseExp_render x.sign x.digits hd hne

theorem noDigHead_frac_exp (L : DecLit) (hv : L.Valid) : NoDigHead (L.fracBytes ++ L.expBytes) := by
  unfold DecLit.fracBytes
  cases L.frac with
  | none => exact noDigHead_expBytes L hv
  | some f => exact noDigHead_cons (by decide)

/-- what follows the integer digits of a literal splits into its fraction digits and its exponent part -/
theorem fracSplit_render (L : DecLit) (hv : L.Valid) :
    fracSplit (L.fracBytes ++ L.expBytes) = (L.fp, L.expBytes) := by
  have hE := noDigHead_expBytes L hv
  have hfp := hv.2.1
  unfold DecLit.fracBytes DecLit.fp at *
  cases hf : L.frac with
  | none =>
    show fracSplit L.expBytes = ([], L.expBytes)
    unfold fracSplit
    split
    · rename_i r heq
      exact absurd heq (expBytes_not46 L hv r)
    · rfl
  | some f =>
    rw [hf] at hfp
    change Digits f at hfp
    show ((f ++ L.expBytes).takeWhile isDigit, (f ++ L.expBytes).dropWhile isDigit) = (f, L.expBytes)
    rw [takeWhile_digits_append hfp hE, dropWhile_digits_append hfp hE]

theorem decCore_render (neg : Bool) (L : DecLit) (hv : L.Valid) :
    decCore neg (L.ip ++ (L.fracBytes ++ L.expBytes)) =
      some (Dbl.ofDecimal neg L.mant (expoC L - (L.fp.length : Int))) := by
  have hR := noDigHead_frac_exp L hv
  have hemp : (L.ip.isEmpty && L.fp.isEmpty) = false := by
    rcases hv.2.2.1 with h | h
    · rw [List.isEmpty_eq_false_iff.mpr h, Bool.false_and]
    · rw [List.isEmpty_eq_false_iff.mpr h, Bool.and_false]
  unfold decCore
  simp only [takeWhile_digits_append hv.1 hR, dropWhile_digits_append hv.1 hR, fracSplit_render L hv, hemp,
    Bool.false_eq_true, if_false, expOpt_expBytes L hv, digitsVal_eq_decNat]
  rfl

theorem expOpt_some {r2 : Bytes} {ex : Int} (h : expOpt r2 = some ex) :
    ∃ exp : Option ExpPart,
      (∀ x, exp = some x → (x.letter = 101 ∨ x.letter = 69) ∧ Digits x.digits ∧ x.digits ≠ []) ∧
      r2 = (DecLit.mk .none [] none exp).expBytes := by
  unfold expOpt at h
  split at h
  · exact ⟨none, fun x hx => (by cases hx), rfl⟩
  · rename_i c r
    split at h
    · rename_i hc
      obtain ⟨sg, ds, hd, hne, hb⟩ := parseExp_some h
      refine ⟨some ⟨c, sg, ds⟩, ?_, by rw [hb]; rfl⟩
      intro x hx
      cases hx
      exact ⟨by simpa using hc, hd, hne⟩
    · cases h

/-- whatever `fracSplit` splits off is the fraction part of a literal -/
theorem fracSplit_some (r1 : Bytes) : ∃ frac : Option Bytes, Digits (frac.getD []) ∧
    (fracSplit r1).1 = frac.getD [] ∧ r1 = (DecLit.mk .none [] frac none).fracBytes ++ (fracSplit r1).2 := by
  unfold fracSplit
  split
  · rename_i r
    refine ⟨some (r.takeWhile isDigit), digits_takeWhile r, rfl, ?_⟩
    show 46 :: r = 46 :: (r.takeWhile isDigit ++ r.dropWhile isDigit)
    rw [List.takeWhile_append_dropWhile]
  · exact ⟨none, Digits.nil, rfl, rfl⟩

theorem decCore_some {neg : Bool} {b : Bytes} {d : Dbl} (h : decCore neg b = some d) :
    ∃ L : DecLit, L.sign = .none ∧ L.Valid ∧ b = L.ip ++ (L.fracBytes ++ L.expBytes) := by
  unfold decCore at h
  simp only [] at h
  split at h
  · cases h
  · rename_i hne
    split at h
    · cases h
    · rename_i ex hex
      obtain ⟨exp, hexp, hr2⟩ := expOpt_some hex
      obtain ⟨frac, hfd, hf1, hfr⟩ := fracSplit_some (b.dropWhile isDigit)
      refine ⟨⟨.none, b.takeWhile isDigit, frac, exp⟩, rfl, ⟨digits_takeWhile b, hfd, ?_, hexp⟩, ?_⟩
      · rw [hf1] at hne
        show b.takeWhile isDigit ≠ [] ∨ frac.getD [] ≠ []
        by_cases h1 : b.takeWhile isDigit = []
        · refine Or.inr fun h2 => hne ?_
          rw [h1, h2]; rfl
        · exact Or.inl h1
      · show b = b.takeWhile isDigit ++
          ((DecLit.mk .none [] frac none).fracBytes ++ (DecLit.mk .none [] none exp).expBytes)
        rw [← hr2, ← hfr, List.takeWhile_append_dropWhile]

/-! ## the whole parser -/

/-- `PyFloat.parse` after the whitespace has been stripped -/
def parseCore (s : Bytes) : Option Dbl :=
  match s with
  | 43 :: r => PyFloat.parseUnsigned false r
  | 45 :: r => PyFloat.parseUnsigned true r
  | _ => PyFloat.parseUnsigned false s

theorem parse_eq (b : Bytes) : PyFloat.parse b = parseCore (PyFloat.stripSpaces b) := rfl

/-- what the model's parser accepts, and with which value -/
def Core (s : Bytes) (d : Dbl) : Prop :=
  (∃ L : DecLit, L.Valid ∧ s = L.render ∧ d = modelVal L) ∨
  (∃ (sg : Sgn) (w : Bytes), InfWord w ∧ s = sg.bytes ++ w ∧ d = .inf sg.neg) ∨
  (∃ (sg : Sgn) (w : Bytes), NanWord w ∧ s = sg.bytes ++ w ∧ d = .nan)

/-- the unsigned part of a literal -/
def DecLit.body (L : DecLit) : Bytes := L.ip ++ (L.fracBytes ++ L.expBytes)

theorem render_eq (L : DecLit) : L.render = L.sign.bytes ++ L.body := rfl

theorem body_head (L : DecLit) (hv : L.Valid) : ∃ c t, L.body = c :: t ∧ (IsDig c ∨ c = 46) := by
  obtain ⟨hip, hfp, hne, _⟩ := hv
  unfold DecLit.body DecLit.fracBytes
  unfold DecLit.fp at hfp hne
  cases h1 : L.ip with
  | cons c t => exact ⟨c, _, rfl, Or.inl (by rw [h1] at hip; exact hip.head)⟩
  | nil =>
    cases h2 : L.frac with
    | none => rw [h1, h2] at hne; simp at hne
    | some f => exact ⟨46, _, rfl, Or.inr rfl⟩

theorem not_ciEq_of_head {c l : UInt8} {t lit : Bytes} (hc : IsDig c ∨ c = 46) (hl : 97 ≤ l) :
    ¬ CIEq (c :: t) (l :: lit) := by
  intro h
  have h1 := h.1
  have hc' : c.toNat ≤ 57 := by
    rcases hc with h | h
    · exact h.2
    · rw [h]; decide
  have hl' : 97 ≤ l.toNat := hl
  rcases h1 with e | ⟨_, h65, _⟩
  · rw [e] at hc'; omega
  · have : 65 ≤ c.toNat := h65
    omega

theorem body_not_word (L : DecLit) (hv : L.Valid) : ¬ InfWord L.body ∧ ¬ NanWord L.body := by
  obtain ⟨c, t, hb, hc⟩ := body_head L hv
  rw [hb]
  refine ⟨?_, ?_⟩
  · rintro (h | h) <;> exact not_ciEq_of_head hc (by decide) h
  · exact not_ciEq_of_head hc (by decide)

theorem parseUnsigned_body (neg : Bool) (L : DecLit) (hv : L.Valid) :
    PyFloat.parseUnsigned neg L.body = some (Dbl.ofDecimal neg L.mant (expoC L - (L.fp.length : Int))) := by
  obtain ⟨h1, h2⟩ := body_not_word L hv
  rw [infWord_iff] at h1
  rw [nanWord_iff] at h2
  rw [parseUnsigned_eq, if_neg h1, if_neg h2]
  exact decCore_render neg L hv

theorem parseUnsigned_inf (neg : Bool) (w : Bytes) (h : InfWord w) : PyFloat.parseUnsigned neg w = some (.inf neg) := by
  rw [parseUnsigned_eq, if_pos ((infWord_iff w).mp h)]

theorem not_inf_of_nan {w : Bytes} (h : NanWord w) : ¬ InfWord w := by
  cases w with
  | nil => exact fun h' => by rcases h' with h' | h' <;> exact h'
  | cons c t =>
    intro h'
    have h1 : c = 110 ∨ c + 32 = 110 ∧ 65 ≤ c ∧ c ≤ 90 := h.1
    have h2 : c = 105 ∨ c + 32 = 105 ∧ 65 ≤ c ∧ c ≤ 90 := by
      rcases h' with h' | h' <;> exact h'.1
    rcases h1 with e1 | ⟨e1, _⟩ <;> rcases h2 with e2 | ⟨e2, _⟩
    · rw [e1] at e2; exact absurd e2 (by decide)
    · rw [e1] at e2; exact absurd e2 (by decide)
    · rw [e2] at e1; exact absurd e1 (by decide)
    · rw [e1] at e2; exact absurd e2 (by decide)

theorem parseUnsigned_nan (neg : Bool) (w : Bytes) (h : NanWord w) : PyFloat.parseUnsigned neg w = some .nan := by
  have h1 := not_inf_of_nan h
  rw [infWord_iff] at h1
  rw [parseUnsigned_eq, if_neg h1, if_pos ((nanWord_iff w).mp h)]

/-- everything `parseUnsigned` accepts -/
theorem parseUnsigned_some {neg : Bool} {b : Bytes} {d : Dbl} (h : PyFloat.parseUnsigned neg b = some d) :
    (∃ L : DecLit, L.sign = .none ∧ L.Valid ∧ b = L.body ∧ d = Dbl.ofDecimal neg L.mant (expoC L - (L.fp.length : Int))) ∨
    (InfWord b ∧ d = .inf neg) ∨ (NanWord b ∧ d = .nan) := by
  rw [parseUnsigned_eq] at h
  split at h
  · rename_i hi
    cases h
    exact Or.inr (Or.inl ⟨(infWord_iff b).mpr hi, rfl⟩)
  · split at h
    · rename_i hn
      cases h
      exact Or.inr (Or.inr ⟨(nanWord_iff b).mpr hn, rfl⟩)
    · obtain ⟨L, hs, hv, hb⟩ := decCore_some h
      refine Or.inl ⟨L, hs, hv, hb, ?_⟩
      have := decCore_render neg L hv
      rw [← hb, h] at this
      exact Option.some.inj this

/-- a word begins with a letter -/
theorem word_head {w : Bytes} (h : InfWord w ∨ NanWord w) :
    ∃ c t, w = c :: t ∧ ((65 ≤ c ∧ c ≤ 90) ∨ (97 ≤ c ∧ c ≤ 122)) := by
  cases w with
  | nil => rcases h with (h | h) | h <;> exact h.elim
  | cons c t =>
    refine ⟨c, t, rfl, ?_⟩
    have : ∃ l : UInt8, (97 ≤ l ∧ l ≤ 122) ∧ (c = l ∨ c + 32 = l ∧ 65 ≤ c ∧ c ≤ 90) := by
      rcases h with (h | h) | h
      · exact ⟨_, by decide, h.1⟩
      · exact ⟨_, by decide, h.1⟩
      · exact ⟨_, by decide, h.1⟩
    obtain ⟨l, hl, h1⟩ := this
    rcases h1 with e | ⟨_, h65⟩
    · rw [e]; exact Or.inr hl
    · exact Or.inl h65

theorem body_head_not_sign (L : DecLit) (hv : L.Valid) : ∀ c t, L.body = c :: t → c ≠ 43 ∧ c ≠ 45 := by
  intro c t e
  obtain ⟨c', t', hb, hc⟩ := body_head L hv
  rw [hb] at e
  cases e
  constructor <;> (rintro rfl; rcases hc with h | h <;> exact absurd h (by decide))

theorem word_head_not_sign {w : Bytes} (h : InfWord w ∨ NanWord w) : ∀ c t, w = c :: t → c ≠ 43 ∧ c ≠ 45 := by
  intro c t e
  obtain ⟨c', t', hb, hc⟩ := word_head h
  rw [hb] at e
  cases e
  constructor <;> (rintro rfl; exact absurd hc (by decide))

/-- a sign is taken off exactly when what follows does not begin with another one -/
theorem parseCore_sign (sg : Sgn) {r : Bytes} (hr : ∀ c t, r = c :: t → c ≠ 43 ∧ c ≠ 45) :
    parseCore (sg.bytes ++ r) = PyFloat.parseUnsigned sg.neg r := by
  cases sg with
  | plus => rfl
  | minus => rfl
  | none =>
    show parseCore r = PyFloat.parseUnsigned false r
    unfold parseCore
    split
    · exact absurd rfl (hr 43 _ rfl).1
    · exact absurd rfl (hr 45 _ rfl).2
    · rfl

theorem parseCore_iff (s : Bytes) (d : Dbl) : parseCore s = some d ↔ Core s d := by
  constructor
  · intro h
    have key : ∀ (sg : Sgn) (r : Bytes), s = sg.bytes ++ r → PyFloat.parseUnsigned sg.neg r = some d → Core s d := by
      intro sg r hs hp
      rcases parseUnsigned_some hp with ⟨L, hsn, hv, hb, hd⟩ | ⟨hw, hd⟩ | ⟨hw, hd⟩
      · refine Or.inl ⟨{ L with sign := sg }, hv, ?_, hd⟩
        rw [hs, hb]; rfl
      · exact Or.inr (Or.inl ⟨sg, r, hw, hs, hd⟩)
      · exact Or.inr (Or.inr ⟨sg, r, hw, hs, hd⟩)
    unfold parseCore at h
    split at h
    · exact key .plus _ rfl h
    · exact key .minus _ rfl h
    · exact key .none _ rfl h
  · rintro (⟨L, hv, hs, hd⟩ | ⟨sg, w, hw, hs, hd⟩ | ⟨sg, w, hw, hs, hd⟩)
    · rw [hs, render_eq, parseCore_sign _ (body_head_not_sign L hv), hd]
      exact parseUnsigned_body _ L hv
    · rw [hs, parseCore_sign _ (word_head_not_sign (Or.inl hw)), hd]
      exact parseUnsigned_inf _ w hw
    · rw [hs, parseCore_sign _ (word_head_not_sign (Or.inr hw)), hd]
      exact parseUnsigned_nan _ w hw


/-! ## the parse tree of a string is unique -/

theorem digits_split_unique {a a' r r' : Bytes} (ha : Digits a) (ha' : Digits a') (hr : NoDigHead r)
    (hr' : NoDigHead r') (h : a ++ r = a' ++ r') : a = a' ∧ r = r' := by
  have h1 := takeWhile_digits_append ha hr
  have h2 := dropWhile_digits_append ha hr
  rw [h, takeWhile_digits_append ha' hr'] at h1
  rw [h, dropWhile_digits_append ha' hr'] at h2
  exact ⟨h1.symm, h2.symm⟩

/-- a sign followed by something that does not start with `+`/`-` splits uniquely -/
theorem sign_split_unique {s s' : Sgn} {r r' : Bytes}
    (hr : ∀ c t, r = c :: t → c ≠ 43 ∧ c ≠ 45) (hr' : ∀ c t, r' = c :: t → c ≠ 43 ∧ c ≠ 45)
    (h : s.bytes ++ r = s'.bytes ++ r') : s = s' ∧ r = r' := by
  cases s <;> cases s' <;> simp only [Sgn.bytes, List.nil_append, List.cons_append] at h
  · exact ⟨rfl, h⟩
  · exact absurd rfl (hr _ _ h).1
  · exact absurd rfl (hr _ _ h).2
  · exact absurd rfl (hr' _ _ h.symm).1
  · exact ⟨rfl, (List.cons.inj h).2⟩
  · exact absurd (List.cons.inj h).1 (by decide)
  · exact absurd rfl (hr' _ _ h.symm).2
  · exact absurd (List.cons.inj h).1 (by decide)
  · exact ⟨rfl, (List.cons.inj h).2⟩

theorem digits_head_not_sign {ds : Bytes} (h : Digits ds) : ∀ c t, ds = c :: t → c ≠ 43 ∧ c ≠ 45 := by
  intro c t e
  subst e
  have := h.head
  constructor <;> (rintro rfl; exact absurd this (by decide))

theorem expBytes_inj {L L' : DecLit} (hv : L.Valid) (hv' : L'.Valid) (h : L.expBytes = L'.expBytes) :
    L.exp = L'.exp := by
  unfold DecLit.expBytes at h
  cases he : L.exp with
  | none =>
    cases he' : L'.exp with
    | none => rfl
    | some x' => rw [he, he'] at h; cases h
  | some x =>
    cases he' : L'.exp with
    | none => rw [he, he'] at h; cases h
    | some x' =>
      rw [he, he'] at h
      obtain ⟨_, hd, hne⟩ := hv.2.2.2 x he
      obtain ⟨_, hd', hne'⟩ := hv'.2.2.2 x' he'
      injection h with h1 h2
      obtain ⟨h3, h4⟩ := sign_split_unique (digits_head_not_sign hd) (digits_head_not_sign hd') h2
      cases x; cases x'
      simp only at h1 h3 h4
      rw [h1, h3, h4]

theorem fracBytes_inj {L L' : DecLit} (h : L.fracBytes = L'.fracBytes) : L.frac = L'.frac := by
  unfold DecLit.fracBytes at h
  cases hf : L.frac with
  | none =>
    cases hf' : L'.frac with
    | none => rfl
    | some f' => rw [hf, hf'] at h; cases h
  | some f =>
    cases hf' : L'.frac with
    | none => rw [hf, hf'] at h; cases h
    | some f' => rw [hf, hf'] at h; rw [(List.cons.inj h).2]

/-- unique reading: two valid parse trees with the same bytes are equal -/
theorem render_injective {L L' : DecLit} (hv : L.Valid) (hv' : L'.Valid) (h : L.render = L'.render) : L = L' := by
  rw [render_eq, render_eq] at h
  obtain ⟨hs, hbody⟩ := sign_split_unique (body_head_not_sign L hv) (body_head_not_sign L' hv') h
  unfold DecLit.body at hbody
  obtain ⟨hip, hrest⟩ := digits_split_unique hv.1 hv'.1 (noDigHead_frac_exp L hv) (noDigHead_frac_exp L' hv') hbody
  -- the parser's splitter reads the fraction digits and the exponent part off both sides
  have hsp := congrArg fracSplit hrest
  rw [fracSplit_render L hv, fracSplit_render L' hv'] at hsp
  have hE : L.expBytes = L'.expBytes := (Prod.mk.inj hsp).2
  rw [hE] at hrest
  have hfe : L.frac = L'.frac ∧ L.expBytes = L'.expBytes := ⟨fracBytes_inj (List.append_cancel_right hrest), hE⟩
  have hexp := expBytes_inj hv hv' hfe.2
  cases L; cases L'
  simp only at hs hip hfe hexp
  rw [hs, hip, hfe.1, hexp]

/-- a signed `inf`/`infinity` word is not the rendering of a literal: the signs split off, and what is left of a
literal is not a word -/
theorem render_ne_word {L : DecLit} (hv : L.Valid) {sg : Sgn} {w : Bytes} (hw : InfWord w) :
    L.render ≠ sg.bytes ++ w := by
  intro hs
  obtain ⟨_, hb⟩ := sign_split_unique (word_head_not_sign (Or.inl hw)) (body_head_not_sign L hv)
    (hs.symm.trans (render_eq L))
  exact (body_not_word L hv).1 (hb ▸ hw)

end FR.C18f

import FR.Proofs.Db
/-!
# `Signature.apply` as a function of what `Db.get` answers

`Signature.apply` touches the database through `Db.get` only.  Two facts say all there is to say about its two passes:

* the database it leaves is reached from the given one by `get`s: whatever `get` keeps, `apply` keeps
  (`Sig.apply_inv`; `Sig.apply_inv_of_keys` asks for this only where the signature declares a key);
* its result is `applyL` — the same two passes run on a function `Bytes → Option Item` — of what `get` answers
  (`Db.seen`), for any database (`Ttl.apply_seen`).  With unique keys that function is the live view `Db.live`, defined
  here.

`Sig.apply_reads`, `Ttl.apply_eq`, `Sig.apply_sim`, `Sig.apply_clean`, `Sig.apply_short_not_err` follow.

`applyL` itself is analysed as a list recursion: `applyL_ok` says what a successful `applyL` returns for any signature;
the section "`applyL` in closed form" has `applyL_closed` (any signature without `missing_return`: arity checks, first
conversion error, WRONGTYPE, else numbered arguments and one item per key) and `applyL_keyless` with
`Sig.apply_keyless` (no key-typed argument: nothing is looked up).  The closed forms for the shapes of the command
table are in `FR/Proofs/LiveApply.lean`.

`applyL`, `pass1L`, `pass2L` and everything said about them are in the namespace `FR.Ttl`.
-/
namespace FR

open Db

/-- what `Signature.apply` hands to the body: `CommandItem`s that `writeback` would skip -/
def CI.Clean (c : CI) : Prop := c.modified = false ∧ c.expMod = false

/-- what a client can observe of key `k`: its entry, unless the deadline has passed (whether or not lazy expiry has
removed it yet) -/
def Db.live (db : Db) (k : Bytes) : Option Item := (Db.purge db).dict.lookup k

/-- `out` was obtained from `db` by lazy deletions only -/
structure Reads (db out : Db) : Prop where
  nd : NodupKeys out.dict
  eq : purge out = purge db
  sub : ∀ q ∈ out.dict, q ∈ db.dict

theorem Reads.refl {db : Db} (nd : NodupKeys db.dict) : Reads db db := ⟨nd, rfl, fun _ h => h⟩
theorem Reads.trans {a b c : Db} (h : Reads a b) (h' : Reads b c) : Reads a c :=
  ⟨h'.nd, h'.eq.trans h.eq, fun q hq => h.sub q (h'.sub q hq)⟩
theorem Reads.get {db : Db} (nd : NodupKeys db.dict) (k : Bytes) : Reads db (db.get k).1 :=
  ⟨get_nodup k nd, get_purge k nd, fun _ h => get_dict_sub h⟩
theorem Reads.get' {db db' : Db} {k : Bytes} {r : Option Item} (nd : NodupKeys db.dict)
    (h : db.get k = (db', r)) : Reads db db' := by
  have : db' = (db.get k).1 := by rw [h]
  subst this; exact Reads.get nd k

/-! ## live view -/

theorem live_eq_of_purge {a b : Db} (h : purge a = purge b) (k : Bytes) : a.live k = b.live k := by
  unfold Db.live; rw [h]

theorem live_get {db : Db} (nd : NodupKeys db.dict) (k' k : Bytes) : (db.get k').1.live k = db.live k :=
  live_eq_of_purge (get_purge k' nd) k

theorem get_snd_live {db : Db} (nd : NodupKeys db.dict) (k : Bytes) : (db.get k).2 = db.live k :=
  get_result k nd

/-- what `Db.get` answers for `k`: the first stored entry of `k`, unless it is expired -/
def Db.seen (db : Db) (k : Bytes) : Option Item :=
  match db.dict.lookup k with
  | none => none
  | some it => if db.expired it then none else some it

theorem Db.get_snd (db : Db) (k : Bytes) : (db.get k).2 = db.seen k := by
  unfold Db.get Db.seen
  cases db.dict.lookup k with
  | none => rfl
  | some it => simp only; split <;> rfl

/-- a lazy deletion does not change what `get` answers, for any key (no uniqueness of keys needed) -/
theorem Db.seen_get (db : Db) (k' : Bytes) : (db.get k').1.seen = db.seen := by
  funext k
  unfold Db.get
  cases h : db.dict.lookup k' with
  | none => rfl
  | some it' =>
    simp only
    by_cases he : db.expired it' = true
    · simp only [he, if_true]
      unfold Db.seen
      show (match (erase db.dict k').lookup k with
        | none => none | some it => if db.expired it then none else some it) = _
      by_cases hk : k = k'
      · subst hk; rw [lookup_erase_self, h]; simp [he]
      · rw [lookup_erase_ne hk]
    · simp only [he, if_false, Bool.false_eq_true]

/-- with unique keys, what `get` answers is the live view -/
theorem Db.seen_eq_live {db : Db} (nd : NodupKeys db.dict) : db.seen = db.live :=
  funext fun k => (Db.get_snd db k).symm.trans (get_result k nd)

end FR

namespace FR.Ttl
open FR FR.Db

/-! ## `Signature.apply` on a function `Bytes → Option Item` -/

def pass1L (live : Bytes → Option Item) : List (Bytes × ArgTy) → List Arg → Except Err (Sum Reply (List Arg))
  | [], acc => .ok (.inr acc.reverse)
  | (b, t) :: rest, acc =>
    match t with
    | .key _ mr =>
      if mr != .unspecified then
        match live b with
        | none => .ok (.inl (Sig.missingReply mr))
        | some _ => pass1L live rest (.raw b :: acc)
      else pass1L live rest (.raw b :: acc)
    | _ =>
      match Conv.decode t b with
      | .error e => .error e
      | .ok a => pass1L live rest (a :: acc)

def pass2L (live : Bytes → Option Item) : List (Arg × ArgTy) → List Arg → List CI → Except Err (List Arg × List CI)
  | [], accA, accC => .ok (accA.reverse, accC.reverse)
  | (a, t) :: rest, accA, accC =>
    match t, a with
    | .key ty _, .raw k =>
      match ty, live k with
      | some ty, some it =>
        if it.value.ty != ty then .error Msgs.WRONGTYPE_MSG
        else pass2L live rest (.key accC.length :: accA) (⟨k, some it.value, it.expireat, false, false⟩ :: accC)
      | some ty, none =>
        pass2L live rest (.key accC.length :: accA) (⟨k, ty.default, none, false, false⟩ :: accC)
      | none, some it =>
        pass2L live rest (.key accC.length :: accA) (⟨k, some it.value, it.expireat, false, false⟩ :: accC)
      | none, none =>
        pass2L live rest (.key accC.length :: accA) (⟨k, none, none, false, false⟩ :: accC)
    | _, _ => pass2L live rest (a :: accA) accC

/-- `Signature.apply` with the look-ups answered by `live`; the database it would leave is not computed -/
def applyL (live : Bytes → Option Item) (s : Sig) (raw : List Bytes) : Except Err Sig.Applied :=
  if !s.checkArity raw.length then .error s.wrongArgs
  else if !s.rep.isEmpty && (raw.length - s.fixed.length) % s.rep.length != 0 then .error s.wrongArgs
  else
    match pass1L live (raw.zip (s.types raw.length)) [] with
    | .error e => .error e
    | .ok (.inl r) => .ok (.short r)
    | .ok (.inr args) =>
      match pass2L live (args.zip (s.types raw.length)) [] [] with
      | .error e => .error e
      | .ok (args', cis) => .ok (.ok args' cis)

def isKey : ArgTy → Bool
  | .key _ _ => true
  | _ => false

def ciOf (ty : Option Ty) (k : Bytes) (item : Option Item) : CI :=
  match item with
  | some it => ⟨k, some it.value, it.expireat, false, false⟩
  | none => ⟨k, ty.bind Ty.default, none, false, false⟩


/-! ## What a successful `applyL` returns -/

/-- the first pass without short-circuit: every argument converted left to right (a key stays raw,
`Conv.decode (.key _ _) b = .ok (.raw b)`), still paired with its type; the first failure wins -/
def decodeT : List (Bytes × ArgTy) → Except Err (List (Arg × ArgTy))
  | [] => .ok []
  | (b, t) :: rest =>
    match Conv.decode t b with
    | .error e => .error e
    | .ok a =>
      match decodeT rest with
      | .error e => .error e
      | .ok as => .ok ((a, t) :: as)

/-- the key arguments with their declared types, in argument order -/
def keysOf : List (Arg × ArgTy) → List (Bytes × Option Ty)
  | [] => []
  | (a, t) :: rest =>
    match t, a with
    | .key ty _, .raw k => (k, ty) :: keysOf rest
    | _, _ => keysOf rest

/-- the converted arguments, the `i`-th key argument (counted from `n`) replaced by `.key i` -/
def number : List (Arg × ArgTy) → Nat → List Arg
  | [], _ => []
  | (a, t) :: rest, n =>
    match t, a with
    | .key _ _, .raw _ => .key n :: number rest (n + 1)
    | _, _ => a :: number rest n

/-- the stored type agrees with the declared one; a missing key and an untyped one always do -/
def typeOK (live : Bytes → Option Item) (p : Bytes × Option Ty) : Bool :=
  match p.2, live p.1 with
  | some ty, some it => it.value.ty == ty
  | _, _ => true

/-- the `CommandItem` of a key argument -/
def ciOfKey (live : Bytes → Option Item) (p : Bytes × Option Ty) : CI := ciOf p.2 p.1 (live p.1)

theorem decodeT_cons {t : ArgTy} {b : Bytes} {a : Arg} (h : Conv.decode t b = .ok a) (rest : List (Bytes × ArgTy)) :
    decodeT ((b, t) :: rest) = (decodeT rest).map ((a, t) :: ·) := by
  rw [decodeT, h]; cases decodeT rest <;> rfl

/-- the converted arguments zipped with the types again are the pairs `decodeT` returns -/
theorem decodeT_zip : ∀ (raw : List Bytes) (tys : List ArgTy) {as : List (Arg × ArgTy)},
    decodeT (raw.zip tys) = .ok as → (as.map Prod.fst).zip tys = as
  | [], _, as, h => by cases h; rfl
  | _ :: _, [], as, h => by cases h; rfl
  | b :: bs, t :: ts, as, h => by
    simp only [List.zip_cons_cons, decodeT] at h
    cases hd : Conv.decode t b with
    | error e => rw [hd] at h; cases h
    | ok a =>
      rw [hd] at h
      cases hr : decodeT (bs.zip ts) with
      | error e => rw [hr] at h; cases h
      | ok as' =>
        rw [hr] at h; cases h
        simp only [List.map_cons, List.zip_cons_cons, decodeT_zip bs ts hr]

theorem ciOf_key (ty k item) : (ciOf ty k item).key = k := by cases item <;> rfl
theorem ciOf_expireat (ty k item) : (ciOf ty k item).expireat = item.bind (·.expireat) := by cases item <;> rfl
theorem ciOf_clean (ty k item) : (ciOf ty k item).Clean := by cases item <;> exact ⟨rfl, rfl⟩
theorem ciOfKey_key (live : Bytes → Option Item) (p : Bytes × Option Ty) : (ciOfKey live p).key = p.1 := by
  unfold ciOfKey ciOf; cases live p.1 <;> rfl

theorem pass2L_closed (live : Bytes → Option Item) (l : List (Arg × ArgTy)) (accA : List Arg) (accC : List CI) :
    pass2L live l accA accC =
      if (keysOf l).all (typeOK live) then
        .ok (accA.reverse ++ number l accC.length, accC.reverse ++ (keysOf l).map (ciOfKey live))
      else .error Msgs.WRONGTYPE_MSG := by
  induction l generalizing accA accC with
  | nil => simp [pass2L, keysOf, number]
  | cons x rest ih =>
    obtain ⟨a, t⟩ := x
    unfold pass2L keysOf number
    split
    · rename_i ty mr k
      have hk : typeOK live (k, ty) = match ty, live k with
          | some ty, some it => it.value.ty == ty | _, _ => true := rfl
      cases ty <;> cases h : live k <;> rw [h] at hk <;>
        simp only [ih, List.all_cons, hk, Bool.true_and, List.map_cons, ciOfKey, ciOf, h, List.length_cons,
          List.reverse_cons, List.append_assoc, List.singleton_append, Option.bind]
      rename_i ty it
      cases hty : it.value.ty == ty
      · have : (it.value.ty != ty) = true := by simp [bne, hty]
        simp only [this, Bool.false_and, if_true, Bool.false_eq_true, if_false]
      · have : (it.value.ty != ty) = false := by simp [bne, hty]
        simp only [this, Bool.true_and, Bool.false_eq_true, if_false]
    · simp [ih]

/-- the first pass went through (for any signature, `missing_return` or not): the arguments are those `decodeT` converts -/
theorem pass1L_inr {live : Bytes → Option Item} {l : List (Bytes × ArgTy)} {acc args : List Arg}
    (h : pass1L live l acc = .ok (.inr args)) :
    ∃ as, decodeT l = .ok as ∧ args = acc.reverse ++ as.map Prod.fst := by
  induction l generalizing acc with
  | nil => cases h; exact ⟨[], rfl, by simp⟩
  | cons x rest ih =>
    obtain ⟨b, t⟩ := x
    have step : ∀ a, Conv.decode t b = .ok a → pass1L live rest (a :: acc) = .ok (.inr args) →
        ∃ as, decodeT ((b, t) :: rest) = .ok as ∧ args = acc.reverse ++ as.map Prod.fst := by
      intro a ha h'
      obtain ⟨as, hd, e⟩ := ih h'
      exact ⟨(a, t) :: as, by rw [decodeT_cons ha, hd]; rfl, by rw [e]; simp⟩
    cases t
    case key ty mr =>
      simp only [pass1L] at h
      split at h
      · split at h
        · cases h
        · exact step _ rfl h
      · exact step _ rfl h
    all_goals
      simp only [pass1L] at h
      split at h
      · cases h
      · rename_i a ha
        exact step a ha h

/-- the success case of `applyL`, for a signature with or without `missing_return` -/
theorem applyL_ok {live : Bytes → Option Item} {s : Sig} {raw : List Bytes} {args : List Arg} {cis : List CI}
    (h : applyL live s raw = .ok (.ok args cis)) :
    ∃ as, decodeT (raw.zip (s.types raw.length)) = .ok as ∧ args = number as 0 ∧
      cis = (keysOf as).map (ciOfKey live) := by
  unfold applyL at h
  split at h
  · cases h
  · split at h
    · cases h
    · split at h
      · cases h
      · cases h
      · rename_i a1 h1
        obtain ⟨as, hd, rfl⟩ := pass1L_inr h1
        rw [List.reverse_nil, List.nil_append, decodeT_zip _ _ hd, pass2L_closed] at h
        split at h
        · cases h
        · rename_i heq
          split at heq
          · simp only [Except.ok.injEq, Sig.Applied.ok.injEq] at h
            cases heq
            exact ⟨as, hd, by simpa using h.1.symm, by simpa using h.2.symm⟩
          · cases heq

/-! ## `applyL` in closed form -/

/-- no `missing_return` on a key type: the first pass never short-circuits -/
def noMR : ArgTy → Bool
  | .key _ mr => mr == .unspecified
  | _ => true

theorem noMR_of_nonkey {t : ArgTy} (h : isKey t = false) : noMR t = true := by
  cases t <;> first | rfl | cases h

/-- what holds of the declared types and of `bytes` holds of every converter `apply` uses -/
theorem types_all (P : ArgTy → Prop) (s : Sig) (hb : P .bytes) (h1 : ∀ t ∈ s.fixed, P t) (h2 : ∀ t ∈ s.rep, P t)
    (n : Nat) : ∀ t ∈ s.types n, P t := by
  intro t ht
  unfold Sig.types at ht
  rcases List.mem_append.1 ht with ht | ht
  · exact h1 t ht
  · obtain ⟨i, _, rfl⟩ := List.mem_map.1 ht
    rw [List.getD_eq_getElem?_getD]
    cases h : s.rep[i % s.rep.length]? with
    | none => exact hb
    | some t => exact h2 t (List.mem_of_getElem? h)

theorem types_length (s : Sig) (n : Nat) : n ≤ (s.types n).length := by
  unfold Sig.types
  simp only [List.length_append, List.length_map, List.length_range]
  omega

/-- convert the non-key arguments left to right; the first failure wins -/
def decodeAll : List (Bytes × ArgTy) → Except Err (List Arg)
  | [] => .ok []
  | (b, t) :: rest =>
    match Conv.decode t b with
    | .error e => .error e
    | .ok a =>
      match decodeAll rest with
      | .error e => .error e
      | .ok as => .ok (a :: as)

theorem decodeAll_eq (l : List (Bytes × ArgTy)) : decodeAll l = (decodeT l).map (·.map Prod.fst) := by
  induction l with
  | nil => rfl
  | cons x rest ih =>
    obtain ⟨b, t⟩ := x
    simp only [decodeAll, decodeT, ih]
    cases Conv.decode t b with
    | error e => rfl
    | ok a => cases decodeT rest <;> rfl

/-- plain byte strings are passed on unconverted -/
theorem decodeAll_raw : ∀ (rest : List Bytes) (tl : List ArgTy), (∀ t ∈ tl, t = ArgTy.bytes) →
    rest.length ≤ tl.length → decodeAll (rest.zip tl) = .ok (rest.map .raw)
  | [], _, _, _ => rfl
  | b :: rest, [], _, h => by simp at h
  | b :: rest, t :: tl, ht, h => by
    have : t = .bytes := ht t (by simp)
    subst this
    simp only [List.zip_cons_cons, decodeAll, Conv.decode, List.map_cons]
    rw [decodeAll_raw rest tl (fun t h' => ht t (by simp [h'])) (by simpa using h)]


theorem decodeT_snd : ∀ (l : List (Bytes × ArgTy)) {as : List (Arg × ArgTy)},
    decodeT l = .ok as → as.map Prod.snd = l.map Prod.snd
  | [], as, h => by cases h; rfl
  | (b, t) :: rest, as, h => by
    simp only [decodeT] at h
    cases hd : Conv.decode t b with
    | error e => rw [hd] at h; cases h
    | ok a =>
      rw [hd] at h
      cases hr : decodeT rest with
      | error e => rw [hr] at h; cases h
      | ok as' => rw [hr] at h; cases h; simp only [List.map_cons, decodeT_snd rest hr]

theorem keysOf_other {t : ArgTy} (h : isKey t = false) (a : Arg) (rest : List (Arg × ArgTy)) :
    keysOf ((a, t) :: rest) = keysOf rest := by
  cases t <;> first | rfl | cases h

theorem number_other {t : ArgTy} (h : isKey t = false) (a : Arg) (rest : List (Arg × ArgTy)) (n : Nat) :
    number ((a, t) :: rest) n = a :: number rest n := by
  cases t <;> first | rfl | cases h

/-- non-keys only: the arguments as they are, no item -/
theorem keysOf_nonkey {l : List (Arg × ArgTy)} (h : ∀ p ∈ l, isKey p.2 = false) : keysOf l = [] := by
  induction l with
  | nil => rfl
  | cons x rest ih =>
    rw [keysOf_other (h x (by simp)), ih fun p hp => h p (List.mem_cons_of_mem _ hp)]

theorem number_nonkey {l : List (Arg × ArgTy)} (h : ∀ p ∈ l, isKey p.2 = false) (n : Nat) :
    number l n = l.map Prod.fst := by
  induction l with
  | nil => rfl
  | cons x rest ih =>
    rw [number_other (h x (by simp)), ih fun p hp => h p (List.mem_cons_of_mem _ hp)]; rfl

/-- the first pass on an argument list without `missing_return` -/
theorem pass1L_closed (live : Bytes → Option Item) (l : List (Bytes × ArgTy)) (acc : List Arg)
    (hl : ∀ p ∈ l, noMR p.2 = true) :
    pass1L live l acc =
      match decodeT l with
      | .error e => .error e
      | .ok as => .ok (.inr (acc.reverse ++ as.map Prod.fst)) := by
  induction l generalizing acc with
  | nil => simp [pass1L, decodeT]
  | cons x rest ih =>
    obtain ⟨b, t⟩ := x
    have ih := fun acc => ih acc (fun p hp => hl p (List.mem_cons_of_mem _ hp))
    have ht := hl (b, t) (by simp)
    cases t
    case key ty mr =>
      simp only [noMR, beq_iff_eq] at ht
      subst ht
      simp only [pass1L, bne_self_eq_false, Bool.false_eq_true, if_false, decodeT, Conv.decode, ih]
      cases decodeT rest <;> simp
    all_goals
      simp only [pass1L, decodeT]
      generalize Conv.decode _ b = dc
      cases dc with
      | error e => rfl
      | ok a => simp only [ih]; cases decodeT rest <;> simp

/-- `Signature.apply` on the live view for a signature without `missing_return` -/
theorem applyL_closed (live : Bytes → Option Item) (s : Sig) (raw : List Bytes)
    (h1 : ∀ t ∈ s.fixed, noMR t = true) (h2 : ∀ t ∈ s.rep, noMR t = true) :
    applyL live s raw =
      if !s.checkArity raw.length then .error s.wrongArgs
      else if !s.rep.isEmpty && (raw.length - s.fixed.length) % s.rep.length != 0 then .error s.wrongArgs
      else
        match decodeT (raw.zip (s.types raw.length)) with
        | .error e => .error e
        | .ok as =>
          if (keysOf as).all (typeOK live) then .ok (.ok (number as 0) ((keysOf as).map (ciOfKey live)))
          else .error Msgs.WRONGTYPE_MSG := by
  unfold applyL
  split
  · rfl
  · split
    · rfl
    · rw [pass1L_closed live _ [] (fun p hp => types_all (noMR · = true) s rfl h1 h2 _ p.2 (List.of_mem_zip hp).2)]
      cases hd : decodeT (raw.zip (s.types raw.length)) with
      | error e => rfl
      | ok as =>
        simp only [List.reverse_nil, List.nil_append, decodeT_zip _ _ hd, pass2L_closed, List.length_nil]
        cases (keysOf as).all (typeOK live) <;> rfl


/-- a signature without key-typed arguments: the arity checks, then the conversions; the live view is not looked at -/
theorem applyL_keyless (live : Bytes → Option Item) (s : Sig) (raw : List Bytes)
    (h1 : ∀ t ∈ s.fixed, isKey t = false) (h2 : ∀ t ∈ s.rep, isKey t = false) :
    applyL live s raw =
      if !s.checkArity raw.length then .error s.wrongArgs
      else if !s.rep.isEmpty && (raw.length - s.fixed.length) % s.rep.length != 0 then .error s.wrongArgs
      else
        match decodeAll (raw.zip (s.types raw.length)) with
        | .error e => .error e
        | .ok as => .ok (.ok as []) := by
  rw [applyL_closed live s raw (fun t h => noMR_of_nonkey (h1 t h)) (fun t h => noMR_of_nonkey (h2 t h)), decodeAll_eq]
  cases hd : decodeT (raw.zip (s.types raw.length)) with
  | error e => rfl
  | ok as =>
    -- the converted arguments carry the types of the signature, none of which is a key
    have has : ∀ p ∈ as, isKey p.2 = false := by
      intro p hp
      have : p.2 ∈ (raw.zip (s.types raw.length)).map Prod.snd := decodeT_snd _ hd ▸ List.mem_map_of_mem hp
      obtain ⟨q, hq, e⟩ := List.mem_map.1 this
      exact e ▸ types_all (isKey · = false) s rfl h1 h2 _ q.2 (List.of_mem_zip hq).2
    simp only [Except.map, keysOf_nonkey has, number_nonkey has, List.all_nil, if_true, List.map_nil]

/-- a `CommandItem` as `Signature.apply` builds it from the live view -/
def FromLive (live : Bytes → Option Item) (c : CI) : Prop := ∃ ty, c = ciOf ty c.key (live c.key)

theorem fromLive_ciOf (live ty k) : FromLive live (ciOf ty k (live k)) := ⟨ty, by rw [ciOf_key]⟩

theorem FromLive.clean {live} {c : CI} (h : FromLive live c) : c.Clean := by
  obtain ⟨ty, h⟩ := h; rw [h]; exact ciOf_clean _ _ _

theorem applyL_fromLive {live : Bytes → Option Item} {s : Sig} {raw : List Bytes} {args : List Arg} {cis : List CI}
    (h : applyL live s raw = .ok (.ok args cis)) : ∀ c ∈ cis, FromLive live c := by
  obtain ⟨as, _, _, rfl⟩ := applyL_ok h
  intro c hc
  obtain ⟨p, _, rfl⟩ := List.mem_map.1 hc
  exact fromLive_ciOf live p.2 p.1

end FR.Ttl

/-! ## The database `apply` leaves, and its result -/

namespace FR.Sig
open FR FR.Db

/-- the first pass: `hget` is asked for only if the list has a key-typed argument at all -/
theorem pass1_inv {P : Db → Prop} (l : List (Bytes × ArgTy))
    (hget : (∃ p ∈ l, Ttl.isKey p.2 = true) → ∀ d k, P d → P (d.get k).1) {db : Db} (h : P db) (acc : List Arg) :
    P (pass1 db l acc).1 := by
  induction l generalizing db acc with
  | nil => exact h
  | cons x rest ih =>
    obtain ⟨b, t⟩ := x
    have ih := fun {db} => ih (fun ⟨p, hp, hk⟩ => hget ⟨p, List.mem_cons_of_mem _ hp, hk⟩) (db := db)
    cases t
    case key ty mr =>
      simp only [pass1]
      split
      · have hg := hget ⟨_, List.mem_cons_self, rfl⟩ db b h
        revert hg
        generalize db.get b = g
        obtain ⟨db', r⟩ := g
        intro hg
        cases r with
        | none => exact hg
        | some it => exact ih hg _
      · exact ih h _
    all_goals
      simp only [pass1]
      split
      · exact h
      · exact ih h _

theorem pass2_inv {P : Db → Prop} (l : List (Arg × ArgTy))
    (hget : (∃ p ∈ l, Ttl.isKey p.2 = true) → ∀ d k, P d → P (d.get k).1) {db : Db} (h : P db) (accA : List Arg)
    (accC : List CI) : P (pass2 db l accA accC).1 := by
  induction l generalizing db accA accC with
  | nil => exact h
  | cons x rest ih =>
    obtain ⟨a, t⟩ := x
    have ih := fun {db} => ih (fun ⟨p, hp, hk⟩ => hget ⟨p, List.mem_cons_of_mem _ hp, hk⟩) (db := db)
    unfold pass2
    split
    · rename_i ty mr k
      have hg := hget ⟨_, List.mem_cons_self, rfl⟩ db k h
      revert hg
      generalize db.get k = g
      obtain ⟨db', item⟩ := g
      intro hg
      simp only at hg ⊢
      split
      · split
        · exact hg
        · exact ih hg _ _
      · exact ih hg _ _
      · exact ih hg _ _
      · exact ih hg _ _
    · exact ih h _ _

/-- the same for `apply`: `hget` is asked for only if the signature declares a key-typed argument -/
theorem apply_inv_of_keys {P : Db → Prop} (s : Sig) (raw : List Bytes)
    (hget : (∃ t ∈ s.types raw.length, Ttl.isKey t = true) → ∀ d k, P d → P (d.get k).1) {db : Db} (h : P db) :
    P (s.apply raw db).1 := by
  have hz : ∀ {α} (l : List α), (∃ p ∈ l.zip (s.types raw.length), Ttl.isKey p.2 = true) →
      ∀ d k, P d → P (d.get k).1 := fun l ⟨p, hp, hk⟩ => hget ⟨p.2, (List.of_mem_zip hp).2, hk⟩
  unfold apply
  split
  · exact h
  · split
    · exact h
    · simp only
      have r1 := pass1_inv (raw.zip (s.types raw.length)) (hz raw) h []
      split
      · rename_i heq; rw [heq] at r1; exact r1
      · rename_i heq; rw [heq] at r1; exact r1
      · rename_i db1 args heq
        rw [heq] at r1
        have r2 := pass2_inv (args.zip (s.types raw.length)) (hz args) r1 [] []
        split
        · rename_i heq2; rw [heq2] at r2; exact r2
        · rename_i heq2; rw [heq2] at r2; exact r2

/-- the database `Signature.apply` leaves is reached by `get`s: whatever `get` keeps, `apply` keeps -/
theorem apply_inv {P : Db → Prop} (hget : ∀ d k, P d → P (d.get k).1) (s : Sig) (raw : List Bytes) {db : Db}
    (h : P db) : P (s.apply raw db).1 :=
  apply_inv_of_keys s raw (fun _ => hget) h

end FR.Sig

namespace FR.Ttl
open FR FR.Db

theorem pass1_seen (l : List (Bytes × ArgTy)) (db : Db) (acc : List Arg) :
    (Sig.pass1 db l acc).2 = pass1L db.seen l acc := by
  induction l generalizing db acc with
  | nil => rfl
  | cons x rest ih =>
    obtain ⟨b, t⟩ := x
    cases t
    case key ty mr =>
      simp only [Sig.pass1, pass1L]
      split
      · have hg := Db.get_snd db b
        have hl := Db.seen_get db b
        revert hg hl
        generalize db.get b = g
        obtain ⟨db', r⟩ := g
        simp only
        intro hg hl
        rw [← hg]
        cases r with
        | none => rfl
        | some it => simp only; rw [ih, hl]
      · exact ih _ _
    all_goals
      simp only [Sig.pass1, pass1L]
      generalize Conv.decode _ b = dc
      cases dc with
      | error e => rfl
      | ok a => exact ih _ _

theorem pass2_seen (l : List (Arg × ArgTy)) (db : Db) (accA : List Arg) (accC : List CI) :
    (Sig.pass2 db l accA accC).2 = pass2L db.seen l accA accC := by
  induction l generalizing db accA accC with
  | nil => rfl
  | cons x rest ih =>
    obtain ⟨a, t⟩ := x
    unfold Sig.pass2 pass2L
    split
    · rename_i ty mr k
      have hg := Db.get_snd db k
      have hl := Db.seen_get db k
      revert hg hl
      generalize db.get k = g
      obtain ⟨db', r⟩ := g
      simp only
      intro hg hl
      rw [← hg]
      cases ty <;> cases r <;> simp only
      · rw [ih, hl]
      · rw [ih, hl]
      · rw [ih, hl]
      · split
        · rfl
        · rw [ih, hl]
    · rename_i hne
      split
      · rename_i ty mr k; exact (hne ty mr k rfl rfl).elim
      · exact ih _ _ _

/-- the result of `Signature.apply`, with or without unique keys: `applyL` of what `get` answers -/
theorem apply_seen (s : Sig) (raw : List Bytes) (db : Db) : (s.apply raw db).2 = applyL db.seen s raw := by
  unfold Sig.apply applyL
  split
  · rfl
  · split
    · rfl
    · simp only
      have h1 := pass1_seen (raw.zip (s.types raw.length)) db []
      have r1 : (Sig.pass1 db (raw.zip (s.types raw.length)) []).1.seen = db.seen :=
        Sig.pass1_inv (P := fun d => d.seen = db.seen) _ (fun _ d k h => (Db.seen_get d k).trans h) rfl []
      revert h1 r1
      generalize Sig.pass1 db (raw.zip (s.types raw.length)) [] = g
      obtain ⟨db1, x⟩ := g
      simp only
      intro h1 r1
      rw [← h1]
      cases x with
      | error e => rfl
      | ok sm =>
        cases sm with
        | inl r => rfl
        | inr args =>
          simp only
          rw [← r1, ← pass2_seen]
          generalize Sig.pass2 db1 (args.zip (s.types raw.length)) [] [] = g2
          obtain ⟨db2, y⟩ := g2
          cases y with
          | error e => rfl
          | ok pr => rfl

theorem apply_eq (s : Sig) (raw : List Bytes) {db : Db} (nd : NodupKeys db.dict) :
    (s.apply raw db).2 = applyL db.live s raw := by
  rw [apply_seen, Db.seen_eq_live nd]

/-- the reply of a `missing_return` short-circuit is one of the three `missingReply`s -/
theorem pass1L_short {live : Bytes → Option Item} {l : List (Bytes × ArgTy)} {acc : List Arg} {r : Reply}
    (h : pass1L live l acc = .ok (.inl r)) : ∃ mr, r = Sig.missingReply mr := by
  induction l generalizing acc with
  | nil => cases h
  | cons x rest ih =>
    obtain ⟨b, t⟩ := x
    cases t
    case key ty mr =>
      simp only [pass1L] at h
      split at h
      · split at h
        · cases h; exact ⟨mr, rfl⟩
        · exact ih h
      · exact ih h
    all_goals
      simp only [pass1L] at h
      split at h
      · cases h
      · exact ih h

theorem applyL_short {live : Bytes → Option Item} {s : Sig} {raw : List Bytes} {r : Reply}
    (h : applyL live s raw = .ok (.short r)) : ∃ mr, r = Sig.missingReply mr := by
  unfold applyL at h
  split at h
  · cases h
  · split at h
    · cases h
    · split at h
      · cases h
      · rename_i h1
        cases h
        exact pass1L_short h1
      · split at h <;> cases h

end FR.Ttl

/-! ## Corollaries -/

namespace FR.Sig
open FR FR.Db FR.Ttl

theorem apply_reads (s : Sig) (raw : List Bytes) {db : Db} (nd : NodupKeys db.dict) :
    Reads db (s.apply raw db).1 :=
  apply_inv (P := Reads db) (fun _ k h => h.trans (Reads.get h.nd k)) s raw (Reads.refl nd)

/-- `Signature.apply` respects the purge quotient -/
theorem apply_sim (s : Sig) (raw : List Bytes) {a b : Db} (h : Sim a b) :
    (s.apply raw a).2 = (s.apply raw b).2 ∧ Sim (s.apply raw a).1 (s.apply raw b).1 := by
  have ra := apply_reads s raw h.nd1
  have rb := apply_reads s raw h.nd2
  exact ⟨by rw [apply_eq s raw h.nd1, apply_eq s raw h.nd2, funext (live_eq_of_purge h.eq)],
    ra.nd, rb.nd, by rw [ra.eq, rb.eq, h.eq]⟩

theorem apply_clean (s : Sig) (raw : List Bytes) (db : Db) {args : List Arg} {cis : List CI}
    (h : (s.apply raw db).2 = .ok (.ok args cis)) : ∀ c ∈ cis, c.Clean :=
  fun c hc => (applyL_fromLive ((apply_seen s raw db).symm.trans h) c hc).clean

/-- a signature without key-typed arguments looks nothing up: the database stays as it is, and the result is the
arity checks followed by the conversions -/
theorem apply_keyless (s : Sig) (raw : List Bytes) (db : Db) (h1 : ∀ t ∈ s.fixed, isKey t = false)
    (h2 : ∀ t ∈ s.rep, isKey t = false) :
    s.apply raw db =
      (db, if !s.checkArity raw.length then .error s.wrongArgs
        else if !s.rep.isEmpty && (raw.length - s.fixed.length) % s.rep.length != 0 then .error s.wrongArgs
        else
          match decodeAll (raw.zip (s.types raw.length)) with
          | .error e => .error e
          | .ok as => .ok (.ok as [])) :=
  Prod.ext
    (apply_inv_of_keys (P := (· = db)) s raw
      (fun ⟨t, ht, hk⟩ => absurd hk (by rw [types_all (isKey · = false) s rfl h1 h2 _ t ht]; exact Bool.false_ne_true))
      rfl)
    ((apply_seen s raw db).trans (applyL_keyless _ s raw h1 h2))

theorem missingReply_not_err (mr : MissingRet) : (Sig.missingReply mr).isErr = false := by
  cases mr <;> rfl

/-- the reply of a `missing_return` short-circuit is never an error reply -/
theorem apply_short_not_err (s : Sig) (raw : List Bytes) (db : Db) {r : Reply}
    (h : (s.apply raw db).2 = .ok (.short r)) : r.isErr = false := by
  obtain ⟨mr, rfl⟩ := applyL_short ((apply_seen s raw db).symm.trans h)
  exact missingReply_not_err mr

end FR.Sig

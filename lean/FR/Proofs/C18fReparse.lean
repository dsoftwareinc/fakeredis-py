import FR.Proofs.C18fRound
import FR.Proofs.C18fFmt
/-!
# C18f: what INCRBYFLOAT / HINCRBYFLOAT store can be read back

`encodeFloat_reparses`: for every finite canonical double `s` and both emulated versions, the human-friendly
encoding `Cmd.encodeFloat version s true` (the `%.17f` rendering without trailing zeros) is accepted by the plain
`Float` converter, and the value read back is finite.
-/
namespace FR.C18f
open FR FR.DumpRound

theorem plusZero_finite {d : Dbl} (hf : d.isFinite = true) (hc : Canon d) : d.plusZero.isFinite = true := by
  cases d with
  | nan => cases hf
  | inf b => cases hf
  | fin n m e =>
    by_cases hm : m = 0
    · subst hm
      rw [plusZero_zero]
      rfl
    · rw [plusZero_eq_self n m e hc hm]; rfl

theorem round_bound (N C D : Nat) (hD : 0 < D) (h : 2 * (N * D) ≤ 2 * C + D) : N ≤ C + 1 := by
  by_cases c : N ≤ C + 1
  · exact c
  · exfalso
    have h1 : (C + 2) * D ≤ N * D := Nat.mul_le_mul_right _ (by omega)
    rw [Nat.add_mul] at h1
    have h2 : C * 1 ≤ C * D := Nat.mul_le_mul_left _ hD
    generalize N * D = A at *
    generalize C * D = B at *
    omega

set_option exponentiation.threshold 1100 in
theorem humanN_lt_ovf (m : Nat) (e : Int) (he : e ≤ 971) (hm : m < 2 ^ 53) : humanN m e < ovf * 10 ^ 17 := by
  have hm' : m ≤ 2 ^ 53 - 1 := by omega
  by_cases hge : e ≥ 0
  · rw [humanN_exact m e hge]
    have hp : 2 ^ e.toNat ≤ 2 ^ 971 := Nat.pow_le_pow_right (by decide) (by omega)
    have h1 : m * 2 ^ e.toNat ≤ (2 ^ 53 - 1) * 2 ^ e.toNat := Nat.mul_le_mul_right _ hm'
    have h2 : (2 ^ 53 - 1) * 2 ^ e.toNat ≤ (2 ^ 53 - 1) * 2 ^ 971 := Nat.mul_le_mul_left _ hp
    have h3 : m * 2 ^ e.toNat < ovf := by
      apply Nat.lt_of_le_of_lt (Nat.le_trans h1 h2)
      unfold ovf
      decide +kernel
    exact Nat.mul_lt_mul_of_pos_right h3 (Nat.pow_pos (by decide))
  · have hN2 : humanN m e ≤ humanNum m e * 10 ^ 17 + 1 :=
      round_bound _ _ _ (humanDen_pos e) (rm_spec _ _ (humanDen_pos e)).1
    have hnum : humanNum m e = m := by unfold humanNum; rw [if_neg hge]
    rw [hnum] at hN2
    have h4 : m * 10 ^ 17 + 1 ≤ (2 ^ 53 - 1) * 10 ^ 17 + 1 :=
      Nat.add_le_add_right (Nat.mul_le_mul_right _ hm') 1
    apply Nat.lt_of_le_of_lt (Nat.le_trans hN2 h4)
    unfold ovf
    decide +kernel

set_option exponentiation.threshold 1100 in
theorem fmtF17Human_reparses (neg : Bool) (m : Nat) (e : Int) (hc : Canon (.fin neg m e)) :
    ∃ d', Conv.float (strBytes (Dbl.fmtF17Human (.fin neg m e))) = .ok d' ∧ d'.isFinite = true := by
  have he : e ≤ 971 ∧ m < 2 ^ 53 := by
    rcases hc with ⟨h1, h2⟩ | ⟨h1, h2, h3, h4⟩
    · exact ⟨by omega, by omega⟩
    · exact ⟨h4, h2⟩
  obtain ⟨L, hv, hb, hsg, hexp, hfl, hmant, _⟩ := fmtF17Human_lit neg m e
  have hx : expoC L = 0 := by unfold expoC; rw [hexp]
  have hN : humanN m e < ovf * 10 ^ 17 := humanN_lt_ovf m e he.1 he.2
  have hM : L.mant < ovf * 10 ^ L.fp.length := by
    have : L.mant * 10 ^ 17 < ovf * 10 ^ L.fp.length * 10 ^ 17 := by
      rw [hmant, Nat.mul_assoc, Nat.mul_comm (10 ^ L.fp.length), ← Nat.mul_assoc]
      exact Nat.mul_lt_mul_of_pos_right hN (Nat.pow_pos (by decide))
    exact Nat.lt_of_mul_lt_mul_right this
  have e1 : (-(0 - (L.fp.length : Int))).toNat = L.fp.length := by omega
  have e2 : (0 - (L.fp.length : Int)).toNat = 0 := by omega
  have hmv : modelVal L = Dbl.ofDecimal L.sign.neg L.mant (0 - (L.fp.length : Int)) := by
    unfold modelVal; rw [hx]
  -- the value read back is below the overflow threshold …
  have hninf : (modelVal L).isInf = false := by
    cases hi : (modelVal L).isInf with
    | false => rfl
    | true =>
      rw [hmv, ofDecimal_isInf_iff, e1, e2, Nat.pow_zero, Nat.mul_one] at hi
      omega
  refine ⟨modelVal L, ?_, ?_⟩
  · unfold Conv.float
    rw [floatGen_ok_iff]
    refine Or.inl ⟨L, hv, hb, rfl, ?_⟩
    by_cases h0 : L.mant = 0
    · exact Or.inr (Or.inl h0)
    · refine Or.inr (Or.inr ⟨hninf, ?_⟩)
      -- … and, with at most 17 fraction digits, far above the underflow threshold
      cases hz : (modelVal L).isZero with
      | false => rfl
      | true =>
        exfalso
        rw [hmv, ofDecimal_isZero_iff, e1, e2, Nat.pow_zero, Nat.mul_one] at hz
        rcases hz with hz | hz
        · exact h0 hz
        · have hp : 10 ^ L.fp.length ≤ 10 ^ 17 := Nat.pow_le_pow_right (by decide) hfl
          have h1 : 1 * 2 ^ 1075 ≤ L.mant * 2 ^ 1075 := Nat.mul_le_mul_right _ (by omega)
          generalize 10 ^ L.fp.length = P at *
          omega
  · rw [hmv] at hninf ⊢
    rcases ofDecimal_shape L.sign.neg L.mant (0 - (L.fp.length : Int)) with h | ⟨m', e', h⟩
    · rw [h] at hninf; cases hninf
    · rw [h]; rfl

theorem encodeFloat_reparses (version : Nat) (s : Dbl) (hf : s.isFinite = true) (hc : Canon s) :
    ∃ d', Conv.float (Cmd.encodeFloat version s true) = .ok d' ∧ d'.isFinite = true := by
  have key : ∀ d : Dbl, d.isFinite = true → Canon d →
      ∃ d', Conv.float (Dbl.encode d true) = .ok d' ∧ d'.isFinite = true := by
    intro d hf hc
    cases d with
    | nan => cases hf
    | inf b => cases hf
    | fin n m e => exact fmtF17Human_reparses n m e hc
  unfold Cmd.encodeFloat
  split
  · exact key _ (plusZero_finite hf hc) (plusZero_canon s)
  · exact key _ hf hc


end FR.C18f

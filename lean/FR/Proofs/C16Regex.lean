import FR.Glob.Render
import FR.Proofs.Glob
/-!
# C16 (regex text): a deep embedding of the regex fragment that `compile_pattern` emits

* `Rx` / `Rx.Matches`: the fragment and its textbook semantics (language membership), written without any reference to
  the backtracking matcher `matchA`.
* `parseRx`: a decoder of the regex text (bytes) back into `Rx`.
* `rxOf`: the translation of the model's atoms, with `parseRx (render as) = some (rxOf as)` for well-formed atoms (all that
  `compile` produces) and `matchA as s ↔ (rxOf as).Matches s`.
* Lexical facts: `lex`, a lexer that knows nothing about `render`, reads the text as the tokens `atomsToks as`, and in
  these a backslash or a byte with a syntactic role stands only where `Tok.Emitted` allows.

What stays trusted after this file: CPython's `re` (bytes pattern, flag `re.S`, method `match`)
implements `Rx.Matches` on every text accepted by `parseRx`.
-/
namespace FR.Glob

/-! ## the fragment and its textbook semantics -/

inductive RItem where
  | ch (c : UInt8)
  | range (lo hi : UInt8)
  deriving Repr, DecidableEq

def RItem.Has (c : UInt8) : RItem → Prop
  | .ch x => c = x
  | .range lo hi => lo.toNat ≤ c.toNat ∧ c.toNat ≤ hi.toNat

inductive Rx where
  | eps
  /-- `(?!)`: a look-ahead that always fails (the empty language) -/
  | fail
  /-- `.` under `re.S`: any single byte, newline included -/
  | any
  /-- a literal byte (written plainly or as `\c`) -/
  | lit (c : UInt8)
  /-- `[items]` (`neg = false`) or `[^items]` (`neg = true`) -/
  | set (neg : Bool) (items : List RItem)
  | cat (a b : Rx)
  | star (r : Rx)
  deriving Repr, DecidableEq

/-- textbook language membership of the whole string `s`.
Python's `regex.match(s)` anchors at the start, `\Z` anchors at the end of the subject, so
`compile_pattern(p).match(s) is not None` iff `s` is in the language of the text between the
anchors. -/
inductive Rx.Matches : Rx → B → Prop
  | eps : Matches .eps []
  | any (c : UInt8) : Matches .any [c]
  | lit (c : UInt8) : Matches (.lit c) [c]
  | setPos (items : List RItem) (c : UInt8) :
      (∃ it ∈ items, it.Has c) → Matches (.set false items) [c]
  | setNeg (items : List RItem) (c : UInt8) :
      (¬ ∃ it ∈ items, it.Has c) → Matches (.set true items) [c]
  | cat {a b : Rx} {s t : B} : Matches a s → Matches b t → Matches (.cat a b) (s ++ t)
  | starNil {r : Rx} : Matches (.star r) []
  | starCons {r : Rx} {s t : B} : Matches r s → Matches (.star r) t → Matches (.star r) (s ++ t)

theorem Rx.eps_iff (s : B) : Rx.eps.Matches s ↔ s = [] := by
  constructor
  · intro h; cases h; rfl
  · rintro rfl; exact .eps

theorem Rx.fail_iff (s : B) : Rx.fail.Matches s ↔ False := by
  constructor
  · intro h; cases h
  · intro h; exact h.elim

theorem Rx.any_iff (s : B) : Rx.any.Matches s ↔ ∃ c, s = [c] := by
  constructor
  · intro h; cases h with | any c => exact ⟨c, rfl⟩
  · rintro ⟨c, rfl⟩; exact .any c

theorem Rx.lit_iff (x : UInt8) (s : B) : (Rx.lit x).Matches s ↔ s = [x] := by
  constructor
  · intro h; cases h; rfl
  · rintro rfl; exact .lit x

theorem Rx.set_iff (neg : Bool) (items : List RItem) (s : B) :
    (Rx.set neg items).Matches s ↔
      ∃ c, s = [c] ∧ (neg = false ↔ ∃ it ∈ items, it.Has c) := by
  constructor
  · intro h
    cases h with
    | setPos _ c h => exact ⟨c, rfl, by simp [h]⟩
    | setNeg _ c h => exact ⟨c, rfl, by simp [h]⟩
  · rintro ⟨c, rfl, h⟩
    cases neg with
    | false => exact .setPos items c (h.mp rfl)
    | true => exact .setNeg items c (fun hc => by have := h.mpr hc; simp at this)

theorem Rx.cat_iff (a b : Rx) (s : B) :
    (Rx.cat a b).Matches s ↔ ∃ u v, s = u ++ v ∧ a.Matches u ∧ b.Matches v := by
  constructor
  · intro h; cases h with | cat h1 h2 => exact ⟨_, _, rfl, h1, h2⟩
  · rintro ⟨u, v, rfl, h1, h2⟩; exact .cat h1 h2

theorem Rx.star_iff (r : Rx) (s : B) :
    (Rx.star r).Matches s ↔
      s = [] ∨ ∃ u v, s = u ++ v ∧ r.Matches u ∧ (Rx.star r).Matches v := by
  constructor
  · intro h
    cases h with
    | starNil => exact .inl rfl
    | starCons h1 h2 => exact .inr ⟨_, _, rfl, h1, h2⟩
  · rintro (rfl | ⟨u, v, rfl, h1, h2⟩)
    · exact .starNil
    · exact .starCons h1 h2

theorem Rx.star_any_all (s : B) : (Rx.star .any).Matches s := by
  induction s with
  | nil => exact .starNil
  | cons c t ih => exact Rx.Matches.starCons (s := [c]) (.any c) ih

theorem Rx.cat_star_any_nil (r : Rx) :
    (Rx.cat (.star .any) r).Matches [] ↔ r.Matches [] := by
  rw [Rx.cat_iff]
  constructor
  · rintro ⟨u, v, h, _, h2⟩
    have hv : v = [] := by
      cases u with
      | nil => simpa using h.symm
      | cons _ _ => simp at h
    exact hv ▸ h2
  · intro h; exact ⟨[], [], rfl, .starNil, h⟩

theorem Rx.cat_star_any_cons (r : Rx) (c : UInt8) (t : B) :
    (Rx.cat (.star .any) r).Matches (c :: t) ↔
      r.Matches (c :: t) ∨ (Rx.cat (.star .any) r).Matches t := by
  rw [Rx.cat_iff, Rx.cat_iff]
  constructor
  · rintro ⟨u, v, h, _, h2⟩
    cases u with
    | nil => left; simp at h; exact h ▸ h2
    | cons d u' =>
      right
      simp at h
      exact ⟨u', v, h.2, Rx.star_any_all u', h2⟩
  · rintro (h | ⟨u, v, rfl, _, h2⟩)
    · exact ⟨[], c :: t, rfl, .starNil, h⟩
    · exact ⟨c :: u, v, rfl, Rx.star_any_all _, h2⟩

theorem Rx.cat_single_nil (a r : Rx) (P : UInt8 → Prop)
    (ha : ∀ u, a.Matches u ↔ ∃ c, u = [c] ∧ P c) : ¬ (Rx.cat a r).Matches [] := by
  rw [Rx.cat_iff]
  rintro ⟨u, v, h, h1, _⟩
  obtain ⟨c, rfl, _⟩ := (ha u).mp h1
  simp at h

theorem Rx.cat_single_cons (a r : Rx) (P : UInt8 → Prop)
    (ha : ∀ u, a.Matches u ↔ ∃ c, u = [c] ∧ P c) (c : UInt8) (t : B) :
    (Rx.cat a r).Matches (c :: t) ↔ P c ∧ r.Matches t := by
  rw [Rx.cat_iff]
  constructor
  · rintro ⟨u, v, h, h1, h2⟩
    obtain ⟨d, rfl, hd⟩ := (ha u).mp h1
    simp at h
    obtain ⟨rfl, rfl⟩ := h
    exact ⟨hd, h2⟩
  · rintro ⟨hc, h2⟩
    exact ⟨[c], t, rfl, (ha [c]).mpr ⟨c, rfl, hc⟩, h2⟩

/-! ## decoding the regex text -/

def cDot : UInt8 := 46
def cZ : UInt8 := 90
def neverText : B := [40, 63, 33, 41]

/-- one character of the text, possibly escaped: `\c` for a byte `c` that `re.escape` escapes
(all of them punctuation or white space, for which Python's `re` reads `\c` as the literal `c`),
or an ordinary byte standing for itself. -/
def parseChar : B → Option (UInt8 × B)
  | [] => none
  | c :: rest =>
    if c = cBS then
      match rest with
      | [] => none
      | d :: rest' => if isEscaped d then some (d, rest') else none
    else if isEscaped c then none else some (c, rest)

def unescape (s : B) : Option UInt8 :=
  match parseChar s with
  | some (c, []) => some c
  | _ => none

/-- the members of a set up to and including the closing `]`; a range `a-b` needs `a ≤ b`
(Python: "bad character range" otherwise). `n` is fuel. -/
def parseItems : Nat → B → Option (List RItem × B)
  | 0, _ => none
  | n + 1, s =>
    if s.head? = some cRB then some ([], s.tail)
    else match parseChar s with
      | none => none
      | some (lo, r1) =>
        if r1.head? = some cDash then
          match parseChar r1.tail with
          | none => none
          | some (hi, r2) =>
            if lo ≤ hi then (parseItems n r2).map (fun p => (.range lo hi :: p.1, p.2)) else none
        else (parseItems n r1).map (fun p => (.ch lo :: p.1, p.2))

/-- the pieces after `^`, up to the final `\Z`; right-nested concatenation. `n` is fuel. -/
def parsePieces : Nat → B → Option Rx
  | 0, _ => none
  | n + 1, s =>
    if s = [cBS, cZ] then some .eps
    else if s.head? = some cDot then
      if s.tail.head? = some cStar then (parsePieces n s.tail.tail).map (.cat (.star .any))
      else (parsePieces n s.tail).map (.cat .any)
    else if s.head? = some cLB then
      let neg : Bool := decide (s.tail.head? = some cCaret)
      let body := if neg then s.tail.tail else s.tail
      match parseItems (body.length + 1) body with
      | some (it :: its, r) => (parsePieces n r).map (.cat (.set neg (it :: its)))
      | _ => none
    else if neverText.isPrefixOf s then (parsePieces n (s.drop 4)).map (.cat .fail)
    else match parseChar s with
      | some (c, r) => (parsePieces n r).map (.cat (.lit c))
      | none => none

def parseRx (s : B) : Option Rx :=
  match s with
  | [] => none
  | c :: rest => if c = cCaret then parsePieces (rest.length + 1) rest else none

/-! ## translation of the model's atoms -/

def rItem : CItem → RItem
  | .ch c => .ch c
  | .range lo hi => .range lo hi

def rxAtom : Atom → Rx
  | .any => .any
  | .star => .star .any
  | .lit c => .lit c
  | .never => .fail
  | .cls neg items => .set neg (items.map rItem)

def rxOf : List Atom → Rx
  | [] => .eps
  | a :: as => .cat (rxAtom a) (rxOf as)

/-- side conditions under which the text is a well-formed regex: a range is ordered, a set is not
empty (Python would read `[]…` as a set starting with a literal `]`) -/
def ItemOK : CItem → Prop
  | .ch _ => True
  | .range lo hi => lo ≤ hi

def AtomOK : Atom → Prop
  | .cls _ items => items ≠ [] ∧ ∀ it ∈ items, ItemOK it
  | _ => True

def AtomsOK (as : List Atom) : Prop := ∀ a ∈ as, AtomOK a

/-! ## facts about `escapeByte` -/

theorem escapeByte_cases (c : UInt8) :
    (isEscaped c = true ∧ escapeByte c = [cBS, c]) ∨ (isEscaped c = false ∧ escapeByte c = [c]) := by
  unfold escapeByte
  cases h : isEscaped c <;> simp

theorem ne_of_not_escaped {c x : UInt8} (hc : isEscaped c = false) (hx : isEscaped x = true) : c ≠ x := by
  rintro rfl; rw [hx] at hc; cases hc

theorem escaped_ne_Z {c : UInt8} (h : isEscaped c = true) : c ≠ cZ := by
  rintro rfl; revert h; decide

theorem escapeByte_length (c : UInt8) :
    (escapeByte c).length = if isEscaped c then 2 else 1 := by
  unfold escapeByte; split <;> rfl

theorem escapeByte_length_pos (c : UInt8) : 1 ≤ (escapeByte c).length := by
  rw [escapeByte_length]; split <;> omega

theorem parseChar_escapeByte (c : UInt8) (r : B) :
    parseChar (escapeByte c ++ r) = some (c, r) := by
  rcases escapeByte_cases c with ⟨h, he⟩ | ⟨h, he⟩
  · rw [he]; simp [parseChar, h]
  · rw [he]; simp [parseChar, h, ne_of_not_escaped h (x := cBS) (by decide)]

theorem unescape_escapeByte (c : UInt8) : unescape (escapeByte c) = some c := by
  have := parseChar_escapeByte c []
  rw [List.append_nil] at this
  simp [unescape, this]

theorem cons_ne_end {d : UInt8} (hd : d ≠ cBS) (t : B) : d :: t ≠ [cBS, cZ] :=
  fun h => hd (List.cons.inj h).1

/-- `re.escape(c)` begins with a backslash or with a byte it leaves alone: never with another byte `x` of its table.
Every byte on which `parsePieces` or `parseItems` branches is such an `x`. -/
theorem escapeByte_head_ne {x : UInt8} (hx : isEscaped x = true) (hb : x ≠ cBS) (c : UInt8) (r : B) :
    (escapeByte c ++ r).head? ≠ some x := by
  rcases escapeByte_cases c with ⟨_, he⟩ | ⟨hc, he⟩
  · rw [he]; exact fun h => hb (Option.some.inj h).symm
  · rw [he]; exact fun h => ne_of_not_escaped hc hx (Option.some.inj h)

/-- a text that begins with `re.escape(c)` is not the closing `\Z`: `Z` is not in the table -/
theorem escapeByte_ne_end (c : UInt8) (r : B) : escapeByte c ++ r ≠ [cBS, cZ] := by
  rcases escapeByte_cases c with ⟨hc, he⟩ | ⟨hc, he⟩
  · rw [he]; exact fun h => escaped_ne_Z hc (List.cons.inj (List.cons.inj h).2).1
  · rw [he]; exact cons_ne_end (ne_of_not_escaped hc (by decide)) r

/-! ## what `parseItems` and `parsePieces` return on each form of text -/

theorem parseItems_close (n : Nat) (r : B) : parseItems (n + 1) (cRB :: r) = some ([], r) := by
  simp only [parseItems, List.head?_cons, if_true, List.tail_cons]

theorem parseItems_ch (n : Nat) (c : UInt8) (r : B) (hr : r.head? ≠ some cDash) :
    parseItems (n + 1) (escapeByte c ++ r) = (parseItems n r).map (fun p => (.ch c :: p.1, p.2)) := by
  simp only [parseItems, escapeByte_head_ne (x := cRB) (by decide) (by decide), if_false,
    parseChar_escapeByte, hr]

theorem parseItems_range (n : Nat) (lo hi : UInt8) (r : B) (h : lo ≤ hi) :
    parseItems (n + 1) (escapeByte lo ++ cDash :: (escapeByte hi ++ r))
      = (parseItems n r).map (fun p => (.range lo hi :: p.1, p.2)) := by
  simp only [parseItems, escapeByte_head_ne (x := cRB) (by decide) (by decide), if_false,
    parseChar_escapeByte, List.head?_cons, if_true, List.tail_cons, h]

theorem parsePieces_end (n : Nat) : parsePieces (n + 1) [cBS, cZ] = some .eps := by
  simp only [parsePieces, if_true]

theorem parsePieces_dot (n : Nat) (r : B) (hr : r.head? ≠ some cStar) :
    parsePieces (n + 1) (cDot :: r) = (parsePieces n r).map (.cat .any) := by
  simp only [parsePieces, cons_ne_end (by decide : cDot ≠ cBS), if_false, List.head?_cons, if_true,
    List.tail_cons, hr]

theorem parsePieces_dot_star (n : Nat) (r : B) :
    parsePieces (n + 1) (cDot :: cStar :: r) = (parsePieces n r).map (.cat (.star .any)) := by
  simp only [parsePieces, cons_ne_end (by decide : cDot ≠ cBS), if_false, List.head?_cons, if_true,
    List.tail_cons]

theorem parsePieces_never (n : Nat) (r : B) :
    parsePieces (n + 1) (neverText ++ r) = (parsePieces n r).map (.cat .fail) := by
  have h1 : ¬ some (40 : UInt8) = some cDot := by decide
  have h2 : ¬ some (40 : UInt8) = some cLB := by decide
  simp [parsePieces, neverText, cons_ne_end (by decide : (40 : UInt8) ≠ cBS), h1, h2, List.isPrefixOf]

/-- `[` or `[^`, then a text `body` that `parseItems` reads as a non-empty list of members up to its `]` -/
theorem parsePieces_set (n : Nat) (neg : Bool) (body r : B) (it : RItem) (its : List RItem)
    (hb : body.head? ≠ some cCaret) (h : parseItems (body.length + 1) body = some (it :: its, r)) :
    parsePieces (n + 1) (cLB :: ((if neg then [cCaret] else []) ++ body))
      = (parsePieces n r).map (.cat (.set neg (it :: its))) := by
  have h0 := cons_ne_end (by decide : cLB ≠ cBS)
  have h1 : ¬ some cLB = some cDot := by decide
  cases neg with
  | false =>
    simp only [parsePieces, h0, if_false, List.head?_cons, h1, if_true, List.tail_cons, Bool.false_eq_true,
      List.nil_append, hb, decide_false, h]
  | true =>
    simp only [parsePieces, h0, if_false, List.head?_cons, h1, if_true, List.tail_cons, List.cons_append,
      List.nil_append, decide_true, h]

theorem neverText_isPrefixOf {s : B} (h : s.head? ≠ some 40) : neverText.isPrefixOf s = false := by
  cases s with
  | nil => rfl
  | cons d t =>
    have : (40 == d) = false := beq_false_of_ne fun e => h (congrArg some e.symm)
    simp only [neverText, List.isPrefixOf, this, Bool.false_and]

theorem parsePieces_char (n : Nat) (c : UInt8) (r : B) :
    parsePieces (n + 1) (escapeByte c ++ r) = (parsePieces n r).map (.cat (.lit c)) := by
  simp only [parsePieces, escapeByte_ne_end, if_false, escapeByte_head_ne (x := cDot) (by decide) (by decide),
    escapeByte_head_ne (x := cLB) (by decide) (by decide),
    neverText_isPrefixOf (escapeByte_head_ne (x := 40) (by decide) (by decide) c r), Bool.false_eq_true,
    parseChar_escapeByte]

/-! ## `parseRx (render as) = some (rxOf as)` -/

theorem renderItems_length (items : List CItem) : items.length ≤ (renderItems items).length := by
  induction items with
  | nil => simp [renderItems]
  | cons it its ih =>
    cases it with
    | ch c => have := escapeByte_length_pos c; simp [renderItems, renderItem]; omega
    | range lo hi => have := escapeByte_length_pos lo; simp [renderItems, renderItem]; omega

theorem renderItem_head_ne {x : UInt8} (hx : isEscaped x = true) (hb : x ≠ cBS) (it : CItem) (r : B) :
    (renderItem it ++ r).head? ≠ some x := by
  cases it with
  | ch c => exact escapeByte_head_ne hx hb c r
  | range lo hi => rw [renderItem, List.append_assoc]; exact escapeByte_head_ne hx hb lo _

/-- the members of a set and its `]` do not begin with `^` or `-` -/
theorem renderItems_head_ne {x : UInt8} (hx : isEscaped x = true) (hb : x ≠ cBS) (hr : x ≠ cRB)
    (items : List CItem) (R : B) : (renderItems items ++ cRB :: R).head? ≠ some x := by
  cases items with
  | nil => exact fun h => hr (Option.some.inj h).symm
  | cons it its => rw [renderItems, List.append_assoc]; exact renderItem_head_ne hx hb it _

theorem parseItems_renderItem (it : CItem) (hok : ItemOK it) (n : Nat) (r : B) (hr : r.head? ≠ some cDash) :
    parseItems (n + 1) (renderItem it ++ r) = (parseItems n r).map (fun p => (rItem it :: p.1, p.2)) := by
  cases it with
  | ch c => exact parseItems_ch n c r hr
  | range lo hi =>
    rw [renderItem, List.append_assoc, List.cons_append]
    exact parseItems_range n lo hi r hok

theorem parseItems_render (items : List CItem) (hok : ∀ it ∈ items, ItemOK it) (R : B) :
    ∀ n, items.length < n →
      parseItems n (renderItems items ++ cRB :: R) = some (items.map rItem, R) := by
  induction items with
  | nil =>
    intro n hn
    cases n with
    | zero => exact absurd hn (Nat.not_lt_zero _)
    | succ m => exact parseItems_close m R
  | cons it its ih =>
    intro n hn
    cases n with
    | zero => exact absurd hn (Nat.not_lt_zero _)
    | succ m =>
      rw [renderItems, List.append_assoc,
        parseItems_renderItem it (hok it (List.mem_cons_self ..)) m _
          (renderItems_head_ne (by decide) (by decide) (by decide) its R),
        ih (fun x hx => hok x (List.mem_cons_of_mem _ hx)) m (Nat.lt_of_succ_lt_succ hn)]
      rfl

theorem renderAtom_head_ne_star (a : Atom) (r : B) : (renderAtom a ++ r).head? ≠ some cStar := by
  cases a with
  | lit c => exact escapeByte_head_ne (by decide) (by decide) c r
  | _ => exact fun h => absurd (Option.some.inj h) (by decide)

/-- the first byte of `pieces \Z` is never `*` (so `.` followed by `*` is always the `.*` piece) -/
theorem renderAtoms_head_ne_star (as : List Atom) :
    (renderAtoms as ++ [cBS, cZ]).head? ≠ some cStar := by
  cases as with
  | nil => exact fun h => absurd (Option.some.inj h) (by decide)
  | cons a as => rw [renderAtoms, List.append_assoc]; exact renderAtom_head_ne_star a _

theorem renderAtoms_length (as : List Atom) : as.length ≤ (renderAtoms as).length := by
  induction as with
  | nil => simp [renderAtoms]
  | cons a as ih =>
    cases a with
    | lit c => have := escapeByte_length_pos c; simp [renderAtoms, renderAtom]; omega
    | _ => simp [renderAtoms, renderAtom]; omega

/-- the piece of one well-formed atom is read back as its translation, and reading goes on behind it -/
theorem parsePieces_renderAtom (a : Atom) (hok : AtomOK a) (n : Nat) (r : B) (hr : r.head? ≠ some cStar) :
    parsePieces (n + 1) (renderAtom a ++ r) = (parsePieces n r).map (.cat (rxAtom a)) := by
  cases a with
  | any => exact parsePieces_dot n r hr
  | star => exact parsePieces_dot_star n r
  | never => exact parsePieces_never n r
  | lit c => exact parsePieces_char n c r
  | cls neg items =>
    obtain ⟨hne, hitems⟩ : items ≠ [] ∧ ∀ it ∈ items, ItemOK it := hok
    obtain ⟨it, its, rfl⟩ := List.exists_cons_of_ne_nil hne
    have hlen := renderItems_length (it :: its)
    rw [renderAtom, List.cons_append, List.append_assoc, List.append_assoc]
    exact parsePieces_set n neg _ r _ _ (renderItems_head_ne (by decide) (by decide) (by decide) _ r)
      (parseItems_render (it :: its) hitems r _
        (Nat.lt_succ_of_le (Nat.le_trans hlen (by rw [List.length_append]; exact Nat.le_add_right _ _))))

theorem parsePieces_render (as : List Atom) (hok : AtomsOK as) :
    ∀ n, as.length < n → parsePieces n (renderAtoms as ++ [cBS, cZ]) = some (rxOf as) := by
  induction as with
  | nil =>
    intro n hn
    cases n with
    | zero => exact absurd hn (Nat.not_lt_zero _)
    | succ m => exact parsePieces_end m
  | cons a as ih =>
    intro n hn
    cases n with
    | zero => exact absurd hn (Nat.not_lt_zero _)
    | succ m =>
      rw [renderAtoms, List.append_assoc,
        parsePieces_renderAtom a (hok a (List.mem_cons_self ..)) m _ (renderAtoms_head_ne_star as),
        ih (fun x hx => hok x (List.mem_cons_of_mem _ hx)) m (Nat.lt_of_succ_lt_succ hn)]
      rfl

/-! ## the backtracking matcher decides the textbook language -/

theorem rItem_has (c : UInt8) (it : CItem) : (rItem it).Has c ↔ it.matches c = true := by
  cases it with
  | ch x =>
    simp only [rItem, RItem.Has, CItem.matches, beq_iff_eq]
    exact ⟨fun h => h.symm, fun h => h.symm⟩
  | range lo hi =>
    simp only [rItem, RItem.Has, CItem.matches, Bool.and_eq_true, decide_eq_true_eq,
      UInt8.le_iff_toNat_le]

theorem items_has (c : UInt8) (items : List CItem) :
    (∃ it ∈ items.map rItem, it.Has c) ↔ items.any (CItem.matches c) = true := by
  simp only [List.mem_map, List.any_eq_true]
  constructor
  · rintro ⟨_, ⟨it, hit, rfl⟩, h⟩; exact ⟨it, hit, (rItem_has c it).mp h⟩
  · rintro ⟨it, hit, h⟩; exact ⟨_, ⟨it, hit, rfl⟩, (rItem_has c it).mpr h⟩

/-- every atom except `.*` denotes a set of one-byte strings, the one `matches1` decides -/
theorem rxAtom_single (a : Atom) (h : a ≠ .star) (u : B) :
    (rxAtom a).Matches u ↔ ∃ c, u = [c] ∧ a.matches1 c = true := by
  cases a with
  | star => exact absurd rfl h
  | any => simp [rxAtom, Rx.any_iff, Atom.matches1]
  | lit x =>
    simp only [rxAtom, Rx.lit_iff, Atom.matches1, beq_iff_eq]
    constructor
    · rintro rfl; exact ⟨x, rfl, rfl⟩
    · rintro ⟨c, rfl, rfl⟩; rfl
  | never => simp [rxAtom, Rx.fail_iff, Atom.matches1]
  | cls neg items =>
    simp only [rxAtom, Rx.set_iff, Atom.matches1, items_has]
    refine exists_congr fun c => and_congr_right fun _ => ?_
    cases neg <;> cases items.any (CItem.matches c) <;> decide

theorem matchA_iff_matches (as : List Atom) :
    ∀ s, matchA as s = true ↔ (rxOf as).Matches s := by
  induction as with
  | nil =>
    intro s
    rw [matchA_nil, rxOf, Rx.eps_iff]
    cases s <;> simp
  | cons a as ih =>
    by_cases ha : a = .star
    · subst ha
      intro s
      induction s with
      | nil => rw [matchA_star_nil, rxOf, rxAtom, Rx.cat_star_any_nil]; exact ih []
      | cons c t ih2 =>
        rw [matchA_star_cons, Bool.or_eq_true, rxOf, rxAtom, Rx.cat_star_any_cons, ih (c :: t)]
        rw [rxOf, rxAtom] at ih2
        rw [ih2]
    · intro s
      cases s with
      | nil =>
        rw [matchA_cons_nil a as ha, rxOf]
        have := Rx.cat_single_nil (rxAtom a) (rxOf as) _ (rxAtom_single a ha)
        simp [this]
      | cons c t =>
        rw [matchA_cons_cons a as c t ha, rxOf, Bool.and_eq_true,
          Rx.cat_single_cons (rxAtom a) (rxOf as) _ (rxAtom_single a ha), ih t]

/-! ## `compile` only produces well-formed atoms -/

theorem u8_min_le_max (a b : UInt8) : min a b ≤ max a b := by
  rw [u8_min, u8_max]
  split
  · exact UInt8.le_of_lt ‹_›
  · exact UInt8.not_lt.mp ‹_›

theorem scanClass_ok (p : B) : ∀ it ∈ (scanClass p).1, ItemOK it := by
  induction p using scanClass.induct <;> (unfold scanClass; simp_all [ItemOK, u8_min_le_max])

theorem classAtom_ok (p : B) : AtomOK (classAtom p).1 := by
  simp only [classAtom]
  split
  · split <;> exact trivial
  · rename_i h
    exact ⟨by intro he; rw [he] at h; exact h rfl, scanClass_ok _⟩

theorem nextAtom_ok (c : UInt8) (rest : B) : AtomOK (nextAtom c rest).1 :=
  nextAtom_cases c rest (fun p => AtomOK p.1) trivial (fun _ => trivial) (fun _ => trivial) (fun _ _ _ => trivial)
    (classAtom_ok rest) trivial

theorem compile_atomsOK : ∀ p : B, AtomsOK (compile p)
  | [] => by simp [compile, AtomsOK]
  | c :: rest => by
    have := nextAtom_len c rest
    rw [compile_cons]
    intro a ha
    rcases List.mem_cons.mp ha with rfl | ha
    · exact nextAtom_ok c rest
    · exact compile_atomsOK _ a ha
termination_by p => p.length
decreasing_by simp only [List.length_cons]; omega

/-! ## lexical facts about the text (to be read against the `re` syntax documentation) -/

theorem forall_u8 {P : UInt8 → Prop} (h : ∀ n, n < 256 → P (UInt8.ofNat n)) (c : UInt8) : P c := by
  have := h c.toNat (UInt8.toNat_lt c)
  rwa [UInt8.ofNat_toNat] at this

/-- the bytes that are special in Python `re` syntax outside a set: `. ^ $ * + ? { } [ ] \ | ( )` -/
def isReMeta (c : UInt8) : Bool :=
  c == 46 || c == 94 || c == 36 || c == 42 || c == 43 || c == 63 || c == 123 || c == 125 ||
  c == 91 || c == 93 || c == 92 || c == 124 || c == 40 || c == 41

/-- the bytes that are special inside a set: `] \ ^ -` -/
def isSetMeta (c : UInt8) : Bool := c == 93 || c == 92 || c == 94 || c == 45

/-- ASCII letters and digits: the only bytes `x` for which `\x` is (or may become) something other
than the literal `x` in Python `re` (`\d`, `\Z`, `\1`, `\n`, …; unknown letter escapes are errors) -/
def isAlnum (c : UInt8) : Bool :=
  (48 ≤ c && c ≤ 57) || (65 ≤ c && c ≤ 90) || (97 ≤ c && c ≤ 122)

theorem meta_isEscaped (c : UInt8) : (isReMeta c || isSetMeta c) = true → isEscaped c = true :=
  forall_u8 (P := fun c => (isReMeta c || isSetMeta c) = true → isEscaped c = true)
    (by decide +kernel) c

theorem isEscaped_not_alnum (c : UInt8) : isEscaped c = true → isAlnum c = false :=
  forall_u8 (P := fun c => isEscaped c = true → isAlnum c = false) (by decide +kernel) c

inductive Tok where
  | esc (c : UInt8)
  /-- an unescaped byte with a syntactic role -/
  | special (c : UInt8)
  /-- an unescaped byte without a syntactic role -/
  | plain (c : UInt8)
  deriving Repr, DecidableEq

def tokOf (c : UInt8) : Tok := if isReMeta c || isSetMeta c then .special c else .plain c

/-- a backslash takes the next byte with it (`pending = true` after it); a lone trailing backslash is a `special` -/
def lexAux : Bool → B → List Tok
  | pending, [] => if pending then [.special cBS] else []
  | pending, c :: r =>
    if pending then .esc c :: lexAux false r
    else if c = cBS then lexAux true r
    else tokOf c :: lexAux false r

def lex (s : B) : List Tok := lexAux false s

def charTok (c : UInt8) : Tok := if isEscaped c then .esc c else .plain c

def itemToks : CItem → List Tok
  | .ch c => [charTok c]
  | .range lo hi => [charTok lo, .special cDash, charTok hi]

def itemsToks : List CItem → List Tok
  | [] => []
  | it :: its => itemToks it ++ itemsToks its

def atomToks : Atom → List Tok
  | .any => [.special 46]
  | .star => [.special 46, .special 42]
  | .lit c => [charTok c]
  | .never => [.special 40, .special 63, .plain 33, .special 41]
  | .cls neg items =>
    .special cLB :: ((if neg then [.special cCaret] else []) ++ (itemsToks items ++ [.special cRB]))

def atomsToks : List Atom → List Tok
  | [] => []
  | a :: as => atomToks a ++ atomsToks as

theorem lexAux_special (c : UInt8) (hc : c ≠ cBS) (hm : (isReMeta c || isSetMeta c) = true)
    (t : B) : lexAux false (c :: t) = .special c :: lexAux false t := by
  rw [lexAux]; simp only [Bool.false_eq_true, if_false, hc, tokOf, hm, if_true]

theorem lexAux_plain (c : UInt8) (hc : c ≠ cBS) (hm : (isReMeta c || isSetMeta c) = false)
    (t : B) : lexAux false (c :: t) = .plain c :: lexAux false t := by
  rw [lexAux]; simp only [Bool.false_eq_true, if_false, hc, tokOf, hm]

theorem lexAux_bs (c : UInt8) (t : B) : lexAux false (cBS :: c :: t) = .esc c :: lexAux false t := by
  rw [lexAux]; simp only [Bool.false_eq_true, if_false, if_true]; rw [lexAux]; simp

theorem lexAux_escapeByte (c : UInt8) (r : B) :
    lexAux false (escapeByte c ++ r) = charTok c :: lexAux false r := by
  rcases escapeByte_cases c with ⟨hc, he⟩ | ⟨hc, he⟩
  · rw [he]; show lexAux false (cBS :: c :: r) = _
    rw [lexAux_bs]; simp [charTok, hc]
  · rw [he]
    have hm : (isReMeta c || isSetMeta c) = false := by
      cases hm : (isReMeta c || isSetMeta c)
      · rfl
      · rw [meta_isEscaped c hm] at hc; exact absurd hc (by decide)
    show lexAux false (c :: r) = _
    rw [lexAux_plain c (ne_of_not_escaped hc (by decide)) hm]; simp [charTok, hc]

theorem lexAux_renderItem (it : CItem) (r : B) :
    lexAux false (renderItem it ++ r) = itemToks it ++ lexAux false r := by
  cases it with
  | ch c => exact lexAux_escapeByte c r
  | range lo hi =>
    rw [renderItem, List.append_assoc, List.cons_append, lexAux_escapeByte,
      lexAux_special cDash (by decide) (by decide), lexAux_escapeByte]
    rfl

theorem lexAux_renderItems (items : List CItem) (r : B) :
    lexAux false (renderItems items ++ r) = itemsToks items ++ lexAux false r := by
  induction items with
  | nil => rfl
  | cons it its ih =>
    rw [renderItems, List.append_assoc, lexAux_renderItem, ih, itemsToks, List.append_assoc]

theorem lexAux_renderAtom (a : Atom) (r : B) :
    lexAux false (renderAtom a ++ r) = atomToks a ++ lexAux false r := by
  cases a with
  | any => exact lexAux_special 46 (by decide) (by decide) r
  | star =>
    show lexAux false (46 :: 42 :: r) = _
    rw [lexAux_special 46 (by decide) (by decide), lexAux_special 42 (by decide) (by decide)]
    rfl
  | never =>
    show lexAux false (40 :: 63 :: 33 :: 41 :: r) = _
    rw [lexAux_special 40 (by decide) (by decide), lexAux_special 63 (by decide) (by decide),
      lexAux_plain 33 (by decide) (by decide), lexAux_special 41 (by decide) (by decide)]
    rfl
  | lit c => exact lexAux_escapeByte c r
  | cls neg items =>
    have hneg (t : B) : lexAux false ((if neg then [cCaret] else []) ++ t)
        = (if neg then [.special cCaret] else []) ++ lexAux false t := by
      cases neg with
      | false => rfl
      | true => exact lexAux_special cCaret (by decide) (by decide) t
    rw [renderAtom, List.cons_append, List.append_assoc, List.append_assoc,
      lexAux_special cLB (by decide) (by decide), hneg, lexAux_renderItems, List.singleton_append,
      lexAux_special cRB (by decide) (by decide)]
    simp only [atomToks, List.cons_append, List.append_assoc, List.nil_append]

theorem lexAux_renderAtoms (as : List Atom) (r : B) :
    lexAux false (renderAtoms as ++ r) = atomsToks as ++ lexAux false r := by
  induction as with
  | nil => rfl
  | cons a as ih =>
    rw [renderAtoms, List.append_assoc, lexAux_renderAtom, ih, atomsToks, List.append_assoc]

/-- the bytes that occur unescaped with a syntactic role: `. * ( ? ) [ ^ ] -` -/
def structural : List UInt8 := [46, 42, 40, 63, 41, 91, 94, 93, 45]

/-- what `render` puts between `^` and `\Z`: a backslash only before a byte of `re.escape`'s table, an unescaped byte with
a syntactic role only where `special` allows it -/
def Tok.Emitted (special : UInt8 → Prop) : Tok → Prop
  | .esc c => isEscaped c = true
  | .special c => special c
  | .plain _ => True

theorem charTok_emitted (P : UInt8 → Prop) (c : UInt8) : (charTok c).Emitted P := by
  unfold charTok; split
  · assumption
  · trivial

theorem itemsToks_emitted (items : List CItem) : ∀ tok ∈ itemsToks items, tok.Emitted (· = cDash) := by
  induction items with
  | nil => nofun
  | cons it its ih =>
    intro tok h
    rcases List.mem_append.mp h with h | h
    · cases it with
      | ch x => rw [List.mem_singleton.mp h]; exact charTok_emitted _ x
      | range lo hi =>
        simp only [itemToks, List.mem_cons, List.not_mem_nil, or_false] at h
        rcases h with rfl | rfl | rfl
        · exact charTok_emitted _ lo
        · rfl
        · exact charTok_emitted _ hi
    · exact ih tok h

theorem atomsToks_emitted (as : List Atom) : ∀ tok ∈ atomsToks as, tok.Emitted (· ∈ structural) := by
  induction as with
  | nil => nofun
  | cons a as ih =>
    intro tok h
    rcases List.mem_append.mp h with h | h
    · cases a with
      | lit x => rw [List.mem_singleton.mp h]; exact charTok_emitted _ x
      | cls neg items =>
        simp only [atomToks, List.mem_cons, List.mem_append, List.not_mem_nil, or_false] at h
        rcases h with rfl | h | h | rfl
        · show cLB ∈ structural; decide
        · cases neg <;> simp at h
          subst h; show cCaret ∈ structural; decide
        · have := itemsToks_emitted items tok h
          cases tok with
          | special c => rw [show c = cDash from this]; show cDash ∈ structural; decide
          | esc c => exact this
          | plain c => trivial
        · show cRB ∈ structural; decide
      | _ =>
        simp only [atomToks, List.mem_cons, List.not_mem_nil, or_false] at h
        rcases h with rfl | rfl | rfl | rfl <;> first | trivial | (show _ ∈ structural; decide)
    · exact ih tok h

theorem atomsToks_esc (as : List Atom) (c : UInt8) (h : Tok.esc c ∈ atomsToks as) : isEscaped c = true :=
  atomsToks_emitted as _ h

end FR.Glob

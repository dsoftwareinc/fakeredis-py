import FR.Proofs.Decimal
/-! The hex codec of `toHex` / `fromHex` at byte level: `hexBytes b` is the text `toHex b` as bytes, it decodes back to
`b`, and it consists of the digits `0`–`9`, `a`–`f` only.  Used by the DUMP payload (`Cmd.hexB`) and by the hint codec
of the script interpreter. -/
namespace FR

def hexByte (n : Nat) : UInt8 := if n < 10 then UInt8.ofNat (48 + n) else UInt8.ofNat (87 + n)

def hexBytes (b : Bytes) : Bytes := b.flatMap fun c => [hexByte (c.toNat / 16), hexByte (c.toNat % 16)]

theorem utf8EncodeChar_hexDigit_all : ∀ n, n < 16 → String.utf8EncodeChar (hexDigit n) = [hexByte n] := by decide
theorem utf8EncodeChar_hexDigit {n : Nat} (h : n < 16) : String.utf8EncodeChar (hexDigit n) = [hexByte n] := utf8EncodeChar_hexDigit_all n h

theorem charOfNat_hexByte_all : ∀ n, n < 16 → Char.ofNat (hexByte n).toNat = hexDigit n := by decide
theorem charOfNat_hexByte {n : Nat} (h : n < 16) : Char.ofNat (hexByte n).toNat = hexDigit n := charOfNat_hexByte_all n h

theorem hexVal_hexDigit_all : ∀ n, n < 16 → hexVal (hexDigit n) = some n := by decide
theorem hexVal_hexDigit {n : Nat} (h : n < 16) : hexVal (hexDigit n) = some n := hexVal_hexDigit_all n h

theorem hexByte_range_all : ∀ n, n < 16 →
    (48 ≤ (hexByte n).toNat ∧ (hexByte n).toNat ≤ 57) ∨ (97 ≤ (hexByte n).toNat ∧ (hexByte n).toNat ≤ 102) := by decide
theorem hexByte_range {n : Nat} (h : n < 16) :
    (48 ≤ (hexByte n).toNat ∧ (hexByte n).toNat ≤ 57) ∨ (97 ≤ (hexByte n).toNat ∧ (hexByte n).toNat ≤ 102) := hexByte_range_all n h

theorem strBytes_toHex (b : Bytes) : strBytes (toHex b) = hexBytes b := by
  unfold strBytes toHex hexBytes
  rw [strBytes_ofList]
  induction b with
  | nil => rfl
  | cons c b ih =>
    have h1 : c.toNat / 16 < 16 := by have := c.toNat_lt; omega
    have h2 : c.toNat % 16 < 16 := by omega
    simp only [List.flatMap_cons, List.flatMap_nil, List.flatMap_append, List.append_nil,
      utf8EncodeChar_hexDigit h1, utf8EncodeChar_hexDigit h2, ih]
    rfl

theorem bytesStr_hexBytes (b : Bytes) : bytesStr (hexBytes b) = toHex b := by
  unfold bytesStr toHex hexBytes
  congr 1
  induction b with
  | nil => rfl
  | cons c b ih =>
    have h1 : c.toNat / 16 < 16 := by have := c.toNat_lt; omega
    have h2 : c.toNat % 16 < 16 := by omega
    simp only [List.flatMap_cons, List.map_append, List.map_cons, List.map_nil, charOfNat_hexByte h1,
      charOfNat_hexByte h2, ih]

theorem fromHex_toHex (b : Bytes) : fromHex (toHex b) = some b := by
  unfold fromHex toHex
  rw [String.toList_ofList]
  induction b with
  | nil => rfl
  | cons c b ih =>
    have h1 : c.toNat / 16 < 16 := by have := c.toNat_lt; omega
    have h2 : c.toNat % 16 < 16 := by omega
    simp only [List.flatMap_cons, List.cons_append, List.nil_append, fromHexChars, hexVal_hexDigit h1,
      hexVal_hexDigit h2, ih]
    congr 2
    rw [Nat.div_add_mod' c.toNat 16]
    exact UInt8.ofNat_toNat

theorem hexBytes_not_mem (b : Bytes) (x : UInt8) (hx : x ∈ hexBytes b) :
    (48 ≤ x.toNat ∧ x.toNat ≤ 57) ∨ (97 ≤ x.toNat ∧ x.toNat ≤ 102) := by
  unfold hexBytes at hx
  rw [List.mem_flatMap] at hx
  obtain ⟨c, _, hc⟩ := hx
  have h1 : c.toNat / 16 < 16 := by have := c.toNat_lt; omega
  have h2 : c.toNat % 16 < 16 := by omega
  simp only [List.mem_cons, List.not_mem_nil, or_false] at hc
  rcases hc with rfl | rfl
  · exact hexByte_range h1
  · exact hexByte_range h2

theorem fromHex_bytesStr_hexBytes (k : Bytes) : fromHex (bytesStr (hexBytes k)) = some k := by
  rw [bytesStr_hexBytes, fromHex_toHex]

end FR

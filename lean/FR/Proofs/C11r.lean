import FR.Proofs.C04kExec
import FR.Proofs.C11cSys
/-!
# C11r — helper lemmas: the exact outcome of a blocking pop (BLPOP / BRPOP) run by `_process_command`
-/
namespace FR.C11r
open FR FR.M FR.C04k FR.C11c FR.ErrSys

/-! ## `Signature.apply` of a signature whose converters are all `bytes` -/

/-- the two signatures of BLPOP / BRPOP -/
def IsBSig (sig : Sig) : Prop := sig = sigBlpop ∨ sig = sigBrpop

theorem apply_bsig {sig : Sig} (hs : IsBSig sig) (raw : List Bytes) (db : Db)
    (ha : sig.checkArity raw.length = true) :
    sig.apply raw db = (db, .ok (.ok (raw.map Arg.raw) [])) :=
  PubSubHist.apply_bytes sig raw db (by rcases hs with rfl | rfl <;> simp [sigBlpop, sigBrpop])
    (.inr (by rcases hs with rfl | rfl <;> rfl)) ha

/-! ## `_run_command` of BLPOP / BRPOP -/

theorem bsig_arity_ne {sig : Sig} (hs : IsBSig sig) (raw : List Bytes) (ha : sig.checkArity raw.length = true) :
    ∃ tb, raw.getLast? = some tb := by
  cases h : raw.getLast? with
  | some tb => exact ⟨tb, rfl⟩
  | none =>
    rw [List.getLast?_eq_none_iff] at h
    subst h
    rcases hs with rfl | rfl <;> exact absurd ha (by decide)

theorem runWith_bsig (inner : Inner) (mode : Mode) (c : Nat) {sig : Sig} (hs : IsBSig sig) (raw : List Bytes) (s : Sys)
    (ha : sig.checkArity raw.length = true) (hps : (s.conn c).pubsub = 0) :
    runWith (special inner) mode c sig raw false s =
      afterSpecial (s.conn c).db [] (blockBody mode c sig.name (raw.map Arg.raw) []) s := by
  have hreg : Cmd.regular sig.name = none := by rcases hs with rfl | rfl <;> rfl
  have hg : runGate sig false (decide ((s.conn c).pubsub > 0)) = none := by
    unfold runGate
    simp [hps]
  rw [runWith_keyless _ mode c sig raw false s hreg (Sys.refuses_of_unsubscribed sig hps) (apply_bsig hs raw _ ha)]
  simp only [hg]
  exact congrArg (fun X => afterSpecial (s.conn c).db [] X s)
    (special_blocking' _ mode c (by rcases hs with rfl | rfl <;> decide) _ [])

theorem runCommand_bsig (mode : Mode) (c : Nat) {sig : Sig} (hs : IsBSig sig) (raw : List Bytes) (s : Sys)
    (ha : sig.checkArity raw.length = true) (hps : (s.conn c).pubsub = 0) :
    runCommand mode c sig raw false s =
      afterSpecial (s.conn c).db [] (blockBody mode c sig.name (raw.map Arg.raw) []) s := by
  rw [runCommand_not_script mode c sig raw false (by rcases hs with rfl | rfl <;> decide)]
  exact runWith_bsig _ mode c hs raw s ha hps

theorem isBPop_of_bsig {sig : Sig} (hs : IsBSig sig) : IsBPop sig.name := by
  rcases hs with rfl | rfl
  · exact .inl rfl
  · exact .inr rfl

theorem blockArgs_bpop {name : String} (hb : IsBPop name) (d : Nat) (raw : List Bytes) {tb : Bytes}
    (hl : raw.getLast? = some tb) :
    blockArgs name d (raw.map Arg.raw) =
      match Conv.timeout tb with
      | .error e => .error e
      | .ok t => .ok (raw.dropLast, t, fun first => bpopPass d (name == "blpop") first raw.dropLast) := by
  unfold blockArgs
  rw [if_neg (by rcases hb with rfl | rfl <;> decide)]
  simp only [rawArgs_map_raw, hl]
  cases Conv.timeout tb <;> rfl

/-! ## inside EXEC -/

theorem runInner_bsig (mode : Mode) (c : Nat) {sig : Sig} (hs : IsBSig sig) (raw : List Bytes) (s : Sys)
    (ha : sig.checkArity raw.length = true) (hps : (s.conn c).pubsub = 0) :
    runInner mode c sig raw s =
      afterSpecial (s.conn c).db [] (blockBody mode c sig.name (raw.map Arg.raw) []) s := by
  have hsc : scriptNames.contains sig.name = false := by rcases hs with rfl | rfl <;> decide
  unfold runInner
  simp only [hsc, Bool.false_eq_true, if_false]
  exact runWith_bsig _ mode c hs raw s ha hps

end FR.C11r

import FR.Proofs.Basic
/-! # SRANDMEMBER / SPOP (C02): sampling lemmas behind `FR.Props.C02.srandmember_valid_pick`, membership in `setDiff`,
and the body of SPOP -/
namespace FR.Proofs
open FR

theorem setIns_length_le (acc : List Bytes) (x : Bytes) :
    (Cmd.setIns acc x).length ≤ acc.length + 1 := by
  unfold Cmd.setIns; split <;> simp

theorem foldl_setIns_length (p acc : List Bytes) :
    (p.foldl Cmd.setIns acc).length ≤ acc.length + p.length ∧
    ((p.foldl Cmd.setIns acc).length = acc.length + p.length → p.Nodup ∧ ∀ x ∈ p, x ∉ acc) := by
  induction p generalizing acc with
  | nil => simp
  | cons x xs ih =>
    simp only [List.foldl_cons, List.length_cons]
    have ⟨h1, h2⟩ := ih (Cmd.setIns acc x)
    by_cases hx : x ∈ acc
    · have e : Cmd.setIns acc x = acc := by simp [Cmd.setIns, hx]
      rw [e] at h1 h2 ⊢
      refine ⟨by omega, fun h => by omega⟩
    · have e : Cmd.setIns acc x = acc ++ [x] := by simp [Cmd.setIns, hx]
      rw [e] at h1 h2 ⊢
      simp only [List.length_append, List.length_cons, List.length_nil] at h1 h2
      refine ⟨by omega, fun h => ?_⟩
      have ⟨hn, hd⟩ := h2 (by omega)
      have hxa : x ∉ acc := hx
      refine ⟨List.nodup_cons.mpr ⟨fun hm => ?_, hn⟩, ?_⟩
      · exact hd x hm (by simp)
      · intro y hy
        rcases List.mem_cons.mp hy with rfl | hy
        · exact hxa
        · intro hya
          exact hd y hy (by simp [hya])

theorem validSample_spec (s p : List Bytes) (h : Cmd.validSample s p = true) :
    (∀ x ∈ p, x ∈ s) ∧ p.Nodup := by
  simp only [Cmd.validSample, Bool.and_eq_true, List.all_eq_true, beq_iff_eq] at h
  refine ⟨fun x hx => by simpa using h.1 x hx, ?_⟩
  have := (foldl_setIns_length p []).2 (by simpa [Cmd.dedup] using h.2)
  exact this.1

theorem singletons_flatten (s : List Bytes) (ps : List (List Bytes))
    (h : ps.all (fun p => match p with | [x] => s.contains x | _ => false) = true) :
    (∀ x ∈ ps.flatten, x ∈ s) ∧ ps.flatten.length = ps.length := by
  induction ps with
  | nil => simp
  | cons p ps ih =>
    simp only [List.all_cons, Bool.and_eq_true] at h
    have ⟨i1, i2⟩ := ih h.2
    match p, h.1 with
    | [x], hx =>
      simp only [List.flatten_cons, List.singleton_append, List.mem_cons, List.length_cons]
      refine ⟨?_, by omega⟩
      rintro y (rfl | hy)
      · simpa using hx
      · exact i1 y hy

theorem mem_setDiff (a b : List Bytes) (x : Bytes) : x ∈ Cmd.setDiff a b ↔ x ∈ a ∧ x ∉ b := by
  simp [Cmd.setDiff]

/-- SPOP: the reply is an accepted pick and exactly the picked members leave the set -/
theorem spop_spec (ctx : Ctx) (k : Nat) (rest : List Arg) (cis : List CI) (o : BodyOut)
    (h : Cmd.spop ctx (.key k :: rest) cis = .ok o) :
    ∃ r used picked,
      Cmd.srandCore ctx (Cmd.setOf (ciAt cis k)) (Cmd.intArgs rest).head? = some (r, used, picked) ∧
      o.reply = r ∧ o.picksUsed = used ∧
      (o.cis = if picked.isEmpty then cis
               else Cmd.putSet cis k (Cmd.setDiff (Cmd.setOf (ciAt cis k)) picked)) := by
  unfold Cmd.spop at h
  simp only at h
  split at h
  next => cases h
  next =>
    split at h
    next hc =>
      rw [hc]
      split at h
      next => cases h
      next r used picked hs =>
        refine ⟨r, used, picked, hs, ?_⟩
        split at h <;> (cases h; simp_all)
    next n hc =>
      rw [hc]
      split at h
      next => cases h
      next =>
        split at h
        next => cases h
        next r used picked hs =>
          refine ⟨r, used, picked, hs, ?_⟩
          split at h <;> (cases h; simp_all)

end FR.Proofs

namespace FR.HashSet
open FR

theorem setUnion_spec (a b : List Bytes) :
    ∃ new, Cmd.setUnion a b = a ++ new ∧ (∀ x, x ∈ new ↔ x ∈ b ∧ x ∉ a) ∧ new.Nodup := by
  induction b generalizing a with
  | nil => exact ⟨[], by simp [Cmd.setUnion], by simp, List.nodup_nil⟩
  | cons m b ih =>
    rw [show Cmd.setUnion a (m :: b) = Cmd.setUnion (Cmd.setIns a m) b from rfl]
    by_cases hm : m ∈ a
    · rw [show Cmd.setIns a m = a by simp [Cmd.setIns, hm]]
      obtain ⟨new, h1, h2, h3⟩ := ih a
      refine ⟨new, h1, fun x => ?_, h3⟩
      rw [h2, List.mem_cons]
      by_cases hx : x = m <;> simp [hx, hm]
    · rw [show Cmd.setIns a m = a ++ [m] by simp [Cmd.setIns, hm]]
      obtain ⟨new, h1, h2, h3⟩ := ih (a ++ [m])
      refine ⟨m :: new, by rw [h1]; simp, fun x => ?_, List.nodup_cons.2 ⟨fun h => ((h2 m).1 h).2 (by simp), h3⟩⟩
      rw [List.mem_cons, h2, List.mem_cons, List.mem_append, List.mem_singleton]
      by_cases hx : x = m <;> simp [hx, hm]

theorem mem_setUnion (a b : List Bytes) (x : Bytes) : x ∈ Cmd.setUnion a b ↔ x ∈ a ∨ x ∈ b := by
  obtain ⟨new, h1, h2, _⟩ := setUnion_spec a b
  rw [h1, List.mem_append, h2]
  by_cases ha : x ∈ a <;> simp [ha]

end FR.HashSet

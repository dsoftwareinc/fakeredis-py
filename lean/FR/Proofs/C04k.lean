import FR.Proofs.Closure
import FR.Proofs.Dispatch
import FR.Proofs.BufIndep
/-!
# After the fix of KF-1: transaction queues are clean, EXEC does not take the assertion path

`Small s0 s`: `s` is `s0` after steps that keep every connection's id and `dead` flag, leave each transaction queue as it
is or reset it, never clear `fault`, leave `crashed` alone and push only pub/sub messages on the reply list.  Every atomic
state change of the command layer is such a step (`sm_closed`), hence everything below `processCommand` is, except the
append to the queue and the reply (both done by `processCommand` itself), EXEC and (P)SUBSCRIBE / (P)UNSUBSCRIBE, whose
acknowledgements are replies (the `gated` names).
-/
namespace FR.C04k
open FR FR.M FR.ErrSys

/-! ## 1. connection records: what a small step may do -/

/-- one connection record across a small step: same id, same `dead` and `closed` flags, the queue kept or reset -/
def ConnStep (x x' : Conn) : Prop :=
  x'.id = x.id ∧ x'.dead = x.dead ∧ x'.closed = x.closed ∧ (x'.tx = x.tx ∨ x'.tx = none ∨ x'.tx = some [])

theorem ConnStep.refl (x : Conn) : ConnStep x x := ⟨rfl, rfl, rfl, .inl rfl⟩

theorem ConnStep.trans {x y z : Conn} (h1 : ConnStep x y) (h2 : ConnStep y z) : ConnStep x z := by
  obtain ⟨a1, a2, a4, a3⟩ := h1
  obtain ⟨b1, b2, b4, b3⟩ := h2
  refine ⟨b1.trans a1, b2.trans a2, b4.trans a4, ?_⟩
  rcases b3 with b3 | b3 | b3
  · rw [b3]; exact a3
  · exact .inr (.inl b3)
  · exact .inr (.inr b3)

inductive Forall₂ {α : Type} (R : α → α → Prop) : List α → List α → Prop
  | nil : Forall₂ R [] []
  | cons {a b : α} {l l' : List α} : R a b → Forall₂ R l l' → Forall₂ R (a :: l) (b :: l')

def ConnsLe (s s' : Sys) : Prop := Forall₂ ConnStep s.srv.conns s'.srv.conns

theorem forall₂_refl {α} {R : α → α → Prop} (h : ∀ a, R a a) : ∀ l : List α, Forall₂ R l l
  | [] => .nil
  | a :: l => .cons (h a) (forall₂_refl h l)

theorem forall₂_trans {α} {R : α → α → Prop} (h : ∀ a b c, R a b → R b c → R a c) :
    ∀ {l1 l2 l3 : List α}, Forall₂ R l1 l2 → Forall₂ R l2 l3 → Forall₂ R l1 l3
  | _, _, _, .nil, .nil => .nil
  | _, _, _, .cons h1 t1, .cons h2 t2 => .cons (h _ _ _ h1 h2) (forall₂_trans h t1 t2)

theorem forall₂_map_right {α} {R : α → α → Prop} (g : α → α) (h : ∀ a, R a (g a)) :
    ∀ l : List α, Forall₂ R l (l.map g)
  | [] => .nil
  | a :: l => .cons (h a) (forall₂_map_right g h l)

theorem ConnsLe.refl (s : Sys) : ConnsLe s s := forall₂_refl ConnStep.refl _

theorem ConnsLe.trans {a b c : Sys} (h1 : ConnsLe a b) (h2 : ConnsLe b c) : ConnsLe a c :=
  forall₂_trans (R := ConnStep) (fun _ _ _ => ConnStep.trans) h1 h2

theorem ConnsLe.of_eq {s s' : Sys} (h : s'.srv.conns = s.srv.conns) : ConnsLe s s' := by
  unfold ConnsLe; rw [h]; exact forall₂_refl ConnStep.refl _

theorem ConnsLe.mapConns (s : Sys) (g : Conn → Conn) (h : ∀ x, ConnStep x (g x)) : ConnsLe s (s.mapConns g) :=
  forall₂_map_right g h _

theorem ConnsLe.updConn (s : Sys) (c : Nat) (f : Conn → Conn) (h : ∀ x, ConnStep x (f x)) :
    ConnsLe s (s.updConn c f) := by
  rw [Sys.updConn_eq_mapConns]
  refine ConnsLe.mapConns s _ (fun x => ?_)
  split
  · exact h x
  · exact ConnStep.refl x

theorem forall₂_find {l l' : List Conn} (h : Forall₂ ConnStep l l') (c : Nat) :
    (l.find? (·.id == c) = none ∧ l'.find? (·.id == c) = none) ∨
      ∃ x x', l.find? (·.id == c) = some x ∧ l'.find? (·.id == c) = some x' ∧ ConnStep x x' := by
  induction h with
  | nil => exact .inl ⟨rfl, rfl⟩
  | @cons a b l l' hab _ ih =>
    simp only [List.find?_cons, hab.1]
    cases hc : (a.id == c) with
    | true => exact .inr ⟨a, b, rfl, rfl, hab⟩
    | false => exact ih

theorem ConnsLe.conn {s s' : Sys} (h : ConnsLe s s') (c : Nat) : ConnStep (s.conn c) (s'.conn c) := by
  rcases forall₂_find h c with ⟨h1, h2⟩ | ⟨x, x', h1, h2, hs⟩
  · simp only [Sys.conn_def, h1, h2]; exact ConnStep.refl _
  · simp only [Sys.conn_def, h1, h2, Option.getD_some]; exact hs

theorem ConnsLe.hasConn {s s' : Sys} (h : ConnsLe s s') (c : Nat) : s'.HasConn c ↔ s.HasConn c := by
  rw [Sys.hasConn_iff, Sys.hasConn_iff]
  rcases forall₂_find h c with ⟨h1, h2⟩ | ⟨x, x', h1, h2, _⟩ <;> simp [h1, h2]

theorem forall₂_mem_right {α} {R : α → α → Prop} {l l' : List α} (h : Forall₂ R l l') :
    ∀ b ∈ l', ∃ a ∈ l, R a b := by
  induction h with
  | nil => intro b hb; cases hb
  | @cons a b l l' hab _ ih =>
    intro y hy
    rcases List.mem_cons.1 hy with rfl | hy
    · exact ⟨a, List.mem_cons_self .., hab⟩
    · obtain ⟨x, hx, hr⟩ := ih y hy
      exact ⟨x, List.mem_cons_of_mem _ hx, hr⟩

/-! ## 2. the invariants on connection records -/

def TxAvoid (L : List String) (s : Sys) : Prop :=
  ∀ x ∈ s.srv.conns, ∀ q, x.tx = some q → ∀ a ∈ q, a.1 ∉ L

/-- no queue holds (P)SUBSCRIBE / (P)UNSUBSCRIBE -/
def TxClean (s : Sys) : Prop := TxAvoid SigTable.notInMulti s

/-- no queue holds EXEC / DISCARD / MULTI / WATCH (they are never queued) -/
def TxNoCtl (s : Sys) : Prop := TxAvoid SigTable.notQueued s

/-- every queued name is a command of the table -/
def TxKnown (s : Sys) : Prop :=
  ∀ x ∈ s.srv.conns, ∀ q, x.tx = some q → ∀ a ∈ q, ∃ sig, SigTable.find a.1 = some sig

def TxAll (P : String → Prop) (s : Sys) : Prop :=
  ∀ x ∈ s.srv.conns, ∀ q, x.tx = some q → ∀ a ∈ q, P a.1

theorem TxAll.le {P : String → Prop} {s s' : Sys} (h : TxAll P s) (hle : ConnsLe s s') : TxAll P s' := by
  intro x' hx' q hq a ha
  obtain ⟨x, hx, _, _, _, htx⟩ := forall₂_mem_right hle x' hx'
  rcases htx with e | e | e
  · exact h x hx q (by rw [← e]; exact hq) a ha
  · rw [e] at hq; cases hq
  · rw [e] at hq; cases hq; cases ha

theorem txAvoid_iff (L : List String) (s : Sys) : TxAvoid L s ↔ TxAll (· ∉ L) s := Iff.rfl
theorem txKnown_iff (s : Sys) : TxKnown s ↔ TxAll (fun n => ∃ sig, SigTable.find n = some sig) s := Iff.rfl

theorem TxAll.conn {P : String → Prop} {s : Sys} (h : TxAll P s) (c : Nat) {q} (hq : (s.conn c).tx = some q) :
    ∀ a ∈ q, P a.1 := by
  rw [Sys.conn_def] at hq
  cases hf : s.srv.conns.find? (·.id == c) with
  | none => rw [hf] at hq; cases hq
  | some x =>
    rw [hf] at hq
    exact h x (List.mem_of_find?_eq_some hf) q hq

def AllAlive (s : Sys) : Prop := ∀ x ∈ s.srv.conns, x.dead = false

theorem AllAlive.le {s s' : Sys} (h : AllAlive s) (hle : ConnsLe s s') : AllAlive s' := by
  intro x' hx'
  obtain ⟨x, hx, _, hd, _, _⟩ := forall₂_mem_right hle x' hx'
  rw [hd]; exact h x hx

/-! ## 3. small steps -/

/-- a pub/sub message pushed to a subscriber (`message` / `pmessage`) -/
def IsMsg (r : Reply) : Prop :=
  (∃ ch m, r = .arr [.bulk (strBytes "message"), .bulk ch, .bulk m]) ∨
  (∃ pat ch m, r = .arr [.bulk (strBytes "pmessage"), .bulk pat, .bulk ch, .bulk m])

def OutLe (s s' : Sys) : Prop := ∃ X, s'.out = X ++ s.out ∧ ∀ p ∈ X, IsMsg p.2

theorem OutLe.refl (s : Sys) : OutLe s s := ⟨[], rfl, fun _ h => by cases h⟩
theorem OutLe.of_eq {s s' : Sys} (h : s'.out = s.out) : OutLe s s' := ⟨[], h, fun _ h => by cases h⟩
theorem OutLe.trans {a b c : Sys} (h1 : OutLe a b) (h2 : OutLe b c) : OutLe a c := by
  obtain ⟨X, hX, hx⟩ := h1
  obtain ⟨Y, hY, hy⟩ := h2
  refine ⟨Y ++ X, by rw [hY, hX, List.append_assoc], fun p hp => ?_⟩
  rcases List.mem_append.1 hp with hp | hp
  · exact hy p hp
  · exact hx p hp

structure Small (s s' : Sys) : Prop where
  conns : ConnsLe s s'
  fault : s.fault.isSome = true → s'.fault.isSome = true
  crashed : s'.crashed = s.crashed
  out : OutLe s s'

theorem Small.refl (s : Sys) : Small s s := ⟨ConnsLe.refl s, id, rfl, OutLe.refl s⟩

theorem Small.trans {a b c : Sys} (h1 : Small a b) (h2 : Small b c) : Small a c :=
  ⟨h1.conns.trans h2.conns, fun h => h2.fault (h1.fault h), h2.crashed.trans h1.crashed, h1.out.trans h2.out⟩

theorem Small.frame {s0 s s' : Sys} (h : Small s0 s) (h1 : s'.srv.conns = s.srv.conns) (h2 : s'.fault = s.fault)
    (h3 : s'.crashed = s.crashed) (h4 : s'.out = s.out) : Small s0 s' :=
  h.trans ⟨ConnsLe.of_eq h1, fun h => by rw [h2]; exact h, h3, OutLe.of_eq h4⟩

variable {s0 : Sys}

theorem sm_setDb (i : Nat) (db : Db) : Pres (Small s0) (setDb i db) := fun _ h => h.frame rfl rfl rfl rfl

theorem sm_modifyConn (c : Nat) (f : Conn → Conn) (hf : ∀ x, ConnStep x (f x)) : Pres (Small s0) (modifyConn c f) := by
  intro s h
  rw [modifyConn_run]
  exact h.trans ⟨ConnsLe.updConn s c f hf, id, rfl, OutLe.refl _⟩

theorem notifyFn_step (d : Nat) (key : Bytes) (x : Conn) : ConnStep x (notifyFn d key x) := by
  rw [notifyFn_fields]
  exact ⟨rfl, rfl, rfl, .inl rfl⟩

theorem sm_notifyWatch (d : Nat) (k : Bytes) : Pres (Small s0) (notifyWatch d k) := by
  intro s h
  rw [notifyWatch_run]
  exact h.trans ⟨ConnsLe.mapConns s _ (notifyFn_step d k), id, rfl, OutLe.refl _⟩

theorem sm_modify_frame (g : Sys → Sys)
    (hg : ∀ s, (g s).srv.conns = s.srv.conns ∧ (g s).fault = s.fault ∧ (g s).crashed = s.crashed ∧ (g s).out = s.out) :
    Pres (Small s0) (modify g) :=
  fun s h => h.frame (hg s).1 (hg s).2.1 (hg s).2.2.1 (hg s).2.2.2

theorem ConnStep.of_connOp {f : Conn → Conn} (hf : Conserve.ConnOp f) : ∀ x, ConnStep x (f x) := by
  cases hf with
  | multi => exact fun _ => ⟨rfl, rfl, rfl, .inr (.inr rfl)⟩
  | discard => exact fun _ => ⟨rfl, rfl, rfl, .inr (.inl rfl)⟩
  | abort => exact fun _ => ⟨rfl, rfl, rfl, .inr (.inl rfl)⟩
  | _ => exact fun _ => ⟨rfl, rfl, rfl, .inl rfl⟩

theorem ConnStep.of_parkOp {mode : Mode} {f : Conn → Conn} (hf : Conserve.ParkOp mode f) : ∀ x, ConnStep x (f x) := by
  cases hf <;> exact fun _ => ⟨rfl, rfl, rfl, .inl rfl⟩

theorem publish_sm (ch msg : Bytes) : Pres (Small s0) (publish ch msg) := by
  intro s h
  rw [publish_run]
  have hD : ∀ p ∈ ((deliveries s.srv ch msg).filter fun d => !(s.conn d.1).closed).reverse, IsMsg p.2 := by
    intro p hp
    have hp' := (List.mem_filter.1 (List.mem_reverse.1 hp)).1
    obtain ⟨pc, pr⟩ := p
    rcases (mem_deliveries s.srv ch msg pc pr).1 hp' with ⟨_, rfl⟩ | ⟨pat, _, _, _, _, rfl⟩
    · exact .inl ⟨ch, msg, rfl⟩
    · exact .inr ⟨pat, ch, msg, rfl⟩
  revert hD
  generalize ((deliveries s.srv ch msg).filter fun d => !(s.conn d.1).closed).reverse = D
  intro hD
  exact h.trans ⟨ConnsLe.of_eq rfl, id, rfl, ⟨D, rfl, hD⟩⟩

theorem sm_modifyConn_keep (c : Nat) (f : Conn → Conn)
    (hf : ∀ x, (f x).id = x.id ∧ (f x).dead = x.dead ∧ (f x).closed = x.closed ∧ (f x).tx = x.tx) :
    Pres (Small s0) (modifyConn c f) :=
  sm_modifyConn c f (fun x => ⟨(hf x).1, (hf x).2.1, (hf x).2.2.1, .inl (hf x).2.2.2⟩)

theorem sm_serverStable : Conserve.ServerStable (Small s0) :=
  Conserve.ServerStable.ofSetDb (setDb := fun s i db h => sm_setDb i db s h)
    (notify := fun s d k h => sm_notifyWatch d k s h)
    (hint := fun _ _ h1 h2 h3 h4 hs => hs.trans ⟨ConnsLe.of_eq (by rw [h1]), h4, h3, OutLe.of_eq h2⟩)
    (scripts := fun _ => sm_modify_frame _ (fun _ => ⟨rfl, rfl, rfl, rfl⟩))
    (lastsave := fun _ => sm_modify_frame _ (fun _ => ⟨rfl, rfl, rfl, rfl⟩))

theorem sm_closed (mode : Mode) (c : Nat) : Conserve.Stable (Small s0) mode c :=
  Conserve.StableBase.toStable_ofSetDb
    { sm_serverStable with conn := fun s f hf h => sm_modifyConn c f (.of_connOp hf) s h }
    (fun s i db h => sm_setDb i db s h) (fun s f hf h => sm_modifyConn c f (.of_parkOp hf) s h)

/-! ## 4. `special`, `_run_command` -/

/-- the commands the traversal does not enter: EXEC and the four whose acknowledgements are replies to the caller.  All
five are `noScript`, so no script reaches them; all but EXEC are refused inside MULTI, and EXEC is never queued -/
def gated : List String := "exec" :: SigTable.notInMulti

theorem special_sm (inner : Inner) (mode : Mode) (c : Nat) (name : String) (args : List Arg) (cis : List CI)
    (hne : name ∉ gated) : Pres (Small s0) (special inner mode c name args cis) :=
  (sm_closed mode c).special_plain inner name args cis
    (fun h => hne ((by decide : ∀ n ∈ ["subscribe", "psubscribe", "unsubscribe", "punsubscribe", "exec"], n ∈ gated) _ h))
    publish_sm

/-- the special body need be a small step only behind the gate (`from_script` and `no_script`: refused before) -/
theorem runWith_sm (special : SpecialFn) (mode : Mode) (c : Nat) (sig : Sig) (raw : List Bytes) (fromScript : Bool)
    (hsp : (fromScript = true → sig.noScript = false) → ∀ args cis, Pres (Small s0) (special mode c sig.name args cis)) :
    Pres (Small s0) (runWith special mode c sig raw fromScript) :=
  (sm_closed mode c).leaves.runWith special sig raw fromScript
    ((sm_closed mode c).leaves.specialAt_of (fun _ => trivial) hsp)

/-! ## 5. scripts -/

theorem gated_noScript {n : String} {sig : Sig} (hf : SigTable.find n = some sig) (hg : sig.name ∈ gated) :
    sig.noScript = true := by
  have hn := SigTable.find_name hf
  rw [hn] at hg
  have key : ∀ m ∈ gated, (SigTable.find m).all (·.noScript) = true := by decide +kernel
  have := key n hg
  rw [hf] at this
  exact this

theorem stub_sm (mode : Mode) (c : Nat) (n : String) (sig : Sig) (raw : List Bytes) (hf : SigTable.find n = some sig) :
    (sm_closed (s0 := s0) mode c).leaves.SpecialAt (special nestedStub) sig raw true :=
  (sm_closed mode c).leaves.specialAt_of (fun _ => trivial) (fun hns args cis =>
    special_sm _ mode c sig.name args cis (fun hg => by
      have := gated_noScript hf hg
      rw [hns rfl] at this
      cases this))

theorem runInner_sm (mode : Mode) (c : Nat) (sig : Sig) (raw : List Bytes) (hne : sig.name ∉ gated) :
    Pres (Small s0) (runInner mode c sig raw) :=
  (sm_closed mode c).leaves.runInner (stub_sm mode c) sig raw
    ((sm_closed mode c).leaves.specialAt_of (fun _ => trivial)
      (fun _ args cis => special_sm _ mode c sig.name args cis hne))

theorem runCommand_sm (mode : Mode) (c : Nat) (sig : Sig) (raw : List Bytes) (fromScript : Bool)
    (hne : sig.name ∉ gated) : Pres (Small s0) (runCommand mode c sig raw fromScript) :=
  (sm_closed mode c).leaves.runCommand (stub_sm mode c) sig raw fromScript
    ((sm_closed mode c).leaves.specialAt_of (fun _ => trivial)
      (fun _ args cis => special_sm _ mode c sig.name args cis hne))

end FR.C04k

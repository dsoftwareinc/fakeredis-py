import FR.Proofs.Runner
import FR.Proofs.LiveApply
import FR.Proofs.Discipline
import FR.Proofs.Strings
import FR.Proofs.Decimal
import FR.Proofs.Hex
/-!
# The string and generic-key commands on the key space

The key space of a database is its live view `Db.live : Bytes → Option Item`.  `LiveRun.run_outcome` says that a run of
`runRegular` is a function of the clock and the key space; this file restates it as `refines` for the pair
`runL = (reply, key space afterwards)` with the write-back spelled as point updates (`upd`, `wbL`) — the vocabulary in
which `FR/Props/C01k.lean` states its theorems — and evaluates `runL` for each string and generic-key command with its
real signature and body (one `x_runL` per command).

In order: the key space (`upd`, `LiveOK`); `writeback` as a point update (`wbL`); `applyL` and `runL` with their
bridges to `Ttl.applyL` and `LiveRun.runO`; tools for evaluating `runL` (`fin`, with `fin_keep` / `fin_put` for what one
item handed back leaves; `ciA`; `applyL_head`); the commands on one string key (`strKey_runL`: GET … INCRBYFLOAT,
SETEX, APPEND, GETRANGE, SETRANGE, GETBIT, SETBIT, BITCOUNT); SET
(`setSpec`, `set_runL`) and its option words; the commands over key lists (DEL, UNLINK, EXISTS, MGET); MSET / MSETNX;
RENAME / RENAMENX; DUMP / RESTORE and the payload of a string; last, that the signatures written out here are the
entries of `SigTable` (`find_x`).

To add a command on one string key: write `def sigX` as the table has it and `find_x … := by decide`; prove `x_runL`
by `strKey_runL sigX Cmd.x ctx time live k hf raw as (applyL_str _ _ _ _ _ ftl (by decide) k rest rfl live hdec) G hfin`
as `getset_runL` does; lift it with `refines` (or `Ttl.run_point` / `run_refused` for `Ttl.run "x"`).
-/
namespace FR.StrKeys
open FR FR.Db FR.Spec

/-! ## The key space -/

/-- point update of a key space -/
def upd (live : Bytes → Option Item) (k : Bytes) (oi : Option Item) : Bytes → Option Item :=
  fun k' => if k' = k then oi else live k'

@[simp] theorem upd_self (live : Bytes → Option Item) (k : Bytes) (oi : Option Item) : upd live k oi k = oi := by
  simp [upd]

theorem upd_ne (live : Bytes → Option Item) {k k' : Bytes} (oi : Option Item) (h : k' ≠ k) :
    upd live k oi k' = live k' := by
  simp [upd, h]

/-- a key space that is a point update of `k`, read at `k` and at another key -/
theorem upd_frame {L live : Bytes → Option Item} {k k0 : Bytes} {oi : Option Item} (h : L = upd live k oi)
    (hne : k ≠ k0) : L k = oi ∧ L k0 = live k0 :=
  h ▸ ⟨upd_self .., upd_ne _ _ (Ne.symm hne)⟩

/-- `Database.expired` on the deadline alone (`expired_eq`) -/
def expiredAt (time : Int) (e : Option Int) : Bool :=
  match e with
  | none => false
  | some t => decide (t < time)

theorem expired_eq (db : Db) (it : Item) : db.expired it = expiredAt db.time it.expireat := rfl

theorem keepLive_eq_ite (t : Int) (it : Item) :
    Ttl.keepLive t it = if expiredAt t it.expireat then none else some it := Ttl.keepLive_eq ⟨[], t⟩ it

theorem live_mem {db : Db} {k : Bytes} {it : Item} (h : db.live k = some it) :
    (k, it) ∈ db.dict ∧ expiredAt db.time it.expireat = false := by
  unfold Db.live at h
  have hm := lookup_some_mem h
  rw [purge_dict, List.mem_filter] at hm
  exact ⟨hm.1, by simpa [expired_eq] using hm.2⟩

/-- the two facts about the key space of a database without stored empty collections (`liveOK`).  The lemmas about one
key take the field they need as a hypothesis on that key (`hf`, `hne`), supplied by `fresh` and `full`; the lemmas over
key lists take `LiveOK`. -/
structure LiveOK (time : Int) (live : Bytes → Option Item) : Prop where
  /-- no live entry is past its deadline -/
  fresh : ∀ k it, live k = some it → expiredAt time it.expireat = false
  /-- no live entry is an empty collection -/
  nonempty : ∀ k it, live k = some it → it.value.isEmptyColl = false

theorem fresh (db : Db) (k : Bytes) : ∀ it, db.live k = some it → expiredAt db.time it.expireat = false :=
  fun _ h => (live_mem h).2

theorem full {db : Db} (ne : NoEmpty db.dict) (k : Bytes) : ∀ it, db.live k = some it → it.value.isEmptyColl = false :=
  fun _ h => ne _ (live_mem h).1

theorem liveOK {db : Db} (ne : NoEmpty db.dict) : LiveOK db.time db.live :=
  ⟨fresh db, full ne⟩

/-! ## `writeback` on the key space -/

/-- the entry a `CommandItem` leaves behind -/
def itemOfCI (time : Int) (c : CI) : Option Item :=
  match c.val with
  | none => none
  | some v => if v.isEmptyColl then none else if expiredAt time c.expireat then none else some ⟨v, c.expireat⟩

/-- `writeback` of one `CommandItem` -/
def wbL (time : Int) (live : Bytes → Option Item) (c : CI) : Bytes → Option Item :=
  if c.modified then upd live c.key (itemOfCI time c) else live

/-- an item obeying `expMod → modified` is written back as a point update of its own key -/
theorem wbL_apply {c : CI} (hs : c.ExpModSound) (time : Int) (live : Bytes → Option Item) (k : Bytes) :
    wbL time live c k = if c.key = k then Ttl.wbLive time c (live k) else live k := by
  unfold wbL Ttl.wbLive
  by_cases hm : c.modified = true
  · rw [if_pos hm, if_pos hm]
    by_cases hk : c.key = k
    · subst hk
      rw [upd_self, if_pos rfl]
      unfold itemOfCI
      cases c.val with
      | none => rfl
      | some v => simp only [keepLive_eq_ite]
    · rw [upd_ne _ _ (Ne.symm hk), if_neg hk]
  · have he : c.expMod = false := by
      cases h : c.expMod with
      | false => rfl
      | true => exact absurd (hs h) hm
    simp [hm, he]

theorem foldl_wbL {cis : List CI} (hs : ∀ c ∈ cis, c.ExpModSound) (time : Int) (live : Bytes → Option Item) :
    cis.foldl (wbL time) live = LiveRun.wbView time live cis := by
  induction cis generalizing live with
  | nil => rfl
  | cons c cs ih =>
    rw [List.foldl_cons, ih fun c' hc' => hs c' (List.mem_cons_of_mem _ hc')]
    funext k
    unfold LiveRun.wbView
    rw [Ttl.wbFold_cons, wbL_apply (hs c List.mem_cons_self)]

theorem writeback_liveL (c : CI) (hs : c.ExpModSound) {db : Db} (nd : NodupKeys db.dict) :
    (c.writeback db).1.live = wbL db.time db.live c := by
  funext k
  rw [wbL_apply hs]
  split
  · rename_i hk; subst hk; exact Ttl.writeback_live_self c nd
  · rename_i hk; exact c.writeback_live_ne nd (Ne.symm hk)

/-! ## `Signature.apply` on the key space -/

def pass1L (live : Bytes → Option Item) : List (Bytes × ArgTy) → List Arg → Except Err (Sum Reply (List Arg))
  | [], acc => .ok (.inr acc.reverse)
  | (b, t) :: rest, acc =>
    match t with
    | .key _ mr =>
      if mr != .unspecified then
        match live b with
        | none => .ok (.inl (Sig.missingReply mr))
        | some _ => pass1L live rest (.raw b :: acc)
      else pass1L live rest (.raw b :: acc)
    | _ =>
      match Conv.decode t b with
      | .error e => .error e
      | .ok a => pass1L live rest (a :: acc)

def pass2L (live : Bytes → Option Item) : List (Arg × ArgTy) → List Arg → List CI → Except Err (List Arg × List CI)
  | [], accA, accC => .ok (accA.reverse, accC.reverse)
  | (a, t) :: rest, accA, accC =>
    match t, a with
    | .key ty _, .raw k =>
      match ty, live k with
      | some ty, some it =>
        if it.value.ty != ty then .error Msgs.WRONGTYPE_MSG
        else pass2L live rest (.key accC.length :: accA) (⟨k, some it.value, it.expireat, false, false⟩ :: accC)
      | some ty, none =>
        pass2L live rest (.key accC.length :: accA) (⟨k, ty.default, none, false, false⟩ :: accC)
      | none, some it =>
        pass2L live rest (.key accC.length :: accA) (⟨k, some it.value, it.expireat, false, false⟩ :: accC)
      | none, none =>
        pass2L live rest (.key accC.length :: accA) (⟨k, none, none, false, false⟩ :: accC)
    | _, _ => pass2L live rest (a :: accA) accC

/-- `Ttl.applyL` with the arguments in another order (`applyL_eq`), written out again together with its two passes;
`runL`, and through it the statements of `FR/Props/C01k.lean`, are written with this one -/
def applyL (s : Sig) (raw : List Bytes) (live : Bytes → Option Item) : Except Err Sig.Applied :=
  if !s.checkArity raw.length then .error s.wrongArgs
  else if !s.rep.isEmpty && (raw.length - s.fixed.length) % s.rep.length != 0 then .error s.wrongArgs
  else
    let tys := s.types raw.length
    match pass1L live (raw.zip tys) [] with
    | .error e => .error e
    | .ok (.inl r) => .ok (.short r)
    | .ok (.inr args) =>
      match pass2L live (args.zip tys) [] [] with
      | .error e => .error e
      | .ok (args', cis) => .ok (.ok args' cis)

theorem pass1L_eq (live : Bytes → Option Item) (l : List (Bytes × ArgTy)) (acc : List Arg) :
    pass1L live l acc = Ttl.pass1L live l acc := by
  induction l generalizing acc with
  | nil => rfl
  | cons x rest ih =>
    obtain ⟨b, t⟩ := x
    unfold pass1L Ttl.pass1L
    simp only [ih]
    cases t <;> rfl

theorem pass2L_eq (live : Bytes → Option Item) (l : List (Arg × ArgTy)) (accA : List Arg) (accC : List CI) :
    pass2L live l accA accC = Ttl.pass2L live l accA accC := by
  induction l generalizing accA accC with
  | nil => rfl
  | cons x rest ih =>
    obtain ⟨a, t⟩ := x
    unfold pass2L Ttl.pass2L
    simp only [ih]
    cases t <;> cases a <;> rfl

theorem applyL_eq (s : Sig) (raw : List Bytes) (live : Bytes → Option Item) :
    applyL s raw live = Ttl.applyL live s raw := by
  unfold applyL Ttl.applyL
  simp only [pass1L_eq, pass2L_eq]
  rfl

theorem apply_eq (s : Sig) (raw : List Bytes) {db : Db} (nd : NodupKeys db.dict) :
    (s.apply raw db).2 = applyL s raw db.live := by
  rw [applyL_eq]; exact Ttl.apply_eq s raw nd

/-! ## The runner on the key space -/

/-- reply and key space of `LiveRun.runO` (`runL_eq_runO`, for a body that keeps `expMod → modified`), the write-back
spelled as point updates; `failed` and the notified keys are not kept -/
def runL (sig : Sig) (body : Body) (ctx : Ctx) (raw : List Bytes) (time : Int) (live : Bytes → Option Item) :
    Reply × (Bytes → Option Item) :=
  match applyL sig raw live with
  | .error e => (.err (strBytes e), live)
  | .ok (.short r) => (r, live)
  | .ok (.ok args cis) =>
    match body ctx args cis with
    | .error e => (.err (strBytes e), live)
    | .ok o => (o.reply, o.cis.foldl (wbL time) live)

/-- `runL` keeps the reply and the key space of the outcome `LiveRun.runO` -/
theorem runL_eq_runO (sig : Sig) (body : Body) (hb : body.ExpModSound) (ctx : Ctx) (raw : List Bytes) (time : Int)
    (live : Bytes → Option Item) :
    runL sig body ctx raw time live =
      ((LiveRun.runO sig body ctx raw time live).reply, (LiveRun.runO sig body ctx raw time live).live) := by
  unfold runL LiveRun.runO
  rw [applyL_eq]
  cases h : Ttl.applyL live sig raw with
  | error e => rfl
  | ok ap =>
    cases ap with
    | short r => rfl
    | ok args cis =>
      simp only
      cases hbd : body ctx args cis with
      | error e => rfl
      | ok o =>
        simp only [LiveRun.finO]
        rw [foldl_wbL (hb ctx args cis o (fun c hc => (Ttl.applyL_fromLive h c hc).clean) hbd)]

/-- `LiveRun.run_outcome` in the vocabulary of this file: on a database with unique keys, the reply and the resulting
key space of `runRegular` are the ones computed by `runL` from the clock and the key space alone -/
theorem refines (sig : Sig) (body : Body) (hb : body.ExpModSound) (ctx : Ctx) (raw : List Bytes) {db : Db}
    (nd : NodupKeys db.dict) :
    ((runRegular sig body ctx none raw db).reply, (runRegular sig body ctx none raw db).db.live) =
      runL sig body ctx raw db.time db.live := by
  rw [runL_eq_runO sig body hb, ← (LiveRun.run_outcome sig body ctx raw nd).1]
  rfl

theorem run_eq (sig : Sig) (body : Body) (hb : body.ExpModSound) (ctx : Ctx) (raw : List Bytes) {db : Db}
    (nd : NodupKeys db.dict) {r : Reply} {L : Bytes → Option Item}
    (h : runL sig body ctx raw db.time db.live = (r, L)) :
    (runRegular sig body ctx none raw db).reply = r ∧ (runRegular sig body ctx none raw db).db.live = L := by
  have := refines sig body hb ctx raw nd
  rw [h] at this
  exact ⟨congrArg Prod.fst this, congrArg Prod.snd this⟩

/-! ## Tools for evaluating `runL` -/

def K : ArgTy := .key none .unspecified
def KS : ArgTy := .key (some .str) .unspecified

def wrongtype : Reply := .err (strBytes Msgs.WRONGTYPE_MSG)
def synErr : Reply := .err (strBytes Msgs.SYNTAX_ERROR_MSG)

/-- the last step of `runL`: reply and key space of `LiveRun.finO`, with `wbL` for `wbView` -/
def fin (time : Int) (live : Bytes → Option Item) (r : Except Err BodyOut) : Reply × (Bytes → Option Item) :=
  match r with
  | .error e => (.err (strBytes e), live)
  | .ok o => (o.reply, o.cis.foldl (wbL time) live)

@[simp] theorem fin_error (time : Int) (live : Bytes → Option Item) (e : Err) :
    fin time live (.error e) = (.err (strBytes e), live) := rfl
@[simp] theorem fin_ok (time : Int) (live : Bytes → Option Item) (o : BodyOut) :
    fin time live (.ok o) = (o.reply, o.cis.foldl (wbL time) live) := rfl

theorem fin_ite (time : Int) (live : Bytes → Option Item) (c : Prop) [Decidable c] (a b : Except Err BodyOut) :
    fin time live (if c then a else b) = if c then fin time live a else fin time live b := by
  split <;> rfl

theorem runL_eq (sig : Sig) (body : Body) (ctx : Ctx) (raw : List Bytes) (time : Int) (live : Bytes → Option Item) :
    runL sig body ctx raw time live =
      match applyL sig raw live with
      | .error e => (.err (strBytes e), live)
      | .ok (.short r) => (r, live)
      | .ok (.ok args cis) => fin time live (body ctx args cis) := by
  unfold runL
  cases applyL sig raw live with
  | error e => rfl
  | ok ap =>
    cases ap with
    | short r => rfl
    | ok args cis => simp only; cases body ctx args cis <;> rfl

/-- an item handed back unmodified writes nothing -/
theorem wbL_keep (time : Int) (live : Bytes → Option Item) (c : CI) (hm : c.modified = false) :
    wbL time live c = live := by
  simp only [wbL, hm, Bool.false_eq_true, if_false]

theorem fin_keep (time : Int) (live : Bytes → Option Item) (r : Reply) (c : CI) (hm : c.modified = false) :
    fin time live (ret r [c]) = (r, live) :=
  congrArg (Prod.mk r) (wbL_keep time live c hm)

theorem strBytes_zero : strBytes "0" = [48] := by rw [strBytes_eq]; rfl
theorem conv_int_zero : Conv.int (strBytes "0") = .ok 0 := by rw [strBytes_zero]; rfl

/-- the `CommandItem` of an untyped key (`Ttl.ciOfKey live (k, none)`, `ciA_eq`) -/
def ciA (live : Bytes → Option Item) (k : Bytes) : CI :=
  match live k with
  | none => ⟨k, none, none, false, false⟩
  | some it => ⟨k, some it.value, it.expireat, false, false⟩

theorem ciA_eq (live : Bytes → Option Item) (k : Bytes) : ciA live k = Ttl.ciOfKey live (k, none) := by
  unfold Ttl.ciOfKey Ttl.ciOf ciA
  cases live k <;> rfl

theorem ciA_key (live : Bytes → Option Item) (k : Bytes) : (ciA live k).key = k := by
  unfold ciA; cases live k <;> rfl

theorem ciA_expireat (live : Bytes → Option Item) (k : Bytes) :
    (ciA live k).expireat = (live k).bind (·.expireat) := by
  unfold ciA; cases live k <;> rfl

theorem ciA_modified (live : Bytes → Option Item) (k : Bytes) : (ciA live k).modified = false := by
  unfold ciA; cases live k <;> rfl

theorem wbL_ciA (time : Int) (live L : Bytes → Option Item) (k : Bytes) : wbL time L (ciA live k) = L :=
  wbL_keep time L _ (ciA_modified live k)

theorem fin_ret_ciA (time : Int) (live : Bytes → Option Item) (r : Reply) (k : Bytes) :
    fin time live (ret r [ciA live k]) = (r, live) :=
  fin_keep time live r _ (ciA_modified live k)

/-- a modified item holding a value that stays (not an empty collection, deadline not passed) overwrites its key with
that value and deadline -/
theorem wbL_put (time : Int) (live : Bytes → Option Item) (c : CI) {k : Bytes} {v : Value}
    (hm : c.modified = true) (hk : c.key = k) (hv : c.val = some v) (hne : v.isEmptyColl = false)
    (he : expiredAt time c.expireat = false) :
    wbL time live c = upd live k (some ⟨v, c.expireat⟩) := by
  simp only [wbL, itemOfCI, hm, hk, hv, hne, he, if_true, Bool.false_eq_true, if_false]

/-- a modified item without a value deletes its key -/
theorem wbL_del (time : Int) (live : Bytes → Option Item) (c : CI) {k : Bytes} (hm : c.modified = true)
    (hk : c.key = k) (hv : c.val = none) : wbL time live c = upd live k none := by
  simp only [wbL, itemOfCI, hm, hk, hv, if_true]

/-- a body that answers `r` and hands back such an item -/
theorem fin_put (time : Int) (live : Bytes → Option Item) (r : Reply) (c : CI) {k : Bytes} {v : Value}
    (hm : c.modified = true) (hk : c.key = k) (hv : c.val = some v) (hne : v.isEmptyColl = false)
    (he : expiredAt time c.expireat = false) :
    fin time live (ret r [c]) = (r, upd live k (some ⟨v, c.expireat⟩)) :=
  congrArg (Prod.mk r) (wbL_put time live c hm hk hv hne he)

/-- the items of untyped keys, handed back as they are, write nothing -/
theorem foldl_wbL_ciA (time : Int) (live L : Bytes → Option Item) (l : List Bytes) :
    (l.map (ciA live)).foldl (wbL time) L = L := by
  induction l with
  | nil => rfl
  | cons x xs ih => simp [wbL_ciA, ih]

/-- a signature of fixed arity whose first argument is its only key: the other arguments are converted, then the
key is looked up.  `n ns a b c` are the fields of the signature that `apply` does not look at (name, `noScript`, the
Python parameter counts): a caller passes `_` for them and the converters after the key as `ftl`. -/
theorem applyL_head (n : String) (ns : Bool) (a b : Nat) (c : Bool) (ty : Option Ty) (ftl : List ArgTy)
    (h1 : ∀ t ∈ ftl, Ttl.isKey t = false) (k : Bytes) (rest : List Bytes) (hlen : rest.length = ftl.length)
    (live : Bytes → Option Item) :
    applyL ⟨n, .key ty .unspecified :: ftl, [], ns, a, b, c⟩ (k :: rest) live =
      match Ttl.decodeT (rest.zip ftl) with
      | .error e => .error e
      | .ok as =>
        if Ttl.typeOK live (k, ty) then .ok (.ok (.key 0 :: as.map Prod.fst) [Ttl.ciOfKey live (k, ty)])
        else .error Msgs.WRONGTYPE_MSG := by
  rw [applyL_eq, Ttl.applyL_keyHead live _ ty ftl rfl h1 (by simp) k rest (by simp [Sig.checkArity, hlen]) (by simp)]
  simp [Sig.types, hlen]
  rfl

/-- the same with any number of plain arguments after the fixed ones -/
theorem applyL_head_bytes (n : String) (ns : Bool) (a b : Nat) (c : Bool) (ty : Option Ty) (ftl : List ArgTy)
    (h1 : ∀ t ∈ ftl, Ttl.isKey t = false) (k : Bytes) (rest opts : List Bytes) (hlen : rest.length = ftl.length)
    (live : Bytes → Option Item) :
    applyL ⟨n, .key ty .unspecified :: ftl, [.bytes], ns, a, b, c⟩ (k :: (rest ++ opts)) live =
      match Ttl.decodeT (rest.zip ftl) with
      | .error e => .error e
      | .ok as =>
        if Ttl.typeOK live (k, ty) then
          .ok (.ok (.key 0 :: (as.map Prod.fst ++ opts.map .raw)) [Ttl.ciOfKey live (k, ty)])
        else .error Msgs.WRONGTYPE_MSG := by
  rw [applyL_eq, Ttl.applyL_keyHead live _ ty ftl rfl h1 (by simp [Ttl.isKey]) k _
    (by simp [Sig.checkArity, hlen]) (by simp [Nat.mod_one])]
  have ht : (Sig.types ⟨n, .key ty .unspecified :: ftl, [.bytes], ns, a, b, c⟩ ((rest ++ opts).length + 1)).tail =
      ftl ++ List.replicate opts.length .bytes := by
    rw [Ttl.types_rep_one rfl]; simp [hlen]
  rw [ht, List.zip_append hlen, Ttl.decodeT_append, Ttl.zip_replicate _ _ (Nat.le_refl _), Ttl.decodeT_bytess]
  cases Ttl.decodeT (rest.zip ftl) with
  | error e => rfl
  | ok as => simp [Except.bind, Except.map, Function.comp_def]

/-! ## Commands on one key -/

def sigGet : Sig := ⟨"get", [KS], [], false, 1, 0, false⟩
def sigStrlen : Sig := ⟨"strlen", [KS], [], false, 1, 0, false⟩
def sigGetset : Sig := ⟨"getset", [KS, .bytes], [], false, 2, 0, false⟩
def sigSetnx : Sig := ⟨"setnx", [K, .bytes], [], false, 2, 0, false⟩
def sigIncr : Sig := ⟨"incr", [KS], [], false, 1, 0, false⟩
def sigDecr : Sig := ⟨"decr", [KS], [], false, 1, 0, false⟩
def sigIncrby : Sig := ⟨"incrby", [KS, .int], [], false, 2, 0, false⟩
def sigDecrby : Sig := ⟨"decrby", [KS, .int], [], false, 2, 0, false⟩
def sigIncrbyfloat : Sig := ⟨"incrbyfloat", [KS, .bytes], [], false, 2, 0, false⟩
def sigType : Sig := ⟨"type", [K], [], false, 1, 0, false⟩
def sigSetex : Sig := ⟨"setex", [K, .int, .bytes], [], false, 3, 0, false⟩
def sigPsetex : Sig := ⟨"psetex", [K, .int, .bytes], [], false, 3, 0, false⟩

/-- `applyL_head` for a string key, once the other arguments are converted.  Callers write
`applyL_str _ _ _ _ _ ftl (by decide) k rest rfl live hdec`: five `_` for the fields `apply` does not look at, `ftl` the
converters after the key, `hdec` the conversion of `rest`. -/
theorem applyL_str (n : String) (ns : Bool) (a b : Nat) (c : Bool) (ftl : List ArgTy)
    (h1 : ∀ t ∈ ftl, Ttl.isKey t = false) (k : Bytes) (rest : List Bytes) (hlen : rest.length = ftl.length)
    (live : Bytes → Option Item) {as : List (Arg × ArgTy)} (hd : Ttl.decodeT (rest.zip ftl) = .ok as) :
    applyL ⟨n, KS :: ftl, [], ns, a, b, c⟩ (k :: rest) live =
      Ttl.keyStep (some .str) k (live k) (as.map Prod.fst) := by
  rw [KS, applyL_head _ _ _ _ _ _ ftl h1 k rest hlen, hd]
  exact (Ttl.keyStep_eq live (some .str) k _).symm

theorem applyL_head_error (n : String) (ns : Bool) (a b : Nat) (c : Bool) (ty : Option Ty) (ftl : List ArgTy)
    (h1 : ∀ t ∈ ftl, Ttl.isKey t = false) (k : Bytes) (rest : List Bytes) (hlen : rest.length = ftl.length)
    (live : Bytes → Option Item) {e : Err} (hd : Ttl.decodeT (rest.zip ftl) = .error e) :
    applyL ⟨n, .key ty .unspecified :: ftl, [], ns, a, b, c⟩ (k :: rest) live = .error e := by
  rw [applyL_head _ _ _ _ _ _ ftl h1 k rest hlen, hd]

/-- one string key: a command whose only key is a string key is evaluated on the stored string `ob` (none for a
missing key) and its deadline `e`; a key of another type is WRONGTYPE and changes nothing.  `as` are the converted
arguments after the key (the body gets `.key 0 :: as`), `G ob e` is what the command answers and leaves, and `hfin`
says that the body, followed by the write-back, computes `G` on the item `apply` builds. -/
theorem strKey_runL (sig : Sig) (body : Body) (ctx : Ctx) (time : Int) (live : Bytes → Option Item) (k : Bytes)
    (hf : ∀ it, live k = some it → expiredAt time it.expireat = false) (raw : List Bytes) (as : List Arg)
    (hap : applyL sig raw live = Ttl.keyStep (some .str) k (live k) as)
    (G : Option Bytes → Option Int → Reply × (Bytes → Option Item))
    (hfin : ∀ (ob : Option Bytes) (e : Option Int), expiredAt time e = false →
      fin time live (body ctx (.key 0 :: as) [⟨k, ob.map Value.str, e, false, false⟩]) = G ob e) :
    runL sig body ctx raw time live =
      match live k with
      | none => G none none
      | some ⟨.str b, e⟩ => G (some b) e
      | some _ => (wrongtype, live) := by
  rw [runL_eq, hap]
  unfold Ttl.keyStep
  cases h : live k with
  | none => exact hfin none none rfl
  | some it =>
    obtain ⟨v, e⟩ := it
    cases v with
    | str b => simp only [Value.ty, bne_self_eq_false, Bool.false_eq_true, if_false]; exact hfin (some b) e (hf _ h)
    | _ => simp [Value.ty, wrongtype]

/-- the bytes a string command sees: the stored string, or `dflt` for a missing key -/
def bytesOr (ob : Option Bytes) (dflt : Bytes) : Bytes := ob.getD dflt

theorem strGet_mk (k : Bytes) (ob : Option Bytes) (e : Option Int) (dflt : Bytes) :
    Cmd.strGet ⟨k, ob.map Value.str, e, false, false⟩ dflt = bytesOr ob dflt := by
  cases ob <;> rfl

theorem get_runL (ctx : Ctx) (time : Int) (live : Bytes → Option Item) (k : Bytes)
    (hf : ∀ it, live k = some it → expiredAt time it.expireat = false) :
    runL sigGet Cmd.get ctx [k] time live =
      match live k with
      | none => (.nil, live)
      | some ⟨.str b, _⟩ => (.bulk b, live)
      | some _ => (wrongtype, live) :=
  strKey_runL sigGet Cmd.get ctx time live k hf [k] [] (applyL_str _ _ _ _ _ [] (by simp) k [] rfl live rfl)
    (fun ob _ => (match ob with | some b => .bulk b | none => .nil, live))
    (fun ob e _ => by cases ob <;> exact fin_keep time live _ _ rfl)

theorem strlen_runL (ctx : Ctx) (time : Int) (live : Bytes → Option Item) (k : Bytes)
    (hf : ∀ it, live k = some it → expiredAt time it.expireat = false) :
    runL sigStrlen Cmd.strlen ctx [k] time live =
      match live k with
      | none => (.int 0, live)
      | some ⟨.str b, _⟩ => (.int b.length, live)
      | some _ => (wrongtype, live) :=
  strKey_runL sigStrlen Cmd.strlen ctx time live k hf [k] []
    (applyL_str _ _ _ _ _ [] (by simp) k [] rfl live rfl)
    (fun ob _ => (.int (ob.getD []).length, live))
    (fun ob e _ => by cases ob <;> exact fin_keep time live _ _ rfl)

theorem getset_runL (ctx : Ctx) (time : Int) (live : Bytes → Option Item) (k v : Bytes)
    (hf : ∀ it, live k = some it → expiredAt time it.expireat = false) :
    runL sigGetset Cmd.getset ctx [k, v] time live =
      match live k with
      | none => (.nil, upd live k (some ⟨.str v, none⟩))
      | some ⟨.str b, _⟩ => (.bulk b, upd live k (some ⟨.str v, none⟩))
      | some _ => (wrongtype, live) :=
  strKey_runL sigGetset Cmd.getset ctx time live k hf [k, v] [.raw v]
    (applyL_str _ _ _ _ _ [.bytes] (by decide) k [v] rfl live rfl)
    (fun ob _ => (match ob with | some b => .bulk b | none => .nil, upd live k (some ⟨.str v, none⟩)))
    (fun ob e _ => by cases ob <;> exact fin_put time live _ _ rfl rfl rfl rfl rfl)

theorem truthy_live {k : Bytes} {v : Value} {e : Option Int} {m x : Bool} (h : v.isEmptyColl = false) :
    CI.truthy ⟨k, some v, e, m, x⟩ = true := by
  cases v <;> simp_all [CI.truthy]

/-- `bool(key)` of an untyped key whose entry, if any, is not an empty collection -/
theorem truthy_ciA {live : Bytes → Option Item} {k : Bytes}
    (hne : ∀ it, live k = some it → it.value.isEmptyColl = false) : (ciA live k).truthy = (live k).isSome := by
  unfold ciA
  cases h : live k with
  | none => rfl
  | some it => exact truthy_live (hne it h)

theorem LiveOK.truthy {time : Int} {live : Bytes → Option Item} (ok : LiveOK time live) (k : Bytes) :
    (ciA live k).truthy = (live k).isSome :=
  truthy_ciA (ok.nonempty k)

/-- `applyL_head` for an untyped key, once the other arguments are converted -/
theorem applyL_untyped (n : String) (ns : Bool) (a b : Nat) (c : Bool) (ftl : List ArgTy)
    (h1 : ∀ t ∈ ftl, Ttl.isKey t = false) (k : Bytes) (rest : List Bytes) (hlen : rest.length = ftl.length)
    (live : Bytes → Option Item) {as : List (Arg × ArgTy)} (hd : Ttl.decodeT (rest.zip ftl) = .ok as) :
    applyL ⟨n, K :: ftl, [], ns, a, b, c⟩ (k :: rest) live = .ok (.ok (.key 0 :: as.map Prod.fst) [ciA live k]) := by
  rw [K, applyL_head _ _ _ _ _ _ ftl h1 k rest hlen, hd, ciA_eq]
  rfl

theorem setnx_runL (ctx : Ctx) (time : Int) (live : Bytes → Option Item) (k v : Bytes)
    (hne : ∀ it, live k = some it → it.value.isEmptyColl = false) :
    runL sigSetnx Cmd.setnx ctx [k, v] time live =
      match live k with
      | none => (.int 1, upd live k (some ⟨.str v, none⟩))
      | some _ => (.int 0, live) := by
  rw [runL_eq, sigSetnx, applyL_untyped _ _ _ _ _ [.bytes] (by decide) k [v] rfl live rfl]
  simp only [List.map_cons, List.map_nil, Cmd.setnx, ciAt, List.getD_cons_zero, truthy_ciA hne, fin_ite]
  cases live k with
  | none => exact fin_put time live _ _ rfl (ciA_key live k) rfl rfl rfl
  | some it => exact fin_ret_ciA ..

/-! ### counters -/

/-- the counter step on a stored string `stored` with deadline `e` -/
def incrOn (live : Bytes → Option Item) (k stored : Bytes) (e : Option Int) (a : Int) : Reply × (Bytes → Option Item) :=
  match Conv.int stored with
  | .error m => (.err (strBytes m), live)
  | .ok cur =>
    if Conv.INT_MIN ≤ cur + a ∧ cur + a ≤ Conv.INT_MAX then
      (.int (cur + a), upd live k (some ⟨.str (intBytes (cur + a)), e⟩))
    else (.err (strBytes Msgs.OVERFLOW_MSG), live)

/-- INCRBY-like step: a missing key counts as `0` without deadline -/
def incrSpec (live : Bytes → Option Item) (k : Bytes) (a : Int) : Reply × (Bytes → Option Item) :=
  match live k with
  | none => incrOn live k (strBytes "0") none a
  | some ⟨.str b, e⟩ => incrOn live k b e a
  | some _ => (wrongtype, live)

theorem incrCore_fin (time : Int) (live : Bytes → Option Item) (k : Bytes) (ob : Option Bytes) (e : Option Int)
    (he : expiredAt time e = false) (a : Int) :
    fin time live (Cmd.incrbyCore [⟨k, ob.map Value.str, e, false, false⟩] 0 a) =
      incrOn live k (bytesOr ob (strBytes "0")) e a := by
  unfold Cmd.incrbyCore incrOn
  simp only [ciAt, List.getD_cons_zero, strGet_mk]
  cases Conv.int (bytesOr ob (strBytes "0")) with
  | error m => rfl
  | ok cur =>
    simp only [Conv.encodeInt]
    by_cases hr : Conv.INT_MIN ≤ cur + a ∧ cur + a ≤ Conv.INT_MAX
    · rw [if_pos hr, if_pos hr]
      exact fin_put time live _ _ rfl rfl rfl rfl he
    · simp [hr]

/-- a body that is `incrbyCore` with the amount `a` -/
theorem incrCore_runL (sig : Sig) (body : Body) (ctx : Ctx) (time : Int) (live : Bytes → Option Item) (k : Bytes)
    (hf : ∀ it, live k = some it → expiredAt time it.expireat = false) (raw : List Bytes) (as : List Arg) (a : Int)
    (hap : applyL sig raw live = Ttl.keyStep (some .str) k (live k) as)
    (hbody : ∀ cis, body ctx (.key 0 :: as) cis = Cmd.incrbyCore cis 0 a) :
    runL sig body ctx raw time live = incrSpec live k a :=
  strKey_runL sig body ctx time live k hf raw as hap (fun ob e => incrOn live k (bytesOr ob (strBytes "0")) e a)
    (fun ob e he => (congrArg _ (hbody _)).trans (incrCore_fin time live k ob e he a))

theorem incr_runL (ctx : Ctx) (time : Int) (live : Bytes → Option Item) (k : Bytes)
    (hf : ∀ it, live k = some it → expiredAt time it.expireat = false) :
    runL sigIncr Cmd.incr ctx [k] time live = incrSpec live k 1 :=
  incrCore_runL sigIncr Cmd.incr ctx time live k hf [k] [] 1
    (applyL_str _ _ _ _ _ [] (by simp) k [] rfl live rfl) (fun _ => rfl)

theorem decr_runL (ctx : Ctx) (time : Int) (live : Bytes → Option Item) (k : Bytes)
    (hf : ∀ it, live k = some it → expiredAt time it.expireat = false) :
    runL sigDecr Cmd.decr ctx [k] time live = incrSpec live k (-1) :=
  incrCore_runL sigDecr Cmd.decr ctx time live k hf [k] [] (-1)
    (applyL_str _ _ _ _ _ [] (by simp) k [] rfl live rfl) (fun _ => rfl)

theorem decodeT_int {nb : Bytes} {i : Int} (hi : Conv.int nb = .ok i) :
    Ttl.decodeT [(nb, .int)] = .ok [(.int i, .int)] := by
  simp [Ttl.decodeT, Conv.decode, hi, Except.map]

theorem decodeT_int_error {nb : Bytes} {m : Err} (hi : Conv.int nb = .error m) (rest : List (Bytes × ArgTy)) :
    Ttl.decodeT ((nb, .int) :: rest) = .error m :=
  Ttl.decodeT_cons_error (by simp [Conv.decode, hi, Except.map]) rest

theorem incrby_runL (ctx : Ctx) (time : Int) (live : Bytes → Option Item) (k nb : Bytes)
    (hf : ∀ it, live k = some it → expiredAt time it.expireat = false) :
    runL sigIncrby Cmd.incrby ctx [k, nb] time live =
      match Conv.int nb with
      | .error m => (.err (strBytes m), live)
      | .ok a => incrSpec live k a := by
  cases hn : Conv.int nb with
  | error m =>
    rw [runL_eq, sigIncrby, KS, applyL_head_error _ _ _ _ _ _ [.int] (by decide) k [nb] rfl live
      (decodeT_int_error hn [])]
  | ok a =>
    exact incrCore_runL sigIncrby Cmd.incrby ctx time live k hf [k, nb] [.int a] a
      (applyL_str _ _ _ _ _ [.int] (by decide) k [nb] rfl live (decodeT_int hn)) (fun _ => rfl)

/-- DECRBY: the smallest 64-bit integer cannot be negated and is refused for every stored string (and for a missing
key); a key of another type is WRONGTYPE as always (the type check of `Signature.apply` comes first); any other amount
`a` is `INCRBY (-a)` -/
theorem decrby_runL (ctx : Ctx) (time : Int) (live : Bytes → Option Item) (k nb : Bytes)
    (hf : ∀ it, live k = some it → expiredAt time it.expireat = false) :
    runL sigDecrby Cmd.decrby ctx [k, nb] time live =
      match Conv.int nb with
      | .error m => (.err (strBytes m), live)
      | .ok a =>
        if a = -9223372036854775808 then
          match live k with
          | none => (.err (strBytes Msgs.DECR_OVERFLOW_MSG), live)
          | some ⟨.str _, _⟩ => (.err (strBytes Msgs.DECR_OVERFLOW_MSG), live)
          | some _ => (wrongtype, live)
        else incrSpec live k (-a) := by
  cases hn : Conv.int nb with
  | error m =>
    rw [runL_eq, sigDecrby, KS, applyL_head_error _ _ _ _ _ _ [.int] (by decide) k [nb] rfl live
      (decodeT_int_error hn [])]
  | ok a =>
    have hap := applyL_str "decrby" false 2 0 false [.int] (by decide) k [nb] rfl live (decodeT_int hn)
    simp only
    by_cases ha : a = -9223372036854775808
    · have hb : (a == -9223372036854775808) = true := by simpa using ha
      rw [if_pos ha]
      exact strKey_runL sigDecrby Cmd.decrby ctx time live k hf [k, nb] _ hap
        (fun _ _ => (.err (strBytes Msgs.DECR_OVERFLOW_MSG), live)) (fun _ _ _ => by simp [Cmd.decrby, hb])
    · have hb : (a == -9223372036854775808) = false := by simpa using ha
      rw [if_neg ha]
      exact incrCore_runL sigDecrby Cmd.decrby ctx time live k hf [k, nb] _ (-a) hap
        (fun _ => by simp [Cmd.decrby, hb])

def incrFloatOn (version : Nat) (live : Bytes → Option Item) (k stored : Bytes) (e : Option Int) (amount : Bytes) :
    Reply × (Bytes → Option Item) :=
  match Conv.float stored with
  | .error m => (.err (strBytes m), live)
  | .ok cur =>
    match Conv.float amount with
    | .error m => (.err (strBytes m), live)
    | .ok a =>
      if (Dbl.add cur a).isFinite then
        (.bulk (Cmd.encodeFloat version (Dbl.add cur a) true),
          upd live k (some ⟨.str (Cmd.encodeFloat version (Dbl.add cur a) true), e⟩))
      else (.err (strBytes Msgs.NONFINITE_MSG), live)

theorem incrbyfloat_fin (ctx : Ctx) (time : Int) (live : Bytes → Option Item) (k : Bytes) (ob : Option Bytes)
    (e : Option Int) (he : expiredAt time e = false) (amount : Bytes) :
    fin time live (Cmd.incrbyfloat ctx [.key 0, .raw amount] [⟨k, ob.map Value.str, e, false, false⟩]) =
      incrFloatOn ctx.version live k (bytesOr ob (strBytes "0")) e amount := by
  unfold Cmd.incrbyfloat incrFloatOn
  simp only [ciAt, List.getD_cons_zero, strGet_mk]
  cases Conv.float (bytesOr ob (strBytes "0")) with
  | error m => rfl
  | ok cur =>
    simp only
    cases Conv.float amount with
    | error m => rfl
    | ok a =>
      simp only
      by_cases hr : (Dbl.add cur a).isFinite = true
      · simp only [hr, Bool.not_true, Bool.false_eq_true, if_false, if_true]
        exact fin_put time live _ _ rfl rfl rfl rfl he
      · simp [hr]

theorem incrbyfloat_runL (ctx : Ctx) (time : Int) (live : Bytes → Option Item) (k amount : Bytes)
    (hf : ∀ it, live k = some it → expiredAt time it.expireat = false) :
    runL sigIncrbyfloat Cmd.incrbyfloat ctx [k, amount] time live =
      match live k with
      | none => incrFloatOn ctx.version live k (strBytes "0") none amount
      | some ⟨.str b, e⟩ => incrFloatOn ctx.version live k b e amount
      | some _ => (wrongtype, live) :=
  strKey_runL sigIncrbyfloat Cmd.incrbyfloat ctx time live k hf [k, amount] [.raw amount]
    (applyL_str _ _ _ _ _ [.bytes] (by decide) k [amount] rfl live rfl)
    (fun ob e => incrFloatOn ctx.version live k (bytesOr ob (strBytes "0")) e amount)
    (fun ob e he => incrbyfloat_fin ctx time live k ob e he amount)

/-! ### TYPE, SETEX, PSETEX -/

theorem type_runL (ctx : Ctx) (time : Int) (live : Bytes → Option Item) (k : Bytes) :
    runL sigType Cmd.type_ ctx [k] time live =
      (.status (strBytes (match live k with | none => "none" | some it => it.value.ty.name)), live) := by
  rw [runL_eq, sigType, applyL_untyped _ _ _ _ _ [] (by simp) k [] rfl live rfl]
  cases h : live k <;> simp [Cmd.type_, ciAt, ciA, h, ret, wbL]

theorem not_expired_add (t x : Int) (u : Int) (hu : 0 < u) (hx : ¬ x ≤ 0) : ¬ (t + x * u < t) := by
  have : 0 < x * u := Int.mul_pos (by omega) hu
  omega

/-- SETEX (`unit = TICKS`) and PSETEX (`unit = TICKS_MS`) -/
theorem setex_gen_runL (sig : Sig) (body : Body) (unit : Int) (hu : 0 < unit)
    (hsig : ∃ n ns a b c, sig = ⟨n, [K, .int, .bytes], [], ns, a, b, c⟩)
    (hbody : ∀ ctx s v cis, body ctx [.key 0, .int s, .raw v] cis =
      if s ≤ 0 ∨ ctx.time + s * unit ≥ 2 ^ 63 * TICKS_MS then .error (Msgs.fmt1 Msgs.INVALID_EXPIRE_MSG sig.name)
      else ret .ok (cis.set 0 (((ciAt cis 0).setValue (some (.str v))).setExpire (some (ctx.time + s * unit)))))
    (ctx : Ctx) (time : Int) (live : Bytes → Option Item) (ht : ctx.time = time) (k sb v : Bytes) :
    runL sig body ctx [k, sb, v] time live =
      match Conv.int sb with
      | .error m => (.err (strBytes m), live)
      | .ok s =>
        if s ≤ 0 ∨ time + s * unit ≥ 2 ^ 63 * TICKS_MS then
          (.err (strBytes (Msgs.fmt1 Msgs.INVALID_EXPIRE_MSG sig.name)), live)
        else (.ok, upd live k (some ⟨.str v, some (time + s * unit)⟩)) := by
  subst ht
  obtain ⟨n, ns, a, b, c, rfl⟩ := hsig
  rw [runL_eq]
  cases hn : Conv.int sb with
  | error m =>
    rw [K, applyL_head_error _ _ _ _ _ _ [.int, .bytes] (by decide) k [sb, v] rfl live (decodeT_int_error hn _)]
  | ok s =>
    rw [applyL_untyped _ _ _ _ _ [.int, .bytes] (by decide) k [sb, v] rfl live
      (as := [(.int s, .int), (.raw v, .bytes)]) (by simp [Ttl.decodeT, Conv.decode, hn, Except.map])]
    simp only [List.map_cons, List.map_nil, hbody]
    by_cases hc : s ≤ 0 ∨ ctx.time + s * unit ≥ 2 ^ 63 * TICKS_MS
    · simp only [if_pos hc]; rfl
    · have hx := not_expired_add ctx.time s unit hu (fun h => hc (Or.inl h))
      simp only [if_neg hc]
      exact fin_put ctx.time live _ _ rfl (ciA_key live k) rfl rfl (decide_eq_false hx)

theorem setex_runL (ctx : Ctx) (time : Int) (live : Bytes → Option Item) (ht : ctx.time = time) (k sb v : Bytes) :
    runL sigSetex Cmd.setex ctx [k, sb, v] time live =
      match Conv.int sb with
      | .error m => (.err (strBytes m), live)
      | .ok secs =>
        if secs ≤ 0 ∨ time + secs * TICKS ≥ 2 ^ 63 * TICKS_MS then
          (.err (strBytes (Msgs.fmt1 Msgs.INVALID_EXPIRE_MSG "setex")), live)
        else (.ok, upd live k (some ⟨.str v, some (time + secs * TICKS)⟩)) :=
  setex_gen_runL sigSetex Cmd.setex TICKS (by decide) ⟨_, _, _, _, _, rfl⟩ (fun _ _ _ _ => rfl) ctx time live ht k sb v

theorem psetex_runL (ctx : Ctx) (time : Int) (live : Bytes → Option Item) (ht : ctx.time = time) (k sb v : Bytes) :
    runL sigPsetex Cmd.psetex ctx [k, sb, v] time live =
      match Conv.int sb with
      | .error m => (.err (strBytes m), live)
      | .ok ms =>
        if ms ≤ 0 ∨ time + ms * TICKS_MS ≥ 2 ^ 63 * TICKS_MS then
          (.err (strBytes (Msgs.fmt1 Msgs.INVALID_EXPIRE_MSG "psetex")), live)
        else (.ok, upd live k (some ⟨.str v, some (time + ms * TICKS_MS)⟩)) :=
  setex_gen_runL sigPsetex Cmd.psetex TICKS_MS (by decide) ⟨_, _, _, _, _, rfl⟩ (fun _ _ _ _ => rfl) ctx time live ht
    k sb v

/-! ## APPEND -/

def sigAppend : Sig := ⟨"append", [KS, .bytes], [], false, 2, 0, false⟩

def appendOn (live : Bytes → Option Item) (k old : Bytes) (e : Option Int) (v : Bytes) :
    Reply × (Bytes → Option Item) :=
  if old.length + v.length > Conv.MAX_STRING_SIZE then (.err (strBytes Msgs.STRING_OVERFLOW_MSG), live)
  else (.int ((old ++ v).length), upd live k (some ⟨.str (old ++ v), e⟩))

theorem append_fin (ctx : Ctx) (time : Int) (live : Bytes → Option Item) (k : Bytes) (ob : Option Bytes)
    (e : Option Int) (he : expiredAt time e = false) (v : Bytes) :
    fin time live (Cmd.append ctx [.key 0, .raw v] [⟨k, ob.map Value.str, e, false, false⟩]) =
      appendOn live k (bytesOr ob []) e v := by
  unfold Cmd.append appendOn
  simp only [ciAt, List.getD_cons_zero, strGet_mk]
  by_cases hr : (bytesOr ob []).length + v.length > Conv.MAX_STRING_SIZE
  · simp [hr]
  · rw [if_neg hr, if_neg hr]
    exact fin_put time live _ _ rfl rfl rfl rfl he

theorem append_runL (ctx : Ctx) (time : Int) (live : Bytes → Option Item) (k v : Bytes)
    (hf : ∀ it, live k = some it → expiredAt time it.expireat = false) :
    runL sigAppend Cmd.append ctx [k, v] time live =
      match live k with
      | none => appendOn live k [] none v
      | some ⟨.str b, e⟩ => appendOn live k b e v
      | some _ => (wrongtype, live) :=
  strKey_runL sigAppend Cmd.append ctx time live k hf [k, v] [.raw v]
    (applyL_str _ _ _ _ _ [.bytes] (by decide) k [v] rfl live rfl)
    (fun ob e => appendOn live k (bytesOr ob []) e v)
    (fun ob e he => append_fin ctx time live k ob e he v)

/-! ## GETRANGE / SUBSTR, SETRANGE, GETBIT, SETBIT -/

def sigGetrange : Sig := ⟨"getrange", [KS, .int, .int], [], false, 3, 0, false⟩
def sigSubstr : Sig := ⟨"substr", [KS, .int, .int], [], false, 3, 0, false⟩
def sigSetrange : Sig := ⟨"setrange", [KS, .int, .bytes], [], false, 3, 0, false⟩
def sigGetbit : Sig := ⟨"getbit", [KS, .bitOffset], [], false, 2, 0, false⟩
def sigSetbit : Sig := ⟨"setbit", [KS, .bitOffset, .bitValue], [], false, 3, 0, false⟩

theorem getrange_runL (sig : Sig) (hsig : sig = sigGetrange ∨ sig = sigSubstr) (ctx : Ctx) (time : Int)
    (live : Bytes → Option Item) (k sb eb : Bytes) (hf : ∀ it, live k = some it → expiredAt time it.expireat = false) (s e : Int)
    (hs : Conv.int sb = .ok s) (he : Conv.int eb = .ok e) :
    runL sig Cmd.getrange ctx [k, sb, eb] time live =
      match live k with
      | none => (.bulk (getrangeSpec [] s e), live)
      | some ⟨.str b, _⟩ => (.bulk (getrangeSpec b s e), live)
      | some _ => (wrongtype, live) := by
  have hap : applyL sig [k, sb, eb] live = Ttl.keyStep (some .str) k (live k) [.int s, .int e] := by
    rcases hsig with rfl | rfl <;>
      exact applyL_str _ _ _ _ _ [.int, .int] (by decide) k [sb, eb] rfl live
        (as := [(.int s, .int), (.int e, .int)]) (by simp [Ttl.decodeT, Conv.decode, hs, he, Except.map])
  refine strKey_runL sig Cmd.getrange ctx time live k hf _ _ hap
    (fun ob _ => (.bulk (getrangeSpec (bytesOr ob []) s e), live)) ?_
  intro ob e' _
  rw [FR.Proofs.getrange_body]
  simp only [ciAt, List.getD_cons_zero, strGet_mk]
  exact fin_keep time live _ _ rfl

theorem getbit_runL (ctx : Ctx) (time : Int) (live : Bytes → Option Item) (k ob : Bytes)
    (hf : ∀ it, live k = some it → expiredAt time it.expireat = false) (off : Int) (ho : Conv.bitOffset ob = .ok off) :
    runL sigGetbit Cmd.getbit ctx [k, ob] time live =
      match live k with
      | none => (.int (getBitBytes [] off), live)
      | some ⟨.str b, _⟩ => (.int (getBitBytes b off), live)
      | some _ => (wrongtype, live) := by
  refine strKey_runL sigGetbit Cmd.getbit ctx time live k hf _ [.int off]
    (applyL_str _ _ _ _ _ [.bitOffset] (by decide) k [ob] rfl live (as := [(.int off, .bitOffset)])
      (by simp [Ttl.decodeT, Conv.decode, ho, Except.map]))
    (fun ob _ => (.int (getBitBytes (bytesOr ob []) off), live)) ?_
  intro ob e' _
  rw [FR.Proofs.getbit_body]
  simp only [ciAt, List.getD_cons_zero, strGet_mk]
  exact fin_keep time live _ _ rfl

/-- SETRANGE on the stored string `old` (`[]` for a missing key) with deadline `e` -/
def setrangeOn (live : Bytes → Option Item) (k : Bytes) (old : Bytes) (e : Option Int) (off : Int) (v : Bytes) :
    Reply × (Bytes → Option Item) :=
  if off < 0 then (.err (strBytes Msgs.INVALID_OFFSET_MSG), live)
  else if v.isEmpty then (.int old.length, live)
  else if off + v.length > Conv.MAX_STRING_SIZE then (.err (strBytes Msgs.STRING_OVERFLOW_MSG), live)
  else (.int (setrangeBytes old off.toNat v).length, upd live k (some ⟨.str (setrangeBytes old off.toNat v), e⟩))

theorem setrange_runL (ctx : Ctx) (time : Int) (live : Bytes → Option Item) (k ob v : Bytes)
    (hf : ∀ it, live k = some it → expiredAt time it.expireat = false) (off : Int) (ho : Conv.int ob = .ok off) :
    runL sigSetrange Cmd.setrange ctx [k, ob, v] time live =
      match live k with
      | none => setrangeOn live k [] none off v
      | some ⟨.str b, e⟩ => setrangeOn live k b e off v
      | some _ => (wrongtype, live) := by
  refine strKey_runL sigSetrange Cmd.setrange ctx time live k hf _ [.int off, .raw v]
    (applyL_str _ _ _ _ _ [.int, .bytes] (by decide) k [ob, v] rfl live (as := [(.int off, .int), (.raw v, .bytes)])
      (by simp [Ttl.decodeT, Conv.decode, ho, Except.map]))
    (fun ob e => setrangeOn live k (bytesOr ob []) e off v) ?_
  intro ob e' he'
  unfold setrangeOn
  by_cases h0 : off < 0
  · simp [Cmd.setrange, h0]
  · by_cases hv : v.isEmpty = true
    · simp [Cmd.setrange, h0, hv, ret, ciAt, strGet_mk, wbL]
    · by_cases hm : off + v.length > Conv.MAX_STRING_SIZE
      · simp [Cmd.setrange, h0, hv, hm]
      · rw [FR.Proofs.setrange_body ctx _ 0 off v (by omega) (by simpa using hv) (by omega), if_neg h0, if_neg hv,
          if_neg hm]
        simp only [ciAt, List.getD_cons_zero, strGet_mk]
        exact fin_put time live _ _ rfl rfl rfl rfl he'

theorem setbit_runL (ctx : Ctx) (time : Int) (live : Bytes → Option Item) (k ob vb : Bytes)
    (hf : ∀ it, live k = some it → expiredAt time it.expireat = false) (off value : Int) (ho : Conv.bitOffset ob = .ok off)
    (hv : Conv.bitValue vb = .ok value) :
    runL sigSetbit Cmd.setbit ctx [k, ob, vb] time live =
      match live k with
      | none => (.int (getBitBytes [0] off), upd live k (some ⟨.str (setBitBytes [0] off value), none⟩))
      | some ⟨.str b, e⟩ => (.int (getBitBytes b off), upd live k (some ⟨.str (setBitBytes b off value), e⟩))
      | some _ => (wrongtype, live) := by
  have hb : value = 0 ∨ value = 1 := by
    unfold Conv.bitValue Conv.intRange at hv
    split at hv
    · split at hv
      · simp only [Except.ok.injEq] at hv; subst hv; omega
      · cases hv
    · cases hv
  refine strKey_runL sigSetbit Cmd.setbit ctx time live k hf _ [.int off, .int value]
    (applyL_str _ _ _ _ _ [.bitOffset, .bitValue] (by decide) k [ob, vb] rfl live
      (as := [(.int off, .bitOffset), (.int value, .bitValue)])
      (by simp [Ttl.decodeT, Conv.decode, ho, hv, Except.map]))
    (fun ob e => (.int (getBitBytes (bytesOr ob [0]) off),
      upd live k (some ⟨.str (setBitBytes (bytesOr ob [0]) off value), e⟩))) ?_
  intro ob e' he'
  rw [FR.Proofs.setbit_body_old ctx _ 0 off value hb]
  simp only [ciAt, List.getD_cons_zero, strGet_mk]
  exact fin_put time live _ _ rfl rfl rfl rfl he'

/-! ## BITCOUNT -/

def sigBitcount : Sig := ⟨"bitcount", [.key (some .str) (.int 0)], [.bytes], false, 1, 0, true⟩

theorem applyL_bitcount (k : Bytes) (rest : List Bytes) (live : Bytes → Option Item) :
    applyL sigBitcount (k :: rest) live =
      if (live k).isNone then .ok (.short (.int 0)) else Ttl.keyStep (some .str) k (live k) (rest.map .raw) := by
  have h := applyL_head_bytes "bitcount" false 1 0 true (some .str) [] (by simp) k [] rest rfl live
  rw [applyL_eq] at h ⊢
  rw [sigBitcount, Ttl.applyL_missing live _ (some .str) (.int 0) [] rfl rfl k rest]
  simp only [List.nil_append] at h
  simp only [h, Sig.checkArity, List.length_cons, List.length_nil, Nat.mod_one]
  simp [Ttl.decodeT, Ttl.keyStep_eq, Sig.missingReply, Nat.mod_one]

def bitcountReply (v : Bytes) (rest : List Bytes) : Reply :=
  match rest with
  | [] => .int ((v.map popcount8).sum)
  | [a, b] =>
    match Conv.int a with
    | .error m => .err (strBytes m)
    | .ok s =>
      match Conv.int b with
      | .error m => .err (strBytes m)
      | .ok e => .int (((getrangeSpec v s e).map popcount8).sum)
  | _ => synErr

theorem bitcount_fin (ctx : Ctx) (time : Int) (live : Bytes → Option Item) (c : CI) (hc : c.modified = false)
    (v : Bytes) (hv : Cmd.strGet c [] = v) (rest : List Bytes) :
    fin time live (Cmd.bitcount ctx (.key 0 :: rest.map .raw) [c]) = (bitcountReply v rest, live) := by
  have hw := wbL_keep time live c hc
  unfold Cmd.bitcount bitcountReply
  simp only [ciAt, List.getD_cons_zero, hv]
  match rest with
  | [] => simp [ret, hw]
  | [a] => simp [synErr]
  | [a, b] =>
    simp only [List.map_cons, List.map_nil]
    cases Conv.int a with
    | error m => rfl
    | ok s =>
      cases Conv.int b with
      | error m => rfl
      | ok e =>
        have := FR.Proofs.getrange_window v s e
        simp only at this
        simp [ret, hw, ← this]
  | a :: b :: c' :: t => simp [synErr]

theorem bitcount_runL (ctx : Ctx) (time : Int) (live : Bytes → Option Item) (k : Bytes) (rest : List Bytes) :
    runL sigBitcount Cmd.bitcount ctx (k :: rest) time live =
      match live k with
      | none => (.int 0, live)
      | some ⟨.str b, _⟩ => (bitcountReply b rest, live)
      | some _ => (wrongtype, live) := by
  rw [runL_eq, applyL_bitcount]
  unfold Ttl.keyStep
  cases h : live k with
  | none => rfl
  | some it =>
    obtain ⟨v, e⟩ := it
    cases v with
    | str b =>
      simp only [Option.isNone_some, Bool.false_eq_true, if_false, Value.ty, if_true]
      exact bitcount_fin ctx time live _ rfl b rfl rest
    | _ => simp [Value.ty, wrongtype]

/-! ## SET -/

def sigSet : Sig := ⟨"set", [K, .bytes], [.bytes], false, 2, 0, true⟩

theorem applyL_set (k v : Bytes) (opts : List Bytes) (live : Bytes → Option Item) :
    applyL sigSet (k :: v :: opts) live = .ok (.ok (.key 0 :: .raw v :: opts.map .raw) [ciA live k]) := by
  have h := applyL_head_bytes "set" false 2 0 true none [.bytes] (by decide) k [v] opts rfl live
  rw [← ciA_eq] at h
  exact h

/-- the deadline SET leaves: PX, else EX, else the old one under KEEPTTL, else none -/
def setDeadline (time : Int) (o : Cmd.SetOpts) (old : Option Int) : Option Int :=
  match o.px with
  | some px => some (time + px * TICKS_MS)
  | none =>
    match o.ex with
    | some ex => some (time + ex * TICKS)
    | none => if o.keepttl then old else none

/-- the reply of the GET option / of GETSET: the old string or nil -/
def oldStr (old : Option Item) : Reply :=
  match old with
  | some ⟨.str b, _⟩ => .bulk b
  | _ => .nil

/-- the key holds a value that is not a string -/
def notStr (old : Option Item) : Bool :=
  match old with
  | none => false
  | some ⟨.str _, _⟩ => false
  | some _ => true

/-- the decision table of `SET key value [options]`, given the parsed options -/
def setSpec (version : Nat) (time : Int) (live : Bytes → Option Item) (k v : Bytes) (o : Cmd.SetOpts) :
    Reply × (Bytes → Option Item) :=
  let nExp := (if o.px.isSome then 1 else 0) + (if o.ex.isSome then 1 else 0) + (if o.keepttl then 1 else 0)
  if (o.xx && o.nx) || nExp > 1 then (synErr, live)
  else if o.nx && o.get && version < 7 then (synErr, live)
  else if o.get && notStr (live k) then (wrongtype, live)
  else
    let old : Reply := if o.get then oldStr (live k) else .nil
    if o.nx && (live k).isSome then (old, live)
    else if o.xx && !(live k).isSome then (old, live)
    else (if o.get then old else .ok,
      upd live k (some ⟨.str v, setDeadline time o ((live k).bind (·.expireat))⟩))

/-- accepted EX / PX values are positive -/
def PosOpts (o : Cmd.SetOpts) : Prop := (∀ ex, o.ex = some ex → 0 < ex) ∧ (∀ px, o.px = some px → 0 < px)

theorem parseSetOpts_pos (time : Int) (opts : List Bytes) (o0 o : Cmd.SetOpts) :
    Cmd.parseSetOpts time opts o0 = .ok o → PosOpts o0 → PosOpts o := by
  fun_induction Cmd.parseSetOpts time opts o0 <;> intro h h0
  case case1 => cases h; exact h0
  case case2 ih => exact ih h h0
  case case3 ih => exact ih h h0
  case case4 => cases h
  case case5 => cases h
  case case6 e _ hgood _ ih =>
    refine ih h ⟨?_, h0.2⟩
    intro ex' he; simp only [Option.some.injEq] at he; subst he
    simp only [not_or] at hgood; omega
  case case7 => cases h
  case case8 => cases h
  case case9 => cases h
  case case10 e _ hgood _ _ ih =>
    refine ih h ⟨h0.1, ?_⟩
    intro px' he; simp only [Option.some.injEq] at he; subst he
    simp only [not_or] at hgood; omega
  case case11 => cases h
  case case12 ih => exact ih h h0
  case case13 ih => exact ih h h0
  case case14 => cases h

def notStrV (ov : Option Value) : Bool :=
  match ov with
  | none => false
  | some (.str _) => false
  | some _ => true

def oldStrV (ov : Option Value) : Reply :=
  match ov with
  | some (.str b) => .bulk b
  | _ => .nil

def setCI (time : Int) (o : Cmd.SetOpts) (v : Bytes) (c : CI) : CI :=
  let c := if !o.keepttl then c.setValue (some (.str v)) else c.update (.str v)
  let c := match o.ex with | some ex => c.setExpire (some (time + ex * TICKS)) | none => c
  match o.px with | some px => c.setExpire (some (time + px * TICKS_MS)) | none => c

/-- the body of SET after option parsing, on one `CommandItem` -/
def setBody (ctx : Ctx) (v : Bytes) (o : Cmd.SetOpts) (c : CI) : Except Err BodyOut :=
  let nExp := (if o.px.isSome then 1 else 0) + (if o.ex.isSome then 1 else 0) + (if o.keepttl then 1 else 0)
  if (o.xx && o.nx) || nExp > 1 then .error Msgs.SYNTAX_ERROR_MSG
  else if o.nx && o.get && ctx.version < 7 then .error Msgs.SYNTAX_ERROR_MSG
  else if o.get && notStrV c.val then .error Msgs.WRONGTYPE_MSG
  else
    let old : Reply := if o.get then oldStrV c.val else .nil
    if o.nx && c.truthy then ret old [c]
    else if o.xx && !c.truthy then ret old [c]
    else ret (if o.get then old else .ok) [setCI ctx.time o v c]

theorem set_body_eq (ctx : Ctx) (v : Bytes) (opts : List Bytes) (c : CI) :
    Cmd.set ctx (.key 0 :: .raw v :: opts.map .raw) [c] =
      match Cmd.parseSetOpts ctx.time opts {} with
      | .error e => .error e
      | .ok o => setBody ctx v o c := by
  unfold Cmd.set
  simp only [rawArgs_map_raw]
  cases Cmd.parseSetOpts ctx.time opts {} with
  | error e => rfl
  | ok o => rfl

theorem notStr_ciA (live : Bytes → Option Item) (k : Bytes) : notStrV (ciA live k).val = notStr (live k) := by
  unfold ciA notStr notStrV
  cases h : live k with
  | none => rfl
  | some it => obtain ⟨v, e⟩ := it; cases v <;> rfl

theorem oldStr_ciA (live : Bytes → Option Item) (k : Bytes) : oldStrV (ciA live k).val = oldStr (live k) := by
  unfold ciA oldStr oldStrV
  cases h : live k with
  | none => rfl
  | some it => obtain ⟨v, e⟩ := it; cases v <;> rfl

theorem posOpts_default : PosOpts {} := by
  constructor <;> intro _ h <;> cases h

/-- the item SET writes: a string, with the deadline `setDeadline` computes from the old one -/
theorem setCI_fields (time : Int) (o : Cmd.SetOpts) (v : Bytes) (c : CI) :
    (setCI time o v c).modified = true ∧ (setCI time o v c).key = c.key ∧ (setCI time o v c).val = some (.str v) ∧
    (setCI time o v c).expireat = setDeadline time o c.expireat := by
  unfold setCI setDeadline
  cases o.px <;> cases o.ex <;> cases o.keepttl <;> exact ⟨rfl, rfl, rfl, rfl⟩

/-- accepted EX / PX values give a deadline that has not passed -/
theorem setDeadline_fresh {time : Int} {o : Cmd.SetOpts} {old : Option Int} (hpos : PosOpts o)
    (hold : expiredAt time old = false) : expiredAt time (setDeadline time o old) = false := by
  unfold setDeadline
  cases hpx : o.px with
  | some px =>
    exact decide_eq_false (not_expired_add time px TICKS_MS (by decide) (by have := hpos.2 px hpx; omega))
  | none =>
    cases hex : o.ex with
    | some ex =>
      exact decide_eq_false (not_expired_add time ex TICKS (by decide) (by have := hpos.1 ex hex; omega))
    | none =>
      cases o.keepttl
      · rfl
      · exact hold

theorem set_write_fin (time : Int) (live : Bytes → Option Item) (k v : Bytes)
    (hf : ∀ it, live k = some it → expiredAt time it.expireat = false) (o : Cmd.SetOpts) (hpos : PosOpts o)
    (r : Reply) :
    fin time live (ret r [setCI time o v (ciA live k)]) =
      (r, upd live k (some ⟨.str v, setDeadline time o ((live k).bind (·.expireat))⟩)) := by
  obtain ⟨hm, hk, hv, hx⟩ := setCI_fields time o v (ciA live k)
  rw [ciA_expireat] at hx
  have hold : expiredAt time ((live k).bind (·.expireat)) = false := by
    cases h : live k with
    | none => rfl
    | some it => exact hf it h
  rw [← hx]
  exact fin_put time live r _ hm (hk.trans (ciA_key live k)) hv rfl
    ((congrArg (expiredAt time) hx).trans (setDeadline_fresh hpos hold))

theorem set_runL (ctx : Ctx) (time : Int) (live : Bytes → Option Item) (ht : ctx.time = time) (k v : Bytes)
    (hf : ∀ it, live k = some it → expiredAt time it.expireat = false)
    (hne : ∀ it, live k = some it → it.value.isEmptyColl = false) (opts : List Bytes) :
    runL sigSet Cmd.set ctx (k :: v :: opts) time live =
      match Cmd.parseSetOpts time opts {} with
      | .error e => (.err (strBytes e), live)
      | .ok o => setSpec ctx.version time live k v o := by
  subst ht
  rw [runL_eq, applyL_set]
  simp only
  rw [set_body_eq]
  cases hp : Cmd.parseSetOpts ctx.time opts {} with
  | error e => rfl
  | ok o =>
    have hpos := parseSetOpts_pos ctx.time opts {} o hp posOpts_default
    unfold setSpec setBody
    simp only [notStr_ciA, oldStr_ciA, truthy_ciA hne, fin_ite]
    refine ite_congr rfl (fun _ => rfl) (fun _ => ?_)
    refine ite_congr rfl (fun _ => rfl) (fun _ => ?_)
    refine ite_congr rfl (fun _ => rfl) (fun _ => ?_)
    refine ite_congr rfl (fun _ => ?_) (fun _ => ?_)
    · exact fin_ret_ciA ..
    refine ite_congr rfl (fun _ => ?_) (fun _ => ?_)
    · exact fin_ret_ciA ..
    · exact set_write_fin ctx.time live k v hf o hpos _

/-! ## The option words of SET -/

theorem lit_nx : strBytes "nx" = [110, 120] := by rw [strBytes_eq]; rfl
theorem lit_xx : strBytes "xx" = [120, 120] := by rw [strBytes_eq]; rfl
theorem lit_ex : strBytes "ex" = [101, 120] := by rw [strBytes_eq]; rfl
theorem lit_px : strBytes "px" = [112, 120] := by rw [strBytes_eq]; rfl
theorem lit_keepttl : strBytes "keepttl" = [107, 101, 101, 112, 116, 116, 108] := by rw [strBytes_eq]; rfl
theorem lit_get : strBytes "get" = [103, 101, 116] := by rw [strBytes_eq]; rfl

/-- which option word a token is (any letter case, as `casematch` decides) -/
inductive Word where | nx | xx | ex | px | keepttl | get
  deriving DecidableEq, Repr

def Word.lit : Word → String
  | .nx => "nx" | .xx => "xx" | .ex => "ex" | .px => "px" | .keepttl => "keepttl" | .get => "get"

/-- the token `a` spells the option word `w` -/
def IsWord (a : Bytes) (w : Word) : Prop := casematch a w.lit = true

theorem isWord_casematch {a : Bytes} {w : Word} (h : IsWord a w) (s : Word) :
    casematch a s.lit = decide (w = s) := by
  unfold IsWord casematch at h
  have h' : casenorm a = strBytes w.lit := by simpa using h
  unfold casematch
  rw [h']
  cases w <;> cases s <;> simp [Word.lit, lit_nx, lit_xx, lit_ex, lit_px, lit_keepttl, lit_get]

theorem cm_nx {a : Bytes} {w : Word} (h : IsWord a w) : casematch a "nx" = decide (w = .nx) := isWord_casematch h .nx
theorem cm_xx {a : Bytes} {w : Word} (h : IsWord a w) : casematch a "xx" = decide (w = .xx) := isWord_casematch h .xx
theorem cm_ex {a : Bytes} {w : Word} (h : IsWord a w) : casematch a "ex" = decide (w = .ex) := isWord_casematch h .ex
theorem cm_px {a : Bytes} {w : Word} (h : IsWord a w) : casematch a "px" = decide (w = .px) := isWord_casematch h .px
theorem cm_keepttl {a : Bytes} {w : Word} (h : IsWord a w) : casematch a "keepttl" = decide (w = .keepttl) :=
  isWord_casematch h .keepttl
theorem cm_get {a : Bytes} {w : Word} (h : IsWord a w) : casematch a "get" = decide (w = .get) := isWord_casematch h .get

/-- one flag word -/
theorem parse_flag (time : Int) (a : Bytes) (rest : List Bytes) (o : Cmd.SetOpts) (w : Word) (h : IsWord a w)
    (hw : w = .nx ∨ w = .xx ∨ w = .keepttl ∨ w = .get) :
    Cmd.parseSetOpts time (a :: rest) o =
      Cmd.parseSetOpts time rest
        (match w with
          | .nx => { o with nx := true } | .xx => { o with xx := true }
          | .keepttl => { o with keepttl := true } | .get => { o with get := true }
          | _ => o) := by
  rw [Cmd.parseSetOpts.eq_def]
  rcases hw with rfl | rfl | rfl | rfl <;>
    simp [cm_nx h, cm_xx h, cm_ex h, cm_px h, cm_keepttl h, cm_get h]

/-- `EX seconds` -/
theorem parse_ex (time : Int) (a n : Bytes) (rest : List Bytes) (o : Cmd.SetOpts) (h : IsWord a .ex) (ex : Int)
    (hn : Conv.int n = .ok ex) :
    Cmd.parseSetOpts time (a :: n :: rest) o =
      if ex ≤ 0 ∨ time + ex * TICKS ≥ 2 ^ 63 * TICKS_MS then .error (Msgs.fmt1 Msgs.INVALID_EXPIRE_MSG "set")
      else Cmd.parseSetOpts time rest { o with ex := some ex } := by
  rw [Cmd.parseSetOpts.eq_def]
  simp [cm_nx h, cm_xx h, cm_ex h, hn]

/-- `PX milliseconds` -/
theorem parse_px (time : Int) (a n : Bytes) (rest : List Bytes) (o : Cmd.SetOpts) (h : IsWord a .px) (px : Int)
    (hn : Conv.int n = .ok px) :
    Cmd.parseSetOpts time (a :: n :: rest) o =
      if px ≤ 0 ∨ time + px * TICKS_MS ≥ 2 ^ 63 * TICKS_MS then .error (Msgs.fmt1 Msgs.INVALID_EXPIRE_MSG "set")
      else Cmd.parseSetOpts time rest { o with px := some px } := by
  rw [Cmd.parseSetOpts.eq_def]
  simp [cm_nx h, cm_xx h, cm_ex h, cm_px h, hn]

theorem parse_nil (time : Int) (o : Cmd.SetOpts) : Cmd.parseSetOpts time [] o = .ok o := by
  rw [Cmd.parseSetOpts.eq_def]

/-! ## Commands over a list of keys (DEL, UNLINK, EXISTS, MGET) -/

def sigDel : Sig := ⟨"del", [K], [K], false, 0, 0, true⟩
def sigUnlink : Sig := ⟨"unlink", [K], [K], false, 0, 0, true⟩
def sigExists : Sig := ⟨"exists", [K], [K], false, 0, 0, true⟩
def sigMget : Sig := ⟨"mget", [K], [K], false, 0, 0, true⟩

theorem applyL_keys (n : String) (ns : Bool) (a b : Nat) (c : Bool) (k : Bytes) (ks : List Bytes)
    (live : Bytes → Option Item) :
    applyL ⟨n, [K], [K], ns, a, b, c⟩ (k :: ks) live =
      .ok (.ok ((List.range' 0 (ks.length + 1)).map Arg.key) ((k :: ks).map (ciA live))) := by
  have ht : Sig.types ⟨n, [K], [K], ns, a, b, c⟩ (k :: ks).length = List.replicate (ks.length + 1) K := by
    rw [Ttl.types_rep_one rfl]; simp [List.replicate_succ]
  rw [applyL_eq, Ttl.applyL_closed _ _ _ (by simp [Ttl.noMR, K]) (by simp [Ttl.noMR, K]), ht,
    Ttl.zip_replicate (k :: ks) K (n := ks.length + 1) (Nat.le_refl _), K, Ttl.decodeT_keys]
  simp only [Ttl.keysOf_keys, Ttl.number_keys, List.length_cons, List.all_map, List.map_map]
  simp [Sig.checkArity, Nat.mod_one, Ttl.typeOK_untyped, Function.comp_def, ciA_eq]

theorem keyIdxs_keys (l : List Nat) : Cmd.keyIdxs (l.map Arg.key) = l := by
  induction l with
  | nil => rfl
  | cons i is ih => simp [Cmd.keyIdxs, ih]

theorem map_getD_range' {α} (l : List α) (d : α) : (List.range' 0 l.length).map (fun i => l.getD i d) = l := by
  apply List.ext_getElem
  · simp
  · intro i h1 h2
    simp at h1 ⊢
    simp [List.getD, h1]

/-! ### EXISTS -/

theorem exists_runL (ctx : Ctx) (time : Int) (live : Bytes → Option Item) (ok : LiveOK time live)
    (k : Bytes) (ks : List Bytes) :
    runL sigExists Cmd.exists_ ctx (k :: ks) time live =
      (.int (((k :: ks).filter (fun x => (live x).isSome)).length), live) := by
  rw [runL_eq, sigExists, applyL_keys]
  simp only [Cmd.exists_, keyIdxs_keys, ret, fin_ok]
  rw [foldl_wbL_ciA]
  congr 2
  have h1 : (List.range' 0 (ks.length + 1)) = List.range' 0 ((k :: ks).map (ciA live)).length := by simp
  rw [h1]
  generalize hl : (k :: ks).map (ciA live) = cis
  have : (List.filter (fun k => (ciAt cis k).truthy) (List.range' 0 cis.length)).length =
      (cis.filter CI.truthy).length := by
    conv => rhs; rw [← map_getD_range' cis default]
    rw [List.filter_map, List.length_map]
    rfl
  rw [this, ← hl, List.filter_map, List.length_map]
  exact congrArg (fun l : List Bytes => (l.length : Int)) (List.filter_congr fun x _ => ok.truthy x)

/-! ### MGET -/

def mgetOne (oi : Option Item) : Reply :=
  match oi with
  | some ⟨.str b, _⟩ => .bulk b
  | _ => .nil

theorem mget_runL (ctx : Ctx) (time : Int) (live : Bytes → Option Item) (k : Bytes) (ks : List Bytes) :
    runL sigMget Cmd.mget ctx (k :: ks) time live =
      (.arr ((k :: ks).map (fun x => mgetOne (live x))), live) := by
  rw [runL_eq, sigMget, applyL_keys]
  simp only [Cmd.mget, ret, fin_ok]
  rw [foldl_wbL_ciA]
  congr 2
  have h1 : ks.length + 1 = (k :: ks).length := rfl
  rw [h1]
  generalize (k :: ks) = l
  apply List.ext_getElem
  · simp
  · intro i h1 h2
    simp only [List.length_map, List.length_range'] at h1 h2
    simp only [List.getElem_map, List.getElem_range', ciAt, Nat.zero_add, Nat.one_mul]
    have : (l.map (ciA live)).getD i default = ciA live l[i] := by
      simp [List.getD, h2]
    rw [this]
    simp only [ciA, mgetOne]
    cases h : live l[i] with
    | none => rfl
    | some it => obtain ⟨v, e⟩ := it; cases v <;> rfl

/-! ### DEL / UNLINK -/

/-- the keys actually deleted by DEL: live, first occurrence, not yet in `done` -/
def delKeys (live : Bytes → Option Item) : List Bytes → List Bytes → List Bytes
  | [], _ => []
  | k :: ks, done =>
    if (live k).isSome && !done.contains k then k :: delKeys live ks (k :: done) else delKeys live ks done

/-- the `CommandItem`s after `_delete` -/
def delCis (live : Bytes → Option Item) : List Bytes → List Bytes → List CI
  | [], _ => []
  | k :: ks, done =>
    if (live k).isSome && !done.contains k then (ciA live k).setValue none :: delCis live ks (k :: done)
    else ciA live k :: delCis live ks done

def delStep (st : List CI × Int × List Bytes) (k : Nat) : List CI × Int × List Bytes :=
  let (cs, n, done) := st
  let c := ciAt cs k
  if c.truthy && !done.contains c.key then (cs.set k (c.setValue none), n + 1, c.key :: done)
  else st

theorem delStep_eq (cs : List CI) (n : Int) (done : List Bytes) (k : Nat) :
    delStep (cs, n, done) k =
      if (ciAt cs k).truthy && !done.contains (ciAt cs k).key then
        (cs.set k ((ciAt cs k).setValue none), n + 1, (ciAt cs k).key :: done)
      else (cs, n, done) := rfl

theorem deleteCore_eq (cis : List CI) (ks : List Nat) : Cmd.deleteCore cis ks = ks.foldl delStep (cis, 0, []) := rfl

theorem del_fold {time : Int} {live : Bytes → Option Item} (ok : LiveOK time live) (ks : List Bytes) :
    ∀ (pre : List CI) (cnt : Int) (done : List Bytes),
      ∃ d', (List.range' pre.length ks.length).foldl delStep (pre ++ ks.map (ciA live), cnt, done) =
        (pre ++ delCis live ks done, cnt + (delKeys live ks done).length, d') := by
  induction ks with
  | nil => intro pre cnt done; exact ⟨done, by simp [delCis, delKeys]⟩
  | cons k ks ih =>
    intro pre cnt done
    have hc : ciAt (pre ++ ciA live k :: ks.map (ciA live)) pre.length = ciA live k := by
      simp [ciAt, List.getD]
    simp only [List.length_cons, List.range'_succ, List.foldl_cons, List.map_cons]
    rw [delStep_eq]
    simp only [hc, ok.truthy, ciA_key]
    by_cases hcond : ((live k).isSome && !done.contains k) = true
    · simp only [hcond, if_true, delCis, delKeys]
      have hset : (pre ++ ciA live k :: ks.map (ciA live)).set pre.length ((ciA live k).setValue none) =
          (pre ++ [(ciA live k).setValue none]) ++ ks.map (ciA live) := by
        simp
      rw [hset]
      obtain ⟨d', hd⟩ := ih (pre ++ [(ciA live k).setValue none]) (cnt + 1) (k :: done)
      refine ⟨d', ?_⟩
      have hl : (pre ++ [(ciA live k).setValue none]).length = pre.length + 1 := by simp
      rw [hl] at hd
      rw [hd]
      simp only [List.append_assoc, List.singleton_append, List.length_cons, Prod.mk.injEq, true_and]
      refine ⟨?_, trivial⟩
      push_cast; omega
    · simp only [hcond, if_false, Bool.false_eq_true, delCis, delKeys]
      have hset : pre ++ ciA live k :: ks.map (ciA live) = (pre ++ [ciA live k]) ++ ks.map (ciA live) := by simp
      rw [hset]
      obtain ⟨d', hd⟩ := ih (pre ++ [ciA live k]) cnt done
      refine ⟨d', ?_⟩
      have hl : (pre ++ [ciA live k]).length = pre.length + 1 := by simp
      rw [hl] at hd
      rw [hd]
      simp

theorem del_wb (time : Int) (live : Bytes → Option Item) (ks : List Bytes) :
    ∀ (done : List Bytes) (L : Bytes → Option Item),
      (delCis live ks done).foldl (wbL time) L =
        fun x => if x ∈ delKeys live ks done then none else L x := by
  induction ks with
  | nil => intro done L; simp [delCis, delKeys]
  | cons k ks ih =>
    intro done L
    by_cases hcond : ((live k).isSome && !done.contains k) = true
    · simp only [delCis, delKeys, hcond, if_true, List.foldl_cons]
      rw [ih, wbL_del time L ((ciA live k).setValue none) rfl (ciA_key live k) rfl]
      funext x
      simp only [List.mem_cons]
      by_cases hx : x = k
      · subst hx; simp
      · simp [hx, upd]
    · simp only [delCis, delKeys, hcond, if_false, Bool.false_eq_true, List.foldl_cons, wbL_ciA]
      exact ih done L

theorem mem_delKeys (live : Bytes → Option Item) (ks : List Bytes) :
    ∀ (done : List Bytes) (x : Bytes),
      x ∈ delKeys live ks done ↔ x ∈ ks ∧ x ∉ done ∧ (live x).isSome = true := by
  induction ks with
  | nil => intro done x; simp [delKeys]
  | cons k ks ih =>
    intro done x
    by_cases hcond : ((live k).isSome && !done.contains k) = true
    · simp only [delKeys, hcond, if_true, List.mem_cons, ih]
      simp only [Bool.and_eq_true, Bool.not_eq_true', List.contains_eq_mem, decide_eq_false_iff_not] at hcond
      constructor
      · rintro (rfl | ⟨h1, h2, h3⟩)
        · exact ⟨Or.inl rfl, hcond.2, hcond.1⟩
        · exact ⟨Or.inr h1, fun h => h2 (Or.inr h), h3⟩
      · rintro ⟨h1 | h1, h2, h3⟩
        · exact Or.inl h1
        · by_cases hx : x = k
          · exact Or.inl hx
          · exact Or.inr ⟨h1, fun h => by rcases h with h | h; exact hx h; exact h2 h, h3⟩
    · simp only [delKeys, hcond, if_false, Bool.false_eq_true, List.mem_cons, ih]
      simp only [Bool.and_eq_true, Bool.not_eq_true', List.contains_eq_mem, decide_eq_false_iff_not, not_and,
        Classical.not_not] at hcond
      constructor
      · rintro ⟨h1, h2, h3⟩; exact ⟨Or.inr h1, h2, h3⟩
      · rintro ⟨h1 | h1, h2, h3⟩
        · subst h1; exact absurd (hcond h3) h2
        · exact ⟨h1, h2, h3⟩

theorem nodup_delKeys (live : Bytes → Option Item) (ks : List Bytes) :
    ∀ (done : List Bytes), (delKeys live ks done).Nodup := by
  induction ks with
  | nil => intro done; simp [delKeys]
  | cons k ks ih =>
    intro done
    by_cases hcond : ((live k).isSome && !done.contains k) = true
    · simp only [delKeys, hcond, if_true, List.nodup_cons]
      refine ⟨?_, ih _⟩
      rw [mem_delKeys]
      rintro ⟨_, h2, _⟩
      exact h2 (by simp)
    · simp only [delKeys, hcond, if_false, Bool.false_eq_true]
      exact ih done

theorem del_body_fin {time : Int} {live : Bytes → Option Item} (ok : LiveOK time live) (ctx : Ctx)
    (k : Bytes) (ks : List Bytes) :
    fin time live (Cmd.del ctx ((List.range' 0 (ks.length + 1)).map Arg.key) ((k :: ks).map (ciA live))) =
      (.int (delKeys live (k :: ks) []).length,
        fun x => if x ∈ delKeys live (k :: ks) [] then none else live x) := by
  obtain ⟨d', hd⟩ := del_fold ok (k :: ks) [] 0 []
  simp only [List.length_nil, List.length_cons, List.nil_append, Int.zero_add] at hd
  simp only [Cmd.del, keyIdxs_keys, deleteCore_eq, hd, ret, fin_ok, del_wb]

/-- DEL and UNLINK (`sigDel`, `sigUnlink`) -/
theorem del_runL (n : String) (ns : Bool) (a b : Nat) (c : Bool) (ctx : Ctx) (time : Int)
    (live : Bytes → Option Item) (ok : LiveOK time live) (k : Bytes) (ks : List Bytes) :
    runL ⟨n, [K], [K], ns, a, b, c⟩ Cmd.del ctx (k :: ks) time live =
      (.int (delKeys live (k :: ks) []).length,
        fun x => if x ∈ delKeys live (k :: ks) [] then none else live x) := by
  rw [runL_eq, applyL_keys]
  exact del_body_fin ok ctx k ks

/-- afterwards none of the named keys is live, the others are untouched -/
theorem del_after {live : Bytes → Option Item} (l : List Bytes) (x : Bytes) :
    (if x ∈ delKeys live l [] then none else live x) = if x ∈ l then none else live x := by
  have hm := mem_delKeys live l [] x
  by_cases hx : x ∈ l
  · cases h : live x <;> simp [hx, h, hm]
  · simp [hx, hm]

/-- the evaluation of DEL read as a statement: the reply is the length of a duplicate-free list of exactly the live
argument keys -/
theorem del_reads {live : Bytes → Option Item} (l : List Bytes)
    {out : Reply × (Bytes → Option Item)}
    (h : out = (.int (delKeys live l []).length, fun x => if x ∈ delKeys live l [] then none else live x)) :
    ∃ d : List Bytes, d.Nodup ∧ (∀ x, x ∈ d ↔ x ∈ l ∧ (live x).isSome = true) ∧
      out.1 = .int d.length ∧ ∀ x, out.2 x = if x ∈ l then none else live x := by
  subst h
  exact ⟨delKeys live l [], nodup_delKeys _ _ _, fun x => by rw [mem_delKeys]; simp, rfl, del_after l⟩

/-! ## MSET / MSETNX -/

def sigMset : Sig := ⟨"mset", [K, .bytes], [K, .bytes], false, 0, 0, true⟩
def sigMsetnx : Sig := ⟨"msetnx", [K, .bytes], [K, .bytes], false, 0, 0, true⟩

/-- the raw argument list `k₁ v₁ k₂ v₂ …` -/
def flat : List (Bytes × Bytes) → List Bytes
  | [] => []
  | p :: ps => p.1 :: p.2 :: flat ps

def msetArgs : List (Bytes × Bytes) → Nat → List Arg
  | [], _ => []
  | p :: ps, n => .key n :: .raw p.2 :: msetArgs ps (n + 1)

def idxPairs : List (Bytes × Bytes) → Nat → List (Nat × Bytes)
  | [], _ => []
  | p :: ps, n => (n, p.2) :: idxPairs ps (n + 1)

theorem flat_length (ps : List (Bytes × Bytes)) : (flat ps).length = 2 * ps.length := by
  induction ps with
  | nil => rfl
  | cons p ps ih => simp [flat, ih]; omega

theorem flat_eq (ps : List (Bytes × Bytes)) : flat ps = ps.flatMap fun p => [p.1, p.2] := by
  induction ps with
  | nil => rfl
  | cons p ps ih => simp [flat, ih]

theorem number_pairs (ps : List (Bytes × Bytes)) (n : Nat) :
    Ttl.number (ps.flatMap fun p => [(Arg.raw p.1, ArgTy.key none .unspecified), (Arg.raw p.2, ArgTy.bytes)]) n =
      msetArgs ps n := by
  induction ps generalizing n with
  | nil => rfl
  | cons p ps ih =>
    rw [List.flatMap_cons, List.cons_append, List.cons_append, List.nil_append, Ttl.number_key,
      Ttl.number_other rfl, ih]
    rfl

theorem applyL_pairs (n : String) (ns : Bool) (a b : Nat) (c : Bool) (p : Bytes × Bytes)
    (ps : List (Bytes × Bytes)) (live : Bytes → Option Item) :
    applyL ⟨n, [K, .bytes], [K, .bytes], ns, a, b, c⟩ (flat (p :: ps)) live =
      .ok (.ok (msetArgs (p :: ps) 0) ((p :: ps).map (fun q => ciA live q.1))) := by
  have hlen : (flat (p :: ps)).length = 2 + 2 * ps.length := by rw [flat_length, List.length_cons]; omega
  have ht : Sig.types ⟨n, [K, .bytes], [K, .bytes], ns, a, b, c⟩ (flat (p :: ps)).length =
      (List.replicate (p :: ps).length [K, ArgTy.bytes]).flatten := by
    rw [hlen]
    exact (Ttl.types_rep_two (s := ⟨n, [K, .bytes], [K, .bytes], ns, a, b, c⟩) rfl ps.length).trans
      (by simp [List.replicate_succ])
  rw [applyL_eq, Ttl.applyL_closed _ _ _ (by simp [Ttl.noMR, K]) (by simp [Ttl.noMR, K]), ht, flat_eq,
    Ttl.zip_pairs, K, Ttl.decodeT_pairs, ← flat_eq, hlen]
  simp only [Ttl.keysOf_pairs, number_pairs, List.all_map, List.map_map]
  simp [Sig.checkArity, Ttl.typeOK_untyped, Function.comp_def, ciA_eq]

theorem pairsOf_msetArgs (ps : List (Bytes × Bytes)) (n : Nat) : Cmd.pairsOf (msetArgs ps n) = idxPairs ps n := by
  induction ps generalizing n with
  | nil => rfl
  | cons p ps ih => simp [msetArgs, Cmd.pairsOf, idxPairs, ih]

def msetStep (cs : List CI) (p : Nat × Bytes) : List CI := cs.set p.1 ((ciAt cs p.1).setValue (some (.str p.2)))

theorem msetCore_eq (cis : List CI) (ps : List (Nat × Bytes)) : Cmd.msetCore cis ps = ps.foldl msetStep cis := rfl

theorem mset_fold (live : Bytes → Option Item) (ps : List (Bytes × Bytes)) :
    ∀ (pre : List CI),
      (idxPairs ps pre.length).foldl msetStep (pre ++ ps.map (fun q => ciA live q.1)) =
        pre ++ ps.map (fun q => (ciA live q.1).setValue (some (.str q.2))) := by
  induction ps with
  | nil => intro pre; simp [idxPairs]
  | cons p ps ih =>
    intro pre
    have hc : ciAt (pre ++ ciA live p.1 :: ps.map (fun q => ciA live q.1)) pre.length = ciA live p.1 := by
      simp [ciAt, List.getD]
    simp only [idxPairs, List.foldl_cons, List.map_cons]
    have hs : msetStep (pre ++ ciA live p.1 :: ps.map (fun q => ciA live q.1)) (pre.length, p.2) =
        (pre ++ [(ciA live p.1).setValue (some (.str p.2))]) ++ ps.map (fun q => ciA live q.1) := by
      simp only [msetStep, hc]; simp
    rw [hs]
    have := ih (pre ++ [(ciA live p.1).setValue (some (.str p.2))])
    have hl : (pre ++ [(ciA live p.1).setValue (some (.str p.2))]).length = pre.length + 1 := by simp
    rw [hl] at this
    rw [this]; simp

/-- the key space after MSET: the pairs are written left to right (so the last duplicate wins) -/
def msetLive (live : Bytes → Option Item) (ps : List (Bytes × Bytes)) : Bytes → Option Item :=
  ps.foldl (fun L q => upd L q.1 (some ⟨.str q.2, none⟩)) live

theorem mset_wb (time : Int) (live : Bytes → Option Item) (ps : List (Bytes × Bytes)) :
    ∀ L : Bytes → Option Item,
      (ps.map (fun q => (ciA live q.1).setValue (some (.str q.2)))).foldl (wbL time) L = msetLive L ps := by
  induction ps with
  | nil => intro L; rfl
  | cons p ps ih =>
    intro L
    simp only [List.map_cons, List.foldl_cons, msetLive]
    rw [ih]
    rw [wbL_put time L ((ciA live p.1).setValue (some (.str p.2))) rfl (ciA_key live p.1) rfl rfl rfl]
    rfl

theorem mset_runL (ctx : Ctx) (time : Int) (live : Bytes → Option Item) (p : Bytes × Bytes)
    (ps : List (Bytes × Bytes)) :
    runL sigMset Cmd.mset ctx (flat (p :: ps)) time live = (.ok, msetLive live (p :: ps)) := by
  rw [runL_eq, sigMset, applyL_pairs]
  simp only [Cmd.mset, pairsOf_msetArgs, msetCore_eq, ret, fin_ok]
  have := mset_fold live (p :: ps) []
  simp only [List.length_nil, List.nil_append] at this
  rw [this, mset_wb]

theorem msetnx_runL (ctx : Ctx) (time : Int) (live : Bytes → Option Item) (ok : LiveOK time live)
    (p : Bytes × Bytes) (ps : List (Bytes × Bytes)) :
    runL sigMsetnx Cmd.msetnx ctx (flat (p :: ps)) time live =
      if (p :: ps).any (fun q => (live q.1).isSome) then (.int 0, live)
      else (.int 1, msetLive live (p :: ps)) := by
  rw [runL_eq, sigMsetnx, applyL_pairs]
  simp only [Cmd.msetnx, pairsOf_msetArgs]
  have hany : ∀ (l : List (Bytes × Bytes)) (pre : List CI),
      (idxPairs l pre.length).any (fun q => (ciAt (pre ++ l.map (fun q => ciA live q.1)) q.1).truthy) =
        l.any (fun q => (live q.1).isSome) := by
    intro l
    induction l with
    | nil => intro pre; rfl
    | cons q l ih =>
      intro pre
      have hc : ciAt (pre ++ ciA live q.1 :: l.map (fun q => ciA live q.1)) pre.length = ciA live q.1 := by
        simp [ciAt, List.getD]
      simp only [idxPairs, List.any_cons, List.map_cons, hc, ok.truthy]
      have := ih (pre ++ [ciA live q.1])
      simp only [List.length_append, List.length_cons, List.length_nil, List.append_assoc,
        List.singleton_append] at this
      rw [this]
  have h0 := hany (p :: ps) []
  simp only [List.length_nil, List.nil_append] at h0
  rw [h0]
  by_cases hc : (p :: ps).any (fun q => (live q.1).isSome) = true
  · simp only [hc, if_true, ret, fin_ok]
    congr 1
    have := foldl_wbL_ciA time live live ((p :: ps).map Prod.fst)
    rwa [List.map_map] at this
  · simp only [hc, if_false, Bool.false_eq_true, msetCore_eq, ret, fin_ok]
    have := mset_fold live (p :: ps) []
    simp only [List.length_nil, List.nil_append] at this
    rw [this, mset_wb]

/-- what MSET leaves at a key: the value of the last pair naming it, otherwise the old entry -/
theorem msetLive_apply (live : Bytes → Option Item) (ps : List (Bytes × Bytes)) (x : Bytes) :
    msetLive live ps x =
      match ps.reverse.find? (fun q => q.1 == x) with
      | some q => some ⟨.str q.2, none⟩
      | none => live x := by
  induction ps generalizing live with
  | nil => rfl
  | cons p ps ih =>
    show msetLive (upd live p.1 (some ⟨.str p.2, none⟩)) ps x = _
    rw [ih, List.reverse_cons, List.find?_append]
    cases h : ps.reverse.find? (fun q => q.1 == x) with
    | some q => rfl
    | none =>
      by_cases hx : p.1 = x
      · subst hx; simp [upd]
      · have : (p.1 == x) = false := by simpa using hx
        have hx' : x ≠ p.1 := fun e => hx e.symm
        simp [this, upd, hx']

/-! ## RENAME / RENAMENX -/

def sigRename : Sig := ⟨"rename", [K, K], [], false, 2, 0, false⟩
def sigRenamenx : Sig := ⟨"renamenx", [K, K], [], false, 2, 0, false⟩

theorem applyL_KK (n : String) (ns : Bool) (a b : Nat) (c : Bool) (k nk : Bytes) (live : Bytes → Option Item) :
    applyL ⟨n, [K, K], [], ns, a, b, c⟩ [k, nk] live = .ok (.ok [.key 0, .key 1] [ciA live k, ciA live nk]) := by
  rw [applyL_eq, Ttl.applyL_closed _ _ _ (by simp [Ttl.noMR, K]) (by simp)]
  simp [Sig.checkArity, Sig.types, K, Ttl.decodeT, Conv.decode, Ttl.keysOf, Ttl.number, Ttl.typeOK_untyped, ciA_eq]

/-- the key space after a successful rename of `k` (holding `it`) to `nk` -/
def renamed (live : Bytes → Option Item) (k nk : Bytes) (it : Item) : Bytes → Option Item :=
  if nk = k then live else upd (upd live k none) nk (some it)

theorem renameCore_fin {time : Int} {live : Bytes → Option Item} (k nk : Bytes) (it : Item) (h : live k = some it)
    (hf : expiredAt time it.expireat = false) (hn : it.value.isEmptyColl = false) (r : Reply) :
    fin time live (ret r (Cmd.renameCore [ciA live k, ciA live nk] 0 1)) = (r, renamed live k nk it) := by
  unfold Cmd.renameCore renamed
  simp only [ciAt, List.getD_cons_zero, ciA_key]
  have h1 : [ciA live k, ciA live nk].getD 1 default = ciA live nk := rfl
  rw [h1]
  simp only [ciA_key]
  by_cases hk : nk = k
  · subst hk
    simp [ret, wbL_ciA]
  · have hb : (nk != k) = true := by simpa using hk
    simp only [hb, if_true, if_neg hk, ret, fin_ok, List.set_cons_succ, List.set_cons_zero, List.foldl_cons,
      List.foldl_nil]
    have hval : (ciA live k).val = some it.value ∧ (ciA live k).expireat = it.expireat := by
      simp [ciA, h]
    rw [wbL_del time live ((ciA live k).setValue none) rfl (ciA_key live k) rfl,
      wbL_put time _ (((ciA live nk).setValue (ciA live k).val).setExpire (ciA live k).expireat) rfl (ciA_key live nk)
        hval.1 hn ((congrArg (expiredAt time) hval.2).trans hf), hval.2]
    rfl

theorem rename_runL (ctx : Ctx) (time : Int) (live : Bytes → Option Item) (k nk : Bytes)
    (hf : ∀ it, live k = some it → expiredAt time it.expireat = false)
    (hne : ∀ it, live k = some it → it.value.isEmptyColl = false) :
    runL sigRename Cmd.rename ctx [k, nk] time live =
      match live k with
      | none => (.err (strBytes Msgs.NO_KEY_MSG), live)
      | some it => (.ok, renamed live k nk it) := by
  rw [runL_eq, sigRename, applyL_KK]
  simp only [Cmd.rename, ciAt, List.getD_cons_zero, truthy_ciA hne]
  cases h : live k with
  | none => rfl
  | some it =>
    simp only [Option.isSome_some, Bool.not_true, Bool.false_eq_true, if_false]
    exact renameCore_fin k nk it h (hf it h) (hne it h) _

/-- the destination is looked at only when the source is live -/
theorem renamenx_runL (ctx : Ctx) (time : Int) (live : Bytes → Option Item) (k nk : Bytes)
    (hf : ∀ it, live k = some it → expiredAt time it.expireat = false)
    (hne : ∀ it, live k = some it → it.value.isEmptyColl = false)
    (hne' : (live k).isSome → ∀ it, live nk = some it → it.value.isEmptyColl = false) :
    runL sigRenamenx Cmd.renamenx ctx [k, nk] time live =
      match live k with
      | none => (.err (strBytes Msgs.NO_KEY_MSG), live)
      | some it => if (live nk).isSome then (.int 0, live) else (.int 1, renamed live k nk it) := by
  rw [runL_eq, sigRenamenx, applyL_KK]
  have h1 : ciAt [ciA live k, ciA live nk] 1 = ciA live nk := rfl
  simp only [Cmd.renamenx, h1]
  simp only [ciAt, List.getD_cons_zero, truthy_ciA hne]
  cases h : live k with
  | none => rfl
  | some it =>
    simp only [Option.isSome_some, Bool.not_true, Bool.false_eq_true, if_false,
      truthy_ciA (hne' (by rw [h]; rfl))]
    by_cases hn : (live nk).isSome = true
    · simp [hn, ret, wbL_ciA]
    · simp only [hn, if_false, Bool.false_eq_true]
      exact renameCore_fin k nk it h (hf it h) (hne it h) _

/-! ## DUMP / RESTORE -/

def sigDump : Sig := ⟨"dump", [.key none .nil], [], false, 1, 0, false⟩
def sigRestore : Sig := ⟨"restore", [K, .int, .bytes], [.bytes], false, 3, 0, true⟩

theorem dump_runL (ctx : Ctx) (time : Int) (live : Bytes → Option Item) (k : Bytes) :
    runL sigDump Cmd.dump ctx [k] time live =
      (match live k with
        | none => .nil
        | some it => .bulk (Cmd.dumpMagic ++ Cmd.dumpValue it.value), live) := by
  rw [runL_eq, applyL_eq, sigDump, Ttl.applyL_missing live _ none .nil [] rfl rfl k []]
  cases h : live k with
  | none => simp [Sig.checkArity, Sig.missingReply]
  | some it =>
    rw [← applyL_eq, ← K, applyL_untyped _ _ _ _ _ [] (by simp) k [] rfl live rfl]
    simp [Sig.checkArity, Cmd.dump, ciAt, ciA, h, ret, wbL]

theorem applyL_restore (k ttlb payload : Bytes) (opts : List Bytes) (live : Bytes → Option Item) :
    applyL sigRestore (k :: ttlb :: payload :: opts) live =
      match Conv.int ttlb with
      | .error m => .error m
      | .ok ttl => .ok (.ok (.key 0 :: .int ttl :: .raw payload :: opts.map .raw) [ciA live k]) := by
  have h := applyL_head_bytes "restore" false 3 0 true none [.int, .bytes] (by decide) k [ttlb, payload] opts rfl live
  rw [← ciA_eq] at h
  refine h.trans ?_
  cases hn : Conv.int ttlb <;> simp [Ttl.decodeT, Conv.decode, hn, Except.map, Ttl.typeOK_untyped]

theorem restore_rawArgs (opts : List Bytes) : Cmd.restore.rawArgs' (opts.map Arg.raw) = opts := by
  induction opts with
  | nil => rfl
  | cons b bs ih => simp [Cmd.restore.rawArgs', ih]

/-- what RESTORE stores for the decoded value `v` and the relative TTL `ttl` (milliseconds) -/
def restoredItem (time : Int) (v : Value) (ttl : Int) : Option Item :=
  if v.isEmptyColl then none else some ⟨v, if ttl = 0 then none else some (time + ttl * TICKS_MS)⟩

/-- the decoded payload: `none` unless it has the DUMP header and a well-formed body -/
def decodePayload (payload : Bytes) : Option Value :=
  if payload.take Cmd.dumpMagic.length == Cmd.dumpMagic then Cmd.loadValue (payload.drop Cmd.dumpMagic.length)
  else none

def restoreSpec (time : Int) (live : Bytes → Option Item) (k payload : Bytes) (opts : List Bytes) (ttl : Int) :
    Reply × (Bytes → Option Item) :=
  if !opts.all (fun a => casematch a "replace") then (synErr, live)
  else if (live k).isSome && !(!opts.isEmpty) then (.err (strBytes Msgs.RESTORE_KEY_EXISTS), live)
  else
    match decodePayload payload with
    | none => (.err (strBytes Msgs.RESTORE_INVALID_CHECKSUM_MSG), live)
    | some v =>
      if ttl < 0 then (.err (strBytes Msgs.RESTORE_INVALID_TTL_MSG), live)
      else (.ok, upd live k (restoredItem time v ttl))

theorem restore_runL (ctx : Ctx) (time : Int) (live : Bytes → Option Item) (ht : ctx.time = time)
    (k ttlb payload : Bytes) (hne : ∀ it, live k = some it → it.value.isEmptyColl = false) (opts : List Bytes) :
    runL sigRestore Cmd.restore ctx (k :: ttlb :: payload :: opts) time live =
      match Conv.int ttlb with
      | .error m => (.err (strBytes m), live)
      | .ok ttl => restoreSpec time live k payload opts ttl := by
  subst ht
  rw [runL_eq, applyL_restore]
  cases hn : Conv.int ttlb with
  | error m => rfl
  | ok ttl =>
    simp only
    unfold Cmd.restore restoreSpec
    simp only [restore_rawArgs, ciAt, List.getD_cons_zero, truthy_ciA hne, fin_ite]
    refine ite_congr rfl (fun _ => rfl) (fun _ => ?_)
    refine ite_congr rfl (fun _ => rfl) (fun _ => ?_)
    unfold decodePayload
    cases hd : (if payload.take Cmd.dumpMagic.length == Cmd.dumpMagic then
        Cmd.loadValue (payload.drop Cmd.dumpMagic.length) else none) with
    | none => rfl
    | some v =>
      simp only [fin_ite]
      refine ite_congr rfl (fun _ => rfl) (fun hneg => ?_)
      unfold restoredItem
      by_cases h0 : ttl = 0
      · subst h0
        by_cases hv : v.isEmptyColl = true <;>
          simp [ret, wbL, itemOfCI, CI.setValue, CI.setExpire, expiredAt, hv, ciA_key]
      · have hpos : ¬ ttl ≤ 0 := by omega
        have hx := not_expired_add ctx.time ttl TICKS_MS (by decide) hpos
        have hb : (ttl == 0) = false := by simpa using h0
        by_cases hv : v.isEmptyColl = true <;>
          simp [ret, wbL, itemOfCI, CI.setValue, CI.setExpire, expiredAt, hv, h0, hb, hx, ciA_key]

/-! ## The DUMP payload of a string -/

theorem decodePayload_dump (body : Bytes) : decodePayload (Cmd.dumpMagic ++ body) = Cmd.loadValue body := by
  unfold decodePayload
  rw [List.take_left', List.drop_left']
  · simp
  · rfl
  · rfl

theorem unhexB_hexB (b : Bytes) : Cmd.unhexB (Cmd.hexB b) = some b := by
  unfold Cmd.hexB Cmd.unhexB
  cases b with
  | nil => simp
  | cons c cs =>
    simp only [List.isEmpty_cons, Bool.false_eq_true, if_false]
    rw [strBytes_toHex]
    have hne : (hexBytes (c :: cs) == [95]) = false := by
      simp [hexBytes]
    rw [hne, bytesStr_hexBytes]
    simp only [Bool.false_eq_true, if_false]
    exact fromHex_toHex _

/-- a DUMP payload of a string decodes to the same string -/
theorem loadValue_dumpValue_str (b : Bytes) : Cmd.loadValue (Cmd.dumpValue (.str b)) = some (.str b) := by
  simp [Cmd.dumpValue, Cmd.loadValue, unhexB_hexB]

/-! ## The signatures above are the entries of `SigTable` -/

theorem find_set : SigTable.find "set" = some sigSet := by decide
theorem find_get : SigTable.find "get" = some sigGet := by decide
theorem find_strlen : SigTable.find "strlen" = some sigStrlen := by decide
theorem find_getset : SigTable.find "getset" = some sigGetset := by decide
theorem find_setnx : SigTable.find "setnx" = some sigSetnx := by decide
theorem find_setex : SigTable.find "setex" = some sigSetex := by decide
theorem find_psetex : SigTable.find "psetex" = some sigPsetex := by decide
theorem find_mget : SigTable.find "mget" = some sigMget := by decide
theorem find_mset : SigTable.find "mset" = some sigMset := by decide
theorem find_msetnx : SigTable.find "msetnx" = some sigMsetnx := by decide
theorem find_incr : SigTable.find "incr" = some sigIncr := by decide
theorem find_decr : SigTable.find "decr" = some sigDecr := by decide
theorem find_incrby : SigTable.find "incrby" = some sigIncrby := by decide
theorem find_decrby : SigTable.find "decrby" = some sigDecrby := by decide
theorem find_incrbyfloat : SigTable.find "incrbyfloat" = some sigIncrbyfloat := by decide
theorem find_append : SigTable.find "append" = some sigAppend := by decide
theorem find_del : SigTable.find "del" = some sigDel := by decide
theorem find_unlink : SigTable.find "unlink" = some sigUnlink := by decide
theorem find_exists : SigTable.find "exists" = some sigExists := by decide
theorem find_type : SigTable.find "type" = some sigType := by decide
theorem find_bitcount : SigTable.find "bitcount" = some sigBitcount := by decide
theorem find_rename : SigTable.find "rename" = some sigRename := by decide
theorem find_renamenx : SigTable.find "renamenx" = some sigRenamenx := by decide
theorem find_dump : SigTable.find "dump" = some sigDump := by decide
theorem find_restore : SigTable.find "restore" = some sigRestore := by decide

end FR.StrKeys

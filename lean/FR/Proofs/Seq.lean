import FR.Proofs.System
/-!
# Judgments on `M` that are closed under sequencing

Every invariant, frame and simulation argument pushes some judgment `J m` through the same model functions (`sortCmd`,
`runTrace`, `special`, `processCommand`, …).  The descent through a `do` block uses nothing about `J` except closure
under `pure` and `>>=` (`Seq J`); the theorems below perform each descent once, for an arbitrary `J`, down to the
computations the block calls (`DataAt`, `Scripts`, `CalleesAt`, `Process`, `Drain` / `Loop`).  `Then J m Q` adds a fact `Q`
about the value `m` returns.

Two patterns need more than `bind`.  A read of the database whose result flows into a later write is one leaf:
`touchKey d k` is `db.get k` together with the write-back of its lazy deletion.  A read of the whole state is judged with
its continuation (`ReadOf J π`: the continuation depends on the state through `π` only), because `J get` is false for
judgments that compare two runs from different states; likewise `special` and `processCommand` read the record of the
connection by a continuation that does not look at its `buf`, so that a judgment for which the two runs differ in `buf`
has this leaf; the parser loop does read `buf` (`Loop`).
-/
namespace FR
open M

structure Seq (J : ∀ {α : Type}, M α → Prop) : Prop where
  pure : ∀ {α : Type} (a : α), J (Pure.pure a : M α)
  bind : ∀ {α β : Type} {m : M α} {f : α → M β}, J m → (∀ a, J (f a)) → J (m >>= f)

theorem loop_unfold {β : Type} (f : Unit → β → M (ForInStep β)) (b : β) :
    ForIn.forIn Lean.Loop.mk b f = (f () b >>= fun r => match r with
      | .done val => Pure.pure val
      | .yield val => ForIn.forIn Lean.Loop.mk val f) :=
  Lean.Loop.forIn_eq_of_monadTail (l := Lean.Loop.mk) (b := b) (f := f)

namespace Seq
variable {J : ∀ {α : Type}, M α → Prop} (hJ : Seq J) {α β : Type}
include hJ

theorem map {m : M α} (g : α → β) (hm : J m) : J (g <$> m) := by
  rw [map_eq_pure_bind]; exact hJ.bind hm (fun _ => hJ.pure _)

theorem forM {l : List α} {f : α → M PUnit} (hf : ∀ a, J (f a)) : J (l.forM f) := by
  induction l with
  | nil => exact hJ.pure _
  | cons a as ih => rw [forM_cons_eq]; exact hJ.bind (hf a) (fun _ => ih)

theorem forIn {l : List α} {f : α → β → M (ForInStep β)} (hf : ∀ a b, J (f a b)) (init : β) :
    J (forIn l init f) := by
  induction l generalizing init with
  | nil => exact hJ.pure _
  | cons a as ih =>
    rw [List.forIn_cons]
    refine hJ.bind (hf a init) (fun r => ?_)
    cases r with
    | done b => exact hJ.pure _
    | yield b => exact ih b

theorem mapM {l : List α} {f : α → M β} (hf : ∀ a, J (f a)) : J (l.mapM f) := by
  induction l with
  | nil => exact hJ.pure _
  | cons a as ih =>
    rw [List.mapM_cons]
    exact hJ.bind (hf a) (fun _ => hJ.bind ih (fun _ => hJ.pure _))

omit hJ in
theorem ite {p : Prop} [Decidable p] {t e : M α} (ht : p → J t) (he : ¬p → J e) : J (if p then t else e) := by
  split
  · exact ht ‹_›
  · exact he ‹_›

theorem loop_pure (μ : β → Nat) (f : Unit → β → M (ForInStep β))
    (hf : ∀ b, ∃ r, f () b = Pure.pure r ∧ ∀ b', r = .yield b' → μ b' < μ b) (init : β) :
    J (ForIn.forIn Lean.Loop.mk init f) := by
  induction h : μ init using Nat.strongRecOn generalizing init with
  | _ n ih =>
    obtain ⟨r, hr, hd⟩ := hf init
    rw [loop_unfold, hr, pure_bind]
    cases r with
    | done v => exact hJ.pure _
    | yield v => exact ih (μ v) (h ▸ hd v rfl) v rfl

end Seq

/-- A judgment brings its own introduction rule: `Pres.then`; for two runs `RelJ.bindV` read the same way (no instance
needs it so far: `Then.of`). -/
def Then (J : ∀ {α : Type}, M α → Prop) {α : Type} (m : M α) (Q : α → Prop) : Prop :=
  ∀ {β : Type} (K : α → M β), (∀ a, Q a → J (K a)) → J (m >>= K)

namespace Then
variable {J : ∀ {α : Type}, M α → Prop} {α β : Type}

theorem pure {Q : α → Prop} {a : α} (h : Q a) : Then J (Pure.pure a : M α) Q := by
  intro γ K hK
  rw [pure_bind]; exact hK a h

theorem of (hJ : Seq J) {m : M α} {Q : α → Prop} (hm : J m) (hQ : ∀ a, Q a) : Then J m Q :=
  fun _ hK => hJ.bind hm (fun a => hK a (hQ a))

theorem run (hJ : Seq J) {m : M α} {Q : α → Prop} (hm : Then J m Q) : J m := by
  have := hm Pure.pure (fun a _ => hJ.pure a)
  rwa [bind_pure] at this

end Then

/-- `leaves`: terms proving `J` of a computation the block calls, possibly with `?_` for what follows.  `if` has a rule
of its own because `split` simplifies the whole goal at every `if`, which is slow on big bodies. -/
macro "seq_descend " hJ:ident " [" leaves:term,* "]" : tactic =>
  `(tactic| repeat' (first
    | with_reducible exact Seq.pure $hJ _
    $[| with_reducible refine $leaves]*
    | with_reducible refine Seq.bind $hJ ?_ (fun _ => ?_)
    | with_reducible refine Seq.forM $hJ (fun _ => ?_)
    | with_reducible refine Seq.forIn $hJ (fun _ _ => ?_) _
    | with_reducible refine Seq.mapM $hJ (fun _ => ?_)
    | with_reducible refine Seq.map $hJ _ ?_
    | with_reducible refine Seq.ite (fun _ => ?_) (fun _ => ?_)
    | split
    | simp only []))

def ReadOf (J : ∀ {α : Type}, M α → Prop) {γ : Type} (π : Sys → γ) : Prop :=
  ∀ {β : Type} {G : Sys → M β} {f : γ → M β}, (∀ s, G s = f (π s)) → (∀ v, J (f v)) → J (get >>= G)

theorem ReadOf.of_get {J : ∀ {α : Type}, M α → Prop} (hJ : Seq J) (hget : J (get : M Sys)) {γ : Type}
    (π : Sys → γ) : ReadOf J π := by
  intro β G f h hf
  have : G = fun s => f (π s) := funext h
  subst this
  exact hJ.bind hget (fun s => hf (π s))

/-- for `let x := (← get).π; …`: `r : ReadOf J π`, `e` is `π s` written with the binder `s` -/
macro "seq_read " r:term " with " s:ident ", " e:term : tactic =>
  `(tactic| (refine $r (f := ?f) (fun $s => ?h) (fun _ => ?_); case h => dsimp only; generalize $e = v; rfl))

def touchKey (d : Nat) (k : Bytes) : M (Option Item) := do
  let db ← getDb d
  let (db', item) := db.get k
  setDb d db'
  return item

/-- SORT of a set: the iteration order is the next recorded pick, accepted if it is a permutation of `s` -/
def takeSetOrder (s : List Bytes) : M (Option (List Bytes)) := do
  let st ← get
  match st.picks with
  | p :: restp =>
    if p.length == s.length && p.all s.contains && s.all p.contains then
      set { st with picks := restp }; pure (some p)
    else pure none
  | [] => pure none

/-- the form in which `sortCmd` elaborates -/
theorem takeSetOrder_bind {β : Type} (s : List Bytes) (k : Option (List Bytes) → M β) :
    (get >>= fun st : Sys => match st.picks with
      | p :: restp =>
        if p.length == s.length && p.all s.contains && s.all p.contains then
          set { st with picks := restp } >>= fun _ => pure (some p) >>= k
        else pure none >>= k
      | [] => pure none >>= k) = takeSetOrder s >>= k := by
  funext st
  unfold takeSetOrder
  simp only [bind, StateT.bind, get, getThe, MonadStateOf.get, StateT.get, pure]
  cases st.picks with
  | nil => rfl
  | cons p restp => simp only []; split <;> rfl

section touch
variable {J : ∀ {α : Type}, M α → Prop} (hJ : Seq J) {d : Nat}
include hJ

/-- `G` is the elaborated `fun db => match db.get k with | (db', item) => do setDb d db'; f item`.  The `match` is not in
the conclusion: each definition has a matcher constant of its own, which unification does not identify while `f` is unknown. -/
theorem Seq.touch_bind {β : Type} {k : Bytes} (ht : J (touchKey d k)) {G : Db → M β} {f : Option Item → M β}
    (h : ∀ db db' item, db.get k = (db', item) → G db = (M.setDb d db' >>= fun _ => f item))
    (hf : ∀ item, J (f item)) : J (M.getDb d >>= G) := by
  have : G = fun db => M.setDb d (db.get k).1 >>= fun _ => f (db.get k).2 := funext fun db => h db _ _ rfl
  subst this
  exact (show J (touchKey d k >>= f) from hJ.bind ht hf)

/-- for `let db ← getDb d; let (db', item) := db.get k; setDb d db'; …` -/
macro "seq_touch " hJ:ident ht:term : tactic =>
  `(tactic| (refine Seq.touch_bind $hJ $ht (f := ?f) (fun db db' item e => ?h) (fun item => ?_); case h => rw [e]))

theorem lookupKey_at (htouch : ∀ k, J (touchKey d k)) (key pattern : Bytes) : J (lookupKey d key pattern) := by
  unfold lookupKey
  split
  · exact hJ.pure _
  split
  · exact hJ.pure _
  · extract_lets pref suffix arrow
    split
    extract_lets newKey
    seq_touch hJ (htouch newKey)
    seq_descend hJ []

theorem zunioninter_at (htouch : ∀ k, J (touchKey d k)) (u : Bool) (args : List Arg) (cis : List CI) :
    J (zunioninter u d args cis) := by
  unfold zunioninter
  split
  · extract_lets raw
    split
    · exact hJ.pure _
    split
    · exact hJ.pure _
    refine hJ.bind ?_ (fun r => ?_)
    · -- the source loop: one lazy read per key
      refine Seq.forIn hJ (fun key b => ?_) _
      extract_lets sets'
      seq_touch hJ (htouch key)
      seq_descend hJ []
    · -- the rest is pure
      extract_lets res sets first members
      clear_value res
      split
      · exact hJ.pure _
      · refine hJ.bind ?_ (fun s => ?_)
        · -- the option loop burns its fuel
          refine Seq.loop_pure hJ (fun b => b.2.2.2.2) _ (fun b => ?_) _
          simp only []
          repeat' split
          all_goals
            refine ⟨_, rfl, fun b' h => ?_⟩
            first
              | (cases h; done)
              | (have h := ForInStep.yield.inj h; subst h; simp_all <;> omega)
        · extract_lets res' _ weights _ aggregate
          clear_value res'
          split
          · exact hJ.pure _
          · refine hJ.bind (Seq.forIn hJ (fun x out => ?_) _) (fun _ => hJ.pure _)
            split
            refine hJ.bind (Seq.forIn hJ (fun x out => ?_) _) (fun _ => hJ.pure _)
            split
            -- the three nested join points of the scoring step, innermost first, so that no continuation is duplicated
            extract_lets out' score jp3 jp2 jp1
            have h3 : ∀ r s, J (jp3 r s) := fun _ _ => hJ.pure _
            clear_value jp3
            have h2 : ∀ r s, J (jp2 r s) := by
              intro r s
              simp -zeta only [jp2]
              split
              · exact h3 _ _
              · exact h3 _ _
            clear_value jp2
            have h1 : ∀ r s, J (jp1 r s) := by
              intro r s
              simp -zeta only [jp1]
              seq_descend hJ [h2 _ _]
            clear_value jp1
            split
            · exact h1 _ _
            · exact h1 _ _
  · exact hJ.pure _

end touch

structure DataAt (J : ∀ {α : Type}, M α → Prop) (d : Nat) (args : List Arg) : Prop extends Seq J where
  touch : ∀ k, J (touchKey d k)
  /-- SORT … STORE, under the destination that the options of the request name -/
  storeList : ∀ dst vals,
    (∃ k rest o, args = .key k :: rest ∧ parseSortOpts (Cmd.rawArgs rest) {} = .ok o ∧ o.store = some dst) →
    J (writebackAll d [({ key := dst, val := none, expireat := none } : CI).setValue (some (.list vals))])
  fault : ∀ msg, J (fault msg)
  takeSetOrder : ∀ s, J (takeSetOrder s)

theorem sortCmd_at {J : ∀ {α : Type}, M α → Prop} {d : Nat} {args : List Arg} (A : DataAt J d args) (c : Nat)
    (cis : List CI) : J (sortCmd c d args cis) := by
  have hJ := A.toSeq
  have hlk := lookupKey_at hJ A.touch
  unfold sortCmd
  split
  · extract_lets key wrong out x keyed err le jp
    split
    · exact A.pure _
    · have hjp : ∀ x, J (jp x) := by
        intro items?
        simp -zeta only [jp]
        split
        · exact A.pure _
        · rename_i o ho
          split
          · seq_descend hJ [A.fault _]
          · extract_lets n start stop stop' gets sortby jp2
            have hjp2 : ∀ x, J (jp2 x) := by
              intro sorted?
              simp -zeta only [jp2]
              split
              · exact A.pure _
              · extract_lets rows
                refine A.bind ?_ (fun out => ?_)
                · seq_descend hJ [hlk _ _]
                · split
                  · rename_i dst hdst
                    seq_touch hJ (A.touch dst)
                    seq_descend hJ [A.storeList _ _ ⟨_, _, _, rfl, ho, hdst⟩]
                  · exact A.pure _
            clear_value jp2
            seq_descend hJ [hlk _ _, hjp2 _]
      clear_value jp
      simp only []
      split
      · seq_descend hJ [hjp _]
      · seq_descend hJ [hjp _]
      · seq_descend hJ [hjp _]
      · rename_i s _
        exact Eq.mpr (congrArg (fun m => J m) (takeSetOrder_bind s jp)) (A.bind (A.takeSetOrder s) hjp)
      · seq_descend hJ [hjp _]
  · exact A.pure _

/-! ## Scripts -/

abbrev SpecialFn := Mode → Nat → String → List Arg → List CI → M (Except Err (Option Reply × List CI))

structure Scripts (J : ∀ {α : Type}, M α → Prop) : Prop extends Seq J where
  readVersion : ReadOf J (·.srv.version)
  readScripts : ReadOf J (·.srv.scripts)
  nextPick : J nextPick
  fault : ∀ msg, J (fault msg)
  cacheScript : ∀ sha script : Bytes,
    J (modify fun s => { s with srv := { s.srv with scripts := ZSet.dictSet s.srv.scripts sha script } })
  flushScripts : J (modify fun s => { s with srv := { s.srv with scripts := [] } })

theorem scriptSig_find {nameB : Bytes} {sig : Sig}
    (h : (match commandName nameB with
      | some n => if n.startsWith "_" then none else SigTable.find n
      | none => none) = some sig) : ∃ n, SigTable.find n = some sig := by
  split at h
  · split at h
    · cases h
    · exact ⟨_, h⟩
  · cases h

section scripts
variable {J : ∀ {α : Type}, M α → Prop} (S : Scripts J) {special : SpecialFn} {mode : Mode} {c : Nat}
include S

theorem shaHint_seq : J shaHint := by
  have hJ := S.toSeq
  unfold shaHint; seq_descend hJ [S.nextPick]

theorem runFromScript_seq (hrun : ∀ n sig raw, SigTable.find n = some sig → J (runWith special mode c sig raw true))
    (op : LuaVal) (args : List LuaVal) : J (runFromScript special mode c op args) := by
  have hJ := S.toSeq
  unfold runFromScript
  seq_read S.readVersion with s, s.srv.version
  split
  · split
    · exact S.pure _
    · rename_i sig hs
      obtain ⟨n, hn⟩ := scriptSig_find hs
      seq_descend hJ [hrun n _ _ hn]
  · exact S.pure _

theorem runTrace_of_call (hcall : ∀ op args, J (runFromScript special mode c op args)) (sha : Bytes) (fuel : Nat) :
    J (runTrace special mode c sha fuel) := by
  have hJ := S.toSeq
  induction fuel with
  | zero => unfold runTrace; seq_descend hJ [S.fault _]
  | succ fuel ih =>
    unfold runTrace
    seq_read S.readVersion with s, s.srv.version
    seq_descend hJ [S.nextPick, S.fault _, hcall _ _, ih]

theorem evalBody_of_call (hcall : ∀ op args, J (runFromScript special mode c op args)) (script : Bytes)
    (numkeys : Int) (rest : List Bytes) : J (evalBody special mode c script numkeys rest) := by
  have hJ := S.toSeq
  unfold evalBody
  seq_descend hJ [shaHint_seq S, S.fault _, S.cacheScript _ _, runTrace_of_call S hcall _ _]

theorem scriptBody_of_call (hcall : ∀ op args, J (runFromScript special mode c op args)) (name : String)
    (args : List Arg) : J (scriptBody special mode c name args) := by
  have hJ := S.toSeq
  have heval := evalBody_of_call S hcall
  unfold scriptBody
  seq_read S.readVersion with s, s.srv.version
  split
  · exact heval _ _ _
  · seq_read S.readScripts with s, s.srv.scripts
    seq_descend hJ [heval _ _ _]
  · refine Seq.ite (fun _ => ?_) (fun _ => ?_)
    · seq_descend hJ [shaHint_seq S, S.fault _, S.cacheScript _ _]
    refine Seq.ite (fun _ => ?_) (fun _ => ?_)
    · refine Seq.ite (fun _ => S.pure _) (fun _ => ?_)
      seq_read S.readScripts with s, s.srv.scripts
      exact S.pure _
    refine Seq.ite (fun _ => ?_) (fun _ => S.pure _)
    seq_descend hJ [S.flushScripts]
  · exact S.pure _

theorem scriptBody_seq (hrun : ∀ n sig raw, SigTable.find n = some sig → J (runWith special mode c sig raw true))
    (name : String) (args : List Arg) : J (scriptBody special mode c name args) :=
  scriptBody_of_call S (runFromScript_seq S hrun) name args

end scripts

/-! ## `special` -/

/-- `J` of what `special … name args cis` calls.  `Good` is what the judgment knows of the record of `c` read at the start.
A leaf that only one command reaches is asked for under that command's name, for the items and keys of the request: a
judgment may have it for these only (what a command may notify depends on them).  `liveKeys`, `randomkey`, `scan`,
`zunioninter` carry no name: they only read lazily, or several commands reach them. -/
structure CalleesAt (J : ∀ {α : Type}, M α → Prop) (inner : Inner) (mode : Mode) (c : Nat) (Good : Conn → Prop)
    (name : String) (args : List Arg) (cis : List CI) : Prop extends Seq J where
  getConn : ∀ {β : Type} {G : Conn → M β}, (∀ x B, G { x with buf := B } = G x) → (∀ x, Good x → J (G x)) →
    J (getConn c >>= G)
  readLastsave : ReadOf J (·.srv.lastsave)
  liveKeys : ∀ x, Good x → J (liveKeys x.db)
  clearDb : name = "flushdb" → ∀ x, Good x → J (clearDb x.db)
  clearAll : name = "flushall" → J ((List.range 16).forM M.clearDb)
  nextClock : J nextClock
  setLastsave : ∀ t : Int, J (modify fun s => { s with srv := { s.srv with lastsave := t } })
  clearWatches : name = "unwatch" → J (clearWatches c)
  fault : ∀ msg, J (fault msg)
  select : name = "select" → J (selectCmd c args cis)
  swapdb : name = "swapdb" → J (swapdbCmd args cis)
  move : name = "move" → ∀ x, Good x → J (moveCmd x.db args cis)
  randomkey : ∀ x, Good x → J (randomkeyCmd x.db cis)
  scan : ∀ x, Good x → J (scanCmd x.db args cis)
  sort : name = "sort" → ∀ x, Good x → J (sortCmd c x.db args cis)
  zunioninter : ∀ x, Good x → ∀ u, J (zunioninter u x.db args cis)
  multi : name = "multi" → J (multiCmd c cis)
  discard : name = "discard" → J (discardCmd c cis)
  exec : name = "exec" → J (execCmd inner c cis)
  watch : name = "watch" → ∀ d, J (watchCmd c d args cis)
  subscribe : name = "subscribe" ∨ name = "psubscribe" → ∀ p names, J (subscribeGen c p names)
  unsubscribe : name = "unsubscribe" ∨ name = "punsubscribe" → ∀ p names, J (unsubscribeGen c p names)
  publish : name = "publish" → ∀ ch msg, J (publish ch msg)
  /-- pass and parking are one leaf: a judgment may hold of parking only after an unserved pass on the selected database -/
  bpop : name = "blpop" ∨ name = "brpop" → ∀ x, Good x → ∀ timeout,
    J (if mode.async then
        blockingAsync c name (Cmd.rawArgs args).dropLast
          (fun first => bpopPass x.db (name == "blpop") first (Cmd.rawArgs args).dropLast)
      else blocking c mode.park name (Cmd.rawArgs args).dropLast timeout
          (fun first => bpopPass x.db (name == "blpop") first (Cmd.rawArgs args).dropLast))
  brpoplpush : name = "brpoplpush" → ∀ x, Good x → ∀ src dst timeout, args = [.raw src, .raw dst, .int timeout] →
    J (if mode.async then blockingAsync c name [src, dst] (fun first => brpoplpushPass x.db src dst first)
      else blocking c mode.park name [src, dst] timeout (fun first => brpoplpushPass x.db src dst first))

theorem special_at {J : ∀ {α : Type}, M α → Prop} {inner : Inner} {mode : Mode} {c : Nat} {Good : Conn → Prop}
    {name : String} {args : List Arg} {cis : List CI} (C : CalleesAt J inner mode c Good name args cis) :
    J (special inner mode c name args cis) := by
  have hJ := C.toSeq
  unfold special scriptCmd okR
  refine C.getConn (fun _ _ => rfl) (fun conn hconn => ?_)
  simp only []
  split
  -- LASTSAVE, the one body that reads a field of the state
  case h_13 => seq_read C.readLastsave with s, s.srv.lastsave; exact C.pure _
  -- after `split` the name is a literal, so a guard `rfl` fits in the branch of its command only
  all_goals seq_descend hJ [C.select rfl, C.swapdb rfl, C.liveKeys _ hconn, C.move rfl _ hconn,
    C.randomkey _ hconn, (C.scan _ hconn), (C.sort rfl _ hconn), C.clearDb rfl _ hconn, C.clearAll rfl, C.nextClock,
    C.setLastsave _, C.multi rfl, C.discard rfl, C.exec rfl, (C.watch rfl _), C.clearWatches rfl,
    C.subscribe (.inl rfl) _ _, C.subscribe (.inr rfl) _ _, C.unsubscribe (.inl rfl) _ _, C.unsubscribe (.inr rfl) _ _,
    C.publish rfl _ _,
    (C.bpop (.inl rfl) _ hconn _), (C.bpop (.inr rfl) _ hconn _), (C.brpoplpush rfl _ hconn _ _ _ rfl),
    C.zunioninter _ hconn _, C.fault _]

/-! ## `_process_command`, the parser loop, `sendall` -/

namespace PubSubHist

/-- `FR.PubSubHist.reqSig` is the name under which the pub/sub statements spell it -/
def reqSig : List Bytes → Option Sig
  | [] => none
  | nameB :: _ => lookupSig nameB

end PubSubHist
export PubSubHist (reqSig)

/-- `J` of what `processCommand mode c fields` does; the command is run, and EXEC's arity error clears the watches, only
for the signature the table returns for the request -/
structure Process (J : ∀ {α : Type}, M α → Prop) (mode : Mode) (c : Nat) (fields : List Bytes) : Prop extends Seq J where
  readCrashed : ReadOf J (·.crashed)
  getConn : ∀ {β : Type} {G : Conn → M β}, (∀ x B, G { x with buf := B } = G x) → (∀ x, J (G x)) → J (getConn c >>= G)
  emit : ∀ r, J (emit c r)
  cleanupClosed : J cleanupClosed
  /-- the clock is read and stored in one step: for the twin simulation neither half alone keeps the relation -/
  refresh : J (nextClock >>= fun now => modify fun s => { s with srv := { s.srv with time := now } })
  clearWatches : (∃ sig, reqSig fields = some sig ∧ sig.name = "exec") → J (clearWatches c)
  poison : J (modifyConn c fun x => { x with txFailed := true })
  dropTx : J (modifyConn c fun x => { x with tx := none, txFailed := false })
  enqueue : ∀ name args, J (modifyConn c fun x => { x with tx := x.tx.map (· ++ [(name, args)]) })
  markDead : J (modifyConn c fun x => { x with dead := true })
  runCommand : ∀ sig, reqSig fields = some sig → J (runCommand mode c sig fields.tail false)

theorem Process.refresh_bind {J : ∀ {α : Type}, M α → Prop} {mode : Mode} {c : Nat} {fields : List Bytes}
    (P : Process J mode c fields) {β : Type} {k : M β} (hk : J k) :
    J (nextClock >>= fun now => (modify fun s => { s with srv := { s.srv with time := now } }) >>= fun _ => k) :=
  show J ((nextClock >>= fun now => modify fun s => { s with srv := { s.srv with time := now } }) >>= fun _ => k) from
    P.bind P.refresh (fun _ => hk)

theorem processCommand_of {J : ∀ {α : Type}, M α → Prop} {mode : Mode} {c : Nat} {fields : List Bytes}
    (P : Process J mode c fields) : J (processCommand mode c fields) := by
  have hJ := P.toSeq
  unfold processCommand
  split
  · exact P.pure _
  rename_i nameB args
  refine P.getConn (fun _ _ => ?hblind) (fun conn => ?_)
  case hblind => rfl
  extract_lets sig? unknown finish
  have hsig : ∀ sig, sig? = some sig → reqSig (nameB :: args) = some sig := fun _ h => h
  have hrun : ∀ sig, sig? = some sig → J (runCommand mode c sig args false) := fun sig h => P.runCommand sig h
  have hfinish : ∀ r, J (finish r) := by
    intro r
    simp only [finish]
    seq_read P.readCrashed with s, s.crashed
    seq_descend hJ [P.markDead]
  have hunknown : ∀ r, J (unknown r) := fun _ => P.emit _
  clear_value sig? unknown finish
  seq_descend hJ [P.emit _, P.cleanupClosed, P.refresh_bind ?_, P.clearWatches ⟨_, hsig _ rfl, eq_of_beq ‹_›⟩, P.poison,
    P.dropTx, P.enqueue _ _, hrun _ rfl, hunknown _, hfinish _]

/-- `_process_command` (usually by `processCommand_of`), and what the parser loop `drain` does besides -/
structure Drain (J : ∀ {α : Type}, M α → Prop) (mode : Mode) (c : Nat) : Prop extends Seq J where
  process : ∀ fields, J (processCommand mode c fields)
  getConn : J (getConn c)
  setBuf : ∀ rest, J (modifyConn c fun x => { x with buf := rest })

/-- `Drain`, and what `sendall` does besides the parser loop -/
structure Loop (J : ∀ {α : Type}, M α → Prop) (mode : Mode) (c : Nat) : Prop extends Drain J mode c where
  readConnected : ReadOf J (·.srv.connected)
  appendBuf : ∀ data, J (modifyConn c fun x => { x with buf := x.buf ++ data })
  crash : ∀ what : String, J (modify fun s => { s with crashed := some what })

theorem drain_of {J : ∀ {α : Type}, M α → Prop} {mode : Mode} {c : Nat} (D : Drain J mode c) (fuel : Nat) :
    J (drain mode c fuel) := by
  have hJ := D.toSeq
  induction fuel with
  | zero => unfold drain; exact D.pure _
  | succ fuel ih => unfold drain; seq_descend hJ [D.getConn, D.setBuf _, D.process _, ih]

section loop
variable {J : ∀ {α : Type}, M α → Prop} {mode : Mode} {c : Nat} (D : Loop J mode c)
include D

theorem sendall_of (data : Bytes) : J (sendall mode c data) := by
  have hJ := D.toSeq
  unfold sendall
  seq_descend hJ [D.getConn, D.crash _, D.appendBuf _, drain_of D.toDrain _]

theorem sendallGuarded_of (data : Bytes) : J (sendallGuarded mode c data) := by
  have hJ := D.toSeq
  unfold sendallGuarded
  seq_read D.readConnected with s, s.srv.connected
  seq_descend hJ [D.crash _, sendall_of D _]

end loop

end FR

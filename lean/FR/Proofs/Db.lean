import FR.Cmd.Run
/-!
# Helper lemmas about `Db` (lazy expiry) and the purge quotient

`NodupKeys` : a Python dict has unique keys.  Every database operation of the model preserves it, and
every operation respects the quotient "equal after `purge`" (lazy deletion is unobservable).
-/
namespace FR

def NodupKeys (d : Dict) : Prop := (d.map Prod.fst).Nodup

instance (d : Dict) : Decidable (NodupKeys d) := by unfold NodupKeys; infer_instance

/-- `CommandItem.writeback` deletes a key whose collection has become empty, so no stored value is an empty collection -/
def NoEmpty (d : Dict) : Prop := ∀ p ∈ d, p.2.value.isEmptyColl = false

namespace Db

/-! ## List level -/

theorem lookup_none_iff {d : Dict} {k : Bytes} : d.lookup k = none ↔ ∀ q ∈ d, q.1 ≠ k := by
  rw [List.lookup_eq_none_iff]
  exact ⟨fun h q hq e => by simpa [e] using h q hq, fun h q hq => by simpa using fun e => h q hq e.symm⟩

theorem lookup_some_mem {d : Dict} {k : Bytes} {it : Item} (h : d.lookup k = some it) : (k, it) ∈ d := by
  obtain ⟨l₁, l₂, rfl, _⟩ := List.lookup_eq_some_iff.1 h; simp

theorem nodup_cons {x : Bytes × Item} {xs : Dict} :
    NodupKeys (x :: xs) ↔ (∀ q ∈ xs, q.1 ≠ x.1) ∧ NodupKeys xs := by
  unfold NodupKeys
  rw [List.map_cons, List.nodup_cons]
  constructor
  · rintro ⟨h1, h2⟩
    exact ⟨fun q hq e => h1 (List.mem_map.2 ⟨q, hq, e⟩), h2⟩
  · rintro ⟨h1, h2⟩
    refine ⟨fun hm => ?_, h2⟩
    obtain ⟨q, hq, e⟩ := List.mem_map.1 hm
    exact h1 q hq e

/-- with unique keys, `lookup` finds the only entry of that key -/
theorem nodup_unique {d : Dict} {k : Bytes} {it : Item} (nd : NodupKeys d) (h : d.lookup k = some it) :
    ∀ q ∈ d, q.1 = k → q = (k, it) := by
  induction d with
  | nil => simp at h
  | cons x xs ih =>
    obtain ⟨k', it'⟩ := x
    rw [nodup_cons] at nd
    by_cases hk : k = k'
    · subst hk
      simp at h; subst h
      intro q hq hqk
      rcases List.mem_cons.1 hq with rfl | hq
      · rfl
      · exact absurd hqk (nd.1 q hq)
    · have h' : (k == k') = false := by simpa using hk
      simp only [List.lookup_cons, h'] at h
      intro q hq hqk
      rcases List.mem_cons.1 hq with rfl | hq
      · exact absurd hqk.symm hk
      · exact ih nd.2 h q hq hqk

theorem nodup_sublist {d d' : Dict} (h : d'.Sublist d) (nd : NodupKeys d) : NodupKeys d' :=
  List.Nodup.sublist (h.map Prod.fst) nd

theorem nodup_filter {d : Dict} (p : Bytes × Item → Bool) (nd : NodupKeys d) : NodupKeys (d.filter p) :=
  nodup_sublist List.filter_sublist nd

theorem nodup_erase {d : Dict} (k : Bytes) (nd : NodupKeys d) : NodupKeys (erase d k) :=
  nodup_filter _ nd

theorem lookup_filter {d : Dict} (p : Bytes × Item → Bool) (k : Bytes) (nd : NodupKeys d) :
    (d.filter p).lookup k =
      match d.lookup k with
      | none => none
      | some it => if p (k, it) then some it else none := by
  induction d with
  | nil => simp
  | cons x xs ih =>
    obtain ⟨k', it'⟩ := x
    rw [nodup_cons] at nd
    by_cases hk : k = k'
    · subst hk
      simp only [List.lookup_cons, beq_self_eq_true, List.filter_cons]
      by_cases hp : p (k, it') = true
      · simp [hp]
      · simp only [hp, if_false, Bool.false_eq_true]
        rw [lookup_none_iff]
        intro q hq
        exact nd.1 q (List.mem_filter.1 hq).1
    · have h' : (k == k') = false := by simpa using hk
      simp only [List.lookup_cons, h', List.filter_cons]
      by_cases hp : p (k', it') = true
      · simp only [hp, if_true, List.lookup_cons, h']; exact ih nd.2
      · simp only [hp, if_false, Bool.false_eq_true]; exact ih nd.2

theorem erase_filter_comm (p : Bytes × Item → Bool) (d : Dict) (k : Bytes) :
    erase (d.filter p) k = (erase d k).filter p := by
  unfold erase
  simp only [List.filter_filter]
  congr 1; funext q; exact Bool.and_comm _ _

theorem erase_of_lookup_none {d : Dict} {k : Bytes} (h : d.lookup k = none) : erase d k = d := by
  rw [lookup_none_iff] at h
  unfold erase
  rw [List.filter_eq_self]
  intro q hq; simpa using h q hq

theorem erase_erase (d : Dict) (k : Bytes) : erase (erase d k) k = erase d k := by
  unfold erase; simp [List.filter_filter]

theorem lookup_erase_self (d : Dict) (k : Bytes) : (erase d k).lookup k = none := by
  rw [lookup_none_iff]; intro q hq
  have := (List.mem_filter.1 hq).2
  simpa using this

theorem lookup_erase_ne {d : Dict} {k k' : Bytes} (h : k ≠ k') : (erase d k').lookup k = d.lookup k := by
  induction d with
  | nil => rfl
  | cons x xs ih =>
    obtain ⟨k2, it2⟩ := x
    unfold erase at ih ⊢
    simp only [List.filter_cons]
    by_cases h2 : k2 = k'
    · subst h2
      have : (k == k2) = false := by simpa using h
      simp [List.lookup_cons, this, ih]
    · have : (k2 != k') = true := by simpa using h2
      simp only [this, if_true, List.lookup_cons, ih]

theorem mem_erase {d : Dict} {k : Bytes} {q : Bytes × Item} (h : q ∈ erase d k) : q ∈ d :=
  (List.mem_filter.1 h).1

/-! ### `setRaw` -/

theorem any_key_iff {d : Dict} {k : Bytes} : d.any (fun p => p.1 == k) = true ↔ ∃ q ∈ d, q.1 = k := by
  rw [List.any_eq_true]
  constructor
  · rintro ⟨q, hq, e⟩; exact ⟨q, hq, by simpa using e⟩
  · rintro ⟨q, hq, e⟩; exact ⟨q, hq, by simpa using e⟩

theorem any_key_false_iff {d : Dict} {k : Bytes} : d.any (fun p => p.1 == k) = false ↔ ∀ q ∈ d, q.1 ≠ k := by
  rw [← Bool.not_eq_true, any_key_iff]
  constructor
  · intro h q hq e; exact h ⟨q, hq, e⟩
  · rintro h ⟨q, hq, e⟩; exact h q hq e

theorem map_fst_setRaw_map (d : Dict) (k : Bytes) (it : Item) :
    (d.map (fun p => if p.1 == k then (k, it) else p)).map Prod.fst = d.map Prod.fst := by
  rw [List.map_map]
  apply List.map_congr_left
  intro q _
  simp only [Function.comp]
  by_cases h : q.1 = k
  · simp [h]
  · have : (q.1 == k) = false := by simpa using h
    simp [this]

theorem nodup_setRaw {d : Dict} (k : Bytes) (it : Item) (nd : NodupKeys d) : NodupKeys (setRaw d k it) := by
  unfold setRaw
  split
  · unfold NodupKeys; rw [map_fst_setRaw_map]; exact nd
  · rename_i h
    have h := any_key_false_iff.1 (Bool.not_eq_true _ ▸ h)
    unfold NodupKeys at nd ⊢
    rw [List.map_append, List.nodup_append]
    refine ⟨nd, by simp, ?_⟩
    intro a ha b hb
    have hb : b = k := by simpa using hb
    subst hb
    obtain ⟨q, hq, rfl⟩ := List.mem_map.1 ha
    exact h q hq

theorem mem_setRaw {d : Dict} {k : Bytes} {it : Item} {q : Bytes × Item} (h : q ∈ setRaw d k it) :
    q ∈ d ∨ q = (k, it) := by
  unfold setRaw at h
  split at h
  · obtain ⟨q', hq', rfl⟩ := List.mem_map.1 h
    split
    · right; rfl
    · left; exact hq'
  · rcases List.mem_append.1 h with h | h
    · left; exact h
    · right; simpa using h

theorem filter_map_set {d : Dict} (p : Bytes × Item → Bool) (k : Bytes) (it : Item)
    (h : ∀ q ∈ d, q.1 = k → p q = true) :
    (d.map (fun q => if q.1 == k then (k, it) else q)).filter p =
      ((d.filter p).map (fun q => if q.1 == k then (k, it) else q)).filter p := by
  induction d with
  | nil => rfl
  | cons x xs ih =>
    have ih := ih (fun q hq => h q (List.mem_cons_of_mem _ hq))
    by_cases hx : x.1 = k
    · have hp := h x (by simp) hx
      have hx' : (x.1 == k) = true := by simpa using hx
      simp only [List.filter_cons, hp, if_true, List.map_cons, hx']
      rw [ih]
    · have hx' : (x.1 == k) = false := by simpa using hx
      by_cases hp : p x = true
      · simp only [List.filter_cons, hp, if_true, List.map_cons, hx', if_false, Bool.false_eq_true]
        rw [ih]
      · simp only [List.filter_cons, hp, if_false, List.map_cons, hx', Bool.false_eq_true]
        rw [ih]

/-- filtering commutes with `setRaw` provided every entry of that key passes the filter -/
theorem filter_setRaw {d : Dict} (p : Bytes × Item → Bool) (k : Bytes) (it : Item)
    (h : ∀ q ∈ d, q.1 = k → p q = true) :
    (setRaw d k it).filter p = (setRaw (d.filter p) k it).filter p := by
  have hany : (d.filter p).any (fun q => q.1 == k) = d.any (fun q => q.1 == k) := by
    rw [Bool.eq_iff_iff, any_key_iff, any_key_iff]
    constructor
    · rintro ⟨q, hq, e⟩; exact ⟨q, (List.mem_filter.1 hq).1, e⟩
    · rintro ⟨q, hq, e⟩; exact ⟨q, List.mem_filter.2 ⟨hq, h q hq e⟩, e⟩
  unfold setRaw
  rw [hany]
  split
  · exact filter_map_set p k it h
  · simp only [List.filter_append, List.filter_filter, Bool.and_self]

theorem lookup_map_set_ne {d : Dict} {k k' : Bytes} (it : Item) (h : k ≠ k') :
    (d.map (fun q => if q.1 == k' then (k', it) else q)).lookup k = d.lookup k := by
  have hb : (k == k') = false := by simpa using h
  induction d with
  | nil => rfl
  | cons x xs ih =>
    obtain ⟨k2, it2⟩ := x
    simp only [List.map_cons]
    by_cases h2 : k2 = k'
    · subst h2; simp only [beq_self_eq_true, if_true, List.lookup_cons, hb, ih]
    · have : (k2 == k') = false := by simpa using h2
      simp only [this, if_false, Bool.false_eq_true, List.lookup_cons, ih]

theorem lookup_setRaw_ne {d : Dict} {k k' : Bytes} (it : Item) (h : k ≠ k') :
    (setRaw d k' it).lookup k = d.lookup k := by
  have hb : (k == k') = false := by simpa using h
  unfold setRaw
  split
  · exact lookup_map_set_ne it h
  · rw [List.lookup_append]
    simp [List.lookup_cons, hb]

theorem lookup_map_set_self {d : Dict} {k : Bytes} (it : Item) (h : ∃ q ∈ d, q.1 = k) :
    (d.map (fun q => if q.1 == k then (k, it) else q)).lookup k = some it := by
  induction d with
  | nil => obtain ⟨q, hq, _⟩ := h; cases hq
  | cons x xs ih =>
    obtain ⟨k2, it2⟩ := x
    simp only [List.map_cons]
    by_cases h2 : k2 = k
    · subst h2; simp
    · have hb : (k2 == k) = false := by simpa using h2
      have hb' : (k == k2) = false := by simpa using fun e : k = k2 => h2 e.symm
      simp only [hb, if_false, Bool.false_eq_true, List.lookup_cons, hb']
      apply ih
      obtain ⟨q, hq, e⟩ := h
      rcases List.mem_cons.1 hq with rfl | hq
      · exact absurd e h2
      · exact ⟨q, hq, e⟩

theorem lookup_setRaw_self (d : Dict) (k : Bytes) (it : Item) : (setRaw d k it).lookup k = some it := by
  unfold setRaw
  split
  · rename_i h; exact lookup_map_set_self it (any_key_iff.1 h)
  · rename_i h
    have h := any_key_false_iff.1 (Bool.not_eq_true _ ▸ h)
    rw [List.lookup_append, lookup_none_iff.2 h]
    simp

/-! ## `Db` level -/

@[simp] theorem purge_time (db : Db) : (purge db).time = db.time := rfl
@[simp] theorem purge_dict (db : Db) : (purge db).dict = db.dict.filter (fun p => !db.expired p.2) := rfl

theorem expired_time {a b : Db} (h : a.time = b.time) : a.expired = b.expired := by
  funext it; unfold expired; rw [h]

theorem get_time (db : Db) (k : Bytes) : (db.get k).1.time = db.time := by
  unfold get; split
  · rfl
  · split <;> rfl

theorem get_nodup {db : Db} (k : Bytes) (nd : NodupKeys db.dict) : NodupKeys (db.get k).1.dict := by
  unfold get; split
  · exact nd
  · split
    · exact nodup_erase k nd
    · exact nd

/-- the result of a lazy lookup is the lookup in the purged database -/
theorem get_result {db : Db} (k : Bytes) (nd : NodupKeys db.dict) :
    (db.get k).2 = (purge db).dict.lookup k := by
  rw [purge_dict, lookup_filter _ k nd]
  unfold get
  cases h : db.dict.lookup k with
  | none => rfl
  | some it =>
    simp only
    by_cases he : db.expired it = true <;> simp [he]

/-- lazy deletion is invisible after `purge` -/
theorem get_purge {db : Db} (k : Bytes) (nd : NodupKeys db.dict) : purge (db.get k).1 = purge db := by
  unfold get
  cases h : db.dict.lookup k with
  | none => rfl
  | some it =>
    simp only
    by_cases he : db.expired it = true
    · simp only [he, if_true]
      unfold purge
      simp only [Db.mk.injEq, and_true]
      show (erase db.dict k).filter (fun p => !db.expired p.2) = _
      rw [← erase_filter_comm]
      apply erase_of_lookup_none
      rw [lookup_filter _ k nd, h]
      simp [he]
    · simp [he]

theorem get_mem {db : Db} {k : Bytes} {it : Item} (h : (db.get k).2 = some it) : (k, it) ∈ db.dict := by
  unfold get at h
  cases h' : db.dict.lookup k with
  | none => simp [h'] at h
  | some it' =>
    simp only [h'] at h
    split at h
    · simp at h
    · simp at h; subst h; exact lookup_some_mem h'

theorem get_dict_sub {db : Db} {k : Bytes} {q : Bytes × Item} (h : q ∈ (db.get k).1.dict) : q ∈ db.dict := by
  unfold get at h
  split at h
  · exact h
  · split at h
    · exact mem_erase h
    · exact h

/-- after `get k`, every remaining entry of key `k` is live -/
theorem get_live {db : Db} (k : Bytes) (nd : NodupKeys db.dict) :
    ∀ q ∈ (db.get k).1.dict, q.1 = k → (!(db.get k).1.expired q.2) = true := by
  have ht : (db.get k).1.expired = db.expired := expired_time (get_time db k)
  rw [ht]
  unfold get
  cases h : db.dict.lookup k with
  | none =>
    simp only
    intro q hq e; exact absurd e (lookup_none_iff.1 h q hq)
  | some it =>
    simp only
    by_cases he : db.expired it = true
    · simp only [he, if_true]
      intro q hq e
      have := lookup_none_iff.1 (lookup_erase_self db.dict k) q hq
      exact absurd e this
    · simp only [he, if_false, Bool.false_eq_true]
      intro q hq e
      have := nodup_unique nd h q hq e
      subst this
      simpa using he

theorem purge_idem (db : Db) : purge (purge db) = purge db := by
  unfold purge
  simp only [Db.mk.injEq, and_true, List.filter_filter]
  congr 1; funext q
  show (!db.expired q.2 && !db.expired q.2) = _
  exact Bool.and_self _

theorem purge_nodup {db : Db} (nd : NodupKeys db.dict) : NodupKeys (purge db).dict :=
  nodup_filter _ nd

/-- `pop` is plain deletion -/
theorem pop_eq (db : Db) (k : Bytes) : db.pop k = { db with dict := erase db.dict k } := by
  unfold pop get
  cases h : db.dict.lookup k with
  | none => simp only; rw [erase_of_lookup_none h]
  | some it =>
    simp only
    by_cases he : db.expired it = true
    · simp only [he, if_true]
    · simp only [he, if_false, Bool.false_eq_true]

theorem pop_time (db : Db) (k : Bytes) : (db.pop k).time = db.time := by rw [pop_eq]

theorem pop_nodup {db : Db} (k : Bytes) (nd : NodupKeys db.dict) : NodupKeys (db.pop k).dict := by
  rw [pop_eq]; exact nodup_erase k nd

theorem pop_purge (db : Db) (k : Bytes) :
    purge (db.pop k) = { purge db with dict := erase (purge db).dict k } := by
  rw [pop_eq]
  unfold purge
  simp only [Db.mk.injEq, and_true]
  exact (erase_filter_comm _ _ _).symm

theorem put_time (db : Db) (k : Bytes) (v : Value) (e : Option Int) : (db.put k v e).time = db.time := by
  unfold put; exact get_time db k

theorem put_nodup {db : Db} (k : Bytes) (v : Value) (e : Option Int) (nd : NodupKeys db.dict) :
    NodupKeys (db.put k v e).dict := by
  unfold put; exact nodup_setRaw _ _ (get_nodup k nd)

/-- `setRaw` commutes with `purge` when every entry of that key is live -/
theorem setRaw_purge {db : Db} (k : Bytes) (it : Item)
    (h : ∀ q ∈ db.dict, q.1 = k → (!db.expired q.2) = true) :
    purge { db with dict := setRaw db.dict k it } =
      purge { purge db with dict := setRaw (purge db).dict k it } := by
  unfold purge
  simp only [Db.mk.injEq, and_true]
  exact filter_setRaw (fun p => !db.expired p.2) k it h

theorem put_purge {db : Db} (k : Bytes) (v : Value) (e : Option Int) (nd : NodupKeys db.dict) :
    purge (db.put k v e) = purge { purge db with dict := setRaw (purge db).dict k ⟨v, e⟩ } := by
  unfold put
  simp only
  rw [setRaw_purge k ⟨v, e⟩ (get_live k nd), get_purge k nd]

/-! ## The purge quotient -/

/-- two databases with unique keys that agree after `purge` -/
structure Sim (a b : Db) : Prop where
  nd1 : NodupKeys a.dict
  nd2 : NodupKeys b.dict
  eq : purge a = purge b

theorem Sim.time {a b : Db} (h : Sim a b) : a.time = b.time := by
  have := congrArg Db.time h.eq
  simpa using this

theorem Sim.refl {a : Db} (nd : NodupKeys a.dict) : Sim a a := ⟨nd, nd, rfl⟩
theorem Sim.symm {a b : Db} (h : Sim a b) : Sim b a := ⟨h.nd2, h.nd1, h.eq.symm⟩
theorem Sim.trans {a b c : Db} (h : Sim a b) (h' : Sim b c) : Sim a c := ⟨h.nd1, h'.nd2, h.eq.trans h'.eq⟩

theorem Sim.purge_right {a : Db} (nd : NodupKeys a.dict) : Sim a (purge a) :=
  ⟨nd, purge_nodup nd, (purge_idem a).symm⟩

theorem Sim.get {a b : Db} (h : Sim a b) (k : Bytes) :
    (a.get k).2 = (b.get k).2 ∧ Sim (a.get k).1 (b.get k).1 := by
  refine ⟨?_, get_nodup k h.nd1, get_nodup k h.nd2, ?_⟩
  · rw [get_result k h.nd1, get_result k h.nd2, h.eq]
  · rw [get_purge k h.nd1, get_purge k h.nd2, h.eq]

theorem Sim.pop {a b : Db} (h : Sim a b) (k : Bytes) : Sim (a.pop k) (b.pop k) := by
  refine ⟨pop_nodup k h.nd1, pop_nodup k h.nd2, ?_⟩
  rw [pop_purge, pop_purge, h.eq]

theorem Sim.put {a b : Db} (h : Sim a b) (k : Bytes) (v : Value) (e : Option Int) :
    Sim (a.put k v e) (b.put k v e) := by
  refine ⟨put_nodup k v e h.nd1, put_nodup k v e h.nd2, ?_⟩
  rw [put_purge k v e h.nd1, put_purge k v e h.nd2, h.eq]

/-- `setRaw` after `get` respects the purge quotient (the step of the dead `expMod ∧ ¬modified` branch of `writeback`) -/
theorem Sim.setAfterGet {a b : Db} (h : Sim a b) (k : Bytes) (it : Item) :
    Sim { (a.get k).1 with dict := setRaw (a.get k).1.dict k it }
        { (b.get k).1 with dict := setRaw (b.get k).1.dict k it } := by
  refine ⟨nodup_setRaw _ _ (get_nodup k h.nd1), nodup_setRaw _ _ (get_nodup k h.nd2), ?_⟩
  rw [setRaw_purge k it (get_live k h.nd1), setRaw_purge k it (get_live k h.nd2),
    get_purge k h.nd1, get_purge k h.nd2, h.eq]

end Db

/-! ## `writeback` -/
namespace CI

theorem writeback_nodup (c : CI) {db : Db} (nd : NodupKeys db.dict) : NodupKeys (c.writeback db).1.dict := by
  unfold writeback
  split
  · split
    · exact Db.pop_nodup _ nd
    · split
      · exact Db.pop_nodup _ nd
      · exact Db.put_nodup _ _ _ nd
  · split
    · split
      · rename_i db' it heq
        have : db' = (db.get c.key).1 := by rw [heq]
        subst this
        exact Db.nodup_setRaw _ _ (Db.get_nodup _ nd)
      · rename_i db' heq
        have : db' = (db.get c.key).1 := by rw [heq]
        subst this
        exact Db.get_nodup _ nd
    · exact nd

theorem writeback_time (c : CI) (db : Db) : (c.writeback db).1.time = db.time := by
  unfold writeback
  split
  · split
    · exact Db.pop_time _ _
    · split
      · exact Db.pop_time _ _
      · exact Db.put_time _ _ _ _
  · split
    · split
      · rename_i db' it heq
        have : db' = (db.get c.key).1 := by rw [heq]
        subst this
        exact Db.get_time _ _
      · rename_i db' heq
        have : db' = (db.get c.key).1 := by rw [heq]
        subst this
        exact Db.get_time _ _
    · rfl

/-- `notify_watch` is called exactly when the item is `modified` -/
theorem writeback_flag (c : CI) (db : Db) : (c.writeback db).2 = c.modified := by
  unfold writeback
  split
  · rename_i h; rw [h]
    split
    · rfl
    · split <;> rfl
  · rename_i h
    have h : c.modified = false := by simpa using h
    rw [h]
    split
    · split <;> rfl
    · rfl

theorem writeback_unmodified {c : CI} (h1 : c.modified = false) (h2 : c.expMod = false) (db : Db) :
    c.writeback db = (db, false) := by
  unfold writeback; simp [h1, h2]

/-- `writeback` respects the purge quotient -/
theorem writeback_sim (c : CI) {a b : Db} (h : Db.Sim a b) :
    Db.Sim (c.writeback a).1 (c.writeback b).1 ∧ (c.writeback a).2 = (c.writeback b).2 := by
  refine ⟨?_, by rw [writeback_flag, writeback_flag]⟩
  unfold writeback
  split
  · split
    · exact h.pop _
    · split
      · exact h.pop _
      · exact h.put _ _ _
  · split
    · have hg := h.get c.key
      have hs := fun it => h.setAfterGet c.key it
      revert hg hs
      generalize a.get c.key = ra
      generalize b.get c.key = rb
      obtain ⟨a', ia⟩ := ra
      obtain ⟨b', ib⟩ := rb
      simp only
      rintro ⟨rfl, hs'⟩ hs
      cases ia with
      | none => exact hs'
      | some it => exact hs _
    · exact h

theorem writeback_noEmpty (c : CI) {db : Db} (ne : NoEmpty db.dict) : NoEmpty (c.writeback db).1.dict := by
  have hpop : ∀ k, NoEmpty (db.pop k).dict := by
    intro k q hq; rw [Db.pop_eq] at hq; exact ne q (Db.mem_erase hq)
  unfold writeback
  split
  · split
    · exact hpop _
    · split
      · exact hpop _
      · rename_i v hv
        intro q hq
        unfold Db.put at hq
        rcases Db.mem_setRaw hq with hq | rfl
        · exact ne q (Db.get_dict_sub hq)
        · simpa using hv
  · split
    · split
      · rename_i db' it heq
        have e1 : db' = (db.get c.key).1 := by rw [heq]
        have e2 : (db.get c.key).2 = some it := by rw [heq]
        subst e1
        intro q hq
        rcases Db.mem_setRaw hq with hq | rfl
        · exact ne q (Db.get_dict_sub hq)
        · exact ne (c.key, it) (Db.get_mem e2)  -- same value, new deadline
      · rename_i db' heq
        have e1 : db' = (db.get c.key).1 := by rw [heq]
        subst e1
        intro q hq; exact ne q (Db.get_dict_sub hq)
    · exact ne

end CI

end FR

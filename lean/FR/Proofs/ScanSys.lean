import FR.Proofs.Scan
import FR.Proofs.Dispatch
import FR.Proofs.Prologue
import FR.Proofs.Request
import FR.Proofs.History
import FR.Proofs.ZSet
import FR.Proofs.HashSetAlg
/-!
# The SCAN family as the server runs it (C15, system level)

* §0 `sortBy` sorts; §1 `Signature.apply` for the two signature shapes of the family.
* §2, 3, 5 one SCAN request in closed form, through `_run_command`, `_process_command` and as an event: the reply is
  `scanAnswer` on the selected database at the clock reading of the request, and that database is left purged.
* §4 the client loop `iter`.  `iter_spec` / `iter_complete` run it against any server that answers every call with one
  `scanPage` over a fixed list, from an invariant `I` of the states between the calls.
* §6 the SCAN iteration.  §7–9 SSCAN / HSCAN / ZSCAN, which differ in a `KScan` record only.
* §10 the error replies.  §11 interleaved writes: what a cursor that is an index into the sorted key list still
  guarantees.  §12 the stability hypothesis of `scan_iteration` in terms of key lists.
-/
namespace FR.ScanSys
open FR FR.M FR.Cmd FR.Spec FR.Proofs

/-! ## 0. `sortBy` sorts -/

theorem sortBy_key_sorted {α : Type} (f : α → Bytes) (l : List α) :
    (sortBy (fun a b => bytesLt (f a) (f b)) l).Pairwise (fun a b => bytesLt (f b) (f a) = false) :=
  sortBy_sorted (fun a b => bytesLt (f a) (f b)) (fun _ _ h => bytesLt_asymm h) 
    (fun a b c h1 h2 => bytesLt_trans (a := f a) (b := f b) (c := f c) h1 h2) l

theorem sortBy_key_strict {α : Type} (f : α → Bytes) {l : List α} (h : (l.map f).Nodup) :
    (sortBy (fun a b => bytesLt (f a) (f b)) l).Pairwise (fun a b => bytesLt (f a) (f b) = true) := by
  have hs := sortBy_key_sorted f l
  have hn : ((sortBy (fun a b => bytesLt (f a) (f b)) l).map f).Nodup :=
    ((sortBy_perm _ l).map f).nodup_iff.2 h
  rw [List.Nodup, List.pairwise_map] at hn
  refine (hs.and hn).imp ?_
  intro a b ⟨h1, h2⟩
  rcases bytesLt_trichotomy (f a) (f b) with h | h | h
  · exact h
  · exact absurd h h2
  · rw [h] at h1; cases h1

theorem sortBy_bytes_strict {l : List Bytes} (h : l.Nodup) :
    (sortBy bytesLt l).Pairwise (fun a b => bytesLt a b = true) := by
  have := sortBy_key_strict (fun x : Bytes => x) (l := l) (by simpa using h)
  exact this

/-! ## 1. `Signature.apply` for the two signature shapes of the SCAN family, exactly -/

theorem types_pairs (s : Sig) (hrep : s.rep = [.bytes, .bytes]) (n : Nat) :
    s.types n = s.fixed ++ List.replicate (n - s.fixed.length) .bytes :=
  Ttl.types_eq s n .bytes (by rw [hrep]; simp) (by rw [hrep]; simp)

theorem apply_scan (s : Sig) (hfix : s.fixed = [.int]) (hrep : s.rep = [.bytes, .bytes]) (cb : Bytes)
    (opts : List Bytes) (db : Db) :
    s.apply (cb :: opts) db =
      (db, if opts.length % 2 = 1 then .error s.wrongArgs else
        match Conv.int cb with
        | .error e => .error e
        | .ok n => .ok (.ok (.int n :: opts.map .raw) [])) := by
  have har : s.checkArity (cb :: opts).length = true := by
    simp [Sig.checkArity, hfix, hrep]
  rw [Sig.apply_keyless s _ db (by rw [hfix]; simp [Ttl.isKey]) (by rw [hrep]; simp [Ttl.isKey]), har,
    types_pairs s hrep, hfix, hrep]
  have hraw : Ttl.decodeAll (opts.zip (List.replicate opts.length .bytes)) = .ok (opts.map .raw) :=
    Ttl.decodeAll_raw opts _ (fun t ht => (List.mem_replicate.1 ht).2) (by simp)
  simp only [Bool.not_true, Bool.false_eq_true, if_false, List.length_cons, List.length_nil, List.isEmpty_cons,
    Bool.not_false, Bool.true_and, Nat.add_sub_cancel, List.cons_append, List.nil_append, List.zip_cons_cons,
    Nat.zero_add, bne_iff_ne, ne_eq, Ttl.decodeAll, Conv.decode, hraw]
  by_cases hodd : opts.length % 2 = 1
  · simp [hodd]
  · have h0 : opts.length % 2 = 0 := by omega
    simp only [h0, not_true_eq_false, if_false]
    cases Conv.int cb <;> simp [Except.map]

/-- the `CommandItem` for key `k` of declared type `T` built from the looked-up item -/
def ciFor (T : Ty) (k : Bytes) (item : Option Item) : CI :=
  match item with
  | some it => ⟨k, some it.value, it.expireat, false, false⟩
  | none => ⟨k, T.default, none, false, false⟩

/-- the cursor is converted before the key is looked up (once, with lazy expiry) and its type checked -/
theorem apply_keyscan (s : Sig) (T : Ty) (hfix : s.fixed = [.key (some T) .unspecified, .int])
    (hrep : s.rep = [.bytes, .bytes]) (key cb : Bytes) (opts : List Bytes) (db : Db) :
    s.apply (key :: cb :: opts) db =
      if opts.length % 2 = 1 then (db, .error s.wrongArgs) else
        match Conv.int cb with
        | .error e => (db, .error e)
        | .ok n =>
          ((db.get key).1,
            if (match (db.get key).2 with | some it => it.value.ty != T | none => false) then .error Msgs.WRONGTYPE_MSG
            else .ok (.ok (.key 0 :: .int n :: opts.map .raw) [ciFor T key (db.get key).2])) := by
  unfold Sig.apply
  have har : s.checkArity (key :: cb :: opts).length = true := by
    simp [Sig.checkArity, hfix, hrep]
  rw [har, types_pairs s hrep, hfix, hrep]
  simp only [Bool.not_true, Bool.false_eq_true, if_false, List.length_cons, List.length_nil, List.isEmpty_cons,
    Bool.not_false, Bool.true_and, List.cons_append, List.nil_append, List.zip_cons_cons,
    Nat.zero_add, bne_iff_ne, ne_eq]
  have e2 : opts.length + 1 + 1 - (0 + 1 + 1) = opts.length := by omega
  rw [e2]
  by_cases hodd : opts.length % 2 = 1
  · simp [hodd]
  · have h0 : opts.length % 2 = 0 := by omega
    simp only [h0, not_true_eq_false, if_false]
    simp only [Sig.pass1, Conv.decode, bne_self_eq_false, Bool.false_eq_true, if_false]
    cases hc : Conv.int cb with
    | error e => rfl
    | ok n =>
      simp only [Except.map]
      rw [Sig.pass1_bytes]
      simp only [List.reverse_cons, List.reverse_nil, List.nil_append,
        List.take_length, List.zip_cons_cons, Sig.pass2, List.cons_append, List.length_nil]
      generalize db.get key = g
      obtain ⟨db', item⟩ := g
      cases item with
      | none =>
        simp only []
        rw [Sig.pass2_bytes]
        simp [ciFor]
      | some it =>
        simp only
        by_cases hty : it.value.ty = T
        · simp only [hty, bne_self_eq_false, Bool.false_eq_true, if_false]
          rw [Sig.pass2_bytes]
          simp [ciFor]
        · have : (it.value.ty != T) = true := by simpa using hty
          simp [this]

/-! ## 2. One SCAN request -/

def scanSig : Sig := ⟨"scan", [.int], [.bytes, .bytes], false, 1, 0, true⟩

theorem find_scan : SigTable.find "scan" = some scanSig := rfl

/-- the list SCAN pages through: the live keys of the database, sorted byte-wise -/
def scanKeys (D : Db) : List Bytes := sortBy bytesLt ((Db.purge D).dict.map Prod.fst)

/-- the stored type of a live key, as SCAN's TYPE filter sees it -/
def scanType (D : Db) : Bytes → Bytes := typeNameOf (Db.purge D)

/-- `_scan` on the live keys of `D` -/
def scanResult (D : Db) (cursor : Int) (opts : List Bytes) : Except Err Reply :=
  Cmd.scanReply (scanKeys D) id (scanType D) true cursor opts (fun p => p.map .bulk)

/-- the request gets past `Signature.apply` (even number of option words, integer cursor) -/
def scanReaches (cb : Bytes) (opts : List Bytes) : Bool :=
  decide (opts.length % 2 = 0) && (match Conv.int cb with | .ok _ => true | .error _ => false)

/-- the reply to `SCAN cb opts…` on database `D`, every error path included -/
def scanAnswer (D : Db) (cb : Bytes) (opts : List Bytes) : Reply :=
  if opts.length % 2 = 1 then .err (strBytes scanSig.wrongArgs) else
    match Conv.int cb with
    | .error e => .err (strBytes e)
    | .ok cursor =>
      match scanResult D cursor opts with
      | .ok r => r
      | .error e => .err (strBytes e)

theorem purge_time (db : Db) : (Db.purge db).time = db.time := rfl

theorem purge_nil (t : Int) : Db.purge ⟨[], t⟩ = ⟨[], t⟩ := rfl

theorem dbAt_setDbS_purge (s : Sys) (d : Nat) :
    (s.setDbS d (Db.purge (s.dbAt d))).dbAt d = Db.purge (s.dbAt d) := by
  by_cases hd : d < s.srv.dbs.length
  · exact Sys.setDbS_dbAt_self s d _ hd rfl
  · have hd : s.srv.dbs.length ≤ d := by omega
    rw [Sys.setDbS_out_of_range s d _ hd, Sys.dbAt_out_of_range s d hd]
    rfl

theorem setDbS_setDbS (s : Sys) (d : Nat) (a b : Db) : (s.setDbS d a).setDbS d b = s.setDbS d b :=
  Sys.setDbS_setDbS s d a b

theorem liveKeys_run (d : Nat) (s : Sys) :
    liveKeys d s = ((Db.purge (s.dbAt d)).dict.map Prod.fst, s.setDbS d (Db.purge (s.dbAt d))) := rfl

theorem scanCmd_run (d : Nat) (cursor : Int) (rest : List Arg) (cis : List CI) (s : Sys) :
    scanCmd d (.int cursor :: rest) cis s =
      ((match scanResult (s.dbAt d) cursor (Cmd.rawArgs rest) with
        | .ok r => .ok (some r, cis)
        | .error e => .error e), s.setDbS d (Db.purge (s.dbAt d))) := by
  unfold scanCmd
  simp only [bind, StateT.bind, liveKeys_run, getDb_run', dbAt_setDbS_purge]
  unfold scanResult scanKeys scanType
  generalize scanReply _ _ _ _ _ _ _ = r
  cases r <;> rfl

theorem special_scan (inner : Inner) (mode : Mode) (c : Nat) (args : List Arg) (cis : List CI) (s : Sys) :
    special inner mode c "scan" args cis s = scanCmd (s.conn c).db args cis s := by
  unfold special
  simp only [bind, StateT.bind, getConn_run]

theorem optPairErr_msg (a v : Bytes) : optPairErr a v = Msgs.SYNTAX_ERROR_MSG ∨ optPairErr a v = Msgs.INVALID_INT_MSG := by
  unfold optPairErr
  split
  · cases hc : Conv.int v with
    | ok c => exact Or.inl rfl
    | error e => exact Or.inr (Conv.int_error hc)
  · exact Or.inl rfl

theorem parseScanOpts_error (t : Bool) : ∀ (opts : List Bytes) (o : ScanOpts) (e : Err),
    parseScanOpts t opts o = .error e → e = Msgs.SYNTAX_ERROR_MSG ∨ e = Msgs.INVALID_INT_MSG
  | [], o, e, h => by simp [parseScanOpts] at h
  | [_], o, e, h => by
    simp only [parseScanOpts, Except.error.injEq] at h
    exact Or.inl h.symm
  | a :: v :: rest, o, e, h => by
    cases hp : optPairOk t a v with
    | true =>
      obtain ⟨o', e'⟩ := parse_pair_ok t a v rest o hp
      exact parseScanOpts_error t rest o' e (e' ▸ h)
    | false =>
      rw [parse_pair_bad t a v rest o hp] at h
      cases h
      exact optPairErr_msg a v

/-- the only errors `_scan` raises -/
theorem scanReply_error {α} (elems : List α) keyOf typeName (t : Bool) (cursor : Int) opts render (e : Err)
    (h : scanReply elems keyOf typeName t cursor opts render = .error e) :
    e = Msgs.INVALID_CURSOR_MSG ∨ e = Msgs.SYNTAX_ERROR_MSG ∨ e = Msgs.INVALID_INT_MSG := by
  unfold scanReply at h
  split at h
  · exact Or.inl (Except.error.inj h).symm
  · split at h
    · exact Or.inr (Or.inl (Except.error.inj h).symm)
    · split at h
      · rename_i e' hp
        rw [Except.error.inj h] at hp
        exact Or.inr (parseScanOpts_error t opts {} e hp)
      · split at h <;> cases h

theorem scanReply_error_not_model {α} (elems : List α) keyOf typeName (t : Bool) (cursor : Int) opts render (e : Err)
    (h : scanReply elems keyOf typeName t cursor opts render = .error e) :
    e.startsWith "model:" = false := by
  rcases scanReply_error elems keyOf typeName t cursor opts render e h with rfl | rfl | rfl <;> decide +kernel

/-- the state after `_run_command` of SCAN: the selected database is purged iff the body was reached -/
def afterScan (s : Sys) (d : Nat) (cb : Bytes) (opts : List Bytes) : Sys :=
  if scanReaches cb opts then s.setDbS d (Db.purge (s.dbAt d)) else s

theorem runWith_scan (inner : Inner) (mode : Mode) (c : Nat) (cb : Bytes) (opts : List Bytes) (s : Sys)
    (hpub : (s.conn c).pubsub = 0) :
    runWith (special inner) mode c scanSig (cb :: opts) false s =
      (some (scanAnswer (s.dbAt (s.conn c).db) cb opts), afterScan s (s.conn c).db cb opts) := by
  have hr := Sys.refuses_of_unsubscribed (s := s) (c := c) scanSig hpub
  rw [runWith_keyless _ mode c scanSig _ false s rfl hr (apply_scan scanSig rfl rfl cb opts _),
    (runGate_of_not_refused false hr).trans (runGate_direct scanSig)]
  unfold scanAnswer afterScan scanReaches
  by_cases hodd : opts.length % 2 = 1
  · have h0 : ¬ opts.length % 2 = 0 := by omega
    simp only [hodd, if_true]
    rfl
  · have h0 : opts.length % 2 = 0 := by omega
    rw [if_neg hodd, if_neg hodd]
    simp only [h0, decide_true, Bool.true_and]
    cases hc : Conv.int cb with
    | error e => rfl
    | ok cursor =>
      simp only [if_true]
      rw [afterSpecial_run]
      simp only [show scanSig.name = "scan" from rfl, special_scan, scanCmd_run, rawArgs_map_raw]
      cases hr : scanResult (s.dbAt (s.conn c).db) cursor opts with
      | ok r => rfl
      | error e =>
        simp only [PubSubHist.faulted, scanReply_error_not_model _ _ _ _ _ _ _ e hr]
        rfl

theorem runCommand_scan (mode : Mode) (c : Nat) (cb : Bytes) (opts : List Bytes) (s : Sys)
    (hpub : (s.conn c).pubsub = 0) :
    runCommand mode c scanSig (cb :: opts) false s =
      (some (scanAnswer (s.dbAt (s.conn c).db) cb opts), afterScan s (s.conn c).db cb opts) := by
  unfold runCommand
  have : scriptNames.contains scanSig.name = false := by decide
  rw [this]
  exact runWith_scan _ mode c cb opts s hpub

/-! ## 3. The prologue of `_process_command` -/

theorem prologue_dbs (s : Sys) : (prologue s).srv.dbs = s.srv.dbs := s.prologue_dbs
theorem prologue_time (s : Sys) : (prologue s).srv.time = reading s := s.prologue_time
theorem prologue_version (s : Sys) : (prologue s).srv.version = s.srv.version := s.prologue_version
theorem prologue_out (s : Sys) : (prologue s).out = s.out := s.prologue_out
theorem prologue_picks (s : Sys) : (prologue s).picks = s.picks := s.prologue_picks
theorem prologue_fault (s : Sys) {t : Int} {r : List Int} (h : s.clocks = t :: r) : (prologue s).fault = s.fault :=
  s.prologue_fault h

theorem prologue_dbAt (s : Sys) (d : Nat) : (prologue s).dbAt d = ⟨s.srv.dbs.getD d [], reading s⟩ := by
  unfold Sys.dbAt
  rw [prologue_dbs, prologue_time]

theorem prologue_dataInv {s : Sys} (h : s.DataInv) : (prologue s).DataInv := h.frame (prologue_dbs s)

/-- the connection is marked dead when an exception escaped (never for the SCAN family) -/
def markDead (s : Sys) (c : Nat) : Sys :=
  if s.crashed.isSome then s.updConn c (fun x => { x with dead := true }) else s

theorem processCommand_answered (mode : Mode) (c : Nat) {nameB : Bytes} (args : List Bytes) (s : Sys) {sig : Sig}
    (hname : lookupSig nameB = some sig) (har : sig.checkArity args.length = true) (htx : (s.conn c).tx = none)
    {r : Reply} {t : Sys} (hrun : runCommand mode c sig args false s.prologue = (some r, t)) :
    processCommand mode c (nameB :: args) s = ((), markDead (t.emitS c r) c) := by
  rw [processCommand_runs mode c args s hname har (by rw [htx]; rfl), hrun]
  rfl

def scanStep (s : Sys) (c : Nat) (cb : Bytes) (opts : List Bytes) : Sys :=
  markDead ((afterScan (prologue s) (s.conn c).db cb opts).emitS c
    (scanAnswer ((prologue s).dbAt (s.conn c).db) cb opts)) c

theorem processCommand_scan (mode : Mode) (c : Nat) (nameB cb : Bytes) (opts : List Bytes) (s : Sys)
    (hname : lookupSig nameB = some scanSig) (htx : (s.conn c).tx = none) (hpub : (s.conn c).pubsub = 0) :
    processCommand mode c (nameB :: cb :: opts) s = ((), scanStep s c cb opts) := by
  have hpub' : (s.prologue.conn c).pubsub = 0 := (s.prologue_conn c Conn.pubsub (fun _ => rfl)).trans hpub
  rw [processCommand_answered mode c _ s hname (by simp [Sig.checkArity, scanSig]) htx
    (runCommand_scan mode c cb opts _ hpub'), s.prologue_conn c Conn.db (fun _ => rfl)]
  rfl

/-! ## 4. The client loop -/

/-- the pages of one complete iteration, one list per call (`scanAll` is their concatenation) -/
def scanPages {α} (elems : List α) (keyOf : α → Bytes) (typeName : Bytes → Bytes) (o : ScanOpts) :
    Nat → Int → List (List α)
  | 0, _ => []
  | fuel + 1, cursor =>
    let r := scanPage elems keyOf typeName cursor o
    if r.1 = 0 then [r.2] else r.2 :: scanPages elems keyOf typeName o fuel r.1

theorem scanPages_flatten {α} (elems : List α) keyOf typeName (o : ScanOpts) (fuel : Nat) (c : Int) :
    (scanPages elems keyOf typeName o fuel c).flatten = scanAll elems keyOf typeName o fuel c := by
  induction fuel generalizing c with
  | zero => rfl
  | succ fuel ih =>
    simp only [scanPages, scanAll]
    split
    · simp
    · simp [ih]

theorem scanPages_length {α} (elems : List α) keyOf typeName (o : ScanOpts) (fuel : Nat) (c : Int) :
    (scanPages elems keyOf typeName o fuel c).length = (scanTrace elems keyOf typeName o fuel c).length := by
  induction fuel generalizing c with
  | zero => rfl
  | succ fuel ih =>
    simp only [scanPages, scanTrace]
    split
    · rfl
    · simp [ih]

theorem scanPages_complete {α} (elems : List α) keyOf typeName (o : ScanOpts) (hc : 0 < o.count) :
    (scanPages elems keyOf typeName o (elems.length + 1) 0).flatten = elems.filter (matchPredicate keyOf typeName o) ∧
    (scanPages elems keyOf typeName o (elems.length + 1) 0).length = scanCalls elems.length o.count.toNat := by
  refine ⟨by rw [scanPages_flatten, scan_complete _ _ _ _ hc], ?_⟩
  rw [scanPages_length, (scan_terminates elems keyOf typeName o hc).1]
  simp

/-- what the client reads off a reply of the SCAN family: the next cursor and the page -/
def decodeScanReply : Reply → Option (Int × List Reply)
  | .arr [.bulk b, .arr page] => (parseCanonInt b).map fun n => (n, page)
  | .arr [.int n, .arr page] => some (n, page)
  | _ => none

theorem parse_count_pos (t : Bool) : ∀ (opts : List Bytes) (o0 o : ScanOpts),
    parseScanOpts t opts o0 = .ok o → 0 < o0.count → 0 < o.count
  | [], o0, o, h, h0 => by simp only [parseScanOpts, Except.ok.injEq] at h; subst h; exact h0
  | [_], o0, o, h, h0 => by simp [parseScanOpts] at h
  | a :: v :: rest, o0, o, h, h0 => by
    rw [parseScanOpts] at h
    split at h
    · exact parse_count_pos t rest _ o h h0
    · split at h
      · split at h
        · cases h
        · split at h
          · cases h
          · exact parse_count_pos t rest _ o h (by simp only; omega)
      · split at h
        · exact parse_count_pos t rest _ o h h0
        · cases h

theorem parse_count_pos' {t : Bool} {opts : List Bytes} {o : ScanOpts} (h : parseScanOpts t opts {} = .ok o) :
    0 < o.count := parse_count_pos t opts {} o h (by decide)

/-- past the end of the collection the page is empty and cursor 0 comes back -/
theorem scanPage_past_end {α} (elems : List α) keyOf typeName (cursor : Int) (o : ScanOpts) (hcnt : 0 < o.count)
    (hge : (elems.length : Int) ≤ cursor) : scanPage elems keyOf typeName cursor o = (0, []) := by
  refine Prod.ext ?_ ?_
  · rw [scanPage_fst]
    exact if_pos (by omega)
  · rw [scanPage_snd, List.drop_of_length_le (by omega), List.take_nil]
    rfl

/-- `_scan` with a cursor that is not negative and options that parse replies with exactly one `scanPage`, inside the
collection (`scanReply_page`) or past its end -/
theorem scanReply_parsed {α} (elems : List α) keyOf typeName (t : Bool) (cursor : Int) opts
    (render : List α → List Reply) (o : ScanOpts) (hc : 0 ≤ cursor) (hp : parseScanOpts t opts {} = .ok o)
    (hr : render [] = []) :
    scanReply elems keyOf typeName t cursor opts render =
      .ok (.arr [.bulk (intBytes (scanPage elems keyOf typeName cursor o).1),
                 .arr (render (scanPage elems keyOf typeName cursor o).2)]) := by
  by_cases hlt : cursor < elems.length
  · exact scanReply_page elems keyOf typeName t cursor opts render o hc hlt hp
  · have hl : opts.length % 2 = 0 := ((parse_ok_iff t opts {}).mp ⟨o, hp⟩).1
    rw [scanPage_past_end elems keyOf typeName cursor o (parse_count_pos' hp) (by omega), hr]
    unfold scanReply
    rw [if_neg (by omega), if_neg (by simp [hl]), hp]
    exact if_pos (by omega)

theorem decodeScanReply_bulk (n : Int) (page : List Reply) :
    decodeScanReply (.arr [.bulk (intBytes n), .arr page]) = some (n, page) := by
  simp only [decodeScanReply, FR.parseCanonInt_intBytes, Option.map_some]

/-- the hints one request brings: the clock reading taken under the lock, and whatever else the harness recorded -/
structure Hint where
  time : Int
  clocks : List Int := []
  picks : List (List Bytes) := []

/-- the event "connection `c` sends the request `fields`" -/
def request (mode : Mode) (c : Nat) (fields : List Bytes) (h : Hint) : Ev :=
  .request mode c fields (h.time :: h.clocks) h.picks

/-- the one reply that connection `c` received during the last event -/
def lastReply (s : Sys) (c : Nat) : Option Reply :=
  match s.out with
  | [(c', r)] => if c' = c then some r else none
  | _ => none

structure IterOut where
  pages : List (List Reply)
  /-- cursor 0 came back -/
  finished : Bool
  final : Sys

/-- the client loop: send `req cursor`, read the reply, continue with the returned cursor until it is 0.
One `Hint` is used per request; the loop also stops when the hints run out or a reply is not a SCAN page. -/
def iter (mode : Mode) (c : Nat) (req : Int → List Bytes) : List Hint → Int → Sys → IterOut
  | [], _, s => ⟨[], false, s⟩
  | h :: hs, cur, s =>
    let s' := stepEv s (request mode c (req cur) h)
    match (lastReply s' c).bind decodeScanReply with
    | none => ⟨[], false, s'⟩
    | some (next, page) =>
      if next = 0 then ⟨[page], true, s'⟩
      else
        let o := iter mode c req hs next s'
        ⟨page :: o.pages, o.finished, o.final⟩

theorem scanPage_next {α} (E : List α) (keyOf : α → Bytes) (ty : Bytes → Bytes) (cur : Int) (o : ScanOpts)
    (h0 : (scanPage E keyOf ty cur o).1 ≠ 0) :
    (scanPage E keyOf ty cur o).1 = cur + o.count ∧ cur + o.count < E.length := by
  rw [scanPage_fst] at h0 ⊢
  split
  · rename_i hge; rw [if_pos hge] at h0; exact absurd rfl h0
  · exact ⟨rfl, by omega⟩

/-- The loop against any server that answers every call with one `scanPage` over a fixed list `E`.  `I hs s`: what holds
of the state `s` in front of a call when the hints `hs` are left; `Q`: what holds after every single request. -/
theorem iter_spec {α} (mode : Mode) (c : Nat) (req : Int → List Bytes) (I : List Hint → Sys → Prop) (Q : Sys → Prop)
    (E : List α) (keyOf : α → Bytes) (ty : Bytes → Bytes) (o : ScanOpts) (render : List α → List Reply)
    (hcount : 0 < o.count)
    (hstep : ∀ h hs (cur : Int) s, I (h :: hs) s → 0 ≤ cur → (cur = 0 ∨ cur < E.length) →
      (lastReply (stepEv s (request mode c (req cur) h)) c).bind decodeScanReply =
        some ((scanPage E keyOf ty cur o).1, render (scanPage E keyOf ty cur o).2) ∧
      I hs (stepEv s (request mode c (req cur) h)) ∧ Q (stepEv s (request mode c (req cur) h))) :
    ∀ (fuel : Nat) (cur : Int) (hs : List Hint) (s : Sys), I hs s → 0 ≤ cur → (cur = 0 ∨ cur < E.length) →
      scanFinished E keyOf ty o fuel cur = true → (scanPages E keyOf ty o fuel cur).length ≤ hs.length →
      (iter mode c req hs cur s).pages = (scanPages E keyOf ty o fuel cur).map render ∧
      (iter mode c req hs cur s).finished = true ∧
      I (hs.drop (scanPages E keyOf ty o fuel cur).length) (iter mode c req hs cur s).final ∧
      Q (iter mode c req hs cur s).final := by
  intro fuel
  induction fuel with
  | zero => intro cur hs s _ _ _ hf; simp [scanFinished] at hf
  | succ fuel ih =>
    intro cur hs s hI hc hr hf hl
    cases hs with
    | nil =>
      simp only [scanPages] at hl
      split at hl <;> simp at hl
    | cons h hs =>
      obtain ⟨hd, hI', hQ⟩ := hstep h hs cur s hI hc hr
      simp only [iter, hd]
      simp only [scanPages, scanFinished] at hf hl ⊢
      by_cases h0 : (scanPage E keyOf ty cur o).1 = 0
      · simp only [h0, if_true, List.map_cons, List.map_nil, List.length_cons, List.length_nil, List.drop_succ_cons,
          List.drop_zero, true_and]
        exact ⟨hI', hQ⟩
      · simp only [h0, if_false, List.map_cons, List.length_cons, List.drop_succ_cons] at hf hl ⊢
        have hnext := scanPage_next E keyOf ty cur o h0
        have := ih (scanPage E keyOf ty cur o).1 hs _ hI' (by omega) (Or.inr (by omega)) hf (by omega)
        exact ⟨by rw [this.1], this.2.1, this.2.2⟩

/-- `iter_spec` from cursor 0 with enough hints.  `hflat`: rendering commutes with concatenation; `Q` holds at the end
because at least one request is made -/
theorem iter_complete {α} (mode : Mode) (c : Nat) (req : Int → List Bytes) (I : List Hint → Sys → Prop) (Q : Sys → Prop)
    (E : List α) (keyOf : α → Bytes) (ty : Bytes → Bytes) (o : ScanOpts) (render : List α → List Reply)
    (hcount : 0 < o.count) (hflat : ∀ ps : List (List α), (ps.map render).flatten = render ps.flatten)
    (hstep : ∀ h hs (cur : Int) s, I (h :: hs) s → 0 ≤ cur → (cur = 0 ∨ cur < E.length) →
      (lastReply (stepEv s (request mode c (req cur) h)) c).bind decodeScanReply =
        some ((scanPage E keyOf ty cur o).1, render (scanPage E keyOf ty cur o).2) ∧
      I hs (stepEv s (request mode c (req cur) h)) ∧ Q (stepEv s (request mode c (req cur) h)))
    (hs : List Hint) (s : Sys) (hI : I hs s) (hlen : scanCalls E.length o.count.toNat ≤ hs.length) :
    (iter mode c req hs 0 s).finished = true ∧
    (iter mode c req hs 0 s).pages = (scanPages E keyOf ty o (E.length + 1) 0).map render ∧
    (iter mode c req hs 0 s).pages.length = scanCalls E.length o.count.toNat ∧
    (iter mode c req hs 0 s).pages.flatten = render (E.filter (matchPredicate keyOf ty o)) ∧
    I (hs.drop (scanCalls E.length o.count.toNat)) (iter mode c req hs 0 s).final ∧ Q (iter mode c req hs 0 s).final := by
  have hp := scanPages_complete E keyOf ty o hcount
  have := iter_spec mode c req I Q E keyOf ty o render hcount hstep (E.length + 1) 0 hs s hI (by omega) (Or.inl rfl)
    (scan_terminates E keyOf ty o hcount).2 (by rw [hp.2]; exact hlen)
  rw [hp.2] at this
  obtain ⟨h1, h2, h3, h4⟩ := this
  exact ⟨h2, h1, by rw [h1, List.length_map, hp.2], by rw [h1, hflat, hp.1], h3, h4⟩

/-! ## 5. One SCAN event -/

/-- the state in which an event starts: per-event outputs reset, hints loaded -/
def start (s : Sys) (h : Hint) : Sys := s.beginEvent.withHints (h.time :: h.clocks) h.picks

theorem stepEv_request (s : Sys) (mode : Mode) (c : Nat) (fields : List Bytes) (h : Hint) :
    stepEv s (request mode c fields h) = (processCommand mode c fields (start s h)).2 := rfl

theorem start_srv (s : Sys) (h : Hint) : (start s h).srv = s.srv := rfl
theorem start_conn (s : Sys) (h : Hint) (c : Nat) : (start s h).conn c = s.conn c := rfl

theorem prologue_start_dbAt (s : Sys) (h : Hint) (d : Nat) :
    (prologue (start s h)).dbAt d = ⟨s.srv.dbs.getD d [], h.time⟩ := by
  rw [prologue_dbAt]; rfl

/-- a request that at most replaces the selected database (by `X`, if `reach`) and replies `r` once -/
theorem quiet_event (s : Sys) (h : Hint) (c : Nat) (reach : Bool) (X : Db) (r : Reply)
    (hclosed : (s.conn c).closed = false) :
    let p := prologue (start s h)
    let d := (s.conn c).db
    let s' := markDead ((if reach then p.setDbS d X else p).emitS c r) c
    s'.out = [(c, r)] ∧ s'.srv.dbs = (if reach then s.srv.dbs.set d X.dict else s.srv.dbs) ∧
    s'.srv.time = h.time ∧ s'.srv.version = s.srv.version ∧ s'.fault = none ∧ s'.crashed = none ∧
    (s'.conn c).db = (s.conn c).db ∧ (s'.conn c).tx = (s.conn c).tx ∧ (s'.conn c).pubsub = (s.conn c).pubsub ∧
    (s'.conn c).closed = false := by
  intro p d s'
  have hR : Ran (start s h) s' c r (if reach then X.dict else s.srv.dbs.getD d []) := by
    cases reach
    · exact .of_run (.refl _) ((prologue_dbs _).trans (set_getD_self ..).symm)
    · exact .of_run (.setDbS ..) (congrArg (fun l => l.set d X.dict) (prologue_dbs _))
  have hf : s'.fault = none := by
    refine (afterRun_proj (·.fault) (fun _ _ _ => rfl) c r _).trans (.trans ?_ (prologue_fault (start s h) (t := h.time) (r := h.clocks) rfl))
    cases reach <;> rfl
  refine ⟨by rw [hR.out, start_conn, hclosed]; rfl, hR.dbs.trans ?_, hR.time, hR.version, hf, hR.crashed,
    hR.field Conn.db (fun _ => rfl) c, hR.field Conn.tx (fun _ => rfl) c, hR.field Conn.pubsub (fun _ => rfl) c,
    (hR.field Conn.closed (fun _ => rfl) c).trans hclosed⟩
  cases reach
  · exact set_getD_self ..
  · rfl

/-- One SCAN event of a connection in normal mode: the reply is `scanAnswer` on the selected database at the clock
reading the request brings; that database is purged if the body was reached; nothing else changes. -/
theorem scan_event (mode : Mode) (c : Nat) (nameB cb : Bytes) (opts : List Bytes) (s : Sys) (h : Hint)
    (hname : lookupSig nameB = some scanSig) (htx : (s.conn c).tx = none) (hpub : (s.conn c).pubsub = 0)
    (hclosed : (s.conn c).closed = false) :
    let s' := stepEv s (request mode c (nameB :: cb :: opts) h)
    let db : Db := ⟨s.srv.dbs.getD (s.conn c).db [], h.time⟩
    s'.out = [(c, scanAnswer db cb opts)] ∧
    s'.srv.dbs = (if scanReaches cb opts then s.srv.dbs.set (s.conn c).db (Db.purge db).dict else s.srv.dbs) ∧
    s'.srv.time = h.time ∧ s'.fault = none ∧ s'.crashed = none ∧
    (s'.conn c).db = (s.conn c).db ∧ (s'.conn c).tx = none ∧ (s'.conn c).pubsub = 0 ∧
    (s'.conn c).closed = false := by
  intro s' db
  have e : s' = markDead ((if scanReaches cb opts then (prologue (start s h)).setDbS (s.conn c).db (Db.purge db)
      else prologue (start s h)).emitS c (scanAnswer db cb opts)) c := by
    show stepEv s _ = _
    rw [stepEv_request, processCommand_scan mode c nameB cb opts (start s h) hname htx hpub]
    unfold scanStep afterScan
    rw [start_conn, prologue_start_dbAt]
  obtain ⟨h1, h2, h3, _, h5, h6, h7, h8, h9, h10⟩ := quiet_event s h c (scanReaches cb opts) (Db.purge db)
    (scanAnswer db cb opts) hclosed
  rw [← e] at h1 h2 h3 h5 h6 h7 h8 h9 h10
  exact ⟨h1, h2, h3, h5, h6, h7, h8.trans htx, h9.trans hpub, h10⟩

/-! ## 6. The SCAN iteration -/

/-- the stored type of a key of a dictionary, as the TYPE filter sees it -/
def dictType (dict : Dict) : Bytes → Bytes := typeNameOf ⟨dict, 0⟩

theorem typeNameOf_eq (db : Db) : typeNameOf db = dictType db.dict := rfl

/-- the entries of `dict` that are not expired at clock `t` -/
def purgeAt (t : Int) (dict : Dict) : Dict := (Db.purge ⟨dict, t⟩).dict

theorem purgeAt_idem (t : Int) (dict : Dict) : purgeAt t (purgeAt t dict) = purgeAt t dict := by
  unfold purgeAt
  exact congrArg Db.dict (Db.purge_idem ⟨dict, t⟩)

/-- The cursor the client sends back goes through `Int.decode` (up to 2^63 - 1): the source of the bound `≤ 2 ^ 63` on
the number of elements in the iteration theorems, since every cursor returned is below that number. -/
theorem convInt_intBytes {n : Int} (h0 : 0 ≤ n) (h1 : n < 2 ^ 63) : Conv.int (intBytes n) = .ok n := by
  unfold Conv.int Conv.intRange
  rw [FR.parseCanonInt_intBytes]
  have e1 : Conv.INT_MIN = -9223372036854775808 := by decide
  have e2 : Conv.INT_MAX = 9223372036854775807 := by decide
  simp only [e1, e2]
  rw [if_pos (by omega)]

theorem scanAnswer_decode (db : Db) (cur : Int) (opts : List Bytes) (o : ScanOpts)
    (hp : parseScanOpts true opts {} = .ok o) (hc : 0 ≤ cur) (hint : Conv.int (intBytes cur) = .ok cur) :
    decodeScanReply (scanAnswer db (intBytes cur) opts) =
      some ((scanPage (scanKeys db) id (scanType db) cur o).1,
        ((scanPage (scanKeys db) id (scanType db) cur o).2).map .bulk) := by
  have hl : opts.length % 2 = 0 := ((parse_ok_iff true opts {}).mp ⟨o, hp⟩).1
  unfold scanAnswer scanResult
  rw [if_neg (by omega), hint]
  simp only
  rw [scanReply_parsed _ _ _ _ _ _ _ o hc hp rfl]
  exact decodeScanReply_bulk _ _

def scanReq (nameB : Bytes) (opts : List Bytes) (cur : Int) : List Bytes := nameB :: intBytes cur :: opts

/-- the invariant of a SCAN iteration by connection `c` on database `d`: `L` is the dictionary of `d` purged at
any of the clock readings still to come -/
def ScanInv (c d : Nat) (L : Dict) (hs : List Hint) (s : Sys) : Prop :=
  s.DataInv ∧ (s.conn c).tx = none ∧ (s.conn c).pubsub = 0 ∧ (s.conn c).closed = false ∧ (s.conn c).db = d ∧
  ∀ h ∈ hs, purgeAt h.time (s.srv.dbs.getD d []) = L

theorem lastReply_single (s : Sys) (c : Nat) (r : Reply) (h : s.out = [(c, r)]) : lastReply s c = some r := by
  unfold lastReply; rw [h]; simp

theorem getD_set_purge (dbs : List Dict) (d : Nat) (t : Int) :
    (dbs.set d (purgeAt t (dbs.getD d []))).getD d [] = purgeAt t (dbs.getD d []) := by
  by_cases hd : d < dbs.length
  · exact getD_set_self _ _ _ _ hd
  · have hd : dbs.length ≤ d := by omega
    rw [List.set_eq_of_length_le hd]
    have : dbs.getD d [] = [] := by
      rw [List.getD_eq_getElem?_getD, List.getElem?_eq_none hd]; rfl
    rw [this]; rfl

theorem scan_step (mode : Mode) (c d : Nat) (nameB : Bytes) (opts : List Bytes) (o : ScanOpts) (L : Dict)
    (hname : lookupSig nameB = some scanSig) (hp : parseScanOpts true opts {} = .ok o)
    (hbound : L.length ≤ 2 ^ 63)
    (h : Hint) (hs : List Hint) (cur : Int) (s : Sys) (hI : ScanInv c d L (h :: hs) s) (hc : 0 ≤ cur)
    (hr : cur = 0 ∨ cur < (sortBy bytesLt (L.map Prod.fst)).length) :
    (lastReply (stepEv s (request mode c (scanReq nameB opts cur) h)) c).bind decodeScanReply =
      some ((scanPage (sortBy bytesLt (L.map Prod.fst)) id (dictType L) cur o).1,
        ((scanPage (sortBy bytesLt (L.map Prod.fst)) id (dictType L) cur o).2).map .bulk) ∧
    ScanInv c d L hs (stepEv s (request mode c (scanReq nameB opts cur) h)) ∧
    (stepEv s (request mode c (scanReq nameB opts cur) h)).srv.dbs = s.srv.dbs.set d L := by
  obtain ⟨hinv, htx, hpub, hcl, hdb, hL⟩ := hI
  have hev := scan_event mode c nameB (intBytes cur) opts s h hname htx hpub hcl
  simp only at hev
  obtain ⟨hout, hdbs, htime, hfault, hcr, h1, h2, h3, h4⟩ := hev
  have hlen : (sortBy bytesLt (L.map Prod.fst)).length = L.length := by rw [length_sortBy, List.length_map]
  have hint : Conv.int (intBytes cur) = .ok cur := convInt_intBytes hc (by omega)
  have hLh : (Db.purge ⟨s.srv.dbs.getD d [], h.time⟩).dict = L := hL h (by simp)
  have hreach : scanReaches (intBytes cur) opts = true := by
    have hl : opts.length % 2 = 0 := ((parse_ok_iff true opts {}).mp ⟨o, hp⟩).1
    simp [scanReaches, hl, hint]
  rw [hdb, hreach, if_pos rfl] at hdbs
  rw [hdb] at hout
  refine ⟨?_, ?_, by rw [← hLh]; exact hdbs⟩
  · show (lastReply (stepEv s (request mode c (nameB :: intBytes cur :: opts) h)) c).bind decodeScanReply = _
    rw [lastReply_single _ c _ hout]
    simp only [Option.bind_some]
    rw [scanAnswer_decode _ cur opts o hp hc hint]
    unfold scanKeys scanType
    rw [hLh, typeNameOf_eq, hLh]
  · show ScanInv c d L hs (stepEv s (request mode c (nameB :: intBytes cur :: opts) h))
    refine ⟨?_, h2, h3, h4, by rw [h1, hdb], ?_⟩
    · intro x hx
      rw [hdbs] at hx
      rcases List.mem_or_eq_of_mem_set hx with hx | rfl
      · exact hinv x hx
      · exact (hinv.dbAt d).purge (db := ⟨s.srv.dbs.getD d [], h.time⟩)
    · intro h' hh'
      rw [hdbs]
      have := getD_set_purge s.srv.dbs d h.time
      unfold purgeAt at this
      rw [this, hLh]
      have := hL h' (by simp [hh'])
      rw [← this]
      exact purgeAt_idem _ _

/-- A complete SCAN iteration with no other event in between (C15).  `L`: the selected dictionary purged at any of the
clock readings the requests bring. -/
theorem scan_iteration (mode : Mode) (c d : Nat) (nameB : Bytes) (opts : List Bytes) (o : ScanOpts) (L : Dict)
    (hs : List Hint) (s : Sys)
    (hname : lookupSig nameB = some scanSig) (hp : parseScanOpts true opts {} = .ok o)
    (hinv : s.DataInv) (htx : (s.conn c).tx = none) (hpub : (s.conn c).pubsub = 0)
    (hcl : (s.conn c).closed = false) (hdb : (s.conn c).db = d)
    (hL : ∀ h ∈ hs, purgeAt h.time (s.srv.dbs.getD d []) = L)
    (hbound : L.length ≤ 2 ^ 63) (hlen : scanCalls L.length o.count.toNat ≤ hs.length) :
    let K := sortBy bytesLt (L.map Prod.fst)
    let out := iter mode c (scanReq nameB opts) hs 0 s
    out.finished = true ∧
    out.pages = (scanPages K id (dictType L) o (K.length + 1) 0).map (fun p => p.map Reply.bulk) ∧
    out.pages.length = scanCalls L.length o.count.toNat ∧
    out.pages.flatten = (K.filter (matchPredicate id (dictType L) o)).map Reply.bulk ∧
    out.final.srv.dbs = s.srv.dbs.set d L ∧
    ScanInv c d L (hs.drop (scanCalls L.length o.count.toNat)) out.final := by
  intro K out
  have hKlen : K.length = L.length := by
    show (sortBy bytesLt (L.map Prod.fst)).length = _
    rw [length_sortBy, List.length_map]
  obtain ⟨h1, h2, h3, h4, h5, h6⟩ := iter_complete mode c (scanReq nameB opts)
    (fun hs' s' => ScanInv c d L hs' s' ∧ s'.srv.dbs.set d L = s.srv.dbs.set d L) (fun s' => s'.srv.dbs = s.srv.dbs.set d L)
    K id (dictType L) o (fun p => p.map Reply.bulk) (parse_count_pos' hp) (fun _ => List.map_flatten.symm)
    (fun h hs' cur s' hI hc hr =>
      have hst := scan_step mode c d nameB opts o L hname hp hbound h hs' cur s' hI.1 hc hr
      ⟨hst.1, ⟨hst.2.1, by rw [hst.2.2, List.set_set, hI.2]⟩, by rw [hst.2.2, hI.2]⟩)
    hs s ⟨⟨hinv, htx, hpub, hcl, hdb, hL⟩, rfl⟩ (by rw [hKlen]; exact hlen)
  rw [hKlen] at h3 h5
  exact ⟨h1, h2, h3, h4, h6, h5.1⟩

/-! ## 7. SSCAN / HSCAN / ZSCAN through the generic runner -/

/-- what distinguishes the three keyed variants: the stored type, the element list the cursor indexes (computed from the
`CommandItem` of the key), the byte string MATCH looks at, the rendering of a page -/
structure KScan where
  name : String
  T : Ty
  α : Type
  elems : CI → List α
  keyOf : α → Bytes
  render : Nat → CI → List α → List Reply
  body : Body

namespace KScan

/-- the registered signature: `(Key(T), Int, *[bytes, bytes])` -/
def sig (K : KScan) : Sig := ⟨K.name, [.key (some K.T) .unspecified, .int], [.bytes, .bytes], false, 2, 0, true⟩

structure Ok (K : KScan) : Prop where
  find : SigTable.find K.name = some K.sig
  regular : Cmd.regular K.name = some K.body
  notScript : scriptNames.contains K.name = false
  body_eq : ∀ (ctx : Ctx) (cursor : Int) (rest : List Arg) (ci : CI),
    K.body ctx (.key 0 :: .int cursor :: rest) [ci] =
      match scanReply (K.elems ci) K.keyOf (fun _ => []) false cursor (Cmd.rawArgs rest) (K.render ctx.version ci) with
      | .ok r => ret r [ci]
      | .error e => .error e
  render_nil : ∀ v ci, K.render v ci [] = []
  render_append : ∀ v ci (a b : List K.α), K.render v ci (a ++ b) = K.render v ci a ++ K.render v ci b
  missing : ∀ key, K.elems (ciFor K.T key none) = []

end KScan

def sscanK : KScan :=
  ⟨"sscan", .set, Bytes, fun ci => sortBy bytesLt (setOf ci), id, fun _ _ p => p.map .bulk, Cmd.sscan⟩

def hscanK : KScan :=
  ⟨"hscan", .hash, Bytes, fun ci => sortBy bytesLt ((hashOf ci).map Prod.fst), id,
    fun _ ci p => p.flatMap fun f => [.bulk f, .bulk (((hashOf ci).lookup f).getD [])], Cmd.hscan⟩

def zscanK : KScan :=
  ⟨"zscan", .zset, Bytes × Dbl, fun ci => sortBy (fun a b => bytesLt a.1 b.1) (zsetOf ci).bylex, Prod.fst,
    fun v _ p => p.flatMap fun x => [.bulk x.1, .bulk (encodeFloat v x.2 false)], Cmd.zscan⟩

theorem sscanK_ok : sscanK.Ok :=
  ⟨rfl, rfl, by decide, fun _ _ _ _ => rfl, fun _ _ => rfl, fun _ _ a b => List.map_append, fun _ => rfl⟩
theorem hscanK_ok : hscanK.Ok :=
  ⟨rfl, rfl, by decide, fun _ _ _ _ => rfl, fun _ _ => rfl, fun _ _ a b => List.flatMap_append, fun _ => rfl⟩
theorem zscanK_ok : zscanK.Ok :=
  ⟨rfl, rfl, by decide, fun _ _ _ _ => rfl, fun _ _ => rfl, fun _ _ a b => List.flatMap_append, fun _ => rfl⟩

/-- the reply to `xSCAN key cb opts…` when `item` is what is stored (and not expired) under the key -/
def kscanAnswer (K : KScan) (version : Nat) (item : Option Item) (key cb : Bytes) (opts : List Bytes) : Reply :=
  if opts.length % 2 = 1 then .err (strBytes K.sig.wrongArgs) else
    match Conv.int cb with
    | .error e => .err (strBytes e)
    | .ok cursor =>
      if (match item with | some it => it.value.ty != K.T | none => false) then .err (strBytes Msgs.WRONGTYPE_MSG)
      else
        match scanReply (K.elems (ciFor K.T key item)) K.keyOf (fun _ => []) false cursor opts
            (K.render version (ciFor K.T key item)) with
        | .ok r => r
        | .error e => .err (strBytes e)

theorem ciFor_clean (T : Ty) (k : Bytes) (item : Option Item) : (ciFor T k item).Clean := by
  cases item <;> exact ⟨rfl, rfl⟩

/-- the only access to the database is the look-up of the key, after the cursor was converted -/
theorem runRegular_kscan (K : KScan) (hK : K.Ok) (ctx : Ctx) (key cb : Bytes) (opts : List Bytes) (db : Db) :
    (runRegular K.sig K.body ctx none (key :: cb :: opts) db).db =
      (if scanReaches cb opts then (db.get key).1 else db) ∧
    (runRegular K.sig K.body ctx none (key :: cb :: opts) db).reply =
      kscanAnswer K ctx.version (db.get key).2 key cb opts ∧
    (runRegular K.sig K.body ctx none (key :: cb :: opts) db).notified = [] ∧
    (runRegular K.sig K.body ctx none (key :: cb :: opts) db).picksUsed = 0 ∧
    (runRegular K.sig K.body ctx none (key :: cb :: opts) db).fault = none := by
  unfold runRegular kscanAnswer scanReaches
  rw [apply_keyscan K.sig K.T rfl rfl]
  by_cases hodd : opts.length % 2 = 1
  · have h0 : ¬ opts.length % 2 = 0 := by omega
    rw [if_pos hodd, if_pos hodd]
    simp [h0]
  · have h0 : opts.length % 2 = 0 := by omega
    rw [if_neg hodd, if_neg hodd]
    simp only [h0, decide_true, Bool.true_and]
    cases hc : Conv.int cb with
    | error e => simp
    | ok cursor =>
      simp only [if_true]
      generalize (db.get key).2 = item
      by_cases hbad : (match item with | some it => it.value.ty != K.T | none => false) = true
      · simp only [hbad, if_true]
        and_intros <;> first | rfl | trivial
      · have hclean := writebackPure_clean (cis := [ciFor K.T key item])
          (fun c hc => by rw [List.mem_singleton.1 hc]; exact ciFor_clean _ _ _)
        simp only [hbad, Bool.false_eq_true, if_false, hK.body_eq, rawArgs_map_raw]
        cases hr : scanReply (K.elems (ciFor K.T key item)) K.keyOf (fun _ => []) false cursor opts
            (K.render ctx.version (ciFor K.T key item)) with
        | ok r =>
          simp only [ret, hclean]
          and_intros <;> first | rfl | trivial
        | error e =>
          simp only [hclean, scanReply_error_not_model _ _ _ _ _ _ _ e hr]
          and_intros <;> first | rfl | trivial

/-! ## 8. One SSCAN / HSCAN / ZSCAN request at system level -/

theorem afterRegular_quiet (s : Sys) (d : Nat) (o : RunOut) (h1 : o.notified = []) (h2 : o.fault = none)
    (h3 : o.picksUsed = 0) : s.afterRegular d o = s.setDbS d o.db := by
  unfold Sys.afterRegular
  rw [h1, h2, h3]
  rfl

/-- the state after `_run_command` of a keyed scan: the key was looked up (lazy deletion) iff the cursor converted -/
def afterKScan (s : Sys) (d : Nat) (key cb : Bytes) (opts : List Bytes) : Sys :=
  if scanReaches cb opts then s.setDbS d ((s.dbAt d).get key).1 else s

theorem runCommand_kscan (K : KScan) (hK : K.Ok) (mode : Mode) (c : Nat) (key cb : Bytes) (opts : List Bytes)
    (s : Sys) (hpub : (s.conn c).pubsub = 0) :
    runCommand mode c K.sig (key :: cb :: opts) false s =
      (some (kscanAnswer K s.srv.version ((s.dbAt (s.conn c).db).get key).2 key cb opts),
        afterKScan s (s.conn c).db key cb opts) := by
  obtain ⟨h1, h2, h3, h4, h5⟩ := runRegular_kscan K hK (Ttl.ctxOf s c) key cb opts (s.dbAt (s.conn c).db)
  rw [runCommand_regular mode c K.sig _ hK.regular s hpub]
  unfold Sys.run
  rw [afterRegular_quiet _ _ _ h3 h5 h4, h1, h2]
  unfold afterKScan
  split
  · rfl
  · rw [Sys.setDbS_self]; rfl

def kscanStep (K : KScan) (s : Sys) (c : Nat) (key cb : Bytes) (opts : List Bytes) : Sys :=
  markDead ((afterKScan (prologue s) (s.conn c).db key cb opts).emitS c
    (kscanAnswer K (prologue s).srv.version (((prologue s).dbAt (s.conn c).db).get key).2 key cb opts)) c

theorem processCommand_kscan (K : KScan) (hK : K.Ok) (mode : Mode) (c : Nat) (nameB key cb : Bytes)
    (opts : List Bytes) (s : Sys)
    (hname : lookupSig nameB = some K.sig) (htx : (s.conn c).tx = none) (hpub : (s.conn c).pubsub = 0) :
    processCommand mode c (nameB :: key :: cb :: opts) s = ((), kscanStep K s c key cb opts) := by
  have hpub' : (s.prologue.conn c).pubsub = 0 := (s.prologue_conn c Conn.pubsub (fun _ => rfl)).trans hpub
  rw [processCommand_answered mode c _ s hname (by simp [Sig.checkArity, KScan.sig]) htx
    (runCommand_kscan K hK mode c key cb opts _ hpub'), s.prologue_conn c Conn.db (fun _ => rfl)]
  rfl

/-- One SSCAN / HSCAN / ZSCAN event: the only possible change of any database is the lazy deletion of the key when it is
expired at the clock reading of the request. -/
theorem kscan_event (K : KScan) (hK : K.Ok) (mode : Mode) (c : Nat) (nameB key cb : Bytes) (opts : List Bytes)
    (s : Sys) (h : Hint)
    (hname : lookupSig nameB = some K.sig) (htx : (s.conn c).tx = none) (hpub : (s.conn c).pubsub = 0)
    (hclosed : (s.conn c).closed = false) :
    let s' := stepEv s (request mode c (nameB :: key :: cb :: opts) h)
    let db : Db := ⟨s.srv.dbs.getD (s.conn c).db [], h.time⟩
    s'.out = [(c, kscanAnswer K s.srv.version (db.get key).2 key cb opts)] ∧
    s'.srv.dbs = (if scanReaches cb opts then s.srv.dbs.set (s.conn c).db (db.get key).1.dict else s.srv.dbs) ∧
    s'.srv.time = h.time ∧ s'.srv.version = s.srv.version ∧ s'.fault = none ∧ s'.crashed = none ∧
    (s'.conn c).db = (s.conn c).db ∧ (s'.conn c).tx = none ∧ (s'.conn c).pubsub = 0 ∧
    (s'.conn c).closed = false := by
  intro s' db
  have e : s' = markDead ((if scanReaches cb opts then (prologue (start s h)).setDbS (s.conn c).db (db.get key).1
      else prologue (start s h)).emitS c (kscanAnswer K s.srv.version (db.get key).2 key cb opts)) c := by
    show stepEv s _ = _
    rw [stepEv_request, processCommand_kscan K hK mode c nameB key cb opts (start s h) hname htx hpub]
    unfold kscanStep afterKScan
    rw [start_conn, prologue_start_dbAt, prologue_version]
    rfl
  obtain ⟨h1, h2, h3, h4, h5, h6, h7, h8, h9, h10⟩ := quiet_event s h c (scanReaches cb opts)
    (db.get key).1 (kscanAnswer K s.srv.version (db.get key).2 key cb opts) hclosed
  rw [← e] at h1 h2 h3 h4 h5 h6 h7 h8 h9 h10
  exact ⟨h1, h2, h3, h4, h5, h6, h7, h8.trans htx, h9.trans hpub, h10⟩

/-! ## 9. The SSCAN / HSCAN / ZSCAN iteration -/

theorem get_live_entry {db : Db} {k : Bytes} {it : Item} (h : db.dict.lookup k = some it)
    (he : db.expired it = false) : db.get k = (db, some it) := by
  unfold Db.get; rw [h]; simp [he]

theorem get_absent {db : Db} {k : Bytes} (h : db.dict.lookup k = none) : db.get k = (db, none) := by
  unfold Db.get; rw [h]

def LiveAt (it : Item) (t : Int) : Prop := ∀ e, it.expireat = some e → t ≤ e

theorem expired_false_iff (D : Dict) (t : Int) (it : Item) :
    (Db.expired ⟨D, t⟩ it = false) ↔ LiveAt it t := by
  unfold Db.expired LiveAt
  cases it.expireat with
  | none => simp
  | some e => simp

theorem expired_false_of_liveAt {it : Item} {t : Int} (h : LiveAt it t) (dict : Dict) :
    Db.expired ⟨dict, t⟩ it = false :=
  (expired_false_iff dict t it).2 h

theorem render_flatten (K : KScan) (hK : K.Ok) (v : Nat) (ci : CI) (ps : List (List K.α)) :
    (ps.map (K.render v ci)).flatten = K.render v ci ps.flatten := by
  induction ps with
  | nil => simp [hK.render_nil]
  | cons p ps ih => simp only [List.map_cons, List.flatten_cons, ih, hK.render_append]

theorem kscanAnswer_decode (K : KScan) (hK : K.Ok) (v : Nat) (it : Item) (hty : it.value.ty = K.T) (key : Bytes)
    (cur : Int) (opts : List Bytes) (o : ScanOpts)
    (hp : parseScanOpts false opts {} = .ok o) (hc : 0 ≤ cur) (hint : Conv.int (intBytes cur) = .ok cur) :
    decodeScanReply (kscanAnswer K v (some it) key (intBytes cur) opts) =
      some ((scanPage (K.elems (ciFor K.T key (some it))) K.keyOf (fun _ => []) cur o).1,
        K.render v (ciFor K.T key (some it))
          (scanPage (K.elems (ciFor K.T key (some it))) K.keyOf (fun _ => []) cur o).2) := by
  have hl : opts.length % 2 = 0 := ((parse_ok_iff false opts {}).mp ⟨o, hp⟩).1
  unfold kscanAnswer
  rw [if_neg (by omega), hint]
  have hne : (it.value.ty != K.T) = false := by simp [hty]
  simp only [hne, Bool.false_eq_true, if_false]
  rw [scanReply_parsed _ _ _ _ _ _ _ o hc hp (hK.render_nil _ _)]
  exact decodeScanReply_bulk _ _

def kscanReq (nameB key : Bytes) (opts : List Bytes) (cur : Int) : List Bytes := nameB :: key :: intBytes cur :: opts

/-- the invariant of a keyed iteration: the dictionaries are `dbs`, they hold `it` under `key`, not expired at any of the
readings to come; `v` is the emulated version -/
def KInv (c d : Nat) (key : Bytes) (it : Item) (v : Nat) (dbs : List Dict) (hs : List Hint) (s : Sys) : Prop :=
  (s.conn c).tx = none ∧ (s.conn c).pubsub = 0 ∧ (s.conn c).closed = false ∧ (s.conn c).db = d ∧
  s.srv.version = v ∧ s.srv.dbs = dbs ∧ (dbs.getD d []).lookup key = some it ∧ ∀ h ∈ hs, LiveAt it h.time

theorem kscan_step (K : KScan) (hK : K.Ok) (mode : Mode) (c d : Nat) (nameB key : Bytes) (opts : List Bytes)
    (o : ScanOpts) (it : Item) (v : Nat) (dbs : List Dict)
    (hname : lookupSig nameB = some K.sig) (hp : parseScanOpts false opts {} = .ok o)
    (hty : it.value.ty = K.T) (hbound : (K.elems (ciFor K.T key (some it))).length ≤ 2 ^ 63)
    (h : Hint) (hs : List Hint) (cur : Int) (s : Sys) (hI : KInv c d key it v dbs (h :: hs) s) (hc : 0 ≤ cur)
    (hr : cur = 0 ∨ cur < (K.elems (ciFor K.T key (some it))).length) :
    (lastReply (stepEv s (request mode c (kscanReq nameB key opts cur) h)) c).bind decodeScanReply =
      some ((scanPage (K.elems (ciFor K.T key (some it))) K.keyOf (fun _ => []) cur o).1,
        K.render v (ciFor K.T key (some it))
          (scanPage (K.elems (ciFor K.T key (some it))) K.keyOf (fun _ => []) cur o).2) ∧
    KInv c d key it v dbs hs (stepEv s (request mode c (kscanReq nameB key opts cur) h)) := by
  obtain ⟨htx, hpub, hcl, hdb, hv, hdbs, hlook, hlive⟩ := hI
  have hev := kscan_event K hK mode c nameB key (intBytes cur) opts s h hname htx hpub hcl
  simp only at hev
  obtain ⟨hout, hdbs', htime, hver, hfault, hcr, h1, h2, h3, h4⟩ := hev
  have hint : Conv.int (intBytes cur) = .ok cur := convInt_intBytes hc (by omega)
  rw [hdb, hdbs] at hout hdbs'
  have hget : (⟨dbs.getD d [], h.time⟩ : Db).get key = (⟨dbs.getD d [], h.time⟩, some it) :=
    get_live_entry hlook (expired_false_of_liveAt (hlive h (by simp)) _)
  rw [hget] at hout hdbs'
  constructor
  · show (lastReply (stepEv s (request mode c (nameB :: key :: intBytes cur :: opts) h)) c).bind decodeScanReply = _
    rw [lastReply_single _ c _ hout]
    simp only [Option.bind_some]
    rw [hv, kscanAnswer_decode K hK v it hty key cur opts o hp hc hint]
  · show KInv c d key it v dbs hs (stepEv s (request mode c (nameB :: key :: intBytes cur :: opts) h))
    refine ⟨h2, h3, h4, by rw [h1, hdb], by rw [hver, hv], ?_, hlook, fun h' hh' => hlive h' (by simp [hh'])⟩
    rw [hdbs']
    split
    · exact set_getD_self _ _ _
    · rfl

/-! ## 10. Error replies at command level -/

/-- what the client receives for a result of `_scan`: a raised `SimpleError` arrives as the error reply -/
def replyOf (res : Except Err Reply) : Reply :=
  match res with
  | .ok r => r
  | .error e => .err (strBytes e)

theorem replyOf_isErr {α} (elems : List α) keyOf typeName (t : Bool) (cursor : Int) opts render :
    (replyOf (scanReply elems keyOf typeName t cursor opts render)).isErr = true ↔
      (cursor < 0 ∨ opts.length % 2 = 1 ∨ allPairsOk t opts = false) := by
  rw [← scan_errors_iff elems keyOf typeName t cursor opts render]
  cases h : scanReply elems keyOf typeName t cursor opts render with
  | ok r => simp [replyOf, Cmd.scanReply_not_err h]
  | error e => simp [replyOf, Reply.isErr]

theorem scanAnswer_eq (D : Db) (cb : Bytes) (opts : List Bytes) :
    scanAnswer D cb opts =
      if opts.length % 2 = 1 then .err (strBytes scanSig.wrongArgs) else
        match Conv.int cb with
        | .error e => .err (strBytes e)
        | .ok cursor => replyOf (scanResult D cursor opts) := by
  unfold scanAnswer replyOf
  split
  · rfl
  · cases Conv.int cb <;> rfl

theorem kscanAnswer_eq (K : KScan) (v : Nat) (item : Option Item) (key cb : Bytes) (opts : List Bytes) :
    kscanAnswer K v item key cb opts =
      if opts.length % 2 = 1 then .err (strBytes K.sig.wrongArgs) else
        match Conv.int cb with
        | .error e => .err (strBytes e)
        | .ok cursor =>
          if (match item with | some it => it.value.ty != K.T | none => false) then .err (strBytes Msgs.WRONGTYPE_MSG)
          else replyOf (scanReply (K.elems (ciFor K.T key item)) K.keyOf (fun _ => []) false cursor opts
            (K.render v (ciFor K.T key item))) := by
  unfold kscanAnswer replyOf
  split
  · rfl
  · cases Conv.int cb with
    | error e => rfl
    | ok c => rfl

theorem replyOf_errors {α} (elems : List α) keyOf typeName (t : Bool) (cursor : Int) opts render :
    (cursor < 0 → replyOf (scanReply elems keyOf typeName t cursor opts render) =
      .err (strBytes Msgs.INVALID_CURSOR_MSG)) ∧
    (∀ pre a v rest, opts = pre ++ a :: v :: rest → 0 ≤ cursor → rest.length % 2 = 0 →
      pre.length % 2 = 0 → allPairsOk t pre = true → optPairOk t a v = false →
      replyOf (scanReply elems keyOf typeName t cursor opts render) = .err (strBytes (optPairErr a v))) := by
  refine ⟨fun h => ?_, fun pre a v rest e hc hr hp hok hbad => ?_⟩
  · rw [scan_errors_cursor elems keyOf typeName t cursor opts render h]; rfl
  · rw [e, scan_errors_bad_option elems keyOf typeName t cursor pre a v rest render hc hr hp hok hbad]; rfl

/-! ## 11. Interleaved writes -/

/-- what one SCAN call sees: the sorted list of live keys and their types at that moment -/
structure View where
  keys : List Bytes
  ty : Bytes → Bytes

/-- the cursor dialogue when the key list may differ at every call, until cursor 0 comes back or the views run out -/
def pureDialogue (o : ScanOpts) : List View → Int → List (Int × List Bytes)
  | [], _ => []
  | v :: rest, cur =>
    let r := scanPage v.keys id v.ty cur o
    (r.1, r.2) :: (if r.1 = 0 then [] else pureDialogue o rest r.1)

/-- the number of keys smaller than `k`: the index of `k` in the sorted list -/
def rank (k : Bytes) (keys : List Bytes) : Nat := (keys.filter (fun x => bytesLt x k)).length

theorem sorted_rank {k : Bytes} : ∀ {K : List Bytes}, K.Pairwise (fun a b => bytesLt a b = true) → k ∈ K →
    K[rank k K]? = some k
  | [], _, h => by cases h
  | x :: xs, hs, h => by
    rw [List.pairwise_cons] at hs
    by_cases hx : x = k
    · subst hx
      have : (x :: xs).filter (fun y => bytesLt y x) = [] := by
        rw [List.filter_eq_nil_iff]
        intro y hy
        rcases List.mem_cons.1 hy with rfl | hy
        · simp [bytesLt_irrefl]
        · simp [bytesLt_asymm (hs.1 y hy)]
      simp [rank, this]
    · have hk : k ∈ xs := by
        rcases List.mem_cons.1 h with e | e
        · exact absurd e.symm hx
        · exact e
      have hlt : bytesLt x k = true := hs.1 k hk
      have : rank k (x :: xs) = rank k xs + 1 := by simp [rank, hlt]
      rw [this, List.getElem?_cons_succ]
      exact sorted_rank hs.2 hk

theorem page_mem (K : List Bytes) (ty : Bytes → Bytes) (o : ScanOpts) (cur pos : Nat) (k : Bytes)
    (hk : K[pos]? = some k) (h1 : cur ≤ pos) (h2 : (pos : Int) < cur + o.count)
    (hm : matchPredicate id ty o k = true) : k ∈ (scanPage K id ty cur o).2 := by
  rw [scanPage_snd, List.mem_filter]
  refine ⟨?_, hm⟩
  rw [List.mem_iff_getElem?]
  refine ⟨pos - cur, ?_⟩
  rw [List.getElem?_take, if_pos (by omega), List.getElem?_drop, Int.toNat_natCast]
  have : cur + (pos - cur) = pos := by omega
  rw [this, hk]

/-- What is guaranteed under interleaved writes: if at every call `k` is in the (sorted) list and passes the
filters, and the number of keys smaller than `k` never decreases from one call to a later one, then a dialogue
that reaches cursor 0 returns `k` at least once. -/
theorem cover_from (o : ScanOpts) (hc : 0 < o.count) (k : Bytes) :
    ∀ (vs : List View) (cur : Nat),
      (∀ v ∈ vs, v.keys.Pairwise (fun a b => bytesLt a b = true)) →
      (∀ v ∈ vs, k ∈ v.keys) → (∀ v ∈ vs, matchPredicate id v.ty o k = true) →
      vs.Pairwise (fun a b => rank k a.keys ≤ rank k b.keys) →
      (∀ v ∈ vs.head?, cur ≤ rank k v.keys) →
      ((pureDialogue o vs cur).getLast?).map Prod.fst = some 0 →
      ∃ p ∈ pureDialogue o vs cur, k ∈ p.2
  | [], cur, _, _, _, _, _, hfin => by simp [pureDialogue] at hfin
  | v :: rest, cur, hsort, hmem, hmatch, hrank, hcur, hfin => by
    have hpos := sorted_rank (hsort v (by simp)) (hmem v (by simp))
    have hle : cur ≤ rank k v.keys := hcur v (by simp)
    have hlt : rank k v.keys < v.keys.length := by
      rcases Nat.lt_or_ge (rank k v.keys) v.keys.length with h | h
      · exact h
      · rw [List.getElem?_eq_none h] at hpos; cases hpos
    by_cases hwin : (rank k v.keys : Int) < cur + o.count
    · exact ⟨_, by simp [pureDialogue], page_mem v.keys v.ty o cur _ k hpos hle hwin (hmatch v (by simp))⟩
    · -- the window ends before `k`: the dialogue goes on with cursor `cur + COUNT`
      have hfst : (scanPage v.keys id v.ty cur o).1 = ((cur + o.count.toNat : Nat) : Int) := by
        rw [scanPage_fst, if_neg (by omega)]; omega
      have hne : (scanPage v.keys id v.ty cur o).1 ≠ 0 := by rw [hfst]; omega
      simp only [pureDialogue, hne, if_false] at hfin ⊢
      rw [List.pairwise_cons] at hrank
      cases rest with
      | nil => simp [pureDialogue, hne] at hfin
      | cons v' rest' =>
        have hfin' : ((pureDialogue o (v' :: rest') (scanPage v.keys id v.ty cur o).1).getLast?).map Prod.fst = some 0 := by
          have hnil : pureDialogue o (v' :: rest') (scanPage v.keys id v.ty cur o).1 ≠ [] := by simp [pureDialogue]
          obtain ⟨y, ys, e⟩ := List.exists_cons_of_ne_nil hnil
          rw [e] at hfin ⊢
          simpa using hfin
        rw [hfst] at hfin' ⊢
        have := cover_from o hc k (v' :: rest') (cur + o.count.toNat)
          (fun w hw => hsort w (by simp [hw])) (fun w hw => hmem w (by simp [hw]))
          (fun w hw => hmatch w (by simp [hw])) hrank.2
          (by
            intro w hw
            simp only [List.head?_cons, Option.mem_def, Option.some.injEq] at hw
            subst hw
            have := hrank.1 v' (by simp)
            omega) hfin'
        obtain ⟨p, hp, hkp⟩ := this
        exact ⟨p, List.mem_cons_of_mem _ hp, hkp⟩

/-- the dialogue against the server when anything may happen between two calls: call `j` starts from the arbitrary
pre-state `calls[j].1` with the cursor that call `j-1` returned -/
def sysDialogue (mode : Mode) (c : Nat) (nameB : Bytes) (opts : List Bytes) :
    List (Sys × Hint) → Int → List (Int × List Reply)
  | [], _ => []
  | (s, h) :: rest, cur =>
    match (lastReply (stepEv s (request mode c (scanReq nameB opts cur) h)) c).bind decodeScanReply with
    | none => []
    | some (next, page) => (next, page) :: (if next = 0 then [] else sysDialogue mode c nameB opts rest next)

/-- the database connection `c` has selected, at the clock reading of the call -/
def callDb (c : Nat) (p : Sys × Hint) : Db := ⟨p.1.srv.dbs.getD (p.1.conn c).db [], p.2.time⟩

def viewOf (c : Nat) (p : Sys × Hint) : View := ⟨scanKeys (callDb c p), scanType (callDb c p)⟩

def CallOk (c : Nat) (p : Sys × Hint) : Prop :=
  (p.1.conn c).tx = none ∧ (p.1.conn c).pubsub = 0 ∧ (p.1.conn c).closed = false ∧
  (scanKeys (callDb c p)).length ≤ 2 ^ 63

theorem sysDialogue_eq (mode : Mode) (c : Nat) (nameB : Bytes) (opts : List Bytes) (o : ScanOpts)
    (hname : lookupSig nameB = some scanSig) (hp : parseScanOpts true opts {} = .ok o) :
    ∀ (calls : List (Sys × Hint)) (cur : Int), 0 ≤ cur → cur < 2 ^ 63 → (∀ p ∈ calls, CallOk c p) →
      sysDialogue mode c nameB opts calls cur =
        (pureDialogue o (calls.map (viewOf c)) cur).map (fun q => (q.1, q.2.map Reply.bulk))
  | [], cur, _, _, _ => rfl
  | (s, h) :: rest, cur, hc, hb, hok => by
    obtain ⟨htx, hpub, hcl, hlen⟩ := hok (s, h) (by simp)
    have hev := scan_event mode c nameB (intBytes cur) opts s h hname htx hpub hcl
    simp only at hev
    have hout := hev.1
    have hint : Conv.int (intBytes cur) = .ok cur := convInt_intBytes hc hb
    have hd : (lastReply (stepEv s (request mode c (scanReq nameB opts cur) h)) c).bind decodeScanReply =
        some ((scanPage (scanKeys (callDb c (s, h))) id (scanType (callDb c (s, h))) cur o).1,
          ((scanPage (scanKeys (callDb c (s, h))) id (scanType (callDb c (s, h))) cur o).2).map Reply.bulk) := by
      show (lastReply (stepEv s (request mode c (nameB :: intBytes cur :: opts) h)) c).bind decodeScanReply = _
      rw [lastReply_single _ c _ hout]
      simp only [Option.bind_some]
      exact scanAnswer_decode _ cur opts o hp hc hint
    have hcount : 0 < o.count := parse_count_pos' hp
    simp only [sysDialogue, hd, List.map_cons, pureDialogue, viewOf]
    by_cases h0 : (scanPage (scanKeys (callDb c (s, h))) id (scanType (callDb c (s, h))) cur o).1 = 0
    · simp [h0]
    · simp only [h0, if_false]
      have hnext := scanPage_next _ _ _ cur o h0
      have ih := sysDialogue_eq mode c nameB opts o hname hp rest
        (scanPage (scanKeys (callDb c (s, h))) id (scanType (callDb c (s, h))) cur o).1 (by omega) (by omega)
        (fun p hp' => hok p (by simp [hp']))
      rw [ih]

def liveRank (k : Bytes) (db : Db) : Nat :=
  (((Db.purge db).dict.map Prod.fst).filter (fun x => bytesLt x k)).length

theorem rank_scanKeys (k : Bytes) (db : Db) : rank k (scanKeys db) = liveRank k db := by
  unfold rank scanKeys liveRank
  exact ((sortBy_perm bytesLt _).filter _).length_eq

theorem scanKeys_sorted {db : Db} (nd : NodupKeys db.dict) :
    (scanKeys db).Pairwise (fun a b => bytesLt a b = true) :=
  sortBy_bytes_strict (Db.purge_nodup nd)

theorem mem_scanKeys {db : Db} {k : Bytes} : k ∈ scanKeys db ↔ (db.live k).isSome = true := by
  unfold scanKeys Db.live
  rw [mem_sortBy]
  cases h : (Db.purge db).dict.lookup k with
  | none =>
    simp only [Option.isSome_none, Bool.false_eq_true, iff_false]
    intro hm
    obtain ⟨q, hq, rfl⟩ := List.mem_map.1 hm
    exact (Db.lookup_none_iff.1 h) q hq rfl
  | some it =>
    simp only [Option.isSome_some, iff_true]
    exact List.mem_map.2 ⟨_, Db.lookup_some_mem h, rfl⟩

/-- The guarantee under arbitrary interleaved events (the pre-state of every call is arbitrary): if at every call `k` is a
live key of the selected database that passes MATCH and TYPE, and the number of live keys smaller than `k` never decreases
from one call to a later one, then a dialogue that reaches cursor 0 has returned `k`. -/
theorem sys_cover (mode : Mode) (c : Nat) (nameB : Bytes) (opts : List Bytes) (o : ScanOpts) (k : Bytes)
    (hname : lookupSig nameB = some scanSig) (hp : parseScanOpts true opts {} = .ok o)
    (calls : List (Sys × Hint))
    (hok : ∀ p ∈ calls, CallOk c p) (hinv : ∀ p ∈ calls, p.1.DataInv)
    (hlive : ∀ p ∈ calls, ((callDb c p).live k).isSome = true)
    (hmatch : ∀ p ∈ calls, matchPredicate id (scanType (callDb c p)) o k = true)
    (hrank : calls.Pairwise (fun a b => liveRank k (callDb c a) ≤ liveRank k (callDb c b)))
    (hfin : ((sysDialogue mode c nameB opts calls 0).getLast?).map Prod.fst = some 0) :
    ∃ p ∈ sysDialogue mode c nameB opts calls 0, Reply.bulk k ∈ p.2 := by
  have heq := sysDialogue_eq mode c nameB opts o hname hp calls 0 (by omega) (by omega) hok
  rw [heq] at hfin ⊢
  have hfin' : ((pureDialogue o (calls.map (viewOf c)) 0).getLast?).map Prod.fst = some 0 := by
    rw [List.getLast?_map] at hfin
    cases hl : (pureDialogue o (calls.map (viewOf c)) 0).getLast? with
    | none => rw [hl] at hfin; cases hfin
    | some q => rw [hl] at hfin; simpa using hfin
  have := cover_from o (parse_count_pos' hp) k (calls.map (viewOf c)) 0
    (by
      intro v hv
      obtain ⟨p, hp', rfl⟩ := List.mem_map.1 hv
      exact scanKeys_sorted ((hinv p hp').dbAt (p.1.conn c).db).1)
    (by
      intro v hv
      obtain ⟨p, hp', rfl⟩ := List.mem_map.1 hv
      exact mem_scanKeys.2 (hlive p hp'))
    (by
      intro v hv
      obtain ⟨p, hp', rfl⟩ := List.mem_map.1 hv
      exact hmatch p hp')
    (by
      rw [List.pairwise_map]
      refine hrank.imp ?_
      intro a b hab
      show rank k (scanKeys _) ≤ rank k (scanKeys _)
      rw [rank_scanKeys, rank_scanKeys]; exact hab)
    (by intro v _; exact Nat.zero_le _)
    hfin'
  obtain ⟨q, hq, hkq⟩ := this
  exact ⟨(q.1, q.2.map Reply.bulk), List.mem_map.2 ⟨q, hq, rfl⟩, List.mem_map.2 ⟨k, hkq, rfl⟩⟩

/-! ## 12. The stability hypothesis of `scan_iteration` in terms of key lists -/

theorem filter_eq_of_keys_eq (p q : Bytes × Item → Bool) : ∀ {d : Dict}, NodupKeys d →
    (d.filter p).map Prod.fst = (d.filter q).map Prod.fst → d.filter p = d.filter q
  | [], _, _ => rfl
  | x :: xs, nd, h => by
    have nd' := (Db.nodup_cons.1 nd)
    have hx : ∀ (r : Bytes × Item → Bool), x.1 ∉ (xs.filter r).map Prod.fst := by
      intro r hm
      obtain ⟨y, hy, e⟩ := List.mem_map.1 hm
      exact nd'.1 y (List.mem_filter.1 hy).1 e
    simp only [List.filter_cons] at h ⊢
    cases hp : p x <;> cases hq : q x <;> simp only [hp, hq, if_true, Bool.false_eq_true, if_false] at h ⊢
    · exact filter_eq_of_keys_eq p q nd'.2 h
    · exfalso
      apply hx p
      rw [h]; simp
    · exfalso
      apply hx q
      rw [← h]; simp
    · simp only [List.map_cons, List.cons.injEq, true_and] at h
      rw [filter_eq_of_keys_eq p q nd'.2 h]

end FR.ScanSys

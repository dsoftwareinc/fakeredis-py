import FR.Proofs.StrKeys
import FR.Proofs.HashSetCmds
import FR.Proofs.Request
/-!
# The rules for deadlines

Which commands keep, set or clear the deadline of a key (`FR/Props/C07t.lean` states it).  First for arbitrary bodies: one
that only modifies values in place keeps every deadline (`inplace_keeps`, `inplace_body_keeps`), one that replaces one
item writes that key only (`one_item`).  Then the commands, run by name (`run`).  What `FR/Proofs/StrKeys.lean`
evaluates on the key space is read off that evaluation (`run_reads`, `run_point`, `run_refused`).  SET is the exception:
`StrKeys.set_runL` asks that no empty collection is stored, which the rules for SET do not assume, so `set_spec` states
SET with predicates on the `CommandItem` and is proved from `StrKeys.set_body_eq` and `set_write_fin`.  MOVE is a special
command and is evaluated on the system state; the three `*STORE` set commands come from `HashSet.run_setopStore`.
-/
namespace FR.Ttl
open FR FR.Db
-- `StrKeys.K`, the argument type of an untyped key, under the name `Ttl.K`
export FR.StrKeys (K)

/-! ## General deadline rules for arbitrary bodies -/

theorem keepLive_of_live {db : Db} {k : Bytes} {it : Item} (h : db.live k = some it) (v : Value) :
    keepLive db.time ⟨v, it.expireat⟩ = some ⟨v, it.expireat⟩ := by
  have he : db.expired it = false := (StrKeys.live_mem h).2
  unfold Db.expired at he
  unfold keepLive
  cases hx : it.expireat with
  | none => rfl
  | some e => rw [hx] at he; simp only at he ⊢; simp only [decide_eq_false_iff_not] at he; simp [he]

theorem keepLive_item {db : Db} {k : Bytes} {it : Item} (h : db.live k = some it) :
    keepLive db.time ⟨it.value, it.expireat⟩ = some it := keepLive_of_live h it.value

/-- the deadline recorded in the live entry (`none`: no entry, or no deadline) -/
def deadline (db : Db) (k : Bytes) : Option Int := (db.live k).bind (·.expireat)

theorem keepLive_deadline (db : Db) (k : Bytes) (v : Value) :
    keepLive db.time ⟨v, deadline db k⟩ = some ⟨v, deadline db k⟩ := by
  unfold deadline
  cases h : db.live k with
  | none => rfl
  | some it => exact keepLive_of_live h v

theorem FromLive.expireat {db : Db} {c : CI} (h : FromLive db.live c) : c.expireat = deadline db c.key := by
  obtain ⟨ty, h⟩ := h; rw [h, ciOf_expireat, ciOf_key]; rfl

/-- `cis'` differs from `cis` by in-place modifications only: same keys, same deadlines, deadline never assigned -/
def InPlace (cis cis' : List CI) : Prop :=
  cis'.length = cis.length ∧
  ∀ i, (ciAt cis' i).key = (ciAt cis i).key ∧ (ciAt cis' i).expireat = (ciAt cis i).expireat ∧
    (ciAt cis' i).expMod = (ciAt cis i).expMod

theorem InPlace.refl (cis : List CI) : InPlace cis cis := ⟨rfl, fun _ => ⟨rfl, rfl, rfl⟩⟩

theorem InPlace.trans {a b c : List CI} (h1 : InPlace a b) (h2 : InPlace b c) : InPlace a c :=
  ⟨h2.1.trans h1.1, fun i => ⟨(h2.2 i).1.trans (h1.2 i).1, (h2.2 i).2.1.trans (h1.2 i).2.1,
    (h2.2 i).2.2.trans (h1.2 i).2.2⟩⟩

theorem ciAt_set (cis : List CI) (i j : Nat) (c : CI) :
    ciAt (cis.set i c) j = if i = j ∧ i < cis.length then c else ciAt cis j := by
  unfold ciAt
  simp only [List.getD_eq_getElem?_getD, List.getElem?_set]
  by_cases h : i = j
  · subst h
    by_cases h' : i < cis.length
    · simp [h']
    · simp [h']
  · simp [h]

theorem InPlace.set (cis : List CI) (i : Nat) (c : CI) (hk : c.key = (ciAt cis i).key)
    (he : c.expireat = (ciAt cis i).expireat) (hm : c.expMod = (ciAt cis i).expMod) :
    InPlace cis (cis.set i c) := by
  refine ⟨List.length_set, fun j => ?_⟩
  rw [ciAt_set]
  split
  · rename_i h; obtain ⟨rfl, _⟩ := h; exact ⟨hk, he, hm⟩
  · exact ⟨rfl, rfl, rfl⟩

theorem InPlace.set_update (cis : List CI) (i : Nat) (v : Value) :
    InPlace cis (cis.set i ((ciAt cis i).update v)) := InPlace.set cis i _ rfl rfl rfl

theorem mem_ciAt {cis : List CI} {c : CI} (h : c ∈ cis) : ∃ i, i < cis.length ∧ ciAt cis i = c := by
  obtain ⟨i, hi, rfl⟩ := List.mem_iff_getElem.1 h
  exact ⟨i, hi, by simp [ciAt, List.getD_eq_getElem?_getD, hi]⟩

/-- `keepLive` hands back the item itself or nothing -/
theorem keepLive_some {t : Int} {it it' : Item} (h : keepLive t it = some it') : it' = it := by
  unfold keepLive at h
  split at h
  · exact (Option.some.inj h).symm
  · split at h
    · cases h
    · exact (Option.some.inj h).symm

/-- an item whose deadline was not assigned leaves an entry with the item's own deadline, or the entry that was there -/
theorem wbLive_expireat {t : Int} {c : CI} {cur : Option Item} {it : Item} (hx : c.expMod = false)
    (h : wbLive t c cur = some it) : it.expireat = c.expireat ∨ cur = some it := by
  unfold wbLive at h
  rw [hx] at h
  split at h
  · split at h
    · cases h
    · split at h
      · cases h
      · exact Or.inl (congrArg Item.expireat (keepLive_some h))
  · exact Or.inr h

theorem wbFold_keeps (t : Int) (k : Bytes) (e0 : Option Int) (cis : List CI) (cur : Option Item)
    (hcur : ∀ it, cur = some it → it.expireat = e0)
    (h : ∀ c ∈ cis, c.key = k → c.expMod = false ∧ c.expireat = e0) :
    ∀ it, wbFold t k cis cur = some it → it.expireat = e0 := by
  induction cis generalizing cur with
  | nil => exact hcur
  | cons c cs ih =>
    rw [wbFold_cons]
    apply ih _ _ (fun c' hc' => h c' (by simp [hc']))
    split
    · rename_i hk
      obtain ⟨h1, h2⟩ := h c (by simp) hk
      intro it hit
      rcases wbLive_expireat h1 hit with he | hc
      · exact he.trans h2
      · exact hcur it hc
    · exact hcur

theorem inplace_keeps (sig : Sig) (body : Body) (ctx : Ctx) (raw : List Bytes) {db : Db} (nd : NodupKeys db.dict)
    {args : List Arg} {cis : List CI} {o : BodyOut}
    (ha : applyL db.live sig raw = .ok (.ok args cis)) (hb : body ctx args cis = .ok o)
    (hip : InPlace cis o.cis) (k : Bytes) (it : Item)
    (hl : (runRegular sig body ctx none raw db).db.live k = some it) :
    it.expireat = deadline db k := by
  rw [(run_ok sig body ctx raw nd ha hb).2.2 k] at hl
  refine wbFold_keeps db.time k (deadline db k) o.cis (db.live k) ?_ ?_ it hl
  · intro it' h'; unfold deadline; rw [h']; rfl
  · intro c hc hk
    obtain ⟨i, hi, rfl⟩ := mem_ciAt hc
    have hfl := applyL_fromLive ha
    have hi' : i < cis.length := hip.1 ▸ hi
    have hmem : ciAt cis i ∈ cis := by
      simp only [ciAt, List.getD_eq_getElem?_getD, hi', List.getElem?_eq_getElem, Option.getD_some]
      exact List.getElem_mem hi'
    obtain ⟨h1, h2, h3⟩ := hip.2 i
    refine ⟨h3.trans (hfl _ hmem).clean.2, ?_⟩
    rw [h2, (hfl _ hmem).expireat, ← h1, hk]

theorem wbFold_set_clean (t : Int) (k : Bytes) (cis : List CI) (hc : ∀ c ∈ cis, c.Clean) (i : Nat)
    (hi : i < cis.length) (c' : CI) (cur : Option Item) :
    wbFold t k (cis.set i c') cur = if c'.key = k then wbLive t c' cur else cur := by
  induction cis generalizing i cur with
  | nil => simp at hi
  | cons c cs ih =>
    cases i with
    | zero =>
      simp only [List.set_cons_zero, wbFold_cons]
      exact wbFold_other _ _ _ _ (fun c'' hc'' _ => hc c'' (by simp [hc'']))
    | succ j =>
      simp only [List.set_cons_succ, wbFold_cons]
      have : (if c.key = k then wbLive t c cur else cur) = cur := by
        split
        · exact wbLive_clean (hc c (by simp)) _ _
        · rfl
      rw [this]
      exact ih (fun c'' hc'' => hc c'' (by simp [hc''])) j (by simpa using hi) cur

theorem one_item (sig : Sig) (body : Body) (ctx : Ctx) (raw : List Bytes) {db : Db} (nd : NodupKeys db.dict)
    {args : List Arg} {cis : List CI} {o : BodyOut}
    (ha : applyL db.live sig raw = .ok (.ok args cis)) (hb : body ctx args cis = .ok o)
    (i : Nat) (hi : i < cis.length) (c' : CI) (ho : o.cis = cis.set i c') (k : Bytes) :
    (runRegular sig body ctx none raw db).db.live k =
      if c'.key = k then wbLive db.time c' (db.live k) else db.live k := by
  rw [(run_ok sig body ctx raw nd ha hb).2.2 k, ho]
  exact wbFold_set_clean _ _ _ (fun c hc => (applyL_fromLive ha c hc).clean) i hi c' _

theorem run_writes (sig : Sig) (body : Body) (ctx : Ctx) (raw : List Bytes) {db : Db} (nd : NodupKeys db.dict)
    {args : List Arg} {cis : List CI} {o : BodyOut}
    (ha : applyL db.live sig raw = .ok (.ok args cis)) (hb : body ctx args cis = .ok o)
    (i : Nat) (hi : i < cis.length) (c' : CI) (ho : o.cis = cis.set i c') :
    (runRegular sig body ctx none raw db).reply = o.reply ∧
    (runRegular sig body ctx none raw db).db.live c'.key = wbLive db.time c' (db.live c'.key) ∧
    ∀ k', k' ≠ c'.key → (runRegular sig body ctx none raw db).db.live k' = db.live k' :=
  ⟨(run_ok sig body ctx raw nd ha hb).1,
    (one_item sig body ctx raw nd ha hb i hi c' ho _).trans (if_pos rfl),
    fun k' hk' => (one_item sig body ctx raw nd ha hb i hi c' ho k').trans (if_neg (Ne.symm hk'))⟩

/-! ## The concrete commands -/

/-- run the regular command `name` with its real signature and body (no gate refusal) -/
def run (name : String) (ctx : Ctx) (raw : List Bytes) (db : Db) : RunOut :=
  match SigTable.find name, Cmd.regular name with
  | some sig, some body => runRegular sig body ctx none raw db
  | _, _ => default

theorem run_of {name : String} {sig : Sig} {body : Body} (hs : SigTable.find name = some sig)
    (hb : Cmd.regular name = some body) (ctx : Ctx) (raw : List Bytes) (db : Db) :
    run name ctx raw db = runRegular sig body ctx none raw db := by
  unfold run; rw [hs, hb]

theorem run_reads {name : String} {sig : Sig} {body : Body} (hs : SigTable.find name = some sig)
    (hb : Cmd.regular name = some body) (ctx : Ctx) (raw : List Bytes) {db : Db} (nd : NodupKeys db.dict)
    {r : Reply} {L : Bytes → Option Item} (h : StrKeys.runL sig body ctx raw db.time db.live = (r, L)) :
    (run name ctx raw db).reply = r ∧ (run name ctx raw db).db.live = L ∧
    (r.isErr = true → Db.purge (run name ctx raw db).db = Db.purge db) := by
  rw [run_of hs hb]
  obtain ⟨h1, h2⟩ := StrKeys.run_eq sig body (regular_expModSound name body hb) ctx raw nd h
  refine ⟨h1, h2, fun he => ?_⟩
  have hf := (runRegular_isErr_iff_failed sig body (regular_reply_not_err name body hb) ctx none raw db).1 (h1 ▸ he)
  exact (runRegular_failed sig body ctx none raw nd hf).1.eq

theorem run_point {name : String} {sig : Sig} {body : Body} (hs : SigTable.find name = some sig)
    (hb : Cmd.regular name = some body) (ctx : Ctx) (raw : List Bytes) {db : Db} (nd : NodupKeys db.dict)
    {r : Reply} {k : Bytes} {oi : Option Item}
    (h : StrKeys.runL sig body ctx raw db.time db.live = (r, StrKeys.upd db.live k oi)) :
    (run name ctx raw db).reply = r ∧ (run name ctx raw db).db.live k = oi ∧
    ∀ k', k' ≠ k → (run name ctx raw db).db.live k' = db.live k' := by
  obtain ⟨h1, h2, _⟩ := run_reads hs hb ctx raw nd h
  exact ⟨h1, h2 ▸ StrKeys.upd_self .., fun _ hk => h2 ▸ StrKeys.upd_ne _ _ hk⟩

theorem run_refused {name : String} {sig : Sig} {body : Body} (hs : SigTable.find name = some sig)
    (hb : Cmd.regular name = some body) (ctx : Ctx) (raw : List Bytes) {db : Db} (nd : NodupKeys db.dict)
    {e : Bytes} {L : Bytes → Option Item} (h : StrKeys.runL sig body ctx raw db.time db.live = (.err e, L)) :
    (run name ctx raw db).reply = .err e ∧ Db.purge (run name ctx raw db).db = Db.purge db := by
  obtain ⟨h1, _, h3⟩ := run_reads hs hb ctx raw nd h
  exact ⟨h1, h3 rfl⟩

theorem truthy_ciOf (ty : Option Ty) (k : Bytes) (it : Item) :
    (ciOf ty k (some it)).truthy = !it.value.isEmptyColl := by
  obtain ⟨v, e⟩ := it
  cases v <;> rfl

theorem truthy_ciOf_none (k : Bytes) : (ciOf none k none).truthy = false := rfl

theorem applyL_K (live : Bytes → Option Item) (n : String) (ns : Bool) (a b : Nat) (c : Bool) (k : Bytes) :
    applyL live ⟨n, [K], [], ns, a, b, c⟩ [k] = .ok (.ok [.key 0] [ciOf none k (live k)]) := by
  rw [applyL_keyHead live _ none [] rfl (by simp) (by simp) k [] rfl rfl]
  rfl

theorem applyL_KI (live : Bytes → Option Item) (n : String) (ns : Bool) (a b : Nat) (c : Bool) (k sb : Bytes) :
    applyL live ⟨n, [K, .int], [], ns, a, b, c⟩ [k, sb] =
      match Conv.int sb with
      | .error e => .error e
      | .ok s => .ok (.ok [.key 0, .int s] [ciOf none k (live k)]) := by
  rw [applyL_keyHead live _ none [.int] rfl (by decide) (by simp) k [sb] rfl rfl]
  cases h : Conv.int sb <;> simp [Sig.types, decodeT, Conv.decode, h, Except.map, typeOK_untyped, ciOfKey]

/-- what TTL (`scale = 1`) / PTTL (`scale = 1000`) answer for a live view entry -/
def ttlAnswer (now : Int) (scale : Int) (item : Option Item) : Reply :=
  match item with
  | none => .int (-2)
  | some it =>
    if it.value.isEmptyColl then .int (-2)
    else match it.expireat with
      | none => .int (-1)
      | some e => .int (roundHalfUp ((e - now) * scale) TICKS)

theorem ttlCore_eq (ctx : Ctx) (k : Bytes) (item : Option Item) (scale : Int) :
    Cmd.ttlCore ctx [ciOf none k item] 0 scale = ret (ttlAnswer ctx.time scale item) [ciOf none k item] := by
  unfold Cmd.ttlCore ttlAnswer
  cases item with
  | none => rfl
  | some it =>
    simp only [ciAt, List.getD_cons_zero, truthy_ciOf]
    cases it.value.isEmptyColl
    · simp only [Bool.not_false, Bool.not_true, Bool.false_eq_true, if_false]
      cases h : it.expireat <;> simp [ciOf, h]
    · simp

theorem run_untouched (sig : Sig) (body : Body) (ctx : Ctx) (raw : List Bytes) {db : Db} (nd : NodupKeys db.dict)
    {args : List Arg} {cis : List CI} {o : BodyOut}
    (ha : applyL db.live sig raw = .ok (.ok args cis)) (hb : body ctx args cis = .ok o) (hc : o.cis = cis) :
    (runRegular sig body ctx none raw db).reply = o.reply ∧
    Db.purge (runRegular sig body ctx none raw db).db = Db.purge db := by
  refine ⟨(run_ok sig body ctx raw nd ha hb).1, (LiveRun.run_outcome sig body ctx raw nd).2 ?_⟩
  unfold LiveRun.returned
  simp only [ha, hb, hc]
  exact fun c h => (applyL_fromLive ha c h).clean

theorem ttl_gen (n : String) (body : Body) (scale : Int)
    (hbody : ∀ ctx cis, body ctx [.key 0] cis = Cmd.ttlCore ctx cis 0 scale)
    (ctx : Ctx) (k : Bytes) {db : Db} (nd : NodupKeys db.dict) :
    (runRegular ⟨n, [K], [], false, 1, 0, false⟩ body ctx none [k] db).reply = ttlAnswer ctx.time scale (db.live k) ∧
    Db.purge (runRegular ⟨n, [K], [], false, 1, 0, false⟩ body ctx none [k] db).db = Db.purge db := by
  have ha := applyL_K db.live n false 1 0 false k
  have hb : body ctx [.key 0] [ciOf none k (db.live k)] = .ok ⟨ttlAnswer ctx.time scale (db.live k), [ciOf none k (db.live k)], 0⟩ := by
    rw [hbody, ttlCore_eq]; rfl
  exact run_untouched _ body ctx [k] nd ha hb rfl

theorem roundHalfUp_nonneg {num den : Int} (hn : 0 ≤ num) (hd : 0 < den) : 0 ≤ roundHalfUp num den := by
  unfold roundHalfUp
  exact Int.ediv_nonneg (by omega) (by omega)

theorem live_deadline_ge {db : Db} {k : Bytes} {it : Item} {e : Int} (h : db.live k = some it)
    (he : it.expireat = some e) : db.time ≤ e := by
  have : db.expired it = false := (StrKeys.live_mem h).2
  unfold Db.expired at this
  rw [he] at this
  simp only [decide_eq_false_iff_not] at this
  omega

theorem ttlAnswer_cases {db : Db} (k : Bytes) (now scale : Int) (hnow : now = db.time) (hs : 0 < scale)
    (hne : ∀ it, db.live k = some it → it.value.isEmptyColl = false) :
    (ttlAnswer now scale (db.live k) = .int (-2) ↔ db.live k = none) ∧
    (ttlAnswer now scale (db.live k) = .int (-1) ↔ ∃ it, db.live k = some it ∧ it.expireat = none) ∧
    (∀ it e, db.live k = some it → it.expireat = some e →
      ttlAnswer now scale (db.live k) = .int (roundHalfUp ((e - now) * scale) TICKS) ∧
      0 ≤ roundHalfUp ((e - now) * scale) TICKS) := by
  have hpos : ∀ it e, db.live k = some it → it.expireat = some e →
      0 ≤ roundHalfUp ((e - now) * scale) TICKS := by
    intro it e h he
    have := live_deadline_ge h he
    apply roundHalfUp_nonneg
    · apply Int.mul_nonneg <;> omega
    · decide
  cases h : db.live k with
  | none => simp [ttlAnswer]
  | some it =>
    have hv := hne it h
    cases he : it.expireat with
    | none =>
      simp only [ttlAnswer, hv, he, Bool.false_eq_true, if_false]
      refine ⟨by simp, by simp [he], ?_⟩
      intro it' e h1 h2; cases h1; rw [he] at h2; cases h2
    | some e =>
      have := hpos it e h he
      simp only [ttlAnswer, hv, he, Bool.false_eq_true, if_false]
      refine ⟨?_, ?_, ?_⟩
      · simp only [Reply.int.injEq, reduceCtorEq, iff_false]; omega
      · simp only [Reply.int.injEq, Option.some.injEq, exists_eq_left', he, reduceCtorEq, iff_false]; omega
      · intro it' e' h1 h2; cases h1; rw [he] at h2; cases h2; exact ⟨rfl, this⟩

/-! ### EXPIRE / PEXPIRE / EXPIREAT / PEXPIREAT -/

theorem ciOf_setExpire_live (t : Int) (k : Bytes) (it : Item) (e : Option Int) (cur : Option Item)
    (hv : it.value.isEmptyColl = false) :
    wbLive t ((ciOf none k (some it)).setExpire e) cur = keepLive t ⟨it.value, e⟩ := by
  simp [wbLive, CI.setExpire, ciOf, hv]

theorem ciOf_setValue_none (t : Int) (k : Bytes) (item : Option Item) (cur : Option Item) :
    wbLive t ((ciOf none k item).setValue none) cur = none := by
  simp [wbLive, CI.setValue]

theorem expireMsBad_iff (ms b : Int) :
    Cmd.expireMsBad ms b = true ↔ (ms + b ≥ 2 ^ 63 ∨ ms < -(2 ^ 63)) := by
  simp [Cmd.expireMsBad]

/-- `_expireat` on the item of one untyped key -/
theorem expireatCore_eq (ctx : Ctx) (k : Bytes) (item : Option Item) (t : Int) :
    Cmd.expireatCore ctx [ciOf none k item] 0 t =
      if (ciOf none k item).truthy then
        ret (.int 1) [if t ≤ ctx.time then (ciOf none k item).setValue none
          else (ciOf none k item).setExpire (some t)]
      else ret (.int 0) [ciOf none k item] := by
  unfold Cmd.expireatCore
  simp only [ciAt, List.getD_cons_zero, List.set_cons_zero]
  cases (ciOf none k item).truthy
  · rfl
  · by_cases h : t ≤ ctx.time
    · simp only [Bool.not_true, Bool.false_eq_true, if_false, if_true, if_pos h]
    · simp only [Bool.not_true, Bool.false_eq_true, if_false, if_true, if_neg h]

/-- the four commands: the body refuses when `bad now s`, and otherwise is `_expireat` with the instant `ts`; `Bad` is
the refusal condition as a proposition -/
theorem expire_gen (n : String) (body : Body) (bad : Int → Int → Bool) (ts : Int → Int → Int)
    (Bad : Int → Int → Prop) (hBad : ∀ t s, bad t s = true ↔ Bad t s)
    (hbody : ∀ ctx s cis, body ctx [.key 0, .int s] cis =
      if bad ctx.time s then .error (Msgs.fmt1 Msgs.INVALID_EXPIRE_MSG n)
      else Cmd.expireatCore ctx cis 0 (ts ctx.time s))
    (ctx : Ctx) (k sb : Bytes) (s : Int) (hs : Conv.int sb = .ok s) {db : Db} (nd : NodupKeys db.dict)
    (hctx : ctx.time = db.time) :
    let out := runRegular ⟨n, [K, .int], [], false, 2, 0, false⟩ body ctx none [k, sb] db
    (Bad db.time s →
      out.reply = .err (strBytes (Msgs.fmt1 Msgs.INVALID_EXPIRE_MSG n)) ∧ Db.purge out.db = Db.purge db) ∧
    (¬ Bad db.time s →
      (db.live k = none → out.reply = .int 0 ∧ Db.purge out.db = Db.purge db) ∧
      (∀ it, db.live k = some it → it.value.isEmptyColl = false →
        out.reply = .int 1 ∧
        out.db.live k = (if ts db.time s ≤ db.time then none else some ⟨it.value, some (ts db.time s)⟩) ∧
        ∀ k', k' ≠ k → out.db.live k' = db.live k')) := by
  intro out
  have ha : applyL db.live ⟨n, [K, .int], [], false, 2, 0, false⟩ [k, sb] =
      .ok (.ok [.key 0, .int s] [ciOf none k (db.live k)]) := by
    rw [applyL_KI, hs]
  refine ⟨fun hB => ?_, fun hB => ?_⟩
  · have hb : body ctx [.key 0, .int s] [ciOf none k (db.live k)] =
        .error (Msgs.fmt1 Msgs.INVALID_EXPIRE_MSG n) := by
      rw [hbody, hctx, (hBad _ _).2 hB]; rfl
    have := run_fails ⟨n, [K, .int], [], false, 2, 0, false⟩ body ctx [k, sb] nd
      (by simp only [LiveRun.runO, ha, hb, LiveRun.finO]; rfl)
    exact ⟨this.1, this.2.2⟩
  have hgood : bad db.time s = false := by
    cases h : bad db.time s
    · rfl
    · exact absurd ((hBad _ _).1 h) hB
  have hb : body ctx [.key 0, .int s] [ciOf none k (db.live k)] =
      Cmd.expireatCore ctx [ciOf none k (db.live k)] 0 (ts db.time s) := by
    rw [hbody, hctx, hgood]; rfl
  rw [expireatCore_eq, hctx] at hb
  refine ⟨fun hl => ?_, fun it hl hv => ?_⟩
  · have ht : (ciOf none k (db.live k)).truthy = false := by rw [hl]; rfl
    rw [ht, if_neg Bool.false_ne_true] at hb
    exact run_untouched _ body ctx _ nd ha hb rfl
  · have ht : (ciOf none k (db.live k)).truthy = true := by rw [hl, truthy_ciOf, hv]; rfl
    rw [ht, if_pos rfl] at hb
    have h := run_writes _ body ctx _ nd ha hb 0 (by simp) _ rfl
    have hk : (if ts db.time s ≤ db.time then (ciOf none k (db.live k)).setValue none
        else (ciOf none k (db.live k)).setExpire (some (ts db.time s))).key = k := by
      split <;> exact ciOf_key ..
    rw [hk] at h
    refine ⟨h.1, h.2.1.trans ?_, h.2.2⟩
    rw [hl]
    split
    · exact ciOf_setValue_none ..
    · rw [ciOf_setExpire_live _ _ _ _ _ hv]
      exact keepLive_future _ (by omega)

/-- the refusal condition of EXPIRE (`n` seconds) / PEXPIRE (`n` ms) / EXPIREAT (`n` s, absolute): the deadline in
milliseconds is not a signed 64-bit number.  `now / TICKS_MS` is `int(self._db.time * 1000)`. -/
def expireOverflow (now n : Int) : Prop := n * 1000 + now / TICKS_MS ≥ 2 ^ 63 ∨ n * 1000 < -(2 ^ 63)
def pexpireOverflow (now n : Int) : Prop := n + now / TICKS_MS ≥ 2 ^ 63 ∨ n < -(2 ^ 63)
def expireatOverflow (n : Int) : Prop := n * 1000 ≥ 2 ^ 63 ∨ n * 1000 < -(2 ^ 63)

instance (now n : Int) : Decidable (expireOverflow now n) := by unfold expireOverflow; exact inferInstance
instance (now n : Int) : Decidable (pexpireOverflow now n) := by unfold pexpireOverflow; exact inferInstance
instance (n : Int) : Decidable (expireatOverflow n) := by unfold expireatOverflow; exact inferInstance

/-! ### SET (all option combinations) -/

/-- the same definition as `StrKeys.setDeadline`; the statements of `FR/Props/C07t.lean` are written with this one -/
def setDeadline (t : Int) (o : Cmd.SetOpts) (old : Option Int) : Option Int :=
  match o.px with
  | some px => some (t + px * TICKS_MS)
  | none =>
    match o.ex with
    | some ex => some (t + ex * TICKS)
    | none => if o.keepttl then old else none

/-- the two syntax refusals of SET that depend on the option combination -/
def setSyntaxBad (ctx : Ctx) (o : Cmd.SetOpts) : Bool :=
  (o.xx && o.nx ||
    decide ((((if o.px.isSome = true then 1 else 0) + if o.ex.isSome = true then 1 else 0) +
      if o.keepttl = true then 1 else 0) > 1)) ||
  (o.nx && o.get && decide (ctx.version < 7))

/-- SET … GET on a key that holds a non-string -/
def setWrong (o : Cmd.SetOpts) (c : CI) : Bool :=
  o.get && match c.val with
    | none => false
    | some (Value.str _) => false
    | some _ => true

/-- NX on an existing key / XX on a missing key: nothing is written -/
def setSkips (o : Cmd.SetOpts) (c : CI) : Bool := (o.nx && c.truthy) || (o.xx && !c.truthy)

def setOld (o : Cmd.SetOpts) (c : CI) : Reply :=
  if o.get = true then
    match c.val with
    | some (Value.str b) => Reply.bulk b
    | _ => Reply.nil
  else Reply.nil

theorem set_body (ctx : Ctx) (v : Bytes) (opts : List Bytes) (c : CI) (o : Cmd.SetOpts)
    (hp : Cmd.parseSetOpts ctx.time opts {} = .ok o) (hsyn : setSyntaxBad ctx o = false)
    (hw : setWrong o c = false) :
    Cmd.set ctx (.key 0 :: .raw v :: opts.map .raw) [c] =
      if setSkips o c then ret (setOld o c) [c]
      else ret (if o.get then setOld o c else .ok) [StrKeys.setCI ctx.time o v c] := by
  rw [StrKeys.set_body_eq, hp]
  simp only [setSyntaxBad, Bool.or_eq_false_iff] at hsyn
  have hw' : (o.get && StrKeys.notStrV c.val) = false := by
    rw [← hw]; unfold setWrong StrKeys.notStrV
    cases c.val with
    | none => rfl
    | some x => cases x <;> rfl
  have hold : (if o.get = true then StrKeys.oldStrV c.val else Reply.nil) = setOld o c := by
    unfold setOld StrKeys.oldStrV
    cases c.val with
    | none => rfl
    | some x => cases x <;> rfl
  simp only [StrKeys.setBody, hsyn.1.1, hsyn.1.2, hsyn.2, hw', hold, Bool.or_self, Bool.false_eq_true, if_false]
  unfold setSkips
  cases o.nx && c.truthy <;> cases o.xx && !c.truthy <;> rfl

theorem set_spec (ctx : Ctx) (k v : Bytes) (opts : List Bytes) {db : Db} (nd : NodupKeys db.dict)
    (hctx : ctx.time = db.time) (o : Cmd.SetOpts)
    (hp : Cmd.parseSetOpts ctx.time opts {} = .ok o) (hsyn : setSyntaxBad ctx o = false)
    (hw : setWrong o (ciOf none k (db.live k)) = false) :
    let out := run "set" ctx (k :: v :: opts) db
    (setSkips o (ciOf none k (db.live k)) = true →
      out.reply = setOld o (ciOf none k (db.live k)) ∧ Db.purge out.db = Db.purge db) ∧
    (setSkips o (ciOf none k (db.live k)) = false →
      out.reply = (if o.get then setOld o (ciOf none k (db.live k)) else .ok) ∧
      out.db.live k = some ⟨.str v, setDeadline db.time o (deadline db k)⟩ ∧
      ∀ k', k' ≠ k → out.db.live k' = db.live k') := by
  intro out
  have hc : ciOf none k (db.live k) = StrKeys.ciA db.live k := (StrKeys.ciA_eq db.live k).symm
  rw [hc] at hw ⊢
  have hbody := set_body ctx v opts (StrKeys.ciA db.live k) o hp hsyn hw
  refine ⟨fun hs => ?_, fun hs => ?_⟩
  · rw [hs, if_pos rfl] at hbody
    rw [show out = _ from run_of StrKeys.find_set rfl ctx _ db]
    exact run_untouched _ Cmd.set ctx _ nd
      ((StrKeys.applyL_eq _ _ _).symm.trans (StrKeys.applyL_set k v opts db.live)) hbody rfl
  · rw [hs, hctx, if_neg Bool.false_ne_true] at hbody
    have hpos := StrKeys.parseSetOpts_pos ctx.time opts {} o hp StrKeys.posOpts_default
    have e : StrKeys.runL StrKeys.sigSet Cmd.set ctx (k :: v :: opts) db.time db.live =
        (if o.get = true then setOld o (StrKeys.ciA db.live k) else Reply.ok,
          StrKeys.upd db.live k (some ⟨.str v, setDeadline db.time o (deadline db k)⟩)) := by
      rw [StrKeys.runL_eq, StrKeys.applyL_set]
      exact (congrArg _ hbody).trans (StrKeys.set_write_fin db.time db.live k v (StrKeys.fresh db k) o hpos _)
    exact run_point StrKeys.find_set rfl ctx _ nd e

theorem set_refused (ctx : Ctx) (k v : Bytes) (opts : List Bytes) {db : Db} (nd : NodupKeys db.dict) {e : Err}
    (hp : Cmd.parseSetOpts ctx.time opts {} = .error e) :
    (run "set" ctx (k :: v :: opts) db).reply = .err (strBytes e) ∧
    Db.purge (run "set" ctx (k :: v :: opts) db).db = Db.purge db := by
  have h : StrKeys.runL StrKeys.sigSet Cmd.set ctx (k :: v :: opts) db.time db.live = (.err (strBytes e), db.live) := by
    rw [StrKeys.runL_eq, StrKeys.applyL_set]
    simp only [StrKeys.set_body_eq, hp]
    rfl
  exact run_refused StrKeys.find_set rfl ctx _ nd h

theorem set_ex (ctx : Ctx) (k v tok sb : Bytes) (s : Int) (htok : casematch tok "ex" = true)
    (hs : Conv.int sb = .ok s) {db : Db} (nd : NodupKeys db.dict) (hctx : ctx.time = db.time) :
    let out := run "set" ctx [k, v, tok, sb] db
    ((s ≤ 0 ∨ db.time + s * TICKS ≥ 2 ^ 63 * TICKS_MS) →
      out.reply = .err (strBytes (Msgs.fmt1 Msgs.INVALID_EXPIRE_MSG "set")) ∧ Db.purge out.db = Db.purge db) ∧
    (¬ (s ≤ 0 ∨ db.time + s * TICKS ≥ 2 ^ 63 * TICKS_MS) →
      out.reply = .ok ∧ out.db.live k = some ⟨.str v, some (db.time + s * TICKS)⟩ ∧
      ∀ k', k' ≠ k → out.db.live k' = db.live k') := by
  intro out
  have hp := StrKeys.parse_ex ctx.time tok sb [] {} htok s hs
  rw [StrKeys.parse_nil, hctx] at hp
  refine ⟨fun hbad => ?_, fun hgood => ?_⟩
  · exact set_refused ctx k v [tok, sb] nd (hctx ▸ hp.trans (if_pos hbad))
  · exact (set_spec ctx k v [tok, sb] nd hctx { ex := some s } (hctx ▸ hp.trans (if_neg hgood)) rfl rfl).2 rfl

theorem set_px (ctx : Ctx) (k v tok sb : Bytes) (s : Int) (htok : casematch tok "px" = true)
    (hs : Conv.int sb = .ok s) {db : Db} (nd : NodupKeys db.dict) (hctx : ctx.time = db.time) :
    let out := run "set" ctx [k, v, tok, sb] db
    ((s ≤ 0 ∨ db.time + s * TICKS_MS ≥ 2 ^ 63 * TICKS_MS) →
      out.reply = .err (strBytes (Msgs.fmt1 Msgs.INVALID_EXPIRE_MSG "set")) ∧ Db.purge out.db = Db.purge db) ∧
    (¬ (s ≤ 0 ∨ db.time + s * TICKS_MS ≥ 2 ^ 63 * TICKS_MS) →
      out.reply = .ok ∧ out.db.live k = some ⟨.str v, some (db.time + s * TICKS_MS)⟩ ∧
      ∀ k', k' ≠ k → out.db.live k' = db.live k') := by
  intro out
  have hp := StrKeys.parse_px ctx.time tok sb [] {} htok s hs
  rw [StrKeys.parse_nil, hctx] at hp
  refine ⟨fun hbad => ?_, fun hgood => ?_⟩
  · exact set_refused ctx k v [tok, sb] nd (hctx ▸ hp.trans (if_pos hbad))
  · exact (set_spec ctx k v [tok, sb] nd hctx { px := some s } (hctx ▸ hp.trans (if_neg hgood)) rfl rfl).2 rfl

/-! ### in-place commands keep the deadline -/

theorem InPlace.of_ret {cis cis' : List CI} {r : Reply} {o : BodyOut} (h : ret r cis' = .ok o)
    (hip : InPlace cis cis') : InPlace cis o.cis := by
  simp only [ret, Except.ok.injEq] at h; subst h; exact hip

theorem InPlace.setList (cis : List CI) (k : Nat) (l : List Bytes) : InPlace cis (Cmd.setList cis k l) :=
  InPlace.set cis k _ rfl rfl rfl
theorem InPlace.putSet (cis : List CI) (k : Nat) (l : List Bytes) : InPlace cis (Cmd.putSet cis k l) :=
  InPlace.set cis k _ rfl rfl rfl
theorem InPlace.putZ (cis : List CI) (k : Nat) (z : ZSet) : InPlace cis (Cmd.putZ cis k z) :=
  InPlace.set cis k _ rfl rfl rfl

/-- closes `body … = .ok o → InPlace cis o.cis` after the body has been unfolded and split -/
macro "inplace_close" h:ident : tactic => `(tactic| first
  | contradiction
  | exact InPlace.of_ret $h (InPlace.refl _)
  | exact InPlace.of_ret $h (InPlace.set_update _ _ _)
  | exact InPlace.of_ret $h (InPlace.setList _ _ _)
  | exact InPlace.of_ret $h (InPlace.putSet _ _ _)
  | exact InPlace.of_ret $h (InPlace.putZ _ _ _)
  | exact InPlace.of_ret $h (InPlace.set _ _ _ rfl rfl rfl))

macro "inplace_auto" h:ident : tactic => `(tactic|
  repeat' (first | inplace_close $h | ((try simp only at $h:ident); split at $h:ident)))

theorem InPlace.updClosed (cis : List CI) : CIs.UpdClosed (InPlace cis) :=
  fun cis' k c h hk _ he hx => h.trans (InPlace.set cis' k c hk he hx)

theorem InPlace.of_updates {body : Body} (hb : Body.Updates body) (ctx : Ctx) (args : List Arg) (cis : List CI)
    (o : BodyOut) (h : body ctx args cis = .ok o) : InPlace cis o.cis :=
  (hb _ (InPlace.updClosed cis) ctx args cis (InPlace.refl cis) o h).1

theorem inplace_body_keeps (sig : Sig) (body : Body)
    (hip : ∀ ctx args cis o, body ctx args cis = .ok o → InPlace cis o.cis)
    (ctx : Ctx) (raw : List Bytes) {db : Db} (nd : NodupKeys db.dict) (k : Bytes) (it : Item)
    (hl : (runRegular sig body ctx none raw db).db.live k = some it) :
    it.expireat = deadline db k := by
  have hsame : Db.purge (runRegular sig body ctx none raw db).db = Db.purge db → it.expireat = deadline db k := by
    intro hp
    rw [live_eq_of_purge hp k] at hl
    unfold deadline; rw [hl]; rfl
  -- on every path but a successful body no item is handed back for write-back
  have hquiet := (LiveRun.run_outcome sig body ctx raw nd).2
  unfold LiveRun.returned at hquiet
  cases ha : applyL db.live sig raw with
  | error e => rw [ha] at hquiet; exact hsame (hquiet (by simp))
  | ok ap =>
    cases ap with
    | short r => rw [ha] at hquiet; exact hsame (hquiet (by simp))
    | ok args cis =>
      cases hb : body ctx args cis with
      | error e => simp only [ha, hb] at hquiet; exact hsame (hquiet (by simp))
      | ok o => exact inplace_keeps sig body ctx raw nd ha hb (hip ctx args cis o hb) k it hl

/-- APPEND, INCRBY, SETRANGE, SETBIT, LPUSH, RPUSH, SADD, HSET, ZADD, LPOP, RPOP, PFMERGE keep the deadline -/
def inplaceNames : List String :=
  ["append", "incrby", "setrange", "setbit", "lpush", "rpush", "sadd", "hset", "zadd", "lpop", "rpop", "pfmerge"]

/-- no signature need be registered (`run` then returns the empty default) -/
theorem updates_keep {name : String} {body : Body} (hb : Cmd.regular name = some body) (hu : Body.Updates body)
    (ctx : Ctx) (raw : List Bytes) {db : Db} (nd : NodupKeys db.dict) (k : Bytes) (it : Item)
    (hl : (run name ctx raw db).db.live k = some it) : it.expireat = deadline db k := by
  unfold run at hl
  rw [hb] at hl
  cases hs : SigTable.find name with
  | none => rw [hs] at hl; cases hl
  | some sig => rw [hs] at hl; exact inplace_body_keeps sig body (InPlace.of_updates hu) ctx raw nd k it hl

theorem inplaceNames_update : ∀ name ∈ inplaceNames, ∃ body, Cmd.regular name = some body ∧ Body.Updates body := by
  simp only [inplaceNames, List.forall_mem_cons, List.not_mem_nil, false_imp_iff, implies_true, and_true]
  exact ⟨⟨_, rfl, Cmd.append_keeps⟩, ⟨_, rfl, Cmd.incrby_keeps⟩, ⟨_, rfl, Cmd.setrange_keeps⟩,
    ⟨_, rfl, Cmd.setbit_keeps⟩, ⟨_, rfl, Cmd.lpush_keeps⟩, ⟨_, rfl, Cmd.rpush_keeps⟩, ⟨_, rfl, Cmd.sadd_keeps⟩,
    ⟨_, rfl, Cmd.hset_keeps⟩, ⟨_, rfl, Cmd.zadd_keeps⟩, ⟨_, rfl, Cmd.lpop_keeps⟩, ⟨_, rfl, Cmd.rpop_keeps⟩,
    ⟨_, rfl, Cmd.pfmerge_keeps⟩⟩

/-! ### RENAME / RENAMENX -/

theorem ciOf_val_some (k : Bytes) (it : Item) : (ciOf none k (some it)).val = some it.value := rfl

theorem renamed_reads {live L : Bytes → Option Item} {a b : Bytes} {it : Item} (hab : a ≠ b)
    (h : L = StrKeys.renamed live a b it) :
    L b = some it ∧ L a = none ∧ ∀ k', k' ≠ a → k' ≠ b → L k' = live k' := by
  rw [StrKeys.renamed, if_neg (Ne.symm hab)] at h
  subst h
  exact ⟨StrKeys.upd_self .., by rw [StrKeys.upd_ne _ _ hab, StrKeys.upd_self],
    fun k' h1 h2 => by rw [StrKeys.upd_ne _ _ h2, StrKeys.upd_ne _ _ h1]⟩

theorem rename_untouched {name : String} {n : String} {body : Body} {r : Reply}
    (hs : SigTable.find name = some ⟨n, [K, K], [], false, 2, 0, false⟩) (hb : Cmd.regular name = some body)
    (ctx : Ctx) (a b : Bytes) {db : Db} (nd : NodupKeys db.dict)
    (hbody : body ctx [.key 0, .key 1] [StrKeys.ciA db.live a, StrKeys.ciA db.live b] =
      ret r [StrKeys.ciA db.live a, StrKeys.ciA db.live b]) :
    (run name ctx [a, b] db).reply = r ∧ Db.purge (run name ctx [a, b] db).db = Db.purge db := by
  rw [run_of hs hb]
  exact run_untouched _ body ctx _ nd
    ((StrKeys.applyL_eq _ _ _).symm.trans (StrKeys.applyL_KK n false 2 0 false a b db.live)) hbody rfl

open FR.M

/-! ### MOVE (special command `moveCmd`) -/

/-- database `i` of the server as a `Db` (dict + server clock) -/
def dbAt (s : Sys) (i : Nat) : Db := ⟨s.srv.dbs.getD i [], s.srv.time⟩

/-- the state MOVE leaves when it succeeds: both look-ups (lazy expiry), the entry stored in the target,
the target's watchers notified -/
def moveDbs (s : Sys) (d D : Nat) (key : Bytes) (it : Item) : List Dict :=
  List.set (List.set (List.set s.srv.dbs D ((dbAt s D).get key).1.dict) d ((dbAt s d).get key).1.dict) D
    (setRaw ((dbAt s D).get key).1.dict key it)

def moveState (s : Sys) (d D : Nat) (key : Bytes) (it : Item) : Sys :=
  Sys.mapConns { s with srv := { s.srv with dbs := moveDbs s d D key it } } (notifyFn D key)

theorem moveCmd_ok (s : Sys) (d : Nat) (dst : Int) (cis : List CI) (it : Item)
    (hne : dst.toNat ≠ d) (htr : (ciAt cis 0).truthy = true)
    (hdst : dst.toNat < s.srv.dbs.length)
    (h1 : ((dbAt s dst.toNat).get (ciAt cis 0).key).2 = none)
    (h2 : ((dbAt s d).get (ciAt cis 0).key).2 = some it) :
    moveCmd d [.key 0, .int dst] cis s =
      (.ok (some (.int 1), cis.set 0 ((ciAt cis 0).setValue none)),
        moveState s d dst.toNat (ciAt cis 0).key it) := by
  have hne' : (dst.toNat == d) = false := by simpa using hne
  have e1 : (s.srv.dbs.set dst.toNat ((dbAt s dst.toNat).get (ciAt cis 0).key).1.dict).getD d [] =
      s.srv.dbs.getD d [] := getD_set_ne _ _ _ _ _ (Ne.symm hne)
  have e2 : ((s.srv.dbs.set dst.toNat ((dbAt s dst.toNat).get (ciAt cis 0).key).1.dict).set d
      ((dbAt s d).get (ciAt cis 0).key).1.dict).getD dst.toNat [] =
      ((dbAt s dst.toNat).get (ciAt cis 0).key).1.dict := by
    rw [getD_set_ne _ _ _ _ _ hne, getD_set_self _ _ _ _ hdst]
  unfold dbAt at h1 h2 e1 e2
  simp only [moveCmd, hne', htr, Bool.false_eq_true, if_false, Bool.not_true, bind, StateT.bind, pure, StateT.pure,
    getDb_run, setDb_run, notifyWatch_run, h1, Option.isSome_none, e1, h2, e2]
  rfl


theorem move_spec (s : Sys) (d : Nat) (dst : Int) (cis : List CI) (it : Item)
    (hne : dst.toNat ≠ d) (htr : (ciAt cis 0).truthy = true)
    (hd : d < s.srv.dbs.length) (hdst : dst.toNat < s.srv.dbs.length)
    (nds : NodupKeys (dbAt s d).dict) (ndd : NodupKeys (dbAt s dst.toNat).dict)
    (hsrc : (dbAt s d).live (ciAt cis 0).key = some it)
    (hfree : (dbAt s dst.toNat).live (ciAt cis 0).key = none) :
    let r := moveCmd d [.key 0, .int dst] cis s
    r.1 = .ok (some (.int 1), cis.set 0 ((ciAt cis 0).setValue none)) ∧
    (dbAt r.2 dst.toNat).live (ciAt cis 0).key = some it ∧
    (∀ k', k' ≠ (ciAt cis 0).key → (dbAt r.2 dst.toNat).live k' = (dbAt s dst.toNat).live k') ∧
    Db.purge (dbAt r.2 d) = Db.purge (dbAt s d) ∧
    r.2.srv.time = s.srv.time := by
  intro r
  have hr : r = _ := moveCmd_ok s d dst cis it hne htr hdst
    ((get_snd_live ndd _).trans hfree) ((get_snd_live nds _).trans hsrc)
  rw [hr]
  have htD : ((dbAt s dst.toNat).get (ciAt cis 0).key).1.time = s.srv.time := get_time _ _
  have htS : ((dbAt s d).get (ciAt cis 0).key).1.time = s.srv.time := get_time _ _
  have hD : dbAt (moveState s d dst.toNat (ciAt cis 0).key it) dst.toNat =
      { ((dbAt s dst.toNat).get (ciAt cis 0).key).1 with
        dict := setRaw ((dbAt s dst.toNat).get (ciAt cis 0).key).1.dict (ciAt cis 0).key it } := by
    show (⟨(moveDbs s d dst.toNat (ciAt cis 0).key it).getD dst.toNat [], s.srv.time⟩ : Db) = _
    unfold moveDbs
    rw [getD_set_self _ _ _ _ (by simp [hdst]), ← htD]
  have hS : dbAt (moveState s d dst.toNat (ciAt cis 0).key it) d = ((dbAt s d).get (ciAt cis 0).key).1 := by
    show (⟨(moveDbs s d dst.toNat (ciAt cis 0).key it).getD d [], s.srv.time⟩ : Db) = _
    unfold moveDbs
    rw [getD_set_ne _ _ _ _ _ (Ne.symm hne), getD_set_self _ _ _ _ (by simp [hd]), ← htS]
  refine ⟨rfl, ?_, fun k' hk' => ?_, ?_, rfl⟩
  · simp only
    rw [hD, live_setRaw_self (get_nodup _ ndd) _ _ (get_live _ ndd), htD]
    exact keepLive_item hsrc
  · simp only
    rw [hD, live_setRaw_ne (get_nodup _ ndd) _ hk', live_get ndd]
  · simp only
    rw [hS, get_purge _ nds]


open FR.M

/-- the hypothesis `ctx.time = db.time` of the rules holds for every command the system runs -/
theorem ctxOf_time (s : Sys) (c : Nat) : (ctxOf s c).time = (dbAt s (s.conn c).db).time := rfl

/-! ### SUNIONSTORE / SINTERSTORE / SDIFFSTORE (any number of sources) -/

/-- which set `ans` is, is not said here (`HashSet.run_setopStore` says it) -/
theorem setopStore_gen (name : String) (op : Cmd.SetOp)
    (hfix : (HashSet.sigOf name).fixed = [.key none .unspecified, .key (some .set) .unspecified])
    (hrep : (HashSet.sigOf name).rep = [.key (some .set) .unspecified])
    (ctx : Ctx) (dst : Bytes) (srcs : List Bytes) {db : Db} (nd : NodupKeys db.dict) :
    let out := runRegular (HashSet.sigOf name) (Cmd.setopStore op) ctx none (dst :: srcs) db
    out.failed = false →
      (∃ ans, out.reply = .int ans.length ∧
        out.db.live dst = (if ans.isEmpty then none else some ⟨.set ans, none⟩)) ∧
      ∀ k', k' ≠ dst → out.db.live k' = db.live k' := by
  intro out hnf
  cases srcs with
  | nil =>
    -- a destination without sources is refused by the arity check
    have ha : applyL db.live (HashSet.sigOf name) [dst] = .error (HashSet.sigOf name).wrongArgs := by
      unfold applyL; simp [Sig.checkArity, hfix, hrep]
    rw [(run_fails (HashSet.sigOf name) (Cmd.setopStore op) ctx [dst] nd (by simp only [LiveRun.runO, ha]; rfl)).2.1] at hnf
    cases hnf
  | cons k ks =>
    have h := HashSet.run_setopStore ctx nd name op hfix hrep dst k ks
    simp only at h
    split at h
    · obtain ⟨h1, h2, _⟩ := h
      exact ⟨⟨_, h1, by rw [h2, HashSet.putAt_self]; rfl⟩, fun k' hk => by rw [h2, HashSet.putAt_ne _ _ _ hk]⟩
    · exact absurd (h.2.2 ▸ hnf) (by simp)

def storeNames : List String := ["sunionstore", "sinterstore", "sdiffstore"]

/-! ### MSET (any number of pairs) -/

/-- `StrKeys.flat` (`flat_eq`); the statement of `C07t.mset_clears` is written with this one -/
def flat : List (Bytes × Bytes) → List Bytes
  | [] => []
  | (k, v) :: r => k :: v :: flat r

theorem flat_eq (ps : List (Bytes × Bytes)) : flat ps = StrKeys.flat ps := by
  induction ps with
  | nil => rfl
  | cons p ps ih => obtain ⟨k, v⟩ := p; simp only [flat, StrKeys.flat, ih]

end FR.Ttl

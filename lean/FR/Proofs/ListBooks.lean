import FR.Proofs.C11cReg
/-!
# The books of list elements along one step of the system

`StepOk c pops pushes s s'` — the books of one step: `stored s' + pops = stored s + pushes` (count-wise), the data
invariant and "no TTLs" are kept, no reply was emitted, and the connection records keep what the list family reads of
them.  A write-back of a list balances (`wbStep_ok`), hence so do the passes of BLPOP / BRPOP / BRPOPLPUSH and the
re-check of a parked connection; read as multisets (`StepOk.perm`) these are the conservation statements of C11s for a
pass and for a wake-up.
-/
namespace FR.C11c
open FR FR.M FR.Db FR.Conserve FR.StrKeys
set_option linter.unusedSimpArgs false
set_option linter.unusedSectionVars false

/-- what the family reads of a connection record besides `parked` (the flags `woken`, `watchNotified`, … are not in it) -/
def ckey (x : Conn) : Nat × Bool × Option (List (String × List Bytes)) := (x.db, x.closed, x.tx)

theorem notifyFn_ckey (d : Nat) (k : Bytes) (x : Conn) : ckey (notifyFn d k x) = ckey x := by
  rw [notifyFn_fields]; rfl


/-! ## the books of one step -/

structure StepOk (c : Nat) (pops pushes : List Bytes) (s s' : Sys) : Prop where
  data : s'.DataInv
  nottl : NoTTL s'
  len : s'.srv.dbs.length = s.srv.dbs.length
  bal : ∀ x, (stored s').count x + pops.count x = (stored s).count x + pushes.count x
  conn : ∀ c', ckey (s'.conn c') = ckey (s.conn c')
  park : ∀ c', c' ≠ c → (s'.conn c').parked.isSome = (s.conn c').parked.isSome
  hasc : ∀ c', s'.HasConn c' ↔ s.HasConn c'
  out : s'.out = s.out

/-- same databases, same connection records, same output (`Conserve.FrEq` and the reply list) -/
structure Quiet (s s' : Sys) : Prop where
  dbs : s'.srv.dbs = s.srv.dbs
  conns : s'.srv.conns = s.srv.conns
  out : s'.out = s.out

theorem Quiet.refl (s : Sys) : Quiet s s := ⟨rfl, rfl, rfl⟩
theorem Quiet.trans {a b c : Sys} (h : Quiet a b) (h' : Quiet b c) : Quiet a c :=
  ⟨h'.dbs.trans h.dbs, h'.conns.trans h.conns, h'.out.trans h.out⟩
theorem Quiet.conn {a b : Sys} (h : Quiet a b) (c : Nat) : b.conn c = a.conn c := by
  simp only [Sys.conn_def, h.conns]
theorem Quiet.hasConn {a b : Sys} (h : Quiet a b) (c : Nat) : b.HasConn c ↔ a.HasConn c := by
  simp only [Sys.HasConn, h.conns]
theorem Quiet.nextClock (s : Sys) : Quiet s (nextClock s).2 := by
  refine ⟨?_, ?_, nextClock_out s⟩ <;> rw [nextClock_srv]
theorem Quiet.fault (s : Sys) (msg : String) : Quiet s (M.fault msg s).2 := by
  show Quiet s (if s.fault.isNone then { s with fault := some msg } else s)
  split
  · exact ⟨rfl, rfl, rfl⟩
  · exact Quiet.refl s

theorem StepOk.refl (c : Nat) {s : Sys} (hd : s.DataInv) (ht : NoTTL s) : StepOk c [] [] s s :=
  ⟨hd, ht, rfl, fun _ => rfl, fun _ => rfl, fun _ _ => rfl, fun _ => Iff.rfl, rfl⟩

theorem StepOk.quiet_right {c : Nat} {p q : List Bytes} {s s1 s2 : Sys} (h : StepOk c p q s s1) (hq : Quiet s1 s2) :
    StepOk c p q s s2 := by
  refine ⟨h.data.frame hq.dbs, ?_, by rw [hq.dbs]; exact h.len, ?_, ?_, ?_, ?_, hq.out.trans h.out⟩
  · unfold NoTTL; rw [hq.dbs]; exact h.nottl
  · intro x; rw [stored_of_dbs hq.dbs]; exact h.bal x
  · intro c'; rw [hq.conn c']; exact h.conn c'
  · intro c' hne; rw [hq.conn c']; exact h.park c' hne
  · intro c'; rw [hq.hasConn c']; exact h.hasc c'

theorem StepOk.quiet_left {c : Nat} {p q : List Bytes} {s0 s s1 : Sys} (hq : Quiet s0 s) (h : StepOk c p q s s1) :
    StepOk c p q s0 s1 := by
  refine ⟨h.data, h.nottl, by rw [h.len, hq.dbs], ?_, ?_, ?_, ?_, h.out.trans hq.out⟩
  · intro x; rw [← stored_of_dbs hq.dbs]; exact h.bal x
  · intro c'; rw [h.conn c', hq.conn c']
  · intro c' hne; rw [h.park c' hne, hq.conn c']
  · intro c'; rw [h.hasc c', hq.hasConn c']

theorem StepOk.trans {c : Nat} {p1 q1 p2 q2 : List Bytes} {s s1 s2 : Sys} (h1 : StepOk c p1 q1 s s1)
    (h2 : StepOk c p2 q2 s1 s2) : StepOk c (p1 ++ p2) (q1 ++ q2) s s2 := by
  refine ⟨h2.data, h2.nottl, h2.len.trans h1.len, ?_, ?_, ?_, ?_, h2.out.trans h1.out⟩
  · intro x
    have a := h1.bal x
    have b := h2.bal x
    simp only [List.count_append]
    omega
  · intro c'; rw [h2.conn c', h1.conn c']
  · intro c' hne; rw [h2.park c' hne, h1.park c' hne]
  · intro c'; rw [h2.hasc c', h1.hasc c']

theorem StepOk.of_eq {c : Nat} {p q p' q' : List Bytes} {s s1 : Sys} (h : StepOk c p q s s1) (hp : p = p') (hq : q = q') :
    StepOk c p' q' s s1 := by subst hp hq; exact h

/-- an update of the requester's record that leaves `db`, `closed`, `tx` and `id` alone (parking, un-parking, `inTx`) -/
def KeyFrame (f : Conn → Conn) : Prop := ∀ x, ckey (f x) = ckey x ∧ (f x).id = x.id

theorem StepOk.updConn {c : Nat} {p q : List Bytes} {s s1 : Sys} (h : StepOk c p q s s1) (f : Conn → Conn)
    (hf : KeyFrame f) : StepOk c p q s (s1.updConn c f) := by
  have hid : ∀ x, (f x).id = x.id := fun x => (hf x).2
  refine ⟨h.data, h.nottl, h.len, h.bal, ?_, ?_, ?_, h.out⟩
  · intro c'
    rw [Sys.conn_updConn_proj s1 c c' f ckey hid (fun x => (hf x).1)]; exact h.conn c'
  · intro c' hne
    rw [Sys.conn_updConn_ne f hne hid]; exact h.park c' hne
  · intro c'; rw [Sys.hasConn_updConn f hid]; exact h.hasc c'

/-! ## stored elements: counts -/

theorem count_stored_setDbS (s : Sys) (d : Nat) (hd : d < s.srv.dbs.length) (db' : Db) (x : Bytes) :
    (stored (s.setDbS d db')).count x + (dictElems (s.dbAt d).dict).count x =
      (stored s).count x + (dictElems db'.dict).count x := by
  obtain ⟨A, B, h1, h2⟩ := stored_split s d hd db'
  rw [h1, h2]
  simp only [List.count_append]
  omega

theorem NoTTL.setDbS {s : Sys} (h : NoTTL s) (d : Nat) {db : Db} (hd : NoTTLd db.dict) : NoTTL (s.setDbS d db) := by
  intro d' hd'
  rcases List.mem_or_eq_of_mem_set hd' with h' | rfl
  · exact h d' h'
  · exact hd

theorem noTTL_of_dbs {s s' : Sys} (h : NoTTL s) (e : s'.srv.dbs = s.srv.dbs) : NoTTL s' := by
  unfold NoTTL; rw [e]; exact h


/-! ## write-back of a list at system level, the blocking passes -/

theorem lt_of_lookup {s : Sys} {d : Nat} {k : Bytes} {it : Item} (h : (s.dbAt d).dict.lookup k = some it) :
    d < s.srv.dbs.length :=
  Nat.lt_of_not_le fun hle => by rw [Sys.dbAt_out_of_range s d hle] at h; cases h

theorem list_ne_nil {d : Dict} (hg : Good d) {k : Bytes} {it : Item} {l : List Bytes} (h : d.lookup k = some it)
    (hv : it.value = .list l) : l ≠ [] := by
  rintro rfl
  have := hg.2 _ (lookup_some_mem h)
  simp [hv, Value.isEmptyColl] at this

theorem StepOk.rebalance {c : Nat} {p q p' q' : List Bytes} {s s' : Sys} (h : StepOk c p q s s')
    (hb : ∀ x, p.count x + q'.count x = p'.count x + q.count x) : StepOk c p' q' s s' := by
  refine ⟨h.data, h.nottl, h.len, fun x => ?_, h.conn, h.park, h.hasc, h.out⟩
  have := h.bal x
  have := hb x
  omega

theorem wbStep_ok (c : Nat) (s : Sys) (d : Nat) (ci : CI) (l : List Bytes) (hd : s.DataInv) (ht : NoTTL s)
    (hlt : d < s.srv.dbs.length) (hc : ListCI ci l) :
    StepOk c (elemsAt (s.dbAt d).dict ci.key) l s (s.wbStep d ci) ∧
    ∀ k, k ≠ ci.key → elemsAt ((s.wbStep d ci).dbAt d).dict k = elemsAt (s.dbAt d).dict k := by
  have hg : Good (s.dbAt d).dict := hd.dbAt d
  have htd : NoTTLd (s.dbAt d).dict := ht.dbAt d
  have hst : s.wbStep d ci = (s.setDbS d (ci.writeback (s.dbAt d)).1).mapConns (notifyFn d ci.key) := by
    unfold Sys.wbStep; simp only [hc.mod, if_true]
  rw [hst]
  refine ⟨⟨?_, ?_, ?_, ?_, ?_, ?_, ?_, rfl⟩, ?_⟩
  · exact (hd.setDbS d (hg.writeback ci)).frame rfl
  · exact noTTL_of_dbs (NoTTL.setDbS ht d (noTTL_writeback htd hc)) rfl
  · simp
  · intro x
    rw [stored_mapConns]
    have h1 := count_stored_setDbS s d hlt (ci.writeback (s.dbAt d)).1 x
    have h2 := count_writeback hg.1 htd hc x
    omega
  · intro c'
    rw [Sys.conn_mapConns_notify, notifyFn_ckey]; rfl
  · intro c' _
    rw [Sys.conn_mapConns_notify, notifyFn_parked_isSome]; rfl
  · intro c'
    rw [Sys.hasConn_mapConns _ _ _ (notifyFn_id d ci.key)]; exact Iff.rfl
  · intro k hk
    rw [Sys.mapConns_dbAt, Sys.setDbS_dbAt_self s d _ hlt (ci.writeback_time _)]
    exact elemsAt_writeback_ne htd hc hk

theorem bpopCI_list (left : Bool) (key : Bytes) (it : Item) (l : List Bytes) (he : it.expireat = none) :
    ListCI (bpopCI left key it l) (if left then Cmd.popLeftN l 1 else Cmd.popRightN l 1).2 :=
  ⟨rfl, rfl, he⟩

theorem bpopPass_ok (c : Nat) (d : Nat) (left first : Bool) (keys : List Bytes) (s : Sys) (hd : s.DataInv) (ht : NoTTL s) :
    (∀ r, (bpopPass d left first keys s).1 = .ok (some r) →
      ∃ k x, k ∈ keys ∧ r = .arr [.bulk k, .bulk x] ∧ StepOk c [x] [] s (bpopPass d left first keys s).2) ∧
    ((∀ r, (bpopPass d left first keys s).1 ≠ .ok (some r)) → (bpopPass d left first keys s).2 = s) := by
  have hg : Good (s.dbAt d).dict := hd.dbAt d
  have htd : NoTTLd (s.dbAt d).dict := ht.dbAt d
  rcases bpopPass_noTTL d left first keys s htd with ⟨key, it, l, hkey', hlk, hv, hrun⟩ | ⟨hno, hs⟩
  · -- served from `key`: one write-back of the list without its first / last element
    rw [hrun]
    refine ⟨fun r h => ?_, fun h => absurd rfl (h _)⟩
    simp only [Except.ok.injEq, Option.some.injEq] at h
    have hl : l ≠ [] := list_ne_nil hg hlk hv
    have hlt : d < s.srv.dbs.length := lt_of_lookup hlk
    have hat : elemsAt (s.dbAt d).dict key = l := elemsAt_of_lookup hlk hv
    have he : it.expireat = none := htd _ (lookup_some_mem hlk)
    have hw := (wbStep_ok c s d (bpopCI left key it l) _ hd ht hlt (bpopCI_list left key it l he)).1
    have hkey : (bpopCI left key it l).key = key := rfl
    rw [hkey, hat] at hw
    subst h
    obtain ⟨x, rem, hx, hp, _, _⟩ := end_split left hl
    simp only [bpopReply, hp, List.head?_cons, Reply.ofOptBulk] at hw ⊢
    refine ⟨key, x, hkey', rfl, hw.rebalance (fun y => ?_)⟩
    cases left
    · rw [if_neg Bool.false_ne_true] at hx
      rw [hx]
      simp only [List.count_cons, List.count_nil, List.count_append]
      omega
    · rw [if_pos rfl] at hx
      rw [hx]
      simp only [List.count_cons, List.count_nil]
      omega
  · exact ⟨fun r h => absurd h (hno r), fun _ => hs⟩

theorem brpoplpushPass_ok (c : Nat) (d : Nat) (src dst : Bytes) (first : Bool) (s : Sys) (hd : s.DataInv) (ht : NoTTL s) :
    (∀ r, (brpoplpushPass d src dst first s).1 = .ok (some r) → StepOk c [] [] s (brpoplpushPass d src dst first s).2) ∧
    ((∀ r, (brpoplpushPass d src dst first s).1 ≠ .ok (some r)) → (brpoplpushPass d src dst first s).2 = s) := by
  have hg : Good (s.dbAt d).dict := hd.dbAt d
  have htd : NoTTLd (s.dbAt d).dict := ht.dbAt d
  -- without TTLs the lazy look-ups change nothing and return what the dictionary holds
  have hlook : ∀ key, s.looked d key = s := fun key => setDbS_get_noTTL s d key htd
  rw [brpoplpushPass_run]
  simp only [hlook, get_snd_noTTL htd]
  cases hls : (s.dbAt d).dict.lookup src with
  | none => exact ⟨fun r h => (by cases h), fun _ => rfl⟩
  | some sit =>
    obtain ⟨sv, se⟩ := sit
    cases sv with
    | list sl =>
      dsimp only
      cases hdl : dstList ((s.dbAt d).dict.lookup dst) with
      | none => exact ⟨fun r h => (by cases h), fun _ => rfl⟩
      | some p =>
        obtain ⟨dl, dexp⟩ := p
        obtain ⟨el, rem, hp, hx⟩ := popRightN_one (list_ne_nil hg hls rfl)
        obtain rfl : se = none := htd _ (lookup_some_mem hls)
        have hlt : d < s.srv.dbs.length := lt_of_lookup hls
        have hats : elemsAt (s.dbAt d).dict src = sl := elemsAt_of_lookup hls rfl
        -- what is stored at the destination
        have hdst : elemsAt (s.dbAt d).dict dst = dl ∧ dexp = none := by
          rcases dstList_some hdl with ⟨hn, rfl, rfl⟩ | ⟨dit, hsome, hv, rfl⟩
          · exact ⟨by unfold elemsAt; rw [hn], rfl⟩
          · exact ⟨elemsAt_of_lookup hsome hv, htd _ (lookup_some_mem hsome)⟩
        obtain ⟨hdl', rfl⟩ := hdst
        simp only [hp, List.head?_cons]
        refine ⟨fun r _ => ?_, fun h => absurd rfl (h _)⟩
        by_cases hsd : src = dst
        · subst hsd
          rw [ListKeys.writebackAll_brplCIs_self]
          have hw := (wbStep_ok c s d { key := src, val := some (Value.list (el :: rem)), expireat := none, modified := true }
            (el :: rem) hd ht hlt ⟨rfl, rfl, rfl⟩).1
          simp only [hats] at hw
          refine hw.rebalance (fun y => ?_)
          rw [← hx]
          simp only [List.count_cons, List.count_nil, List.count_append]
          omega
        · rw [ListKeys.writebackAll_brplCIs_ne d hsd]
          -- the source keeps `rem`; the destination, untouched by that, takes `el` at its head
          obtain ⟨hw1, hk1⟩ := wbStep_ok c s d { key := src, val := some (Value.list rem), expireat := none, modified := true }
            rem hd ht hlt ⟨rfl, rfl, rfl⟩
          have hw2 := (wbStep_ok c _ d { key := dst, val := some (Value.list (el :: dl)), expireat := none, modified := true }
            (el :: dl) hw1.data hw1.nottl (hw1.len ▸ hlt) ⟨rfl, rfl, rfl⟩).1
          simp only [hats, hk1 dst (fun e => hsd e.symm), hdl'] at hw1 hw2
          refine (hw1.trans hw2).rebalance (fun y => ?_)
          rw [← hx]
          simp only [List.count_cons, List.count_nil, List.count_append]
          omega
    | _ => cases first <;> exact ⟨fun r h => (by cases h), fun _ => rfl⟩

theorem parkedPass_ok (c c0 : Nat) (p : Parked) (s : Sys) (hd : s.DataInv) (ht : NoTTL s) :
    (∀ r, (parkedPass c0 p s).1 = .ok (some r) → StepOk c (popElem r) [] s (parkedPass c0 p s).2) ∧
    ((∀ r, (parkedPass c0 p s).1 ≠ .ok (some r)) → (parkedPass c0 p s).2 = s) := by
  rcases parkedPass_cases c0 p with ⟨src, dst, _, _, he⟩ | ⟨_, he⟩ | ⟨_, he⟩ <;> rw [he]
  · have h := brpoplpushPass_ok c p.db src dst false s hd ht
    refine ⟨fun r hr => ?_, h.2⟩
    obtain ⟨el, rfl⟩ := brpoplpushPass_reply _ _ _ _ _ _ hr
    exact h.1 _ hr
  · have h := bpopPass_ok c p.db true false p.keys s hd ht
    refine ⟨fun r hr => ?_, h.2⟩
    obtain ⟨k, x, _, rfl, hs⟩ := h.1 r hr
    exact hs
  · have h := bpopPass_ok c p.db false false p.keys s hd ht
    refine ⟨fun r hr => ?_, h.2⟩
    obtain ⟨k, x, _, rfl, hs⟩ := h.1 r hr
    exact hs


/-! ## the books as multisets; what a wake-up hands over -/

theorem StepOk.perm {c : Nat} {pops : List Bytes} {s s' : Sys} (h : StepOk c pops [] s s') :
    (stored s' ++ pops).Perm (stored s) :=
  List.perm_iff_count.2 fun x => by have := h.bal x; simpa [List.count_append] using this

/-- the element a pass of a blocked pop hands over: only a served pass does -/
def takenOf : Except Err (Option Reply) → List Bytes
  | .ok (some r) => popElem r
  | _ => []

theorem parkedPass_books (c : Nat) (p : Parked) (s : Sys) (hd : s.DataInv) (ht : NoTTL s) :
    StepOk c (takenOf (parkedPass c p s).1) [] s (parkedPass c p s).2 := by
  have h := parkedPass_ok c c p s hd ht
  generalize parkedPass c p s = pr at h
  obtain ⟨res, s1⟩ := pr
  rcases res with e | _ | r
  · obtain rfl := h.2 nofun; exact StepOk.refl c hd ht
  · obtain rfl := h.2 nofun; exact StepOk.refl c hd ht
  · exact h.1 r rfl

theorem popElem_wakeReply (p : Parked) (res : Except Err (Option Reply)) (s1 : Sys) :
    ((wakeReply p res s1).map popElem).getD [] = takenOf res := by
  unfold wakeReply takenOf
  rcases res with e | _ | r
  · rfl
  · cases p.deadline with
    | none => rfl
    | some dl => dsimp only; split <;> rfl
  · rfl

theorem delivered_wakeState (c : Nat) (p : Parked) (res : Except Err (Option Reply)) (s1 : Sys) (h : s1.HasConn c)
    (hout : s1.out = []) :
    delivered (wakeState c p res s1).out = if (s1.conn c).closed then [] else takenOf res := by
  rw [wakeState_out c p res s1 h, hout, ← popElem_wakeReply p res s1]
  cases wakeReply p res s1 with
  | none => simp [delivered]
  | some r => cases (s1.conn c).closed <;> simp [delivered]

end FR.C11c

import FR.Proofs.Lists
import FR.Proofs.Decimal
/-! # String commands: GETRANGE, SETRANGE, APPEND, INCRBY, SETBIT/GETBIT (C01) -/
namespace FR.Spec
open FR

/-- Declarative Redis GETRANGE -/
def getrangeSpec (v : Bytes) (s e : Int) : Bytes :=
  if s < 0 ∧ e < 0 ∧ s > e then []
  else
    let s' : Int := max 0 (norm s v.length)
    let e' : Int := min ((v.length : Int) - 1) (max 0 (norm e v.length))
    (List.range v.length).filterMap fun (i : Nat) =>
      if s' ≤ (i : Int) ∧ (i : Int) ≤ e' then v[i]? else none

/-- what SETRANGE writes -/
def setrangeBytes (old : Bytes) (o : Nat) (v : Bytes) : Bytes :=
  let out := if old.length < o then old ++ List.replicate (o - old.length) 0 else old
  out.take o ++ v ++ out.drop (o + v.length)

/-- GETBIT on the bytes -/
def getBitBytes (v : Bytes) (off : Int) : Int :=
  match v[(off / 8).toNat]? with
  | none => 0
  | some b => if (b.toNat >>> (7 - (off % 8).toNat)) % 2 == 1 then 1 else 0

/-- SETBIT: bytes the body stores (`v` is the current value, `[0]` for a missing key) -/
def setBitBytes (v : Bytes) (off : Int) (value : Int) : Bytes :=
  let byte := (off / 8).toNat
  let bit := 7 - (off % 8).toNat
  let v := if v.length < byte + 1 then v ++ List.replicate (byte + 1 - v.length) 0 else v
  let old := (v.getD byte 0).toNat
  let mask := 1 <<< bit
  let new := if value == 1 then old ||| mask else old &&& (255 - mask)
  v.set byte (UInt8.ofNat new)

end FR.Spec

namespace FR.Proofs
open FR FR.Spec

/-! ## GETRANGE -/

theorem adj_of_nonneg {x : Int} (len : Nat) (hx : 0 ≤ x) : Py.adj x len = min x.toNat len := by
  unfold Py.adj
  rw [if_neg (Int.not_lt.mpr hx)]
  split <;> omega

theorem max_norm (i : Int) (len : Nat) :
    (if i < 0 then max 0 (i + len) else i) = max 0 (norm i len) := by
  unfold norm
  split <;> omega

theorem getrange_window (v : Bytes) (s e : Int) :
    (let (a, b) := fixRangeString s e v.length; Py.slice v a b) = getrangeSpec v s e := by
  show Py.slice v (fixRangeString s e v.length).1 (fixRangeString s e v.length).2 = _
  unfold getrangeSpec fixRangeString
  split
  next h =>
    simp [Py.slice]
  next h =>
    -- both sides clamp the two ends to `a = max 0 (norm s len)` and `b = max 0 (norm e len)`;
    -- the bounds handed to the slice are then non-negative, where `adj` only cuts at the length
    simp only [max_norm]
    apply slice_eq_window
    intro i hi
    have ha : 0 ≤ max 0 (norm s v.length) := Int.le_max_left ..
    have hb : 0 ≤ max 0 (norm e v.length) := Int.le_max_left ..
    generalize max 0 (norm s v.length) = a at ha ⊢
    generalize max 0 (norm e v.length) = b at hb ⊢
    rw [adj_of_nonneg _ ha, adj_of_nonneg _ (by omega)]
    apply and_congr
    · omega
    · omega

theorem getrange_body (ctx : Ctx) (cis : List CI) (k : Nat) (s e : Int) :
    Cmd.getrange ctx [.key k, .int s, .int e] cis =
      ret (.bulk (getrangeSpec (Cmd.strGet (ciAt cis k) []) s e)) cis := by
  have := getrange_window (Cmd.strGet (ciAt cis k) []) s e
  simp only [Cmd.getrange]
  rw [← this]

/-! ## SETRANGE -/

theorem setrange_body (ctx : Ctx) (cis : List CI) (k : Nat) (off : Int) (v : Bytes)
    (h0 : 0 ≤ off) (hv : v ≠ []) (hmax : off + v.length ≤ Conv.MAX_STRING_SIZE) :
    Cmd.setrange ctx [.key k, .int off, .raw v] cis =
      (let out := setrangeBytes (Cmd.strGet (ciAt cis k) []) off.toNat v
       ret (.int out.length) (cis.set k ((ciAt cis k).update (.str out)))) := by
  simp only [Cmd.setrange]
  rw [if_neg (by omega), if_neg (by simpa using hv), if_neg (by omega)]
  rfl

/-- Zero-padding `v` up to length `n`, as SETRANGE and SETBIT do before they write: only the
positions from the old end up to `n` change, and they read 0. -/
theorem pad_getElem? (v : Bytes) (n i : Nat) :
    (if v.length < n then v ++ List.replicate (n - v.length) 0 else v)[i]? =
      if v.length ≤ i ∧ i < n then some 0 else v[i]? := by
  split
  next h =>
    rw [List.getElem?_append, List.getElem?_replicate]
    split
    · rw [if_neg (by omega)]
    · split
      · rw [if_pos (by omega)]
      · rw [if_neg (by omega), List.getElem?_eq_none (by omega)]
  next h => rw [if_neg (by omega)]

theorem pad_length (v : Bytes) (n : Nat) :
    (if v.length < n then v ++ List.replicate (n - v.length) 0 else v).length = max v.length n := by
  split
  · rw [List.length_append, List.length_replicate]; omega
  · omega

theorem pad_getD (v : Bytes) (n j : Nat) :
    (if v.length < n then v ++ List.replicate (n - v.length) 0 else v).getD j 0 = v.getD j 0 := by
  rw [List.getD_eq_getElem?_getD, List.getD_eq_getElem?_getD, pad_getElem?]
  split
  next h => rw [List.getElem?_eq_none h.1]; rfl
  next => rfl

theorem setrange_bytes (old : Bytes) (o : Nat) (v : Bytes) :
    (setrangeBytes old o v).length = max old.length (o + v.length) ∧
    ∀ i : Nat,
      (o ≤ i → i < o + v.length → (setrangeBytes old o v)[i]? = v[i - o]?) ∧
      (i < o → i < old.length → (setrangeBytes old o v)[i]? = old[i]?) ∧
      (old.length ≤ i → i < o → (setrangeBytes old o v)[i]? = some 0) ∧
      (o + v.length ≤ i → (setrangeBytes old o v)[i]? = old[i]?) := by
  unfold setrangeBytes
  have hlen := pad_length old o
  have hget := pad_getElem? old o
  generalize (if old.length < o then old ++ List.replicate (o - old.length) 0 else old) = out
    at hlen hget ⊢
  have htake : (out.take o).length = o := by rw [List.length_take]; omega
  simp only [List.append_assoc]
  refine ⟨?_, fun i => ⟨fun h1 h2 => ?_, fun h1 h2 => ?_, fun h1 h2 => ?_, fun h1 => ?_⟩⟩
  · rw [List.length_append, List.length_append, List.length_drop, htake]; omega
  · rw [List.getElem?_append_right (by omega), htake, List.getElem?_append_left (by omega)]
  · rw [List.getElem?_append_left (by omega), List.getElem?_take_of_lt h1, hget, if_neg (by omega)]
  · rw [List.getElem?_append_left (by omega), List.getElem?_take_of_lt h2, hget, if_pos ⟨h1, h2⟩]
  · rw [List.getElem?_append_right (by omega), htake, List.getElem?_append_right (by omega),
      List.getElem?_drop, hget, if_neg (by omega)]
    congr 1; omega

/-! ## APPEND -/

theorem append_length (ctx : Ctx) (cis : List CI) (k : Nat) (v : Bytes) :
    Cmd.append ctx [.key k, .raw v] cis =
      (let old := Cmd.strGet (ciAt cis k) []
       if old.length + v.length > Conv.MAX_STRING_SIZE then .error Msgs.STRING_OVERFLOW_MSG
       else ret (.int (old.length + v.length : Nat))
              (cis.set k ((ciAt cis k).update (.str (old ++ v))))) := by
  simp only [Cmd.append, List.length_append]

/-! ## INCRBY and friends -/

theorem conv_int_ok_iff (b : Bytes) (n : Int) :
    Conv.int b = .ok n ↔ parseCanonInt b = some n ∧ Conv.INT_MIN ≤ n ∧ n ≤ Conv.INT_MAX := by
  unfold Conv.int Conv.intRange
  cases hm : parseCanonInt b with
  | none => simp
  | some m =>
    simp only [Option.some.injEq]
    by_cases hr : Conv.INT_MIN ≤ m ∧ m ≤ Conv.INT_MAX
    · rw [if_pos hr]
      simp only [Except.ok.injEq]
      constructor
      · rintro rfl; exact ⟨rfl, hr⟩
      · rintro ⟨rfl, _⟩; rfl
    · rw [if_neg hr]
      simp only [reduceCtorEq, false_iff]
      rintro ⟨rfl, h⟩; exact hr h

theorem conv_int_error (b : Bytes) (e : Err) (h : Conv.int b = .error e) :
    e = Msgs.INVALID_INT_MSG ∧
    (parseCanonInt b = none ∨ ∃ n, parseCanonInt b = some n ∧ ¬ (Conv.INT_MIN ≤ n ∧ n ≤ Conv.INT_MAX)) := by
  unfold Conv.int Conv.intRange at h
  cases hm : parseCanonInt b with
  | none => rw [hm] at h; cases h; exact ⟨rfl, Or.inl rfl⟩
  | some m =>
    rw [hm] at h
    simp only at h
    split at h
    next => cases h
    next hr => cases h; exact ⟨rfl, Or.inr ⟨m, rfl, hr⟩⟩

/-- INCRBY/DECRBY/INCR/DECR: refused (error, hence no state change) when the stored value is not a
canonical 64-bit integer or the sum leaves the signed 64-bit range; otherwise the reply is the sum
and the stored string is its canonical decimal rendering. -/
theorem incr_overflow_refused_unchanged (cis : List CI) (k : Nat) (a : Int) :
    let c := ciAt cis k
    let stored := Cmd.strGet c (strBytes "0")
    (∀ e, Conv.int stored = .error e → Cmd.incrbyCore cis k a = .error e) ∧
    (∀ cur, Conv.int stored = .ok cur → ¬ (Conv.INT_MIN ≤ cur + a ∧ cur + a ≤ Conv.INT_MAX) →
        Cmd.incrbyCore cis k a = .error Msgs.OVERFLOW_MSG) ∧
    (∀ cur, Conv.int stored = .ok cur → (Conv.INT_MIN ≤ cur + a ∧ cur + a ≤ Conv.INT_MAX) →
        Cmd.incrbyCore cis k a =
          .ok { reply := .int (cur + a),
                cis := cis.set k (c.update (.str (intBytes (cur + a)))) }) := by
  intro c stored
  refine ⟨fun e h => ?_, fun cur h hr => ?_, fun cur h hr => ?_⟩
  · simp only [Cmd.incrbyCore]
    rw [show Conv.int (Cmd.strGet (ciAt cis k) (strBytes "0")) = .error e from h]
  · simp only [Cmd.incrbyCore]
    rw [show Conv.int (Cmd.strGet (ciAt cis k) (strBytes "0")) = .ok cur from h]
    simp only [Conv.encodeInt, if_neg hr]
  · simp only [Cmd.incrbyCore]
    rw [show Conv.int (Cmd.strGet (ciAt cis k) (strBytes "0")) = .ok cur from h]
    simp only [Conv.encodeInt, if_pos hr]
    rfl

/-! ## SETBIT / GETBIT -/

def byteBit (x k : Nat) : Int := if (x >>> k) % 2 == 1 then 1 else 0

theorem byteBit_eq (x k : Nat) : byteBit x k = if x.testBit k then 1 else 0 := by
  unfold byteBit
  rw [Nat.testBit_eq_decide_div_mod_eq, Nat.shiftRight_eq_div_pow]
  simp only [beq_iff_eq, decide_eq_true_eq]

theorem getBitBytes_eq (v : Bytes) (off : Int) :
    getBitBytes v off = byteBit (v.getD (off / 8).toNat 0).toNat (7 - (off % 8).toNat) := by
  unfold getBitBytes byteBit
  rw [List.getD_eq_getElem?_getD]
  cases v[(off / 8).toNat]? with
  | none => simp
  | some b => rfl

theorem getbit_body (ctx : Ctx) (cis : List CI) (k : Nat) (off : Int) :
    Cmd.getbit ctx [.key k, .int off] cis =
      ret (.int (getBitBytes (Cmd.strGet (ciAt cis k) []) off)) cis := by
  cases h : (Cmd.strGet (ciAt cis k) [])[(off / 8).toNat]? <;>
    simp only [Cmd.getbit, getBitBytes, h]

/-- the new byte SETBIT writes -/
def newByte (old : Nat) (bit : Nat) (value : Int) : Nat :=
  if value == 1 then old ||| (1 <<< bit) else old &&& (255 - (1 <<< bit))

theorem setbit_body (ctx : Ctx) (cis : List CI) (k : Nat) (off value : Int) :
    Cmd.setbit ctx [.key k, .int off, .int value] cis =
      (let v := Cmd.strGet (ciAt cis k) [0]
       let byte := (off / 8).toNat
       let bit := 7 - (off % 8).toNat
       let vp := if v.length < byte + 1 then v ++ List.replicate (byte + 1 - v.length) 0 else v
       let old := (vp.getD byte 0).toNat
       let oldBit : Int := if old == newByte old bit value then value else 1 - value
       ret (.int oldBit) (cis.set k ((ciAt cis k).update (.str (setBitBytes v off value))))) := rfl

theorem setBitBytes_getD (v : Bytes) (off value : Int) (j : Nat) :
    (setBitBytes v off value).getD j 0 =
      if j = (off / 8).toNat then
        UInt8.ofNat (newByte (v.getD (off / 8).toNat 0).toNat (7 - (off % 8).toNat) value)
      else v.getD j 0 := by
  unfold setBitBytes
  simp only [pad_getD]
  rw [List.getD_eq_getElem?_getD]
  by_cases h : j = (off / 8).toNat
  · subst h
    rw [if_pos rfl, List.getElem?_set_self (by rw [pad_length]; omega)]
    rfl
  · rw [if_neg h, List.getElem?_set_ne (Ne.symm h), ← List.getD_eq_getElem?_getD, pad_getD]

theorem testBit_of_ge {x j : Nat} (hx : x < 256) (hj : 8 ≤ j) : x.testBit j = false :=
  Nat.testBit_lt_two_pow (Nat.lt_of_lt_of_le hx (Nat.pow_le_pow_right (by decide) hj : 2 ^ 8 ≤ 2 ^ j))

/-- `newByte` sets bit `k` of a byte to `value == 1` and leaves the other bits alone:
`255 - 2^k` is the byte with every bit but `k` set. -/
theorem testBit_newByte {x k : Nat} (hx : x < 256) (hk : k < 8) (value : Int) (j : Nat) :
    (newByte x k value).testBit j = if j = k then value == 1 else x.testBit j := by
  have hpow : 2 ^ k < 2 ^ 8 := Nat.pow_lt_pow_right (by decide) hk
  unfold newByte
  rw [Nat.one_shiftLeft]
  split
  next hv =>
    rw [Nat.testBit_or, Nat.testBit_two_pow, hv]
    split
    next h => rw [decide_eq_true h.symm, Bool.or_true]
    next h => rw [decide_eq_false (Ne.symm h), Bool.or_false]
  next hv =>
    rw [show 255 - 2 ^ k = 2 ^ 8 - (2 ^ k + 1) by omega, Nat.testBit_and,
      Nat.testBit_two_pow_sub_succ hpow, Nat.testBit_two_pow, eq_false_of_ne_true hv]
    split
    next h => rw [decide_eq_true h.symm, Bool.not_true, Bool.and_false, Bool.and_false]
    next h =>
      rw [decide_eq_false (Ne.symm h), Bool.not_false, Bool.and_true]
      by_cases hj : j < 8
      · rw [decide_eq_true hj, Bool.and_true]
      · rw [testBit_of_ge hx (Nat.le_of_not_lt hj), Bool.false_and]

theorem newByte_lt (x k : Nat) (value : Int) (hx : x < 256) (hk : k < 8) : newByte x k value < 256 := by
  apply Nat.lt_pow_two_of_testBit (n := 8)
  intro j hj
  rw [testBit_newByte hx hk, if_neg (by omega), testBit_of_ge hx hj]

theorem newByte_eq_self_iff {x k : Nat} (hx : x < 256) (hk : k < 8) (value : Int) :
    x = newByte x k value ↔ x.testBit k = (value == 1) := by
  constructor
  · intro h
    have := testBit_newByte hx hk value k
    rwa [← h, if_pos rfl] at this
  · intro h
    apply Nat.eq_of_testBit_eq
    intro j
    rw [testBit_newByte hx hk]
    split
    next e => rw [e, h]
    next => rfl

theorem byteBit_newByte (v : Bytes) (off b : Int) (j : Nat) :
    byteBit (UInt8.ofNat (newByte (v.getD (off / 8).toNat 0).toNat (7 - (off % 8).toNat) b)).toNat j =
      if j = 7 - (off % 8).toNat then (if b == 1 then 1 else 0)
      else byteBit (v.getD (off / 8).toNat 0).toNat j := by
  have hx := UInt8.toNat_lt (v.getD (off / 8).toNat 0)
  have hk : 7 - (off % 8).toNat < 8 := by omega
  rw [UInt8.toNat_ofNat_of_lt' (newByte_lt _ _ b hx hk), byteBit_eq, byteBit_eq, testBit_newByte hx hk]
  split <;> rfl

/-- after SETBIT, GETBIT of the same offset returns the value written -/
theorem setbit_getbit_same (v : Bytes) (off b : Int) (hb : b = 0 ∨ b = 1) :
    getBitBytes (setBitBytes v off b) off = b := by
  rw [getBitBytes_eq, setBitBytes_getD, if_pos rfl, byteBit_newByte, if_pos rfl]
  rcases hb with rfl | rfl <;> rfl

/-- after SETBIT every other bit is unchanged (bits beyond the old end read as 0 before and after) -/
theorem setbit_getbit_other (v : Bytes) (off off' b : Int) (h0 : 0 ≤ off) (h0' : 0 ≤ off')
    (hne : off' ≠ off) :
    getBitBytes (setBitBytes v off b) off' = getBitBytes v off' := by
  rw [getBitBytes_eq, getBitBytes_eq, setBitBytes_getD]
  split
  next hbyte => rw [byteBit_newByte, if_neg (by omega), hbyte]
  next => rfl

/-- the reply of SETBIT is the previous value of the bit -/
theorem setbit_reply_old (x k : Nat) (b : Int) (hx : x < 256) (hk : k < 8) (hb : b = 0 ∨ b = 1) :
    (if x == newByte x k b then b else 1 - b) = byteBit x k := by
  rw [byteBit_eq]
  simp only [beq_iff_eq, newByte_eq_self_iff hx hk]
  rcases hb with rfl | rfl <;> cases x.testBit k <;> rfl

theorem setbit_body_old (ctx : Ctx) (cis : List CI) (k : Nat) (off value : Int)
    (hb : value = 0 ∨ value = 1) :
    Cmd.setbit ctx [.key k, .int off, .int value] cis =
      ret (.int (getBitBytes (Cmd.strGet (ciAt cis k) [0]) off))
        (cis.set k ((ciAt cis k).update (.str (setBitBytes (Cmd.strGet (ciAt cis k) [0]) off value)))) := by
  rw [setbit_body]
  simp only [pad_getD]
  rw [setbit_reply_old _ _ _ (UInt8.toNat_lt _) (by omega) hb, getBitBytes_eq]

end FR.Proofs

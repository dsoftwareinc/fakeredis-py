import FR.Proofs.Basic
/-! # The SCAN family on a list that does not change (C15)

`Cmd.scanPage` / `Cmd.scanReply` are one call of `_scan` (`_fakesocket.py`).  Here the call is iterated from cursor 0 with
the returned cursors: `scan_complete` (the docstring of `_scan`: "provided the database is not modified, every key will be
returned exactly once") and `scan_terminates`.  Second part: the options parse iff they come in acceptable pairs, the first
bad pair decides the error; the error cases of `scanReply`. -/
namespace FR.Spec
open FR FR.Cmd

/-- the MATCH / TYPE filter of one SCAN call -/
def matchPredicate {α} (keyOf : α → Bytes) (typeName : Bytes → Bytes) (o : ScanOpts) (x : α) : Bool :=
  (match o.pattern with | some p => Glob.globMatch p (keyOf x) | none => true) &&
  (match o.ty with | some t => casenorm (typeName (keyOf x)) == casenorm t | none => true)

/-- follow the returned cursors until `0` comes back (or the fuel is exhausted), concatenating pages -/
def scanAll {α} (elems : List α) (keyOf : α → Bytes) (typeName : Bytes → Bytes) (o : ScanOpts) :
    Nat → Int → List α
  | 0, _ => []
  | fuel + 1, cursor =>
    let r := scanPage elems keyOf typeName cursor o
    if r.1 = 0 then r.2 else r.2 ++ scanAll elems keyOf typeName o fuel r.1

/-- the cursors passed to successive calls of the same iteration -/
def scanTrace {α} (elems : List α) (keyOf : α → Bytes) (typeName : Bytes → Bytes) (o : ScanOpts) :
    Nat → Int → List Int
  | 0, _ => []
  | fuel + 1, cursor =>
    let r := scanPage elems keyOf typeName cursor o
    if r.1 = 0 then [cursor] else cursor :: scanTrace elems keyOf typeName o fuel r.1

def scanFinished {α} (elems : List α) (keyOf : α → Bytes) (typeName : Bytes → Bytes) (o : ScanOpts) :
    Nat → Int → Bool
  | 0, _ => false
  | fuel + 1, cursor =>
    let r := scanPage elems keyOf typeName cursor o
    if r.1 = 0 then true else scanFinished elems keyOf typeName o fuel r.1

end FR.Spec

namespace FR.Proofs
open FR FR.Cmd FR.Spec

theorem scanPage_snd {α} (elems : List α) (keyOf : α → Bytes) (typeName : Bytes → Bytes)
    (c : Int) (o : ScanOpts) :
    (scanPage elems keyOf typeName c o).2 =
      ((elems.drop c.toNat).take o.count.toNat).filter (matchPredicate keyOf typeName o) := rfl

theorem scanPage_fst {α} (elems : List α) (keyOf : α → Bytes) (typeName : Bytes → Bytes)
    (c : Int) (o : ScanOpts) :
    (scanPage elems keyOf typeName c o).1 =
      if c + o.count ≥ (elems.length : Int) then 0 else c + o.count := rfl

theorem scanAll_from {α} (elems : List α) (keyOf : α → Bytes) (typeName : Bytes → Bytes)
    (o : ScanOpts) (hc : 0 < o.count) (fuel : Nat) (c : Nat) (hf : elems.length < c + fuel) :
    scanAll elems keyOf typeName o fuel c = (elems.drop c).filter (matchPredicate keyOf typeName o) := by
  induction fuel generalizing c with
  | zero =>
    simp only [scanAll]
    rw [List.drop_of_length_le (by omega)]
    rfl
  | succ fuel ih =>
    simp only [scanAll, scanPage_fst, scanPage_snd, Int.toNat_natCast]
    split
    next hge =>
      rw [if_pos rfl, List.take_of_length_le]
      rw [List.length_drop]
      omega
    next hlt =>
      have e : (c : Int) + o.count = ((c + o.count.toNat : Nat) : Int) := by omega
      rw [if_neg (by omega), e, ih _ (by omega), ← List.filter_append]
      congr 1
      rw [← List.drop_drop, List.take_append_drop]

/-- a complete SCAN iteration returns every matching element exactly once, in order -/
theorem scan_complete {α} (elems : List α) (keyOf : α → Bytes) (typeName : Bytes → Bytes)
    (o : ScanOpts) (hc : 0 < o.count) :
    scanAll elems keyOf typeName o (elems.length + 1) 0
      = elems.filter (matchPredicate keyOf typeName o) := by
  have := scanAll_from elems keyOf typeName o hc (elems.length + 1) 0 (by omega)
  simpa using this

theorem matchPredicate_none {α} (keyOf : α → Bytes) (typeName : Bytes → Bytes) (o : ScanOpts)
    (hp : o.pattern = none) (ht : o.ty = none) (x : α) : matchPredicate keyOf typeName o x = true := by
  simp [matchPredicate, hp, ht]

/-- `⌈len / cnt⌉`, but at least one call -/
def scanCalls (len cnt : Nat) : Nat := max 1 ((len + cnt - 1) / cnt)

theorem scanCalls_last (n cnt : Nat) (hc : 0 < cnt) (h : n ≤ cnt) : scanCalls n cnt = 1 := by
  unfold scanCalls
  have : (n + cnt - 1) / cnt < 2 := (Nat.div_lt_iff_lt_mul hc).mpr (by omega)
  omega

theorem scanCalls_step (n cnt : Nat) (hc : 0 < cnt) (h : cnt < n) :
    scanCalls n cnt = scanCalls (n - cnt) cnt + 1 := by
  unfold scanCalls
  have e : n + cnt - 1 = (n - cnt + cnt - 1) + cnt := by omega
  rw [e, Nat.add_div_right _ hc]
  have : 1 ≤ (n - cnt + cnt - 1) / cnt := (Nat.le_div_iff_mul_le hc).mpr (by omega)
  omega

theorem scanTrace_from {α} (elems : List α) (keyOf : α → Bytes) (typeName : Bytes → Bytes)
    (o : ScanOpts) (hc : 0 < o.count) (fuel : Nat) (c : Nat) (hf : elems.length < c + fuel)
    (hf0 : 0 < fuel) :
    scanTrace elems keyOf typeName o fuel c =
      (List.range (scanCalls (elems.length - c) o.count.toNat)).map
        (fun j => ((c + j * o.count.toNat : Nat) : Int)) ∧
    scanFinished elems keyOf typeName o fuel c = true := by
  induction fuel generalizing c with
  | zero => omega
  | succ fuel ih =>
    simp only [scanTrace, scanFinished, scanPage_fst]
    split
    next hge =>
      rw [if_pos rfl, if_pos rfl, scanCalls_last _ _ (by omega) (by omega)]
      simp
    next hlt =>
      have e : (c : Int) + o.count = ((c + o.count.toNat : Nat) : Int) := by omega
      rw [if_neg (by omega), if_neg (by omega), e]
      have ⟨i1, i2⟩ := ih (c + o.count.toNat) (by omega) (by omega)
      rw [i1, i2, scanCalls_step (elems.length - c) _ (by omega) (by omega),
        List.range_succ_eq_map, List.map_cons, List.map_map]
      refine ⟨?_, rfl⟩
      have e2 : elems.length - c - o.count.toNat = elems.length - (c + o.count.toNat) := by omega
      rw [e2]
      congr 1
      · simp
      · apply List.map_congr_left
        intro j _
        simp only [Function.comp, Nat.succ_eq_add_one, Nat.add_mul, Nat.one_mul]
        omega

/-- cursor 0 comes back after exactly `scanCalls` calls, the `j`-th made with cursor `j * COUNT` -/
theorem scan_terminates {α} (elems : List α) (keyOf : α → Bytes) (typeName : Bytes → Bytes)
    (o : ScanOpts) (hc : 0 < o.count) :
    scanTrace elems keyOf typeName o (elems.length + 1) 0 =
      (List.range (scanCalls elems.length o.count.toNat)).map (fun j => ((j * o.count.toNat : Nat) : Int)) ∧
    scanFinished elems keyOf typeName o (elems.length + 1) 0 = true := by
  have := scanTrace_from elems keyOf typeName o hc (elems.length + 1) 0 (by omega) (by omega)
  simpa using this

theorem scanCalls_spec (len cnt : Nat) (hc : 0 < cnt) :
    1 ≤ scanCalls len cnt ∧ len ≤ scanCalls len cnt * cnt ∧
    (1 < scanCalls len cnt → (scanCalls len cnt - 1) * cnt < len) := by
  unfold scanCalls
  have h1 : (len + cnt - 1) / cnt * cnt ≤ len + cnt - 1 := Nat.div_mul_le_self _ _
  have h2 : len + cnt - 1 < (len + cnt - 1) / cnt * cnt + cnt := by
    have := Nat.mod_lt (len + cnt - 1) hc
    have := Nat.div_add_mod (len + cnt - 1) cnt
    rw [Nat.mul_comm] at this
    omega
  generalize (len + cnt - 1) / cnt = q at h1 h2
  cases q with
  | zero =>
    simp only [Nat.zero_mul, Nat.zero_add] at h1 h2
    simp only [Nat.zero_le, Nat.max_eq_left, Nat.le_refl, Nat.one_mul, Nat.lt_irrefl,
      false_implies, and_true, true_and]
    omega
  | succ q =>
    rw [Nat.max_eq_right (by omega)]
    rw [Nat.succ_mul] at h1 h2
    refine ⟨by omega, by rw [Nat.succ_mul]; omega, fun _ => ?_⟩
    rw [Nat.add_sub_cancel]
    omega

/-! ## option parsing and errors -/

def optPairOk (allowType : Bool) (a v : Bytes) : Bool :=
  if casematch a "match" then true
  else if casematch a "count" then
    (match Conv.int v with | .ok c => decide (0 < c) | .error _ => false)
  else casematch a "type" && allowType

def optPairErr (a v : Bytes) : Err :=
  if casematch a "count" then
    (match Conv.int v with | .ok _ => Msgs.SYNTAX_ERROR_MSG | .error e => e)
  else Msgs.SYNTAX_ERROR_MSG

def allPairsOk (allowType : Bool) : List Bytes → Bool
  | a :: v :: rest => optPairOk allowType a v && allPairsOk allowType rest
  | _ => true

theorem parse_pair_ok (t : Bool) (a v : Bytes) (rest : List Bytes) (o : ScanOpts)
    (h : optPairOk t a v = true) :
    ∃ o', parseScanOpts t (a :: v :: rest) o = parseScanOpts t rest o' := by
  unfold optPairOk at h
  rw [parseScanOpts]
  split
  · exact ⟨_, rfl⟩
  · rw [if_neg (by assumption)] at h
    split
    · rw [if_pos (by assumption)] at h
      split
      · simp_all
      · next c hc =>
        rw [hc] at h
        have : 0 < c := by simpa using h
        rw [if_neg (by omega)]
        exact ⟨_, rfl⟩
    · rw [if_neg (by assumption)] at h
      rw [if_pos h]
      exact ⟨_, rfl⟩

theorem parse_pair_bad (t : Bool) (a v : Bytes) (rest : List Bytes) (o : ScanOpts)
    (h : optPairOk t a v = false) :
    parseScanOpts t (a :: v :: rest) o = .error (optPairErr a v) := by
  unfold optPairOk at h
  unfold optPairErr
  rw [parseScanOpts]
  split
  · simp_all
  · rw [if_neg (by assumption)] at h
    split
    · rw [if_pos (by assumption)] at h
      cases hc : Conv.int v with
      | error e => rfl
      | ok c =>
        rw [hc] at h
        have : ¬ 0 < c := by simpa using h
        simp only
        rw [if_pos (by omega)]
    · rw [if_neg (by assumption)] at h
      rw [if_neg (by simp [h])]

theorem parse_first_bad (t : Bool) (a v : Bytes) (rest : List Bytes) (hbad : optPairOk t a v = false) :
    ∀ (pre : List Bytes) (o : ScanOpts), pre.length % 2 = 0 → allPairsOk t pre = true →
      parseScanOpts t (pre ++ a :: v :: rest) o = .error (optPairErr a v)
  | [], o, _, _ => parse_pair_bad t a v rest o hbad
  | [_], _, h, _ => by simp at h
  | x :: y :: pre, o, hl, hok => by
    simp only [allPairsOk, Bool.and_eq_true] at hok
    obtain ⟨o', e⟩ := parse_pair_ok t x y (pre ++ a :: v :: rest) o hok.1
    rw [List.cons_append, List.cons_append, e]
    exact parse_first_bad t a v rest hbad pre o' (by simp at hl; omega) hok.2

theorem parse_ok_iff (t : Bool) : ∀ (opts : List Bytes) (o : ScanOpts),
    (∃ o', parseScanOpts t opts o = .ok o') ↔ (opts.length % 2 = 0 ∧ allPairsOk t opts = true)
  | [], o => by simp [parseScanOpts, allPairsOk]
  | [_], o => by simp [parseScanOpts]
  | a :: v :: rest, o => by
    cases hp : optPairOk t a v with
    | true =>
      obtain ⟨o1, e⟩ := parse_pair_ok t a v rest o hp
      rw [e, parse_ok_iff t rest o1]
      simp only [allPairsOk, hp, Bool.true_and, List.length_cons]
      constructor <;> (intro h; refine ⟨by omega, h.2⟩)
    | false =>
      rw [parse_pair_bad t a v rest o hp]
      simp [allPairsOk, hp]

theorem scan_errors_cursor {α} (elems : List α) keyOf typeName allowType (cursor : Int) opts render
    (h : cursor < 0) :
    scanReply elems keyOf typeName allowType cursor opts render = .error Msgs.INVALID_CURSOR_MSG := by
  unfold scanReply; rw [if_pos h]

theorem scan_errors_odd {α} (elems : List α) keyOf typeName allowType (cursor : Int) opts render
    (hc : 0 ≤ cursor) (h : opts.length % 2 = 1) :
    scanReply elems keyOf typeName allowType cursor opts render = .error Msgs.SYNTAX_ERROR_MSG := by
  unfold scanReply; rw [if_neg (by omega), if_pos (by simp [h])]

theorem scan_errors_bad_option {α} (elems : List α) keyOf typeName allowType (cursor : Int)
    (pre : List Bytes) (a v : Bytes) (rest : List Bytes) render
    (hc : 0 ≤ cursor) (hrest : rest.length % 2 = 0)
    (hpre : pre.length % 2 = 0) (hok : allPairsOk allowType pre = true)
    (hbad : optPairOk allowType a v = false) :
    scanReply elems keyOf typeName allowType cursor (pre ++ a :: v :: rest) render
      = .error (optPairErr a v) := by
  unfold scanReply
  rw [if_neg (by omega), if_neg (by simp; omega),
    parse_first_bad allowType a v rest hbad pre {} hpre hok]

theorem scan_errors_iff {α} (elems : List α) keyOf typeName allowType (cursor : Int) opts render :
    (∃ e, scanReply elems keyOf typeName allowType cursor opts render = .error e) ↔
      (cursor < 0 ∨ opts.length % 2 = 1 ∨ allPairsOk allowType opts = false) := by
  unfold scanReply
  by_cases h1 : cursor < 0
  · simp [h1]
  · rw [if_neg h1]
    by_cases h2 : opts.length % 2 = 1
    · rw [if_pos (by simp [h2])]; simp [h2]
    · have h2' : opts.length % 2 = 0 := by omega
      rw [if_neg (by simp [h2'])]
      have := parse_ok_iff allowType opts {}
      cases hp : parseScanOpts allowType opts {} with
      | error e =>
        rw [hp] at this
        have : allPairsOk allowType opts = false := by
          cases hh : allPairsOk allowType opts
          · rfl
          · exact absurd (this.mpr ⟨h2', hh⟩) (by simp)
        simp [this]
      | ok o' =>
        rw [hp] at this
        have := (this.mp ⟨o', rfl⟩).2
        simp only [h1, h2, this, false_or]
        split <;> simp

theorem scan_missing_empty {α} keyOf typeName allowType (cursor : Int) opts render
    (hc : 0 ≤ cursor) (hl : opts.length % 2 = 0) (hok : allPairsOk allowType opts = true) :
    scanReply ([] : List α) keyOf typeName allowType cursor opts render
      = .ok (.arr [.bulk (intBytes 0), .arr []]) := by
  obtain ⟨o', h⟩ := (parse_ok_iff allowType opts {}).mpr ⟨hl, hok⟩
  unfold scanReply
  rw [if_neg (by omega), if_neg (by simp [hl]), h]
  simp only
  rw [if_pos (by simpa using hc)]

/-- inside the collection, `_scan` replies with exactly one `scanPage` -/
theorem scanReply_page {α} (elems : List α) keyOf typeName allowType (cursor : Int) opts render
    (o : ScanOpts) (hc : 0 ≤ cursor) (hlt : cursor < elems.length)
    (hp : parseScanOpts allowType opts {} = .ok o) :
    scanReply elems keyOf typeName allowType cursor opts render =
      .ok (.arr [.bulk (intBytes (scanPage elems keyOf typeName cursor o).1),
                 .arr (render (scanPage elems keyOf typeName cursor o).2)]) := by
  have hl : opts.length % 2 = 0 := ((parse_ok_iff allowType opts {}).mp ⟨o, hp⟩).1
  unfold scanReply
  rw [if_neg (by omega), if_neg (by simp [hl]), hp]
  simp only
  rw [if_neg (by omega)]

end FR.Proofs

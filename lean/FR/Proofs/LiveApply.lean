import FR.Proofs.LiveRun
/-!
# `Signature.apply` on the live view: the shapes of the command table

`applyL_closed` (`FR/Proofs/Apply.lean`) is evaluated for the shapes that occur in `SigTable`: the first argument is
the only key (`applyL_keyHead`, `applyL_keyFirst`); a `missing_return` on the first argument (`applyL_missing`; it
occurs in six signatures only, always there — by inspection of `SigTable`, no theorem says so).  For signatures with
several keys or a variadic tail there are the lemmas about the type list and about `decodeT`, `keysOf`, `number` with
which a caller evaluates `applyL_closed` itself.  All names are in the namespace `FR.Ttl`.
-/
namespace FR.Ttl
open FR

/-! ## The type list of a variadic signature -/

theorem types_tail (s : Sig) (t0 : ArgTy) (ftl : List ArgTy) (hfix : s.fixed = t0 :: ftl) (n : Nat) :
    s.types n = t0 :: (ftl ++ (List.range (n - s.fixed.length)).map (fun i => s.rep.getD (i % s.rep.length) .bytes)) := by
  unfold Sig.types; rw [hfix]; rfl

theorem getD_nonkey (rep : List ArgTy) (h2 : ∀ t ∈ rep, isKey t = false) (i : Nat) :
    isKey (rep.getD i .bytes) = false := by
  rw [List.getD_eq_getElem?_getD]
  cases h : rep[i]? with
  | none => rfl
  | some t => exact h2 t (List.mem_of_getElem? h)



theorem types_eq (s : Sig) (n : Nat) (a : ArgTy) (h : ∀ t ∈ s.rep, t = a) (h0 : s.rep = [] → a = .bytes) :
    s.types n = s.fixed ++ List.replicate (n - s.fixed.length) a := by
  unfold Sig.types
  congr 1
  rw [List.eq_replicate_iff]
  refine ⟨by simp, fun t ht => ?_⟩
  obtain ⟨i, _, rfl⟩ := List.mem_map.1 ht
  by_cases hr : s.rep = []
  · rw [hr, h0 hr]; rfl
  · have hl : 0 < s.rep.length := List.length_pos_iff.2 hr
    have hi : i % s.rep.length < s.rep.length := Nat.mod_lt _ hl
    rw [List.getD_eq_getElem?_getD, List.getElem?_eq_getElem hi]
    exact h _ (List.getElem_mem hi)

theorem types_rep_one {s : Sig} {t : ArgTy} (h : s.rep = [t]) (n : Nat) :
    s.types n = s.fixed ++ List.replicate (n - s.fixed.length) t :=
  types_eq s n t (by simp [h]) (by simp [h])

theorem range_pairs (m : Nat) (t₁ t₂ d : ArgTy) :
    (List.range (2 * m)).map (fun i => [t₁, t₂].getD (i % 2) d) = (List.replicate m [t₁, t₂]).flatten := by
  induction m with
  | zero => rfl
  | succ m ih =>
    have : 2 * (m + 1) = 2 * m + 1 + 1 := by omega
    rw [this, List.range_succ, List.range_succ, List.map_append, List.map_append, ih, List.replicate_succ',
      List.flatten_append]
    have h0 : (2 * m) % 2 = 0 := by omega
    have h1 : (2 * m + 1) % 2 = 1 := by omega
    simp [h0, h1]

theorem types_rep_two {s : Sig} {t₁ t₂ : ArgTy} (h : s.rep = [t₁, t₂]) (m : Nat) :
    s.types (s.fixed.length + 2 * m) = s.fixed ++ (List.replicate m [t₁, t₂]).flatten := by
  unfold Sig.types
  rw [h, Nat.add_sub_cancel_left]
  exact congrArg _ (range_pairs m t₁ t₂ .bytes)

theorem zip_replicate (bs : List Bytes) (t : ArgTy) {n : Nat} (h : bs.length ≤ n) :
    bs.zip (List.replicate n t) = bs.map fun b => (b, t) := by
  induction bs generalizing n with
  | nil => simp
  | cons b bs ih =>
    cases n with
    | zero => simp at h
    | succ n => simp [List.replicate_succ, ih (by simpa using h)]

theorem zip_pairs (ps : List (Bytes × Bytes)) (t₁ t₂ : ArgTy) :
    (ps.flatMap fun p => [p.1, p.2]).zip (List.replicate ps.length [t₁, t₂]).flatten =
      ps.flatMap fun p => [(p.1, t₁), (p.2, t₂)] := by
  induction ps with
  | nil => rfl
  | cons p ps ih => simp [List.replicate_succ, ih]

/-! ## The converted arguments -/

/-! ### `decodeT` -/

theorem decodeT_cons_error {t : ArgTy} {b : Bytes} {e : Err} (h : Conv.decode t b = .error e)
    (rest : List (Bytes × ArgTy)) : decodeT ((b, t) :: rest) = .error e := by
  rw [decodeT, h]

theorem decodeT_key (k : Bytes) (ty : Option Ty) (mr : MissingRet) (rest : List (Bytes × ArgTy)) :
    decodeT ((k, .key ty mr) :: rest) = (decodeT rest).map ((.raw k, .key ty mr) :: ·) :=
  decodeT_cons rfl rest

theorem decodeT_bytes (b : Bytes) (rest : List (Bytes × ArgTy)) :
    decodeT ((b, .bytes) :: rest) = (decodeT rest).map ((.raw b, .bytes) :: ·) :=
  decodeT_cons rfl rest

theorem decodeT_append (l₁ l₂ : List (Bytes × ArgTy)) :
    decodeT (l₁ ++ l₂) = (decodeT l₁).bind fun as => (decodeT l₂).map (as ++ ·) := by
  induction l₁ with
  | nil => cases h : decodeT l₂ <;> simp [decodeT, Except.bind, Except.map, h]
  | cons x rest ih =>
    obtain ⟨b, t⟩ := x
    simp only [List.cons_append, decodeT, ih]
    cases Conv.decode t b with
    | error e => rfl
    | ok a =>
      cases decodeT rest with
      | error e => rfl
      | ok as => cases decodeT l₂ <;> rfl

theorem decodeT_keys (ks : List Bytes) (ty : Option Ty) (mr : MissingRet) :
    decodeT (ks.map fun k => (k, .key ty mr)) = .ok (ks.map fun k => (.raw k, .key ty mr)) := by
  induction ks with
  | nil => rfl
  | cons k ks ih => rw [List.map_cons, decodeT_key, ih]; rfl

theorem decodeT_bytess (bs : List Bytes) :
    decodeT (bs.map fun b => (b, .bytes)) = .ok (bs.map fun b => (.raw b, .bytes)) := by
  induction bs with
  | nil => rfl
  | cons b bs ih => rw [List.map_cons, decodeT_bytes, ih]; rfl

/-- `key value key value …` -/
theorem decodeT_pairs (ps : List (Bytes × Bytes)) (ty : Option Ty) (mr : MissingRet) :
    decodeT (ps.flatMap fun p => [(p.1, .key ty mr), (p.2, .bytes)]) =
      .ok (ps.flatMap fun p => [(.raw p.1, .key ty mr), (.raw p.2, .bytes)]) := by
  induction ps with
  | nil => rfl
  | cons p ps ih => rw [List.flatMap_cons, List.cons_append, List.cons_append, decodeT_key, List.nil_append,
      decodeT_bytes, ih]; rfl

/-! ### `keysOf`, `number` -/

theorem keysOf_key (k : Bytes) (ty : Option Ty) (mr : MissingRet) (rest : List (Arg × ArgTy)) :
    keysOf ((.raw k, .key ty mr) :: rest) = (k, ty) :: keysOf rest := rfl

theorem number_key (k : Bytes) (ty : Option Ty) (mr : MissingRet) (rest : List (Arg × ArgTy)) (n : Nat) :
    number ((.raw k, .key ty mr) :: rest) n = .key n :: number rest (n + 1) := rfl

theorem keysOf_keys (ks : List Bytes) (ty : Option Ty) (mr : MissingRet) :
    keysOf (ks.map fun k => (Arg.raw k, ArgTy.key ty mr)) = ks.map fun k => (k, ty) := by
  induction ks with
  | nil => rfl
  | cons k ks ih => rw [List.map_cons, keysOf_key, ih]; rfl

theorem number_keys (ks : List Bytes) (ty : Option Ty) (mr : MissingRet) (n : Nat) :
    number (ks.map fun k => (Arg.raw k, ArgTy.key ty mr)) n = (List.range' n ks.length).map .key := by
  induction ks generalizing n with
  | nil => rfl
  | cons k ks ih => rw [List.map_cons, number_key, ih, List.length_cons, List.range'_succ]; rfl

theorem keysOf_pairs (ps : List (Bytes × Bytes)) (ty : Option Ty) (mr : MissingRet) :
    keysOf (ps.flatMap fun p => [(Arg.raw p.1, ArgTy.key ty mr), (Arg.raw p.2, ArgTy.bytes)]) =
      ps.map fun p => (p.1, ty) := by
  induction ps with
  | nil => rfl
  | cons p ps ih =>
    rw [List.flatMap_cons, List.cons_append, List.cons_append, List.nil_append, keysOf_key, keysOf_other rfl, ih]
    rfl

/-- a key argument stays where it is, raw -/
theorem decodeT_key_at : ∀ {l : List (Bytes × ArgTy)} {as : List (Arg × ArgTy)} {i : Nat} {k : Bytes} {ty mr},
    decodeT l = .ok as → l[i]? = some (k, .key ty mr) → as[i]? = some (.raw k, .key ty mr)
  | [], _, _, _, _, _, _, hi => by simp at hi
  | (b, t) :: rest, as, i, k, ty, mr, h, hi => by
    simp only [decodeT] at h
    cases hd : Conv.decode t b with
    | error e => rw [hd] at h; cases h
    | ok a =>
      rw [hd] at h
      cases hr : decodeT rest with
      | error e => rw [hr] at h; cases h
      | ok as' =>
        rw [hr] at h; cases h
        cases i with
        | zero =>
          simp only [List.getElem?_cons_zero, Option.some.injEq, Prod.mk.injEq] at hi
          obtain ⟨rfl, rfl⟩ := hi
          cases hd; rfl
        | succ i =>
          rw [List.getElem?_cons_succ] at hi ⊢
          exact decodeT_key_at hr hi

theorem mem_keysOf {as : List (Arg × ArgTy)} {k : Bytes} {ty mr} (h : (Arg.raw k, ArgTy.key ty mr) ∈ as) :
    (k, ty) ∈ keysOf as := by
  induction as with
  | nil => cases h
  | cons x rest ih =>
    obtain ⟨a, t⟩ := x
    rcases List.mem_cons.1 h with e | h'
    · cases e; exact List.mem_cons_self ..
    · unfold keysOf
      split
      · exact List.mem_cons_of_mem _ (ih h')
      · exact ih h'

/-! ### `typeOK`, `ciOfKey` -/

theorem typeOK_untyped (live : Bytes → Option Item) (k : Bytes) : typeOK live (k, none) = true := rfl

theorem typeOK_missing {live : Bytes → Option Item} {k : Bytes} (h : live k = none) (ty : Option Ty) :
    typeOK live (k, ty) = true := by
  unfold typeOK; rw [h]; cases ty <;> rfl

theorem typeOK_live {live : Bytes → Option Item} {k : Bytes} {it : Item} (h : live k = some it) (ty : Ty) :
    typeOK live (k, some ty) = (it.value.ty == ty) := by
  unfold typeOK; rw [h]

/-! ## One key, in first place -/

theorem applyL_keyHead (live : Bytes → Option Item) (s : Sig) (ty : Option Ty) (ftl : List ArgTy)
    (hfix : s.fixed = .key ty .unspecified :: ftl) (h1 : ∀ t ∈ ftl, isKey t = false)
    (h2 : ∀ t ∈ s.rep, isKey t = false) (k : Bytes) (rest : List Bytes)
    (har : s.checkArity (rest.length + 1) = true)
    (hrep : (!s.rep.isEmpty && (rest.length + 1 - s.fixed.length) % s.rep.length != 0) = false) :
    applyL live s (k :: rest) =
      match decodeT (rest.zip (s.types (rest.length + 1)).tail) with
      | .error e => .error e
      | .ok as =>
        if typeOK live (k, ty) then .ok (.ok (.key 0 :: as.map Prod.fst) [ciOfKey live (k, ty)])
        else .error Msgs.WRONGTYPE_MSG := by
  have hf : ∀ t ∈ s.fixed, noMR t = true := by
    rw [hfix]; intro t ht
    rcases List.mem_cons.1 ht with rfl | ht
    · rfl
    · exact noMR_of_nonkey (h1 t ht)
  rw [applyL_closed live s _ hf fun t ht => noMR_of_nonkey (h2 t ht)]
  simp only [List.length_cons, har, hrep, Bool.not_true, Bool.false_eq_true, if_false]
  rw [types_tail s _ ftl hfix, List.zip_cons_cons, List.tail_cons, decodeT_key]
  generalize htl : ftl ++ (List.range (rest.length + 1 - s.fixed.length)).map
    (fun i => s.rep.getD (i % s.rep.length) .bytes) = tl
  have hnk : ∀ t ∈ tl, isKey t = false := by
    intro t ht
    rw [← htl] at ht
    rcases List.mem_append.1 ht with ht | ht
    · exact h1 t ht
    · obtain ⟨i, _, rfl⟩ := List.mem_map.1 ht
      exact getD_nonkey _ h2 _
  cases hd : decodeT (rest.zip tl) with
  | error e => rfl
  | ok as =>
    have has : ∀ p ∈ as, isKey p.2 = false := by
      intro p hp
      have : p.2 ∈ (rest.zip tl).map Prod.snd := decodeT_snd _ hd ▸ List.mem_map_of_mem hp
      obtain ⟨q, hq, e⟩ := List.mem_map.1 this
      exact e ▸ hnk q.2 (List.of_mem_zip hq).2
    simp only [Except.map, keysOf_key, number_key, keysOf_nonkey has, number_nonkey has, List.all_cons, List.all_nil,
      Bool.and_true, List.map_cons, List.map_nil]

/-- the look-up of the single key: type check, then the `CommandItem` -/
def keyStep (ty : Option Ty) (k : Bytes) (item : Option Item) (as : List Arg) : Except Err Sig.Applied :=
  match ty, item with
  | some ty', some it =>
    if it.value.ty != ty' then .error Msgs.WRONGTYPE_MSG else .ok (.ok (.key 0 :: as) [ciOf ty k item])
  | _, _ => .ok (.ok (.key 0 :: as) [ciOf ty k item])

theorem keyStep_eq (live : Bytes → Option Item) (ty : Option Ty) (k : Bytes) (as : List Arg) :
    keyStep ty k (live k) as =
      if typeOK live (k, ty) then .ok (.ok (.key 0 :: as) [ciOfKey live (k, ty)]) else .error Msgs.WRONGTYPE_MSG := by
  unfold keyStep typeOK ciOfKey
  cases ty <;> cases live k <;> simp only [Bool.not_eq_true, if_true] <;> try rfl
  rename_i ty it
  cases h : it.value.ty == ty <;> simp [bne, h]

theorem applyL_keyFirst (live : Bytes → Option Item) (s : Sig) (ty : Option Ty) (ftl : List ArgTy)
    (hfix : s.fixed = .key ty .unspecified :: ftl) (h1 : ∀ t ∈ ftl, isKey t = false)
    (h2 : ∀ t ∈ s.rep, isKey t = false) (k : Bytes) (rest : List Bytes)
    (har : s.checkArity (rest.length + 1) = true)
    (hrep : (!s.rep.isEmpty && (rest.length + 1 - s.fixed.length) % s.rep.length != 0) = false) :
    applyL live s (k :: rest) =
      match decodeAll (rest.zip (s.types (rest.length + 1)).tail) with
      | .error e => .error e
      | .ok as => keyStep ty k (live k) as := by
  rw [applyL_keyHead live s ty ftl hfix h1 h2 k rest har hrep, decodeAll_eq]
  cases decodeT (rest.zip (s.types (rest.length + 1)).tail) with
  | error e => rfl
  | ok as => exact (keyStep_eq live ty k _).symm

/-- the second pass does not look at a `missing_return` -/
theorem pass2L_head_missing (live : Bytes → Option Item) (ty : Option Ty) (mr mr' : MissingRet) (tl : List ArgTy)
    (args accA : List Arg) (accC : List CI) :
    pass2L live (args.zip (.key ty mr :: tl)) accA accC = pass2L live (args.zip (.key ty mr' :: tl)) accA accC := by
  cases args with
  | nil => rfl
  | cons a as => cases a <;> rfl

/-- a `missing_return` on the first argument: once the arity is accepted, a missing first key ends the command with
that reply, and a live one is treated as if the signature had no `missing_return` -/
theorem applyL_missing (live : Bytes → Option Item) (s : Sig) (ty : Option Ty) (mr : MissingRet) (ftl : List ArgTy)
    (hfix : s.fixed = .key ty mr :: ftl) (hmr : (mr != .unspecified) = true) (k : Bytes) (rest : List Bytes) :
    applyL live s (k :: rest) =
      if !s.checkArity (rest.length + 1) then .error s.wrongArgs
      else if !s.rep.isEmpty && (rest.length + 1 - s.fixed.length) % s.rep.length != 0 then .error s.wrongArgs
      else if (live k).isNone then .ok (.short (Sig.missingReply mr))
      else applyL live { s with fixed := .key ty .unspecified :: ftl } (k :: rest) := by
  have hA : Sig.checkArity { s with fixed := .key ty .unspecified :: ftl } (rest.length + 1) =
      s.checkArity (rest.length + 1) := by simp [Sig.checkArity, hfix]
  have hL : (ArgTy.key ty .unspecified :: ftl).length = s.fixed.length := by rw [hfix]; rfl
  unfold applyL
  simp only [List.length_cons, hA, hL]
  split
  · rfl
  · split
    · rfl
    · rw [types_tail s _ ftl hfix, types_tail { s with fixed := .key ty .unspecified :: ftl } _ ftl rfl]
      simp only [List.zip_cons_cons, pass1L, hmr, if_true, bne_self_eq_false, Bool.false_eq_true, if_false, hL]
      cases live k with
      | none => rfl
      | some it =>
        simp only [Option.isNone_some, Bool.false_eq_true, if_false]
        generalize pass1L live _ [Arg.raw k] = r
        cases r with
        | error e => rfl
        | ok x =>
          cases x with
          | inl r => rfl
          | inr args => simp only [pass2L_head_missing live ty mr .unspecified]

end FR.Ttl

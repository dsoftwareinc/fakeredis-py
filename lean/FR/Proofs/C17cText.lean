import FR.Sys.Client
import FR.Proofs.Decimal
/-!
# The codecs of `FR/Sys/Client.lean`: decoding inverts encoding

`encodeChars enc cs` is Python's `''.join(cs).encode(enc)` on a list of characters (`encodeText` on `String.ofList cs`).
For each of the three codecs:

* `scan_of_encode` — scanning the encoding of `cs` yields exactly the characters `cs`, no error span;
* `encode_of_scan` — if the scan of `b` has no error span, the characters it yields encode to `b`.

So "the scan of `b` has no error span" ⇔ "`b` is the encoding of some text" (`ValidIn enc b`), the text is unique, and
every error handler returns it.  For UTF-8 the two directions rest on core Lean's
`ByteArray.utf8DecodeChar?_utf8EncodeChar_append` and `ByteArray.eq_of_utf8DecodeChar?_eq_some`; latin-1 and ascii are one
codec, a byte per character with a bound on the code point (`mapM_byte_eq_some`).
-/
namespace FR.Client
open FR

/-! ## encoding a list of characters -/

def encodeChars : Encoding → List Char → Option Bytes
  | .utf8, cs => some (cs.flatMap String.utf8EncodeChar)
  | .latin1, cs => cs.mapM fun c => if c.toNat < 256 then some (UInt8.ofNat c.toNat) else none
  | .ascii, cs => cs.mapM fun c => if c.toNat < 128 then some (UInt8.ofNat c.toNat) else none

theorem encodeText_eq (enc : Encoding) (s : String) : encodeText enc s = encodeChars enc s.toList := by
  cases enc
  · simp only [encodeText, encodeChars, strBytes_eq_flatMap]
  · rfl
  · rfl

/-- a byte string is *valid in the encoding* when it is the encoding of some text -/
def ValidIn (enc : Encoding) (b : Bytes) : Prop := ∃ s : String, encodeText enc s = some b

/-! ## bytes ↔ characters below 256 -/

theorem byteChar_toNat (c : UInt8) : (Char.ofNat c.toNat).toNat = c.toNat := by
  have h : c.toNat < 256 := c.toNat_lt
  have hv : c.toNat.isValidChar := Or.inl (by omega)
  simp [Char.ofNat, hv, Char.ofNatAux, Char.toNat]

theorem ofNat_byteChar (c : UInt8) : UInt8.ofNat (Char.ofNat c.toNat).toNat = c := by
  rw [byteChar_toNat]; exact UInt8.ofNat_toNat

theorem byteChar_of_lt (c : Char) (h : c.toNat < 256) : Char.ofNat (UInt8.ofNat c.toNat).toNat = c := by
  have : (UInt8.ofNat c.toNat).toNat = c.toNat := by
    rw [UInt8.toNat_ofNat']; exact Nat.mod_eq_of_lt h
  rw [this]
  exact Char.ofNat_toNat c

theorem uint8_lt_iff (c : UInt8) (n : UInt8) : c < n ↔ c.toNat < n.toNat := UInt8.lt_iff_toNat_lt

/-! ## the single-byte codecs: latin-1 (code points below 256) and ascii (below 128) -/

theorem mapM_byte_cons {p : Nat} (c : Char) (cs : List Char) :
    List.mapM (m := Option) (fun c => if c.toNat < p then some (UInt8.ofNat c.toNat) else none) (c :: cs) =
      if c.toNat < p then
        ((List.mapM (m := Option) (fun c => if c.toNat < p then some (UInt8.ofNat c.toNat) else none) cs).map
          (UInt8.ofNat c.toNat :: ·))
      else none := by
  rw [List.mapM_cons (m := Option)]
  split
  · cases List.mapM (m := Option) _ cs <;> rfl
  · rfl

/-- the codec with the code points below `p`: `cs` encodes to `b` iff there is one character per byte, the byte is its
code point, and every byte is below `p` -/
theorem mapM_byte_eq_some {p : Nat} (hp : p ≤ 256) : ∀ (cs : List Char) (b : Bytes),
    cs.mapM (fun c => if c.toNat < p then some (UInt8.ofNat c.toNat) else none) = some b ↔
      cs = b.map (fun c => Char.ofNat c.toNat) ∧ ∀ c ∈ b, c.toNat < p
  | [], b => by cases b <;> simp
  | c :: cs, b => by
    rw [mapM_byte_cons]
    cases b with
    | nil => split <;> simp
    | cons x t =>
      have ih := mapM_byte_eq_some hp cs t
      simp only [List.map_cons, List.cons.injEq, List.forall_mem_cons]
      split
      next hc =>
        simp only [Option.map_eq_some_iff, List.cons.injEq]
        constructor
        · rintro ⟨t', ht', rfl, rfl⟩
          have hn : (UInt8.ofNat c.toNat).toNat = c.toNat := by
            rw [UInt8.toNat_ofNat']; exact Nat.mod_eq_of_lt (by omega)
          exact ⟨⟨(byteChar_of_lt c (by omega)).symm, (ih.mp ht').1⟩, by rw [hn]; exact hc, (ih.mp ht').2⟩
        · rintro ⟨⟨rfl, e1⟩, _, e2⟩
          exact ⟨t, ih.mpr ⟨e1, e2⟩, ofNat_byteChar x, rfl⟩
      next hc =>
        constructor
        · nofun
        · rintro ⟨⟨rfl, _⟩, hx, _⟩
          exact absurd (by rw [byteChar_toNat]; exact hx) hc

theorem latin1_scan_noBad (b : Bytes) : ∀ t ∈ latin1Scan b, t.isBad = false := by
  intro t ht
  simp only [latin1Scan, List.mem_map] at ht
  obtain ⟨_, _, rfl⟩ := ht
  rfl

theorem asciiScan_of_all : ∀ (b : Bytes) (pos : Nat), (∀ c ∈ b, c < 0x80) →
    asciiScan pos b = (b.map fun c => Char.ofNat c.toNat).map Tok.ch
  | [], _, _ => rfl
  | c :: t, pos, hall => by
    simp only [asciiScan, List.map_cons]
    rw [if_pos (hall c List.mem_cons_self), asciiScan_of_all t (pos + 1) (fun x hx => hall x (List.mem_cons_of_mem _ hx))]

theorem ascii_scan_bad_iff : ∀ (b : Bytes) (pos : Nat),
    (∀ t ∈ asciiScan pos b, t.isBad = false) ↔ ∀ c ∈ b, c < 0x80
  | [], _ => by simp [asciiScan]
  | c :: t, pos => by
    have ih := ascii_scan_bad_iff t (pos + 1)
    simp only [asciiScan, List.forall_mem_cons, ih]
    by_cases hc : c < 0x80
    · simp [hc, Tok.isBad]
    · simp [hc, Tok.isBad]

/-! ## utf-8 -/

theorem byteArray_eq_toByteArray (b : ByteArray) : b = b.data.toList.toByteArray := by
  apply ByteArray.ext
  rw [List.data_toByteArray]

theorem utf8Head_encode_append (c : Char) (rest : Bytes) : utf8Head (String.utf8EncodeChar c ++ rest) = some c := by
  unfold utf8Head
  have hlen : (String.utf8EncodeChar c).length ≤ 4 := by
    rw [String.length_utf8EncodeChar]; exact c.utf8Size_le_four
  rw [List.take_append, List.take_of_length_le hlen, List.toByteArray_append]
  exact ByteArray.utf8DecodeChar?_utf8EncodeChar_append

theorem utf8Head_some {l : Bytes} {c : Char} (h : utf8Head l = some c) :
    ∃ rest, l = String.utf8EncodeChar c ++ rest := by
  unfold utf8Head at h
  have h1 := ByteArray.eq_of_utf8DecodeChar?_eq_some h
  generalize ((l.take 4).toByteArray.extract c.utf8Size (l.take 4).toByteArray.size) = ext at h1
  rw [byteArray_eq_toByteArray ext, ← List.toByteArray_append, List.toByteArray_inj] at h1
  refine ⟨ext.data.toList ++ l.drop 4, ?_⟩
  rw [← List.append_assoc, ← h1, List.take_append_drop]

theorem tail_drop_of_eq {b0 : UInt8} {t e rest : Bytes} (he : e ≠ []) (h : b0 :: t = e ++ rest) :
    t.drop (e.length - 1) = rest := by
  cases e with
  | nil => exact absurd rfl he
  | cons a e' =>
    simp only [List.cons_append, List.cons.injEq] at h
    rw [h.2]
    simp

theorem utf8_scan_flatMap : ∀ (cs : List Char) (fuel pos : Nat),
    (cs.flatMap String.utf8EncodeChar).length ≤ fuel →
    utf8Scan fuel pos (cs.flatMap String.utf8EncodeChar) = cs.map .ch
  | [], fuel, pos, _ => by
    cases fuel <;> rfl
  | c :: cs, fuel, pos, hf => by
    rw [List.flatMap_cons] at hf ⊢
    have hne : String.utf8EncodeChar c ≠ [] := String.utf8EncodeChar_ne_nil
    have hpos : 0 < (String.utf8EncodeChar c).length := List.length_pos_iff.2 hne
    rw [List.length_append] at hf
    obtain ⟨f, rfl⟩ : ∃ f, fuel = f + 1 := ⟨fuel - 1, by omega⟩
    cases hl : String.utf8EncodeChar c ++ cs.flatMap String.utf8EncodeChar with
    | nil => simp [hne] at hl
    | cons b0 t =>
      have hh : utf8Head (b0 :: t) = some c := hl ▸ utf8Head_encode_append c _
      have ht := tail_drop_of_eq hne hl.symm
      rw [String.length_utf8EncodeChar] at ht
      simp only [utf8Scan, hh, List.map_cons]
      rw [ht, utf8_scan_flatMap cs f _ (by omega)]

theorem utf8Err_fst_pos (l : Bytes) : 0 < (utf8Err l).1 := by
  unfold utf8Err
  repeat' split
  all_goals decide

theorem utf8_flatMap_of_scan : ∀ (fuel pos : Nat) (l : Bytes), l.length ≤ fuel →
    (∀ t ∈ utf8Scan fuel pos l, t.isBad = false) →
    ((utf8Scan fuel pos l).filterMap Tok.char?).flatMap String.utf8EncodeChar = l
  | 0, _, l, hf, _ => by
    have : l = [] := List.eq_nil_of_length_eq_zero (by omega)
    subst this; rfl
  | _ + 1, _, [], _, _ => rfl
  | fuel + 1, pos, b0 :: t, hf, h => by
    cases hh : utf8Head (b0 :: t) with
    | none =>
      simp only [utf8Scan, hh] at h
      have := h _ List.mem_cons_self
      cases this
    | some c =>
      simp only [utf8Scan, hh] at h ⊢
      obtain ⟨rest, hr⟩ := utf8Head_some hh
      have hne : String.utf8EncodeChar c ≠ [] := String.utf8EncodeChar_ne_nil
      have ht := tail_drop_of_eq hne hr
      rw [String.length_utf8EncodeChar] at ht
      have hlen : rest.length ≤ fuel := by
        have := congrArg List.length hr
        simp only [List.length_cons, List.length_append, String.length_utf8EncodeChar] at this hf
        have := c.utf8Size_pos
        omega
      rw [ht] at h ⊢
      have ih := utf8_flatMap_of_scan fuel (pos + c.utf8Size) rest hlen
        (fun x hx => h x (List.mem_cons_of_mem _ hx))
      simp only [List.filterMap_cons, Tok.char?, List.flatMap_cons, ih]
      exact hr.symm

/-! ## the three codecs together -/

def NoBad (toks : List Tok) : Prop := ∀ t ∈ toks, t.isBad = false

theorem filterMap_map_ch (cs : List Char) : (cs.map Tok.ch).filterMap Tok.char? = cs := by
  induction cs with
  | nil => rfl
  | cons c cs ih => simp only [List.map_cons, List.filterMap_cons, Tok.char?, ih]

theorem scan_of_encode (enc : Encoding) (cs : List Char) (b : Bytes) (h : encodeChars enc cs = some b) :
    scan enc b = cs.map .ch := by
  cases enc
  · simp only [encodeChars, Option.some.injEq] at h
    subst h
    exact utf8_scan_flatMap cs _ 0 (Nat.le_refl _)
  · obtain ⟨rfl, _⟩ := (mapM_byte_eq_some (Nat.le_refl _) cs b).mp h
    simp [scan, latin1Scan, List.map_map]
  · obtain ⟨rfl, hb⟩ := (mapM_byte_eq_some (by decide) cs b).mp h
    exact asciiScan_of_all b 0 fun c hc => (uint8_lt_iff c 0x80).mpr (hb c hc)

theorem encode_of_scan (enc : Encoding) (b : Bytes) (h : NoBad (scan enc b)) :
    encodeChars enc ((scan enc b).filterMap Tok.char?) = some b := by
  cases enc
  · simp only [encodeChars, scan]
    rw [utf8_flatMap_of_scan b.length 0 b (Nat.le_refl _) h]
  · rw [show scan .latin1 b = (b.map fun c => Char.ofNat c.toNat).map Tok.ch by simp [scan, latin1Scan, List.map_map],
      filterMap_map_ch]
    exact (mapM_byte_eq_some (Nat.le_refl _) _ b).mpr ⟨rfl, fun c _ => c.toNat_lt⟩
  · have hall := (ascii_scan_bad_iff b 0).mp h
    rw [scan, asciiScan_of_all b 0 hall, filterMap_map_ch]
    exact (mapM_byte_eq_some (by decide) _ b).mpr ⟨rfl, fun c hc => (uint8_lt_iff c 0x80).mp (hall c hc)⟩

theorem noBad_map_ch (cs : List Char) : NoBad (cs.map Tok.ch) := by
  intro t ht
  simp only [List.mem_map] at ht
  obtain ⟨_, _, rfl⟩ := ht
  rfl

theorem map_orReplacement_map_ch (cs : List Char) : (cs.map Tok.ch).map Tok.orReplacement = cs := by
  induction cs with
  | nil => rfl
  | cons c cs ih => simp only [List.map_cons, Tok.orReplacement, ih]

theorem map_orReplacement_of_noBad : ∀ (toks : List Tok), NoBad toks →
    toks.map Tok.orReplacement = toks.filterMap Tok.char?
  | [], _ => rfl
  | .ch c :: ts, h => by
    simp only [List.map_cons, List.filterMap_cons, Tok.char?, Tok.orReplacement]
    rw [map_orReplacement_of_noBad ts fun x hx => h x (List.mem_cons_of_mem _ hx)]
  | .bad .. :: ts, h => by
    have := h _ List.mem_cons_self
    cases this

theorem validIn_iff_noBad (enc : Encoding) (b : Bytes) : ValidIn enc b ↔ NoBad (scan enc b) := by
  constructor
  · rintro ⟨s, hs⟩
    rw [encodeText_eq] at hs
    rw [scan_of_encode enc _ b hs]
    exact noBad_map_ch _
  · intro h
    refine ⟨String.ofList ((scan enc b).filterMap Tok.char?), ?_⟩
    rw [encodeText_eq, String.toList_ofList]
    exact encode_of_scan enc b h

theorem find?_isBad_none_iff (toks : List Tok) : toks.find? Tok.isBad = none ↔ NoBad toks := by
  rw [List.find?_eq_none]
  constructor
  · intro h t ht
    cases hb : t.isBad with
    | false => rfl
    | true => exact absurd hb (h t ht)
  · intro h t ht hb
    rw [h t ht] at hb; cases hb

theorem find?_isBad_some {toks : List Tok} {t : Tok} (h : toks.find? Tok.isBad = some t) :
    ∃ s e r, t = .bad s e r := by
  have := List.find?_some h
  cases t with
  | ch c => cases this
  | bad s e r => exact ⟨s, e, r, rfl⟩

/-! ## `decodeText` -/

theorem decodeText_encodeText (enc : Encoding) (errors : Errors) (s : String) (b : Bytes)
    (h : encodeText enc s = some b) : decodeText enc errors b = .ok s := by
  rw [encodeText_eq] at h
  have hs := scan_of_encode enc _ b h
  unfold decodeText
  simp only [hs]
  cases errors
  · have : (s.toList.map Tok.ch).find? Tok.isBad = none := (find?_isBad_none_iff _).2 (noBad_map_ch _)
    simp only [this, filterMap_map_ch, String.ofList_toList]
  · simp only [map_orReplacement_map_ch, String.ofList_toList]
  · simp only [filterMap_map_ch, String.ofList_toList]

example : encodeText .utf8 "€ö" = some [0xE2, 0x82, 0xAC, 0xC3, 0xB6] := by decide +kernel
example : encodeText .latin1 "ö" = some [0xF6] ∧ encodeText .latin1 "€" = none ∧ encodeText .ascii "ö" = none := by
  decide +kernel

theorem decodeText_valid (enc : Encoding) (errors : Errors) (b : Bytes) (h : ValidIn enc b) :
    ∃ s, decodeText enc errors b = .ok s ∧ encodeText enc s = some b := by
  obtain ⟨s, hs⟩ := h
  exact ⟨s, decodeText_encodeText enc errors s b hs, hs⟩

theorem decodeText_strict_ok_iff (enc : Encoding) (b : Bytes) (s : String) :
    decodeText enc .strict b = .ok s ↔ encodeText enc s = some b := by
  constructor
  · intro h
    unfold decodeText at h
    simp only at h
    cases hf : (scan enc b).find? Tok.isBad with
    | some t =>
      obtain ⟨s', e, r, rfl⟩ := find?_isBad_some hf
      rw [hf] at h
      cases h
    | none =>
      rw [hf] at h
      simp only [Except.ok.injEq] at h
      subst h
      rw [encodeText_eq, String.toList_ofList]
      exact encode_of_scan enc b ((find?_isBad_none_iff _).1 hf)
  · exact decodeText_encodeText enc .strict s b

/-- `strict` fails exactly on invalid byte strings; the exception is a `UnicodeDecodeError` whose object is the
byte string and whose span is non-empty and the first error span of the scan -/
theorem decodeText_strict_error_iff (enc : Encoding) (b : Bytes) :
    (∃ e, decodeText enc .strict b = .error e) ↔ ¬ ValidIn enc b := by
  rw [validIn_iff_noBad, ← find?_isBad_none_iff]
  unfold decodeText
  simp only
  cases hf : (scan enc b).find? Tok.isBad with
  | some t =>
    obtain ⟨s', e, r, rfl⟩ := find?_isBad_some hf
    simp
  | none => simp

theorem decodeText_strict_error_shape (enc : Encoding) (b : Bytes) (e : DecodeErr)
    (h : decodeText enc .strict b = .error e) :
    ∃ s t r, e = .unicode enc b s t r ∧ (scan enc b).find? Tok.isBad = some (.bad s t r) := by
  unfold decodeText at h
  simp only at h
  cases hf : (scan enc b).find? Tok.isBad with
  | some t =>
    obtain ⟨s', e', r, rfl⟩ := find?_isBad_some hf
    rw [hf] at h
    simp only [Except.error.injEq] at h
    exact ⟨s', e', r, h.symm, rfl⟩
  | none => rw [hf] at h; cases h

/-- `replace` and `ignore` never raise -/
theorem decodeText_lenient_total (enc : Encoding) (errors : Errors) (h : errors ≠ .strict) (b : Bytes) :
    ∃ s, decodeText enc errors b = .ok s := by
  unfold decodeText
  cases errors
  · exact absurd rfl h
  · exact ⟨_, rfl⟩
  · exact ⟨_, rfl⟩

theorem validIn_latin1 (b : Bytes) : ValidIn .latin1 b :=
  (validIn_iff_noBad _ _).2 (latin1_scan_noBad b)

theorem validIn_ascii_iff (b : Bytes) : ValidIn .ascii b ↔ ∀ c ∈ b, c < 0x80 := by
  rw [validIn_iff_noBad]
  exact ascii_scan_bad_iff b 0

/-- valid utf-8 = core Lean's `ByteArray.IsValidUTF8` (what `String.fromUTF8?` / `ByteArray.validateUTF8` decide) -/
theorem validIn_utf8_iff (b : Bytes) : ValidIn .utf8 b ↔ b.toByteArray.IsValidUTF8 := by
  constructor
  · rintro ⟨s, hs⟩
    simp only [encodeText, Option.some.injEq] at hs
    rw [strBytes_eq_flatMap] at hs
    exact ⟨s.toList, by rw [← hs]; rfl⟩
  · rintro ⟨m, hm⟩
    refine ⟨String.ofList m, ?_⟩
    simp only [encodeText, Option.some.injEq]
    rw [strBytes_eq_flatMap, String.toList_ofList]
    have : (m.flatMap String.utf8EncodeChar).toByteArray = b.toByteArray := hm.symm
    exact List.toByteArray_inj.1 this

theorem decodeText_utf8_strict_eq_fromUTF8? (b : Bytes) (s : String) :
    decodeText .utf8 .strict b = .ok s ↔ String.fromUTF8? b.toByteArray = some s := by
  rw [decodeText_strict_ok_iff]
  simp only [encodeText, Option.some.injEq]
  unfold String.fromUTF8?
  constructor
  · intro h
    have hb : s.toByteArray = b.toByteArray := by
      rw [← h, strBytes_eq_flatMap]
      conv => lhs; rw [← String.ofList_toList (s := s), String.toByteArray_ofList]
      rfl
    have hv : b.toByteArray.IsValidUTF8 := hb ▸ s.isValidUTF8
    rw [dif_pos hv]
    congr 1
    apply String.toByteArray_inj.1
    rw [hb]; rfl
  · intro h
    split at h
    next hv =>
      simp only [Option.some.injEq] at h
      subst h
      rw [FR.strBytes_eq]
      show (b.toByteArray).data.toList = b
      rw [List.data_toByteArray]
    next => cases h

theorem encodeText_injective (enc : Encoding) (s s' : String) (b : Bytes)
    (h : encodeText enc s = some b) (h' : encodeText enc s' = some b) : s = s' := by
  have a := decodeText_encodeText enc .strict s b h
  have a' := decodeText_encodeText enc .strict s' b h'
  rw [a] at a'
  exact Except.ok.inj a'

end FR.Client

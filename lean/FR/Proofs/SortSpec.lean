import FR.Proofs.ZStore
import FR.Proofs.Lists
/-!
# SORT: functional specification of `sortCmd` (for `FR/Props/C02s.lean`)

The monadic body `sortCmd` (FR/Sys/Server.lean) is shown equal to a pure description `core` that threads the lazily
purged database through the look-ups, and `core` is then read on the live view (`specLive`: sorting, LIMIT, GET).

§1 the two comparisons of SORT (numeric `(score, element)` pairs, ALPHA weights) are total preorders (the sort itself:
`FR/Proofs/StableSort.lean`); §2 `_lookup_key` as a pure function on one database and on the live view; §3 `core` and
the loops of the body (`sortCmd_eq`); §4 the description on the live view; §5 facts about its pieces (keys, LIMIT as
drop/take, GET); §6 `SortedBy`: "sorted stably", which determines the result; §7 the body on a state (`sortCmd_run`);
§8 the order hint of a set source, `bytes.find` and the pattern substitution; §9 the option parser against a grammar
(`Opt`, `SpelledAll`, `parse_opts`, `parse_ok_spelled`); §10 the command through `runWith` (`run_sort`); §11 small
cases (no elements, LIMIT bounds, what a run without STORE leaves of the state); §12 the last BY decides.
-/
namespace FR.SortSpec
open FR FR.M FR.Db

/-! ## 1. The two comparisons -/

/-- the numeric comparison of `sortCmd`: Python `(score_a, a) <= (score_b, b)` -/
def numLe (a b : Dbl × Bytes) : Bool := !pairLt b.1 (.val b.2) a.1 (.val a.2)

/-- the ALPHA comparison of `sortCmd` (on the weights only) -/
def alphaKeyLe (a b : Option Bytes × Bytes) : Bool := alphaLe a.1 b.1

def NoNaN (a : Dbl × Bytes) : Prop := a.1.isNaN = false

theorem pairLt_congr_right {s1 s2 s3 : Dbl} {m1 m2 : LexB} (e : Dbl.eq s2 s3 = true)
    (h : pairLt s1 m1 s2 m2 = true) : pairLt s1 m1 s3 m2 = true := by
  unfold pairLt at *
  by_cases e12 : Dbl.eq s1 s2 = true
  · rw [if_pos e12] at h
    rw [if_pos (Dbl.eq_trans e12 e)]; exact h
  · rw [if_neg e12] at h
    have h13 := Dbl.lt_of_lt_of_eq h e
    rw [if_neg (by rw [Dbl.eq_of_lt h13]; decide)]
    exact h13

theorem numLe_totalPre : TotalPre numLe NoNaN := by
  constructor
  · intro a b _ _
    unfold numLe
    cases h : pairLt b.1 (.val b.2) a.1 (.val a.2) with
    | false => left; rfl
    | true => right; rw [pairLt_asymm h]; rfl
  · intro a b c ha hb hc h1 h2
    unfold numLe at *
    cases h : pairLt c.1 (.val c.2) a.1 (.val a.2) with
    | false => rfl
    | true =>
      exfalso
      rcases pairLt_trichotomy (.val b.2) (.val a.2) hb ha with h' | ⟨e, m⟩ | h'
      · rw [h'] at h1; cases h1
      · have := pairLt_congr_right ((Dbl.eq_comm _ _).trans e) h
        rw [← m] at this
        rw [this] at h2; cases h2
      · have := pairLt_trans h h'
        rw [this] at h2; cases h2

theorem bytesLe_total (x y : Bytes) : bytesLe x y = true ∨ bytesLe y x = true := by
  unfold bytesLe
  cases h : bytesLt y x with
  | false => left; rfl
  | true => right; rw [bytesLt_asymm h]; rfl

theorem bytesLe_trans {x y z : Bytes} (h1 : bytesLe x y = true) (h2 : bytesLe y z = true) : bytesLe x z = true := by
  unfold bytesLe at *
  cases h : bytesLt z x with
  | false => rfl
  | true =>
    exfalso
    rcases bytesLt_trichotomy y x with h' | h' | h'
    · rw [h'] at h1; cases h1
    · subst h'; rw [h] at h2; cases h2
    · have := bytesLt_trans h h'
      rw [this] at h2; cases h2

theorem bytesLe_antisymm {x y : Bytes} (h1 : bytesLe x y = true) (h2 : bytesLe y x = true) : x = y := by
  unfold bytesLe at *
  rcases bytesLt_trichotomy x y with h | h | h
  · rw [h] at h2; cases h2
  · exact h
  · rw [h] at h1; cases h1

theorem alphaLe_total (a b : Option Bytes) : alphaLe a b = true ∨ alphaLe b a = true := by
  cases a <;> cases b <;> simp [alphaLe]
  exact bytesLe_total _ _

theorem alphaLe_trans {a b c : Option Bytes} (h1 : alphaLe a b = true) (h2 : alphaLe b c = true) :
    alphaLe a c = true := by
  cases a <;> cases b <;> cases c <;> simp_all [alphaLe]
  exact bytesLe_trans h1 h2

theorem alphaKeyLe_totalPre : TotalPre alphaKeyLe (fun _ => True) :=
  ⟨fun a b _ _ => alphaLe_total a.1 b.1, fun _ _ _ _ _ _ h1 h2 => alphaLe_trans h1 h2⟩

/-! ## 2. `_lookup_key` as a pure function -/

/-- the key (and, after `->`, the hash field) that `_lookup_key(key, pattern)` reads; `none`: no `*` in the pattern -/
def patKey (pattern key : Bytes) : Option (Bytes × Option Bytes) :=
  match findSub [42] pattern with
  | none => none
  | some p =>
    match findSub [45, 62] ((pattern.drop (p + 1)).take ((pattern.drop (p + 1)).length - 1)) with
    | some a => some (pattern.take p ++ key ++ (pattern.drop (p + 1)).take a, some ((pattern.drop (p + 1)).drop (a + 2)))
    | none => some (pattern.take p ++ key ++ pattern.drop (p + 1), none)

/-- what `_lookup_key` extracts from the entry it found -/
def pick (field : Option Bytes) (it : Option Item) : Option Bytes :=
  match it with
  | none => none
  | some it =>
    match field, it.value with
    | some f, .hash h => h.lookup f
    | some _, _ => none
    | none, .str b => some b
    | none, _ => none

/-- `_lookup_key` on one database: the database after the lazy deletion, and the value -/
def lookupDb (db : Db) (key pattern : Bytes) : Db × Option Bytes :=
  if pattern == [35] then (db, some key)
  else match patKey pattern key with
    | none => (db, none)
    | some (nk, f) => ((db.get nk).1, pick f (db.get nk).2)

/-- `_lookup_key` on the live view -/
def lookupLive (live : Bytes → Option Item) (key pattern : Bytes) : Option Bytes :=
  if pattern == [35] then some key
  else match patKey pattern key with
    | none => none
    | some (nk, f) => pick f (live nk)

theorem lookupKey_run (d : Nat) (key pattern : Bytes) (s : Sys) :
    lookupKey d key pattern s =
      ((lookupDb (s.dbAt d) key pattern).2, s.setDbS d (lookupDb (s.dbAt d) key pattern).1) := by
  unfold lookupKey lookupDb patKey
  by_cases h : (pattern == [35]) = true
  · simp only [h, if_true, Sys.setDbS_self]; rfl
  · simp only [h, Bool.false_eq_true, if_false]
    cases findSub [42] pattern with
    | none => simp only [Sys.setDbS_self]; rfl
    | some p =>
      simp only []
      cases findSub [45, 62] ((pattern.drop (p + 1)).take ((pattern.drop (p + 1)).length - 1)) with
      | none =>
        simp only [bind, StateT.bind, getDb_run', setDb_run']
        generalize (s.dbAt d).get (pattern.take p ++ key ++ pattern.drop (p + 1)) = r
        obtain ⟨db', item⟩ := r
        cases item with
        | none => rfl
        | some it => simp only [pick]; cases it.value <;> rfl
      | some a =>
        simp only [bind, StateT.bind, getDb_run', setDb_run']
        generalize (s.dbAt d).get (pattern.take p ++ key ++ (pattern.drop (p + 1)).take a) = r
        obtain ⟨db', item⟩ := r
        cases item with
        | none => rfl
        | some it => simp only [pick]; cases it.value <;> rfl

theorem lookupDb_time (db : Db) (key pattern : Bytes) : (lookupDb db key pattern).1.time = db.time := by
  unfold lookupDb
  split
  · rfl
  · split
    · rfl
    · exact Db.get_time _ _

/-- one look-up only purges, and returns what the live view holds -/
theorem lookupDb_spec {db : Db} (nd : NodupKeys db.dict) (key pattern : Bytes) :
    Reads db (lookupDb db key pattern).1 ∧ (lookupDb db key pattern).2 = lookupLive db.live key pattern := by
  unfold lookupDb lookupLive
  split
  · exact ⟨Reads.refl nd, rfl⟩
  · split
    · exact ⟨Reads.refl nd, rfl⟩
    · exact ⟨Reads.get nd _, by simp only [get_snd_live nd]⟩

/-- lazy deletions leave the live view as it is -/
theorem reads_live {a b : Db} (h : Reads a b) : b.live = a.live := funext (ZStore.Reads.live h)

/-- `#` is the element itself -/
theorem lookupLive_hash (live : Bytes → Option Item) (key : Bytes) : lookupLive live key [35] = some key := rfl

/-- the look-ups `(element, pattern)` in order, threading the lazily purged database -/
def lookupsDb : List (Bytes × Bytes) → Db → Db × List (Option Bytes)
  | [], db => (db, [])
  | q :: rest, db =>
    ((lookupsDb rest (lookupDb db q.1 q.2).1).1, (lookupDb db q.1 q.2).2 :: (lookupsDb rest (lookupDb db q.1 q.2).1).2)

theorem lookupsDb_cons (q : Bytes × Bytes) (rest : List (Bytes × Bytes)) (db : Db) :
    lookupsDb (q :: rest) db =
      ((lookupsDb rest (lookupDb db q.1 q.2).1).1,
       (lookupDb db q.1 q.2).2 :: (lookupsDb rest (lookupDb db q.1 q.2).1).2) := rfl

theorem lookupsDb_time (qs : List (Bytes × Bytes)) (db : Db) : (lookupsDb qs db).1.time = db.time := by
  induction qs generalizing db with
  | nil => rfl
  | cons q qs ih => rw [lookupsDb_cons, ih, lookupDb_time]

theorem lookupsDb_append (a b : List (Bytes × Bytes)) (db : Db) :
    lookupsDb (a ++ b) db =
      ((lookupsDb b (lookupsDb a db).1).1, (lookupsDb a db).2 ++ (lookupsDb b (lookupsDb a db).1).2) := by
  induction a generalizing db with
  | nil => rfl
  | cons q a ih =>
    rw [List.cons_append, lookupsDb_cons, lookupsDb_cons, ih]
    rfl

theorem lookupsDb_spec (qs : List (Bytes × Bytes)) (db : Db) (nd : NodupKeys db.dict) :
    Reads db (lookupsDb qs db).1 ∧ (lookupsDb qs db).2 = qs.map (fun q => lookupLive db.live q.1 q.2) := by
  induction qs generalizing db with
  | nil => exact ⟨Reads.refl nd, rfl⟩
  | cons q qs ih =>
    rw [lookupsDb_cons]
    obtain ⟨hr, hs⟩ := lookupDb_spec nd q.1 q.2
    obtain ⟨h1, h2⟩ := ih _ hr.nd
    refine ⟨hr.trans h1, ?_⟩
    show _ :: _ = _
    rw [h2, hs, List.map_cons]
    rw [reads_live hr]

/-- the numeric key of one element: its weight converted by `SortFloat`, `0.0` for a missing weight -/
def numKey (live : Bytes → Option Item) (pat : Bytes) (v : Bytes) : Except Err Dbl :=
  match lookupLive live v pat with
  | none => .ok Dbl.zero
  | some b => Conv.sortFloat b

/-- the `(score, element)` pairs of the numeric sort, or the first conversion error -/
def numKeyed (live : Bytes → Option Item) (pat : Bytes) : List Bytes → Except Err (List (Dbl × Bytes))
  | [] => .ok []
  | v :: vs =>
    match numKey live pat v with
    | .error e => .error e
    | .ok x =>
      match numKeyed live pat vs with
      | .error e => .error e
      | .ok ks => .ok ((x, v) :: ks)

/-- the numeric key loop on one database: no look-up after the first conversion error -/
def numLoop (pat : Bytes) : List Bytes → Db → List (Dbl × Bytes) → Db × Except Err (List (Dbl × Bytes))
  | [], db, acc => (db, .ok acc)
  | v :: vs, db, acc =>
    match (lookupDb db v pat).2 with
    | none => numLoop pat vs (lookupDb db v pat).1 (acc ++ [(Dbl.zero, v)])
    | some b =>
      match Conv.sortFloat b with
      | .ok x => numLoop pat vs (lookupDb db v pat).1 (acc ++ [(x, v)])
      | .error e => ((lookupDb db v pat).1, .error e)

theorem numLoop_time (pat : Bytes) (vs : List Bytes) (db : Db) (acc : List (Dbl × Bytes)) :
    (numLoop pat vs db acc).1.time = db.time := by
  induction vs generalizing db acc with
  | nil => rfl
  | cons v vs ih =>
    unfold numLoop
    split
    · rw [ih, lookupDb_time]
    · split
      · rw [ih, lookupDb_time]
      · exact lookupDb_time _ _ _

theorem numLoop_spec (pat : Bytes) (vs : List Bytes) (db : Db) (nd : NodupKeys db.dict) (acc : List (Dbl × Bytes)) :
    Reads db (numLoop pat vs db acc).1 ∧
      (numLoop pat vs db acc).2 = (match numKeyed db.live pat vs with
        | .ok ks => .ok (acc ++ ks)
        | .error e => .error e) := by
  induction vs generalizing db acc with
  | nil => exact ⟨Reads.refl nd, by simp [numLoop, numKeyed]⟩
  | cons v vs ih =>
    obtain ⟨hr, hs⟩ := lookupDb_spec nd v pat
    have hl := reads_live hr
    unfold numLoop numKeyed numKey
    rw [← hs]
    cases hw : (lookupDb db v pat).2 with
    | none =>
      simp only []
      obtain ⟨h1, h2⟩ := ih _ hr.nd (acc ++ [(Dbl.zero, v)])
      refine ⟨hr.trans h1, ?_⟩
      rw [h2, hl]
      cases numKeyed db.live pat vs <;> simp
    | some b =>
      simp only []
      cases hx : Conv.sortFloat b with
      | error e => exact ⟨hr, rfl⟩
      | ok x =>
        simp only []
        obtain ⟨h1, h2⟩ := ih _ hr.nd (acc ++ [(x, v)])
        refine ⟨hr.trans h1, ?_⟩
        rw [h2, hl]
        cases numKeyed db.live pat vs <;> simp

/-! ## 3. The pure description of the body -/

/-- `isinstance(key.value, (set, list, ZSet))` fails -/
def wrongTy : Option Value → Bool
  | none => false
  | some (.set _) | some (.list _) | some (.zset _) => false
  | some _ => true

/-- a recorded iteration order of a set is accepted iff it is a permutation of the stored members -/
def validHint (p m : List Bytes) : Bool := p.length == m.length && p.all m.contains && m.all p.contains

/-- `list(key.value)`: the elements in iteration order (a set consumes one hint), and the state afterwards -/
def takeItems (v : Option Value) (s : Sys) : Option (List Bytes) × Sys :=
  match v with
  | some (.list l) => (some l, s)
  | some (.zset z) => (some (z.byscore.map Prod.snd), s)
  | some (.set m) =>
    match s.picks with
    | p :: restp => if validHint p m then (some p, { s with picks := restp }) else (none, s)
    | [] => (none, s)
  | _ => (some [], s)

/-- the half-open range `[start, stop)` computed from LIMIT for `n` elements -/
def limits (o : SortOpts) (n : Int) : Int × Int :=
  let start := max o.limitStart 0
  let stop := if o.limitCount < 0 then n else start + o.limitCount
  let p : Int × Int := if start ≥ n then (n - 1, n - 1) else (start, stop)
  (p.1, min p.2 n)

/-- the sorting phase on one database -/
def sortDb (val : Option Value) (o : SortOpts) (items : List Bytes) (db : Db) : Db × Except Err (List Bytes) :=
  if !o.dontsort then
    if o.alpha then
      let r := lookupsDb (items.map fun v => (v, o.sortby.getD [35])) db
      (r.1, .ok ((if o.desc then descSort alphaKeyLe (r.2.zip items) else stableSort alphaKeyLe (r.2.zip items)).map
        Prod.snd))
    else
      let r := numLoop (o.sortby.getD [35]) items db []
      (r.1, match r.2 with
        | .error e => .error e
        | .ok keyed => .ok ((if o.desc then descSort numLe keyed else stableSort numLe keyed).map Prod.snd))
  else
    (db, .ok (match val with
      | some (.list _) | some (.zset _) => if o.desc then items.reverse else items
      | _ => items))

def getsOf (o : SortOpts) : List Bytes := if o.gets.isEmpty then [[35]] else o.gets

/-- with STORE a missing value is stored as the empty string -/
def fixGet (o : SortOpts) (v : Option Bytes) : Option Bytes := if o.store.isSome && v.isNone then some [] else v

/-- the look-ups of the GET phase, row by row -/
def getReqs (o : SortOpts) (rows : List Bytes) : List (Bytes × Bytes) :=
  rows.flatMap fun row => (getsOf o).map fun g => (row, g)

/-- the `CommandItem` written back by STORE -/
def storeCI (dst : Bytes) (vals : List Bytes) : CI :=
  ({ key := dst, val := none, expireat := none } : CI).setValue (some (.list vals))

/-- LIMIT, GET, STORE / reply -/
def finish (d : Nat) (cis : List CI) (o : SortOpts) (sorted : List Bytes) (n : Int) :
    M (Except Err (Reply × List CI)) := fun s =>
  let g := lookupsDb (getReqs o (Py.slice sorted (limits o n).1 (limits o n).2)) (s.dbAt d)
  let out := g.2.map (fixGet o)
  match o.store with
  | none => (.ok (.arr (out.map Reply.ofOptBulk), cis), s.setDbS d g.1)
  | some dst =>
    (.ok (.int (out.map fun x => x.getD []).length, cis),
     ((s.setDbS d g.1).setDbS d (((s.setDbS d g.1).dbAt d).get dst).1).wbStep d
       (storeCI dst (out.map fun x => x.getD [])))

def badHintMsg : String := "sort: set order hint missing or not a permutation"

/-- the body after `list(key.value)`: options, sorting, LIMIT, GET, STORE -/
def coreTail (d : Nat) (val : Option Value) (rest : List Arg) (cis : List CI) (items? : Option (List Bytes)) :
    M (Except Err (Reply × List CI)) := fun s =>
  match parseSortOpts (Cmd.rawArgs rest) {} with
  | .error e => (.error e, s)
  | .ok o =>
    match items? with
    | none => (.error "model: bad hint", (M.fault badHintMsg s).2)
    | some items =>
      match (sortDb val o items (s.dbAt d)).2 with
      | .error e => (.error e, s.setDbS d (sortDb val o items (s.dbAt d)).1)
      | .ok sorted => finish d cis o sorted items.length (s.setDbS d (sortDb val o items (s.dbAt d)).1)

/-- the whole body on a state -/
def core (d k : Nat) (rest : List Arg) (cis : List CI) : M (Except Err (Reply × List CI)) := fun s =>
  if wrongTy (ciAt cis k).val then (.error Msgs.WRONGTYPE_MSG, s)
  else coreTail d (ciAt cis k).val rest cis (takeItems (ciAt cis k).val s).1 (takeItems (ciAt cis k).val s).2

/-! ### the loops of the body

`numBody`, `getBody` and `rowBody` restate the body of a `for` loop with the text the `do` elaborator produces for it
(the mutable variables as one loop state), so that the loop in the unfolded model is recognised by `change` and a
lemma can say what it computes (`numLoop_run`, `getInner_run`, `getOuter_run`); the induction over the loop is done
once, in `forIn_dbLoop`. -/

theorem pure_run {α : Type} (a : α) (s : Sys) : (pure a : M α) s = (a, s) := rfl

/-- the weight look-ups of the ALPHA sort -/
theorem mapM_lookup_run (d : Nat) (pat : Bytes) (items : List Bytes) (s : Sys) (hd : d < s.srv.dbs.length) :
    (items.mapM fun v => do
        let w ← lookupKey d v pat
        pure (w, v)) s =
      ((lookupsDb (items.map fun v => (v, pat)) (s.dbAt d)).2.zip items,
       s.setDbS d (lookupsDb (items.map fun v => (v, pat)) (s.dbAt d)).1) := by
  induction items generalizing s with
  | nil => simp only [List.mapM_nil, List.map_nil, lookupsDb, List.zip_nil_right, Sys.setDbS_self]; rfl
  | cons v vs ih =>
    have hlen : d < (s.setDbS d (lookupDb (s.dbAt d) v pat).1).srv.dbs.length := by rw [Sys.setDbS_len]; exact hd
    rw [List.mapM_cons]
    simp only [ZStore.bind_run, lookupKey_run, pure_run]
    rw [ih _ hlen, Sys.setDbS_dbAt_self s d _ hd (lookupDb_time _ _ _), Sys.setDbS_setDbS]
    rfl

/-- Loop rule for the `for` loops of the body, which touch database `d` alone and never break.  `F l b db` is what
the loop over `l` is claimed to make of the loop variable `b` on the database `db`: the database it leaves, and `out`
of the last loop variable.  It is enough that every step of the body is a step of `F`. -/
theorem forIn_dbLoop {α β γ : Type} (d : Nat) (out : β → γ) (body : α → β → M (ForInStep β))
    (F : List α → β → Db → Db × γ) (hnil : ∀ b db, F [] b db = (db, out b))
    (hcons : ∀ a l b s, d < s.srv.dbs.length → ∃ b' db', db'.time = (s.dbAt d).time ∧
      body a b s = (ForInStep.yield b', s.setDbS d db') ∧ F (a :: l) b (s.dbAt d) = F l b' db')
    (l : List α) (b : β) (s : Sys) (hd : d < s.srv.dbs.length) :
    ∃ res, forIn l b body s = (res, s.setDbS d (F l b (s.dbAt d)).1) ∧ out res = (F l b (s.dbAt d)).2 := by
  induction l generalizing b s with
  | nil => exact ⟨b, by rw [hnil, Sys.setDbS_self]; rfl, by rw [hnil]⟩
  | cons a l ih =>
    obtain ⟨b', db', ht, hbody, hF⟩ := hcons a l b s hd
    obtain ⟨res, h1, h2⟩ := ih b' (s.setDbS d db') (by rw [Sys.setDbS_len]; exact hd)
    rw [Sys.setDbS_dbAt_self s d db' hd ht] at h1 h2
    rw [Sys.setDbS_setDbS] at h1
    rw [List.forIn_cons, ZStore.bind_run, hbody, hF]
    exact ⟨res, h1, h2⟩

abbrev NumSt := List (Dbl × Bytes) × Option Err

/-- body of the numeric key loop, as elaborated -/
def numBody (d : Nat) (pat : Bytes) (v : Bytes) (st : NumSt) : M (ForInStep NumSt) :=
  if st.2.isNone = true then do
    let w ← lookupKey d v pat
    match w with
    | none => pure (ForInStep.yield (st.1 ++ [(Dbl.zero, v)], st.2))
    | some b =>
      match Conv.sortFloat b with
      | .ok x => pure (ForInStep.yield (st.1 ++ [(x, v)], st.2))
      | .error e => pure (ForInStep.yield (st.1, some e))
  else pure (ForInStep.yield (st.1, st.2))

/-- the numeric key loop leaves the keys, or the first conversion error in `err`; once `err` is set the remaining
steps do nothing -/
theorem numLoop_run (d : Nat) (pat : Bytes) (vs : List Bytes) (acc : List (Dbl × Bytes)) (s : Sys)
    (hd : d < s.srv.dbs.length) :
    ∃ res : NumSt, forIn vs ((acc, none) : NumSt) (numBody d pat) s =
        (res, s.setDbS d (numLoop pat vs (s.dbAt d) acc).1) ∧
      (match res.2 with
       | some e => .error e
       | none => .ok res.1) = (numLoop pat vs (s.dbAt d) acc).2 := by
  refine forIn_dbLoop d (fun st : NumSt => match st.2 with
      | some e => Except.error e
      | none => .ok st.1) (numBody d pat)
    (fun vs st db => match st.2 with
      | some e => (db, .error e)
      | none => numLoop pat vs db st.1)
    (fun st db => by obtain ⟨acc, _ | e⟩ := st <;> rfl) (fun v vs st s _ => ?_) vs (acc, none) s hd
  obtain ⟨acc, _ | e⟩ := st
  · -- no error so far: one look-up, and `numLoop` takes the same step
    unfold numBody
    simp only [Option.isNone_none, if_true, ZStore.bind_run, lookupKey_run, numLoop]
    cases (lookupDb (s.dbAt d) v pat).2 with
    | none => exact ⟨_, _, lookupDb_time _ _ _, rfl, rfl⟩
    | some b =>
      simp only []
      cases Conv.sortFloat b with
      | ok x => exact ⟨_, _, lookupDb_time _ _ _, rfl, rfl⟩
      | error e => exact ⟨_, _, lookupDb_time _ _ _, rfl, rfl⟩
  · -- `err` is set: the step does nothing
    exact ⟨(acc, some e), s.dbAt d, rfl, by rw [Sys.setDbS_self]; rfl, rfl⟩

/-- A loop whose step `a` performs the look-ups `reqs a` on database `d` and appends what they return performs the
look-ups of all its steps, in order: both GET loops are of this kind. -/
theorem forIn_lookups {α : Type} (d : Nat) (fix : Option Bytes → Option Bytes) (reqs : α → List (Bytes × Bytes))
    (body : α → List (Option Bytes) → M (ForInStep (List (Option Bytes))))
    (hb : ∀ a out s, d < s.srv.dbs.length → body a out s =
      (ForInStep.yield (out ++ (lookupsDb (reqs a) (s.dbAt d)).2.map fix),
       s.setDbS d (lookupsDb (reqs a) (s.dbAt d)).1))
    (l : List α) (out : List (Option Bytes)) (s : Sys) (hd : d < s.srv.dbs.length) :
    forIn l out body s =
      (out ++ (lookupsDb (l.flatMap reqs) (s.dbAt d)).2.map fix,
       s.setDbS d (lookupsDb (l.flatMap reqs) (s.dbAt d)).1) := by
  obtain ⟨res, h1, h2⟩ := forIn_dbLoop d id body
    (fun l out db => ((lookupsDb (l.flatMap reqs) db).1, out ++ (lookupsDb (l.flatMap reqs) db).2.map fix))
    (fun out db => by simp only [List.flatMap_nil, lookupsDb, List.map_nil, List.append_nil, id])
    (fun a l out s hd => ⟨_, _, lookupsDb_time (reqs a) (s.dbAt d), hb a out s hd, by
      simp only [List.flatMap_cons, lookupsDb_append, List.map_append, List.append_assoc]⟩) l out s hd
  exact h1.trans (Prod.ext h2 rfl)

/-- body of the inner GET loop, as elaborated -/
def getBody (d : Nat) (o : SortOpts) (row g : Bytes) (out : List (Option Bytes)) :
    M (ForInStep (List (Option Bytes))) := do
  let v ← lookupKey d row g
  pure (ForInStep.yield (out ++ [if (o.store.isSome && v.isNone) = true then some [] else v]))

theorem getInner_run (d : Nat) (o : SortOpts) (row : Bytes) (gs : List Bytes) (out : List (Option Bytes)) (s : Sys)
    (hd : d < s.srv.dbs.length) :
    forIn gs out (getBody d o row) s =
      (out ++ (lookupsDb (gs.map fun g => (row, g)) (s.dbAt d)).2.map (fixGet o),
       s.setDbS d (lookupsDb (gs.map fun g => (row, g)) (s.dbAt d)).1) := by
  have := forIn_lookups d (fixGet o) (fun g => [(row, g)]) (getBody d o row) (fun g out s _ => by
    unfold getBody
    simp only [ZStore.bind_run, lookupKey_run]
    rfl) gs out s hd
  rwa [← List.map_eq_flatMap] at this

/-- body of the outer GET loop, as elaborated -/
def rowBody (d : Nat) (o : SortOpts) (row : Bytes) (out : List (Option Bytes)) :
    M (ForInStep (List (Option Bytes))) := do
  let r ← forIn (getsOf o) out (getBody d o row)
  pure (ForInStep.yield r)

theorem getOuter_run (d : Nat) (o : SortOpts) (rows : List Bytes) (out : List (Option Bytes)) (s : Sys)
    (hd : d < s.srv.dbs.length) :
    forIn rows out (rowBody d o) s =
      (out ++ (lookupsDb (getReqs o rows) (s.dbAt d)).2.map (fixGet o),
       s.setDbS d (lookupsDb (getReqs o rows) (s.dbAt d)).1) :=
  forIn_lookups d (fixGet o) (fun row => (getsOf o).map fun g => (row, g)) (rowBody d o) (fun row out s hd => by
    unfold rowBody
    rw [ZStore.bind_run, getInner_run d o row _ out s hd]
    rfl) rows out s hd

/-- The two join points of the `do` block — `jp`, what follows `list(key.value)`, and inside it `jp2`, what follows
the sorting phase — are identified with `coreTail` and `finish` first, so that the five-way split on the type of the
source does not repeat the tail. -/
theorem sortCmd_eq (c d k : Nat) (rest : List Arg) (cis : List CI) (s : Sys) (hd : d < s.srv.dbs.length) :
    sortCmd c d (.key k :: rest) cis s = core d k rest cis s := by
  unfold sortCmd
  simp -zeta only []
  extract_lets key wrong out keyed err le jp
  have hjp : ∀ items? s1, d < s1.srv.dbs.length → jp items? s1 = coreTail d key.val rest cis items? s1 := by
    intro items? s1 hd1
    simp -zeta only [jp]
    unfold coreTail
    cases parseSortOpts (Cmd.rawArgs rest) {} with
    | error e => rfl
    | ok o =>
      cases items? with
      | none => rfl
      | some items =>
        simp -zeta only []
        extract_lets n start stop stop' gets sortby jp2
        have hjp2 : ∀ sorted? s2, d < s2.srv.dbs.length → jp2 sorted? s2 =
            (match sorted? with
             | .error e => (.error e, s2)
             | .ok sorted => finish d cis o sorted items.length s2) := by
          intro sorted? s2 hd2
          cases sorted? with
          | error e => rfl
          | ok sorted =>
            simp -zeta only [jp2]
            change (forIn (Py.slice sorted (limits o items.length).1 (limits o items.length).2) [] (rowBody d o) >>= _) s2 = _
            rw [ZStore.bind_run, getOuter_run d o _ _ s2 hd2]
            unfold finish
            simp only [List.nil_append]
            cases o.store with
            | none => rfl
            | some dst =>
              simp only [ZStore.bind_run, getDb_run', setDb_run', writebackAll_single, pure_run]
              rfl
        clear_value jp2
        have hlenS : ∀ db, d < (s1.setDbS d db).srv.dbs.length := fun db => by rw [Sys.setDbS_len]; exact hd1
        unfold sortDb
        by_cases hds : (!o.dontsort) = true
        · simp only [hds, if_true]
          by_cases ha : o.alpha = true
          · simp only [ha, if_true]
            change (List.mapM (fun v => do let w ← lookupKey d v (o.sortby.getD [35]); pure (w, v)) items >>= _) s1 = _
            rw [ZStore.bind_run, mapM_lookup_run d _ items s1 hd1]
            exact hjp2 (.ok _) _ (hlenS _)
          · simp only [ha, Bool.false_eq_true, if_false]
            change (forIn items ((([] : List (Dbl × Bytes)), (none : Option Err)) : NumSt) (numBody d (o.sortby.getD [35])) >>= _) s1 = _
            obtain ⟨res, h1, h2⟩ := numLoop_run d (o.sortby.getD [35]) items [] s1 hd1
            rw [ZStore.bind_run, h1, ← h2]
            obtain ⟨ks, err⟩ := res
            cases err with
            | some e => exact hjp2 (.error e) _ (hlenS _)
            | none => exact hjp2 (.ok _) _ (hlenS _)
        · simp only [hds, Bool.false_eq_true, if_false, Sys.setDbS_self]
          generalize key.val = v
          cases v with
          | none => exact hjp2 (.ok _) _ hd1
          | some vv => cases vv <;> exact hjp2 (.ok _) _ hd1
  clear_value jp
  unfold core
  simp only [wrong, key] at hjp ⊢
  generalize (ciAt cis k).val = v at hjp ⊢
  cases v with
  | none => exact hjp _ _ hd
  | some vv =>
    cases vv with
    | str b => rfl
    | hash h => rfl
    | list l => exact hjp _ _ hd
    | zset z => exact hjp _ _ hd
    | set m =>
      simp only [wrongTy, Bool.false_eq_true, if_false, takeItems]
      obtain ⟨srv, out', clocks, picks, flt, crashed⟩ := s
      cases picks with
      | nil => exact hjp _ _ hd
      | cons p restp =>
        simp only [validHint]
        by_cases hv : (p.length == m.length && p.all m.contains && m.all p.contains) = true
        · simp only [hv, if_true]
          refine Eq.trans ?_ (hjp _ _ hd)
          rw [ZStore.bind_run]
          show (ite ((p.length == m.length && p.all m.contains && m.all p.contains) = true) _ _ : M _) _ = _
          rw [if_pos hv]
          rfl
        · simp only [hv, Bool.false_eq_true, if_false]
          refine Eq.trans ?_ (hjp _ _ hd)
          rw [ZStore.bind_run]
          show (ite ((p.length == m.length && p.all m.contains && m.all p.contains) = true) _ _ : M _) _ = _
          rw [if_neg hv]
          rfl

/-! ## 4. The description on the live view -/

/-- the elements paired with their ALPHA weights -/
def alphaKeyed (live : Bytes → Option Item) (pat : Bytes) (items : List Bytes) : List (Option Bytes × Bytes) :=
  items.map fun v => (lookupLive live v pat, v)

/-- the sorted sequence (before LIMIT) -/
def sortedLive (live : Bytes → Option Item) (val : Option Value) (o : SortOpts) (items : List Bytes) :
    Except Err (List Bytes) :=
  if !o.dontsort then
    if o.alpha then
      .ok ((if o.desc then descSort alphaKeyLe (alphaKeyed live (o.sortby.getD [35]) items)
            else stableSort alphaKeyLe (alphaKeyed live (o.sortby.getD [35]) items)).map Prod.snd)
    else
      match numKeyed live (o.sortby.getD [35]) items with
      | .error e => .error e
      | .ok keyed => .ok ((if o.desc then descSort numLe keyed else stableSort numLe keyed).map Prod.snd)
  else
    .ok (match val with
      | some (.list _) | some (.zset _) => if o.desc then items.reverse else items
      | _ => items)

/-- the rows selected by LIMIT -/
def rowsOf (o : SortOpts) (sorted : List Bytes) (n : Int) : List Bytes :=
  Py.slice sorted (limits o n).1 (limits o n).2

/-- the GET expansion of the rows -/
def outLive (live : Bytes → Option Item) (o : SortOpts) (rows : List Bytes) : List (Option Bytes) :=
  rows.flatMap fun row => (getsOf o).map fun g => fixGet o (lookupLive live row g)

/-- the outcome of a SORT on a live view: the error, or the list that is replied / stored -/
def specLive (live : Bytes → Option Item) (val : Option Value) (o : SortOpts) (items : List Bytes) :
    Except Err (List (Option Bytes)) :=
  match sortedLive live val o items with
  | .error e => .error e
  | .ok sorted => .ok (outLive live o (rowsOf o sorted items.length))

theorem zip_map_self {α β : Type} (f : α → β) (l : List α) : (l.map f).zip l = l.map fun v => (f v, v) := by
  induction l with
  | nil => rfl
  | cons a l ih => simp only [List.map_cons, List.zip_cons_cons, ih]

theorem sortDb_time (val : Option Value) (o : SortOpts) (items : List Bytes) (db : Db) :
    (sortDb val o items db).1.time = db.time := by
  unfold sortDb
  split
  · split
    · exact lookupsDb_time _ _
    · exact numLoop_time _ _ _ _
  · rfl

theorem sortDb_spec (val : Option Value) (o : SortOpts) (items : List Bytes) (db : Db) (nd : NodupKeys db.dict) :
    Reads db (sortDb val o items db).1 ∧ (sortDb val o items db).2 = sortedLive db.live val o items := by
  unfold sortDb sortedLive
  by_cases hds : (!o.dontsort) = true
  · simp only [hds, if_true]
    by_cases ha : o.alpha = true
    · simp only [ha, if_true]
      obtain ⟨h1, h2⟩ := lookupsDb_spec (items.map fun v => (v, o.sortby.getD [35])) db nd
      refine ⟨h1, ?_⟩
      rw [h2, List.map_map]
      have : (List.map ((fun q : Bytes × Bytes => lookupLive db.live q.1 q.2) ∘ fun v => (v, o.sortby.getD [35])) items).zip
          items = alphaKeyed db.live (o.sortby.getD [35]) items := zip_map_self _ _
      rw [this]
    · simp only [ha, Bool.false_eq_true, if_false]
      obtain ⟨h1, h2⟩ := numLoop_spec (o.sortby.getD [35]) items db nd []
      refine ⟨h1, ?_⟩
      rw [h2]
      cases numKeyed db.live (o.sortby.getD [35]) items <;> simp
  · simp only [hds, Bool.false_eq_true, if_false]
    exact ⟨Reads.refl nd, trivial⟩

theorem getReqs_lookups (live : Bytes → Option Item) (o : SortOpts) (rows : List Bytes) :
    ((getReqs o rows).map fun q => lookupLive live q.1 q.2).map (fixGet o) = outLive live o rows := by
  unfold getReqs outLive
  simp only [List.map_flatMap, List.map_map]
  rfl

theorem sortedLive_congr {f g : Bytes → Option Item} (h : ∀ k, f k = g k) (val : Option Value) (o : SortOpts)
    (items : List Bytes) : sortedLive f val o items = sortedLive g val o items := by
  have : f = g := funext h
  rw [this]

/-- the last phase on a state: reply / STORE -/
theorem finish_spec (d : Nat) (cis : List CI) (o : SortOpts) (sorted : List Bytes) (n : Int) (s : Sys)
    (hd : d < s.srv.dbs.length) (nd : NodupKeys (s.dbAt d).dict) :
    ∃ db', Reads (s.dbAt d) db' ∧
      finish d cis o sorted n s =
        (match o.store with
         | none => (.ok (.arr ((outLive (s.dbAt d).live o (rowsOf o sorted n)).map Reply.ofOptBulk), cis), s.setDbS d db')
         | some dst =>
           (.ok (.int ((outLive (s.dbAt d).live o (rowsOf o sorted n)).map fun x => x.getD []).length, cis),
            (s.setDbS d db').wbStep d
              (storeCI dst ((outLive (s.dbAt d).live o (rowsOf o sorted n)).map fun x => x.getD [])))) := by
  obtain ⟨h1, h2⟩ := lookupsDb_spec (getReqs o (rowsOf o sorted n)) (s.dbAt d) nd
  unfold finish
  simp only []
  have hout : (lookupsDb (getReqs o (Py.slice sorted (limits o n).1 (limits o n).2)) (s.dbAt d)).2.map (fixGet o) =
      outLive (s.dbAt d).live o (rowsOf o sorted n) := by
    show (lookupsDb (getReqs o (rowsOf o sorted n)) (s.dbAt d)).2.map (fixGet o) = _
    rw [h2, getReqs_lookups]
  rw [hout]
  cases o.store with
  | none => exact ⟨_, h1, rfl⟩
  | some dst =>
    simp only []
    have hch := Sys.setDbS_dbAt_self s d _ hd (lookupsDb_time (getReqs o (rowsOf o sorted n)) (s.dbAt d))
    refine ⟨((lookupsDb (getReqs o (rowsOf o sorted n)) (s.dbAt d)).1.get dst).1, h1.trans (Reads.get h1.nd dst), ?_⟩
    show (_, Sys.wbStep (Sys.setDbS (s.setDbS d (lookupsDb (getReqs o (rowsOf o sorted n)) (s.dbAt d)).1) d
      (((s.setDbS d (lookupsDb (getReqs o (rowsOf o sorted n)) (s.dbAt d)).1).dbAt d).get dst).1) d _) = _
    rw [hch, Sys.setDbS_setDbS]

/-- the body after `list(key.value)` on a state whose database `d` is well formed -/
theorem coreTail_spec (d : Nat) (val : Option Value) (rest : List Arg) (cis : List CI) (items : List Bytes) (s : Sys)
    (hd : d < s.srv.dbs.length) (nd : NodupKeys (s.dbAt d).dict) (o : SortOpts)
    (ho : parseSortOpts (Cmd.rawArgs rest) {} = .ok o) :
    ∃ db', Reads (s.dbAt d) db' ∧
      coreTail d val rest cis (some items) s =
        (match specLive (s.dbAt d).live val o items with
         | .error e => (.error e, s.setDbS d db')
         | .ok out =>
           match o.store with
           | none => (.ok (.arr (out.map Reply.ofOptBulk), cis), s.setDbS d db')
           | some dst =>
             (.ok (.int (out.map fun x => x.getD []).length, cis),
              (s.setDbS d db').wbStep d (storeCI dst (out.map fun x => x.getD [])))) := by
  obtain ⟨h1, h2⟩ := sortDb_spec val o items (s.dbAt d) nd
  unfold coreTail specLive
  rw [ho]
  simp only []
  rw [h2]
  cases hs : sortedLive (s.dbAt d).live val o items with
  | error e => exact ⟨_, h1, rfl⟩
  | ok sorted =>
    simp only []
    have hch := Sys.setDbS_dbAt_self s d _ hd (sortDb_time val o items (s.dbAt d))
    have hlen : d < (s.setDbS d (sortDb val o items (s.dbAt d)).1).srv.dbs.length := by rw [Sys.setDbS_len]; exact hd
    obtain ⟨db', hr, hf⟩ := finish_spec d cis o sorted items.length _ hlen (by rw [hch]; exact h1.nd)
    rw [hch] at hr hf
    rw [reads_live h1, Sys.setDbS_setDbS] at hf
    refine ⟨db', h1.trans hr, ?_⟩
    rw [hf]

/-! ## 5. Facts about the pieces -/

theorem sortFloat_error_msg {b : Bytes} {e : Err} (h : Conv.sortFloat b = .error e) :
    e = Msgs.INVALID_SORT_FLOAT_MSG :=
  Cmd.Conv.floatGen_error h

theorem sortFloat_not_nan {b : Bytes} {x : Dbl} (h : Conv.sortFloat b = .ok x) : x.isNaN = false :=
  Cmd.Conv.floatGen_not_nan h

theorem numKey_not_nan {live : Bytes → Option Item} {pat v : Bytes} {x : Dbl} (h : numKey live pat v = .ok x) :
    x.isNaN = false := by
  unfold numKey at h
  split at h
  · cases h; rfl
  · exact sortFloat_not_nan h

theorem numKey_error_msg {live : Bytes → Option Item} {pat v : Bytes} {e : Err} (h : numKey live pat v = .error e) :
    e = Msgs.INVALID_SORT_FLOAT_MSG := by
  unfold numKey at h
  split at h
  · cases h
  · exact sortFloat_error_msg h

/-- without BY the numeric key of an element is its own `SortFloat` value -/
theorem numKey_plain (live : Bytes → Option Item) (v : Bytes) : numKey live [35] v = Conv.sortFloat v := rfl

/-- the key list: the keys of all elements in order, or the error of one of them -/
theorem numKeyed_spec (live : Bytes → Option Item) (pat : Bytes) (items : List Bytes) :
    (match numKeyed live pat items with
     | .ok ks => ks.map Prod.snd = items ∧ ∀ p ∈ ks, numKey live pat p.2 = .ok p.1
     | .error e => ∃ v ∈ items, numKey live pat v = .error e) := by
  induction items with
  | nil => exact ⟨rfl, nofun⟩
  | cons v vs ih =>
    unfold numKeyed
    cases hx : numKey live pat v with
    | error e => exact ⟨v, List.mem_cons_self, hx⟩
    | ok x =>
      simp only []
      cases hr : numKeyed live pat vs with
      | error e =>
        rw [hr] at ih
        obtain ⟨w, hw, he⟩ := ih
        exact ⟨w, List.mem_cons_of_mem _ hw, he⟩
      | ok ks =>
        rw [hr] at ih
        exact ⟨by rw [List.map_cons, ih.1], List.forall_mem_cons.mpr ⟨hx, ih.2⟩⟩

theorem numKeyed_ok {live : Bytes → Option Item} {pat : Bytes} {items : List Bytes} {ks : List (Dbl × Bytes)}
    (h : numKeyed live pat items = .ok ks) :
    ks.map Prod.snd = items ∧ ∀ p ∈ ks, numKey live pat p.2 = .ok p.1 ∧ p.1.isNaN = false := by
  have := numKeyed_spec live pat items
  rw [h] at this
  exact ⟨this.1, fun p hp => ⟨this.2 p hp, numKey_not_nan (this.2 p hp)⟩⟩

/-- an error of the key list is the error of one of the elements -/
theorem numKeyed_error {live : Bytes → Option Item} {pat : Bytes} {items : List Bytes} {e : Err}
    (h : numKeyed live pat items = .error e) : ∃ v ∈ items, numKey live pat v = .error e := by
  have := numKeyed_spec live pat items
  rw [h] at this
  exact this

theorem numKeyed_error_iff (live : Bytes → Option Item) (pat : Bytes) (items : List Bytes) :
    (∃ e, numKeyed live pat items = .error e) ↔ ∃ v ∈ items, ∃ e, numKey live pat v = .error e := by
  constructor
  · rintro ⟨e, h⟩
    obtain ⟨v, hv, he⟩ := numKeyed_error h
    exact ⟨v, hv, e, he⟩
  · rintro ⟨v, hv, e, he⟩
    cases h : numKeyed live pat items with
    | error e' => exact ⟨e', rfl⟩
    | ok ks =>
      -- all keys exist, that of `v` among them
      obtain ⟨h1, h2⟩ := numKeyed_ok h
      rw [← h1] at hv
      obtain ⟨p, hp, rfl⟩ := List.mem_map.mp hv
      rw [(h2 p hp).1] at he
      cases he

theorem numKeyed_error_msg {live : Bytes → Option Item} {pat : Bytes} {items : List Bytes} {e : Err}
    (h : numKeyed live pat items = .error e) : e = Msgs.INVALID_SORT_FLOAT_MSG :=
  let ⟨_, _, he⟩ := numKeyed_error h
  numKey_error_msg he

theorem alphaKeyed_snd (live : Bytes → Option Item) (pat : Bytes) (items : List Bytes) :
    (alphaKeyed live pat items).map Prod.snd = items := by
  unfold alphaKeyed
  rw [List.map_map]
  exact List.map_id'' (fun _ => rfl) items

/-- the sorted sequence is a permutation of the elements -/
theorem sortedLive_perm {live : Bytes → Option Item} {val : Option Value} {o : SortOpts} {items sorted : List Bytes}
    (h : sortedLive live val o items = .ok sorted) : sorted.Perm items := by
  unfold sortedLive at h
  split at h
  · split at h
    · cases h
      refine (List.Perm.map _ ?_).trans (List.Perm.of_eq (alphaKeyed_snd live (o.sortby.getD [35]) items))
      split
      · exact descSort_perm _ _
      · exact stableSort_perm _ _
    · split at h
      · cases h
      · rename_i ks hks
        cases h
        refine (List.Perm.map _ ?_).trans (List.Perm.of_eq (numKeyed_ok hks).1)
        split
        · exact descSort_perm _ _
        · exact stableSort_perm _ _
  · cases h
    split
    · split
      · exact List.reverse_perm _
      · exact List.Perm.refl _
    · split
      · exact List.reverse_perm _
      · exact List.Perm.refl _
    · exact List.Perm.refl _

/-- the sorting phase fails only in the numeric mode, with the error of the key list -/
theorem sortedLive_error {live : Bytes → Option Item} {val : Option Value} {o : SortOpts} {items : List Bytes} {e : Err}
    (h : sortedLive live val o items = .error e) : numKeyed live (o.sortby.getD [35]) items = .error e := by
  unfold sortedLive at h
  split at h
  · split at h
    · cases h
    · split at h
      · rename_i hk
        cases h
        exact hk
      · cases h
  · cases h

theorem sortedLive_length {live : Bytes → Option Item} {val : Option Value} {o : SortOpts} {items sorted : List Bytes}
    (h : sortedLive live val o items = .ok sorted) : sorted.length = items.length :=
  (sortedLive_perm h).length_eq

/-- LIMIT as `drop` / `take` -/
theorem rowsOf_eq (o : SortOpts) (sorted : List Bytes) :
    rowsOf o sorted sorted.length =
      (sorted.drop (max o.limitStart 0).toNat).take
        (if o.limitCount < 0 then sorted.length else o.limitCount.toNat) := by
  unfold rowsOf limits
  simp only []
  by_cases h1 : max o.limitStart 0 ≥ (sorted.length : Int)
  · -- the start is behind the end: the marker window `[n - 1, n - 1)`
    simp only [h1, if_true]
    rw [List.drop_eq_nil_of_le (by omega), List.take_nil]
    have : min ((sorted.length : Int) - 1) sorted.length = sorted.length - 1 := by omega
    rw [this, FR.Proofs.slice_self]
  · simp only [h1, if_false]
    rw [FR.Proofs.slice_of_mem sorted (by omega) (by split <;> omega) (by omega)]
    -- both windows start at the same place; taking more than what is left takes all of it
    rw [List.take_eq_take_iff, List.length_drop]
    by_cases hc : o.limitCount < 0
    · simp only [hc, if_true]
      omega
    · simp only [hc, if_false]
      omega

theorem fixGet_some (o : SortOpts) (b : Bytes) : fixGet o (some b) = some b := by
  unfold fixGet; simp

/-- without GET the rows are replied as they are -/
theorem outLive_plain (live : Bytes → Option Item) (o : SortOpts) (rows : List Bytes) (hg : o.gets = []) :
    outLive live o rows = rows.map some := by
  unfold outLive getsOf
  simp only [hg, List.isEmpty_nil, if_true, List.map_cons, List.map_nil, lookupLive_hash, fixGet_some]
  induction rows with
  | nil => rfl
  | cons r rs ih => simp only [List.flatMap_cons, List.map_cons, ih]; rfl

theorem outLive_length (live : Bytes → Option Item) (o : SortOpts) (rows : List Bytes) :
    (outLive live o rows).length = rows.length * (getsOf o).length := by
  unfold outLive
  induction rows with
  | nil => simp
  | cons r rs ih => simp only [List.flatMap_cons, List.length_append, List.length_map, ih, List.length_cons]; rw [Nat.succ_mul]; omega

/-- `list(key.value)` changes nothing but the recorded hints -/
theorem takeItems_state (v : Option Value) (s : Sys) :
    (takeItems v s).2 = { s with picks := (takeItems v s).2.picks } := by
  unfold takeItems
  split
  · rfl
  · rfl
  · split
    · split <;> rfl
    · rfl
  · rfl

theorem takeItems_srv (v : Option Value) (s : Sys) : (takeItems v s).2.srv = s.srv := by
  rw [takeItems_state]

theorem takeItems_dbAt (v : Option Value) (s : Sys) (d : Nat) : (takeItems v s).2.dbAt d = s.dbAt d := by
  unfold Sys.dbAt
  rw [takeItems_srv]

/-! ## 6. "Sorted stably", ascending or descending -/

/-- `L` is `ks` sorted by `le` (ascending, or descending when `desc`), tied elements in source order -/
structure SortedBy {α : Type} (le : α → α → Bool) (desc : Bool) (ks L : List α) : Prop where
  perm : L.Perm ks
  sorted : L.Pairwise (fun a b => if desc = true then le b a = true else le a b = true)
  stable : ∀ p : α → Bool, (∀ a ∈ ks, ∀ b ∈ ks, p a = true → p b = true → le a b = true) → L.filter p = ks.filter p

theorem sortedBy_model {α : Type} (le : α → α → Bool) {S : α → Prop} (h : TotalPre le S) (desc : Bool) (ks : List α)
    (hS : ∀ a ∈ ks, S a) : SortedBy le desc ks (if desc = true then descSort le ks else stableSort le ks) := by
  cases desc with
  | false =>
    simp only [Bool.false_eq_true, if_false]
    exact ⟨stableSort_perm le ks, stableSort_sorted le h ks hS, fun p hp => stableSort_filter le p ks hp⟩
  | true =>
    simp only [if_true]
    exact ⟨descSort_perm le ks, descSort_sorted le h ks hS, fun p hp => descSort_filter le p ks hp⟩

/-- the three conditions determine the result -/
theorem SortedBy.unique {α : Type} {le : α → α → Bool} {S : α → Prop} (h : TotalPre le S) {desc : Bool}
    {ks L L' : List α} (hS : ∀ a ∈ ks, S a) (h1 : SortedBy le desc ks L) (h2 : SortedBy le desc ks L') : L = L' := by
  have hSL : ∀ a ∈ L, S a := fun a ha => hS a (h1.perm.mem_iff.mp ha)
  have hst : ∀ k, S k → L.filter (tied le k) = L'.filter (tied le k) := by
    intro k hk
    have hp : ∀ a ∈ ks, ∀ b ∈ ks, tied le k a = true → tied le k b = true → le a b = true :=
      fun a ha b hb t1 t2 => tied_le le h hk (hS a ha) (hS b hb) t1 t2
    rw [h1.stable _ hp, h2.stable _ hp]
  cases desc with
  | false =>
    have s1 := h1.sorted
    have s2 := h2.sorted
    simp only [Bool.false_eq_true, if_false] at s1 s2
    exact sorted_stable_unique le h L L' hSL (h1.perm.trans h2.perm.symm) s1 s2 hst
  | true =>
    have s1 := h1.sorted
    have s2 := h2.sorted
    simp only [if_true] at s1 s2
    refine sorted_stable_unique (fun a b => le b a) (TotalPre.flip le h) L L' hSL (h1.perm.trans h2.perm.symm) s1 s2 ?_
    intro k hk
    have : tied (fun a b => le b a) k = tied le k := funext (tied_flip le k)
    rw [this]
    exact hst k hk

theorem sortedLive_numeric {live : Bytes → Option Item} {val : Option Value} {o : SortOpts} {items : List Bytes}
    (hd : o.dontsort = false) (ha : o.alpha = false) :
    sortedLive live val o items =
      (match numKeyed live (o.sortby.getD [35]) items with
       | .error e => .error e
       | .ok ks => .ok ((if o.desc = true then descSort numLe ks else stableSort numLe ks).map Prod.snd)) := by
  unfold sortedLive
  simp only [hd, ha, Bool.not_false, if_true, Bool.false_eq_true, if_false]

theorem sortedLive_alpha {live : Bytes → Option Item} {val : Option Value} {o : SortOpts} {items : List Bytes}
    (hd : o.dontsort = false) (ha : o.alpha = true) :
    sortedLive live val o items =
      .ok ((if o.desc = true then descSort alphaKeyLe (alphaKeyed live (o.sortby.getD [35]) items)
            else stableSort alphaKeyLe (alphaKeyed live (o.sortby.getD [35]) items)).map Prod.snd) := by
  unfold sortedLive
  simp only [hd, ha, Bool.not_false, if_true]

theorem numKeyed_noNaN {live : Bytes → Option Item} {pat : Bytes} {items : List Bytes} {ks : List (Dbl × Bytes)}
    (h : numKeyed live pat items = .ok ks) : ∀ a ∈ ks, NoNaN a := fun a ha => ((numKeyed_ok h).2 a ha).2

/-- ALPHA without BY: the pairs are `(some v, v)` -/
theorem alphaKeyed_plain (live : Bytes → Option Item) (items : List Bytes) :
    alphaKeyed live [35] items = items.map fun v => (some v, v) := rfl

theorem pairwise_alpha_plain {L : List (Option Bytes × Bytes)} (hL : ∀ p ∈ L, p.1 = some p.2) (desc : Bool)
    (h : L.Pairwise (fun a b => if desc = true then alphaKeyLe b a = true else alphaKeyLe a b = true)) :
    (L.map Prod.snd).Pairwise (fun a b => if desc = true then bytesLe b a = true else bytesLe a b = true) := by
  rw [List.pairwise_map]
  refine List.Pairwise.imp_of_mem ?_ h
  intro a b ha hb hab
  unfold alphaKeyLe at hab
  rw [hL a ha, hL b hb] at hab
  exact hab

/-- a list sorted by the byte order is determined by its elements -/
theorem bytes_sorted_unique (desc : Bool) {l1 l2 : List Bytes} (hp : l1.Perm l2)
    (s1 : l1.Pairwise (fun a b => if desc = true then bytesLe b a = true else bytesLe a b = true))
    (s2 : l2.Pairwise (fun a b => if desc = true then bytesLe b a = true else bytesLe a b = true)) : l1 = l2 := by
  refine List.Perm.eq_of_pairwise (fun a b _ _ h1 h2 => ?_) s1 s2 hp
  cases desc with
  | false => exact bytesLe_antisymm h1 h2
  | true => exact bytesLe_antisymm h2 h1

/-! ## 7. The body on a state -/

theorem takeItems_len (v : Option Value) (s : Sys) (d : Nat) (hd : d < s.srv.dbs.length) :
    d < (takeItems v s).2.srv.dbs.length := by rw [takeItems_srv]; exact hd

/-- a wrong-typed source: WRONGTYPE, the state is untouched -/
theorem sortCmd_wrongtype (c d k : Nat) (rest : List Arg) (cis : List CI) (s : Sys) (hd : d < s.srv.dbs.length)
    (hw : wrongTy (ciAt cis k).val = true) :
    sortCmd c d (.key k :: rest) cis s = (.error Msgs.WRONGTYPE_MSG, s) := by
  rw [sortCmd_eq c d k rest cis s hd]
  unfold core
  rw [if_pos hw]

/-- a syntax error in the options: only the hint of a set source has been consumed -/
theorem sortCmd_syntax (c d k : Nat) (rest : List Arg) (cis : List CI) (s : Sys) (hd : d < s.srv.dbs.length)
    (hw : wrongTy (ciAt cis k).val = false) (e : Err) (hp : parseSortOpts (Cmd.rawArgs rest) {} = .error e) :
    sortCmd c d (.key k :: rest) cis s = (.error e, (takeItems (ciAt cis k).val s).2) := by
  rw [sortCmd_eq c d k rest cis s hd]
  unfold core coreTail
  simp only [hw, Bool.false_eq_true, if_false, hp]

/-- the whole body: error / reply / STORE, in terms of the live view of database `d` -/
theorem sortCmd_run (c d k : Nat) (rest : List Arg) (cis : List CI) (s : Sys) (hd : d < s.srv.dbs.length)
    (nd : NodupKeys (s.dbAt d).dict)
    (hw : wrongTy (ciAt cis k).val = false) (o : SortOpts) (hp : parseSortOpts (Cmd.rawArgs rest) {} = .ok o)
    (items : List Bytes) (hi : (takeItems (ciAt cis k).val s).1 = some items) :
    ∃ db', Reads (s.dbAt d) db' ∧
      sortCmd c d (.key k :: rest) cis s =
        (match specLive (s.dbAt d).live (ciAt cis k).val o items with
         | .error e => (.error e, (takeItems (ciAt cis k).val s).2.setDbS d db')
         | .ok out =>
           match o.store with
           | none => (.ok (.arr (out.map Reply.ofOptBulk), cis), (takeItems (ciAt cis k).val s).2.setDbS d db')
           | some dst =>
             (.ok (.int (out.map fun x => x.getD []).length, cis),
              ((takeItems (ciAt cis k).val s).2.setDbS d db').wbStep d (storeCI dst (out.map fun x => x.getD [])))) := by
  rw [sortCmd_eq c d k rest cis s hd]
  unfold core
  simp only [hw, Bool.false_eq_true, if_false, hi]
  have := coreTail_spec d (ciAt cis k).val rest cis items (takeItems (ciAt cis k).val s).2
    (takeItems_len _ s d hd) (by rw [takeItems_dbAt]; exact nd) o hp
  rw [takeItems_dbAt] at this
  exact this

/-! ## 8. The set hint, the pattern substitution -/

theorem perm_of_subset_length {α : Type} [DecidableEq α] : ∀ (m p : List α), m.Nodup → m ⊆ p → p.length = m.length →
    p.Perm m
  | [], p, _, _, hl => by
    have : p = [] := List.length_eq_zero_iff.mp hl
    subst this; exact List.Perm.refl _
  | a :: m', p, hn, hs, hl => by
    have ha : a ∈ p := hs List.mem_cons_self
    have hn' := List.nodup_cons.mp hn
    have hs' : m' ⊆ p.erase a := fun x hx =>
      (List.mem_erase_of_ne (by rintro rfl; exact hn'.1 hx)).mpr (hs (List.mem_cons_of_mem _ hx))
    have hl' : (p.erase a).length = m'.length := by rw [List.length_erase_of_mem ha, hl]; simp
    exact (List.perm_cons_erase ha).trans ((perm_of_subset_length m' _ hn'.2 hs' hl').cons a)

theorem validHint_perm {p m : List Bytes} (hm : m.Nodup) (h : validHint p m = true) : p.Perm m := by
  unfold validHint at h
  simp only [Bool.and_eq_true, beq_iff_eq, List.all_eq_true, List.contains_iff_mem] at h
  exact perm_of_subset_length m p hm (fun x hx => h.2 x hx) h.1.1

theorem validHint_of_perm {p m : List Bytes} (h : p.Perm m) : validHint p m = true := by
  unfold validHint
  simp only [Bool.and_eq_true, beq_iff_eq, List.all_eq_true, List.contains_iff_mem]
  exact ⟨⟨h.length_eq, fun x hx => h.mem_iff.mp hx⟩, fun x hx => h.mem_iff.mpr hx⟩

theorem findSub_go_spec (needle : Bytes) (hay : Bytes) (n : Nat) :
    (match findSub.go needle hay n with
     | some r => ∃ i, r = n + i ∧ i ≤ hay.length ∧ (hay.drop i).take needle.length = needle ∧
         ∀ j, j < i → (hay.drop j).take needle.length ≠ needle
     | none => ∀ j, j ≤ hay.length → (hay.drop j).take needle.length ≠ needle) := by
  induction hay generalizing n with
  | nil =>
    unfold findSub.go
    by_cases hne : needle.isEmpty = true
    · rw [if_pos hne]
      have : needle = [] := List.isEmpty_iff.mp hne
      exact ⟨0, rfl, Nat.le_refl _, by simp [this], fun j hj => absurd hj (Nat.not_lt_zero _)⟩
    · rw [if_neg hne]
      intro j _
      have : needle ≠ [] := fun e => hne (List.isEmpty_iff.mpr e)
      simpa using this.symm
  | cons h t ih =>
    unfold findSub.go
    by_cases hm : ((h :: t).take needle.length == needle) = true
    · rw [if_pos hm]
      exact ⟨0, rfl, Nat.zero_le _, by simpa using hm, fun j hj => absurd hj (Nat.not_lt_zero _)⟩
    · rw [if_neg hm]
      have h0 : (h :: t).take needle.length ≠ needle := by simpa using hm
      have := ih (n + 1)
      cases hr : findSub.go needle t (n + 1) with
      | some r =>
        rw [hr] at this
        obtain ⟨i, e, hi, hmm, hmin⟩ := this
        refine ⟨i + 1, by omega, by simp only [List.length_cons]; omega, by simpa using hmm, ?_⟩
        intro j hj
        cases j with
        | zero => simpa using h0
        | succ j => simpa using hmin j (by omega)
      | none =>
        rw [hr] at this
        intro j hj
        cases j with
        | zero => simpa using h0
        | succ j => simpa using this j (by simpa using hj)

/-- `bytes.find`: the first occurrence -/
theorem findSub_some {needle hay : Bytes} {r : Nat} (h : findSub needle hay = some r) :
    r ≤ hay.length ∧ (hay.drop r).take needle.length = needle ∧
      ∀ j, j < r → (hay.drop j).take needle.length ≠ needle := by
  have := findSub_go_spec needle hay 0
  unfold findSub at h
  rw [h] at this
  obtain ⟨i, e, hi, hm, hmin⟩ := this
  have : r = i := by omega
  subst this
  exact ⟨hi, hm, hmin⟩

/-- `bytes.find` returns `-1`: no occurrence -/
theorem findSub_none {needle hay : Bytes} (h : findSub needle hay = none) :
    ∀ j, j ≤ hay.length → (hay.drop j).take needle.length ≠ needle := by
  have := findSub_go_spec needle hay 0
  unfold findSub at h
  rw [h] at this
  exact this

/-- an occurrence with no earlier one is the one found -/
theorem findSub_first (needle a b : Bytes)
    (hmin : ∀ j, j < a.length → ((a ++ needle ++ b).drop j).take needle.length ≠ needle) :
    findSub needle (a ++ needle ++ b) = some a.length := by
  have hocc : ((a ++ needle ++ b).drop a.length).take needle.length = needle := by
    rw [List.append_assoc, List.drop_left, List.take_left]
  cases hr : findSub needle (a ++ needle ++ b) with
  | none => exact absurd hocc (findSub_none hr a.length (by simp))
  | some r =>
    obtain ⟨_, hm, hmin'⟩ := findSub_some hr
    congr 1
    rcases Nat.lt_trichotomy r a.length with hlt | heq | hgt
    · exact absurd hm (hmin r hlt)
    · exact heq
    · exact absurd hocc (hmin' a.length hgt)

theorem take_one_eq (h : UInt8) (t : Bytes) (c : UInt8) : ((h :: t).take 1 = [c]) ↔ h = c := by simp

/-- no `*` in the pattern: `find` fails (this is the parser's `dontsort` test) -/
theorem findSub_star_none (pat : Bytes) (h : pat.contains 42 = false) : findSub [42] pat = none := by
  cases hr : findSub [42] pat with
  | none => rfl
  | some r =>
    exfalso
    obtain ⟨hle, hm, _⟩ := findSub_some hr
    have hmem : (42 : UInt8) ∈ pat := by
      have : (42 : UInt8) ∈ (pat.drop r).take 1 := by
        have e : ([42] : Bytes).length = 1 := rfl
        rw [e] at hm; rw [hm]; simp
      exact List.mem_of_mem_drop (List.mem_of_mem_take this)
    have := List.contains_iff_mem.mpr hmem
    rw [h] at this
    cases this

/-- the first `*` splits the pattern -/
theorem findSub_star_some (pre suf : Bytes) (h : (42 : UInt8) ∉ pre) : findSub [42] (pre ++ 42 :: suf) = some pre.length := by
  have := findSub_first [42] pre suf (by
    intro j hj hm
    have e : ([42] : Bytes).length = 1 := rfl
    rw [e] at hm
    have h0 : (((pre ++ [42] ++ suf).drop j).take 1)[0]? = some 42 := by rw [hm]; rfl
    rw [List.getElem?_take, if_pos (by omega), List.getElem?_drop, List.append_assoc, Nat.add_zero,
      List.getElem?_append_left hj] at h0
    exact h (List.mem_of_getElem? h0))
  simpa using this

theorem patKey_nostar (pat e : Bytes) (h : pat.contains 42 = false) : patKey pat e = none := by
  unfold patKey
  rw [findSub_star_none pat h]

theorem lookupLive_nostar (live : Bytes → Option Item) (pat e : Bytes) (h : pat.contains 42 = false)
    (hh : pat ≠ [35]) : lookupLive live e pat = none := by
  unfold lookupLive
  have : (pat == [35]) = false := by simpa using hh
  simp only [this, Bool.false_eq_true, if_false, patKey_nostar pat e h]

/-- `pre*suf` without `->`: the key `pre ++ element ++ suf` -/
theorem patKey_star (pre suf e : Bytes) (h : (42 : UInt8) ∉ pre) :
    patKey (pre ++ 42 :: suf) e =
      match findSub [45, 62] (suf.take (suf.length - 1)) with
      | some a => some (pre ++ e ++ suf.take a, some (suf.drop (a + 2)))
      | none => some (pre ++ e ++ suf, none) := by
  have hT : (pre ++ 42 :: suf).take pre.length = pre := by simp
  have hD : (pre ++ 42 :: suf).drop (pre.length + 1) = suf := by simp
  unfold patKey
  rw [findSub_star_some pre suf h]
  simp only [hT, hD]

/-! ## 9. The option parser -/

inductive Opt where
  | asc | desc | alpha
  | limit (s c : Int)
  | store (x : Bytes)
  | sortBy (x : Bytes)
  | get (x : Bytes)

def Opt.apply (o : SortOpts) : Opt → SortOpts
  | .asc => { o with desc := false }
  | .desc => { o with desc := true }
  | .alpha => { o with alpha := true }
  | .limit s c => { o with limitStart := s, limitCount := c }
  | .store x => { o with store := some x }
  | .sortBy x => { o with sortby := some x, dontsort := !x.contains 42 }
  | .get x => { o with gets := o.gets ++ [x] }

/-- the tokens that spell an option (keywords in any case) -/
def Opt.Spelled : Opt → List Bytes → Prop
  | .asc, t => ∃ a, t = [a] ∧ casematch a "asc" = true
  | .desc, t => ∃ a, t = [a] ∧ casematch a "desc" = true
  | .alpha, t => ∃ a, t = [a] ∧ casematch a "alpha" = true
  | .limit s c, t => ∃ a x y, t = [a, x, y] ∧ casematch a "limit" = true ∧ Conv.int x = .ok s ∧ Conv.int y = .ok c
  | .store x, t => ∃ a, t = [a, x] ∧ casematch a "store" = true
  | .sortBy x, t => ∃ a, t = [a, x] ∧ casematch a "by" = true
  | .get x, t => ∃ a, t = [a, x] ∧ casematch a "get" = true

theorem casematch_excl {a : Bytes} {l1 l2 : String} (h : casematch a l1 = true)
    (hne : (strBytes l1 == strBytes l2) = false) : casematch a l2 = false := by
  unfold casematch at *
  have : casenorm a = strBytes l1 := by simpa using h
  rw [this]; exact hne

theorem parse_cons (a : Bytes) (rest : List Bytes) (o : SortOpts) :
    parseSortOpts (a :: rest) o =
    (if casematch a "asc" then parseSortOpts rest { o with desc := false }
    else if casematch a "desc" then parseSortOpts rest { o with desc := true }
    else if casematch a "alpha" then parseSortOpts rest { o with alpha := true }
    else if casematch a "limit" && rest.length ≥ 2 then
      match rest with
      | x :: y :: rest' =>
        match Conv.int x, Conv.int y with
        | .ok s, .ok c => parseSortOpts rest' { o with limitStart := s, limitCount := c }
        | _, _ => .error Msgs.SYNTAX_ERROR_MSG
      | _ => .error Msgs.SYNTAX_ERROR_MSG
    else if casematch a "store" && rest.length ≥ 1 then
      match rest with
      | x :: rest' => parseSortOpts rest' { o with store := some x }
      | [] => .error Msgs.SYNTAX_ERROR_MSG
    else if casematch a "by" && rest.length ≥ 1 then
      match rest with
      | x :: rest' => parseSortOpts rest' { o with sortby := some x, dontsort := !x.contains 42 }
      | [] => .error Msgs.SYNTAX_ERROR_MSG
    else if casematch a "get" && rest.length ≥ 1 then
      match rest with
      | x :: rest' => parseSortOpts rest' { o with gets := o.gets ++ [x] }
      | [] => .error Msgs.SYNTAX_ERROR_MSG
    else .error Msgs.SYNTAX_ERROR_MSG) := by
  rw [parseSortOpts.eq_def]; rfl


theorem parse_nil (o : SortOpts) : parseSortOpts [] o = .ok o := by rw [parseSortOpts.eq_def]

/-- the token list spells the options, one after the other -/
def SpelledAll : List Opt → List Bytes → Prop
  | [], toks => toks = []
  | op :: ops, toks => ∃ t rest, toks = t ++ rest ∧ op.Spelled t ∧ SpelledAll ops rest

theorem parse_opts (opts : List Opt) (toks : List Bytes) (h : SpelledAll opts toks)
    (o : SortOpts) : parseSortOpts toks o = .ok (opts.foldl Opt.apply o) := by
  induction opts generalizing toks o with
  | nil => cases h; exact parse_nil o
  | cons op ops ih =>
    obtain ⟨t, ts, rfl, hs, hrest⟩ := h
    have ih := fun o => ih ts hrest o
    rw [List.foldl_cons]
    cases op with
    | asc =>
      obtain ⟨a, rfl, ha⟩ := hs
      rw [List.singleton_append, parse_cons, if_pos ha]; exact ih _
    | desc =>
      obtain ⟨a, rfl, ha⟩ := hs
      rw [List.singleton_append, parse_cons, if_neg (by rw [casematch_excl ha (by decide +kernel)]; decide), if_pos ha]
      exact ih _
    | alpha =>
      obtain ⟨a, rfl, ha⟩ := hs
      rw [List.singleton_append, parse_cons, if_neg (by rw [casematch_excl ha (by decide +kernel)]; decide),
        if_neg (by rw [casematch_excl ha (by decide +kernel)]; decide), if_pos ha]
      exact ih _
    | limit s c =>
      obtain ⟨a, x, y, rfl, ha, hx, hy⟩ := hs
      rw [List.cons_append, parse_cons, if_neg (by rw [casematch_excl ha (by decide +kernel)]; decide),
        if_neg (by rw [casematch_excl ha (by decide +kernel)]; decide),
        if_neg (by rw [casematch_excl ha (by decide +kernel)]; decide),
        if_pos (by rw [ha]; simp)]
      simp only [List.cons_append, List.nil_append, hx, hy]
      exact ih _
    | store x =>
      obtain ⟨a, rfl, ha⟩ := hs
      rw [List.cons_append, parse_cons, if_neg (by rw [casematch_excl ha (by decide +kernel)]; decide),
        if_neg (by rw [casematch_excl ha (by decide +kernel)]; decide),
        if_neg (by rw [casematch_excl ha (by decide +kernel)]; decide),
        if_neg (by rw [casematch_excl ha (by decide +kernel)]; simp),
        if_pos (by rw [ha]; simp)]
      exact ih _
    | sortBy x =>
      obtain ⟨a, rfl, ha⟩ := hs
      rw [List.cons_append, parse_cons, if_neg (by rw [casematch_excl ha (by decide +kernel)]; decide),
        if_neg (by rw [casematch_excl ha (by decide +kernel)]; decide),
        if_neg (by rw [casematch_excl ha (by decide +kernel)]; decide),
        if_neg (by rw [casematch_excl ha (by decide +kernel)]; simp),
        if_neg (by rw [casematch_excl ha (by decide +kernel)]; simp),
        if_pos (by rw [ha]; simp)]
      exact ih _
    | get x =>
      obtain ⟨a, rfl, ha⟩ := hs
      rw [List.cons_append, parse_cons, if_neg (by rw [casematch_excl ha (by decide +kernel)]; decide),
        if_neg (by rw [casematch_excl ha (by decide +kernel)]; decide),
        if_neg (by rw [casematch_excl ha (by decide +kernel)]; decide),
        if_neg (by rw [casematch_excl ha (by decide +kernel)]; simp),
        if_neg (by rw [casematch_excl ha (by decide +kernel)]; simp),
        if_neg (by rw [casematch_excl ha (by decide +kernel)]; simp),
        if_pos (by rw [ha]; simp)]
      exact ih _

/-- the only error of the option parser is the syntax error -/
theorem parse_error_msg (toks : List Bytes) (o : SortOpts) (e : Err) (h : parseSortOpts toks o = .error e) :
    e = Msgs.SYNTAX_ERROR_MSG := by
  fun_induction parseSortOpts toks o <;> simp_all

theorem parse_ok_spelled (toks : List Bytes) (o o' : SortOpts) (h : parseSortOpts toks o = .ok o') :
    ∃ opts, SpelledAll opts toks ∧ o' = opts.foldl Opt.apply o := by
  fun_induction parseSortOpts toks o
  case case1 => cases h; exact ⟨[], rfl, rfl⟩
  case case2 a rest o h1 ih =>
    obtain ⟨opts, hs, hf⟩ := ih h
    exact ⟨.asc :: opts, ⟨[a], rest, rfl, ⟨a, rfl, h1⟩, hs⟩, hf⟩
  case case3 a rest o _ h1 ih =>
    obtain ⟨opts, hs, hf⟩ := ih h
    exact ⟨.desc :: opts, ⟨[a], rest, rfl, ⟨a, rfl, h1⟩, hs⟩, hf⟩
  case case4 a rest o _ _ h1 ih =>
    obtain ⟨opts, hs, hf⟩ := ih h
    exact ⟨.alpha :: opts, ⟨[a], rest, rfl, ⟨a, rfl, h1⟩, hs⟩, hf⟩
  case case5 a o _ _ _ x y rest' sv cv hy hx h1 ih =>
    obtain ⟨opts, hs, hf⟩ := ih h
    have h1' : casematch a "limit" = true := by
      simp only [Bool.and_eq_true] at h1; exact h1.1
    exact ⟨.limit sv cv :: opts, ⟨[a, x, y], rest', rfl, ⟨a, x, y, rfl, h1', hx, hy⟩, hs⟩, hf⟩
  case case8 a o _ _ _ x rest' _ h1 ih =>
    obtain ⟨opts, hs, hf⟩ := ih h
    have h1' : casematch a "store" = true := by
      simp only [Bool.and_eq_true] at h1; exact h1.1
    exact ⟨.store x :: opts, ⟨[a, x], rest', rfl, ⟨a, rfl, h1'⟩, hs⟩, hf⟩
  case case10 a o _ _ _ x rest' _ _ h1 ih =>
    obtain ⟨opts, hs, hf⟩ := ih h
    have h1' : casematch a "by" = true := by
      simp only [Bool.and_eq_true] at h1; exact h1.1
    exact ⟨.sortBy x :: opts, ⟨[a, x], rest', rfl, ⟨a, rfl, h1'⟩, hs⟩, hf⟩
  case case12 a o _ _ _ x rest' _ _ _ h1 ih =>
    obtain ⟨opts, hs, hf⟩ := ih h
    have h1' : casematch a "get" = true := by
      simp only [Bool.and_eq_true] at h1; exact h1.1
    exact ⟨.get x :: opts, ⟨[a, x], rest', rfl, ⟨a, rfl, h1'⟩, hs⟩, hf⟩
  all_goals cases h

/-- a set source without a usable order hint: the model gives up (flagged as a model fault, not a Redis reply) -/
theorem sortCmd_badhint (c d k : Nat) (rest : List Arg) (cis : List CI) (s : Sys) (hd : d < s.srv.dbs.length)
    (hw : wrongTy (ciAt cis k).val = false) (o : SortOpts) (hp : parseSortOpts (Cmd.rawArgs rest) {} = .ok o)
    (hi : (takeItems (ciAt cis k).val s).1 = none) :
    sortCmd c d (.key k :: rest) cis s =
      (.error "model: bad hint", (M.fault badHintMsg (takeItems (ciAt cis k).val s).2).2) := by
  rw [sortCmd_eq c d k rest cis s hd]
  unfold core coreTail
  simp only [hw, Bool.false_eq_true, if_false, hp, hi]

/-- the hint is needed for sets only -/
theorem takeItems_none_iff (v : Option Value) (s : Sys) :
    (takeItems v s).1 = none ↔ ∃ m, v = some (.set m) ∧ ∀ p restp, s.picks = p :: restp → validHint p m = false := by
  unfold takeItems
  split
  · simp
  · simp
  · rename_i m
    split
    · rename_i p restp hp
      by_cases hv : validHint p m = true
      · simp only [hv, if_true, reduceCtorEq, Option.some.injEq, Value.set.injEq, exists_eq_left', false_iff]
        intro hh
        have := hh p restp hp
        rw [hv] at this; cases this
      · simp only [hv, Bool.false_eq_true, if_false, Option.some.injEq, Value.set.injEq, exists_eq_left', true_iff]
        intro p' restp' e
        rw [hp] at e
        cases e
        simpa using hv
    · rename_i hp
      simp only [Option.some.injEq, Value.set.injEq, exists_eq_left', true_iff]
      intro p restp e
      rw [hp] at e; cases e
  · rename_i h1 h2 h3
    simp only [reduceCtorEq, false_iff]
    rintro ⟨m, rfl, _⟩
    exact h3 m rfl

/-! ## 10. The command through the generic runner: signature, dispatch, write-back -/

/-- the signature of SORT: `(Key(),), (bytes,)` -/
def ssig : Sig := ⟨"sort", [.key none .unspecified], [.bytes], false, 1, 0, true⟩

/-- `Signature.apply` for SORT: the source is looked up (lazy expiry), its live entry of any type becomes the
`CommandItem`, the options stay raw -/
theorem ssig_apply (key : Bytes) (bs : List Bytes) (db : Db) :
    ssig.apply (key :: bs) db =
      ((db.get key).1, .ok (.ok (.key 0 :: bs.map Arg.raw) [ZStore.destCI db key])) := by
  unfold Sig.apply
  have h1 : ssig.checkArity (key :: bs).length = true := by simp [Sig.checkArity, ssig]
  rw [h1, Ttl.types_eq ssig _ .bytes (by simp [ssig]) (by simp [ssig])]
  simp only [ssig, Bool.not_true, Bool.false_eq_true, if_false, List.isEmpty_cons, Bool.not_false, Bool.true_and,
    List.length_cons, List.length_nil, Nat.zero_add, Nat.mod_one, bne_self_eq_false, Nat.add_sub_cancel,
    List.cons_append, List.nil_append, List.zip_cons_cons, Sig.pass1, Sig.pass1_bytes, List.take_length,
    List.reverse_cons, List.reverse_nil, Sig.pass2, List.length_nil]
  unfold ZStore.destCI
  generalize db.get key = g
  obtain ⟨db', item⟩ := g
  cases item <;> simp only [Sig.pass2_bytes, List.take_length] <;> rfl

theorem special_sort (inner : Inner) (mode : Mode) (c : Nat) (args : List Arg) (cis : List CI) (s : Sys) :
    special inner mode c "sort" args cis s =
      ((match (sortCmd c (s.conn c).db args cis s).1 with
        | .ok (r, cis') => .ok (some r, cis')
        | .error e => .error e),
       (sortCmd c (s.conn c).db args cis s).2) := by
  have key : special inner mode c "sort" args cis =
      (do
        let conn ← getConn c
        match ← sortCmd c conn.db args cis with
        | .ok (r, cis') => return .ok (some r, cis')
        | .error e => return .error e) := by
    unfold special
    rfl
  rw [key]
  simp only [bind, StateT.bind, getConn_run]
  generalize sortCmd c (s.conn c).db args cis s = r
  obtain ⟨x, s'⟩ := r
  cases x with
  | error e => rfl
  | ok p => rfl

theorem takeItems_setDbS (v : Option Value) (s : Sys) (d : Nat) (db : Db) :
    takeItems v (s.setDbS d db) = ((takeItems v s).1, (takeItems v s).2.setDbS d db) := by
  obtain ⟨srv, out, clocks, picks, flt, cr⟩ := s
  cases v with
  | none => rfl
  | some vv =>
    cases vv with
    | set m =>
      cases picks with
      | nil => rfl
      | cons p r =>
        unfold takeItems
        simp only [Sys.setDbS]
        split <;> rfl
    | _ => rfl

theorem wbStep_clean (s : Sys) (d : Nat) (ci : CI) (h : ci.Clean) : s.wbStep d ci = s := by
  have h1 := ZStore.writebackAll_clean d ci h s
  rw [writebackAll_single] at h1
  exact (Prod.mk.inj h1).2

/-- the source's value as the body sees it: the live entry of the key, of any type -/
def srcVal (db : Db) (key : Bytes) : Option Value := (db.live key).map (·.value)

theorem ciAt_src (db : Db) (nd : NodupKeys db.dict) (key : Bytes) :
    (ciAt [ZStore.destCI db key] 0).val = srcVal db key := by
  show (ZStore.destCI db key).val = _
  exact (ZStore.destCI_val db nd key).1

theorem runWith_sort_eq (inner : Inner) (mode : Mode) (c : Nat) (key : Bytes) (bs : List Bytes) (fs : Bool) (s : Sys)
    (hg : runGate ssig fs ((s.conn c).pubsub > 0) = none) :
    runWith (special inner) mode c ssig (key :: bs) fs s =
      afterSpecial (s.conn c).db [ZStore.destCI (s.dbAt (s.conn c).db) key]
        (special inner mode c "sort" (.key 0 :: bs.map Arg.raw) [ZStore.destCI (s.dbAt (s.conn c).db) key])
        (s.setDbS (s.conn c).db ((s.dbAt (s.conn c).db).get key).1) := by
  have hreg : Cmd.regular ssig.name = none := rfl
  rw [ZStore.runWith_special_run' _ _ _ _ _ _ _ hreg (Sys.refuses_of_gate_none hg)]
  rw [ssig_apply]
  simp only [hg]
  rfl

theorem specLive_error_msg {live : Bytes → Option Item} {val : Option Value} {o : SortOpts} {items : List Bytes}
    {e : Err} (h : specLive live val o items = .error e) : e = Msgs.INVALID_SORT_FLOAT_MSG := by
  unfold specLive at h
  split at h
  · rename_i e' he
    cases h
    exact numKeyed_error_msg (sortedLive_error he)
  · cases h

/-- SORT through the generic runner: a wrong-typed source -/
theorem run_wrongtype (inner : Inner) (mode : Mode) (c : Nat) (key : Bytes) (bs : List Bytes) (fs : Bool) (s : Sys)
    (hd : (s.conn c).db < s.srv.dbs.length) (nd : NodupKeys (s.dbAt (s.conn c).db).dict)
    (hg : runGate ssig fs ((s.conn c).pubsub > 0) = none)
    (hw : wrongTy (srcVal (s.dbAt (s.conn c).db) key) = true) :
    runWith (special inner) mode c ssig (key :: bs) fs s =
      (some (.err (strBytes Msgs.WRONGTYPE_MSG)),
       s.setDbS (s.conn c).db ((s.dbAt (s.conn c).db).get key).1) := by
  rw [runWith_sort_eq inner mode c key bs fs s hg]
  refine ZStore.after_error _ _ (ZStore.destCI_clean _ _) _ (by decide +kernel) _ _ _ ?_
  rw [special_sort, Sys.setDbS_conn,
    sortCmd_wrongtype c _ 0 _ _ _ (by rw [Sys.setDbS_len]; exact hd) (by rw [ciAt_src _ nd]; exact hw)]

/-- SORT through the generic runner: conversion error, reply, or STORE -/
theorem run_sort (inner : Inner) (mode : Mode) (c : Nat) (key : Bytes) (bs : List Bytes) (fs : Bool) (s : Sys)
    (hd : (s.conn c).db < s.srv.dbs.length) (nd : NodupKeys (s.dbAt (s.conn c).db).dict)
    (hg : runGate ssig fs ((s.conn c).pubsub > 0) = none)
    (hw : wrongTy (srcVal (s.dbAt (s.conn c).db) key) = false)
    (o : SortOpts) (hp : parseSortOpts bs {} = .ok o) (items : List Bytes)
    (hi : (takeItems (srcVal (s.dbAt (s.conn c).db) key) s).1 = some items) :
    ∃ db', Reads (s.dbAt (s.conn c).db) db' ∧
      runWith (special inner) mode c ssig (key :: bs) fs s =
        (match specLive (s.dbAt (s.conn c).db).live (srcVal (s.dbAt (s.conn c).db) key) o items with
         | .error e =>
           (some (.err (strBytes e)),
            (takeItems (srcVal (s.dbAt (s.conn c).db) key) s).2.setDbS (s.conn c).db db')
         | .ok out =>
           match o.store with
           | none =>
             (some (.arr (out.map Reply.ofOptBulk)),
              (takeItems (srcVal (s.dbAt (s.conn c).db) key) s).2.setDbS (s.conn c).db db')
           | some dst =>
             (some (.int (out.map fun x => x.getD []).length),
              ((takeItems (srcVal (s.dbAt (s.conn c).db) key) s).2.setDbS (s.conn c).db db').wbStep (s.conn c).db
                (storeCI dst (out.map fun x => x.getD [])))) := by
  rw [runWith_sort_eq inner mode c key bs fs s hg]
  have L : s.LazyStep (s.conn c).db (s.setDbS (s.conn c).db ((s.dbAt (s.conn c).db).get key).1) :=
    Sys.LazyStep.get nd key
  have hci := ciAt_src _ nd key
  obtain ⟨db', hr, hrun⟩ := sortCmd_run c (s.conn c).db 0 (bs.map Arg.raw)
    [ZStore.destCI (s.dbAt (s.conn c).db) key] _ (L.len ▸ hd) (L.dbAt hd).nd (by rw [hci]; exact hw) o
    (by rw [rawArgs_map_raw]; exact hp) items (by rw [hci, takeItems_setDbS]; exact hi)
  rw [hci, funext (L.live hd), takeItems_setDbS] at hrun
  simp only [Sys.setDbS_setDbS] at hrun
  refine ⟨db', (L.dbAt hd).trans hr, ?_⟩
  cases hs : specLive (s.dbAt (s.conn c).db).live (srcVal (s.dbAt (s.conn c).db) key) o items with
  | error e =>
    rw [hs] at hrun
    simp only [] at hrun ⊢
    refine ZStore.after_error _ _ (ZStore.destCI_clean _ _) _ ?_ _ _ _ ?_
    · rw [specLive_error_msg hs]; decide +kernel
    · rw [special_sort, Sys.setDbS_conn, hrun]
  | ok out =>
    rw [hs] at hrun
    simp only [] at hrun ⊢
    cases hst : o.store with
    | none =>
      rw [hst] at hrun
      simp only [] at hrun ⊢
      rw [ZStore.after_ok _ _ _ _ _ _ _ (by rw [special_sort, Sys.setDbS_conn, hrun]), wbStep_clean _ _ _ (ZStore.destCI_clean _ _)]
    | some dst =>
      rw [hst] at hrun
      simp only [] at hrun ⊢
      rw [ZStore.after_ok _ _ _ _ _ _ _ (by rw [special_sort, Sys.setDbS_conn, hrun]), wbStep_clean _ _ _ (ZStore.destCI_clean _ _)]

/-! ## 11. Corollaries used by the property file -/

theorem numKeyed_nil (live : Bytes → Option Item) (pat : Bytes) : numKeyed live pat [] = .ok [] := rfl

/-- no elements: the empty result, whatever the options -/
theorem specLive_nil (live : Bytes → Option Item) (val : Option Value) (o : SortOpts) : specLive live val o [] = .ok [] := by
  unfold specLive
  cases hs : sortedLive live val o [] with
  | error e => cases sortedLive_error hs
  | ok sorted =>
    have : sorted = [] := List.perm_nil.mp (sortedLive_perm hs)
    subst this
    simp only [rowsOf, Py.slice, List.drop_nil, List.take_nil, outLive, List.flatMap_nil]

/-- an offset at or beyond the end selects nothing -/
theorem rowsOf_beyond (o : SortOpts) (sorted : List Bytes) (h : sorted.length ≤ (max o.limitStart 0).toNat) :
    rowsOf o sorted sorted.length = [] := by
  rw [rowsOf_eq, List.drop_eq_nil_of_le h, List.take_nil]

/-- a negative count selects everything from the offset on -/
theorem rowsOf_negative_count (o : SortOpts) (sorted : List Bytes) (h : o.limitCount < 0) :
    rowsOf o sorted sorted.length = sorted.drop (max o.limitStart 0).toNat := by
  rw [rowsOf_eq, if_pos h, List.take_of_length_le (by simp)]

/-- without LIMIT all rows are selected -/
theorem rowsOf_default (o : SortOpts) (sorted : List Bytes) (h1 : o.limitStart = 0) (h2 : o.limitCount = -1) :
    rowsOf o sorted sorted.length = sorted := by
  rw [rowsOf_negative_count o sorted (by omega), h1]; rfl

/-- what a run without STORE leaves of the state: only the hint of a set source is consumed and expired entries of
database `d` may have been deleted -/
theorem frame_nostore (v : Option Value) (s : Sys) (d : Nat) (hd : d < s.srv.dbs.length) (db' : Db)
    (hr : Reads (s.dbAt d) db') :
    let s' := (takeItems v s).2.setDbS d db'
    s'.srv.conns = s.srv.conns ∧ s'.out = s.out ∧ s'.fault = s.fault ∧ s'.clocks = s.clocks ∧
      s'.srv.time = s.srv.time ∧ s'.dbAt d = db' ∧ (∀ k, (s'.dbAt d).live k = (s.dbAt d).live k) ∧
      (∀ j, j ≠ d → s'.dbAt j = s.dbAt j) ∧
      s'.picks = (takeItems v s).2.picks := by
  intro s'
  have hsrv := takeItems_srv v s
  have hdb : s'.dbAt d = db' :=
    Sys.setDbS_dbAt_self _ _ _ (takeItems_len v s d hd) (by rw [Reads.time hr, hsrv]; rfl)
  have h2 : (takeItems v s).2.out = s.out ∧ (takeItems v s).2.fault = s.fault ∧ (takeItems v s).2.clocks = s.clocks := by
    rw [takeItems_state]
    exact ⟨rfl, rfl, rfl⟩
  refine ⟨?_, h2.1, h2.2.1, h2.2.2, ?_, hdb, ?_, ?_, rfl⟩
  · show (takeItems v s).2.srv.conns = _; rw [hsrv]
  · show (takeItems v s).2.srv.time = _; rw [hsrv]
  · intro k; rw [hdb]; exact ZStore.Reads.live hr k
  · intro j hj
    rw [Sys.setDbS_dbAt_ne _ _ _ _ hj, takeItems_dbAt]

/-- the hint bookkeeping: a set source consumes exactly one (valid) hint, other sources none -/
theorem takeItems_some {v : Option Value} {s : Sys} {items : List Bytes} (h : (takeItems v s).1 = some items) :
    (match v with
     | some (.list l) => items = l ∧ (takeItems v s).2 = s
     | some (.zset z) => items = z.byscore.map Prod.snd ∧ (takeItems v s).2 = s
     | some (.set m) => ∃ restp, s.picks = items :: restp ∧ validHint items m = true ∧
         (takeItems v s).2 = { s with picks := restp }
     | _ => items = [] ∧ (takeItems v s).2 = s) := by
  cases v with
  | none => simp only [takeItems, Option.some.injEq] at h; exact ⟨h.symm, rfl⟩
  | some vv =>
    cases vv with
    | str b => simp only [takeItems, Option.some.injEq] at h; exact ⟨h.symm, rfl⟩
    | hash hh => simp only [takeItems, Option.some.injEq] at h; exact ⟨h.symm, rfl⟩
    | list l => simp only [takeItems, Option.some.injEq] at h; exact ⟨h.symm, rfl⟩
    | zset z => simp only [takeItems, Option.some.injEq] at h; exact ⟨h.symm, rfl⟩
    | set m =>
      unfold takeItems at h ⊢
      simp only [] at h ⊢
      cases hp : s.picks with
      | nil => rw [hp] at h; cases h
      | cons p restp =>
        rw [hp] at h
        simp only [] at h ⊢
        by_cases hv : validHint p m = true
        · simp only [hv, if_true, Option.some.injEq] at h ⊢
          subst h
          exact ⟨restp, rfl, hv, rfl⟩
        · simp only [hv, Bool.false_eq_true, if_false, reduceCtorEq] at h

/-! ## 12. The last BY decides -/

def Opt.isBy : Opt → Bool
  | .sortBy _ => true
  | _ => false

/-- options other than BY leave the BY pattern and the "do not sort" flag alone -/
theorem foldl_noBy (rest : List Opt) (h : ∀ op ∈ rest, op.isBy = false) (o : SortOpts) :
    (rest.foldl Opt.apply o).sortby = o.sortby ∧ (rest.foldl Opt.apply o).dontsort = o.dontsort := by
  induction rest generalizing o with
  | nil => exact ⟨rfl, rfl⟩
  | cons op rest ih =>
    rw [List.foldl_cons]
    obtain ⟨h1, h2⟩ := ih (fun q hq => h q (List.mem_cons_of_mem _ hq)) (Opt.apply o op)
    rw [h1, h2]
    have := h op List.mem_cons_self
    cases op <;> first | exact ⟨rfl, rfl⟩ | cases this

/-- the last `BY x` decides: its pattern is used, and sorting is off iff `x` contains no `*` -/
theorem last_by (pre rest : List Opt) (x : Bytes) (h : ∀ op ∈ rest, op.isBy = false) (o : SortOpts) :
    ((pre ++ .sortBy x :: rest).foldl Opt.apply o).sortby = some x ∧
    ((pre ++ .sortBy x :: rest).foldl Opt.apply o).dontsort = !x.contains 42 := by
  rw [List.foldl_append, List.foldl_cons]
  obtain ⟨h1, h2⟩ := foldl_noBy rest h (Opt.apply (pre.foldl Opt.apply o) (.sortBy x))
  rw [h1, h2]
  exact ⟨rfl, rfl⟩

end FR.SortSpec

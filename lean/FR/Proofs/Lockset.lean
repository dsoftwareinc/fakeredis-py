import FR.Sys.Lockset
/-!
# The lockset model (`FR.Sys.Lockset`): what a well-locked trace satisfies (C12)

Everything is proved of the scan `wlFrom st tr` from an arbitrary state, by induction on the trace.  The scan state is read
through `cmdOf` (the command a thread is in); `ok_iff` says in these terms when an event is accepted.  In order:
the accesses of a trace are those of its sections (`accesses_sectionsFrom`); the invariant `Inv`; real-time precedence
separates the sections of two commands (`sections_split`, hence `cmdOrder_split`), and program order is a case of it
(`progBefore_precedes`); mutual exclusion (`mutex_from`); the reporting checker `firstBad` agrees with `wlFrom`; the serial
schedule `serialFrom` is well-locked and has the same sections (`serial_wl`, by the simulation `Sim`; `Scans` is how the
blocks it emits are scanned one after the other) and the serial shape (`serialFrom_isSerial`); a section belongs to a
command its thread called and holds only that thread's accesses.
-/
namespace FR.Lockset

/-! ## the association list -/

theorem cget_cdel (cur : Cur) (t t' : Tid) :
    cget (cdel cur t) t' = if t' = t then none else cget cur t' := by
  induction cur with
  | nil => simp [cget, cdel]
  | cons p cur ih =>
    obtain ⟨k, v⟩ := p
    simp only [cget, cdel] at ih ⊢
    by_cases hk : k = t
    · subst hk
      simp only [List.filter_cons, bne_self_eq_false, Bool.false_eq_true, if_false, ih]
      by_cases h : t' = k
      · simp [h]
      · simp [h, List.lookup_cons, beq_eq_false_iff_ne.mpr h]
    · have : (k != t) = true := by simp [hk]
      simp only [List.filter_cons, this, if_true, List.lookup_cons]
      by_cases h : t' = k
      · subst h; simp [hk]
      · simp only [beq_eq_false_iff_ne.mpr h, ih]

theorem cget_cset (cur : Cur) (t t' : Tid) (v : Cid × Bool) :
    cget (cset cur t v) t' = if t' = t then some v else cget cur t' := by
  by_cases h : t' = t
  · subst h; simp [cget, cset]
  · have := cget_cdel cur t t'
    simp only [cget, cset, List.lookup_cons, beq_eq_false_iff_ne.mpr h, if_neg h] at this ⊢
    exact this

/-! ## the command a thread is in -/

theorem cmdOf_eq_some {st : St} {t c} :
    cmdOf st t = some c ↔ ∃ b, cget st.cur t = some (c, b) := by
  simp only [cmdOf, Option.map_eq_some_iff]
  constructor
  · rintro ⟨⟨c', b⟩, h1, h2⟩
    simp only at h2; subst h2; exact ⟨b, h1⟩
  · rintro ⟨b, h⟩; exact ⟨(c, b), h, rfl⟩

theorem cmdOf_eq_none {st : St} {t} : cmdOf st t = none ↔ cget st.cur t = none := by
  simp [cmdOf]

/-- only `call` and `ret` change the command a thread is in, and only for their own thread -/
@[simp] theorem cmdOf_next (st : St) (e : Ev) (t' : Tid) :
    cmdOf (next st e) t' = match e with
      | .call t c => if t' = t then some c else cmdOf st t'
      | .ret t _ => if t' = t then none else cmdOf st t'
      | _ => cmdOf st t' := by
  cases e with
  | call t c => simp only [cmdOf, next, cget_cset]; split <;> rfl
  | ret t c => simp only [cmdOf, next, cget_cdel]; split <;> rfl
  | acq t =>
    simp only [cmdOf, next]
    cases h : cget st.cur t with
    | none => rfl
    | some v =>
      simp only [cget_cset]
      split
      · rename_i e; subst e; simp [h]
      · rfl
  | rel t => rfl
  | acc t o w => rfl

@[simp] theorem cmdOf_next_rel (st : St) (t t') : cmdOf (next st (.rel t)) t' = cmdOf st t' := rfl
@[simp] theorem cmdOf_next_acc (st : St) (t o w t') :
    cmdOf (next st (.acc t o w)) t' = cmdOf st t' := rfl

theorem seen_next_eq (st : St) (e : Ev) :
    (next st e).seen = match e with
      | .call _ c => c :: st.seen
      | _ => st.seen := by
  cases e <;> rfl

theorem seen_next (st : St) (e : Ev) : ∀ c ∈ st.seen, c ∈ (next st e).seen := by
  intro c h
  cases e <;> simp [next, h]

/-! ## inversion of `ok` -/

theorem ok_call {st : St} {t c} :
    ok st (.call t c) = true ↔ cget st.cur t = none ∧ c ∉ st.seen := by
  simp only [ok, bad]
  cases h : cget st.cur t <;> by_cases h2 : c ∈ st.seen <;> simp [h2]

theorem ok_ret {st : St} {t c} :
    ok st (.ret t c) = true ↔ st.holder ≠ some t ∧ ∃ b, cget st.cur t = some (c, b) := by
  simp only [ok, bad]
  by_cases h1 : st.holder = some t
  · simp [h1]
  · rw [if_neg h1, ← cmdOf_eq_some]
    by_cases h2 : cmdOf st t = some c
    · simp [h1, h2]
    · simp [h2]

theorem ok_acq {st : St} {t} :
    ok st (.acq t) = true ↔ st.holder = none ∧ ∃ c b, cget st.cur t = some (c, b) := by
  simp only [ok, bad]
  cases h1 : st.holder <;> cases h : cget st.cur t <;> simp
  rename_i v; exact ⟨v.1, by cases v.2 <;> simp [Prod.ext_iff]⟩

theorem ok_rel {st : St} {t} : ok st (.rel t) = true ↔ st.holder = some t := by
  simp only [ok, bad]; split <;> simp [*]

theorem ok_acc {st : St} {t o w} : ok st (.acc t o w) = true ↔ st.holder = some t := by
  simp only [ok, bad]; split <;> simp [*]

/-- when the scan accepts an event, in terms of the command each thread is in -/
theorem ok_iff (st : St) (e : Ev) : ok st e = true ↔ match e with
    | .call t c => cmdOf st t = none ∧ c ∉ st.seen
    | .ret t c => st.holder ≠ some t ∧ cmdOf st t = some c
    | .acq t => st.holder = none ∧ ∃ c, cmdOf st t = some c
    | .rel t | .acc t _ _ => st.holder = some t := by
  cases e with
  | call t c => simp only [ok_call, cmdOf_eq_none]
  | ret t c => simp only [ok_ret, cmdOf_eq_some]
  | acq t => simp only [ok_acq, cmdOf_eq_some]
  | rel t => exact ok_rel
  | acc t o w => exact ok_acc

/-- after an accepted event a thread is inside `c` iff the event is its call of `c`, or it was inside `c` and the event is
not its return from `c` -/
theorem cmdOf_next_eq_some {st : St} {e : Ev} (hok : ok st e = true) {t : Tid} {c : Cid} :
    cmdOf (next st e) t = some c ↔ e = .call t c ∨ (cmdOf st t = some c ∧ e ≠ .ret t c) := by
  have hok := (ok_iff st e).mp hok
  rw [cmdOf_next]
  cases e with
  | call t' c' =>
    by_cases h : t = t'
    · subst h; simp [hok.1]
    · simp [h, Ne.symm h]
  | ret t' c' =>
    by_cases h : t = t'
    · subst h; simp [hok.2]
    · simp [h, Ne.symm h]
  | _ => simp

theorem wlFrom_cons {st : St} {e rest} :
    wlFrom st (e :: rest) = true ↔ ok st e = true ∧ wlFrom (next st e) rest = true := by
  simp [wlFrom]

/-! ## accesses are the concatenation of the sections -/

/-- what is left of the section that is open, then the sections that follow -/
theorem accesses_sectionsFrom (tr : Trace) : ∀ (st : St), wlFrom st tr = true →
    accesses tr = (match st.holder with
      | none => []
      | some _ => accsUntilRel tr) ++ (sectionsFrom st tr).flatMap (·.2.2) := by
  induction tr with
  | nil => intro st _; cases st.holder <;> rfl
  | cons e rest ih =>
    intro st h
    obtain ⟨hok, hwl⟩ := wlFrom_cons.mp h
    have ih := ih _ hwl
    -- `ok` tells who holds the lock before `e`, `next` who holds it after
    cases e with
    | call t c => exact ih
    | ret t c => exact ih
    | acq t =>
      rw [(ok_acq.mp hok).1]
      exact ih
    | rel t =>
      rw [ok_rel.mp hok]
      exact ih
    | acc t o w =>
      have hh : (next st (.acc t o w)).holder = some t := ok_acc.mp hok
      rw [hh] at ih
      rw [ok_acc.mp hok]
      exact congrArg (Ev.acc t o w :: ·) ih

/-! ## the state invariant -/

structure Inv (st : St) : Prop where
  seen : ∀ t c, cmdOf st t = some c → c ∈ st.seen
  inj : ∀ t1 t2 c, cmdOf st t1 = some c → cmdOf st t2 = some c → t1 = t2

theorem inv_init : Inv St.init := ⟨by simp [St.init, cmdOf, cget], by simp [St.init, cmdOf, cget]⟩

theorem inv_next {st : St} {e : Ev} (hi : Inv st) (hok : ok st e = true) : Inv (next st e) := by
  -- a command that this event calls is fresh: no thread is inside it
  have fresh : ∀ {t c}, e = .call t c → ∀ t', cmdOf st t' ≠ some c := by
    rintro t c rfl t' h
    exact (ok_call.mp hok).2 (hi.seen _ _ h)
  refine ⟨fun t c h => ?_, fun t1 t2 c h1 h2 => ?_⟩
  · rcases (cmdOf_next_eq_some hok).mp h with rfl | ⟨h, _⟩
    · exact List.mem_cons_self ..
    · exact seen_next _ _ _ (hi.seen _ _ h)
  · rcases (cmdOf_next_eq_some hok).mp h1 with e1 | ⟨h1, _⟩
    · rcases (cmdOf_next_eq_some hok).mp h2 with e2 | ⟨h2, _⟩
      · rw [e1] at e2; cases e2; rfl
      · exact absurd h2 (fresh e1 _)
    · rcases (cmdOf_next_eq_some hok).mp h2 with e2 | ⟨h2, _⟩
      · exact absurd h1 (fresh e2 _)
      · exact hi.inj _ _ _ h1 h2

/-! ## real-time precedence and the order of sections -/

theorem hasCall_cons (e : Ev) (rest : Trace) (c : Cid) :
    hasCall (e :: rest) c = (isCall c e || hasCall rest c) := by
  simp [hasCall]

theorem hasCall_fresh (tr : Trace) : ∀ (st : St) (c : Cid), wlFrom st tr = true →
    hasCall tr c = true → c ∉ st.seen := by
  induction tr with
  | nil => intro st c _ h; simp [hasCall] at h
  | cons e rest ih =>
    intro st c h hc
    rw [wlFrom_cons] at h
    rw [hasCall_cons, Bool.or_eq_true] at hc
    rcases hc with hc | hc
    · cases e with
      | call t c' =>
        simp only [isCall, beq_iff_eq] at hc
        subst hc
        exact (ok_call.mp h.1).2
      | _ => simp [isCall] at hc
    · exact fun hm => ih _ c h.2 hc (seen_next st e c hm)

theorem precedes_hasCall (tr : Trace) (c1 c2 : Cid) (h : precedes tr c1 c2 = true) :
    hasCall tr c2 = true := by
  induction tr with
  | nil => simp [precedes] at h
  | cons e rest ih =>
    simp only [precedes, Bool.or_eq_true, Bool.and_eq_true] at h
    rw [hasCall_cons, Bool.or_eq_true]
    rcases h with h | h
    · exact Or.inr h.2
    · exact Or.inr (ih h)

theorem sectionsFrom_cons_acq (st : St) (t : Tid) (rest : Trace) :
    sectionsFrom st (.acq t :: rest) =
      (t, (cmdOf st t).getD 0, accsUntilRel rest) :: sectionsFrom (next st (.acq t)) rest := rfl

theorem sectionsFrom_cons_of_not_acq (st : St) (e : Ev) (rest : Trace) (h : ∀ t, e ≠ .acq t) :
    sectionsFrom st (e :: rest) = sectionsFrom (next st e) rest := by
  cases e with
  | acq t => exact absurd rfl (h t)
  | _ => rfl

/-- a command that has been called and is no longer current has no further sections -/
theorem no_sections_of_done (tr : Trace) : ∀ (st : St) (c : Cid), wlFrom st tr = true →
    c ∈ st.seen → (∀ t, cmdOf st t ≠ some c) → ∀ s ∈ sectionsFrom st tr, s.2.1 ≠ c := by
  induction tr with
  | nil => intro st c _ _ _ s hs; simp [sectionsFrom] at hs
  | cons e rest ih =>
    intro st c h hseen hcur
    obtain ⟨hok, hwl⟩ := wlFrom_cons.mp h
    have hcur' : ∀ t, cmdOf (next st e) t ≠ some c := by
      intro t' h
      rcases (cmdOf_next_eq_some hok).mp h with rfl | ⟨h, _⟩
      · exact (ok_call.mp hok).2 hseen
      · exact hcur _ h
    have ih' := ih _ c hwl (seen_next _ _ _ hseen) hcur'
    cases e with
    | acq t =>
      obtain ⟨_, c', hc'⟩ := (ok_iff st _).mp hok
      rw [sectionsFrom_cons_acq, hc']
      intro s hs
      rcases List.mem_cons.mp hs with rfl | hs
      · intro e; exact hcur t (e ▸ hc')
      · exact ih' s hs
    | _ => exact ih'

theorem sections_split (tr : Trace) (c1 c2 : Cid) : ∀ (st : St), Inv st → wlFrom st tr = true →
    precedes tr c1 c2 = true →
    ∃ l1 l2, sectionsFrom st tr = l1 ++ l2 ∧ (∀ s ∈ l1, s.2.1 ≠ c2) ∧ (∀ s ∈ l2, s.2.1 ≠ c1) := by
  induction tr with
  | nil => intro st _ _ h; simp [precedes] at h
  | cons e rest ih =>
    intro st hinv h hp
    have h' := wlFrom_cons.mp h
    obtain ⟨hok, hwl⟩ := h'
    simp only [precedes, Bool.or_eq_true, Bool.and_eq_true] at hp
    rcases hp with ⟨hr, _⟩ | hp
    · -- `e` is the return of `c1`
      cases e with
      | ret t c =>
        simp only [isRet, beq_iff_eq] at hr
        subst hr
        obtain ⟨_, hc⟩ := (ok_iff st _).mp hok
        refine ⟨[], _, rfl, by simp, ?_⟩
        show ∀ s ∈ sectionsFrom (next st (.ret t c)) rest, s.2.1 ≠ c
        refine no_sections_of_done rest _ c hwl (seen_next _ _ _ (hinv.seen _ _ hc)) ?_
        intro t' h
        rcases (cmdOf_next_eq_some hok).mp h with h | ⟨h, hne⟩
        · cases h
        · cases hinv.inj _ _ _ h hc; exact hne rfl
      | _ => simp [isRet] at hr
    · obtain ⟨l1, l2, hl, hl1, hl2⟩ := ih _ (inv_next hinv hok) hwl hp
      by_cases hacq : ∃ t, e = .acq t
      · obtain ⟨t, rfl⟩ := hacq
        obtain ⟨_, c', hc'⟩ := (ok_iff st _).mp hok
        refine ⟨_ :: l1, l2, by rw [sectionsFrom_cons_acq, hl]; rfl, ?_, hl2⟩
        intro s hs
        rw [List.mem_cons] at hs
        rcases hs with hs | hs
        · subst hs
          simp only [hc', Option.getD_some]
          intro e; subst e
          exact hasCall_fresh rest _ c' hwl (precedes_hasCall _ _ _ hp)
            (seen_next _ _ _ (hinv.seen _ _ hc'))
        · exact hl1 s hs
      · refine ⟨l1, l2, ?_, hl1, hl2⟩
        rw [sectionsFrom_cons_of_not_acq _ _ _ (fun t h => hacq ⟨t, h⟩), hl]

/-! ## program order -/

theorem precedes_cons (e : Ev) (rest : Trace) (c1 c2 : Cid) (h : precedes rest c1 c2 = true) :
    precedes (e :: rest) c1 c2 = true := by
  simp [precedes, h]

theorem hasCall_of_mem {tr : Trace} {t : Tid} {c : Cid} (h : Ev.call t c ∈ tr) :
    hasCall tr c = true := by
  simp only [hasCall, List.any_eq_true]
  exact ⟨_, h, by simp [isCall]⟩

/-- a thread inside command `c` returns from `c` before it calls anything else -/
theorem ret_before_next_call (tr : Trace) : ∀ (st : St) (t : Tid) (c c2 : Cid),
    wlFrom st tr = true → cmdOf st t = some c → Ev.call t c2 ∈ tr → precedes tr c c2 = true := by
  induction tr with
  | nil => intro st t c c2 _ _ h; cases h
  | cons e rest ih =>
    intro st t c c2 h hc hm
    obtain ⟨hok, hwl⟩ := wlFrom_cons.mp h
    rcases List.mem_cons.mp hm with rfl | hm'
    · rw [((ok_iff st _).mp hok).1] at hc; cases hc
    · -- `e` is the return from `c`, or `t` is still inside `c` after it
      by_cases hr : e = .ret t c
      · subst hr; simp [precedes, isRet, hasCall_of_mem hm']
      · exact precedes_cons _ _ _ _ (ih _ t c c2 hwl ((cmdOf_next_eq_some hok).mpr (.inr ⟨hc, hr⟩)) hm')

theorem wlFrom_append_right (pre : Trace) : ∀ (st : St) (post : Trace),
    wlFrom st (pre ++ post) = true → ∃ st', wlFrom st' post = true := by
  induction pre with
  | nil => intro st post h; exact ⟨st, h⟩
  | cons e pre ih => intro st post h; exact ih _ post (wlFrom_cons.mp h).2

theorem precedes_append_left (pre post : Trace) (c1 c2 : Cid) (h : precedes post c1 c2 = true) :
    precedes (pre ++ post) c1 c2 = true := by
  induction pre with
  | nil => exact h
  | cons e pre ih => exact precedes_cons _ _ _ _ ih

theorem progBefore_precedes {st : St} {tr : Trace} {t : Tid} {c1 c2 : Cid}
    (h : wlFrom st tr = true) (hp : progBefore tr t c1 c2) : precedes tr c1 c2 = true := by
  obtain ⟨pre, post, rfl, hm⟩ := hp
  obtain ⟨st', h'⟩ := wlFrom_append_right pre st _ h
  refine precedes_append_left _ _ _ _ (precedes_cons _ _ _ _ ?_)
  exact ret_before_next_call post _ t c1 c2 (wlFrom_cons.mp h').2 (by simp) hm

theorem progBefore_total {tr : Trace} {t : Tid} {c1 c2 : Cid}
    (h1 : Ev.call t c1 ∈ tr) (h2 : Ev.call t c2 ∈ tr) (hne : c1 ≠ c2) :
    progBefore tr t c1 c2 ∨ progBefore tr t c2 c1 := by
  induction tr with
  | nil => cases h1
  | cons e rest ih =>
    rw [List.mem_cons] at h1 h2
    rcases h1 with h1 | h1 <;> rcases h2 with h2 | h2
    · rw [← h1] at h2; cases h2; exact absurd rfl hne
    · exact Or.inl ⟨[], rest, by simp [h1], h2⟩
    · exact Or.inr ⟨[], rest, by simp [h2], h1⟩
    · rcases ih h1 h2 with ⟨pre, post, rfl, hm⟩ | ⟨pre, post, rfl, hm⟩
      · exact Or.inl ⟨e :: pre, post, rfl, hm⟩
      · exact Or.inr ⟨e :: pre, post, rfl, hm⟩

/-! ## `lastOccs`, positions in lists -/

theorem mem_lastOccs (l : List Cid) (c : Cid) : c ∈ lastOccs l ↔ c ∈ l := by
  induction l with
  | nil => simp [lastOccs]
  | cons x l ih =>
    simp only [lastOccs, List.contains_eq_mem, decide_eq_true_eq]
    split
    · rw [ih, List.mem_cons]
      constructor
      · exact Or.inr
      · rintro (h | h)
        · subst h; assumption
        · exact h
    · simp [ih]

theorem nodup_lastOccs (l : List Cid) : (lastOccs l).Nodup := by
  induction l with
  | nil => simp [lastOccs]
  | cons x l ih =>
    simp only [lastOccs, List.contains_eq_mem, decide_eq_true_eq]
    split
    · exact ih
    · rw [List.nodup_cons, mem_lastOccs]; exact ⟨‹_›, ih⟩

theorem lastOccs_append (a b : List Cid) :
    lastOccs (a ++ b) = (lastOccs a).filter (fun x => !b.contains x) ++ lastOccs b := by
  induction a with
  | nil => simp [lastOccs]
  | cons x a ih =>
    simp only [List.cons_append, lastOccs, List.contains_eq_mem, decide_eq_true_eq, List.mem_append]
    by_cases h1 : x ∈ a
    · simp only [h1, true_or, if_true]; simpa using ih
    · by_cases h2 : x ∈ b
      · simp only [h1, h2, or_true, if_true, if_false, List.filter_cons]
        simpa [h2] using ih
      · simp only [h1, h2, or_self, if_false, List.filter_cons]
        simpa [h2] using ih

theorem lastOccs_of_nodup (l : List Cid) (h : l.Nodup) : lastOccs l = l := by
  induction l with
  | nil => rfl
  | cons x l ih =>
    rw [List.nodup_cons] at h
    simp [lastOccs, h.1, ih h.2]

theorem index_lt_of_split {α : Type} (P Q : α → Prop) (l l1 l2 : List α) (hl : l = l1 ++ l2)
    (h1 : ∀ s ∈ l1, ¬ Q s) (h2 : ∀ s ∈ l2, ¬ P s)
    (i j : Nat) (hi : i < l.length) (hj : j < l.length) (hP : P l[i]) (hQ : Q l[j]) : i < j := by
  subst hl
  have hi' : i < l1.length := by
    apply Decidable.byContradiction
    intro hge
    rw [List.getElem_append_right (Nat.le_of_not_lt hge)] at hP
    exact h2 _ (List.getElem_mem _) hP
  have hj' : l1.length ≤ j := by
    apply Decidable.byContradiction
    intro hlt
    rw [List.getElem_append_left (Nat.lt_of_not_le hlt)] at hQ
    exact h1 _ (List.getElem_mem _) hQ
  omega

theorem idxOf_lt_of_split (l m1 m2 : List Cid) (c1 c2 : Cid) (hl : l = m1 ++ m2)
    (hc1 : c1 ∈ l) (h1 : c2 ∉ m1) (h2 : c1 ∉ m2) : l.idxOf c1 < l.idxOf c2 := by
  subst hl
  have hm : c1 ∈ m1 := by
    rcases List.mem_append.mp hc1 with h | h
    · exact h
    · exact absurd h h2
  rw [List.idxOf_append, List.idxOf_append, if_pos hm, if_neg h1]
  have := List.idxOf_lt_length_iff.mpr hm
  omega

theorem cmdOrder_split {st : St} {tr : Trace} {c1 c2 : Cid} {l1 l2 : List Sec}
    (hl : sectionsFrom st tr = l1 ++ l2) (h1 : ∀ s ∈ l1, s.2.1 ≠ c2) (h2 : ∀ s ∈ l2, s.2.1 ≠ c1) :
    ∃ m1 m2, lastOccs ((sectionsFrom st tr).map (·.2.1)) = m1 ++ m2 ∧ c2 ∉ m1 ∧ c1 ∉ m2 := by
  rw [hl, List.map_append, lastOccs_append]
  refine ⟨_, _, rfl, ?_, ?_⟩
  · intro h
    have := (List.mem_filter.mp h).1
    rw [mem_lastOccs, List.mem_map] at this
    obtain ⟨s, hs, he⟩ := this
    exact h1 s hs he
  · intro h
    rw [mem_lastOccs, List.mem_map] at h
    obtain ⟨s, hs, he⟩ := h
    exact h2 s hs he

/-! ## mutual exclusion -/

theorem holder_next (st : St) (e : Ev) (p : Trace) :
    holderFrom st.holder (e :: p) = holderFrom (next st e).holder p := by
  cases e <;> rfl

theorem mutex_from (tr : Trace) : ∀ (st : St) (i : Nat), wlFrom st tr = true →
    (∀ t, acqCount t (tr.take i) + (if st.holder = some t then 1 else 0) =
      relCount t (tr.take i) + (if holderFrom st.holder (tr.take i) = some t then 1 else 0)) ∧
    (∀ t o w, tr[i]? = some (.acc t o w) → holderFrom st.holder (tr.take i) = some t) := by
  induction tr with
  | nil => intro st i _; simp [acqCount, relCount, holderFrom]
  | cons e rest ih =>
    intro st i h
    obtain ⟨hok, hwl⟩ := wlFrom_cons.mp h
    cases i with
    | zero =>
      refine ⟨by simp [acqCount, relCount, holderFrom], ?_⟩
      intro t o w he
      simp only [List.getElem?_cons_zero, Option.some.injEq] at he
      subst he
      simpa [holderFrom] using ok_acc.mp hok
    | succ i =>
      obtain ⟨ih1, ih2⟩ := ih _ i hwl
      simp only [List.take_succ_cons, List.getElem?_cons_succ, holder_next]
      refine ⟨?_, ih2⟩
      intro t
      have := ih1 t
      cases e with
      | call t' c => exact this
      | ret t' c => exact this
      | acc t' o w => exact this
      | acq t' =>
        have hh := (ok_acq.mp hok).1
        simp only [acqCount, relCount, next, hh, Option.some.injEq] at this ⊢
        simp only [reduceCtorEq, if_false]
        omega
      | rel t' =>
        have hh := ok_rel.mp hok
        simp only [acqCount, relCount, next, hh, Option.some.injEq] at this ⊢
        simp only [reduceCtorEq, if_false] at this
        omega

/-! ## the reporting checker agrees with `wlFrom` -/

theorem firstBad_eq_none (tr : Trace) : ∀ (st : St) (i : Nat),
    firstBad st i tr = none ↔ wlFrom st tr = true := by
  induction tr with
  | nil => intro st i; cases h : st.holder <;> simp [firstBad, wlFrom, h]
  | cons e rest ih =>
    intro st i
    simp only [firstBad, wlFrom, ok, Bool.and_eq_true]
    cases h : bad st e with
    | none => simp [ih]
    | some r => simp

/-! ## the serial schedule is well-locked: simulation -/

theorem accsUntilRel_by_holder (tr : Trace) : ∀ (st : St) (t : Tid), wlFrom st tr = true →
    st.holder = some t → ∀ e ∈ accsUntilRel tr, ∃ o w, e = .acc t o w := by
  induction tr with
  | nil => intro st t _ _ e he; simp [accsUntilRel] at he
  | cons e rest ih =>
    intro st t h hh
    obtain ⟨hok, hwl⟩ := wlFrom_cons.mp h
    cases e with
    | call t' c => exact ih _ t hwl hh
    | ret t' c => exact ih _ t hwl hh
    | acq t' => rw [(ok_acq.mp hok).1] at hh; cases hh
    | rel t' => intro e he; simp [accsUntilRel] at he
    | acc t' o w =>
      have := ok_acc.mp hok
      rw [hh] at this; cases this
      intro e he
      simp only [accsUntilRel, List.mem_cons] at he
      rcases he with he | he
      · exact ⟨o, w, he⟩
      · exact ih _ t hwl hh e he

theorem wlFrom_accs (accs : List Ev) (t : Tid) (st : St) (X : Trace)
    (ha : ∀ e ∈ accs, ∃ o w, e = .acc t o w) (hh : st.holder = some t) :
    wlFrom st (accs ++ X) = wlFrom st X := by
  induction accs with
  | nil => rfl
  | cons e accs ih =>
    obtain ⟨o, w, rfl⟩ := ha e (List.mem_cons_self ..)
    have : ok st (.acc t o w) = true := ok_acc.mpr hh
    simp only [List.cons_append, wlFrom, this, Bool.true_and]
    exact ih (fun e he => ha e (List.mem_cons_of_mem _ he))

theorem accesses_of_accs (accs : List Ev) (t : Tid) (ha : ∀ e ∈ accs, ∃ o w, e = .acc t o w)
    (X : Trace) : accesses (accs ++ X) = accs ++ accesses X := by
  induction accs with
  | nil => rfl
  | cons e accs ih =>
    obtain ⟨o, w, rfl⟩ := ha e (List.mem_cons_self ..)
    simp only [List.cons_append, accesses]
    rw [ih (fun e he => ha e (List.mem_cons_of_mem _ he))]

theorem sectionsFrom_accs (accs : List Ev) (t : Tid) (st : St) (X : Trace)
    (ha : ∀ e ∈ accs, ∃ o w, e = .acc t o w) :
    sectionsFrom st (accs ++ X) = sectionsFrom st X := by
  induction accs with
  | nil => rfl
  | cons e accs ih =>
    obtain ⟨o, w, rfl⟩ := ha e (List.mem_cons_self ..)
    exact ih (fun e he => ha e (List.mem_cons_of_mem _ he))

theorem accsUntilRel_accs (accs : List Ev) (t t' : Tid) (X : Trace)
    (ha : ∀ e ∈ accs, ∃ o w, e = .acc t o w) :
    accsUntilRel (accs ++ .rel t' :: X) = accs := by
  induction accs with
  | nil => rfl
  | cons e accs ih =>
    obtain ⟨o, w, rfl⟩ := ha e (List.mem_cons_self ..)
    simp only [List.cons_append, accsUntilRel]
    rw [ih (fun e he => ha e (List.mem_cons_of_mem _ he))]

/-- is a thread inside its command in the serial schedule emitted so far?  `b`: the command has had a section; the `call`
is emitted in front of the first section (or in place, if there is none), the `ret` right behind the last -/
def serialIn : Bool → Nxt → Bool
  | false, .none => true
  | true, .acq => true
  | true, .none => true
  | _, _ => false

/-- `st` is the state of the scan of the recorded trace, `rest` what remains of it, `st'` the state of
the scan of the serial schedule emitted so far -/
structure Sim (st st' : St) (rest : Trace) : Prop where
  holder : st'.holder = none
  cur_none : ∀ t, cget st.cur t = none → cmdOf st' t = none
  cur_some : ∀ t c b, cget st.cur t = some (c, b) →
    cmdOf st' t = if serialIn b (nextOf t rest) then some c else none
  seen_sub : ∀ c ∈ st'.seen, c ∈ st.seen
  seen_pending : ∀ c ∈ st'.seen, ∀ t, cget st.cur t = some (c, false) → nextOf t rest ≠ .acq

/-- the scan accepts `blk` from `st`, whatever follows it, ends in `st'` and records the sections `secs` -/
structure Scans (st : St) (blk : Trace) (secs : List Sec) (st' : St) : Prop where
  wl : ∀ X, wlFrom st (blk ++ X) = wlFrom st' X
  sections : ∀ X, sectionsFrom st (blk ++ X) = secs ++ sectionsFrom st' X

theorem Scans.nil (st : St) : Scans st [] [] st := ⟨fun _ => rfl, fun _ => rfl⟩

theorem Scans.append {st st1 st2 : St} {a b : Trace} {s1 s2 : List Sec}
    (h1 : Scans st a s1 st1) (h2 : Scans st1 b s2 st2) : Scans st (a ++ b) (s1 ++ s2) st2 :=
  ⟨fun X => by rw [List.append_assoc, h1.wl, h2.wl],
    fun X => by rw [List.append_assoc, h1.sections, h2.sections, List.append_assoc]⟩

theorem Scans.single {st : St} {e : Ev} (hok : ok st e = true) (h : ∀ t, e ≠ .acq t) :
    Scans st [e] [] (next st e) :=
  ⟨fun X => by simp [wlFrom, hok], fun X => sectionsFrom_cons_of_not_acq st e X h⟩

/-- one critical section of a thread inside `c`, scanned without a holder: it is recorded as `(t, c, accs)` -/
theorem Scans.acq_rel {st : St} {t : Tid} {c : Cid} {accs : List Ev}
    (hh : st.holder = none) (hc : cmdOf st t = some c) (ha : ∀ e ∈ accs, ∃ o w, e = .acc t o w) :
    Scans st (.acq t :: accs ++ [.rel t]) [(t, c, accs)] (next (next st (.acq t)) (.rel t)) := by
  have h1 : ok st (.acq t) = true := (ok_iff _ _).mpr ⟨hh, c, hc⟩
  have h2 : (next st (.acq t)).holder = some t := rfl
  have h3 : ok (next st (.acq t)) (.rel t) = true := ok_rel.mpr h2
  constructor
  · intro X
    rw [List.cons_append, List.cons_append, List.append_assoc, List.singleton_append, wlFrom, h1, Bool.true_and,
      wlFrom_accs accs t _ _ ha h2, wlFrom, h3, Bool.true_and]
  · intro X
    rw [List.cons_append, List.cons_append, List.append_assoc, List.singleton_append, sectionsFrom_cons_acq, hc,
      accsUntilRel_accs accs t t X ha, sectionsFrom_accs accs t _ _ ha]
    rfl

/-- the block `serialFrom` emits for a critical section: the `call` in front unless the command has started (`b`), the
`ret` behind if the command returns next (`r`) -/
theorem serial_block (st' : St) (t : Tid) (c : Cid) (b : Bool) (r : Prop) [Decidable r] (accs : List Ev)
    (hh : st'.holder = none) (hc : cmdOf st' t = if b then some c else none)
    (hfresh : b = false → c ∉ st'.seen) (ha : ∀ e ∈ accs, ∃ o w, e = .acc t o w) :
    ∃ st'' : St, st''.holder = none ∧
      (∀ t', cmdOf st'' t' = if t' = t then (if r then none else some c) else cmdOf st' t') ∧
      (∀ c' ∈ st''.seen, c' = c ∨ c' ∈ st'.seen) ∧
      Scans st' ((if b then [] else [.call t c]) ++ .acq t :: accs ++ [.rel t] ++ (if r then [.ret t c] else []))
        [(t, c, accs)] st'' := by
  -- the `call`
  obtain ⟨st1, h1h, h1c, h1s, h1⟩ : ∃ st1 : St, st1.holder = none ∧
      (∀ t', cmdOf st1 t' = if t' = t then some c else cmdOf st' t') ∧
      (∀ c' ∈ st1.seen, c' = c ∨ c' ∈ st'.seen) ∧ Scans st' (if b then [] else [.call t c]) [] st1 := by
    cases b with
    | true =>
      refine ⟨st', hh, fun t' => ?_, fun c' h => .inr h, .nil _⟩
      split
      · rename_i e; subst e; simpa using hc
      · rfl
    | false =>
      exact ⟨next st' (.call t c), hh, by simp, fun c' h => by simpa [next] using h,
        .single ((ok_iff _ _).mpr ⟨by simpa using hc, hfresh rfl⟩) nofun⟩
  -- the section
  have h3 := h1.append (Scans.acq_rel (c := c) h1h (by simp [h1c]) ha)
  -- the `ret`
  by_cases hr : r
  · have hok : ok (next (next st1 (.acq t)) (.rel t)) (.ret t c) = true :=
      (ok_iff _ _).mpr ⟨nofun, by simp [h1c]⟩
    refine ⟨next (next (next st1 (.acq t)) (.rel t)) (.ret t c), rfl, fun t' => ?_, h1s,
      by simpa [hr] using h3.append (.single hok nofun)⟩
    simp only [cmdOf_next, h1c, if_pos hr]
    split <;> rfl
  · refine ⟨next (next st1 (.acq t)) (.rel t), rfl, fun t' => ?_, h1s, by simpa [hr] using h3⟩
    simp only [cmdOf_next, h1c, if_neg hr]

/-- the block `serialFrom` emits at a `call`: nothing if a section of the command follows (it is emitted there), else the
`call`, with the `ret` right behind it if the command returns -/
theorem serial_call (st' : St) (t : Tid) (c : Cid) (n : Nxt)
    (hh : st'.holder = none) (hc : cmdOf st' t = none) (hfresh : c ∉ st'.seen) :
    ∃ st'' : St, st''.holder = none ∧
      (∀ t', cmdOf st'' t' = if t' = t then (if n = .none then some c else none) else cmdOf st' t') ∧
      (∀ c' ∈ st''.seen, (c' = c ∧ n ≠ .acq) ∨ c' ∈ st'.seen) ∧
      Scans st' (match n with
        | .acq => []
        | .ret => [.call t c, .ret t c]
        | .none => [.call t c]) [] st'' := by
  have hok : ok st' (.call t c) = true := (ok_iff _ _).mpr ⟨hc, hfresh⟩
  have hseen : ∀ n : Nxt, n ≠ .acq → ∀ c' ∈ (next st' (.call t c)).seen, (c' = c ∧ n ≠ .acq) ∨ c' ∈ st'.seen :=
    fun n hn c' h => (List.mem_cons.mp h).imp (⟨·, hn⟩) id
  cases n with
  | acq =>
    refine ⟨st', hh, fun t' => ?_, fun c' h => .inr h, .nil _⟩
    split
    · rename_i e; subst e; simpa using hc
    · rfl
  | ret =>
    have hok2 : ok (next st' (.call t c)) (.ret t c) = true :=
      (ok_iff _ _).mpr ⟨by show st'.holder ≠ some t; simp [hh], by simp⟩
    refine ⟨next (next st' (.call t c)) (.ret t c), hh, fun t' => ?_, hseen _ nofun,
      (Scans.single hok nofun).append (.single hok2 nofun)⟩
    simp only [cmdOf_next]
    split <;> simp [*]
  | none => exact ⟨next st' (.call t c), hh, by simp, hseen _ nofun, .single hok nofun⟩

theorem sim_call {st st' st'' : St} {t : Tid} {c : Cid} {rest : Trace}
    (hinv : Inv st) (sim : Sim st st' (.call t c :: rest)) (hok : ok st (.call t c) = true)
    (hh : st''.holder = none)
    (hc : ∀ t', cmdOf st'' t' =
      if t' = t then (if nextOf t rest = .none then some c else none) else cmdOf st' t')
    (hs : ∀ c' ∈ st''.seen, (c' = c ∧ nextOf t rest ≠ .acq) ∨ c' ∈ st'.seen) :
    Sim (next st (.call t c)) st'' rest := by
  obtain ⟨hcn, hcf⟩ := ok_call.mp hok
  have hnx : ∀ t', nextOf t' (Ev.call t c :: rest) = nextOf t' rest := fun _ => rfl
  refine ⟨hh, ?_, ?_, ?_, ?_⟩
  · intro t' h
    simp only [next, cget_cset] at h
    split at h
    · cases h
    · rw [hc, if_neg ‹_›]; exact sim.cur_none t' h
  · intro t' c' b h
    simp only [next, cget_cset] at h
    split at h
    · cases h; rename_i e; subst e
      rw [hc, if_pos rfl]
      cases hn : nextOf t' rest <;> simp [serialIn]
    · rw [hc, if_neg ‹_›, ← hnx]; exact sim.cur_some t' c' b h
  · intro c' h
    show c' ∈ c :: st.seen
    rcases hs c' h with ⟨e, _⟩ | h
    · simp [e]
    · exact List.mem_cons_of_mem _ (sim.seen_sub c' h)
  · intro c' h t' hc'
    simp only [next, cget_cset] at hc'
    split at hc'
    · cases hc'; rename_i e; subst e
      rcases hs _ h with ⟨_, hn⟩ | h
      · exact hn
      · exact absurd (sim.seen_sub _ h) hcf
    · rcases hs c' h with ⟨e, _⟩ | h
      · subst e; exact absurd (hinv.seen _ _ (cmdOf_eq_some.mpr ⟨_, hc'⟩)) hcf
      · rw [← hnx]; exact sim.seen_pending c' h t' hc'

theorem sim_ret {st st' : St} {t : Tid} {c : Cid} {rest : Trace}
    (sim : Sim st st' (.ret t c :: rest)) (hok : ok st (.ret t c) = true) :
    Sim (next st (.ret t c)) st' rest := by
  obtain ⟨_, b, hcb⟩ := ok_ret.mp hok
  have hnx : ∀ t', t' ≠ t → nextOf t' (Ev.ret t c :: rest) = nextOf t' rest := by
    intro t' h; simp [nextOf, Ne.symm h]
  refine ⟨sim.holder, ?_, ?_, sim.seen_sub, ?_⟩
  · intro t' h
    simp only [next, cget_cdel] at h
    split at h
    · rename_i e; subst e
      have := sim.cur_some t' c b hcb
      simpa [nextOf, serialIn] using this
    · exact sim.cur_none t' h
  · intro t' c' b' h
    simp only [next, cget_cdel] at h
    split at h
    · cases h
    · rw [← hnx t' ‹_›]; exact sim.cur_some t' c' b' h
  · intro c' h t' hc'
    simp only [next, cget_cdel] at hc'
    split at hc'
    · cases hc'
    · rw [← hnx t' ‹_›]; exact sim.seen_pending c' h t' hc'

theorem sim_acq {st st' st'' : St} {t : Tid} {c : Cid} {b : Bool} {rest : Trace}
    (hinv : Inv st) (sim : Sim st st' (.acq t :: rest)) (hcb : cget st.cur t = some (c, b))
    (hh : st''.holder = none)
    (hc : ∀ t', cmdOf st'' t' =
      if t' = t then (if nextOf t rest = .ret then none else some c) else cmdOf st' t')
    (hs : ∀ c' ∈ st''.seen, c' = c ∨ c' ∈ st'.seen) :
    Sim (next st (.acq t)) st'' rest := by
  have hnx : ∀ t', t' ≠ t → nextOf t' (Ev.acq t :: rest) = nextOf t' rest := by
    intro t' h; simp [nextOf, Ne.symm h]
  refine ⟨hh, ?_, ?_, ?_, ?_⟩
  · intro t' h
    simp only [next, hcb, cget_cset] at h
    split at h
    · cases h
    · rw [hc, if_neg ‹_›]; exact sim.cur_none t' h
  · intro t' c' b' h
    simp only [next, hcb, cget_cset] at h
    split at h
    · cases h; rename_i e; subst e
      rw [hc, if_pos rfl]
      cases hn : nextOf t' rest <;> simp [serialIn]
    · rw [hc, if_neg ‹_›, ← hnx t' ‹_›]; exact sim.cur_some t' c' b' h
  · intro c' h
    show c' ∈ st.seen
    rcases hs c' h with e | h
    · subst e; exact hinv.seen _ _ (cmdOf_eq_some.mpr ⟨_, hcb⟩)
    · exact sim.seen_sub c' h
  · intro c' h t' hc'
    simp only [next, hcb, cget_cset] at hc'
    split at hc'
    · cases hc'
    · rcases hs c' h with e | h
      · subst e; exact absurd (hinv.inj _ _ _ (cmdOf_eq_some.mpr ⟨_, hc'⟩) (cmdOf_eq_some.mpr ⟨_, hcb⟩)) ‹_›
      · rw [← hnx t' ‹_›]; exact sim.seen_pending c' h t' hc'

theorem serial_wl (tr : Trace) : ∀ (st st' : St), Inv st → Sim st st' tr → wlFrom st tr = true →
    wlFrom st' (serialFrom st tr) = true ∧
    sectionsFrom st' (serialFrom st tr) = sectionsFrom st tr := by
  induction tr with
  | nil => intro st st' _ sim _; simp [serialFrom, wlFrom, sim.holder, sectionsFrom]
  | cons e rest ih =>
    intro st st' hinv sim h
    obtain ⟨hok, hwl⟩ := wlFrom_cons.mp h
    have hinv' := inv_next hinv hok
    cases e with
    | call t c =>
      obtain ⟨hcn, hcf⟩ := ok_call.mp hok
      obtain ⟨st'', h1, h2, h3, h4⟩ := serial_call st' t c (nextOf t rest) sim.holder (sim.cur_none t hcn)
        (fun h => hcf (sim.seen_sub c h))
      obtain ⟨ih1, ih2⟩ := ih _ st'' hinv' (sim_call hinv sim hok h1 h2 h3) hwl
      exact ⟨(h4.wl _).trans ih1, (h4.sections _).trans ih2⟩
    | ret t c => exact ih _ st' hinv' (sim_ret sim hok) hwl
    | acq t =>
      obtain ⟨hh, c, b, hcb⟩ := ok_acq.mp hok
      have ha := accsUntilRel_by_holder rest _ t hwl rfl
      have hc0 : cmdOf st' t = if b then some c else none := by
        have := sim.cur_some t c b hcb
        cases b <;> simpa [nextOf, serialIn] using this
      have hf0 : b = false → c ∉ st'.seen := by
        intro e h; subst e
        exact sim.seen_pending c h t hcb (by simp [nextOf])
      obtain ⟨st'', h1, h2, h3, h4⟩ :=
        serial_block st' t c b (nextOf t rest = .ret) (accsUntilRel rest) sim.holder hc0 hf0 ha
      obtain ⟨ih1, ih2⟩ := ih _ st'' hinv' (sim_acq hinv sim hcb h1 h2 h3) hwl
      have hcm : cmdOf st t = some c := cmdOf_eq_some.mpr ⟨b, hcb⟩
      simp only [serialFrom, hcb, sectionsFrom_cons_acq, hcm, Option.getD_some]
      rw [h4.wl, h4.sections, ih2]
      exact ⟨ih1, rfl⟩
    | rel t =>
      exact ih _ st' hinv' ⟨sim.holder, sim.cur_none, sim.cur_some, sim.seen_sub, sim.seen_pending⟩ hwl
    | acc t o w =>
      exact ih _ st' hinv' ⟨sim.holder, sim.cur_none, sim.cur_some, sim.seen_sub, sim.seen_pending⟩ hwl

theorem sim_init (tr : Trace) : Sim St.init St.init tr :=
  ⟨rfl, by simp [St.init, cmdOf, cget], by simp [St.init, cget], by simp [St.init],
    by simp [St.init]⟩

/-! ## the serial schedule has the serial shape; its accesses -/

theorem accsUntilRel_all_acc (tr : Trace) : ∀ e ∈ accsUntilRel tr, ∃ t o w, e = .acc t o w := by
  induction tr with
  | nil => intro e he; simp [accsUntilRel] at he
  | cons x rest ih =>
    cases x with
    | acc t o w =>
      intro e he
      simp only [accsUntilRel, List.mem_cons] at he
      rcases he with he | he
      · exact ⟨t, o, w, he⟩
      · exact ih e he
    | rel t => intro e he; simp [accsUntilRel] at he
    | call t c => exact ih
    | ret t c => exact ih
    | acq t => exact ih

theorem isSerial_accs (accs : List Ev) (ha : ∀ e ∈ accs, ∃ t o w, e = Ev.acc t o w) (t : Tid)
    (X : Trace) : isSerialFrom true (accs ++ .rel t :: X) = isSerialFrom false X := by
  induction accs with
  | nil => rfl
  | cons e accs ih =>
    obtain ⟨t', o, w, rfl⟩ := ha e (List.mem_cons_self ..)
    exact ih (fun e he => ha e (List.mem_cons_of_mem _ he))

theorem serialFrom_isSerial (tr : Trace) : ∀ st, isSerialFrom false (serialFrom st tr) = true := by
  induction tr with
  | nil => intro st; rfl
  | cons e rest ih =>
    intro st
    cases e with
    | call t c =>
      simp only [serialFrom]
      cases nextOf t rest <;> simp [isSerialFrom, ih]
    | ret t c => exact ih _
    | rel t => exact ih _
    | acc t o w => exact ih _
    | acq t =>
      have hb := isSerial_accs (accsUntilRel rest) (accsUntilRel_all_acc rest) t
      simp only [serialFrom]
      cases cget st.cur t with
      | none => simp [isSerialFrom, hb, ih]
      | some v =>
        obtain ⟨c, b⟩ := v
        cases b <;> by_cases hr : nextOf t rest = .ret <;> simp [isSerialFrom, hb, hr, ih]

/-- every critical section belongs to a command called by its thread -/
theorem section_called (tr : Trace) : ∀ (st : St), wlFrom st tr = true →
    ∀ s ∈ sectionsFrom st tr, cmdOf st s.1 = some s.2.1 ∨ Ev.call s.1 s.2.1 ∈ tr := by
  induction tr with
  | nil => intro st _ s hs; simp [sectionsFrom] at hs
  | cons e rest ih =>
    intro st h s hs
    obtain ⟨hok, hwl⟩ := wlFrom_cons.mp h
    -- a section that comes later: its thread was inside the command already, or `e` is the call
    have later : s ∈ sectionsFrom (next st e) rest →
        cmdOf st s.1 = some s.2.1 ∨ Ev.call s.1 s.2.1 ∈ e :: rest := by
      intro hs
      rcases ih _ hwl s hs with hb | hm
      · rcases (cmdOf_next_eq_some hok).mp hb with rfl | ⟨hb, _⟩
        · exact .inr (List.mem_cons_self ..)
        · exact .inl hb
      · exact .inr (List.mem_cons_of_mem _ hm)
    cases e with
    | acq t =>
      obtain ⟨_, c, hc⟩ := (ok_iff st _).mp hok
      rw [sectionsFrom_cons_acq, hc] at hs
      rcases List.mem_cons.mp hs with rfl | hs
      · exact .inl hc
      · exact later hs
    | _ => exact later hs

/-- the accesses of a critical section are performed by the thread that owns the section -/
theorem section_accs_owner (tr : Trace) : ∀ (st : St), wlFrom st tr = true →
    ∀ s ∈ sectionsFrom st tr, ∀ e ∈ s.2.2, ∃ o w, e = Ev.acc s.1 o w := by
  induction tr with
  | nil => intro st _ s hs; simp [sectionsFrom] at hs
  | cons e rest ih =>
    intro st h s hs
    obtain ⟨hok, hwl⟩ := wlFrom_cons.mp h
    by_cases hacq : ∃ t, e = .acq t
    · obtain ⟨t, rfl⟩ := hacq
      rw [sectionsFrom_cons_acq, List.mem_cons] at hs
      rcases hs with hs | hs
      · subst hs; exact accsUntilRel_by_holder rest _ t hwl rfl
      · exact ih _ hwl s hs
    · rw [sectionsFrom_cons_of_not_acq _ _ _ (fun t h => hacq ⟨t, h⟩)] at hs
      exact ih _ hwl s hs

end FR.Lockset

import FR.Proofs.DisciplineStr
import FR.Proofs.DisciplineColl
/-!
# The `CommandItem` discipline of the real command table

All a body of `Cmd.regular` does to the items it is given is to put, in the place of item `k`, a modified item with the
same key (the setters of fakeredis' `CommandItem`), and it signals errors through `.error` only.  So every predicate on
lists of items that survives such a store (`CIs.Closed`) is kept by every body, and a read command keeps every
predicate (`Body.Keeps`).  The notions are in `DisciplineBase`, one lemma `Cmd.x_keeps` per body in `DisciplineStr` and
`DisciplineColl`, the table `regularTable_keeps`, its corollary per name and the instances here.

`expMod → modified` has five names: `CI.ExpModSound` of one item, `CIs.Sound` of a list, `Body.ExpModSound` of a body
given clean items; `regular_sound` and `regular_expModSound` say the last two of every body of the table.
-/
namespace FR
namespace Cmd
variable {P : List CI → Prop}

/-! ## The table -/

/-- the predicates that the command registered under `name` keeps: all of them (a read command) or the closed ones -/
def kept (name : String) : (List CI → Prop) → Prop :=
  if name ∈ NotifyKeys.readNames then fun _ => True else CIs.Closed

theorem regularTable_keeps : ∀ p ∈ regularTable, Body.Keeps (kept p.1) p.2 := by
  simp only [regularTable, List.forall_mem_cons, List.not_mem_nil, false_imp_iff, implies_true, and_true]
  exact ⟨append_keeps.disciplined, bitcount_keeps, decr_keeps, decrby_keeps,
    incr_keeps, incrby_keeps.disciplined, incrbyfloat_keeps, get_keeps,
    getbit_keeps, setbit_keeps.disciplined, getrange_keeps, getrange_keeps,
    getset_keeps, mget_keeps, mset_keeps, msetnx_keeps,
    set_keeps, setex_keeps, psetex_keeps, setnx_keeps,
    setrange_keeps.disciplined, strlen_keeps,
    del_keeps, del_keeps, exists__keeps, expire_keeps,
    expireat_keeps, pexpire_keeps, pexpireat_keeps,
    ttl_keeps, pttl_keeps, type__keeps, persist_keeps,
    rename_keeps, renamenx_keeps, dump_keeps, restore_keeps,
    hdel_keeps, hexists_keeps, hget_keeps, hgetall_keeps,
    hincrby_keeps, hincrbyfloat_keeps, hkeys_keeps,
    hlen_keeps, hmget_keeps, hmset_keeps.disciplined, hscan_keeps,
    hset_keeps.disciplined, hsetnx_keeps.disciplined, hstrlen_keeps, hvals_keeps,
    lindex_keeps, linsert_keeps, llen_keeps, lmove_keeps,
    lpop_keeps.disciplined, lpush_keeps.disciplined, lpushx_keeps.disciplined, lrange_keeps,
    lrem_keeps, lset_keeps, ltrim_keeps, rpop_keeps.disciplined,
    rpoplpush_keeps, rpush_keeps.disciplined, rpushx_keeps.disciplined,
    sadd_keeps.disciplined, scard_keeps, sdiff_keeps, sdiffstore_keeps,
    sinter_keeps, sinterstore_keeps, sismember_keeps,
    smismember_keeps, smembers_keeps, smove_keeps,
    spop_keeps, srandmember_keeps, srem_keeps, sscan_keeps,
    sunion_keeps, sunionstore_keeps,
    pfadd_keeps, pfcount_keeps, pfmerge_keeps.disciplined,
    zadd_keeps.disciplined, zcard_keeps, zcount_keeps, zincrby_keeps,
    zlexcount_keeps, zrange_keeps, zrevrange_keeps,
    zrangebylex_keeps, zrevrangebylex_keeps,
    zrangebyscore_keeps, zrevrangebyscore_keeps,
    zrank_keeps, zrevrank_keeps, zrem_keeps,
    zremrangebylex_keeps, zremrangebyscore_keeps,
    zremrangebyrank_keeps, zscan_keeps, zscore_keeps⟩

theorem regular_keeps {name : String} {body : Body} (h : regular name = some body) : Body.Keeps (kept name) body :=
  regularTable_keeps _ (regular_mem h)

theorem regular_disciplined {name : String} {body : Body} (h : regular name = some body) : Body.Disciplined body := by
  have hk := regular_keeps h
  unfold kept at hk
  split at hk
  · exact Body.Reader.disciplined hk
  · exact hk

theorem regular_reader {name : String} (hn : name ∈ NotifyKeys.readNames) {body : Body}
    (h : regular name = some body) : Body.Reader body := by
  have hk := regular_keeps h
  rwa [kept, if_pos hn] at hk

end Cmd

namespace NotifyKeys

theorem regular_readOnly (name : String) (hn : name ∈ readNames) (body : Body)
    (h : Cmd.regular name = some body) : Body.ReadOnly body := .of_reader (Cmd.regular_reader hn h)

end NotifyKeys

/-! ## Instances of the discipline -/

theorem regular_sound : ∀ name body, Cmd.regular name = some body →
    ∀ ctx args cis o, CIs.Sound cis → body ctx args cis = .ok o → CIs.Sound o.cis :=
  fun _ _ h ctx args cis o hs ho => (Cmd.regular_disciplined h _ CIs.closed_sound ctx args cis hs o ho).1

theorem regular_expModSound : ∀ name body, Cmd.regular name = some body → Body.ExpModSound body :=
  fun name body h ctx args cis o hc ho =>
    regular_sound name body h ctx args cis o (CIs.Sound.of_clean hc) ho

theorem regular_reply_not_err : ∀ name body, Cmd.regular name = some body →
    ∀ ctx args cis o, body ctx args cis = .ok o → o.reply.isErr = false :=
  fun _ _ h ctx args cis o ho => (Cmd.regular_disciplined h _ CIs.closed_true ctx args cis trivial o ho).2

/-! ## The `failed` flag -/

theorem runRegular_isErr_iff_failed (sig : Sig) (body : Body)
    (hb : ∀ ctx args cis o, body ctx args cis = .ok o → o.reply.isErr = false)
    (ctx : Ctx) (gate : Option Err) (raw : List Bytes) (db : Db) :
    (runRegular sig body ctx gate raw db).reply.isErr = true ↔
      (runRegular sig body ctx gate raw db).failed = true := by
  refine runRegular_cases sig body ctx gate raw db (P := fun out => out.reply.isErr = true ↔ out.failed = true)
    ?_ ?_ ?_ ?_ ?_
  · exact fun _ _ => iff_of_true rfl rfl
  · intro r hr
    simp only [Sig.apply_short_not_err sig raw db hr, Bool.false_eq_true]
  · exact fun _ _ _ _ _ => iff_of_true rfl rfl
  · exact fun _ _ _ _ _ _ => iff_of_true rfl rfl
  · intro args cis o _ _ ho
    simp only [hb ctx args cis o ho, Bool.false_eq_true]

end FR

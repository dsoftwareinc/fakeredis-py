import FR.Proofs.Invariant
import FR.Proofs.Tower
/-!
# The events of a history, once

`stepEv s e` loads what the event brings (`Ev.start`) and runs its computation (`Ev.run`).  `Events J` asks for `J e m`
of each event `e` and its computation `m`; `Events.stepEv` / `stepEv₂` read it as a statement about one / two runs of
`stepEv`.  A premise on the event, or on the state it starts from, is part of `J`.

The wake-ups and time-outs follow from `Unpark` / `Wake`; a judgment for which waiting on is sound only after an unserved
re-check gives `wakeConn` / `wakeConnAsync` to `Events` directly.
-/
namespace FR
open M

def Ev.run : Ev → M Unit
  | .version v => modify fun s => { s with srv := { s.srv with version := v } }
  | .open c => openConn c
  | .close c => closeConn c
  | .gc c => gcConn c
  | .conn up => modify fun s => { s with srv := { s.srv with connected := up } }
  | .request mode c fields _ _ => processCommand mode c fields
  | .send mode c data _ _ => sendallGuarded mode c data
  | .wake c _ => wakeConn c
  | .timeout c => timeoutConn c
  | .awake mode c _ _ => wakeConnAsync mode c
  | .atimeout mode c _ _ => timeoutConnAsync mode c

def Ev.start (s : Sys) : Ev → Sys
  | .request _ _ _ clocks picks => s.beginEvent.withHints clocks picks
  | .send _ _ _ clocks picks => s.beginEvent.withHints clocks picks
  | .wake _ clocks => s.beginEvent.withHints clocks []
  | .awake _ _ clocks picks => s.beginEvent.withHints clocks picks
  | .atimeout _ _ clocks picks => s.beginEvent.withHints clocks picks
  | _ => s.beginEvent

theorem stepEv_eq (s : Sys) (e : Ev) : stepEv s e = (e.run (e.start s)).2 := by
  cases e <;> rfl

structure Events (J : Ev → M Unit → Prop) : Prop where
  version : ∀ v, J (.version v) (modify fun s => { s with srv := { s.srv with version := v } })
  opn : ∀ c, J (.open c) (openConn c)
  close : ∀ c, J (.close c) (closeConn c)
  gc : ∀ c, J (.gc c) (gcConn c)
  conn : ∀ up, J (.conn up) (modify fun s => { s with srv := { s.srv with connected := up } })
  request : ∀ mode c fields clocks picks, J (.request mode c fields clocks picks) (processCommand mode c fields)
  send : ∀ mode c data clocks picks, J (.send mode c data clocks picks) (sendallGuarded mode c data)
  wake : ∀ c clocks, J (.wake c clocks) (wakeConn c)
  timeout : ∀ c, J (.timeout c) (timeoutConn c)
  awake : ∀ mode c clocks picks, J (.awake mode c clocks picks) (wakeConnAsync mode c)
  atimeout : ∀ mode c clocks picks, J (.atimeout mode c clocks picks) (timeoutConnAsync mode c)

theorem Events.run {J : Ev → M Unit → Prop} (E : Events J) (e : Ev) : J e e.run := by
  cases e with
  | version v => exact E.version v
  | «open» c => exact E.opn c
  | close c => exact E.close c
  | gc c => exact E.gc c
  | conn up => exact E.conn up
  | request mode c fields clocks picks => exact E.request mode c fields clocks picks
  | send mode c data clocks picks => exact E.send mode c data clocks picks
  | wake c clocks => exact E.wake c clocks
  | timeout c => exact E.timeout c
  | awake mode c clocks picks => exact E.awake mode c clocks picks
  | atimeout mode c clocks picks => exact E.atimeout mode c clocks picks

theorem Events.stepEv {P : Sys → Ev → Sys → Prop} (E : Events fun e m => ∀ s, P s e (m (e.start s)).2) (s : Sys)
    (e : Ev) : P s e (FR.stepEv s e) :=
  stepEv_eq s e ▸ E.run e s

theorem Events.stepEv₂ {P : Sys → Sys → Ev → Sys → Sys → Prop}
    (E : Events fun e m => ∀ s₁ s₂, P s₁ s₂ e (m (e.start s₁)).2 (m (e.start s₂)).2) (s₁ s₂ : Sys) (e : Ev) :
    P s₁ s₂ e (FR.stepEv s₁ e) (FR.stepEv s₂ e) :=
  stepEv_eq s₁ e ▸ stepEv_eq s₂ e ▸ E.run e s₁ s₂

/-- `J` of what releases connection `c` from a blocking pop.  (`Conserve.Unpark` is the condition that an update of a
record un-parks; `unpark`, `Conn.unpark` are such updates.) -/
structure Unpark (J : ∀ {α : Type}, M α → Prop) (c : Nat) : Prop extends Seq J where
  getConn : J (getConn c)
  fault : ∀ msg, J (fault msg)
  emit : ∀ r, J (emit c r)
  unpark : J (modifyConn c fun x => { x with parked := none })
  resume : J (modifyConn c fun x => { x with parked := none, paused := false })

/-- `Unpark`, and the re-check of a woken connection, for a judgment that holds of waiting on whatever the pass did -/
structure Wake (J : ∀ {α : Type}, M α → Prop) (c : Nat) : Prop extends Unpark J c where
  nextClock : J nextClock
  parkedPass : ∀ p, J (parkedPass c p)
  stay : ∀ p : Parked, J (modifyConn c fun x => { x with parked := some { p with woken := false } })

section
variable {J : ∀ {α : Type}, M α → Prop} {c : Nat}

theorem Unpark.timeoutConn (U : Unpark J c) : J (timeoutConn c) := by
  have hJ := U.toSeq
  unfold FR.timeoutConn
  seq_descend hJ [U.getConn, U.fault _, U.emit _, U.unpark]

theorem Unpark.timeoutConnAsync (U : Unpark J c) (mode : Mode) (hdrain : ∀ fuel, J (drain mode c fuel)) :
    J (timeoutConnAsync mode c) := by
  have hJ := U.toSeq
  unfold FR.timeoutConnAsync
  seq_descend hJ [U.getConn, U.fault _, U.emit _, U.resume, hdrain _]

theorem Wake.wakeConn (W : Wake J c) : J (wakeConn c) := by
  have hJ := W.toSeq
  unfold FR.wakeConn
  seq_descend hJ [W.getConn, W.fault _, W.parkedPass _, W.emit _, W.nextClock, W.unpark, W.stay _]

theorem Wake.wakeConnAsync (W : Wake J c) (mode : Mode) (hdrain : ∀ fuel, J (drain mode c fuel)) :
    J (wakeConnAsync mode c) := by
  have hJ := W.toSeq
  unfold FR.wakeConnAsync
  seq_descend hJ [W.getConn, W.fault _, W.parkedPass _, W.emit _, W.resume, W.stay _, hdrain _]

end

end FR

import FR.Proofs.AsyncLife
/-!
# `_process_command` as a function of the state

`FakeSocket._process_command` (`processCommand`) looks the command up, cleans up closed sockets and refreshes the clock,
then refuses the request (unknown command, wrong arity, (P)SUBSCRIBE inside MULTI), queues it (MULTI open) or runs it
(`_run_command`) and sends the reply.  `Sys.processed` is the state it ends in, written with `updConn`, `emitS`,
`Sys.prologue` and `afterRun`; `processCommand_eq` is the one equation, `dispatchBody_eq` its part behind the prologue,
and `Sys.dispatched_arity`, `_arity_exec`, `_refused`, `_queued`, `_run` select the branch; `processCommand_cases` is the
case analysis over all of them.
-/
namespace FR
open M

/-- the state in which a known command is checked and run: the sockets closed meanwhile have been cleaned up
(`_cleanup`) and the clock has been read (`srv.time` refreshed, one clock hint consumed) -/
def Sys.prologue (s : Sys) : Sys := (cleanupClosed s).2.refresh

namespace ErrSys
def markTxFailed (x : Conn) : Conn := { x with txFailed := true }
def markDead (x : Conn) : Conn := { x with dead := true }

/-- the run branch of `_process_command` behind `_run_command`, whose value and state are `r`: the reply, if there is
one, is sent, and the connection is marked dead when an exception has escaped (`crashed`) -/
def afterRun (c : Nat) (r : Option Reply × Sys) : Sys :=
  let s2 := match r.1 with
    | some x => r.2.emitS c x
    | none => r.2
  if s2.crashed.isSome then s2.updConn c markDead else s2
end ErrSys
open ErrSys

/-- a request refused while a MULTI is open (`conn` is the record read on entry) marks the transaction failed -/
def Sys.failTx (p : Sys) (c : Nat) (conn : Conn) : Sys := if conn.tx.isSome then p.updConn c markTxFailed else p

theorem Sys.updConn_id (s : Sys) (c : Nat) : s.updConn c id = s := by
  unfold Sys.updConn
  rw [show (s.srv.conns.map fun x => if (x.id == c) = true then id x else x) = s.srv.conns from
    (List.map_congr_left fun x _ => by split <;> rfl).trans (List.map_id _)]

theorem Sys.failTx_eq (p : Sys) (c : Nat) (conn : Conn) :
    p.failTx c conn = p.updConn c (if conn.tx.isSome then markTxFailed else id) := by
  unfold Sys.failTx
  cases conn.tx.isSome
  · exact (p.updConn_id c).symm
  · rfl

/-- what `_process_command` makes of the state `p` reached by the prologue, for a known command.  `conn` is the record of
`c` read on entry, before the prologue (`Sys.processed` passes `s.conn c` with `p = s.prologue`); the test it serves,
`self._transaction is not None`, reads the same either way, since the clean-up of closed sockets drops their watches and
subscriptions only (`Sys.prologue_conn`) -/
def Sys.dispatched (p : Sys) (mode : Mode) (c : Nat) (conn : Conn) (sig : Sig) (args : List Bytes) : Sys :=
  if sig.checkArity args.length = false then
    if sig.name = "exec" then
      (((p.failTx c conn).updConn c fun x => { x with tx := none, txFailed := false }).updConn c
        fun x => { x with watchNotified := false, watches := [] }).emitS c
          (.err (strBytes ("EXECABORT Transaction discarded because of: " ++ (sig.wrongArgs.drop 4))))
    else (p.failTx c conn).emitS c (.err (strBytes sig.wrongArgs))
  else if (conn.tx.isSome && !SigTable.notQueued.contains sig.name) = true then
    if SigTable.notInMulti.contains sig.name = true then
      (p.updConn c markTxFailed).emitS c (.err (strBytes Msgs.COMMAND_IN_MULTI_MSG))
    else (p.updConn c fun x => { x with tx := x.tx.map (· ++ [(sig.name, args)]) }).emitS c .queued
  else afterRun c (runCommand mode c sig args false p)

/-- the state after `_process_command` of the request `nameB :: args` -/
def Sys.processed (s : Sys) (mode : Mode) (c : Nat) (nameB : Bytes) (args : List Bytes) : Sys :=
  match lookupSig nameB with
  | none => (s.failTx c (s.conn c)).emitS c (.err (strBytes unknownCommandPrefix))
  | some sig => s.prologue.dispatched mode c (s.conn c) sig args

theorem lookupSig_of_find {nameB : Bytes} {n : String} {sig : Sig} (hname : commandName nameB = some n)
    (hus : n.startsWith "_" = false) (hfind : SigTable.find n = some sig) : lookupSig nameB = some sig := by
  unfold lookupSig; rw [hname]; simp only [hus, hfind, Bool.false_eq_true, if_false]

theorem Sys.prologue_of_no_closed {s : Sys} (h : s.srv.closedSockets = []) : s.prologue = s.refresh := by
  unfold Sys.prologue; rw [cleanupClosed_run_nil h]

theorem afterRun_run (c : Nat) (m : M (Option Reply)) (p : Sys) :
    (do match ← m with
        | some r => emit c r
        | none => pure ()
        if (← get).crashed.isSome then modifyConn c fun x => { x with dead := true } : M Unit) p =
      ((), afterRun c (m p)) := by
  simp only [bind, StateT.bind]
  generalize m p = r
  obtain ⟨r1, s3⟩ := r
  cases r1 with
  | none =>
    show (if s3.crashed.isSome = true then modifyConn c _ else pure ()) s3 = _
    cases hcr : s3.crashed.isSome <;> simp only [afterRun, hcr, Bool.false_eq_true, if_false, if_true] <;> rfl
  | some x =>
    simp only [StateT.bind, emit_run]
    show (if (s3.emitS c x).crashed.isSome = true then modifyConn c _ else pure ()) (s3.emitS c x) = _
    cases hcr : (s3.emitS c x).crashed.isSome <;>
      simp only [afterRun, hcr, Bool.false_eq_true, if_false, if_true] <;> rfl

theorem dispatchBody_eq (mode : Mode) (c : Nat) (conn : Conn) (sig : Sig) (args : List Bytes) (p : Sys) :
    dispatchBody mode c conn sig args p = ((), p.dispatched mode c conn sig args) := by
  unfold dispatchBody Sys.dispatched Sys.failTx
  cases sig.checkArity args.length
  · by_cases hx : sig.name = "exec"
    · cases conn.tx.isSome <;>
        simp only [hx, BEq.rfl, Bool.not_false, if_true, Bool.false_eq_true, if_false, bind, StateT.bind,
          modifyConn_run, clearWatches_run, emit_run] <;> rfl
    · have : (sig.name == "exec") = false := by simpa using hx
      cases conn.tx.isSome <;>
        simp only [this, hx, Bool.not_false, if_true, Bool.false_eq_true, if_false, bind, StateT.bind,
          modifyConn_run, emit_run] <;> rfl
  · simp only [Bool.not_true, Bool.false_eq_true, if_false]
    split
    · split <;> simp only [bind, StateT.bind, modifyConn_run, emit_run] <;> rfl
    · exact afterRun_run c _ p

theorem processCommand_eq (mode : Mode) (c : Nat) (nameB : Bytes) (args : List Bytes) (s : Sys) :
    processCommand mode c (nameB :: args) s = ((), s.processed mode c nameB args) := by
  rw [processCommand_cons]
  unfold Sys.processed
  simp only [bind, StateT.bind, getConn_run]
  cases lookupSig nameB with
  | none =>
    unfold Sys.failTx
    cases (s.conn c).tx.isSome <;>
      simp only [if_true, Bool.false_eq_true, if_false, bind, StateT.bind, modifyConn_run, emit_run] <;> rfl
  | some sig => exact (dispatch_eq ..).trans (dispatchBody_eq ..)

section branches
variable (mode : Mode) (c : Nat) (conn : Conn) (sig : Sig) (args : List Bytes) (p : Sys)

theorem Sys.dispatched_arity (ha : sig.checkArity args.length = false) (hne : sig.name ≠ "exec") :
    p.dispatched mode c conn sig args = (p.failTx c conn).emitS c (.err (strBytes sig.wrongArgs)) := by
  unfold Sys.dispatched; rw [if_pos ha, if_neg hne]

theorem Sys.dispatched_arity_exec (ha : sig.checkArity args.length = false) (he : sig.name = "exec") :
    p.dispatched mode c conn sig args =
      (((p.failTx c conn).updConn c fun x => { x with tx := none, txFailed := false }).updConn c
        fun x => { x with watchNotified := false, watches := [] }).emitS c
          (.err (strBytes ("EXECABORT Transaction discarded because of: " ++ (sig.wrongArgs.drop 4)))) := by
  unfold Sys.dispatched; rw [if_pos ha, if_pos he]

theorem Sys.dispatched_refused (ha : sig.checkArity args.length = true)
    (hq : (conn.tx.isSome && !SigTable.notQueued.contains sig.name) = true)
    (hnm : SigTable.notInMulti.contains sig.name = true) :
    p.dispatched mode c conn sig args =
      (p.updConn c markTxFailed).emitS c (.err (strBytes Msgs.COMMAND_IN_MULTI_MSG)) := by
  unfold Sys.dispatched; rw [if_neg (by rw [ha]; nofun), if_pos hq, if_pos hnm]

theorem Sys.dispatched_queued (ha : sig.checkArity args.length = true)
    (hq : (conn.tx.isSome && !SigTable.notQueued.contains sig.name) = true)
    (hnm : SigTable.notInMulti.contains sig.name = false) :
    p.dispatched mode c conn sig args =
      (p.updConn c fun x => { x with tx := x.tx.map (· ++ [(sig.name, args)]) }).emitS c .queued := by
  unfold Sys.dispatched; rw [if_neg (by rw [ha]; nofun), if_pos hq, if_neg (by rw [hnm]; nofun)]

theorem Sys.dispatched_run (ha : sig.checkArity args.length = true)
    (hq : (conn.tx.isSome && !SigTable.notQueued.contains sig.name) = false) :
    p.dispatched mode c conn sig args = afterRun c (runCommand mode c sig args false p) := by
  unfold Sys.dispatched; rw [if_neg (by rw [ha]; nofun), if_neg (by rw [hq]; nofun)]

end branches

theorem processCommand_refused {s : Sys} (mode : Mode) (c : Nat) (nameB : Bytes) (args : List Bytes)
    {n : String} {sig : Sig} {q : List (String × List Bytes)}
    (hclosed : s.srv.closedSockets = [])
    (hname : commandName nameB = some n) (hus : n.startsWith "_" = false)
    (hfind : SigTable.find n = some sig) (harity : sig.checkArity args.length = true)
    (hnq : SigTable.notQueued.contains sig.name = false)
    (hnm : SigTable.notInMulti.contains sig.name = true)
    (htx : (s.conn c).tx = some q) :
    processCommand mode c (nameB :: args) s = (do
      let now ← nextClock
      modify fun s => { s with srv := { s.srv with time := now } }
      modifyConn c fun x => { x with txFailed := true }
      emit c (.err (strBytes Msgs.COMMAND_IN_MULTI_MSG)) : M Unit) s := by
  rw [processCommand_eq, Sys.processed, lookupSig_of_find hname hus hfind]
  dsimp only
  rw [Sys.dispatched_refused _ _ _ _ _ _ harity (by rw [htx, hnq]; rfl) hnm, Sys.prologue_of_no_closed hclosed]
  simp only [bind, StateT.bind, modifyConn_run, emit_run]
  rfl

theorem Sys.processed_known (mode : Mode) (c : Nat) {nameB : Bytes} (args : List Bytes) (s : Sys) {sig : Sig}
    (h : lookupSig nameB = some sig) :
    s.processed mode c nameB args = s.prologue.dispatched mode c (s.conn c) sig args := by
  unfold Sys.processed; rw [h]

theorem afterRun_emit (c : Nat) (x : Reply) {t : Sys} (h : t.crashed = none) : afterRun c (some x, t) = t.emitS c x := by
  unfold afterRun
  simp only [Sys.emitS_crashed, h, Option.isSome_none, Bool.false_eq_true, if_false]

theorem afterRun_some (c : Nat) (r : Reply) (t : Sys) :
    afterRun c (some r, t) = (t.emitS c r).updConn c fun x => if t.crashed.isSome then markDead x else x := by
  unfold afterRun
  simp only [Sys.emitS_crashed]
  cases t.crashed.isSome
  · exact ((t.emitS c r).updConn_id c).symm
  · rfl

theorem afterRun_conns {β : Type} (q : Sys → β)
    (hq : ∀ (t : Sys) conns, q { t with srv := { t.srv with conns := conns } } = q t) (c : Nat)
    (r : Option Reply × Sys) :
    q (afterRun c r) = q (match r.1 with | some x => r.2.emitS c x | none => r.2) := by
  unfold afterRun
  generalize (match r.1 with | some x => r.2.emitS c x | none => r.2) = s2
  dsimp only
  split
  · exact hq s2 _
  · rfl

theorem afterRun_proj {β : Type} (q : Sys → β)
    (hq : ∀ (t : Sys) out conns, q { t with out := out, srv := { t.srv with conns := conns } } = q t)
    (c : Nat) (r : Reply) (t : Sys) : q (afterRun c (some r, t)) = q t := by
  refine (afterRun_conns q (fun t conns => hq t t.out conns) c (some r, t)).trans ?_
  show q (t.emitS c r) = q t
  rw [Sys.emitS_eq]
  exact hq t _ t.srv.conns

theorem processCommand_runs (mode : Mode) (c : Nat) {nameB : Bytes} (args : List Bytes) (s : Sys) {sig : Sig}
    (h : lookupSig nameB = some sig) (ha : sig.checkArity args.length = true)
    (hq : ((s.conn c).tx.isSome && !SigTable.notQueued.contains sig.name) = false) :
    processCommand mode c (nameB :: args) s = ((), afterRun c (runCommand mode c sig args false s.prologue)) := by
  rw [processCommand_eq, Sys.processed_known mode c args s h, Sys.dispatched_run _ _ _ _ _ _ ha hq]

theorem processCommand_cases {P : Sys → Prop} (mode : Mode) (c : Nat) (nameB : Bytes) (args : List Bytes) (s : Sys)
    (unknown : lookupSig nameB = none →
      P ((s.failTx c (s.conn c)).emitS c (.err (strBytes unknownCommandPrefix))))
    (arity : ∀ sig, lookupSig nameB = some sig → sig.checkArity args.length = false → sig.name ≠ "exec" →
      P ((s.prologue.failTx c (s.conn c)).emitS c (.err (strBytes sig.wrongArgs))))
    (arityExec : ∀ sig, lookupSig nameB = some sig → sig.checkArity args.length = false → sig.name = "exec" →
      P ((((s.prologue.failTx c (s.conn c)).updConn c fun x => { x with tx := none, txFailed := false }).updConn c
        fun x => { x with watchNotified := false, watches := [] }).emitS c
          (.err (strBytes ("EXECABORT Transaction discarded because of: " ++ (sig.wrongArgs.drop 4))))))
    (refused : ∀ sig, lookupSig nameB = some sig → sig.checkArity args.length = true →
      ((s.conn c).tx.isSome && !SigTable.notQueued.contains sig.name) = true →
      SigTable.notInMulti.contains sig.name = true →
      P ((s.prologue.updConn c markTxFailed).emitS c (.err (strBytes Msgs.COMMAND_IN_MULTI_MSG))))
    (queued : ∀ sig, lookupSig nameB = some sig → sig.checkArity args.length = true →
      ((s.conn c).tx.isSome && !SigTable.notQueued.contains sig.name) = true →
      SigTable.notInMulti.contains sig.name = false →
      P ((s.prologue.updConn c fun x => { x with tx := x.tx.map (· ++ [(sig.name, args)]) }).emitS c .queued))
    (run : ∀ sig, lookupSig nameB = some sig → sig.checkArity args.length = true →
      ((s.conn c).tx.isSome && !SigTable.notQueued.contains sig.name) = false →
      P (afterRun c (runCommand mode c sig args false s.prologue))) :
    P (processCommand mode c (nameB :: args) s).2 := by
  rw [processCommand_eq]
  cases hl : lookupSig nameB with
  | none => rw [Sys.processed, hl]; exact unknown hl
  | some sig =>
    rw [Sys.processed_known mode c args s hl]
    cases ha : sig.checkArity args.length with
    | false =>
      by_cases he : sig.name = "exec"
      · rw [Sys.dispatched_arity_exec _ _ _ _ _ _ ha he]; exact arityExec sig hl ha he
      · rw [Sys.dispatched_arity _ _ _ _ _ _ ha he]; exact arity sig hl ha he
    | true =>
      cases hq : ((s.conn c).tx.isSome && !SigTable.notQueued.contains sig.name) with
      | false => rw [Sys.dispatched_run _ _ _ _ _ _ ha hq]; exact run sig hl ha hq
      | true =>
        cases hnm : SigTable.notInMulti.contains sig.name with
        | true => rw [Sys.dispatched_refused _ _ _ _ _ _ ha hq hnm]; exact refused sig hl ha hq hnm
        | false => rw [Sys.dispatched_queued _ _ _ _ _ _ ha hq hnm]; exact queued sig hl ha hq hnm

/-! ### what `_run_command` does with the outcome of a special body -/

namespace PubSubHist

/-- the command table's signature of EXEC (`@command((), name='exec', flags='s')` in `_fakesocket.py`: no arguments,
no keys, not callable from a script) -/
def sigExec : Sig := ⟨"exec", [], [], true, 0, 0, false⟩

/-- the state after a model fault is recorded (only the `fault` field may change) -/
def faulted (e : Err) (s : Sys) : Sys := if e.startsWith "model:" then (M.fault e s).2 else s

theorem faulted_srv (e : Err) (s : Sys) : (faulted e s).srv = s.srv := by
  unfold faulted; split
  · show (if s.fault.isNone then { s with fault := some e } else s).srv = s.srv
    split <;> rfl
  · rfl

theorem faulted_out (e : Err) (s : Sys) : (faulted e s).out = s.out := by
  unfold faulted; split
  · show (if s.fault.isNone then { s with fault := some e } else s).out = s.out
    split <;> rfl
  · rfl

end PubSubHist
open PubSubHist

theorem afterSpecial_run (d : Nat) (cis : List CI) (X : M SpecialOut) (s : Sys) :
    afterSpecial d cis X s =
      match (X s).1 with
      | .error e => (some (.err (strBytes e)), (writebackAll d cis (faulted e (X s).2)).2)
      | .ok (r, cis') => (r, (writebackAll d cis' (X s).2).2) := by
  unfold afterSpecial faulted
  simp only [bind, StateT.bind]
  generalize X s = xr
  obtain ⟨res, s2⟩ := xr
  cases res with
  | error e =>
    simp only [pure]
    split <;> rfl
  | ok pr => rfl

theorem runWith_keyless (sp) (mode : Mode) (c : Nat) (sig : Sig) (raw : List Bytes) (fs : Bool) (s : Sys)
    (hreg : Cmd.regular sig.name = none) (hr : s.refuses c sig = false) {r : Except Err Sig.Applied}
    (hap : sig.apply raw (s.dbAt (s.conn c).db) = (s.dbAt (s.conn c).db, r)) :
    runWith sp mode c sig raw fs s =
      match (generalizing := false) r with
      | .error e => (some (.err (strBytes e)), s)
      | .ok (.short x) => (some x, s)
      | .ok (.ok a cis) =>
        match runGate sig fs ((s.conn c).pubsub > 0) with
        | some e => (some (.err (strBytes e)), s)
        | none => afterSpecial (s.conn c).db cis (sp mode c sig.name a cis) s := by
  have hap' : sig.apply raw ⟨s.srv.dbs.getD (s.conn c).db [], s.srv.time⟩ = (s.dbAt (s.conn c).db, r) := hap
  rw [runWith_special_run sp mode c sig raw fs s hreg hr]
  simp only [hap']
  have hs : ({ s with srv := { s.srv with dbs := s.srv.dbs.set (s.conn c).db (s.dbAt (s.conn c).db).dict } } : Sys) = s := by
    show ({ s with srv := { s.srv with dbs := s.srv.dbs.set (s.conn c).db (s.srv.dbs.getD (s.conn c).db []) } } : Sys) = s
    rw [set_getD_self]
  rw [hs]
  rcases r with e | x | ⟨a, cis⟩ <;> rfl

end FR

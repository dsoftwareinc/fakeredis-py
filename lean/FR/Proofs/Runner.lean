import FR.Proofs.Apply
/-!
# The generic runner `runRegular`, one database at a time

`runRegular_cases` gives the five ways a run can go, each with the whole `RunOut`; the other statements about a run are
read off it.  `runRegular_inv`: the database a run leaves is reached by `Db.get`s and `CI.writeback`s, so a run keeps
whatever these keep.  `WatchSys.RawStep` … `WatchSys.runRegular_raw` (a key that is not notified keeps its raw entry up
to lazy deletion) are the vocabulary of `FR/Proofs/WatchSys.lean`; they stand here because `runRegular_live` is read
off them.  Last, the command table as a list (`Cmd.regularTable`, `Cmd.regular_forall`).
-/
namespace FR

open Db

/-- the invariant maintained by the `CommandItem` setters: the deadline is only touched together
with `modified` (the `elif self._expireat_modified` branch of `writeback` is dead) -/
def CI.ExpModSound (c : CI) : Prop := c.expMod = true → c.modified = true

theorem CI.Clean.sound {c : CI} (h : c.Clean) : c.ExpModSound := by
  intro h'; rw [h.2] at h'; cases h'

theorem CI.setValue_sound (c : CI) (v : Option Value) : (c.setValue v).ExpModSound := fun _ => rfl
theorem CI.setExpire_sound (c : CI) (e : Option Int) : (c.setExpire e).ExpModSound := fun _ => rfl
theorem CI.update_sound (c : CI) (v : Value) : (c.update v).ExpModSound := fun _ => rfl
theorem CI.updated_sound (c : CI) : c.updated.ExpModSound := fun _ => rfl

/-- given `CommandItem`s as built by `Signature.apply`, every `CommandItem` returned by the body
satisfies `ExpModSound` (true of any body that only uses the `CommandItem` setters) -/
def Body.ExpModSound (body : Body) : Prop :=
  ∀ ctx args cis o, (∀ c ∈ cis, c.Clean) → body ctx args cis = .ok o → ∀ c ∈ o.cis, c.ExpModSound

/-! ## live view -/

theorem Db.live_pop_self (db : Db) (k : Bytes) : (db.pop k).live k = none := by
  unfold Db.live; rw [pop_purge]; exact lookup_erase_self _ k

theorem rawArgs_map_raw (l : List Bytes) : Cmd.rawArgs (l.map .raw) = l := by
  induction l with
  | nil => rfl
  | cons b bs ih => simp only [List.map_cons, Cmd.rawArgs, ih]

theorem live_pop_ne (db : Db) {k k' : Bytes} (h : k ≠ k') : (db.pop k').live k = db.live k := by
  unfold Db.live; rw [pop_purge]; exact lookup_erase_ne h

theorem lookup_filter_setRaw_ne {d : Dict} (p : Bytes × Item → Bool) {k k' : Bytes} (it : Item)
    (nd : NodupKeys d) (h : k ≠ k') :
    ((setRaw d k' it).filter p).lookup k = (d.filter p).lookup k := by
  rw [lookup_filter p k (nodup_setRaw k' it nd), lookup_filter p k nd, lookup_setRaw_ne it h]

theorem live_setRaw_ne {db : Db} (nd : NodupKeys db.dict) {k k' : Bytes} (it : Item) (h : k ≠ k') :
    Db.live { db with dict := setRaw db.dict k' it } k = db.live k := by
  unfold Db.live
  exact lookup_filter_setRaw_ne _ it nd h

theorem live_put_ne {db : Db} (nd : NodupKeys db.dict) {k k' : Bytes} (v : Value) (e : Option Int)
    (h : k ≠ k') : (db.put k' v e).live k = db.live k := by
  unfold Db.put
  simp only
  rw [live_setRaw_ne (get_nodup k' nd) _ h, live_get nd]

theorem CI.writeback_live_ne (c : CI) {db : Db} (nd : NodupKeys db.dict) {k : Bytes} (h : k ≠ c.key) :
    (c.writeback db).1.live k = db.live k := by
  unfold CI.writeback
  split
  · split
    · exact live_pop_ne db h
    · split
      · exact live_pop_ne db h
      · exact live_put_ne nd _ _ h
  · split
    · split
      · rename_i db' it heq
        have : db' = (db.get c.key).1 := by rw [heq]
        subst this
        rw [live_setRaw_ne (get_nodup _ nd) _ h, live_get nd]
      · rename_i db' heq
        have : db' = (db.get c.key).1 := by rw [heq]
        subst this
        exact live_get nd _ _
    · rfl

/-! ## `writebackPure` -/

def wbStep (st : Db × List Bytes) (ci : CI) : Db × List Bytes :=
  ((ci.writeback st.1).1, if (ci.writeback st.1).2 then st.2 ++ [ci.key] else st.2)

theorem writebackPure_eq (db : Db) (cis : List CI) : writebackPure db cis = cis.foldl wbStep (db, []) := rfl

theorem foldl_wbStep (cis : List CI) (db : Db) (ns : List Bytes) :
    cis.foldl wbStep (db, ns) = ((cis.foldl wbStep (db, [])).1, ns ++ (cis.foldl wbStep (db, [])).2) := by
  induction cis generalizing db ns with
  | nil => simp
  | cons c cs ih =>
    simp only [List.foldl_cons]
    rw [ih (wbStep (db, ns) c).1 (wbStep (db, ns) c).2, ih (wbStep (db, []) c).1 (wbStep (db, []) c).2]
    simp only [wbStep]
    split <;> simp

theorem writebackPure_nil (db : Db) : writebackPure db [] = (db, []) := rfl

theorem writebackPure_cons (db : Db) (c : CI) (cs : List CI) :
    writebackPure db (c :: cs) =
      ((writebackPure (c.writeback db).1 cs).1,
       (if c.modified then [c.key] else []) ++ (writebackPure (c.writeback db).1 cs).2) := by
  simp only [writebackPure_eq, List.foldl_cons]
  rw [foldl_wbStep cs (wbStep (db, []) c).1 (wbStep (db, []) c).2]
  simp only [wbStep, CI.writeback_flag]
  split <;> simp

theorem writebackPure_inv {P : Db → Prop} (hwb : ∀ (c : CI) d, P d → P (c.writeback d).1) (cis : List CI) {db : Db}
    (h : P db) : P (writebackPure db cis).1 := by
  induction cis generalizing db with
  | nil => exact h
  | cons c cs ih => rw [writebackPure_cons]; exact ih (hwb c db h)

theorem writebackPure_nodup (cis : List CI) {db : Db} (nd : NodupKeys db.dict) :
    NodupKeys (writebackPure db cis).1.dict :=
  writebackPure_inv (P := fun d => NodupKeys d.dict) (fun c _ => c.writeback_nodup) cis nd

theorem writebackPure_noEmpty (cis : List CI) {db : Db} (ne : NoEmpty db.dict) :
    NoEmpty (writebackPure db cis).1.dict :=
  writebackPure_inv (P := fun d => NoEmpty d.dict) (fun c _ => c.writeback_noEmpty) cis ne

theorem writebackPure_time (cis : List CI) (db : Db) : (writebackPure db cis).1.time = db.time :=
  writebackPure_inv (P := fun d => d.time = db.time) (fun c d h => (c.writeback_time d).trans h) cis rfl

theorem writebackPure_sim (cis : List CI) {a b : Db} (h : Sim a b) :
    Sim (writebackPure a cis).1 (writebackPure b cis).1 ∧ (writebackPure a cis).2 = (writebackPure b cis).2 := by
  induction cis generalizing a b with
  | nil => exact ⟨h, rfl⟩
  | cons c cs ih =>
    rw [writebackPure_cons, writebackPure_cons]
    have := ih (c.writeback_sim h).1
    exact ⟨this.1, by simp only [this.2]⟩

theorem writebackPure_notified (db : Db) (cis : List CI) :
    (writebackPure db cis).2 = (cis.filter fun c => c.modified).map CI.key := by
  induction cis generalizing db with
  | nil => rfl
  | cons c cs ih =>
    rw [writebackPure_cons]
    simp only [ih, List.filter_cons]
    cases c.modified <;> simp

theorem writebackPure_clean {cis : List CI} (hc : ∀ c ∈ cis, c.Clean) (db : Db) :
    writebackPure db cis = (db, []) := by
  induction cis generalizing db with
  | nil => rfl
  | cons c cs ih =>
    have h := hc c (by simp)
    rw [writebackPure_cons, CI.writeback_unmodified h.1 h.2, ih (fun c' hc' => hc c' (by simp [hc']))]
    simp [h.1]

/-! ## `runRegular` -/

/-- the part of `runRegular` after `Signature.apply` -/
def runTail (body : Body) (ctx : Ctx) (gate : Option Err) (db1 : Db) (r : Except Err Sig.Applied) : RunOut :=
  match r with
  | .error e => { db := db1, reply := .err (strBytes e), failed := true }
  | .ok (.short r) => { db := db1, reply := r }
  | .ok (.ok args cis) =>
    match gate with
    | some e => { db := db1, reply := .err (strBytes e), failed := true }
    | none =>
      match body ctx args cis with
      | .error e =>
        { db := (writebackPure db1 cis).1, reply := .err (strBytes e), notified := (writebackPure db1 cis).2,
          failed := true, fault := if e.startsWith "model:" then some e else none }
      | .ok o =>
        { db := (writebackPure db1 o.cis).1, reply := o.reply, notified := (writebackPure db1 o.cis).2,
          picksUsed := o.picksUsed }

theorem runRegular_eq (sig : Sig) (body : Body) (ctx : Ctx) (gate : Option Err) (raw : List Bytes) (db : Db) :
    runRegular sig body ctx gate raw db =
      runTail body ctx gate (sig.apply raw db).1 (sig.apply raw db).2 := by
  unfold runRegular
  generalize sig.apply raw db = r
  obtain ⟨db1, x⟩ := r
  simp only
  cases x with
  | error e => rfl
  | ok ap =>
    cases ap with
    | short r => rfl
    | ok args cis =>
      simp only [runTail]
      cases gate with
      | some e => rfl
      | none =>
        simp only
        cases body ctx args cis <;> rfl

theorem runRegular_sim (sig : Sig) (body : Body) (ctx : Ctx) (gate : Option Err) (raw : List Bytes)
    {a b : Db} (h : Sim a b) :
    (runRegular sig body ctx gate raw a).reply = (runRegular sig body ctx gate raw b).reply ∧
    (runRegular sig body ctx gate raw a).notified = (runRegular sig body ctx gate raw b).notified ∧
    (runRegular sig body ctx gate raw a).failed = (runRegular sig body ctx gate raw b).failed ∧
    (runRegular sig body ctx gate raw a).picksUsed = (runRegular sig body ctx gate raw b).picksUsed ∧
    (runRegular sig body ctx gate raw a).fault = (runRegular sig body ctx gate raw b).fault ∧
    Sim (runRegular sig body ctx gate raw a).db (runRegular sig body ctx gate raw b).db := by
  rw [runRegular_eq, runRegular_eq]
  have hap := Sig.apply_sim sig raw h
  revert hap
  generalize sig.apply raw a = ra
  generalize sig.apply raw b = rb
  obtain ⟨a1, x⟩ := ra
  obtain ⟨b1, y⟩ := rb
  simp only
  rintro ⟨rfl, hs⟩
  cases x with
  | error e => exact ⟨rfl, rfl, rfl, rfl, rfl, hs⟩
  | ok ap =>
    cases ap with
    | short r => exact ⟨rfl, rfl, rfl, rfl, rfl, hs⟩
    | ok args cis =>
      cases gate with
      | some e => exact ⟨rfl, rfl, rfl, rfl, rfl, hs⟩
      | none =>
        simp only [runTail]
        cases body ctx args cis with
        | error e =>
          have hw := writebackPure_sim cis hs
          exact ⟨rfl, hw.2, rfl, rfl, rfl, hw.1⟩
        | ok o =>
          have hw := writebackPure_sim o.cis hs
          exact ⟨rfl, hw.2, rfl, rfl, rfl, hw.1⟩

/-- to prove `P` of a run, prove it of five records: `Signature.apply` fails; it takes a `missing_return` short-cut; a
gate refuses; the body raises (the clean items of `apply` are written back); the body returns -/
theorem runRegular_cases (sig : Sig) (body : Body) (ctx : Ctx) (gate : Option Err) (raw : List Bytes) (db : Db)
    {P : RunOut → Prop}
    (herr : ∀ e, (sig.apply raw db).2 = .error e →
      P { db := (sig.apply raw db).1, reply := .err (strBytes e), failed := true })
    (hshort : ∀ r, (sig.apply raw db).2 = .ok (.short r) → P { db := (sig.apply raw db).1, reply := r })
    (hgate : ∀ args cis e, (sig.apply raw db).2 = .ok (.ok args cis) → gate = some e →
      P { db := (sig.apply raw db).1, reply := .err (strBytes e), failed := true })
    (hraise : ∀ args cis e, (sig.apply raw db).2 = .ok (.ok args cis) → gate = none → body ctx args cis = .error e →
      P { db := (writebackPure (sig.apply raw db).1 cis).1, reply := .err (strBytes e),
          notified := (writebackPure (sig.apply raw db).1 cis).2, failed := true,
          fault := if e.startsWith "model:" then some e else none })
    (hret : ∀ args cis o, (sig.apply raw db).2 = .ok (.ok args cis) → gate = none → body ctx args cis = .ok o →
      P { db := (writebackPure (sig.apply raw db).1 o.cis).1, reply := o.reply,
          notified := (writebackPure (sig.apply raw db).1 o.cis).2, picksUsed := o.picksUsed }) :
    P (runRegular sig body ctx gate raw db) := by
  rw [runRegular_eq]
  revert herr hshort hgate hraise hret
  generalize sig.apply raw db = r
  obtain ⟨db1, x⟩ := r
  intro herr hshort hgate hraise hret
  cases x with
  | error e => exact herr e rfl
  | ok ap =>
    cases ap with
    | short r => exact hshort r rfl
    | ok args cis =>
      cases gate with
      | some e => exact hgate args cis e rfl rfl
      | none =>
        simp only [runTail]
        cases hbd : body ctx args cis with
        | error e => exact hraise args cis e rfl rfl hbd
        | ok o => exact hret args cis o rfl rfl hbd

theorem runRegular_out (sig : Sig) (body : Body) (ctx : Ctx) (gate : Option Err) (raw : List Bytes) (db : Db) :
    ((runRegular sig body ctx gate raw db).db = (sig.apply raw db).1 ∧
      (runRegular sig body ctx gate raw db).notified = []) ∨
    ∃ args cis cis', (sig.apply raw db).2 = .ok (.ok args cis) ∧
      ((cis' = cis ∧ (runRegular sig body ctx gate raw db).failed = true) ∨
        ∃ o, body ctx args cis = .ok o ∧ cis' = o.cis ∧ (runRegular sig body ctx gate raw db).failed = false) ∧
      (runRegular sig body ctx gate raw db).db = (writebackPure (sig.apply raw db).1 cis').1 ∧
      (runRegular sig body ctx gate raw db).notified = (writebackPure (sig.apply raw db).1 cis').2 :=
  runRegular_cases sig body ctx gate raw db
    (P := fun out => (out.db = (sig.apply raw db).1 ∧ out.notified = []) ∨
      ∃ args cis cis', (sig.apply raw db).2 = .ok (.ok args cis) ∧
        ((cis' = cis ∧ out.failed = true) ∨ ∃ o, body ctx args cis = .ok o ∧ cis' = o.cis ∧ out.failed = false) ∧
        out.db = (writebackPure (sig.apply raw db).1 cis').1 ∧
        out.notified = (writebackPure (sig.apply raw db).1 cis').2)
    (fun _ _ => .inl ⟨rfl, rfl⟩) (fun _ _ => .inl ⟨rfl, rfl⟩) (fun _ _ _ _ _ => .inl ⟨rfl, rfl⟩)
    (fun args cis _ ha _ _ => .inr ⟨args, cis, cis, ha, .inl ⟨rfl, rfl⟩, rfl, rfl⟩)
    (fun args cis o ha _ hb => .inr ⟨args, cis, o.cis, ha, .inr ⟨o, hb, rfl, rfl⟩, rfl, rfl⟩)

theorem runRegular_out_sound {sig : Sig} {body : Body} (hb : body.ExpModSound) {ctx : Ctx} {raw : List Bytes} {db : Db}
    {args : List Arg} {cis cis' : List CI} {f : Bool} (ha : (sig.apply raw db).2 = .ok (.ok args cis))
    (hc : (cis' = cis ∧ f = true) ∨ ∃ o, body ctx args cis = .ok o ∧ cis' = o.cis ∧ f = false) :
    ∀ c ∈ cis', c.ExpModSound := by
  have hcl := Sig.apply_clean sig raw db ha
  rcases hc with ⟨rfl, _⟩ | ⟨o, ho, rfl, _⟩
  · exact fun c hc => (hcl c hc).sound
  · exact hb ctx args cis o hcl ho

theorem runRegular_failed (sig : Sig) (body : Body) (ctx : Ctx) (gate : Option Err) (raw : List Bytes)
    {db : Db} (nd : NodupKeys db.dict) (hf : (runRegular sig body ctx gate raw db).failed = true) :
    Reads db (runRegular sig body ctx gate raw db).db ∧ (runRegular sig body ctx gate raw db).notified = [] := by
  have hr := Sig.apply_reads sig raw nd
  rcases runRegular_out sig body ctx gate raw db with ⟨hd, hn⟩ | ⟨args, cis, cis', ha, hc, hd, hn⟩
  · exact ⟨hd ▸ hr, hn⟩
  · rcases hc with ⟨rfl, _⟩ | ⟨o, _, _, hff⟩
    · rw [hd, hn, writebackPure_clean (Sig.apply_clean sig raw db ha)]
      exact ⟨hr, rfl⟩
    · rw [hf] at hff; cases hff

theorem runRegular_failed_iff (sig : Sig) (body : Body) (ctx : Ctx) (gate : Option Err) (raw : List Bytes)
    (db : Db) :
    (runRegular sig body ctx gate raw db).failed = true ↔
      (∃ e, (sig.apply raw db).2 = .error e) ∨
      (∃ args cis, (sig.apply raw db).2 = .ok (.ok args cis) ∧
        (gate.isSome = true ∨ ∃ e, body ctx args cis = .error e)) := by
  refine runRegular_cases sig body ctx gate raw db
    (P := fun out => out.failed = true ↔ (∃ e, (sig.apply raw db).2 = .error e) ∨
      ∃ args cis, (sig.apply raw db).2 = .ok (.ok args cis) ∧ (gate.isSome = true ∨ ∃ e, body ctx args cis = .error e))
    ?_ ?_ ?_ ?_ ?_
  · exact fun e he => iff_of_true rfl (.inl ⟨e, he⟩)
  · intro r hr
    simp only [hr, Bool.false_eq_true, false_iff]
    rintro (⟨e, he⟩ | ⟨args, cis, ha, _⟩)
    · cases he
    · cases ha
  · exact fun args cis e ha hg => iff_of_true rfl (.inr ⟨args, cis, ha, .inl (by rw [hg]; rfl)⟩)
  · exact fun args cis e ha _ hb => iff_of_true rfl (.inr ⟨args, cis, ha, .inr ⟨e, hb⟩⟩)
  · intro args cis o ha hg hb
    simp only [ha, hg, Bool.false_eq_true, false_iff]
    rintro (⟨e, he⟩ | ⟨args', cis', ha', h⟩)
    · cases he
    · cases ha'
      rcases h with h | ⟨e, he⟩
      · cases h
      · rw [hb] at he; cases he

theorem runRegular_inv {P : Db → Prop} (hget : ∀ d k, P d → P (d.get k).1)
    (hwb : ∀ (c : CI) d, P d → P (c.writeback d).1) (sig : Sig) (body : Body) (ctx : Ctx) (gate : Option Err)
    (raw : List Bytes) {db : Db} (h : P db) : P (runRegular sig body ctx gate raw db).db := by
  have hr := Sig.apply_inv hget sig raw h
  rcases runRegular_out sig body ctx gate raw db with ⟨hd, _⟩ | ⟨_, _, cis', _, _, hd, _⟩
  · exact hd ▸ hr
  · exact hd ▸ writebackPure_inv hwb cis' hr

theorem runRegular_nodup (sig : Sig) (body : Body) (ctx : Ctx) (gate : Option Err) (raw : List Bytes)
    {db : Db} (nd : NodupKeys db.dict) : NodupKeys (runRegular sig body ctx gate raw db).db.dict :=
  runRegular_inv (P := fun d => NodupKeys d.dict) (fun _ k => get_nodup k) (fun c _ => c.writeback_nodup)
    sig body ctx gate raw nd

theorem runRegular_time (sig : Sig) (body : Body) (ctx : Ctx) (gate : Option Err) (raw : List Bytes)
    {db : Db} (_ : NodupKeys db.dict) : (runRegular sig body ctx gate raw db).db.time = db.time :=
  runRegular_inv (P := fun d => d.time = db.time) (fun d k h => (get_time d k).trans h)
    (fun c d h => (c.writeback_time d).trans h) sig body ctx gate raw rfl

theorem runRegular_noEmpty (sig : Sig) (body : Body) (ctx : Ctx) (gate : Option Err) (raw : List Bytes)
    {db : Db} (_ : NodupKeys db.dict) (ne : NoEmpty db.dict) :
    NoEmpty (runRegular sig body ctx gate raw db).db.dict :=
  runRegular_inv (P := fun d => NoEmpty d.dict) (fun _ _ h q hq => h q (get_dict_sub hq))
    (fun c _ => c.writeback_noEmpty) sig body ctx gate raw ne

theorem runRegular_keeps (sig : Sig) (body : Body) (ctx : Ctx) (gate : Option Err) (raw : List Bytes) {db : Db}
    (nd : NodupKeys db.dict) (ne : NoEmpty db.dict) :
    NodupKeys (runRegular sig body ctx gate raw db).db.dict ∧ NoEmpty (runRegular sig body ctx gate raw db).db.dict ∧
    (runRegular sig body ctx gate raw db).db.time = db.time :=
  ⟨runRegular_nodup sig body ctx gate raw nd, runRegular_noEmpty sig body ctx gate raw nd ne,
    runRegular_time sig body ctx gate raw nd⟩

namespace WatchSys

/-! ## raw entries and lazy deletion -/

/-- `Database.expired` at clock reading `t` -/
def expiredAt (t : Int) (it : Item) : Bool := Db.expired ⟨[], t⟩ it

theorem expired_eq (db : Db) (it : Item) : db.expired it = expiredAt db.time it := rfl

/-- the entry seen through lazy expiry at clock reading `t` -/
def liveOf (t : Int) (a : Option Item) : Option Item :=
  match a with
  | none => none
  | some it => if expiredAt t it then none else some it

/-- the raw entry under `k` moved from `a` to `b` by lazy deletion only -/
def RawStep (t : Int) (a b : Option Item) : Prop :=
  b = a ∨ (b = none ∧ ∃ it, a = some it ∧ expiredAt t it = true)

theorem RawStep.refl (t : Int) (a : Option Item) : RawStep t a a := .inl rfl

theorem RawStep.trans {t : Int} {a b c : Option Item} (h1 : RawStep t a b) (h2 : RawStep t b c) : RawStep t a c := by
  rcases h2 with rfl | ⟨rfl, it, hb, he⟩
  · exact h1
  · rcases h1 with rfl | ⟨hb', _⟩
    · exact .inr ⟨rfl, it, hb, he⟩
    · rw [hb'] at hb; cases hb

theorem lookup_of_mem {d : Dict} {k : Bytes} {it : Item} (nd : NodupKeys d) (h : (k, it) ∈ d) :
    d.lookup k = some it := by
  cases hl : d.lookup k with
  | none => exact absurd rfl (lookup_none_iff.1 hl _ h)
  | some it' =>
    have := nodup_unique nd hl _ h rfl
    simp only [Prod.mk.injEq, true_and] at this
    rw [this]

theorem live_eq_liveOf {db : Db} (nd : NodupKeys db.dict) (k : Bytes) :
    db.live k = liveOf db.time (db.dict.lookup k) := by
  unfold Db.live liveOf
  rw [purge_dict, lookup_filter _ k nd]
  cases db.dict.lookup k with
  | none => rfl
  | some it =>
    simp only [expired_eq]
    by_cases he : expiredAt db.time it = true <;> simp [he]

theorem rawStep_of_reads {db out : Db} (nd : NodupKeys db.dict) (h : Reads db out) (k : Bytes) :
    RawStep db.time (db.dict.lookup k) (out.dict.lookup k) := by
  cases ho : out.dict.lookup k with
  | some it =>
    left
    exact (lookup_of_mem nd (h.sub _ (lookup_some_mem ho))).symm
  | none =>
    cases hd : db.dict.lookup k with
    | none => exact .inl rfl
    | some it =>
      right
      refine ⟨rfl, it, rfl, ?_⟩
      have h1 : out.live k = db.live k := live_eq_of_purge h.eq k
      have ht : out.time = db.time := by
        have := congrArg Db.time h.eq
        simpa using this
      rw [live_eq_liveOf h.nd, live_eq_liveOf nd, ho, hd, ht] at h1
      simp only [liveOf] at h1
      cases he : expiredAt db.time it with
      | true => rfl
      | false => rw [he] at h1; simp at h1

/-! ## raw entries through `writeback` -/

theorem lookup_get_ne (db : Db) {k k' : Bytes} (h : k ≠ k') : (db.get k').1.dict.lookup k = db.dict.lookup k := by
  unfold Db.get
  split
  · rfl
  · split
    · exact lookup_erase_ne h
    · rfl

theorem lookup_pop_ne (db : Db) {k k' : Bytes} (h : k ≠ k') : (db.pop k').dict.lookup k = db.dict.lookup k := by
  rw [pop_eq]; exact lookup_erase_ne h

theorem lookup_put_ne (db : Db) {k k' : Bytes} (v : Value) (e : Option Int) (h : k ≠ k') :
    (db.put k' v e).dict.lookup k = db.dict.lookup k := by
  unfold Db.put
  simp only
  rw [lookup_setRaw_ne _ h, lookup_get_ne db h]

theorem writeback_lookup_ne (c : CI) (db : Db) {k : Bytes} (h : k ≠ c.key) :
    (c.writeback db).1.dict.lookup k = db.dict.lookup k := by
  unfold CI.writeback
  split
  · split
    · exact lookup_pop_ne db h
    · split
      · exact lookup_pop_ne db h
      · exact lookup_put_ne db _ _ h
  · split
    · split
      · rename_i db' it heq
        have : db' = (db.get c.key).1 := by rw [heq]
        subst this
        simp only
        rw [lookup_setRaw_ne _ h, lookup_get_ne db h]
      · rename_i db' heq
        have : db' = (db.get c.key).1 := by rw [heq]
        subst this
        exact lookup_get_ne db h
    · rfl

theorem writebackPure_lookup {cis : List CI} (hs : ∀ c ∈ cis, c.ExpModSound) (db : Db) {k : Bytes}
    (hk : k ∉ (writebackPure db cis).2) : (writebackPure db cis).1.dict.lookup k = db.dict.lookup k := by
  induction cis generalizing db with
  | nil => rfl
  | cons c cs ih =>
    rw [writebackPure_cons] at hk ⊢
    simp only [List.mem_append, not_or] at hk
    rw [ih (fun c' hc' => hs c' (by simp [hc'])) _ hk.2]
    by_cases hm : c.modified = true
    · have : k ≠ c.key := by
        intro e; apply hk.1; simp [hm, e]
      exact writeback_lookup_ne c db this
    · have hm : c.modified = false := by simpa using hm
      have he : c.expMod = false := by
        cases h : c.expMod with
        | false => rfl
        | true => rw [hs c (by simp) h] at hm; cases hm
      rw [CI.writeback_unmodified hm he]

theorem runRegular_raw (sig : Sig) (body : Body) (hb : body.ExpModSound) (ctx : Ctx) (gate : Option Err)
    (raw : List Bytes) {db : Db} (nd : NodupKeys db.dict) {k : Bytes}
    (hk : k ∉ (runRegular sig body ctx gate raw db).notified) :
    RawStep db.time (db.dict.lookup k) ((runRegular sig body ctx gate raw db).db.dict.lookup k) := by
  have h1 := rawStep_of_reads nd (Sig.apply_reads sig raw nd) k
  rcases runRegular_out sig body ctx gate raw db with ⟨hd, _⟩ | ⟨args, cis, cis', ha, hc, hd, hn⟩
  · rw [hd]; exact h1
  · rw [hd, writebackPure_lookup (runRegular_out_sound hb ha hc) _ (hn ▸ hk)]; exact h1


end WatchSys

theorem WatchSys.RawStep.liveOf {t : Int} {a b : Option Item} (h : WatchSys.RawStep t a b) :
    WatchSys.liveOf t b = WatchSys.liveOf t a := by
  rcases h with rfl | ⟨rfl, it, rfl, he⟩
  · rfl
  · simp [WatchSys.liveOf, he]

theorem runRegular_live (sig : Sig) (body : Body) (hb : body.ExpModSound) (ctx : Ctx) (gate : Option Err)
    (raw : List Bytes) {db : Db} (nd : NodupKeys db.dict) {k : Bytes}
    (hk : k ∉ (runRegular sig body ctx gate raw db).notified) :
    (runRegular sig body ctx gate raw db).db.live k = db.live k := by
  rw [WatchSys.live_eq_liveOf (runRegular_nodup sig body ctx gate raw nd) k, WatchSys.live_eq_liveOf nd k,
    runRegular_time sig body ctx gate raw nd, (WatchSys.runRegular_raw sig body hb ctx gate raw nd hk).liveOf]

/-! ## The command table as a list

`Cmd.regular` is a `match` on 105 string literals, and `split` on it compares the literals with one another,
which is slow to check.  `regularTable` lists the same entries, `regular` is the first-match lookup in it, and a
property of all bodies in the list therefore holds of whatever `regular` returns (`regular_forall`). -/
namespace Cmd

/-- First match in an association list keyed by strings.  The hit is written with the cast that the `match`
compiler puts around an alternative, so that a `match` on string literals unfolds to a `tableLookup`. -/
def tableLookup {α : Type} (name : String) : List (String × α) → Option α
  | [] => none
  | (k, b) :: t =>
    dite (name = k) (Eq.ndrec_symm (motive := fun _ => Option α) (some b)) fun _ => tableLookup name t

theorem tableLookup_mem {α : Type} {name : String} {b : α} :
    ∀ {t : List (String × α)}, tableLookup name t = some b → (name, b) ∈ t
  | [], h => by cases h
  | (k, b') :: t, h => by
    unfold tableLookup at h
    split at h
    next hk => cases hk; cases h; exact List.mem_cons_self
    next => exact List.mem_cons_of_mem _ (tableLookup_mem h)

def regularTable : List (String × Body) :=
  [("append", append), ("bitcount", bitcount), ("decr", decr), ("decrby", decrby),
   ("incr", incr), ("incrby", incrby), ("incrbyfloat", incrbyfloat), ("get", get),
   ("getbit", getbit), ("setbit", setbit), ("getrange", getrange), ("substr", getrange),
   ("getset", getset), ("mget", mget), ("mset", mset), ("msetnx", msetnx),
   ("set", set), ("setex", setex), ("psetex", psetex), ("setnx", setnx),
   ("setrange", setrange), ("strlen", strlen),
   ("del", del), ("unlink", del), ("exists", exists_), ("expire", expire),
   ("expireat", expireat), ("pexpire", pexpire), ("pexpireat", pexpireat),
   ("ttl", ttl), ("pttl", pttl), ("type", type_), ("persist", persist),
   ("rename", rename), ("renamenx", renamenx), ("dump", dump), ("restore", restore),
   ("hdel", hdel), ("hexists", hexists), ("hget", hget), ("hgetall", hgetall),
   ("hincrby", hincrby), ("hincrbyfloat", hincrbyfloat), ("hkeys", hkeys),
   ("hlen", hlen), ("hmget", hmget), ("hmset", hmset), ("hscan", hscan),
   ("hset", hset), ("hsetnx", hsetnx), ("hstrlen", hstrlen), ("hvals", hvals),
   ("lindex", lindex), ("linsert", linsert), ("llen", llen), ("lmove", lmove),
   ("lpop", lpop), ("lpush", lpush), ("lpushx", lpushx), ("lrange", lrange),
   ("lrem", lrem), ("lset", lset), ("ltrim", ltrim), ("rpop", rpop),
   ("rpoplpush", rpoplpush), ("rpush", rpush), ("rpushx", rpushx),
   ("sadd", sadd), ("scard", scard), ("sdiff", sdiff), ("sdiffstore", sdiffstore),
   ("sinter", sinter), ("sinterstore", sinterstore), ("sismember", sismember),
   ("smismember", smismember), ("smembers", smembers), ("smove", smove),
   ("spop", spop), ("srandmember", srandmember), ("srem", srem), ("sscan", sscan),
   ("sunion", sunion), ("sunionstore", sunionstore),
   ("pfadd", pfadd), ("pfcount", pfcount), ("pfmerge", pfmerge),
   ("zadd", zadd), ("zcard", zcard), ("zcount", zcount), ("zincrby", zincrby),
   ("zlexcount", zlexcount), ("zrange", zrange), ("zrevrange", zrevrange),
   ("zrangebylex", zrangebylex), ("zrevrangebylex", zrevrangebylex),
   ("zrangebyscore", zrangebyscore), ("zrevrangebyscore", zrevrangebyscore),
   ("zrank", zrank), ("zrevrank", zrevrank), ("zrem", zrem),
   ("zremrangebylex", zremrangebylex), ("zremrangebyscore", zremrangebyscore),
   ("zremrangebyrank", zremrangebyrank), ("zscan", zscan), ("zscore", zscore)]

/-- `regular.match_1` is the name Lean gives the matcher of the one `match` in `Cmd.regular`; unfolded, its chain of
string tests is `tableLookup` on the same entries in the same order, so `rfl` closes the goal.  A second `match` in
`regular`, or an entry out of order, breaks this proof and nothing else. -/
theorem regular_eq_tableLookup (name : String) : regular name = tableLookup name regularTable := by
  unfold regular regular.match_1 regularTable
  rfl

theorem regular_mem {name : String} {body : Body} (h : regular name = some body) :
    (name, body) ∈ regularTable :=
  tableLookup_mem (regular_eq_tableLookup name ▸ h)

theorem regular_forall {P : Body → Prop} (hP : ∀ p ∈ regularTable, P p.2) {name : String} {body : Body}
    (h : regular name = some body) : P body :=
  hP _ (regular_mem h)

end Cmd

end FR

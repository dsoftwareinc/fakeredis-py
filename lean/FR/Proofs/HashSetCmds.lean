import FR.Proofs.HashSetAlg
import FR.Proofs.Emptied
/-!
# Hashes and sets through the runner, as finite maps and membership predicates (for `FR.Props.C02h`)

One theorem per command, on the layer of `FR/Proofs/HashSetAlg.lean`.  To add a hash command copy `run_hstrlen` (read),
`run_hset` with `body_hset` (write), `hdel_view` (writes only if something changed); then its name in `allCmds` and its
slot in `wf_all` (Part 7).  Part 6: `hmap`, `smem`, `ValueWF`, `LiveWF`.  Part 7: `runRegular` keeps them.
-/
namespace FR.HashSet
open FR Db

/-! ### the hash commands

`run_X` states the outcome of a command that has one (a `Sees`); `X_view` is an equation for `view` with every case in
it, for a command whose outcome depends on the data. -/

/-- what a hash command sees at `key`: the stored pairs (none when the key is missing) and the
deadline; `none` when another type is stored -/
def hashView (live : Live) (key : Bytes) : Option (HashV × Option Int) :=
  match live key with
  | none => some ([], none)
  | some it =>
    match it.value with
    | .hash h => some (h, it.expireat)
    | _ => none

abbrev hashC : Coll HashV where
  T := .hash
  inj := .hash
  prj | .hash h => some h | _ => none
  empty := []
  prj_some := fun {v a} h => by cases v <;> simp at h; rw [h]
  prj_none := fun {v} h => by cases v <;> simp at h <;> rfl
  prj_inj := fun _ => rfl
  ty_inj := fun _ => rfl
  dflt := rfl
  see := hashView
  see_eq := fun live key => by
    unfold hashView
    cases live key with
    | none => rfl
    | some it => obtain ⟨v, e⟩ := it; cases v <;> rfl

theorem body_hset (ctx : Ctx) (key : Bytes) (h : HashV) (e : Option Int) (l : List Bytes) :
    Cmd.hset ctx (.key 0 :: l.map .raw) [hashC.ci key h e] =
      ret (.int (hsetRec h (Cmd.fieldPairs l)).2)
        [{ hashC.ci key h e with val := some (.hash (hsetRec h (Cmd.fieldPairs l)).1), modified := true }] := by
  simp only [Cmd.hset, rawArgs_map_raw, hsetCore_eq]
  rfl

theorem body_hmset (ctx : Ctx) (key : Bytes) (h : HashV) (e : Option Int) (l : List Bytes) :
    Cmd.hmset ctx (.key 0 :: l.map .raw) [hashC.ci key h e] =
      ret .ok
        [{ hashC.ci key h e with val := some (.hash (hsetRec h (Cmd.fieldPairs l)).1), modified := true }] := by
  simp only [Cmd.hmset, body_hset]
  rfl

theorem body_hdel (ctx : Ctx) (key : Bytes) (h : HashV) (e : Option Int) (l : List Bytes) :
    Cmd.hdel ctx (.key 0 :: l.map .raw) [hashC.ci key h e] =
      if (hdelRec h l).2 > 0 then
        ret (.int (hdelRec h l).2)
          [{ hashC.ci key h e with val := some (.hash (hdelRec h l).1), modified := true }]
      else ret (.int 0) [hashC.ci key h e] := by
  simp only [Cmd.hdel, rawArgs_map_raw]
  have e1 : Cmd.hashOf (ciAt [hashC.ci key h e] 0) = h := rfl
  rw [e1, foldl_hdel, Nat.zero_add]
  rfl

section hashcmds
variable (ctx : Ctx) (key : Bytes) {db : Db} (nd : NodupKeys db.dict) {h : HashV} {e : Option Int}
  (hv : hashView db.live key = some (h, e))
include nd hv

theorem run_hset (f v : Bytes) (rest : List Bytes) (heven : rest.length % 2 = 0) :
    Sees (run "hset" ctx (key :: f :: v :: rest) db) (.int (hsetRec h (Cmd.fieldPairs (f :: v :: rest))).2)
      (putAt db.live key (.hash (hsetRec h (Cmd.fieldPairs (f :: v :: rest))).1) e) false :=
  have har := arity_pairs "hset" rest heven rfl rfl
  typed_write hashC (keyFirst_plain (a := 2) rfl (by decide)) ctx key (f :: v :: rest) nd har
    (decodeAll_plain _ _ 2 rfl (by decide) (f :: v :: rest) har) rfl hv (body_hset ctx key h e (f :: v :: rest))

theorem run_hmset (f v : Bytes) (rest : List Bytes) (heven : rest.length % 2 = 0) :
    Sees (run "hmset" ctx (key :: f :: v :: rest) db) .ok
      (putAt db.live key (.hash (hsetRec h (Cmd.fieldPairs (f :: v :: rest))).1) e) false :=
  have har := arity_pairs "hmset" rest heven rfl rfl
  typed_write hashC (keyFirst_plain (a := 2) rfl (by decide)) ctx key (f :: v :: rest) nd har
    (decodeAll_plain _ _ 2 rfl (by decide) (f :: v :: rest) har) rfl hv (body_hmset ctx key h e (f :: v :: rest))

theorem hsetnx_view (f v : Bytes) :
    view (run "hsetnx" ctx [key, f, v] db) =
      if (h.lookup f).isSome = true then (.int 0, db.live, false)
      else (.int 1, putAt db.live key (.hash (h ++ [(f, v)])) e, false) := by
  rw [typed_view hashC ⟨rfl, by decide, by decide⟩ ctx key [f, v] nd (by show ArityOK _ 3; decide)
    (as := [.raw f, .raw v]) rfl rfl hv]
  have hany : (Cmd.hashOf (ciAt [hashC.ci key h e] 0)).any (fun p => p.1 == f) = (h.lookup f).isSome :=
    any_eq_isSome h f
  simp only [Cmd.hsetnx, hany]
  cases hl : (h.lookup f).isSome with
  | true =>
    rw [if_pos rfl, if_pos rfl]
    exact outcome_read _ _ _ (by simp [CI.Clean])
  | false =>
    have hb := body_hset ctx key h e [f, v]
    simp only [List.map_cons, List.map_nil] at hb
    rw [if_neg (by decide), if_neg (by decide), hb]
    have h0 : h.any (fun p => p.1 == f) = false := (any_eq_isSome h f).trans hl
    have hr : hsetRec h (Cmd.fieldPairs [f, v]) = (h ++ [(f, v)], 1) := by
      simp [Cmd.fieldPairs, hsetRec, h0, ZSet.dictSet]
    rw [hr]
    exact outcome_write _ _ _ (hashC.ci key h e) _ (hashC.notExp nd (a := h) hv)

theorem run_hget (f : Bytes) :
    Sees (run "hget" ctx [key, f] db) (Reply.ofOptBulk (h.lookup f)) db.live false :=
  typed_read hashC ⟨rfl, by decide, by decide⟩ ctx key [f] nd (by show ArityOK _ 2; decide)
    (as := [.raw f]) rfl rfl hv rfl

theorem run_hexists (f : Bytes) :
    Sees (run "hexists" ctx [key, f] db) (.int (if (h.lookup f).isSome then 1 else 0)) db.live false :=
  typed_read hashC ⟨rfl, by decide, by decide⟩ ctx key [f] nd (by show ArityOK _ 2; decide)
    (as := [.raw f]) rfl rfl hv (by rw [← any_eq_isSome]; rfl)

theorem run_hstrlen (f : Bytes) :
    Sees (run "hstrlen" ctx [key, f] db) (.int ((h.lookup f).getD []).length) db.live false :=
  typed_read hashC ⟨rfl, by decide, by decide⟩ ctx key [f] nd (by show ArityOK _ 2; decide)
    (as := [.raw f]) rfl rfl hv rfl

theorem run_hlen : Sees (run "hlen" ctx [key] db) (.int h.length) db.live false :=
  typed_read hashC ⟨rfl, by decide, by decide⟩ ctx key [] nd (by show ArityOK _ 1; decide)
    (as := []) rfl rfl hv rfl

theorem run_hgetall :
    Sees (run "hgetall" ctx [key] db) (.arr (h.flatMap fun p => [.bulk p.1, .bulk p.2])) db.live false :=
  typed_read hashC ⟨rfl, by decide, by decide⟩ ctx key [] nd (by show ArityOK _ 1; decide)
    (as := []) rfl rfl hv rfl

theorem run_hkeys : Sees (run "hkeys" ctx [key] db) (Reply.bulks (h.map Prod.fst)) db.live false :=
  typed_read hashC ⟨rfl, by decide, by decide⟩ ctx key [] nd (by show ArityOK _ 1; decide)
    (as := []) rfl rfl hv rfl

theorem run_hvals : Sees (run "hvals" ctx [key] db) (Reply.bulks (h.map Prod.snd)) db.live false :=
  typed_read hashC ⟨rfl, by decide, by decide⟩ ctx key [] nd (by show ArityOK _ 1; decide)
    (as := []) rfl rfl hv rfl

theorem run_hmget (f : Bytes) (rest : List Bytes) :
    Sees (run "hmget" ctx (key :: f :: rest) db) (.arr ((f :: rest).map fun x => Reply.ofOptBulk (h.lookup x)))
      db.live false :=
  have har := arity_var "hmget" ((f :: rest).length + 1) 2 rfl rfl (by simp)
  typed_read hashC (keyFirst_plain (a := 1) rfl (by decide)) ctx key (f :: rest) nd har
    (decodeAll_plain _ _ 1 rfl (by decide) (f :: rest) har) rfl hv (by simp only [Cmd.hmget, rawArgs_map_raw]; rfl)

theorem hdel_view (f : Bytes) (rest : List Bytes) :
    view (run "hdel" ctx (key :: f :: rest) db) =
      if (hdelRec h (f :: rest)).2 > 0 then
        (.int (hdelRec h (f :: rest)).2, putAt db.live key (.hash (hdelRec h (f :: rest)).1) e, false)
      else (.int 0, db.live, false) := by
  have har := arity_var "hdel" ((f :: rest).length + 1) 2 rfl rfl (by simp)
  rw [typed_view hashC (keyFirst_plain (a := 1) rfl (by decide)) ctx key (f :: rest) nd har
    (decodeAll_plain _ _ 1 rfl (by decide) (f :: rest) har) rfl hv, body_hdel]
  split
  · exact outcome_write _ _ _ (hashC.ci key h e) _ (hashC.notExp nd (a := h) hv)
  · exact outcome_read _ _ _ (by simp [CI.Clean])

end hashcmds

/-! ### HINCRBY / HINCRBYFLOAT -/

theorem body_hincrby (ctx : Ctx) (key : Bytes) (h : HashV) (e : Option Int) (f : Bytes) (amount : Int) :
    Cmd.hincrby ctx [.key 0, .raw f, .int amount] [hashC.ci key h e] =
      match Conv.int ((h.lookup f).getD (strBytes "0")) with
      | .error _ => .error Msgs.HASH_NOT_INT_MSG
      | .ok cur =>
        match Conv.encodeInt (cur + amount) with
        | .error er => .error er
        | .ok enc =>
          ret (.int (cur + amount))
            [{ hashC.ci key h e with val := some (.hash (ZSet.dictSet h f enc)), modified := true }] := rfl

section hincr
variable (ctx : Ctx) (key f : Bytes) {db : Db} (nd : NodupKeys db.dict)
include nd

/-- HINCRBY, every outcome: the increment must be an integer, the key a hash, the stored value an integer and the sum
in the signed 64-bit range -/
theorem hincrby_view (nb : Bytes) :
    view (run "hincrby" ctx [key, f, nb] db) =
      match Conv.int nb with
      | .error er => fails db.live er
      | .ok amount =>
        match hashView db.live key with
        | none => fails db.live Msgs.WRONGTYPE_MSG
        | some (h, e) =>
          match Conv.int ((h.lookup f).getD (strBytes "0")) with
          | .error _ => fails db.live Msgs.HASH_NOT_INT_MSG
          | .ok cur =>
            if Conv.INT_MIN ≤ cur + amount ∧ cur + amount ≤ Conv.INT_MAX then
              (.int (cur + amount), putAt db.live key (.hash (ZSet.dictSet h f (intBytes (cur + amount)))) e, false)
            else fails db.live Msgs.OVERFLOW_MSG := by
  rw [run_typed hashC ⟨rfl, by decide, by decide⟩ ctx key [f, nb] nd (by show ArityOK _ 3; decide)
    (dec := match Conv.int nb with | .error er => .error er | .ok n => .ok [.raw f, .int n])
    (by show Ttl.decodeAll [(f, .bytes), (nb, .int)] = _
        simp only [Ttl.decodeAll, Conv.decode]; cases Conv.int nb <;> rfl)]
  cases Conv.int nb with
  | error er => rfl
  | ok amount =>
    simp only [typedV]
    cases hv : hashView db.live key with
    | none => rfl
    | some p =>
      obtain ⟨h, e⟩ := p
      dsimp only
      show outcome _ _ (Cmd.hincrby ctx [.key 0, .raw f, .int amount] [hashC.ci key h e]) = _
      rw [body_hincrby]
      cases Conv.int ((h.lookup f).getD (strBytes "0")) with
      | error _ => rfl
      | ok cur =>
        by_cases hin : Conv.INT_MIN ≤ cur + amount ∧ cur + amount ≤ Conv.INT_MAX
        · simp only [Conv.encodeInt, hin, and_self, if_true]
          exact outcome_write _ _ _ (hashC.ci key h e) _ (hashC.notExp nd (a := h) hv)
        · simp only [Conv.encodeInt, hin, if_false]
          rfl

theorem hincrbyfloat_view {h : HashV} {e : Option Int} (hv : hashView db.live key = some (h, e)) (amt : Bytes) :
    view (run "hincrbyfloat" ctx [key, f, amt] db) =
      match Conv.float ((h.lookup f).getD (strBytes "0")) with
      | .error _ => fails db.live Msgs.HASH_NOT_FLOAT_MSG
      | .ok cur =>
        match Conv.float amt with
        | .error er => fails db.live er
        | .ok a =>
          if (Dbl.add cur a).isFinite = true then
            (.bulk (Cmd.encodeFloat ctx.version (Dbl.add cur a) true),
              putAt db.live key (.hash (ZSet.dictSet h f (Cmd.encodeFloat ctx.version (Dbl.add cur a) true))) e, false)
          else fails db.live Msgs.NONFINITE_MSG := by
  rw [typed_view hashC ⟨rfl, by decide, by decide⟩ ctx key [f, amt] nd (by show ArityOK _ 3; decide)
    (as := [.raw f, .raw amt]) rfl rfl hv]
  show outcome _ _ (match Conv.float ((h.lookup f).getD (strBytes "0")) with | .error _ => _ | .ok cur => _) = _
  cases Conv.float ((h.lookup f).getD (strBytes "0")) with
  | error _ => rfl
  | ok cur =>
    simp only
    cases Conv.float amt with
    | error er => rfl
    | ok a =>
      simp only
      cases hfin : (Dbl.add cur a).isFinite with
      | false => rfl
      | true => exact outcome_write _ _ _ (hashC.ci key h e) _ (hashC.notExp nd (a := h) hv)

end hincr

/-! ### the single-key set commands -/

/-- what a set command sees at `key`: the stored members (none when the key is missing) and the
deadline; `none` when another type is stored -/
def setView (live : Live) (key : Bytes) : Option (List Bytes × Option Int) :=
  match live key with
  | none => some ([], none)
  | some it =>
    match it.value with
    | .set s => some (s, it.expireat)
    | _ => none

abbrev setC : Coll (List Bytes) where
  T := .set
  inj := .set
  prj | .set s => some s | _ => none
  empty := []
  prj_some := fun {v a} h => by cases v <;> simp at h; rw [h]
  prj_none := fun {v} h => by cases v <;> simp at h <;> rfl
  prj_inj := fun _ => rfl
  ty_inj := fun _ => rfl
  dflt := rfl
  see := setView
  see_eq := fun live key => by
    unfold setView
    cases live key with
    | none => rfl
    | some it => obtain ⟨v, e⟩ := it; cases v <;> rfl

section setcmds
variable (ctx : Ctx) (key : Bytes) {db : Db} (nd : NodupKeys db.dict) {s : List Bytes} {e : Option Int}
  (hv : setView db.live key = some (s, e))
include nd hv

theorem run_sadd (m : Bytes) (rest : List Bytes) :
    Sees (run "sadd" ctx (key :: m :: rest) db) (.int ((Cmd.setUnion s (m :: rest)).length - s.length : Nat))
      (putAt db.live key (.set (Cmd.setUnion s (m :: rest))) e) false :=
  have har := arity_var "sadd" ((m :: rest).length + 1) 2 rfl rfl (by simp)
  typed_write setC (keyFirst_plain (a := 1) rfl (by decide)) ctx key (m :: rest) nd har
    (decodeAll_plain _ _ 1 rfl (by decide) (m :: rest) har) rfl hv (by
      simp only [Cmd.sadd, Cmd.saddCore, rawArgs_map_raw]; rfl)

theorem run_pfadd (rest : List Bytes) :
    Sees (run "pfadd" ctx (key :: rest) db) (.int (if (Cmd.setUnion s rest).length - s.length > 0 then 1 else 0))
      (putAt db.live key (.set (Cmd.setUnion s rest)) e) false :=
  have har := arity_var "pfadd" (rest.length + 1) 1 rfl rfl (by simp)
  typed_write setC (keyFirst_plain (a := 0) rfl (by decide)) ctx key rest nd har
    (decodeAll_plain _ _ 0 rfl (by decide) rest har) rfl hv (by
      simp only [Cmd.pfadd, Cmd.saddCore, rawArgs_map_raw]; rfl)

theorem srem_view (m : Bytes) (rest : List Bytes) :
    view (run "srem" ctx (key :: m :: rest) db) =
      if s.length - (Cmd.setDiff s (m :: rest)).length > 0 then
        (.int (s.length - (Cmd.setDiff s (m :: rest)).length : Nat),
          putAt db.live key (.set (Cmd.setDiff s (m :: rest))) e, false)
      else (.int 0, db.live, false) := by
  have har := arity_var "srem" ((m :: rest).length + 1) 2 rfl rfl (by simp)
  rw [typed_view setC (keyFirst_plain (a := 1) rfl (by decide)) ctx key (m :: rest) nd har
    (decodeAll_plain _ _ 1 rfl (by decide) (m :: rest) har) rfl hv]
  simp only [Cmd.srem, rawArgs_map_raw]
  rw [show Cmd.setOf (ciAt [setC.ci key s e] 0) = s from rfl]
  split
  · exact outcome_write _ _ _ (setC.ci key s e) _ (setC.notExp nd (a := s) hv)
  · exact outcome_read _ _ _ (by simp [CI.Clean])

theorem run_scard : Sees (run "scard" ctx [key] db) (.int s.length) db.live false :=
  typed_read setC ⟨rfl, by decide, by decide⟩ ctx key [] nd (by show ArityOK _ 1; decide)
    (as := []) rfl rfl hv rfl

theorem run_smembers : Sees (run "smembers" ctx [key] db) (Reply.bulks s) db.live false :=
  typed_read setC ⟨rfl, by decide, by decide⟩ ctx key [] nd (by show ArityOK _ 1; decide)
    (as := []) rfl rfl hv rfl

theorem run_sismember (m : Bytes) :
    Sees (run "sismember" ctx [key, m] db) (.int (if s.contains m then 1 else 0)) db.live false :=
  typed_read setC ⟨rfl, by decide, by decide⟩ ctx key [m] nd (by show ArityOK _ 2; decide)
    (as := [.raw m]) rfl rfl hv rfl

theorem run_smismember (m : Bytes) (rest : List Bytes) :
    Sees (run "smismember" ctx (key :: m :: rest) db)
      (.arr ((m :: rest).map fun x => .int (if s.contains x then 1 else 0))) db.live false :=
  have har := arity_var "smismember" ((m :: rest).length + 1) 2 rfl rfl (by simp)
  typed_read setC (keyFirst_plain (a := 1) rfl (by decide)) ctx key (m :: rest) nd har
    (decodeAll_plain _ _ 1 rfl (by decide) (m :: rest) har) rfl hv (by
      simp only [Cmd.smismember, rawArgs_map_raw]; rfl)

end setcmds

/-! ### multi-key set commands

`keys_view` and `store_view` are to a signature whose arguments are all keys what `typed_view` is to one typed key. -/

theorem p2_nil (live : Live) (accA : List Arg) (accC : List CI) :
    p2 live [] accA accC = .ok (accA.reverse, accC.reverse) := rfl

theorem applyL_keys (s : Sig) (ty : Option Ty) (a : Nat)
    (hfix : s.fixed = List.replicate a (.key ty .unspecified)) (hrep : s.rep = [.key ty .unspecified])
    (live : Live) (keys : List Bytes) (har : ArityOK s keys.length) :
    Ttl.applyL live s keys =
      if keys.all (typeOK live ty) = true then
        .ok (.ok ((List.range' 0 keys.length).map .key) (keys.map (ciOf live ty)))
      else .error Msgs.WRONGTYPE_MSG := by
  have hge := arity_ge har
  rw [hfix, List.length_replicate] at hge
  have ht : s.types keys.length = List.replicate keys.length (.key ty .unspecified) := by
    rw [Ttl.types_rep_one hrep, hfix, List.replicate_append_replicate, List.length_replicate]
    congr 1
    omega
  rw [applyL_closed s keys live (by rw [hfix]; intro t ht; rw [(List.mem_replicate.1 ht).2]; rfl)
    (by rw [hrep]; intro t ht; rw [List.mem_singleton.1 ht]; rfl) har, ht,
    Ttl.zip_replicate keys _ (Nat.le_refl _), Ttl.decodeT_keys]
  simp only [Ttl.keysOf_keys, Ttl.number_keys, List.all_map, List.map_map, Function.comp_def]

theorem applyL_store (s : Sig)
    (hfix : s.fixed = [.key none .unspecified, .key (some .set) .unspecified])
    (hrep : s.rep = [.key (some .set) .unspecified])
    (live : Live) (dst : Bytes) (keys : List Bytes) (har : ArityOK s (keys.length + 1)) :
    Ttl.applyL live s (dst :: keys) =
      if keys.all (typeOK live (some .set)) = true then
        .ok (.ok ((List.range' 0 (keys.length + 1)).map .key)
          (ciOf live none dst :: keys.map (ciOf live (some .set))))
      else .error Msgs.WRONGTYPE_MSG := by
  have hge := arity_ge har
  rw [hfix] at hge
  have ht : s.types (dst :: keys).length =
      .key none .unspecified :: List.replicate keys.length (.key (some .set) .unspecified) := by
    rw [Ttl.types_rep_one hrep, hfix]
    simp only [List.length_cons, List.length_nil, List.cons_append, List.nil_append] at hge ⊢
    rw [← List.replicate_succ]
    congr 2
    omega
  rw [applyL_closed s (dst :: keys) live (by rw [hfix]; intro t ht; simp at ht; rcases ht with rfl | rfl <;> rfl)
    (by rw [hrep]; intro t ht; rw [List.mem_singleton.1 ht]; rfl) har, ht, List.zip_cons_cons,
    Ttl.zip_replicate keys _ (Nat.le_refl _), Ttl.decodeT_key, Ttl.decodeT_keys]
  simp only [Except.map, Ttl.keysOf_key, Ttl.number_key, Ttl.keysOf_keys, Ttl.number_keys, List.all_cons, typeOK_none,
    Bool.true_and, List.all_map, List.map_cons, List.map_map, Function.comp_def, List.range'_succ]

/-- the members a set command sees at `k` (empty when missing) -/
def setAt (live : Live) (k : Bytes) : List Bytes := Cmd.setOf (ciOf live (some .set) k)

theorem setAt_of_view {live : Live} {k : Bytes} {s : List Bytes} {e : Option Int}
    (h : setView live k = some (s, e)) : setAt live k = s := by
  unfold setAt; rw [(setC.see_some h).2]; rfl

theorem keyIdxsS_read (l : List Nat) : Cmd.setopRead.keyIdxsS (l.map Arg.key) = l := by
  induction l with
  | nil => rfl
  | cons x xs ih => simp [Cmd.setopRead.keyIdxsS, ih]

theorem keyIdxsS_store (l : List Nat) : Cmd.setopStore.keyIdxsS (l.map Arg.key) = l := by
  induction l with
  | nil => rfl
  | cons x xs ih => simp [Cmd.setopStore.keyIdxsS, ih]

theorem map_range'_ciAt {β} (pre l : List CI) (g : CI → β) :
    (List.range' pre.length l.length).map (fun i => g (ciAt (pre ++ l) i)) = l.map g := by
  apply List.ext_getElem
  · simp
  · intro i h1 h2
    simp only [List.getElem_map, List.getElem_range', Nat.one_mul, ciAt]
    have hi : i < l.length := by simpa using h2
    rw [List.getD_eq_getElem?_getD, List.getElem?_append_right (by omega)]
    have : pre.length + i - pre.length = i := by omega
    rw [this, List.getElem?_eq_getElem hi]
    rfl

theorem body_setopRead (op : Cmd.SetOp) (ctx : Ctx) (live : Live) (k : Bytes) (ks : List Bytes) :
    Cmd.setopRead op ctx ((List.range' 0 (k :: ks).length).map Arg.key)
        ((k :: ks).map (ciOf live (some .set))) =
      ret (Reply.bulks (Cmd.calcSetop op (setAt live k) (ks.map (setAt live))))
        ((k :: ks).map (ciOf live (some .set))) := by
  have hr : List.range' 0 (k :: ks).length = 0 :: List.range' 1 ks.length := by
    simp [List.range'_succ]
  unfold Cmd.setopRead
  rw [keyIdxsS_read, hr]
  simp only [List.map_cons]
  have := map_range'_ciAt [ciOf live (some .set) k] (ks.map (ciOf live (some .set))) Cmd.setOf
  simp only [List.length_cons, List.length_nil, List.length_map, List.cons_append, List.nil_append,
    List.map_map, Nat.zero_add] at this
  rw [this]
  rfl

theorem body_setopStore (op : Cmd.SetOp) (ctx : Ctx) (live : Live) (cd : CI) (k : Bytes) (ks : List Bytes) :
    Cmd.setopStore op ctx ((List.range' 0 ((k :: ks).length + 1)).map Arg.key)
        (cd :: (k :: ks).map (ciOf live (some .set))) =
      ret (.int (Cmd.calcSetop op (setAt live k) (ks.map (setAt live))).length)
        (cd.setValue (some (.set (Cmd.calcSetop op (setAt live k) (ks.map (setAt live))))) ::
          (k :: ks).map (ciOf live (some .set))) := by
  have hr : List.range' 0 ((k :: ks).length + 1) = 0 :: 1 :: List.range' 2 ks.length := by
    simp [List.range'_succ]
  unfold Cmd.setopStore
  rw [keyIdxsS_store, hr]
  simp only [List.map_cons]
  have := map_range'_ciAt [cd, ciOf live (some .set) k] (ks.map (ciOf live (some .set))) Cmd.setOf
  simp only [List.length_cons, List.length_nil, List.length_map, List.cons_append, List.nil_append,
    List.map_map, Nat.zero_add] at this
  rw [this]
  rfl

theorem body_pfcount (ctx : Ctx) (live : Live) (k : Bytes) (ks : List Bytes) :
    Cmd.pfcount ctx ((List.range' 0 (k :: ks).length).map Arg.key)
        ((k :: ks).map (ciOf live (some .set))) =
      ret (.int (Cmd.calcSetop .union (setAt live k) (ks.map (setAt live))).length)
        ((k :: ks).map (ciOf live (some .set))) := by
  unfold Cmd.pfcount Cmd.sunion
  rw [body_setopRead]
  simp [ret, Reply.bulks]

theorem filterMap_keys (g : Arg → Option Nat) (l : List Nat) (hg : ∀ i, g (Arg.key i) = some i) :
    (l.map Arg.key).filterMap g = l := by
  induction l with
  | nil => rfl
  | cons x xs ih => simp [hg, ih]

theorem body_pfmerge (ctx : Ctx) (live : Live) (d : Bytes) (ks : List Bytes) :
    Cmd.pfmerge ctx ((List.range' 0 (d :: ks).length).map Arg.key)
        ((d :: ks).map (ciOf live (some .set))) =
      ret .ok
        ((ciOf live (some .set) d).update
            (.set (Cmd.calcSetop .union (setAt live d) (ks.map (setAt live)))) ::
          ks.map (ciOf live (some .set))) := by
  have hr : List.range' 0 (d :: ks).length = 0 :: List.range' 1 ks.length := by
    simp [List.range'_succ]
  rw [hr]
  simp only [List.map_cons, Cmd.pfmerge]
  rw [filterMap_keys _ _ (fun i => rfl)]
  have := map_range'_ciAt [ciOf live (some .set) d] (ks.map (ciOf live (some .set))) Cmd.setOf
  simp only [List.length_cons, List.length_nil, List.length_map, List.cons_append, List.nil_append,
    List.map_map, Nat.zero_add] at this
  rw [this]
  rfl

section setop
variable (ctx : Ctx) {db : Db} (nd : NodupKeys db.dict)
include nd

omit nd in
theorem ciOf_map_clean (live : Live) (ty : Option Ty) (ks : List Bytes) : ∀ c ∈ ks.map (ciOf live ty), c.Clean := by
  intro c hc
  obtain ⟨k, _, rfl⟩ := List.mem_map.1 hc
  exact ciOf_clean live ty k

/-- a command whose arguments are all keys of type `ty`, at least `a` of them, on the live view: WRONGTYPE unless every
key passes the type test, else the body on the items of the keys, in the order of the arguments -/
theorem keys_view (name : String) (body : Body) (ty : Option Ty) (a : Nat)
    (hfix : (sigOf name).fixed = List.replicate a (.key ty .unspecified))
    (hrep : (sigOf name).rep = [.key ty .unspecified]) (keys : List Bytes) (ha : a ≤ keys.length) :
    view (runRegular (sigOf name) body ctx none keys db) =
      if keys.all (typeOK db.live ty) = true then
        outcome db.time db.live (body ctx ((List.range' 0 keys.length).map .key) (keys.map (ciOf db.live ty)))
      else fails db.live Msgs.WRONGTYPE_MSG := by
  rw [run_view _ _ _ _ nd, applyL_keys (sigOf name) ty a hfix hrep db.live keys
    (arity_var name _ a (by rw [hfix, List.length_replicate]) (by rw [hrep]; rfl) ha)]
  by_cases h : keys.all (typeOK db.live ty) = true
  · rw [if_pos h, if_pos h]
  · rw [if_neg h, if_neg h]

/-- the same for the STORE shape: a destination of any type, then at least one set -/
theorem store_view (name : String) (body : Body)
    (hfix : (sigOf name).fixed = [.key none .unspecified, .key (some .set) .unspecified])
    (hrep : (sigOf name).rep = [.key (some .set) .unspecified]) (dst : Bytes) (keys : List Bytes)
    (ha : 1 ≤ keys.length) :
    view (runRegular (sigOf name) body ctx none (dst :: keys) db) =
      if keys.all (typeOK db.live (some .set)) = true then
        outcome db.time db.live (body ctx ((List.range' 0 (keys.length + 1)).map .key)
          (ciOf db.live none dst :: keys.map (ciOf db.live (some .set))))
      else fails db.live Msgs.WRONGTYPE_MSG := by
  rw [run_view _ _ _ _ nd, applyL_store (sigOf name) hfix hrep db.live dst keys
    (arity_var name _ 2 (by rw [hfix]; rfl) (by rw [hrep]; rfl) (Nat.succ_le_succ ha))]
  by_cases h : keys.all (typeOK db.live (some .set)) = true
  · rw [if_pos h, if_pos h]
  · rw [if_neg h, if_neg h]

theorem setopRead_view (name : String) (op : Cmd.SetOp)
    (hfix : (sigOf name).fixed = List.replicate 1 (.key (some .set) .unspecified))
    (hrep : (sigOf name).rep = [.key (some .set) .unspecified])
    (k : Bytes) (ks : List Bytes) :
    view (runRegular (sigOf name) (Cmd.setopRead op) ctx none (k :: ks) db) =
      if (k :: ks).all (typeOK db.live (some .set)) = true then
        (Reply.bulks (Cmd.calcSetop op (setAt db.live k) (ks.map (setAt db.live))), db.live, false)
      else fails db.live Msgs.WRONGTYPE_MSG := by
  rw [keys_view ctx nd name _ (some .set) 1 hfix hrep (k :: ks) (Nat.le_add_left 1 _), body_setopRead,
    outcome_read _ _ _ (ciOf_map_clean _ _ _)]

theorem pfcount_view (k : Bytes) (ks : List Bytes) :
    view (run "pfcount" ctx (k :: ks) db) =
      if (k :: ks).all (typeOK db.live (some .set)) = true then
        (.int (Cmd.calcSetop .union (setAt db.live k) (ks.map (setAt db.live))).length, db.live, false)
      else fails db.live Msgs.WRONGTYPE_MSG := by
  rw [run_def (name := "pfcount") rfl,
    keys_view ctx nd "pfcount" _ (some .set) 1 rfl rfl (k :: ks) (Nat.le_add_left 1 _), body_pfcount,
    outcome_read _ _ _ (ciOf_map_clean _ _ _)]

theorem run_setopStore (name : String) (op : Cmd.SetOp)
    (hfix : (sigOf name).fixed = [.key none .unspecified, .key (some .set) .unspecified])
    (hrep : (sigOf name).rep = [.key (some .set) .unspecified])
    (dst k : Bytes) (ks : List Bytes) :
    let out := runRegular (sigOf name) (Cmd.setopStore op) ctx none (dst :: k :: ks) db
    let ans := Cmd.calcSetop op (setAt db.live k) (ks.map (setAt db.live))
    if (k :: ks).all (typeOK db.live (some .set)) = true then
      out.reply = .int ans.length ∧ out.db.live = putAt db.live dst (.set ans) none ∧ out.failed = false
    else out.reply = .err (strBytes Msgs.WRONGTYPE_MSG) ∧ out.db.live = db.live ∧ out.failed = true := by
  intro out ans
  have hview := store_view ctx nd name (Cmd.setopStore op) hfix hrep dst (k :: ks) (Nat.le_add_left 1 _)
  rw [body_setopStore, outcome_put _ _ _ rfl rfl (fun t ht => by cases ht) (ciOf_map_clean _ _ _),
    show (CI.setValue (ciOf db.live none dst) _).key = dst from ciOf_key _ _ _] at hview
  split
  · rw [if_pos ‹_›] at hview
    exact view_eq hview
  · rw [if_neg ‹_›] at hview
    exact view_eq hview

theorem run_pfmerge (dst k : Bytes) (ks : List Bytes) :
    let out := run "pfmerge" ctx (dst :: k :: ks) db
    let ans := Cmd.calcSetop .union (setAt db.live dst) ((k :: ks).map (setAt db.live))
    if (dst :: k :: ks).all (typeOK db.live (some .set)) = true then
      out.reply = .ok ∧
      out.db.live = putAt db.live dst (.set ans) (ciOf db.live (some .set) dst).expireat ∧ out.failed = false
    else out.reply = .err (strBytes Msgs.WRONGTYPE_MSG) ∧ out.db.live = db.live ∧ out.failed = true := by
  intro out ans
  have hview := keys_view ctx nd "pfmerge" Cmd.pfmerge (some .set) 2 rfl rfl (dst :: k :: ks) (Nat.le_add_left 2 _)
  rw [body_pfmerge, outcome_put _ _ _ (c := (ciOf db.live (some .set) dst).update _) rfl rfl (ciOf_notExp nd _ dst)
      (ciOf_map_clean _ _ _),
    show (CI.update (ciOf db.live (some .set) dst) _).key = dst from ciOf_key _ _ _] at hview
  split
  · rw [if_pos ‹_›] at hview
    exact view_eq hview
  · rw [if_neg ‹_›] at hview
    exact view_eq hview

theorem keys_wrongtype (name : String) (ty : Option Ty) (a : Nat)
    (hfix : (sigOf name).fixed = List.replicate a (.key ty .unspecified))
    (hrep : (sigOf name).rep = [.key ty .unspecified]) (keys : List Bytes) (ha : a ≤ keys.length)
    (hnot : ¬ (keys.all (typeOK db.live ty) = true)) :
    Sees (run name ctx keys db) (.err (strBytes Msgs.WRONGTYPE_MSG)) db.live true :=
  view_eq ((keys_view ctx nd name _ ty a hfix hrep keys ha).trans (if_neg hnot))

theorem store_wrongtype (name : String)
    (hfix : (sigOf name).fixed = [.key none .unspecified, .key (some .set) .unspecified])
    (hrep : (sigOf name).rep = [.key (some .set) .unspecified]) (dst : Bytes) (keys : List Bytes)
    (ha : 1 ≤ keys.length) (hnot : ¬ (keys.all (typeOK db.live (some .set)) = true)) :
    Sees (run name ctx (dst :: keys) db) (.err (strBytes Msgs.WRONGTYPE_MSG)) db.live true :=
  view_eq ((store_view ctx nd name _ hfix hrep dst keys ha).trans (if_neg hnot))

end setop

/-! ### SMOVE -/

/-- a signature `(Key(T, missing_return), Key(T), bytes…)` without a variadic tail, the shape of SMOVE and of RPOPLPUSH:
a missing first key ends the command with the signature's reply before the second key is looked at; a live one leaves
the type test of both keys -/
theorem applyL_two_keys (s : Sig) (T : Ty) (mr : MissingRet) (live : Live) (src dst : Bytes) (rest : List Bytes)
    (hfix : s.fixed = .key (some T) mr :: .key (some T) .unspecified :: List.replicate rest.length .bytes)
    (hrep : s.rep = []) (hmr : (mr != .unspecified) = true) :
    Ttl.applyL live s (src :: dst :: rest) =
      match live src with
      | none => .ok (.short (Sig.missingReply mr))
      | some _ =>
        if typeOK live (some T) src = true ∧ typeOK live (some T) dst = true then
          .ok (.ok (.key 0 :: .key 1 :: rest.map .raw) [ciOf live (some T) src, ciOf live (some T) dst])
        else .error Msgs.WRONGTYPE_MSG := by
  obtain ⟨nm, fx, rp, ns, a, b, c⟩ := s
  dsimp only at hfix hrep
  subst hfix hrep
  rw [Ttl.applyL_missing live _ (some T) mr _ rfl hmr]
  simp only [Sig.checkArity, List.length_cons, List.length_replicate, bne_self_eq_false, List.isEmpty_nil,
    Bool.not_true, Bool.false_and, Bool.false_eq_true, if_false]
  cases hl : live src with
  | none => rfl
  | some it =>
    have hb : ∀ p ∈ rest.map fun b => (Arg.raw b, ArgTy.bytes), Ttl.isKey p.2 = false := by
      intro p hp
      obtain ⟨b, _, rfl⟩ := List.mem_map.1 hp
      rfl
    rw [applyL_closed _ _ live (by
        intro t ht
        simp only [List.mem_cons, List.mem_replicate] at ht
        rcases ht with rfl | rfl | ⟨_, rfl⟩ <;> rfl) (by intro t ht; cases ht)
      ⟨by simp [Sig.checkArity], fun h => by cases h⟩]
    simp only [Sig.types, List.length_cons, List.length_replicate, Nat.sub_self, List.range_zero, List.map_nil,
      List.append_nil, List.zip_cons_cons, Ttl.zip_replicate rest .bytes (Nat.le_refl _), Ttl.decodeT_key,
      Ttl.decodeT_bytess, Except.map, Ttl.keysOf_key, Ttl.number_key, Ttl.keysOf_nonkey hb, Ttl.number_nonkey hb,
      List.all_cons, List.all_nil, Bool.and_true, Bool.and_eq_true, List.map_cons, List.map_nil, List.map_map,
      Option.isNone_some, Bool.false_eq_true, if_false]
    rfl

theorem smove_apply (live : Live) (src dst m : Bytes) :
    Ttl.applyL live (sigOf "smove") [src, dst, m] =
      match live src with
      | none => .ok (.short (.int 0))
      | some _ =>
        if typeOK live (some .set) src = true ∧ typeOK live (some .set) dst = true then
          .ok (.ok [.key 0, .key 1, .raw m] [ciOf live (some .set) src, ciOf live (some .set) dst])
        else .error Msgs.WRONGTYPE_MSG :=
  applyL_two_keys (sigOf "smove") .set (.int 0) live src dst [m] rfl rfl rfl

/-- SMOVE's arguments when the source is live and both keys are seen as sets -/
theorem smove_apply_sets {live : Live} {src dst : Bytes} (m : Bytes) {it : Item} (hl : live src = some it)
    {ss sd : List Bytes} {es ed : Option Int} (hvs : setView live src = some (ss, es))
    (hvd : setView live dst = some (sd, ed)) :
    Ttl.applyL live (sigOf "smove") [src, dst, m] =
      .ok (.ok [.key 0, .key 1, .raw m] [setC.ci src ss es, setC.ci dst sd ed]) := by
  rw [smove_apply, hl]
  dsimp only
  rw [if_pos ⟨(setC.see_some hvs).1, (setC.see_some hvd).1⟩, (setC.see_some hvs).2, (setC.see_some hvd).2]

theorem body_smove (ctx : Ctx) (src dst m : Bytes) (ss sd : List Bytes) (es ed : Option Int) :
    Cmd.smove ctx [.key 0, .key 1, .raw m] [setC.ci src ss es, setC.ci dst sd ed] =
      if !ss.contains m then ret (.int 0) [setC.ci src ss es, setC.ci dst sd ed]
      else if src == dst then
        ret (.int 1)
          [{ setC.ci src ss es with val := some (.set (Cmd.setIns (ss.filter (· != m)) m)), modified := true },
           { setC.ci dst sd ed with val := some (.set (Cmd.setIns (ss.filter (· != m)) m)), modified := true }]
      else
        ret (.int 1)
          [{ setC.ci src ss es with val := some (.set (ss.filter (· != m))), modified := true },
           { setC.ci dst sd ed with val := some (.set (Cmd.setIns sd m)), modified := true }] := rfl

/-- `outcome_write` for a body that rewrites two items, the first before the second -/
theorem outcome_write2 (time : Int) (live : Live) (r : Reply) (c₁ c₂ : CI) (v₁ v₂ : Value)
    (he₁ : notExp time c₁.expireat) (he₂ : notExp time c₂.expireat) :
    outcome time live
        (ret r [{ c₁ with val := some v₁, modified := true }, { c₂ with val := some v₂, modified := true }]) =
      (r, putAt (putAt live c₁.key v₁ c₁.expireat) c₂.key v₂ c₂.expireat, false) := by
  simp only [ret, outcome]
  rw [wbView_put _ _ (c := { c₁ with val := some v₁, modified := true }) rfl rfl he₁,
    wbView_put _ _ (c := { c₂ with val := some v₂, modified := true }) rfl rfl he₂]
  rfl

theorem putAt_putAt (live : Live) (key : Bytes) (v : Value) (e : Option Int) :
    putAt (putAt live key v e) key v e = putAt live key v e := by
  funext k
  by_cases hk : k = key <;> simp [putAt, hk]

/-- SMOVE, every outcome: a missing source answers 0 before the destination is even looked at; both keys must be
sets; nothing happens when `m` is not in the source; source and destination may be the same key -/
theorem smove_view (ctx : Ctx) (src dst m : Bytes) {db : Db} (nd : NodupKeys db.dict) :
    view (run "smove" ctx [src, dst, m] db) =
      match db.live src with
      | none => (.int 0, db.live, false)
      | some _ =>
        match setView db.live src with
        | none => fails db.live Msgs.WRONGTYPE_MSG
        | some (ss, es) =>
          match setView db.live dst with
          | none => fails db.live Msgs.WRONGTYPE_MSG
          | some (sd, ed) =>
            if m ∉ ss then (.int 0, db.live, false)
            else if src = dst then (.int 1, putAt db.live src (.set (Cmd.setIns (ss.filter (· != m)) m)) es, false)
            else
              (.int 1, putAt (putAt db.live src (.set (ss.filter (· != m))) es) dst (.set (Cmd.setIns sd m)) ed,
                false) := by
  rw [run_def (name := "smove") rfl, run_view _ _ _ _ nd]
  cases hs : db.live src with
  | none => rw [smove_apply, hs]
  | some it =>
    dsimp only
    cases hvs : setView db.live src with
    | none =>
      rw [smove_apply, hs]
      simp only [setC.see_none hvs, Bool.false_eq_true, false_and, if_false]
    | some ps =>
      obtain ⟨ss, es⟩ := ps
      cases hvd : setView db.live dst with
      | none =>
        rw [smove_apply, hs]
        simp only [setC.see_none hvd, Bool.false_eq_true, and_false, if_false]
      | some pd =>
        obtain ⟨sd, ed⟩ := pd
        have hes := setC.notExp nd (a := ss) hvs
        have hed := setC.notExp nd (a := sd) hvd
        rw [smove_apply_sets m hs hvs hvd]
        dsimp only
        rw [body_smove]
        by_cases hm : m ∈ ss
        · have hc : (!ss.contains m) = false := by simpa using hm
          simp only [hc, Bool.false_eq_true, if_false, hm, not_true_eq_false]
          by_cases hsd : src = dst
          · subst hsd
            obtain ⟨rfl, rfl⟩ : ss = sd ∧ es = ed := by simpa using hvs.symm.trans hvd
            simp only [beq_self_eq_true, if_true]
            rw [outcome_write2 _ _ _ (setC.ci src ss es) (setC.ci src ss es) _ _ hes hes, putAt_putAt]
          · have hb : (src == dst) = false := by simpa using hsd
            simp only [hb, Bool.false_eq_true, if_false, hsd]
            exact outcome_write2 _ _ _ (setC.ci src ss es) (setC.ci dst sd ed) _ _ hes hed
        · have hc : (!ss.contains m) = true := by simpa using hm
          simp only [hc, if_true, hm, not_false_eq_true]
          exact outcome_read _ _ _ (by simp [CI.Clean])

/-! ## Part 6: the abstractions -/

/-- the hash stored at `key` as a finite map (missing key or other type: the empty map); of the database, not of the
live view, as the statements of `FR/Props/C02h.lean` need it -/
def hmap (db : Db) (key : Bytes) (f : Bytes) : Option Bytes :=
  match db.live key with
  | some ⟨.hash h, _⟩ => h.lookup f
  | _ => none

/-- the set stored at `key` as a membership predicate (missing key or other type: the empty set) -/
def smem (db : Db) (key : Bytes) (m : Bytes) : Prop :=
  match db.live key with
  | some ⟨.set s, _⟩ => m ∈ s
  | _ => False

theorem hmap_of_view {db : Db} {key : Bytes} {h : HashV} {e : Option Int}
    (hv : hashView db.live key = some (h, e)) (f : Bytes) : hmap db key f = h.lookup f := by
  unfold hmap
  rcases hashC.see_cases hv with ⟨hl, rfl, _⟩ | hl <;> rw [hl] <;> rfl

theorem smem_of_view {db : Db} {key : Bytes} {s : List Bytes} {e : Option Int}
    (hv : setView db.live key = some (s, e)) (m : Bytes) : smem db key m ↔ m ∈ s := by
  unfold smem
  rcases setC.see_cases hv with ⟨hl, rfl, _⟩ | hl <;> rw [hl]
  simp

theorem hmap_live_eq {db out : Db} {key : Bytes} (h : out.live key = db.live key) : hmap out key = hmap db key := by
  unfold hmap; rw [h]

theorem smem_live_eq {db out : Db} {key : Bytes} (h : out.live key = db.live key) (m : Bytes) :
    smem out key m ↔ smem db key m := by
  unfold smem; rw [h]

theorem hmap_putAt {db out : Db} {key : Bytes} {h' : HashV} {e : Option Int}
    (ho : out.live = putAt db.live key (.hash h') e) (f : Bytes) : hmap out key f = h'.lookup f := by
  unfold hmap
  rw [ho, putAt_self]
  cases h' with
  | nil => rfl
  | cons p ps => rfl

theorem smem_of_live {out : Db} {key : Bytes} {s' : List Bytes} {e : Option Int}
    (h : out.live key = if (Value.set s').isEmptyColl then none else some ⟨.set s', e⟩) (m : Bytes) :
    smem out key m ↔ m ∈ s' := by
  unfold smem
  rw [h]
  cases s' with
  | nil => simp [Value.isEmptyColl]
  | cons p ps => simp [Value.isEmptyColl]

theorem smem_putAt {db out : Db} {key : Bytes} {s' : List Bytes} {e : Option Int}
    (ho : out.live = putAt db.live key (.set s') e) (m : Bytes) : smem out key m ↔ m ∈ s' :=
  smem_of_live (by rw [ho, putAt_self]) m

/-- a set written to `key`: deleted when empty, stored with its deadline otherwise -/
theorem putAt_set_self (live : Live) (key : Bytes) (s : List Bytes) (e : Option Int) :
    putAt live key (.set s) e key = if s = [] then none else some ⟨.set s, e⟩ := by
  rw [putAt_self]
  cases s with
  | nil => rfl
  | cons a b => rfl

theorem mem_setAt {db : Db} {key : Bytes} (hok : typeOK db.live (some .set) key = true) (m : Bytes) :
    m ∈ setAt db.live key ↔ smem db key m := by
  cases hv : setView db.live key with
  | none => exact absurd hv ((setC.typeOK_iff _ _).1 hok)
  | some p => rw [setAt_of_view hv, smem_of_view hv]

/-! ### the representation invariants -/

/-- field names of a hash are unique; a set has no duplicates -/
def ValueWF : Value → Prop
  | .hash h => NodupF h
  | .set s => s.Nodup
  | _ => True

def LiveWF (db : Db) : Prop := ∀ k it, db.live k = some it → ValueWF it.value

theorem hashView_wf {db : Db} (wf : LiveWF db) {key : Bytes} {h : HashV} {e : Option Int}
    (hv : hashView db.live key = some (h, e)) : NodupF h :=
  hashC.see_all (W := ValueWF) List.nodup_nil wf hv

theorem setView_wf {db : Db} (wf : LiveWF db) {key : Bytes} {s : List Bytes} {e : Option Int}
    (hv : setView db.live key = some (s, e)) : s.Nodup :=
  setC.see_all (W := ValueWF) List.nodup_nil wf hv

theorem setAt_nodup {db : Db} (wf : LiveWF db) (k : Bytes) : (setAt db.live k).Nodup := by
  unfold setAt ciOf
  cases hl : db.live k with
  | none => exact List.nodup_nil
  | some it =>
    have := wf k it hl
    obtain ⟨v, e'⟩ := it
    cases v <;> first | exact List.nodup_nil | exact this

/-- rewriting one key with a well-formed value keeps a live view well formed (of any view, so that it applies to each
of several writes in turn) -/
theorem valueWF_putAt {live : Live} (wf : ∀ k it, live k = some it → ValueWF it.value) {key : Bytes} {v : Value}
    (hv : ValueWF v) (e : Option Int) : ∀ k it, putAt live key v e k = some it → ValueWF it.value := by
  intro k it hk
  by_cases h : k = key
  · subst h
    rw [putAt_self] at hk
    split at hk
    · cases hk
    · cases hk; exact hv
  · rw [putAt_ne _ _ _ h] at hk
    exact wf k it hk

theorem liveWF_putAt {db out : Db} (wf : LiveWF db) {key : Bytes} {v : Value} {e : Option Int}
    (ho : out.live = putAt db.live key v e) (hv : ValueWF v) : LiveWF out :=
  fun k it hk => valueWF_putAt wf hv e k it (ho ▸ hk)

theorem liveWF_same {db out : Db} (wf : LiveWF db) (ho : out.live = db.live) : LiveWF out := by
  intro k it hk; rw [ho] at hk; exact wf k it hk

theorem hsetRec_ne_nil (h : HashV) (p : Bytes × Bytes) (ps : List (Bytes × Bytes)) :
    (hsetRec h (p :: ps)).1 ≠ [] := by
  intro hnil
  have h1 := hsetRec_lookup h (p :: ps) p.1
  rw [hnil] at h1
  have h2 := (lookup_reverse_ne_none (p :: ps) p.1).2 (by simp)
  cases hl : (p :: ps).reverse.lookup p.1 with
  | none => exact h2 hl
  | some v => rw [hl] at h1; simp at h1

theorem lookup_all_none {h : HashV} (hall : ∀ x, h.lookup x = none) : h = [] := by
  cases h with
  | nil => rfl
  | cons p ps =>
    have := hall p.1
    simp at this

theorem hashView_missing {live : Live} {key : Bytes} (h : live key = none) :
    hashView live key = some ([], none) :=
  hashC.see_missing h

theorem setView_missing {live : Live} {key : Bytes} (h : live key = none) :
    setView live key = some ([], none) :=
  setC.see_missing h

instance (db : Db) (key m : Bytes) : Decidable (smem db key m) := by
  unfold smem
  split <;> infer_instance

instance (v : Value) : Decidable (ValueWF v) := by
  cases v <;> unfold ValueWF <;> try unfold NodupF
  all_goals infer_instance

theorem liveWF_of_dict {db : Db} (h : ∀ p ∈ db.dict, ValueWF p.2.value) : LiveWF db := by
  intro k it hk
  exact h (k, it) (live_some_mem hk)

theorem all_typeOK_iff (live : Live) (ks : List Bytes) :
    ks.all (typeOK live (some .set)) = true ↔ ∀ k ∈ ks, setView live k ≠ none := by
  rw [List.all_eq_true]
  constructor
  · intro h k hk; exact (setC.typeOK_iff live k).1 (h k hk)
  · intro h k hk; exact (setC.typeOK_iff live k).2 (h k hk)

/-- the three set operations on membership predicates -/
def SetopAbs (op : Cmd.SetOp) (db : Db) (k : Bytes) (ks : List Bytes) (m : Bytes) : Prop :=
  match op with
  | .union => ∃ k' ∈ k :: ks, smem db k' m
  | .inter => ∀ k' ∈ k :: ks, smem db k' m
  | .diff => smem db k m ∧ ∀ k' ∈ ks, ¬ smem db k' m

theorem setopSpec_smem {db : Db} (op : Cmd.SetOp) (k : Bytes) (ks : List Bytes)
    (hall : ∀ k' ∈ k :: ks, setView db.live k' ≠ none) (m : Bytes) :
    setopSpec op (setAt db.live k) (ks.map (setAt db.live)) m ↔ SetopAbs op db k ks m := by
  have hk : ∀ k' ∈ k :: ks, (m ∈ setAt db.live k' ↔ smem db k' m) :=
    fun k' hk' => mem_setAt ((setC.typeOK_iff _ _).2 (hall k' hk')) m
  have h0 := hk k (by simp)
  have hs : ∀ k' ∈ ks, (m ∈ setAt db.live k' ↔ smem db k' m) := fun k' hk' => hk k' (by simp [hk'])
  cases op
  · simp only [setopSpec, SetopAbs, List.mem_map, forall_exists_index, and_imp, forall_apply_eq_imp_iff₂]
    rw [h0]
    constructor
    · rintro ⟨a, b⟩; exact ⟨a, fun k' hk' hc => b k' hk' ((hs k' hk').2 hc)⟩
    · rintro ⟨a, b⟩; exact ⟨a, fun k' hk' hc => b k' hk' ((hs k' hk').1 hc)⟩
  · simp only [setopSpec, SetopAbs, List.mem_map, forall_exists_index, and_imp, forall_apply_eq_imp_iff₂,
      List.mem_cons, forall_eq_or_imp]
    rw [h0]
    constructor
    · rintro ⟨a, b⟩; exact ⟨a, fun k' hk' => (hs k' hk').1 (b k' hk')⟩
    · rintro ⟨a, b⟩; exact ⟨a, fun k' hk' => (hs k' hk').2 (b k' hk')⟩
  · simp only [setopSpec, SetopAbs, List.mem_map, List.mem_cons, exists_eq_or_imp]
    rw [h0]
    constructor
    · rintro (a | ⟨v, ⟨k', hk', rfl⟩, hm⟩)
      · exact Or.inl a
      · exact Or.inr ⟨k', hk', (hs k' hk').1 hm⟩
    · rintro (a | ⟨k', hk', hm⟩)
      · exact Or.inl a
      · exact Or.inr ⟨_, ⟨k', hk', rfl⟩, (hs k' hk').2 hm⟩

theorem nodup_setIns {s : List Bytes} (hs : s.Nodup) (m : Bytes) : (Cmd.setIns s m).Nodup := by
  unfold Cmd.setIns
  split
  · exact hs
  · rename_i hm
    rw [List.nodup_append]
    refine ⟨hs, by simp, fun a ha b hb => ?_⟩
    simp only [List.mem_singleton] at hb
    subst hb
    intro e; subst e
    exact hm (by simpa using ha)

/-! ## Part 7: the representation invariants are preserved, whatever the arguments

`DictWF` speaks about every stored entry (expired or not); it is preserved by `runRegular` for every body
that maps well-formed `CommandItem`s to well-formed `CommandItem`s (`BodyWF`), whatever the arguments. -/

def DictWF (d : Dict) : Prop := ∀ p ∈ d, ValueWF p.2.value

instance (d : Dict) : Decidable (DictWF d) := by unfold DictWF; infer_instance

def CIWF (c : CI) : Prop := ∀ v, c.val = some v → ValueWF v

def BodyWF (body : Body) : Prop :=
  ∀ ctx args cis o, (∀ c ∈ cis, CIWF c) → body ctx args cis = .ok o → ∀ c ∈ o.cis, CIWF c

theorem DictWF.live {db : Db} (wf : DictWF db.dict) : LiveWF db := liveWF_of_dict wf

theorem writeback_wf (c : CI) (hc : CIWF c) {db : Db} (wf : DictWF db.dict) :
    DictWF (c.writeback db).1.dict := by
  intro q hq
  rcases mem_writeback hq with h | ⟨_, ⟨_, hv, _⟩ | ⟨it, hit, hv⟩⟩
  · exact wf q h
  · exact hc _ hv
  · rw [hv]; exact wf _ hit

theorem writebackPure_wf (cis : List CI) (hc : ∀ c ∈ cis, CIWF c) {db : Db} (wf : DictWF db.dict) :
    DictWF (writebackPure db cis).1.dict := by
  induction cis generalizing db with
  | nil => exact wf
  | cons c cs ih =>
    rw [writebackPure_cons]
    exact ih (fun c' hc' => hc c' (by simp [hc'])) (writeback_wf c (hc c (by simp)) wf)

theorem ciOf_wf {live : Live} (hl : ∀ k it, live k = some it → ValueWF it.value) (ty : Option Ty) (k : Bytes) :
    CIWF (ciOf live ty k) := by
  intro v hv
  unfold ciOf at hv
  split at hv
  · rename_i it hit
    simp only [Option.some.injEq] at hv
    subst hv; exact hl k it hit
  · simp only at hv
    cases ty with
    | none => cases hv
    | some t =>
      cases t <;> simp only [Option.bind, Ty.default, Option.some.injEq, reduceCtorEq] at hv <;> subst hv
      all_goals first | exact List.nodup_nil | trivial

theorem applyL_wf {live : Live} (hl : ∀ k it, live k = some it → ValueWF it.value) (s : Sig) (raw : List Bytes)
    {args : List Arg} {cis : List CI} (h : Ttl.applyL live s raw = .ok (.ok args cis)) : ∀ c ∈ cis, CIWF c := by
  intro c hc
  obtain ⟨ty, e⟩ := Ttl.applyL_fromLive h c hc
  rw [e]
  exact ciOf_wf hl ty c.key

theorem runRegular_wf (sig : Sig) (body : Body) (hb : BodyWF body) (ctx : Ctx) (gate : Option Err)
    (raw : List Bytes) {db : Db} (nd : NodupKeys db.dict) (wf : DictWF db.dict) :
    DictWF (runRegular sig body ctx gate raw db).db.dict := by
  have h1 : DictWF (sig.apply raw db).1.dict := fun q hq => wf q ((Sig.apply_reads sig raw nd).sub q hq)
  rcases runRegular_out sig body ctx gate raw db with ⟨hd, _⟩ | ⟨args, cis, cis', ha, hc, hd, _⟩
  · exact hd ▸ h1
  · have hcis : ∀ c ∈ cis, CIWF c :=
      applyL_wf (fun k it hk => wf.live k it hk) sig raw ((Ttl.apply_eq sig raw nd).symm.trans ha)
    rw [hd]
    refine writebackPure_wf _ ?_ h1
    rcases hc with ⟨rfl, _⟩ | ⟨o, ho, rfl, _⟩
    · exact hcis
    · exact hb ctx args cis o hcis ho

/-! ### every hash / set body maps well-formed items to well-formed items

The read commands hand back the items they were given (`Body.Reader`, `FR/Proofs/Discipline.lean`); for a writing
command it is a fact about the value it stores: `hsetRec`, `dictSet`, the filters, `setUnion`, `setDiff`, `calcSetop`,
`setIns` keep field names unique / sets duplicate free. -/

theorem ciwf_default : CIWF (default : CI) := by
  intro v hv; cases hv

theorem ciwf_ciAt {cis : List CI} (hc : ∀ c ∈ cis, CIWF c) (k : Nat) : CIWF (ciAt cis k) := by
  unfold ciAt
  rw [List.getD_eq_getElem?_getD]
  cases h : cis[k]? with
  | none => exact ciwf_default
  | some c => exact hc c (List.mem_of_getElem? h)

theorem ciwf_set {cis : List CI} (hc : ∀ c ∈ cis, CIWF c) (k : Nat) {x : CI} (hx : CIWF x) :
    ∀ c ∈ cis.set k x, CIWF c := by
  intro c hcm
  rcases List.mem_or_eq_of_mem_set hcm with h | h
  · exact hc c h
  · subst h; exact hx

theorem hashOf_wf {c : CI} (hc : CIWF c) : NodupF (Cmd.hashOf c) := by
  unfold Cmd.hashOf
  split
  · rename_i h hv; exact hc _ hv
  · exact List.nodup_nil

theorem setOf_wf {c : CI} (hc : CIWF c) : (Cmd.setOf c).Nodup := by
  unfold Cmd.setOf
  split
  · rename_i h hv; exact hc _ hv
  · exact List.nodup_nil

theorem ciwf_hash (c : CI) {h : HashV} (hn : NodupF h) : CIWF { c with val := some (.hash h), modified := true } := by
  intro v hv
  simp only [Option.some.injEq] at hv
  subst hv; exact hn

theorem putSet_wf {cis : List CI} (hc : ∀ c ∈ cis, CIWF c) (k : Nat) {s : List Bytes} (hs : s.Nodup) :
    ∀ c ∈ Cmd.putSet cis k s, CIWF c := by
  unfold Cmd.putSet
  apply ciwf_set hc
  intro v hv
  simp only [Option.some.injEq] at hv
  subst hv; exact hs

theorem setValue_wf (c : CI) {s : List Bytes} (hs : s.Nodup) : CIWF (c.setValue (some (.set s))) := by
  intro v hv
  simp only [CI.setValue, Option.some.injEq] at hv
  subst hv; exact hs

theorem update_wf (c : CI) {s : List Bytes} (hs : s.Nodup) : CIWF (c.update (.set s)) := by
  intro v hv
  simp only [CI.update, Option.some.injEq] at hv
  subst hv; exact hs

theorem ret_cis {r : Reply} {cs : List CI} {o : BodyOut} (h : ret r cs = .ok o) : o.cis = cs := by
  simp only [ret, Except.ok.injEq] at h
  rw [← h]

/-- closes `BodyWF` goals of bodies whose every successful path returns the items unchanged -/
macro "wf_read" hb:ident hc:ident : tactic =>
  `(tactic| (repeat' split at $hb:ident) <;>
      first
        | (cases $hb:ident; done)
        | (rw [ret_cis $hb]; exact $hc))

theorem BodyWF.of_reader {body : Body} (h : Body.Reader body) : BodyWF body :=
  fun ctx args cis o hc hb => (h (fun cs => ∀ c ∈ cs, CIWF c) trivial ctx args cis hc o hb).1

theorem wf_hset : BodyWF Cmd.hset := by
  intro ctx args cis o hc hb
  unfold Cmd.hset at hb
  split at hb
  · rename_i k rest
    simp only [hsetCore_eq] at hb
    rw [ret_cis hb]
    exact ciwf_set hc k (ciwf_hash _ (hsetRec_nodup (hashOf_wf (ciwf_ciAt hc k)) _))
  · cases hb

theorem wf_hmset : BodyWF Cmd.hmset := by
  intro ctx args cis o hc hb
  unfold Cmd.hmset at hb
  split at hb
  · rename_i o' ho
    simp only [Except.ok.injEq] at hb
    rw [← hb]
    exact wf_hset ctx args cis o' hc ho
  · cases hb

theorem wf_hsetnx : BodyWF Cmd.hsetnx := by
  intro ctx args cis o hc hb
  unfold Cmd.hsetnx at hb
  split at hb
  · split at hb
    · rw [ret_cis hb]; exact hc
    · exact wf_hset _ _ _ _ hc hb
  · cases hb

theorem wf_hdel : BodyWF Cmd.hdel := by
  intro ctx args cis o hc hb
  unfold Cmd.hdel at hb
  split at hb
  · rename_i k fields
    simp only [foldl_hdel, Nat.zero_add] at hb
    split at hb
    · rw [ret_cis hb]
      refine ciwf_set hc k (ciwf_hash _ ?_)
      rw [hdelRec_fst]
      exact (hashOf_wf (ciwf_ciAt hc k)).sublist (List.filter_sublist.map _)
    · rw [ret_cis hb]; exact hc
  · cases hb

theorem wf_hincrby : BodyWF Cmd.hincrby := by
  intro ctx args cis o hc hb
  unfold Cmd.hincrby at hb
  split at hb
  · rename_i k f amount
    simp only at hb
    split at hb
    · cases hb
    · split at hb
      · cases hb
      · rw [ret_cis hb]
        exact ciwf_set hc k (ciwf_hash _ (nodupF_dictSet (hashOf_wf (ciwf_ciAt hc k)) _ _))
  · cases hb

theorem wf_hincrbyfloat : BodyWF Cmd.hincrbyfloat := by
  intro ctx args cis o hc hb
  unfold Cmd.hincrbyfloat at hb
  split at hb
  · rename_i k f amount
    simp only at hb
    split at hb
    · cases hb
    · split at hb
      · cases hb
      · split at hb
        · cases hb
        · rw [ret_cis hb]
          exact ciwf_set hc k (ciwf_hash _ (nodupF_dictSet (hashOf_wf (ciwf_ciAt hc k)) _ _))
  · cases hb

theorem wf_sadd : BodyWF Cmd.sadd := by
  intro ctx args cis o hc hb
  unfold Cmd.sadd at hb
  split at hb
  · rename_i k ms
    simp only [Cmd.saddCore] at hb
    rw [ret_cis hb]
    exact putSet_wf hc k (nodup_setUnion (setOf_wf (ciwf_ciAt hc k)) _)
  · cases hb

theorem wf_pfadd : BodyWF Cmd.pfadd := by
  intro ctx args cis o hc hb
  unfold Cmd.pfadd at hb
  split at hb
  · rename_i k ms
    simp only [Cmd.saddCore] at hb
    rw [ret_cis hb]
    exact putSet_wf hc k (nodup_setUnion (setOf_wf (ciwf_ciAt hc k)) _)
  · cases hb

theorem wf_srem : BodyWF Cmd.srem := by
  intro ctx args cis o hc hb
  unfold Cmd.srem at hb
  split at hb
  · rename_i k ms
    simp only at hb
    split at hb
    · rw [ret_cis hb]
      exact putSet_wf hc k (nodup_setDiff (setOf_wf (ciwf_ciAt hc k)) _)
    · rw [ret_cis hb]; exact hc
  · cases hb

theorem wf_setopStore (op : Cmd.SetOp) : BodyWF (Cmd.setopStore op) := by
  intro ctx args cis o hc hb
  unfold Cmd.setopStore at hb
  split at hb
  · rename_i d k ks _
    rw [ret_cis hb]
    exact ciwf_set hc d (setValue_wf _ (calcSetop_nodup op (setOf_wf (ciwf_ciAt hc k)) _))
  · cases hb

theorem wf_pfmerge : BodyWF Cmd.pfmerge := by
  intro ctx args cis o hc hb
  unfold Cmd.pfmerge at hb
  split at hb
  · rename_i d srcs
    rw [ret_cis hb]
    exact ciwf_set hc d (update_wf _ (calcSetop_nodup .union (setOf_wf (ciwf_ciAt hc d)) _))
  · cases hb

theorem wf_smove : BodyWF Cmd.smove := by
  intro ctx args cis o hc hb
  unfold Cmd.smove at hb
  split at hb
  · rename_i s d m
    simp only at hb
    have hs := setOf_wf (ciwf_ciAt hc s)
    split at hb
    · rw [ret_cis hb]; exact hc
    · split at hb
      · rw [ret_cis hb]
        have h1 := nodup_setIns (hs.sublist (List.filter_sublist (p := fun x => x != m))) m
        exact putSet_wf (putSet_wf hc s h1) d h1
      · rw [ret_cis hb]
        exact putSet_wf (putSet_wf hc s (hs.sublist List.filter_sublist)) d
          (nodup_setIns (setOf_wf (ciwf_ciAt hc d)) m)
  · cases hb

theorem wf_spop : BodyWF Cmd.spop := by
  intro ctx args cis o hc hb
  unfold Cmd.spop at hb
  split at hb
  · rename_i k ms
    simp only at hb
    by_cases hlen : (Cmd.intArgs ms).length > 1
    · rw [if_pos hlen] at hb; cases hb
    · rw [if_neg hlen] at hb
      (repeat' split at hb) <;>
        first
          | (cases hb; done)
          | (cases hb; exact hc)
          | (cases hb; exact putSet_wf hc _ (nodup_setDiff (setOf_wf (ciwf_ciAt hc _)) _))
  · cases hb

/-- the hash and set commands of property C02 -/
def allCmds : List String :=
  ["hset", "hmset", "hsetnx", "hget", "hmget", "hgetall", "hkeys", "hvals", "hlen", "hexists", "hdel",
   "hstrlen", "hincrby", "hincrbyfloat",
   "sadd", "srem", "scard", "sismember", "smismember", "smembers", "smove", "spop", "srandmember",
   "sdiff", "sinter", "sunion", "sdiffstore", "sinterstore", "sunionstore", "pfadd", "pfcount", "pfmerge"]

theorem wf_all (name : String) (h : name ∈ allCmds) :
    BodyWF ((Cmd.regular name).getD (fun _ _ _ => .error "model: no body")) := by
  revert name
  simp only [allCmds, List.forall_mem_cons, List.not_mem_nil, false_imp_iff, implies_true, and_true]
  have rd := @BodyWF.of_reader
  exact ⟨wf_hset, wf_hmset, wf_hsetnx, rd Cmd.hget_keeps, rd Cmd.hmget_keeps, rd Cmd.hgetall_keeps, rd Cmd.hkeys_keeps,
    rd Cmd.hvals_keeps, rd Cmd.hlen_keeps, rd Cmd.hexists_keeps, wf_hdel, rd Cmd.hstrlen_keeps, wf_hincrby,
    wf_hincrbyfloat, wf_sadd, wf_srem, rd Cmd.scard_keeps, rd Cmd.sismember_keeps, rd Cmd.smismember_keeps,
    rd Cmd.smembers_keeps, wf_smove, wf_spop, rd Cmd.srandmember_keeps, rd (Cmd.setopRead_keeps .diff),
    rd (Cmd.setopRead_keeps .inter), rd (Cmd.setopRead_keeps .union), wf_setopStore .diff, wf_setopStore .inter,
    wf_setopStore .union, wf_pfadd, rd Cmd.pfcount_keeps, wf_pfmerge⟩

end FR.HashSet

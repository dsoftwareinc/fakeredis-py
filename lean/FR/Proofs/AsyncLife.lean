import FR.Proofs.System
import FR.Proofs.Blocking
import FR.Proofs.Parser
/-!
# The life of a connection: closing and clean-up, the two front-ends, the asyncio wake-up, EXEC and foreign queues

* `_cleanup` of the closed sockets (`cleanupClosed`) as a fold of `Sys.forget`, with closed forms for the subscription
  tables and the connection records it leaves; `closeConn`, `gcConn`, the outage check of `sendallGuarded`.
* The asyncio front-end (`AsyncFakeSocket`) differs from the threaded one in `_blocking` only: every command but EXEC and
  the blocking pops, the script commands included, is the same computation for every `Mode` (`special_mode_irrel`,
  `runCommand_mode_irrel`, `processCommand_mode_irrel`); `dispatch` behind its prologue is `dispatchBody`.
* A paused connection only buffers what it is sent; the re-try task and the time-out of a parked asyncio connection in
  closed form (`wakeConnAsync_eq`, `timeoutConnAsync_eq`).
* EXEC of one connection neither reads nor writes the MULTI queue of another (`Sys.withTx`, `BlindAt`, `execCmd_withTx`).
-/
namespace FR
open M
set_option linter.unusedSimpArgs false

/-! ## `cleanupClosed` as a fold -/

/-- `_cleanup` of one socket -/
def Sys.forget (s : Sys) (c : Nat) : Sys :=
  ({ s with srv := { s.srv with
      subs := s.srv.subs.map (fun p => (p.1, p.2.filter (· != c))),
      psubs := s.srv.psubs.map (fun p => (p.1, p.2.filter (· != c))) } } : Sys).updConn c
    fun x => { x with watchNotified := false, watches := [] }

def Sys.clearClosed (s : Sys) : Sys := { s with srv := { s.srv with closedSockets := [] } }

theorem cleanupBody_run (c : Nat) (u : PUnit) (s : Sys) :
    cleanupBody c u s = (ForInStep.yield PUnit.unit, s.forget c) := rfl

theorem forIn_cleanupBody (l : List Nat) (s : Sys) :
    forIn l PUnit.unit cleanupBody s = (PUnit.unit, l.foldl Sys.forget s) := by
  induction l generalizing s with
  | nil => rfl
  | cons a as ih =>
    rw [List.forIn_cons]
    simp only [bind, StateT.bind, cleanupBody_run, List.foldl_cons]
    exact ih _

theorem cleanupClosed_run (s : Sys) :
    cleanupClosed s = ((), (s.srv.closedSockets.foldl Sys.forget s).clearClosed) := by
  show (do let _ ← forIn s.srv.closedSockets PUnit.unit cleanupBody
           modify fun s => { s with srv := { s.srv with closedSockets := [] } } : M Unit) s = _
  simp only [bind, StateT.bind, forIn_cleanupBody]
  rfl

/-! ## closed forms for the tables and the connection records after `cleanupClosed` -/

def stripTbl (t : Tbl) (c : Nat) : Tbl := t.map fun p => (p.1, p.2.filter (· != c))

def stripAll (t : Tbl) (l : List Nat) : Tbl := t.map fun p => (p.1, p.2.filter fun x => !l.contains x)

theorem foldl_stripTbl (l : List Nat) (t : Tbl) : l.foldl stripTbl t = stripAll t l := by
  induction l generalizing t with
  | nil =>
    simp only [List.foldl_nil, stripAll, List.contains_nil, Bool.not_false]
    have : (fun p : Bytes × List Nat => (p.1, p.2.filter fun _ => true)) = id := by
      funext p
      have : p.2.filter (fun _ => true) = p.2 := List.filter_eq_self.2 (fun _ _ => rfl)
      rw [this]; rfl
    rw [this, List.map_id]
  | cons a as ih =>
    rw [List.foldl_cons, ih]
    simp only [stripAll, stripTbl, List.map_map]
    apply List.map_congr_left
    intro p _
    simp only [Function.comp, List.filter_filter, Prod.mk.injEq, true_and]
    apply List.filter_congr
    intro x _
    simp only [List.contains_cons]
    cases as.contains x <;> cases h : (x == a) <;> simp_all

def Conn.cleared (x : Conn) : Conn := { x with watchNotified := false, watches := [] }

theorem Sys.forget_subs (s : Sys) (c : Nat) : (s.forget c).srv.subs = stripTbl s.srv.subs c := rfl
theorem Sys.forget_psubs (s : Sys) (c : Nat) : (s.forget c).srv.psubs = stripTbl s.srv.psubs c := rfl

theorem foldl_forget_subs (l : List Nat) (s : Sys) : (l.foldl Sys.forget s).srv.subs = stripAll s.srv.subs l := by
  rw [← foldl_stripTbl]
  induction l generalizing s with
  | nil => rfl
  | cons a as ih => rw [List.foldl_cons, ih, Sys.forget_subs]; rfl

theorem foldl_forget_psubs (l : List Nat) (s : Sys) : (l.foldl Sys.forget s).srv.psubs = stripAll s.srv.psubs l := by
  rw [← foldl_stripTbl]
  induction l generalizing s with
  | nil => rfl
  | cons a as ih => rw [List.foldl_cons, ih, Sys.forget_psubs]; rfl

theorem Sys.conn_of_not_hasConn {s : Sys} {c : Nat} (h : ¬ s.HasConn c) : s.conn c = { id := c } := by
  rw [Sys.hasConn_iff] at h
  rw [Sys.conn_def]
  cases h' : s.srv.conns.find? (·.id == c) with
  | none => rfl
  | some x => rw [h'] at h; simp at h

theorem Sys.conn_updConn_same' (s : Sys) (c : Nat) (f : Conn → Conn) (hf : ∀ x, (f x).id = x.id)
    (hdef : f { id := c } = { id := c }) : (s.updConn c f).conn c = f (s.conn c) := by
  by_cases h : s.HasConn c
  · exact Sys.conn_updConn_same f h hf
  · rw [Sys.conn_of_not_hasConn h, hdef]
    exact Sys.conn_of_not_hasConn (fun h' => h ((Sys.hasConn_updConn f hf).1 h'))

theorem Sys.forget_conn_same (s : Sys) (c : Nat) : (s.forget c).conn c = (s.conn c).cleared :=
  Sys.conn_updConn_same' _ c _ (fun _ => rfl) rfl

theorem Sys.forget_conn_ne (s : Sys) {c c' : Nat} (h : c' ≠ c) : (s.forget c).conn c' = s.conn c' :=
  Sys.conn_updConn_ne _ h (fun _ => rfl)

theorem foldl_forget_conn (l : List Nat) (s : Sys) (c : Nat) :
    (l.foldl Sys.forget s).conn c = if l.contains c then (s.conn c).cleared else s.conn c := by
  induction l generalizing s with
  | nil => rfl
  | cons a as ih =>
    rw [List.foldl_cons, ih]
    by_cases hac : c = a
    · subst hac
      simp only [Sys.forget_conn_same, List.contains_cons, BEq.rfl, Bool.true_or, if_true]
      split <;> rfl
    · have : (c == a) = false := by simpa using hac
      simp only [Sys.forget_conn_ne _ hac, List.contains_cons, this, Bool.false_or]

theorem foldl_forget_hasConn (l : List Nat) (s : Sys) (c : Nat) :
    (l.foldl Sys.forget s).HasConn c ↔ s.HasConn c := by
  induction l generalizing s with
  | nil => exact Iff.rfl
  | cons a as ih =>
    rw [List.foldl_cons, ih]
    exact Sys.hasConn_updConn _ (fun _ => rfl)

theorem Sys.clearClosed_conn (s : Sys) (c : Nat) : s.clearClosed.conn c = s.conn c := rfl

theorem closeConn_run (c : Nat) (s : Sys) :
    closeConn c s = ((), ({ s with srv := { s.srv with closedSockets := s.srv.closedSockets ++ [c] } } : Sys).updConn c
      fun x => { x with closed := true }) := rfl

theorem gcConn_run (c : Nat) (s : Sys) :
    gcConn c s = ((), { s with srv := { s.srv with
      subs := stripTbl s.srv.subs c, psubs := stripTbl s.srv.psubs c,
      closedSockets := s.srv.closedSockets.filter (· != c),
      conns := s.srv.conns.filter (·.id != c) } }) := rfl

/-! membership in the stripped tables -/

theorem lookup_map_snd (t : Tbl) (g : List Nat → List Nat) (n : Bytes) :
    (t.map fun p => (p.1, g p.2)).lookup n = (t.lookup n).map g := by
  induction t with
  | nil => rfl
  | cons p t ih =>
    obtain ⟨k, v⟩ := p
    simp only [List.map_cons, List.lookup_cons]
    cases n == k
    · exact ih
    · rfl

theorem lookup_mem (t : Tbl) (n : Bytes) (v : List Nat) (h : t.lookup n = some v) : (n, v) ∈ t := by
  induction t with
  | nil => simp at h
  | cons p t ih =>
    obtain ⟨k, w⟩ := p
    simp only [List.lookup_cons] at h
    cases hk : n == k
    · rw [hk] at h; exact List.mem_cons_of_mem _ (ih h)
    · rw [hk] at h
      have : n = k := by simpa using hk
      cases h; subst this
      exact List.mem_cons_self ..

theorem mem_stripAll_entry (t : Tbl) (l : List Nat) (p : Bytes × List Nat) (hp : p ∈ stripAll t l)
    (c : Nat) (hc : c ∈ l) : c ∉ p.2 := by
  simp only [stripAll, List.mem_map] at hp
  obtain ⟨q, _, rfl⟩ := hp
  simp only [List.mem_filter, not_and]
  intro _
  simp [hc]

theorem tblMembers_stripAll (t : Tbl) (l : List Nat) (n : Bytes) :
    tblMembers (stripAll t l) n = (tblMembers t n).filter fun x => !l.contains x := by
  unfold tblMembers stripAll
  rw [lookup_map_snd t (fun cs => cs.filter fun x => !l.contains x)]
  cases t.lookup n <;> rfl

/-! ## outage -/

theorem sendallGuarded_run_down (mode : Mode) (c : Nat) (data : Bytes) (s : Sys) (h : s.srv.connected = false) :
    sendallGuarded mode c data s = ((), { s with crashed := some "ConnectionError" }) := by
  unfold sendallGuarded
  simp only [bind, StateT.bind, get, getThe, MonadStateOf.get, StateT.get, pure, StateT.pure, h,
    Bool.not_false, if_true]
  rfl

theorem sendallGuarded_run_up (mode : Mode) (c : Nat) (data : Bytes) (s : Sys) (h : s.srv.connected = true) :
    sendallGuarded mode c data s = sendall mode c data s := by
  unfold sendallGuarded
  simp only [bind, StateT.bind, get, getThe, MonadStateOf.get, StateT.get, pure, StateT.pure, h,
    Bool.not_true, Bool.false_eq_true, if_false]

/-! ## close + cleanup -/

/-- the state after `closeConn c` followed by `cleanupClosed` -/
def Sys.closedAndCleaned (s : Sys) (c : Nat) : Sys := (cleanupClosed (closeConn c s).2).2

theorem Sys.closedAndCleaned_eq (s : Sys) (c : Nat) :
    s.closedAndCleaned c = (((s.srv.closedSockets ++ [c]).foldl Sys.forget
      (({ s with srv := { s.srv with closedSockets := s.srv.closedSockets ++ [c] } } : Sys).updConn c
        fun x => { x with closed := true })).clearClosed) := by
  unfold Sys.closedAndCleaned
  rw [closeConn_run, cleanupClosed_run]
  rfl

theorem not_mem_deliveries_of_forgotten (srv : Server) (c : Nat)
    (hs : ∀ p ∈ srv.subs, c ∉ p.2) (hp : ∀ p ∈ srv.psubs, c ∉ p.2) (ch msg : Bytes) (r : Reply) :
    (c, r) ∉ deliveries srv ch msg := by
  rw [mem_deliveries]
  rintro (⟨h, _⟩ | ⟨pat, cs, hm, _, hc, _⟩)
  · cases hl : srv.subs.lookup ch with
    | none => rw [hl] at h; simp at h
    | some v => rw [hl] at h; exact hs _ (lookup_mem _ _ _ hl) h
  · exact hp _ hm hc

theorem cleanupClosed_forgets (s : Sys) (c : Nat) (hc : c ∈ s.srv.closedSockets) :
    let s' := (cleanupClosed s).2
    (∀ p ∈ s'.srv.subs, c ∉ p.2) ∧ (∀ p ∈ s'.srv.psubs, c ∉ p.2) ∧
    (s'.conn c).watches = [] ∧ (s'.conn c).watchNotified = false ∧ s'.srv.closedSockets = [] := by
  intro s'
  have e : s' = (s.srv.closedSockets.foldl Sys.forget s).clearClosed := by
    show (cleanupClosed s).2 = _; rw [cleanupClosed_run]
  have hcont : s.srv.closedSockets.contains c = true := by simpa using hc
  refine ⟨?_, ?_, ?_, ?_, ?_⟩
  · intro p hp
    rw [e] at hp
    have hp' : p ∈ (s.srv.closedSockets.foldl Sys.forget s).srv.subs := hp
    rw [foldl_forget_subs] at hp'
    exact mem_stripAll_entry _ _ p hp' c hc
  · intro p hp
    rw [e] at hp
    have hp' : p ∈ (s.srv.closedSockets.foldl Sys.forget s).srv.psubs := hp
    rw [foldl_forget_psubs] at hp'
    exact mem_stripAll_entry _ _ p hp' c hc
  · rw [e, Sys.clearClosed_conn, foldl_forget_conn, hcont]; rfl
  · rw [e, Sys.clearClosed_conn, foldl_forget_conn, hcont]; rfl
  · rw [e]; rfl

theorem cleanupClosed_conn_other (s : Sys) (c : Nat) (hc : c ∉ s.srv.closedSockets) :
    (cleanupClosed s).2.conn c = s.conn c := by
  rw [cleanupClosed_run, Sys.clearClosed_conn, foldl_forget_conn]
  have : s.srv.closedSockets.contains c = false := by simpa using hc
  rw [this]; rfl

theorem cleanupClosed_conn_any (s : Sys) (c : Nat) :
    (cleanupClosed s).2.conn c = s.conn c ∨ (cleanupClosed s).2.conn c = (s.conn c).cleared := by
  rw [cleanupClosed_run, Sys.clearClosed_conn, foldl_forget_conn]
  split
  · exact .inr rfl
  · exact .inl rfl

theorem cleanupClosed_subs (s : Sys) : (cleanupClosed s).2.srv.subs = stripAll s.srv.subs s.srv.closedSockets := by
  rw [cleanupClosed_run]; exact foldl_forget_subs _ _

theorem cleanupClosed_psubs (s : Sys) : (cleanupClosed s).2.srv.psubs = stripAll s.srv.psubs s.srv.closedSockets := by
  rw [cleanupClosed_run]; exact foldl_forget_psubs _ _

theorem cleanupClosed_hasConn (s : Sys) (c : Nat) : (cleanupClosed s).2.HasConn c ↔ s.HasConn c := by
  rw [cleanupClosed_run]; exact foldl_forget_hasConn _ _ _

theorem mem_tblMembers_stripAll (t : Tbl) (l : List Nat) (n : Bytes) (c : Nat) (hc : c ∉ l) :
    c ∈ tblMembers (stripAll t l) n ↔ c ∈ tblMembers t n := by
  rw [tblMembers_stripAll, List.mem_filter]
  have : l.contains c = false := by simpa using hc
  simp [this, hc]

theorem stripAll_keys (t : Tbl) (l : List Nat) : (stripAll t l).map Prod.fst = t.map Prod.fst := by
  simp only [stripAll, List.map_map]
  rfl

theorem stripAll_singleton (t : Tbl) (c : Nat) : stripAll t [c] = stripTbl t c :=
  (foldl_stripTbl [c] t).symm

theorem mem_stripAll (t : Tbl) (l : List Nat) (pat : Bytes) (cs : List Nat) :
    (pat, cs) ∈ stripAll t l ↔ ∃ cs0, (pat, cs0) ∈ t ∧ cs = cs0.filter fun x => !l.contains x := by
  simp only [stripAll, List.mem_map, Prod.mk.injEq, Prod.exists]
  constructor
  · rintro ⟨a, b, hm, rfl, rfl⟩; exact ⟨b, hm, rfl⟩
  · rintro ⟨cs0, hm, rfl⟩; exact ⟨pat, cs0, hm, rfl, rfl⟩

theorem mem_deliveries_stripAll (srv srv' : Server) (l : List Nat)
    (hs : srv'.subs = stripAll srv.subs l) (hp : srv'.psubs = stripAll srv.psubs l)
    (c : Nat) (hc : c ∉ l) (ch msg : Bytes) (r : Reply) :
    (c, r) ∈ deliveries srv' ch msg ↔ (c, r) ∈ deliveries srv ch msg := by
  have hcont : l.contains c = false := by simpa using hc
  rw [mem_deliveries, mem_deliveries, hs, hp]
  have h1 : c ∈ ((stripAll srv.subs l).lookup ch).getD [] ↔ c ∈ (srv.subs.lookup ch).getD [] :=
    mem_tblMembers_stripAll srv.subs l ch c hc
  rw [h1]
  apply or_congr Iff.rfl
  constructor
  · rintro ⟨pat, cs, hm, hg, hcs, rfl⟩
    obtain ⟨cs0, hm0, rfl⟩ := (mem_stripAll _ _ _ _).1 hm
    exact ⟨pat, cs0, hm0, hg, (List.mem_filter.1 hcs).1, rfl⟩
  · rintro ⟨pat, cs0, hm0, hg, hcs, rfl⟩
    refine ⟨pat, _, (mem_stripAll _ _ _ _).2 ⟨cs0, hm0, rfl⟩, hg, ?_, rfl⟩
    exact List.mem_filter.2 ⟨hcs, by simp [hc]⟩

theorem gcConn_not_hasConn (c : Nat) (s : Sys) : ¬ (gcConn c s).2.HasConn c := by
  rw [gcConn_run]
  rintro ⟨x, hx, rfl⟩
  have := (List.mem_filter.1 hx).2
  simp at this

theorem gcConn_conn_other (c c' : Nat) (s : Sys) (h : c' ≠ c) : (gcConn c s).2.conn c' = s.conn c' := by
  rw [gcConn_run]
  simp only [Sys.conn_def]
  congr 1
  induction s.srv.conns with
  | nil => rfl
  | cons x xs ih =>
    simp only [List.filter_cons, List.find?_cons]
    by_cases hx : x.id = c
    · have h1 : (x.id != c) = false := by simp [hx]
      have h2 : (x.id == c') = false := by simp [hx]; exact fun e => h e.symm
      simp only [h1, h2, Bool.false_eq_true, if_false, ih]
    · have h1 : (x.id != c) = true := by simpa using hx
      simp only [h1, if_true, List.find?_cons, ih]

/-! ## the asyncio front-end differs from the threaded one in the blocking primitive only -/

/-- the commands that call `_blocking` -/
def blockingNames : List String := ["blpop", "brpop", "brpoplpush"]

theorem special_mode_irrel (inner : Inner) (m1 m2 : Mode) (c : Nat) (name : String) (args cis)
    (h : name ∉ blockingNames) : special inner m1 c name args cis = special inner m2 c name args cis := by
  unfold special
  simp only []
  split <;> first | rfl | (exfalso; exact h (by decide))

theorem special_exec (inner : Inner) (mode : Mode) (c : Nat) (name : String) (args cis) (h : name = "exec") :
    special inner mode c name args cis = execCmd inner c cis := by
  subst h; rfl

/-- what `runWith` does with the outcome of a special body -/
def afterSpecial (d : Nat) (cis : List CI) (x : M SpecialOut) : M (Option Reply) := do
  match ← x with
  | .error e =>
    if e.startsWith "model:" then fault e
    writebackAll d cis
    return some (.err (strBytes e))
  | .ok (r, cis') =>
    writebackAll d cis'
    return r

theorem runWith_special_run (special) (mode : Mode) (c : Nat) (sig : Sig) (raw : List Bytes) (fs : Bool) (s : Sys)
    (h : Cmd.regular sig.name = none) (hr : s.refuses c sig = false) :
    runWith special mode c sig raw fs s =
      (let d := (s.conn c).db
       let ap := sig.apply raw ⟨s.srv.dbs.getD d [], s.srv.time⟩
       let s1 : Sys := { s with srv := { s.srv with dbs := s.srv.dbs.set d ap.1.dict } }
       match ap.2 with
       | .error e => (some (.err (strBytes e)), s1)
       | .ok (.short r) => (some r, s1)
       | .ok (.ok args cis) =>
         match runGate sig fs ((s.conn c).pubsub > 0) with
         | some e => (some (.err (strBytes e)), s1)
         | none => afterSpecial d cis (special mode c sig.name args cis) s1) := by
  rw [runWith_not_refused special mode c sig raw fs hr]
  unfold runWithBody afterSpecial
  simp only [bind, StateT.bind, getConn_run, getDb_run, h, setDb_run]
  generalize sig.apply raw ⟨s.srv.dbs.getD (s.conn c).db [], s.srv.time⟩ = ap
  obtain ⟨db', res⟩ := ap
  cases res with
  | error e => rfl
  | ok a =>
    cases a with
    | short r => rfl
    | ok args cis =>
      simp only
      cases runGate sig fs (decide ((s.conn c).pubsub > 0)) <;> rfl

/-- to prove `P` of `_run_command` of a special command, prove it of three results: the command is refused in subscriber
mode (the state is untouched); it is answered at once, by an argument error, a `missing_return` or a gate, from `s`
with the selected database as `Signature.apply` left it; it is the special body behind `afterSpecial`, from that state -/
theorem runWith_special_cases (special) (mode : Mode) (c : Nat) (sig : Sig) (raw : List Bytes) (fs : Bool)
    (s : Sys) (hreg : Cmd.regular sig.name = none) {P : Option Reply × Sys → Prop}
    (refused : ∀ r, P (some r, s))
    (atOnce : ∀ r, P (some r, s.setDbS (s.conn c).db (sig.apply raw (s.dbAt (s.conn c).db)).1))
    (body : ∀ args cis, (sig.apply raw (s.dbAt (s.conn c).db)).2 = .ok (.ok args cis) →
      runGate sig fs ((s.conn c).pubsub > 0) = none →
      P (afterSpecial (s.conn c).db cis (special mode c sig.name args cis)
        (s.setDbS (s.conn c).db (sig.apply raw (s.dbAt (s.conn c).db)).1))) :
    P (runWith special mode c sig raw fs s) := by
  cases hr : s.refuses c sig with
  | true => rw [runWith_refused _ mode c sig raw fs hr]; exact refused _
  | false =>
    rw [runWith_special_run _ mode c sig raw fs s hreg hr]
    unfold Sys.dbAt at atOnce body
    dsimp only
    generalize sig.apply raw ⟨s.srv.dbs.getD (s.conn c).db [], s.srv.time⟩ = ap at atOnce body ⊢
    obtain ⟨db', res⟩ := ap
    cases res with
    | error e => exact atOnce _
    | ok a =>
      cases a with
      | short r => exact atOnce _
      | ok args cis =>
        dsimp only
        cases hg : runGate sig fs (decide ((s.conn c).pubsub > 0)) with
        | some e => exact atOnce _
        | none => exact body args cis rfl hg

theorem Sig.pass1_bytes (db : Db) (xs : List Bytes) (n : Nat) (acc : List Arg) :
    Sig.pass1 db (xs.zip (List.replicate n .bytes)) acc =
      (db, .ok (.inr (acc.reverse ++ (xs.take n).map .raw))) := by
  induction xs generalizing n acc with
  | nil => simp [Sig.pass1]
  | cons x xs ih =>
    cases n with
    | zero => simp [Sig.pass1]
    | succ n =>
      simp only [List.replicate_succ, List.zip_cons_cons, Sig.pass1, Conv.decode, List.take_succ_cons, List.map_cons]
      rw [ih]; simp

theorem Sig.pass2_bytes (db : Db) (xs : List Bytes) (n : Nat) (accA : List Arg) (accC : List CI) :
    Sig.pass2 db ((xs.map Arg.raw).zip (List.replicate n .bytes)) accA accC =
      (db, .ok (accA.reverse ++ (xs.take n).map .raw, accC.reverse)) := by
  induction xs generalizing n accA with
  | nil => simp [Sig.pass2]
  | cons x xs ih =>
    cases n with
    | zero => simp [Sig.pass2]
    | succ n =>
      simp only [List.map_cons, List.replicate_succ, List.zip_cons_cons, Sig.pass2, List.take_succ_cons]
      rw [ih]; simp

theorem afterSpecial_congr (d : Nat) (cis : List CI) (x y : M SpecialOut) (s : Sys) (h : x s = y s) :
    afterSpecial d cis x s = afterSpecial d cis y s := by
  unfold afterSpecial
  simp only [bind, StateT.bind, h]

theorem runWith_congr_state (sp1 sp2) (m1 m2 : Mode) (c : Nat) (sig : Sig) (raw : List Bytes) (fs : Bool) (s : Sys)
    (h : ∀ args cis (s' : Sys), s'.srv.conns = s.srv.conns →
      sp1 m1 c sig.name args cis s' = sp2 m2 c sig.name args cis s') :
    runWith sp1 m1 c sig raw fs s = runWith sp2 m2 c sig raw fs s := by
  cases hr : s.refuses c sig with
  | true => rw [runWith_refused sp1 m1 c sig raw fs hr, runWith_refused sp2 m2 c sig raw fs hr]
  | false =>
  cases hreg : Cmd.regular sig.name with
  | some body => rw [runWith_regular_run sp1 m1 c sig raw fs hreg s hr, runWith_regular_run sp2 m2 c sig raw fs hreg s hr]
  | none =>
    rw [runWith_special_run sp1 m1 c sig raw fs s hreg hr, runWith_special_run sp2 m2 c sig raw fs s hreg hr]
    simp only
    split
    · rfl
    · rfl
    · split
      · rfl
      · exact afterSpecial_congr _ _ _ _ _ (h _ _ _ rfl)

theorem runWith_mode_irrel (sp1 sp2) (m1 m2 : Mode) (c : Nat) (sig : Sig) (raw : List Bytes) (fs : Bool)
    (h : ∀ args cis, sp1 m1 c sig.name args cis = sp2 m2 c sig.name args cis) :
    runWith sp1 m1 c sig raw fs = runWith sp2 m2 c sig raw fs := by
  funext s
  exact runWith_congr_state sp1 sp2 m1 m2 c sig raw fs s (fun args cis s' _ => by rw [h])


theorem blocking_noScript : ∀ n ∈ blockingNames, n ∈ forbiddenInScripts := by decide

/-- `_run_command(…, from_script=True)` of a command of the table does not look at the front-end: the blocking pops
are flagged `no_script`, the gate refuses them before their body runs -/
theorem runWith_fromScript_mode_irrel (inner : Inner) (m1 m2 : Mode) (c : Nat) (sig : Sig) (raw : List Bytes)
    (hmem : sig ∈ SigTable.sigs) :
    runWith (special inner) m1 c sig raw true = runWith (special inner) m2 c sig raw true := by
  by_cases hn : sig.noScript = true
  · funext s
    cases hr : s.refuses c sig with
    | true => rw [runWith_refused _ m1 c sig raw true hr, runWith_refused _ m2 c sig raw true hr]
    | false =>
      have hreg : Cmd.regular sig.name = none := by
        have := noScript_not_regular sig hmem hn
        cases h : Cmd.regular sig.name with
        | none => rfl
        | some b => rw [h] at this; cases this
      rw [runWith_noScript_run _ m1 c sig raw s hn hreg hr, runWith_noScript_run _ m2 c sig raw s hn hreg hr]
  · have hb : sig.name ∉ blockingNames :=
      fun hb => hn ((sigs_noScript_iff sig hmem).2 (blocking_noScript _ hb))
    exact runWith_mode_irrel _ _ m1 m2 c sig raw true (fun args cis => special_mode_irrel _ m1 m2 c sig.name args cis hb)

theorem SigTable.mem_of_find {n : String} {sig : Sig} (h : SigTable.find n = some sig) : sig ∈ SigTable.sigs :=
  List.mem_of_find?_eq_some h

theorem runFromScript_mode_irrel (inner : Inner) (m1 m2 : Mode) (c : Nat) (op : LuaVal) (args : List LuaVal) :
    runFromScript (special inner) m1 c op args = runFromScript (special inner) m2 c op args := by
  unfold runFromScript
  cases op with
  | str nameB =>
    dsimp only
    cases hc : commandName nameB with
    | none => rfl
    | some n =>
      dsimp only
      cases hu : n.startsWith "_" with
      | true => rfl
      | false =>
        simp only [Bool.false_eq_true, if_false]
        cases hf : SigTable.find n with
        | none => rfl
        | some sig => simp only [runWith_fromScript_mode_irrel inner m1 m2 c sig _ (SigTable.mem_of_find hf)]
  | _ => rfl

theorem runTrace_mode_irrel (inner : Inner) (m1 m2 : Mode) (c : Nat) (sha : Bytes) (fuel : Nat) :
    runTrace (special inner) m1 c sha fuel = runTrace (special inner) m2 c sha fuel := by
  induction fuel with
  | zero => unfold runTrace; rfl
  | succ fuel ih =>
    unfold runTrace
    simp only [runFromScript_mode_irrel inner m1 m2 c, ih]

theorem scriptBody_mode_irrel (inner : Inner) (m1 m2 : Mode) (c : Nat) (name : String) (args : List Arg) :
    scriptBody (special inner) m1 c name args = scriptBody (special inner) m2 c name args := by
  unfold scriptBody evalBody
  simp only [runTrace_mode_irrel inner m1 m2 c]

theorem runScriptCmd_mode_irrel (m1 m2 : Mode) (c : Nat) (sig : Sig) (raw : List Bytes) (fs : Bool) :
    runScriptCmd m1 c sig raw fs = runScriptCmd m2 c sig raw fs := by
  unfold runScriptCmd
  simp only [scriptBody_mode_irrel _ m1 m2 c]

theorem runInner_mode_irrel (m1 m2 : Mode) (c : Nat) (sig : Sig) (raw : List Bytes)
    (h : sig.name ∉ blockingNames) : runInner m1 c sig raw = runInner m2 c sig raw := by
  cases hs : scriptNames.contains sig.name with
  | true => rw [runInner_script m1 c sig raw hs, runInner_script m2 c sig raw hs, runScriptCmd_mode_irrel m1 m2]
  | false =>
    rw [runInner_not_script m1 c sig raw hs, runInner_not_script m2 c sig raw hs]
    exact runWith_mode_irrel _ _ m1 m2 c sig raw false (fun args cis => special_mode_irrel _ m1 m2 c sig.name args cis h)

theorem runCommand_not_script (mode : Mode) (c : Nat) (sig : Sig) (raw : List Bytes) (fs : Bool)
    (hs : sig.name ∉ scriptNames) :
    runCommand mode c sig raw fs = runWith (special (runInner mode c)) mode c sig raw fs := by
  have : scriptNames.contains sig.name = false := by simpa using hs
  unfold runCommand
  simp only [this, Bool.false_eq_true, if_false]

/-- `_run_command` of a regular command is the generic runner `runWith` (as `runInner_regular_eq` for EXEC's nested
runner) -/
theorem runCommand_regular_eq (mode : Mode) (c : Nat) (sig : Sig) (raw : List Bytes) (fs : Bool) {body : Body}
    (h : Cmd.regular sig.name = some body) :
    runCommand mode c sig raw fs = runWith (special (runInner mode c)) mode c sig raw fs :=
  runCommand_not_script mode c sig raw fs (scriptNames_contains_false_iff.1 (regular_notScript h))

theorem runCommand_script (mode : Mode) (c : Nat) (sig : Sig) (raw : List Bytes) (fs : Bool)
    (hs : sig.name ∈ scriptNames) : runCommand mode c sig raw fs = runScriptCmd mode c sig raw fs := by
  have : scriptNames.contains sig.name = true := by simpa using hs
  unfold runCommand
  simp only [this, if_true]

theorem runCommand_mode_irrel (m1 m2 : Mode) (c : Nat) (sig : Sig) (raw : List Bytes) (fs : Bool)
    (h : sig.name ∉ blockingNames) (hx : sig.name ≠ "exec") :
    runCommand m1 c sig raw fs = runCommand m2 c sig raw fs := by
  by_cases hs : sig.name ∈ scriptNames
  · rw [runCommand_script m1 c sig raw fs hs, runCommand_script m2 c sig raw fs hs, runScriptCmd_mode_irrel m1 m2]
  · rw [runCommand_not_script m1 c sig raw fs hs, runCommand_not_script m2 c sig raw fs hs]
    exact runWith_mode_irrel _ _ m1 m2 c sig raw fs (fun args cis => by
      rw [special_inner_irrel (runInner m1 c) (runInner m2 c) m1 c sig.name args cis hx]
      exact special_mode_irrel _ m1 m2 c sig.name args cis h)

theorem queueStep_congr (i1 i2 : Inner) (c : Nat) (a : String × List Bytes)
    (h : ∀ sig, SigTable.find a.1 = some sig → i1 sig a.2 = i2 sig a.2) :
    queueStep i1 c a = queueStep i2 c a := by
  unfold queueStep
  cases hf : SigTable.find a.1 with
  | none => rfl
  | some sig => simp only [h sig hf]

theorem runQueue_congr (i1 i2 : Inner) (c : Nat) (q : List (String × List Bytes))
    (h : ∀ a ∈ q, ∀ sig, SigTable.find a.1 = some sig → i1 sig a.2 = i2 sig a.2) :
    runQueue i1 c q = runQueue i2 c q := by
  induction q with
  | nil => rfl
  | cons a rest ih =>
    rw [runQueue_cons, runQueue_cons, queueStep_congr i1 i2 c a (h a (List.mem_cons_self ..)),
      ih (fun b hb => h b (List.mem_cons_of_mem _ hb))]

theorem execCmd_congr (i1 i2 : Inner) (c : Nat) (cis : List CI) (s : Sys)
    (h : ∀ q, (s.conn c).tx = some q → ∀ a ∈ q, ∀ sig, SigTable.find a.1 = some sig → i1 sig a.2 = i2 sig a.2) :
    execCmd i1 c cis s = execCmd i2 c cis s := by
  cases htx : (s.conn c).tx with
  | none => rw [execCmd_run_none i1 cis htx, execCmd_run_none i2 cis htx]
  | some q =>
    cases hf : (s.conn c).txFailed with
    | true => rw [execCmd_run_failed i1 cis htx hf, execCmd_run_failed i2 cis htx hf]
    | false =>
      cases hw : (s.conn c).watchNotified with
      | true => rw [execCmd_run_dirty i1 cis htx hf hw, execCmd_run_dirty i2 cis htx hf hw]
      | false =>
        rw [execCmd_eq_sequential i1 cis htx hf hw, execCmd_eq_sequential i2 cis htx hf hw,
          runQueue_congr i1 i2 c q (h q htx)]

theorem runCommand_exec_mode_irrel (m1 m2 : Mode) (c : Nat) (sig : Sig) (raw : List Bytes) (fs : Bool) (s : Sys)
    (hx : sig.name = "exec")
    (hq : ∀ q, (s.conn c).tx = some q → ∀ a ∈ q, a.1 ∉ blockingNames) :
    runCommand m1 c sig raw fs s = runCommand m2 c sig raw fs s := by
  have hs : sig.name ∉ scriptNames := by rw [hx]; decide
  rw [runCommand_not_script m1 c sig raw fs hs, runCommand_not_script m2 c sig raw fs hs]
  apply runWith_congr_state
  intro args cis s' hs'
  rw [special_exec _ m1 c sig.name args cis hx, special_exec _ m2 c sig.name args cis hx]
  apply execCmd_congr
  intro q htx a ha sg hsg
  have hc : s'.conn c = s.conn c := by simp only [Sys.conn_def, hs']
  rw [hc] at htx
  apply runInner_mode_irrel
  rw [SigTable.find_name hsg]
  exact hq q htx a ha

/-- `dispatch` after its mode-independent prologue (clean-up, clock refresh) -/
def dispatchBody (mode : Mode) (c : Nat) (conn : Conn) (sig : Sig) (args : List Bytes) : M Unit := do
  if !sig.checkArity args.length then
    if conn.tx.isSome then modifyConn c fun x => { x with txFailed := true }
    if sig.name == "exec" then
      modifyConn c fun x => { x with tx := none, txFailed := false }
      clearWatches c
      emit c (.err (strBytes ("EXECABORT Transaction discarded because of: " ++ (sig.wrongArgs.drop 4))))
    else emit c (.err (strBytes sig.wrongArgs))
  else if conn.tx.isSome && !SigTable.notQueued.contains sig.name then
    if SigTable.notInMulti.contains sig.name then
      modifyConn c fun x => { x with txFailed := true }
      emit c (.err (strBytes Msgs.COMMAND_IN_MULTI_MSG))
    else
      modifyConn c fun x => { x with tx := x.tx.map (· ++ [(sig.name, args)]) }
      emit c .queued
  else
    match ← runCommand mode c sig args false with
    | some r => emit c r
    | none => pure ()
    if (← get).crashed.isSome then modifyConn c fun x => { x with dead := true }

theorem dispatch_eq (mode : Mode) (c : Nat) (conn : Conn) (sig : Sig) (args : List Bytes) (s : Sys) :
    dispatch mode c conn sig args s = dispatchBody mode c conn sig args (cleanupClosed s).2.refresh := rfl

theorem dispatchBody_congr (m1 m2 : Mode) (c : Nat) (conn : Conn) (sig : Sig) (args : List Bytes) (s : Sys)
    (h : runCommand m1 c sig args false s = runCommand m2 c sig args false s) :
    dispatchBody m1 c conn sig args s = dispatchBody m2 c conn sig args s := by
  unfold dispatchBody
  split
  · rfl
  · split
    · rfl
    · simp only [bind, StateT.bind, h]

theorem processCommand_mode_irrel (m1 m2 : Mode) (c : Nat) (nameB : Bytes) (args : List Bytes)
    (h : ∀ sig, lookupSig nameB = some sig → sig.name ∉ blockingNames ∧ sig.name ≠ "exec") :
    processCommand m1 c (nameB :: args) = processCommand m2 c (nameB :: args) := by
  rw [processCommand_cons, processCommand_cons]
  cases hs : lookupSig nameB with
  | none => rfl
  | some sig =>
    simp only
    unfold dispatch
    rw [runCommand_mode_irrel m1 m2 c sig args false (h sig hs).1 (h sig hs).2]

theorem processCommand_exec_mode_irrel (m1 m2 : Mode) (c : Nat) (nameB : Bytes) (args : List Bytes) (s : Sys)
    (h : ∀ sig, lookupSig nameB = some sig → sig.name ∉ blockingNames)
    (hq : ∀ q, (s.conn c).tx = some q → ∀ a ∈ q, a.1 ∉ blockingNames) :
    processCommand m1 c (nameB :: args) s = processCommand m2 c (nameB :: args) s := by
  rw [processCommand_cons, processCommand_cons]
  cases hs : lookupSig nameB with
  | none => rfl
  | some sig =>
    simp only [bind, StateT.bind, getConn_run, dispatch_eq]
    apply dispatchBody_congr
    by_cases hx : sig.name = "exec"
    · apply runCommand_exec_mode_irrel m1 m2 c sig args false _ hx
      intro q htx
      apply hq q
      rw [← htx, Sys.refresh_conn]
      rcases cleanupClosed_conn_any s c with e | e <;> rw [e] <;> rfl
    · rw [runCommand_mode_irrel m1 m2 c sig args false (h sig hs) hx]

/-! ### a paused connection only buffers -/

theorem Sys.hasConn_of_paused {s : Sys} {c : Nat} (h : (s.conn c).paused = true) : s.HasConn c := by
  by_cases hc : s.HasConn c
  · exact hc
  · rw [Sys.conn_of_not_hasConn hc] at h; cases h

theorem drain_paused (mode : Mode) (c : Nat) (n : Nat) (s : Sys) (h : (s.conn c).paused = true) :
    drain mode c n s = ((), s) :=
  drain_stopped (s := s) (by rw [connOf_eq_conn, h, Bool.true_or]) n

theorem sendall_paused (mode : Mode) (c : Nat) (data : Bytes) (s : Sys)
    (hp : (s.conn c).paused = true) (hd : (s.conn c).dead = false) :
    sendall mode c data s = ((), s.updConn c fun x => { x with buf := x.buf ++ data }) := by
  have h := sendall_run mode c data s
  have hc : (connOf s c).dead = false := hd
  rw [hc] at h
  refine h.trans ?_
  simp only [Bool.false_eq_true, if_false]
  apply drain_paused
  show ((s.updConn c fun x => { x with buf := x.buf ++ data }).conn c).paused = true
  rw [Sys.conn_updConn_same (fun x => { x with buf := x.buf ++ data }) (Sys.hasConn_of_paused hp) (fun _ => rfl)]
  exact hp


/-! ## the re-try task and the time-out of a parked asyncio connection -/

/-- un-park and resume the parser -/
def Conn.unpark (x : Conn) : Conn := { x with parked := none, paused := false }

/-- the state in which the parser resumes after the blocked pop was answered with `r` -/
def Sys.resumed (s1 : Sys) (c : Nat) (r : Reply) : Sys := (s1.updConn c Conn.unpark).emitS c r

/-- the blocked pop is answered with `r`, and the parser runs on what was buffered behind it meanwhile -/
def Sys.resume (s1 : Sys) (mode : Mode) (c : Nat) (r : Reply) : Unit × Sys :=
  drain mode c (((s1.resumed c r).conn c).buf.length + 1) (s1.resumed c r)

theorem wakeConnAsync_eq (mode : Mode) (c : Nat) (s : Sys) :
    wakeConnAsync mode c s =
      match (s.conn c).parked with
      | none => M.fault "wake: connection is not parked" s
      | some p =>
        match ListKeys.passReply (parkedPass c p s).1 with
        | some r => (parkedPass c p s).2.resume mode c r
        | none => ((), (parkedPass c p s).2.updConn c (stayParked p)) := by
  unfold wakeConnAsync
  cases hp : (s.conn c).parked with
  | none => simp only [bind, StateT.bind, getConn_run, hp]
  | some p =>
    simp only [bind, StateT.bind, getConn_run, hp]
    generalize parkedPass c p s = res
    obtain ⟨r, s1⟩ := res
    cases r with
    | error e => simp only [StateT.bind, modifyConn_run, emit_run, getConn_run]; rfl
    | ok o =>
      cases o with
      | none => rfl
      | some r => simp only [StateT.bind, modifyConn_run, emit_run, getConn_run]; rfl

theorem timeoutConnAsync_eq (mode : Mode) (c : Nat) (s : Sys) :
    timeoutConnAsync mode c s =
      if (s.conn c).parked.isSome then s.resume mode c .nil else M.fault "timeout: connection is not parked" s := by
  unfold timeoutConnAsync
  cases hp : (s.conn c).parked with
  | none => simp only [bind, StateT.bind, getConn_run, hp]; rfl
  | some p => simp only [bind, StateT.bind, getConn_run, hp, modifyConn_run, emit_run]; rfl

theorem drain_out_mono (mode : Mode) (c : Nat)
    (hpc : ∀ fields (s : Sys), ∃ l, (processCommand mode c fields s).2.out = l ++ s.out)
    (n : Nat) (s : Sys) : ∃ l, (drain mode c n s).2.out = l ++ s.out := by
  induction n generalizing s with
  | zero => exact ⟨[], rfl⟩
  | succ f ih =>
    have h := drain_succ mode c f s
    have h' : drain mode c (f + 1) s = _ := h
    rw [h']
    split
    · exact ⟨[], rfl⟩
    · split
      · exact ⟨[], rfl⟩
      · rename_i fields rest _
        obtain ⟨l1, h1⟩ := hpc fields (setBuf c rest s)
        obtain ⟨l2, h2⟩ := ih ((processCommand mode c fields).run (setBuf c rest s)).2
        refine ⟨l2 ++ l1, ?_⟩
        have h2' : (drain mode c f ((processCommand mode c fields).run (setBuf c rest s)).2).2.out = _ := h2
        show (drain mode c f ((processCommand mode c fields).run (setBuf c rest s)).2).2.out = _
        rw [h2']
        have h1' : ((processCommand mode c fields).run (setBuf c rest s)).2.out = l1 ++ (setBuf c rest s).out := h1
        rw [h1', List.append_assoc]
        rfl

theorem blockingAsync_rest (c : Nat) (kind : String) (keys : List Bytes) (pass : Pass) (s : Sys) :
    let s' := (blockingAsync c kind keys pass s).2
    let s1 := (pass true s).2
    s'.out = s1.out ∧ s'.clocks = s1.clocks ∧ s'.picks = s1.picks ∧ s'.fault = s1.fault ∧ s'.crashed = s1.crashed ∧
    s'.srv.dbs = s1.srv.dbs ∧ s'.srv.subs = s1.srv.subs ∧ s'.srv.psubs = s1.srv.psubs ∧ s'.srv.time = s1.srv.time := by
  rw [blockingAsync_run]
  generalize pass true s = res
  obtain ⟨r, s1⟩ := res
  rcases r with e | _ | r
  · simp
  · dsimp only [Sys.unserved]
    cases (s1.conn c).inTx <;> exact ⟨rfl, rfl, rfl, rfl, rfl, rfl, rfl, rfl, rfl⟩
  · simp


/-! ## EXEC of one connection is blind to the MULTI queue of another

`s.withTx c q` is `s` with the MULTI queue of `c` replaced; `BlindAt c inner sig args` says that running `sig args`
commutes with that replacement.  The fact is about whose record the code looks at: code run on behalf of `c' ≠ c` never reads
the record of `c`, whereas `c`'s own commands do read its queue.  The two-run judgments of `RelJ.lean` say of every
`getConn` that its continuation is blind to one field, for the connection's own code too, and carry no premise on which
connection the code runs for; so the commutation is proved here equation by equation, and for the regular commands
(`runInner_regular_blind`), which is what C20 uses. -/

/-- replace the MULTI queue of a connection record -/
def Conn.setTx (q : Option (List (String × List Bytes))) (x : Conn) : Conn := { x with tx := q }

/-- the same state with the MULTI queue of connection `c` replaced by `q` -/
def Sys.withTx (s : Sys) (c : Nat) (q : Option (List (String × List Bytes))) : Sys := s.updConn c (Conn.setTx q)

theorem Sys.withTx_conn_ne (s : Sys) {c c' : Nat} (q) (h : c' ≠ c) : (s.withTx c q).conn c' = s.conn c' :=
  Sys.conn_updConn_ne _ h (fun _ => rfl)

/-- the same state with the list of connection records replaced -/
def Sys.setConns (s : Sys) (l : List Conn) : Sys := { s with srv := { s.srv with conns := l } }

/-- the statement the commutations with `Sys.withTx` below are instances of -/
theorem Sys.withTx_comm {c : Nat} {q : Option (List (String × List Bytes))} (F : Sys → Sys) (h : Conn → Conn)
    (hF : ∀ (s : Sys) (l : List Conn), F (s.setConns l) = (F (s.setConns [])).setConns (l.map h))
    (hid : ∀ x, (h x).id = x.id) (hq : ∀ x : Conn, x.id = c → h (x.setTx q) = (h x).setTx q) (s : Sys) :
    F (s.withTx c q) = (F s).withTx c q := by
  have h1 : F (s.withTx c q) = _ :=
    hF s (s.srv.conns.map fun x : Conn => if x.id == c then Conn.setTx q x else x)
  have h2 : F s = _ := hF s s.srv.conns
  rw [h1, h2]
  unfold Sys.withTx Sys.updConn Sys.setConns
  simp only [List.map_map]
  congr 2
  apply List.map_congr_left
  intro x _
  simp only [Function.comp, hid]
  split
  · exact hq x (by simpa using ‹(x.id == c) = true›)
  · rfl

theorem Sys.updConn_withTx_comm (s : Sys) {c c' : Nat} (q) (h : c' ≠ c) (g : Conn → Conn)
    (hid : ∀ x, (g x).id = x.id) :
    (s.withTx c q).updConn c' g = (s.updConn c' g).withTx c q := by
  refine Sys.withTx_comm (·.updConn c' g) (fun x => if x.id == c' then g x else x) (fun _ _ => rfl)
    (fun x => by split <;> simp [hid]) (fun x hx => ?_) s
  -- a record of `c` is not one of `c'`
  have e : (x.id == c') = false := by rw [hx]; simpa using fun e => h e.symm
  have e' : ((x.setTx q).id == c') = false := e
  rw [if_neg (by rw [e']; exact Bool.false_ne_true), if_neg (by rw [e]; exact Bool.false_ne_true)]

/-- running `sig args` with the nested runner neither reads nor writes the MULTI queue of connection `c` -/
def BlindAt (c : Nat) (inner : Inner) (sig : Sig) (args : List Bytes) : Prop :=
  ∀ q (s : Sys), inner sig args (s.withTx c q) = ((inner sig args s).1, (inner sig args s).2.withTx c q)

theorem fault_withTx (msg : String) (s : Sys) (c : Nat) (q) :
    M.fault msg (s.withTx c q) = ((), (M.fault msg s).2.withTx c q) := by
  unfold M.fault
  simp only [modify, modifyGet, MonadStateOf.modifyGet, StateT.modifyGet, pure]
  show ((), if s.fault.isNone then _ else _) = ((), Sys.withTx (if s.fault.isNone then _ else _) c q)
  split <;> rfl

theorem queueStep_withTx (inner : Inner) (c c' : Nat) (hne : c' ≠ c) (a : String × List Bytes)
    (hb : ∀ sig, SigTable.find a.1 = some sig → BlindAt c inner sig a.2) (q) (s : Sys) :
    queueStep inner c' a (s.withTx c q) = ((queueStep inner c' a s).1, (queueStep inner c' a s).2.withTx c q) := by
  unfold queueStep
  cases hfind : SigTable.find a.1 with
  | none =>
    simp only [bind, StateT.bind, fault_withTx, pure, StateT.pure]
    rfl
  | some sig =>
    simp only [bind, StateT.bind, modifyConn_run, pure, StateT.pure]
    rw [Sys.updConn_withTx_comm s q hne (fun x => { x with inTx := true }) (fun _ => rfl), hb sig hfind]
    simp only
    rw [Sys.updConn_withTx_comm _ q hne (fun x => { x with inTx := false }) (fun _ => rfl)]
    generalize inner sig a.2 _ = r
    obtain ⟨r1, r2⟩ := r
    rfl

theorem runQueue_withTx (inner : Inner) (c c' : Nat) (hne : c' ≠ c) (l : List (String × List Bytes))
    (hb : ∀ a ∈ l, ∀ sig, SigTable.find a.1 = some sig → BlindAt c inner sig a.2) (q) (s : Sys) :
    runQueue inner c' l (s.withTx c q) = ((runQueue inner c' l s).1, (runQueue inner c' l s).2.withTx c q) := by
  induction l generalizing s with
  | nil => rfl
  | cons a rest ih =>
    rw [runQueue_cons]
    simp only [bind, StateT.bind, queueStep_withTx inner c c' hne a (hb a (List.mem_cons_self ..)),
      ih (fun b hb' => hb b (List.mem_cons_of_mem _ hb')), pure, StateT.pure]
    generalize queueStep inner c' a s = r1
    obtain ⟨a1, s1⟩ := r1
    simp only
    generalize runQueue inner c' rest s1 = r2
    obtain ⟨a2, s2⟩ := r2
    rfl

theorem execCmd_withTx (inner : Inner) (c c' : Nat) (hne : c' ≠ c) (cis : List CI) (q) (s : Sys)
    (hb : ∀ l, (s.conn c').tx = some l → ∀ a ∈ l, ∀ sig, SigTable.find a.1 = some sig → BlindAt c inner sig a.2) :
    execCmd inner c' cis (s.withTx c q) = ((execCmd inner c' cis s).1, (execCmd inner c' cis s).2.withTx c q) := by
  have hconn : (s.withTx c q).conn c' = s.conn c' := Sys.withTx_conn_ne s q hne
  have comm := fun (t : Sys) g hid => Sys.updConn_withTx_comm t (c := c) (c' := c') q hne g hid
  cases htx : (s.conn c').tx with
  | none => rw [execCmd_run_none inner cis (hconn ▸ htx), execCmd_run_none inner cis htx]
  | some l =>
    cases hf : (s.conn c').txFailed with
    | true =>
      rw [execCmd_run_failed inner cis (hconn ▸ htx) (hconn ▸ hf), execCmd_run_failed inner cis htx hf]
      simp only
      rw [comm _ (fun x => { x with tx := none }) (fun _ => rfl),
        comm _ (fun x => { x with watchNotified := false, watches := [] }) (fun _ => rfl)]
    | false =>
      cases hw : (s.conn c').watchNotified with
      | true =>
        rw [execCmd_run_dirty inner cis (hconn ▸ htx) (hconn ▸ hf) (hconn ▸ hw), execCmd_run_dirty inner cis htx hf hw]
        simp only
        rw [comm _ (fun x => { x with tx := none, txFailed := false }) (fun _ => rfl),
          comm _ (fun x => { x with watchNotified := false, watches := [] }) (fun _ => rfl)]
      | false =>
        rw [execCmd_eq_sequential inner cis (hconn ▸ htx) (hconn ▸ hf) (hconn ▸ hw),
          execCmd_eq_sequential inner cis htx hf hw]
        simp only [bind, StateT.bind, modifyConn_run, clearWatches_run]
        rw [comm _ (fun x => { x with tx := none, txFailed := false }) (fun _ => rfl),
          comm _ (fun x => { x with watchNotified := false, watches := [] }) (fun _ => rfl),
          runQueue_withTx inner c c' hne l (hb l htx)]
        generalize runQueue inner c' l _ = r
        obtain ⟨rs, s2⟩ := r
        simp only
        cases rs.any Option.isNone <;> rfl
theorem notifyFn_setTx (d : Nat) (key : Bytes) (q) (x : Conn) :
    notifyFn d key (x.setTx q) = (notifyFn d key x).setTx q := by
  rw [notifyFn_fields, notifyFn_fields]; rfl

theorem Sys.afterRegular_withTx (s : Sys) (d : Nat) (o : RunOut) (c : Nat) (q) :
    (s.withTx c q).afterRegular d o = (s.afterRegular d o).withTx c q := by
  have comm : ∀ (ks : List Bytes) (x : Conn),
      ks.foldl (fun x k => notifyFn d k x) (x.setTx q) = (ks.foldl (fun x k => notifyFn d k x) x).setTx q := by
    intro ks
    induction ks with
    | nil => exact fun _ => rfl
    | cons k ks ih => intro x; rw [List.foldl_cons, List.foldl_cons, notifyFn_setTx, ih]
  exact Sys.withTx_comm (·.afterRegular d o) (fun x => o.notified.foldl (fun x k => notifyFn d k x) x)
    (fun s l => by rw [Sys.afterRegular_eq, Sys.afterRegular_eq]; rfl) (foldl_notifyFn_id d o.notified)
    (fun x _ => comm _ x) s

theorem runInner_regular_blind (mode : Mode) (c c' : Nat) (hne : c' ≠ c) (sig : Sig) (args : List Bytes)
    {body : Body} (hreg : Cmd.regular sig.name = some body) : BlindAt c (runInner mode c') sig args := by
  intro q s
  rw [runInner_regular_eq mode c' sig args hreg]
  have hconn : (s.withTx c q).conn c' = s.conn c' := Sys.withTx_conn_ne s q hne
  have hrr : (s.withTx c q).refuses c' sig = s.refuses c' sig := by unfold Sys.refuses; rw [hconn]
  cases hr : s.refuses c' sig with
  | true => rw [runWith_refused _ mode c' sig args false (hrr.trans hr), runWith_refused _ mode c' sig args false hr]
  | false =>
  rw [runWith_regular_run _ mode c' sig args false hreg _ (hrr.trans hr), runWith_regular_run _ mode c' sig args false hreg _ hr]
  have ho : (s.withTx c q).regularOut c' sig body args false = s.regularOut c' sig body args false := by
    unfold Sys.regularOut
    rw [hconn]
    rfl
  rw [ho, hconn, Sys.afterRegular_withTx]


end FR

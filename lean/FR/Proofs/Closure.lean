import FR.Proofs.Invariant
import FR.Proofs.AsyncLife
import FR.Proofs.Tower
import FR.Proofs.Events
/-!
# Invariants closed under the atomic state changes

Everything here is in the namespace `FR.Conserve`.  An invariant `I` of the state is carried through every command,
request and event once it survives the atomic state changes the model makes:

* `ReadStable I` ⊂ `ServerStable I` ⊂ `StableBase I c` ⊂ `Stable I mode c` ⊂ `Open I mode c`, each extending the one
  before: lazy reads and the replay's bookkeeping (all that a command which only reads does); FLUSHDB, the write-back of
  an item, a regular command, notifications, the script cache and `lastsave`; the `ConnOp`s on the record of the issuing
  connection; SWAPDB, MOVE and a blocking pop that is served or parks; the pub/sub bodies, EXEC's `inTx` mark and its
  assertion.  From `Stable`: every special body (the pub/sub bodies and EXEC as hypotheses asked for only under their
  names), `runWith`, the script machinery; from `Open`: `runCommand`.
* `Whole I` is not a further extension but a set of conditions of its own, for an invariant that reads nothing but the
  databases and the connection records (`Whole.frame`).  It gives `Open`, every event and every history.

Which way a new invariant goes:
* it reads only `(srv.dbs, srv.conns)`: `StableBase` → `Stable` (`toStable`; `toStable_ofSetDb` if it does not look into
  the databases) → `Whole`; models: `dataInv_base` / `dataInv_whole` of `History.lean`, `Kit` of `Conserve.lean`.
* it mentions `out`, the pub/sub tables or the clock, or holds of one connection only: `Open`, then `Open.loop`, and the
  events by hand from `Unpark` / `Wake` / `Events`.
* it needs a fact about the bodies that run (only bodies of the table, only keys nobody watches): it cannot be
  `ServerStable`, whose field `regular` speaks of every body, context and gate; it proves `ReadStable` and builds its own
  `Leaves` with a `Guard`, as `WatchSys.wi_leaves` does.

`ReadStable.reads` is asked under `NodupKeys (s.dbAt d).dict → Reads (s.dbAt d) db'`: the lazy reads of the model are
deletion-only only for a dictionary with unique keys; an instance gets the uniqueness from `I`.

The descent itself is in `Tower.lean` / `Seq.lean` / `Events.lean` (`StableBase.leaves`, `Whole.loop`, `Whole.release`,
`Whole.stepEv` supply their records); only the blocking pops and the wake-ups, sound after an unserved pass alone, are
judged from the state.
-/
namespace FR.Conserve
open FR FR.M FR.Db
set_option linter.unusedSimpArgs false
set_option linter.unusedSectionVars false

/-! ## deletion-only database updates -/

structure Del (db db' : Db) : Prop where
  nd : NodupKeys db'.dict
  sub : ∀ q ∈ db'.dict, q ∈ db.dict

theorem Del.of_reads {db db' : Db} (h : Reads db db') : Del db db' := ⟨h.nd, h.sub⟩

theorem Del.get' {db db' : Db} {k : Bytes} {r : Option Item} (nd : NodupKeys db.dict)
    (e : db.get k = (db', r)) : Del db db' := Del.of_reads (Reads.get' nd e)

theorem Del.apply' {db db' : Db} {sig : Sig} {raw : List Bytes} {r : Except Err Sig.Applied}
    (nd : NodupKeys db.dict) (e : sig.apply raw db = (db', r)) : Del db db' := by
  have : db' = (sig.apply raw db).1 := by rw [e]
  subst this; exact Del.of_reads (Sig.apply_reads sig raw nd)

theorem Del.purge {db : Db} (nd : NodupKeys db.dict) : Del db (Db.purge db) :=
  ⟨Db.purge_nodup nd, fun _ hq => (List.mem_filter.1 hq).1⟩

theorem Del.keys' {db db' : Db} {ks : List Bytes} (nd : NodupKeys db.dict) (e : db.keys = (db', ks)) :
    Del db db' := by
  have : db' = Db.purge db := (congrArg Prod.fst e).symm
  subst this; exact Del.purge nd

theorem Del.nil (db : Db) (t : Int) : Del db ⟨[], t⟩ :=
  ⟨by unfold NodupKeys; simp, fun q hq => by cases hq⟩

theorem Del.good {db db' : Db} (h : Del db db') (hg : Good db.dict) : Good db'.dict :=
  ⟨h.nd, fun q hq => hg.2 q (h.sub q hq)⟩

/-! ## the interface below `_run_command` -/

/-- the updates of the record of the issuing connection, EXEC's `inTx` mark and parking aside -/
inductive ConnOp : (Conn → Conn) → Prop
  | select (i : Nat) : ConnOp fun x => { x with db := i }
  | unwatch : ConnOp fun x => { x with watchNotified := false, watches := [] }
  | watch (d : Nat) (ks : List Bytes) : ConnOp fun x =>
      { x with watches := ks.foldl (fun w key => if w.contains (d, key) then w else w ++ [(d, key)]) x.watches }
  | multi : ConnOp fun x => { x with tx := some [], txFailed := false }
  | discard : ConnOp fun x => { x with tx := none, txFailed := false }
  | abort : ConnOp fun x => { x with tx := none }

/-- `I` survives what a command that only reads does: lazy deletions (`Reads`: `Database.get`, `keys()`,
`Signature.apply`) and the replay's bookkeeping.  `ErrSys.Quiet` is such an invariant, though it survives no write. -/
structure ReadStable (I : Sys → Prop) : Prop where
  reads : ∀ s d db', I s → (NodupKeys (s.dbAt d).dict → Reads (s.dbAt d) db') → I (s.setDbS d db')
  /-- clock readings are only consumed, `fault` is only ever set -/
  hint : ∀ s s' : Sys, s'.srv = s.srv → s'.out = s.out → s'.crashed = s.crashed →
    (s.fault.isSome = true → s'.fault.isSome = true) → (∀ t ∈ s'.clocks, t ∈ s.clocks) → I s → I s'

/-- `ReadStable`, and the other state changes below `_run_command` that concern no particular connection (`regular`: any
body, context and gate, not only those of the command table) -/
structure ServerStable (I : Sys → Prop) : Prop extends ReadStable I where
  clear : ∀ s d t, I s → I (s.setDbS d ⟨[], t⟩)
  wb : ∀ s d ci, I s → I (s.wbStep d ci)
  regular : ∀ s d sig body ctx gate raw, I s →
    I (s.afterRegular d (runRegular sig body ctx gate raw (s.dbAt d)))
  notify : ∀ s d k, I s → I (s.mapConns (notifyFn d k))
  scripts : ∀ g : List (Bytes × Bytes) → List (Bytes × Bytes),
    Pres I (modify fun s => { s with srv := { s.srv with scripts := g s.srv.scripts } })
  lastsave : ∀ t : Int, Pres I (modify fun s => { s with srv := { s.srv with lastsave := t } })

structure StableBase (I : Sys → Prop) (c : Nat) : Prop extends ServerStable I where
  conn : ∀ s f, ConnOp f → I s → I (s.updConn c f)

/-- `StableBase`, and the bodies that are not sequences of such steps: SWAPDB and MOVE, which write whole entries and
only then notify, and the blocking pops, which park on the database their pass has just found empty -/
structure Stable (I : Sys → Prop) (mode : Mode) (c : Nat) : Prop extends StableBase I c where
  swap : ∀ args cis, Pres I (swapdbCmd args cis)
  move : ∀ d args cis, Pres I (moveCmd d args cis)
  bpop : ∀ s kind left keys timeout, I s →
    PresAt I s (if mode.async then blockingAsync c kind keys (fun first => bpopPass (s.conn c).db left first keys)
      else blocking c mode.park kind keys timeout (fun first => bpopPass (s.conn c).db left first keys))
  brpoplpush : ∀ s src dst timeout, I s →
    PresAt I s (if mode.async then
        blockingAsync c "brpoplpush" [src, dst] (fun first => brpoplpushPass (s.conn c).db src dst first)
      else blocking c mode.park "brpoplpush" [src, dst] timeout (fun first => brpoplpushPass (s.conn c).db src dst first))

/-! ## rules for `PresAt` -/

section rules
variable {I : Sys → Prop}

theorem getDb_bind {β : Type} (i : Nat) {f : Db → M β} (hf : ∀ s, I s → PresAt I s (f (s.dbAt i))) :
    Pres I (getDb i >>= f) := fun s h => hf s h

theorem getConn_bind {β : Type} (c : Nat) {f : Conn → M β} (hf : ∀ s, I s → PresAt I s (f (s.conn c))) :
    Pres I (getConn c >>= f) := fun s h => hf s h

theorem at_bind {α β : Type} {s : Sys} {m : M α} {f : α → M β} (hm : PresAt I s m) (hf : ∀ a, Pres I (f a)) :
    PresAt I s (m >>= f) := hf _ _ hm

theorem at_pure {α : Type} {s : Sys} (a : α) (hs : I s) : PresAt I s (Pure.pure a : M α) := hs

theorem at_ite {α : Type} {s : Sys} {p : Prop} [Decidable p] {t e : M α} (ht : p → PresAt I s t)
    (he : ¬p → PresAt I s e) : PresAt I s (if p then t else e) := by
  split
  · exact ht ‹_›
  · exact he ‹_›

end rules

theorem regularStep_run (x : Conn) (sig : Sig) (body : Body) (raw : List Bytes) (fromScript : Bool) (s : Sys) :
    regularStep x sig body raw fromScript s =
      (some (runRegular sig body
          { version := s.srv.version, time := s.srv.time, dbnum := x.db, inTx := x.inTx, picks := s.picks }
          (runGate sig fromScript (x.pubsub > 0)) raw (s.dbAt x.db)).reply,
        s.afterRegular x.db (runRegular sig body
          { version := s.srv.version, time := s.srv.time, dbnum := x.db, inTx := x.inTx, picks := s.picks }
          (runGate sig fromScript (x.pubsub > 0)) raw (s.dbAt x.db))) := by
  unfold FR.regularStep Sys.afterRegular
  simp only [bind, StateT.bind, getDb_run', MonadState.get, getThe, MonadStateOf.get, StateT.get, setDb_run, modify,
    modifyGet, MonadStateOf.modifyGet, StateT.modifyGet, pure, StateT.pure]
  generalize runRegular _ _ _ _ _ _ = o
  cases hf : o.fault <;> rfl


theorem reads_purge {db : Db} (nd : NodupKeys db.dict) : Reads db (Db.purge db) :=
  ⟨purge_nodup nd, purge_idem db, fun _ hq => (List.mem_filter.1 hq).1⟩

namespace ReadStable
variable {I : Sys → Prop} (B : ReadStable I)
include B

theorem fault (msg : String) : Pres I (M.fault msg) := by
  intro s hs
  show I (if s.fault.isNone then { s with fault := some msg } else s)
  split
  · exact B.hint s _ rfl rfl rfl (fun _ => rfl) (fun _ h => h) hs
  · exact hs

theorem nextClock : Pres I nextClock := by
  intro s h
  rw [nextClock_run]
  split
  · rename_i t rest e
    exact B.hint s _ rfl rfl rfl id (fun _ ht => e ▸ List.mem_cons_of_mem _ ht) h
  · exact B.fault _ s h

theorem liveKeys (d : Nat) : Pres I (liveKeys d) := by
  intro s h
  unfold M.liveKeys
  simp only [bind, StateT.bind, getDb_run', setDb_run', pure, StateT.pure]
  exact B.reads s d _ h reads_purge

theorem touch (d : Nat) (k : Bytes) : Pres I (touchKey d k) :=
  fun s h => B.reads s d _ h (fun nd => Reads.get nd k)

theorem applySig (d : Nat) (sig : Sig) (raw : List Bytes) : Pres I (applySig d sig raw) :=
  fun s h => B.reads s d _ h (fun nd => Sig.apply_reads sig raw nd)

theorem at_setDb_bind {β : Type} {s : Sys} {i : Nat} {db' : Db} {g : PUnit → M β} (hs : I s)
    (hd : NodupKeys (s.dbAt i).dict → Reads (s.dbAt i) db') (hg : Pres I (g ⟨⟩)) : PresAt I s (setDb i db' >>= g) :=
  hg _ (B.reads s i db' hs hd)

theorem at_set_bind {β : Type} {s s' : Sys} {g : PUnit → M β} (hs : I s) (h1 : s'.srv = s.srv) (h2 : s'.out = s.out)
    (h3 : s'.crashed = s.crashed) (h4 : s'.fault = s.fault) (h5 : s'.clocks = s.clocks) (hg : Pres I (g ⟨⟩)) :
    PresAt I s (set s' >>= g) :=
  hg _ (B.hint s s' h1 h2 h3 (fun h => h4 ▸ h) (fun _ h => h5 ▸ h) hs)

theorem nextPick : Pres I nextPick := by
  unfold FR.nextPick
  refine Pres.get_bind (fun s hs => ?_)
  split
  · exact B.at_set_bind hs rfl rfl rfl rfl rfl (Pres.pure _)
  · exact Pres.at_of_pres (Pres.pure _) hs

theorem takeSetOrder (l : List Bytes) : Pres I (takeSetOrder l) := by
  unfold FR.takeSetOrder
  refine Pres.get_bind (fun st hs => ?_)
  split
  · split
    · exact B.at_set_bind hs rfl rfl rfl rfl rfl (Pres.pure _)
    · exact hs
  · exact hs

theorem randomkeyCmd (d : Nat) (cis : List CI) : Pres I (randomkeyCmd d cis) := by
  have hbad : ∀ msg e, Pres I (do M.fault msg; return .error e : M SpecialOut) :=
    fun _ _ => Pres.bind (B.fault _) (fun _ => Pres.pure _)
  unfold FR.randomkeyCmd okR
  refine Pres.bind (B.liveKeys d) (fun ks => ?_)
  split
  · exact Pres.pure _
  · refine Pres.get_bind (fun s hs => ?_)
    split
    · split
      · exact B.at_set_bind hs rfl rfl rfl rfl rfl (Pres.pure _)
      · exact hbad _ _ s hs
    · exact hbad _ _ s hs

theorem scanCmd (d : Nat) (args : List Arg) (cis : List CI) : Pres I (scanCmd d args cis) := by
  have hJ := Pres.seq I
  unfold FR.scanCmd okR; seq_descend hJ [B.liveKeys _, Pres.getDb _]

theorem lookupKey (d : Nat) (key pattern : Bytes) : Pres I (lookupKey d key pattern) :=
  lookupKey_at (Pres.seq I) (B.touch d) key pattern

theorem zunioninter (u : Bool) (d : Nat) (args : List Arg) (cis : List CI) : Pres I (zunioninter u d args cis) :=
  zunioninter_at (Pres.seq I) (B.touch d) u args cis

theorem shaHint : Pres I shaHint := by
  have hJ := Pres.seq I
  unfold FR.shaHint; seq_descend hJ [B.nextPick]

end ReadStable

namespace ServerStable
variable {I : Sys → Prop} (B : ServerStable I)
include B

theorem notifyWatch (d : Nat) (k : Bytes) : Pres I (notifyWatch d k) := fun s h => B.notify s d k h

theorem writebackAll (d : Nat) (cis : List CI) : Pres I (writebackAll d cis) := by
  intro s h
  induction cis generalizing s with
  | nil => exact h
  | cons ci cis ih => rw [writebackAll_cons]; exact ih _ (B.wb s d ci h)

theorem clearDb (d : Nat) : Pres I (clearDb d) := by
  unfold M.clearDb
  refine Pres.bind (B.liveKeys d) (fun ks => ?_)
  refine Pres.bind (Pres.forM (fun k => B.notifyWatch d k)) (fun _ => ?_)
  exact fun s h => B.clear s d _ h

theorem regularStep (x : Conn) (sig : Sig) (body : Body) (raw : List Bytes) (fromScript : Bool) :
    Pres I (regularStep x sig body raw fromScript) := by
  intro s h
  rw [regularStep_run]
  exact B.regular s x.db sig body _ _ raw h

theorem dbLeaves : DbLeaves (@Pres I) (fun _ => True) :=
  { Pres.seq I with
    touch := fun d _ => B.touch d, liveKeys := fun d _ => B.liveKeys d, clearDb := fun d _ => B.clearDb d,
    writebackAll := fun d _ cis _ => B.writebackAll d cis, fault := B.fault, takeSetOrder := B.takeSetOrder }

theorem bpopPass (d : Nat) (left first : Bool) (keys : List Bytes) : Pres I (bpopPass d left first keys) :=
  B.dbLeaves.bpopPass trivial left first keys

theorem brpoplpushPass (d : Nat) (src dst : Bytes) (first : Bool) : Pres I (brpoplpushPass d src dst first) :=
  B.dbLeaves.brpoplpushPass trivial src dst first

theorem parkedPass (c : Nat) (p : Parked) : Pres I (parkedPass c p) := B.dbLeaves.parkedPass c p trivial

end ServerStable

/-- how an unserved blocking pop parks the connection; the asyncio front-end pauses the parser as well -/
inductive ParkOp (mode : Mode) : (Conn → Conn) → Prop
  | park (p : Parked) : ParkOp mode fun x => { x with parked := some p }
  | pause (p : Parked) : mode.async = true → ParkOp mode fun x => { x with paused := true, parked := some p }

/-- `park`: the invariant survives parking whatever the pass found; `exec`: it survives EXEC's `inTx` mark and assertion -/
def guard (park exec : Prop) : Guard := { park := park, exec := exec }

namespace StableBase
variable {I : Sys → Prop} {c : Nat} (B : StableBase I c)
include B

theorem modifyConn (f : Conn → Conn) (hf : ConnOp f) : Pres I (modifyConn c f) := fun s h => B.conn s f hf h

theorem clearWatches : Pres I (clearWatches c) := B.modifyConn _ .unwatch

theorem leaves {mode : Mode} {park exec : Prop}
    (hpark : park → ∀ s f, ParkOp mode f → I s → I (s.updConn c f))
    (hinTx : exec → ∀ b : Bool, Pres I (M.modifyConn c fun x => { x with inTx := b }))
    (hcrash : exec → ∀ w : String, Pres I (modify fun s => { s with crashed := some w })) :
    Leaves (@Pres I) mode c (guard park exec) :=
  { B.dbLeaves with
    getConn := fun _ hf s hs => hf (s.conn c) trivial s hs
    conn_db := fun _ _ => trivial
    conn_tx := fun _ _ _ _ _ _ => trivial
    conn := fun f hf => by
      cases hf with
      | select i _ => exact B.modifyConn _ (.select i)
      | unwatch _ => exact B.modifyConn _ .unwatch
      | watch d ks => exact B.modifyConn _ (.watch d ks)
      | multi => exact B.modifyConn _ .multi
      | discard => exact B.modifyConn _ .discard
      | abort => exact B.modifyConn _ .abort
      | inTx b he => exact hinTx he b
      | park p hp => exact fun s h => hpark hp s _ (.park p) h
      | pause p hp hm => exact fun s h => hpark hp s _ (.pause p hm) h
    randomkey := fun d _ => B.randomkeyCmd d
    scan := fun d _ => B.scanCmd d
    applySig := fun d _ sig raw => Then.of (Pres.seq I) (B.applySig d sig raw) (fun _ _ _ _ => ⟨trivial, trivial⟩)
    regular := fun x _ sig body raw fromScript _ => B.regularStep x sig body raw fromScript
    writeback := fun d _ cis _ => B.writebackAll d cis
    nextClock := B.nextClock
    nextPick := B.nextPick
    readVersion := ReadOf.of_get (Pres.seq I) Pres.get _
    readScripts := ReadOf.of_get (Pres.seq I) Pres.get _
    cacheScript := fun sha script => B.scripts (ZSet.dictSet · sha script)
    flushScripts := B.scripts (fun _ => [])
    readLastsave := ReadOf.of_get (Pres.seq I) Pres.get _
    setLastsave := B.lastsave
    crash := hcrash }

end StableBase

/-! ## `special`, `_run_command`, scripts -/

namespace Stable
variable {I : Sys → Prop} {mode : Mode} {c : Nat} (S : Stable I mode c)
include S

theorem leaves : Leaves (@Pres I) mode c (guard False False) :=
  S.toStableBase.leaves False.elim False.elim False.elim

theorem special (inner : Inner) (name : String) (args : List Arg) (cis : List CI)
    (hpub : name = "publish" → ∀ ch m, Pres I (publish ch m))
    (hsub : name ∈ ["subscribe", "psubscribe"] → ∀ p names, Pres I (subscribeGen c p names))
    (hunsub : name ∈ ["unsubscribe", "punsubscribe"] → ∀ p names, Pres I (unsubscribeGen c p names))
    (hexec : name = "exec" → ∀ cis, Pres I (execCmd inner c cis)) :
    Pres I (FR.special inner mode c name args cis) := by
  -- BLPOP, BRPOP and BRPOPLPUSH park on the database of `s.conn c`, the one their pass has just found empty: they are
  -- judged from the state in which the record is read
  by_cases hb : name = "blpop" ∨ name = "brpop"
  · have key : ∀ n, n = "blpop" ∨ n = "brpop" → Pres I (FR.special inner mode c n args cis) := by
      intro n hn
      rcases hn with rfl | rfl
      all_goals
        unfold FR.special
        refine getConn_bind c (fun s hs => ?_)
        simp only []
        split
        · exact at_pure _ hs
        split
        · exact at_pure _ hs
        refine at_bind (S.bpop s _ _ _ _ hs) (fun r => ?_)
        split
        · exact Pres.pure _
        · exact Pres.pure _
    exact key name hb
  by_cases hr : name = "brpoplpush"
  · subst hr
    unfold FR.special
    refine getConn_bind c (fun s hs => ?_)
    simp only []
    split
    · refine at_bind (S.brpoplpush s _ _ _ hs) (fun r => ?_)
      split
      · exact Pres.pure _
      · exact Pres.pure _
    · exact at_pure _ hs
  exact special_at (S.leaves.callees inner name args (fun _ _ _ => trivial) (fun _ _ => trivial) (fun _ => trivial)
    (fun _ => S.swap args)
    (fun _ d _ => S.move d args) hexec (fun h => absurd h hb) (fun h => absurd h hr)
    (fun h => hsub (h.elim (fun e => e ▸ List.mem_cons_self ..) (fun e => e ▸ List.mem_cons_of_mem _ (List.mem_cons_self ..))))
    (fun h => hunsub (h.elim (fun e => e ▸ List.mem_cons_self ..) (fun e => e ▸ List.mem_cons_of_mem _ (List.mem_cons_self ..))))
    hpub cis)

theorem special_plain (inner : Inner) (name : String) (args : List Arg) (cis : List CI)
    (hn : name ∉ ["subscribe", "psubscribe", "unsubscribe", "punsubscribe", "exec"])
    (hpub : ∀ ch m, Pres I (publish ch m)) : Pres I (FR.special inner mode c name args cis) :=
  S.special inner name args cis (fun _ => hpub)
    (fun h => absurd (List.mem_append_left ["unsubscribe", "punsubscribe", "exec"] h) hn)
    (fun h => absurd (List.mem_append_right ["subscribe", "psubscribe"] (List.mem_append_left ["exec"] h)) hn)
    (fun h => absurd (h ▸ (by decide : "exec" ∈ ["subscribe", "psubscribe", "unsubscribe", "punsubscribe", "exec"])) hn)

theorem runWith_regular (special : SpecialFn) (sig : Sig) (raw : List Bytes) (fromScript : Bool) {body : Body}
    (h : Cmd.regular sig.name = some body) : Pres I (FR.runWith special mode c sig raw fromScript) := by
  intro s hs
  cases hr : s.refuses c sig with
  | true => rw [runWith_refused special mode c sig raw fromScript hr]; exact hs
  | false =>
    rw [runWith_regular_run special mode c sig raw fromScript h s hr]
    exact S.regular s _ sig body _ _ raw hs

theorem runWith (special : SpecialFn) (sig : Sig) (raw : List Bytes) (fromScript : Bool)
    (hsp : ∀ args cis, Pres I (special mode c sig.name args cis)) :
    Pres I (FR.runWith special mode c sig raw fromScript) :=
  S.leaves.runWith special sig raw fromScript (S.leaves.specialAt_of (fun _ => trivial) (fun _ => hsp))

theorem runInner (hstub : ∀ name args cis, Pres I (FR.special nestedStub mode c name args cis))
    (sig : Sig) (raw : List Bytes) : Pres I (FR.runInner mode c sig raw) :=
  S.leaves.runInner (fun _ _ _ _ => S.leaves.specialAt_of (fun _ => trivial) (fun _ => hstub _)) sig raw
    (S.leaves.specialAt_of (fun _ => trivial) (fun _ => hstub _))

end Stable

/-- `Stable`, and the pub/sub bodies, EXEC's `inTx` mark and the `crashed` mark of its assertion: every command -/
structure Open (I : Sys → Prop) (mode : Mode) (c : Nat) : Prop extends Stable I mode c where
  inTx : ∀ b : Bool, Pres I (modifyConn c fun x => { x with inTx := b })
  crash : ∀ w : String, Pres I (modify fun s => { s with crashed := some w })
  pub : ∀ ch m, Pres I (publish ch m)
  sub : ∀ p names, Pres I (subscribeGen c p names)
  unsub : ∀ p names, Pres I (unsubscribeGen c p names)

namespace Open
variable {I : Sys → Prop} {mode : Mode} {c : Nat} (O : Open I mode c)
include O

theorem leaves : Leaves (@Pres I) mode c (guard False True) :=
  O.toStableBase.leaves False.elim (fun _ => O.inTx) (fun _ => O.crash)

theorem execCmd (inner : Inner) (hinner : ∀ sig raw, Pres I (inner sig raw)) (cis : List CI) :
    Pres I (execCmd inner c cis) := O.leaves.execCmd trivial trivial inner (fun sig raw _ _ => hinner sig raw) cis

theorem special (inner : Inner) (hinner : ∀ sig raw, Pres I (inner sig raw)) (name : String) (args : List Arg)
    (cis : List CI) : Pres I (special inner mode c name args cis) :=
  O.toStable.special inner name args cis (fun _ => O.pub) (fun _ => O.sub) (fun _ => O.unsub)
    (fun _ => O.execCmd inner hinner)

theorem specialStub (name : String) (args : List Arg) (cis : List CI) :
    Pres I (FR.special nestedStub mode c name args cis) := O.special _ O.leaves.nestedStub name args cis

theorem runInner (sig : Sig) (raw : List Bytes) : Pres I (runInner mode c sig raw) :=
  O.leaves.runInner (fun _ _ _ _ => O.leaves.specialAt_of (fun _ => trivial) (fun _ => O.specialStub _)) sig raw
    (O.leaves.specialAt_of (fun _ => trivial) (fun _ => O.specialStub _))

theorem runCommand (sig : Sig) (raw : List Bytes) (fromScript : Bool) :
    Pres I (runCommand mode c sig raw fromScript) :=
  O.leaves.runCommand (fun _ _ _ _ => O.leaves.specialAt_of (fun _ => trivial) (fun _ => O.specialStub _)) sig raw fromScript
    (O.leaves.specialAt_of (fun _ => trivial) (fun _ => O.special _ O.runInner _))

end Open

/-- the updates of the record of `c` that `_process_command` and the parser loop make themselves -/
inductive ProcUpd : (Conn → Conn) → Prop
  | poison : ProcUpd fun x => { x with txFailed := true }
  | enqueue (name : String) (args : List Bytes) : ProcUpd fun x => { x with tx := x.tx.map (· ++ [(name, args)]) }
  | markDead : ProcUpd fun x => { x with dead := true }
  | setBuf (rest : Bytes) : ProcUpd fun x => { x with buf := rest }
  | appendBuf (data : Bytes) : ProcUpd fun x => { x with buf := x.buf ++ data }

theorem Open.loop {I : Sys → Prop} {mode : Mode} {c : Nat} (O : Open I mode c) (emit : ∀ r, Pres I (emit c r))
    (clean : Pres I cleanupClosed)
    (time : ∀ now : Int, Pres I (modify fun s => { s with srv := { s.srv with time := now } }))
    (upd : ∀ f, ProcUpd f → Pres I (modifyConn c f)) : Loop (@Pres I) mode c where
  toSeq := Pres.seq I
  process := fun _ => processCommand_of
    { toSeq := Pres.seq I
      readCrashed := ReadOf.of_get (Pres.seq I) Pres.get _
      getConn := fun _ hf => Pres.bind (Pres.getConn c) hf
      emit := emit
      cleanupClosed := clean
      refresh := Pres.bind O.nextClock time
      clearWatches := fun _ => O.clearWatches
      poison := upd _ .poison
      dropTx := O.modifyConn _ .discard
      enqueue := fun _ _ => upd _ (.enqueue _ _)
      markDead := upd _ .markDead
      runCommand := fun sig _ => O.runCommand sig _ false }
  readConnected := ReadOf.of_get (Pres.seq I) Pres.get _
  getConn := Pres.getConn c
  setBuf := fun _ => upd _ (.setBuf _)
  appendBuf := fun _ => upd _ (.appendBuf _)
  crash := O.crash

/-! ## invariants that do not look into the databases, invariants that parking cannot break -/

section blind
variable {I : Sys → Prop} {c : Nat}

/-- for an invariant that does not look into the databases, the write-back and the regular commands are sequences of
`setDb`, notifications and bookkeeping -/
theorem ServerStable.ofSetDb (setDb : ∀ s i db, I s → I (s.setDbS i db))
    (notify : ∀ s d k, I s → I (s.mapConns (notifyFn d k)))
    (hint : ∀ s s' : Sys, s'.srv = s.srv → s'.out = s.out → s'.crashed = s.crashed →
      (s.fault.isSome = true → s'.fault.isSome = true) → I s → I s')
    (scripts : ∀ g : List (Bytes × Bytes) → List (Bytes × Bytes),
      Pres I (modify fun s => { s with srv := { s.srv with scripts := g s.srv.scripts } }))
    (lastsave : ∀ t : Int, Pres I (modify fun s => { s with srv := { s.srv with lastsave := t } })) :
    ServerStable I := by
  refine { reads := fun s d db' h _ => setDb s d db' h, clear := fun s d _ h => setDb s d _ h, notify := notify,
           hint := fun s s' h1 h2 h3 h4 _ => hint s s' h1 h2 h3 h4,
           scripts := scripts, lastsave := lastsave, wb := ?_, regular := ?_ }
  · intro s d ci h
    unfold Sys.wbStep
    simp only
    split
    · exact notify _ _ _ (setDb _ _ _ h)
    · exact setDb _ _ _ h
  · intro s d sig body ctx gate raw h
    unfold Sys.afterRegular
    generalize runRegular sig body ctx gate raw (s.dbAt d) = o
    refine Pres.forM (fun k s h => notify s d k h) _ ?_
    have h1 := setDb s d o.db h
    unfold Sys.faultS
    split
    · split
      · exact hint (s.setDbS d o.db) _ rfl rfl rfl (fun _ => rfl) h1
      · exact hint (s.setDbS d o.db) _ rfl rfl rfl id h1
    · exact hint (s.setDbS d o.db) _ rfl rfl rfl id h1

theorem StableBase.ofSetDb (setDb : ∀ s i db, I s → I (s.setDbS i db))
    (conn : ∀ s f, ConnOp f → I s → I (s.updConn c f)) (notify : ∀ s d k, I s → I (s.mapConns (notifyFn d k)))
    (hint : ∀ s s' : Sys, s'.srv = s.srv → s'.out = s.out → s'.crashed = s.crashed →
      (s.fault.isSome = true → s'.fault.isSome = true) → I s → I s')
    (scripts : ∀ g : List (Bytes × Bytes) → List (Bytes × Bytes),
      Pres I (modify fun s => { s with srv := { s.srv with scripts := g s.srv.scripts } }))
    (lastsave : ∀ t : Int, Pres I (modify fun s => { s with srv := { s.srv with lastsave := t } })) :
    StableBase I c :=
  { ServerStable.ofSetDb setDb notify hint scripts lastsave with conn := conn }

theorem StableBase.toStable {mode : Mode} (B : StableBase I c) (swap : ∀ args cis, Pres I (swapdbCmd args cis))
    (move : ∀ d args cis, Pres I (moveCmd d args cis))
    (park : ∀ s f, ParkOp mode f → I s → I (s.updConn c f)) : Stable I mode c :=
  have L : Leaves (@Pres I) mode c (guard True False) := B.leaves (fun _ => park) False.elim False.elim
  { B with
    swap := swap
    move := move
    bpop := fun s kind _ keys timeout hs =>
      L.blockingPop trivial kind keys timeout _ (fun _ => B.bpopPass _ _ _ _) s hs
    brpoplpush := fun s _ _ timeout hs =>
      L.blockingPop trivial _ _ timeout _ (fun _ => B.brpoplpushPass _ _ _ _) s hs }

theorem StableBase.toStable_ofSetDb {mode : Mode} (B : StableBase I c) (setDb : ∀ s i db, I s → I (s.setDbS i db))
    (park : ∀ s f, ParkOp mode f → I s → I (s.updConn c f)) : Stable I mode c := by
  have hJ := Pres.seq I
  have hset : ∀ i db, Pres I (M.setDb i db) := fun i db s h => setDb s i db h
  refine B.toStable (fun args cis => ?_) (fun d args cis => ?_) park
  · unfold swapdbCmd okR; seq_descend hJ [Pres.getDb _, hset _ _, B.liveKeys _, B.notifyWatch _ _]
  · unfold moveCmd; seq_descend hJ [Pres.getDb _, hset _ _, B.notifyWatch _ _]

end blind

/-! ## `_process_command`, the parser loop, the events: invariants over the databases and the connection records -/

def ConnFrame (f : Conn → Conn) : Prop := ∀ x, (f x).parked = x.parked ∧ (f x).inTx = x.inTx ∧ (f x).id = x.id

/-- an update that un-parks (the state-level condition; the record of leaves of the same name is `FR.Unpark` of
`Events.lean`) -/
def Unpark (f : Conn → Conn) : Prop := ∀ x, (f x).parked = none ∧ (f x).inTx = x.inTx ∧ (f x).id = x.id

/-- The conditions under which `I` is carried through every event: it depends on nothing but the databases and the
connection records (`frame`), and of a record on nothing that `_process_command`, the parser loop or the pub/sub commands
write (`conn`), nor on EXEC's mark; a parked connection may be released, and stays parked with its flag cleared after a
re-check that found nothing (`stay`). -/
structure Whole (I : Sys → Prop) : Prop where
  cmd : ∀ mode c, Stable I mode c
  frame : ∀ s s' : Sys, s'.srv.dbs = s.srv.dbs → s'.srv.conns = s.srv.conns → I s → I s'
  conn : ∀ s c f, ConnFrame f → I s → I (s.updConn c f)
  inTx : ∀ s c (b : Bool), I s → I (s.updConn c fun x => { x with inTx := b })
  unpark : ∀ s c f, Unpark f → I s → I (s.updConn c f)
  stay : ∀ s c p, I s → (s.conn c).parked = some p → (parkedPass c p s).1 = .ok none →
    I ((parkedPass c p s).2.updConn c (stayParked p))
  opn : ∀ s c, I s → I (openConn c s).2
  gc : ∀ s c, I s → I (gcConn c s).2

/-- (P)SUBSCRIBE is, name by name, a change of a table and perhaps of the subscription count of `c` (`Sys.subState`)
and a reply -/
theorem pres_subscribeGen {I : Sys → Prop} {c : Nat} (hemit : ∀ r, Pres I (emit c r))
    (hst : ∀ s p n, I s → I (s.subState c p n)) (p : Bool) (names : List Bytes) : Pres I (subscribeGen c p names) := by
  rw [subscribeGen_eq]
  refine Pres.forM (fun n s h => ?_)
  rw [subStep_run, ← emit_run]
  exact hemit _ _ (hst s p n h)

/-- (P)UNSUBSCRIBE is, name by name, a change of a table and perhaps of the subscription count of `c`
(`Sys.unsubState`) and a reply, for the names given or for all names of `c`; or it is one reply when there is none -/
theorem pres_unsubscribeGen {I : Sys → Prop} {c : Nat} (hemit : ∀ r, Pres I (emit c r))
    (hst : ∀ s p n, I s → I (s.unsubState c p n)) (p : Bool) (names : List Bytes) :
    Pres I (unsubscribeGen c p names) := by
  have hstep : ∀ n, Pres I (unsubStep c p n) := fun n s h => by
    rw [unsubStep_run, ← emit_run]
    exact hemit _ _ (hst s p n h)
  intro s hs
  by_cases hn : names = []
  · subst hn
    by_cases hsn : s.subscribedNames c p = []
    · rw [unsubscribeGen_nil_none _ _ _ hsn]
      have := hemit (.arr [.bulk (unsubType p), .nil, .int (s.conn c).pubsub]) s hs
      rwa [emit_run] at this
    · rw [unsubscribeGen_nil_some _ _ _ hsn]; exact Pres.forM hstep s hs
  · rw [unsubscribeGen_explicit _ _ _ _ hn]; exact Pres.forM hstep s hs

theorem pres_pubsub {I : Sys → Prop} {c : Nat}
    (frame : ∀ s s' : Sys, s'.srv.dbs = s.srv.dbs → s'.srv.conns = s.srv.conns → I s → I s')
    (conn : ∀ s f, ConnFrame f → I s → I (s.updConn c f)) :
    (∀ ch m, Pres I (publish ch m)) ∧ (∀ p names, Pres I (subscribeGen c p names)) ∧
      (∀ p names, Pres I (unsubscribeGen c p names)) := by
  have hemit : ∀ r, Pres I (emit c r) := fun r s h => by
    rw [emit_run]; exact frame s _ (by rw [Sys.emitS_srv]) (by rw [Sys.emitS_srv]) h
  have htbl : ∀ s p t, I s → I (s.setTbl p t) := fun s p t h => frame s _ (Sys.setTbl_dbs s p t) (Sys.setTbl_conns s p t) h
  refine ⟨fun ch m s h => ?_, pres_subscribeGen hemit (fun s p n h => ?_), pres_unsubscribeGen hemit (fun s p n h => ?_)⟩
  · rw [publish_run]; exact frame s _ rfl rfl h
  · unfold Sys.subState
    simp only
    split
    · exact conn _ (fun x => { x with pubsub := x.pubsub + 1 }) (fun _ => ⟨rfl, rfl, rfl⟩) (htbl _ _ _ h)
    · exact htbl _ _ _ h
  · unfold Sys.unsubState
    simp only
    split
    · exact conn _ (fun x => { x with pubsub := x.pubsub - 1 }) (fun _ => ⟨rfl, rfl, rfl⟩) (htbl _ _ _ h)
    · exact htbl _ _ _ h

namespace Whole
variable {I : Sys → Prop} (W : Whole I)
include W

theorem base (c : Nat) : StableBase I c := (W.cmd {} c).toStableBase

theorem modifyFrame (g : Sys → Sys) (h : ∀ s, (g s).srv.dbs = s.srv.dbs ∧ (g s).srv.conns = s.srv.conns) :
    Pres I (modify g) := fun s hs => W.frame s (g s) (h s).1 (h s).2 hs

theorem emitS (s : Sys) (c : Nat) (r : Reply) (h : I s) : I (s.emitS c r) :=
  W.frame s _ (by rw [Sys.emitS_srv]) (by rw [Sys.emitS_srv]) h

theorem emit (c : Nat) (r : Reply) : Pres I (emit c r) := by
  intro s h
  rw [emit_run]
  exact W.emitS s c r h

theorem modifyConn (c : Nat) (f : Conn → Conn)
    (hf : ∀ x : Conn, (f x).parked = x.parked ∧ (f x).inTx = x.inTx ∧ (f x).id = x.id) :
    Pres I (modifyConn c f) := fun s h => W.conn s c f hf h

theorem unparkConn (c : Nat) (f : Conn → Conn)
    (hf : ∀ x : Conn, (f x).parked = none ∧ (f x).inTx = x.inTx ∧ (f x).id = x.id) :
    Pres I (M.modifyConn c f) := fun s h => W.unpark s c f hf h

theorem «open» (mode : Mode) (c : Nat) : Open I mode c :=
  { W.cmd mode c with
    inTx := fun b s h => W.inTx s c b h
    crash := fun _ => W.modifyFrame _ (fun _ => ⟨rfl, rfl⟩)
    pub := (pres_pubsub W.frame (W.conn · c)).1
    sub := (pres_pubsub W.frame (W.conn · c)).2.1
    unsub := (pres_pubsub W.frame (W.conn · c)).2.2 }

theorem cleanupClosed : Pres I cleanupClosed := by
  intro s h
  rw [cleanupClosed_run]
  refine W.frame (s.srv.closedSockets.foldl Sys.forget s) _ rfl rfl ?_
  generalize s.srv.closedSockets = l
  induction l generalizing s with
  | nil => exact h
  | cons c' l ih =>
    refine ih _ ?_
    exact W.conn _ c' _ (fun _ => ⟨rfl, rfl, rfl⟩) (W.frame s _ rfl rfl h)

theorem loop (mode : Mode) (c : Nat) : Loop (@Pres I) mode c :=
  (W.open mode c).loop (W.emit c) W.cleanupClosed (fun _ => W.modifyFrame _ (fun _ => ⟨rfl, rfl⟩))
    (fun f hf => W.modifyConn c f (by cases hf <;> exact fun _ => ⟨rfl, rfl, rfl⟩))

theorem processCommand (mode : Mode) (c : Nat) (fields : List Bytes) : Pres I (processCommand mode c fields) :=
  (W.loop mode c).process fields

theorem drain (mode : Mode) (c : Nat) (fuel : Nat) : Pres I (drain mode c fuel) := drain_of (W.loop mode c).toDrain fuel

theorem sendall (mode : Mode) (c : Nat) (data : Bytes) : Pres I (sendall mode c data) := sendall_of (W.loop mode c) data

theorem sendallGuarded (mode : Mode) (c : Nat) (data : Bytes) : Pres I (sendallGuarded mode c data) :=
  sendallGuarded_of (W.loop mode c) data

theorem release (c : Nat) : FR.Unpark (@Pres I) c :=
  { Pres.seq I with
    getConn := Pres.getConn c, fault := (W.base c).fault, emit := W.emit c,
    unpark := W.unparkConn c _ (fun _ => ⟨rfl, rfl, rfl⟩), resume := W.unparkConn c _ (fun _ => ⟨rfl, rfl, rfl⟩) }

theorem timeoutConn (c : Nat) : Pres I (timeoutConn c) := (W.release c).timeoutConn

theorem timeoutConnAsync (mode : Mode) (c : Nat) : Pres I (timeoutConnAsync mode c) :=
  (W.release c).timeoutConnAsync mode (W.drain mode c)

theorem wakeConn (c : Nat) : Pres I (wakeConn c) := by
  intro s hs
  rw [wakeConn_eq]
  cases hp : (s.conn c).parked with
  | none => exact (W.base c).fault _ s hs
  | some p =>
    dsimp only
    rw [wakeState_eq]
    -- the clock reading of an unserved turn touches neither databases nor records
    have hsrv := wakeClock_srv p (parkedPass c p s).1 (parkedPass c p s).2
    split
    · exact W.emitS _ c _ (W.unpark _ c FR.unpark (fun _ => ⟨rfl, rfl, rfl⟩)
        (W.frame _ _ (by rw [hsrv]) (by rw [hsrv]) ((W.base c).parkedPass c p s hs)))
    · rename_i hr
      refine W.frame _ _ ?_ ?_ (W.stay s c p hs hp (wakeReply_none hr).1)
      · simp only [Sys.updConn_dbs, hsrv]
      · unfold Sys.updConn; simp only [hsrv]

theorem wakeConnAsync (mode : Mode) (c : Nat) : Pres I (wakeConnAsync mode c) := by
  intro s hs
  rw [wakeConnAsync_eq]
  cases hp : (s.conn c).parked with
  | none => exact (W.base c).fault _ s hs
  | some p =>
    dsimp only
    split
    · exact W.drain mode c _ _ (W.emitS _ c _ (W.unpark _ c Conn.unpark (fun _ => ⟨rfl, rfl, rfl⟩)
        ((W.base c).parkedPass c p s hs)))
    · rename_i hr
      exact W.stay s c p hs hp (ListKeys.passReply_eq_none hr)

theorem closeConn (c : Nat) : Pres I (closeConn c) := by
  intro s h
  rw [closeConn_run]
  exact W.conn _ c _ (fun _ => ⟨rfl, rfl, rfl⟩) (W.frame s _ rfl rfl h)

theorem stepEv (s : Sys) (e : Ev) (h : I s) : I (stepEv s e) :=
  Events.stepEv (P := fun s _ s' => I s → I s')
    { version := fun _ s h => W.frame s _ rfl rfl h
      opn := fun c s h => W.opn _ c (W.frame s _ rfl rfl h)
      close := fun c s h => W.closeConn c _ (W.frame s _ rfl rfl h)
      gc := fun c s h => W.gc _ c (W.frame s _ rfl rfl h)
      conn := fun _ s h => W.frame s _ rfl rfl h
      request := fun mode c fields _ _ s h => W.processCommand mode c fields _ (W.frame s _ rfl rfl h)
      send := fun mode c data _ _ s h => W.sendallGuarded mode c data _ (W.frame s _ rfl rfl h)
      wake := fun c _ s h => W.wakeConn c _ (W.frame s _ rfl rfl h)
      timeout := fun c s h => W.timeoutConn c _ (W.frame s _ rfl rfl h)
      awake := fun mode c _ _ s h => W.wakeConnAsync mode c _ (W.frame s _ rfl rfl h)
      atimeout := fun mode c _ _ s h => W.timeoutConnAsync mode c _ (W.frame s _ rfl rfl h) } s e h

theorem foldl (evs : List Ev) (s : Sys) (h : I s) : I (evs.foldl FR.stepEv s) := by
  induction evs generalizing s with
  | nil => exact h
  | cons e es ih => exact ih _ (W.stepEv s e h)

theorem runHistory (h0 : I {}) (evs : List Ev) : I (runHistory evs) := W.foldl evs {} h0

end Whole

end FR.Conserve

import FR.Proofs.History
import FR.Proofs.RelJ
import FR.Proofs.Tower
import FR.Proofs.Parser
/-!
# Command processing does not look at the connection's input buffer (C04)

`EB c e m`: `m` commutes with an edit `e` of the input buffer of connection `c` — same value, same final state up to the
edit.  Every building block of command processing has this property, hence so has `_process_command`.  Two edits are
used: overwriting the buffer (`NI c X`; for `processCommand` this is `BufIndependent`, the hypothesis of the conditional
chunking theorems) and appending the bytes of a write (the passes of a parked pop).  The chunking theorems for `sendall`
follow.  The lemmas `ni_*` are stated for `EB c e`, every edit, not only for the overwrite `NI`.
-/
namespace FR.BufIndep
open FR M

/-! ## The property -/

def sbC (c : Nat) (X : Bytes) (x : Conn) : Conn := if x.id == c then { x with buf := X } else x

def edC (c : Nat) (e : Bytes → Bytes) (x : Conn) : Conn := if x.id == c then { x with buf := e x.buf } else x

/-- edit the input buffer of connection `c`: `setBuf c X` is `editBuf c fun _ => X`, `appendBuf c b` is
`editBuf c (· ++ b)` -/
def editBuf (c : Nat) (e : Bytes → Bytes) (s : Sys) : Sys :=
  { s with srv := { s.srv with conns := s.srv.conns.map (edC c e) } }

theorem edC_id (c : Nat) (e : Bytes → Bytes) (x : Conn) : (edC c e x).id = x.id := by
  unfold edC; split <;> rfl

theorem edC_cases (c : Nat) (e : Bytes → Bytes) (x : Conn) : edC c e x = x ∨ ∃ B, edC c e x = { x with buf := B } := by
  unfold edC; split
  · exact Or.inr ⟨_, rfl⟩
  · exact Or.inl rfl

theorem setBuf_eq (c : Nat) (X : Bytes) (s : Sys) :
    setBuf c X s = { s with srv := { s.srv with conns := s.srv.conns.map (sbC c X) } } := rfl

theorem setBuf_eq_updConn (c : Nat) (X : Bytes) (s : Sys) : setBuf c X s = s.updConn c fun x => { x with buf := X } := rfl

def EB (c : Nat) (e : Bytes → Bytes) {α : Type} (m : M α) : Prop :=
  ∀ s, m (editBuf c e s) = ((m s).1, editBuf c e (m s).2)

def NI (c : Nat) (X : Bytes) {α : Type} (m : M α) : Prop :=
  ∀ s, m (setBuf c X s) = ((m s).1, setBuf c X (m s).2)

theorem EB.ni {c : Nat} {X : Bytes} {α : Type} {m : M α} (h : EB c (fun _ => X) m) : NI c X m := h

/-- the same from one particular state, with possibly different code on the two sides -/
def NIAt (c : Nat) (X : Bytes) {α : Type} (s : Sys) (m₁ m₂ : M α) : Prop :=
  m₂ (setBuf c X s) = ((m₁ s).1, setBuf c X (m₁ s).2)

abbrev BufIs (c : Nat) (e : Bytes → Bytes) (s₁ s₂ : Sys) : Prop := s₂ = editBuf c e s₁

namespace EB
variable {c : Nat} {e : Bytes → Bytes} {α β : Type}

/-- `EB c e` is the two-run judgment of `FR/Proofs/RelJ.lean` for `BufIs c e` -/
theorem iff_relJ {m : M α} : EB c e m ↔ RelJ (BufIs c e) (BufIs c e) Eq m m :=
  ⟨fun h s _ hr => by subst hr; rw [h s]; exact ⟨rfl, rfl⟩, fun h s => Prod.ext (h s _ rfl).1.symm (h s _ rfl).2⟩

theorem pure (a : α) : EB c e (Pure.pure a : M α) := fun _ => rfl

theorem bind {m : M α} {f : α → M β} (hm : EB c e m) (hf : ∀ a, EB c e (f a)) : EB c e (m >>= f) :=
  iff_relJ.2 (RelJ.bindEq (iff_relJ.1 hm) (fun a => iff_relJ.1 (hf a)))

theorem get_bind_same {f : Sys → M β} (hsame : ∀ s, f (editBuf c e s) = f s) (hf : ∀ s, EB c e (f s)) :
    EB c e (get >>= f) := by
  intro s
  show f (editBuf c e s) (editBuf c e s) = _
  rw [hsame]
  exact hf s s

theorem seq : Seq (@EB c e) := ⟨pure, bind⟩

theorem picksFree : PicksFree (BufIs c e) where
  eq := fun _ _ h => by rw [h]; rfl
  set := fun _ _ _ h => by rw [h]; rfl

end EB

namespace NI
variable {c : Nat} {X : Bytes} {α β : Type}

theorem at_of_ni_same {m₁ m₂ : M α} {s : Sys} (h : m₂ = m₁) (hm : NI c X m₁) : NIAt c X s m₁ m₂ := by
  subst h; exact hm s

theorem map {m : M α} (g : α → β) (hm : NI c X m) : NI c X (g <$> m) :=
  (EB.seq (c := c) (e := fun _ => X)).map g hm

end NI

/-! ## Building blocks -/

section blocks
variable {c : Nat} {e : Bytes → Bytes}

theorem findConn_editBuf (c' : Nat) (s : Sys) :
    findConn (editBuf c e s) c' = (findConn s c').map (edC c e) :=
  find_map_conns _ (edC_id c e) c' _

/-- the record handed out may differ in `buf`: fine when the continuation does not look at `buf` -/
theorem ni_getConn_bind {β : Type} (c' : Nat) {f : Conn → M β}
    (hsame : ∀ conn B, f { conn with buf := B } = f conn)
    (hf : ∀ conn, EB c e (f conn)) : EB c e (getConn c' >>= f) := by
  intro s
  show f ((findConn (editBuf c e s) c').getD { id := c' }) (editBuf c e s) = _
  rw [findConn_editBuf]
  have : f (((findConn s c').map (edC c e)).getD { id := c' }) = f ((findConn s c').getD { id := c' }) := by
    cases findConn s c' with
    | none => rfl
    | some x =>
      show f (edC c e x) = f x
      rcases edC_cases c e x with h | ⟨B, h⟩ <;> rw [h]
      exact hsame x B
  rw [this]
  exact hf _ s

theorem ni_modify (g : Sys → Sys) (hg : ∀ s, g (editBuf c e s) = editBuf c e (g s)) : EB c e (modify g) := by
  intro s
  show (PUnit.unit, g (editBuf c e s)) = _
  rw [hg]; rfl

theorem ni_mapConns (h : Conn → Conn) (hid : ∀ x, (h x).id = x.id)
    (hb : ∀ x B, h { x with buf := B } = { h x with buf := B }) :
    EB c e (modify fun s => { s with srv := { s.srv with conns := s.srv.conns.map h } }) := by
  refine ni_modify _ (fun s => ?_)
  show ({ s with srv := { s.srv with conns := (s.srv.conns.map (edC c e)).map h } } : Sys) =
    { s with srv := { s.srv with conns := (s.srv.conns.map h).map (edC c e) } }
  have : (s.srv.conns.map (edC c e)).map h = (s.srv.conns.map h).map (edC c e) := by
    rw [List.map_map, List.map_map]
    apply List.map_congr_left
    intro x _
    show h (edC c e x) = edC c e (h x)
    -- `h` leaves `buf` alone: overwrite it by itself
    have hbuf : (h x).buf = x.buf := (congrArg Conn.buf (hb x x.buf) :)
    by_cases hx : (x.id == c) = true
    · have h1 : edC c e x = { x with buf := e x.buf } := if_pos hx
      have h2 : edC c e (h x) = { h x with buf := e (h x).buf } := if_pos (by rw [hid]; exact hx)
      rw [h1, h2, hbuf]; exact hb x _
    · have h1 : edC c e x = x := if_neg hx
      have h2 : edC c e (h x) = h x := if_neg (by rw [hid]; exact hx)
      rw [h1, h2]
  rw [this]

/-- the side conditions hold by computation when `f` is a record update of fields other than `id` and `buf` -/
theorem ni_modifyConn (c' : Nat) (f : Conn → Conn) (hid : ∀ x, (f x).id = x.id := by exact fun _ => rfl)
    (hb : ∀ x B, f { x with buf := B } = { f x with buf := B } := by exact fun _ _ => rfl) :
    EB c e (modifyConn c' f) := by
  refine ni_mapConns (fun x => if x.id == c' then f x else x) (fun x => ?_) (fun x B => ?_)
  · split
    · exact hid x
    · rfl
  · show (if x.id == c' then f { x with buf := B } else { x with buf := B }) = _
    split
    · exact hb x B
    · rfl

theorem ni_getDb (i : Nat) : EB c e (getDb i) := fun _ => rfl

theorem ni_setDb (i : Nat) (db : Db) : EB c e (setDb i db) := ni_modify _ (fun _ => rfl)

theorem ni_fault (msg : String) : EB c e (M.fault msg) := by
  refine ni_modify _ (fun s => ?_)
  show (if s.fault.isNone then _ else _) = editBuf c e (if s.fault.isNone then _ else _)
  split <;> rfl

theorem ni_nextClock : EB c e nextClock := by
  intro s
  have hcl : (editBuf c e s).clocks = s.clocks := rfl
  rw [nextClock_run, nextClock_run, hcl]
  cases hc : s.clocks with
  | nil =>
    show (s.srv.time, if s.fault.isNone then _ else _) = (_, editBuf c e (if s.fault.isNone then _ else _))
    split <;> rfl
  | cons t rest => rfl

theorem ni_clearWatches (c' : Nat) : EB c e (clearWatches c') := ni_modifyConn c' _

theorem ni_notifyWatch (d : Nat) (key : Bytes) : EB c e (notifyWatch d key) :=
  ni_mapConns (notifyFn d key) (notifyFn_id d key) (fun x B => by rw [notifyFn_fields, notifyFn_fields])

end blocks

section
variable {c : Nat} {X : Bytes}

theorem ni_get_same {β : Type} (g : Sys → β) (hg : ∀ s, g (setBuf c X s) = g s) :
    NI c X (g <$> (get : M Sys)) := by
  intro s
  show (g (setBuf c X s), setBuf c X s) = _
  rw [hg]; rfl

end

/-! ## Descent through a `do` block -/

theorem EB.readOf {c : Nat} {e : Bytes → Bytes} {γ : Type} (π : Sys → γ) (hπ : ∀ s, π (editBuf c e s) = π s) :
    ReadOf (@EB c e) π := by
  intro β G f h hf
  have : G = fun s => f (π s) := funext h
  subst this
  exact EB.get_bind_same (fun s => by rw [hπ]) (fun s => hf _)

/-- `seq_descend` for `EB`, with the rules for a read of the state or of a record whose continuation is blind to `buf` -/
macro "ni " "[" leaves:term,* "]" : tactic =>
  `(tactic| seq_descend EB.seq [$leaves,*, ni_getConn_bind _ (fun _ _ => rfl) (fun _ => ?_),
    EB.get_bind_same (fun _ => rfl) (fun _ => ?_)])

/-! ## Derived blocks -/

section derived
variable {c : Nat} {e : Bytes → Bytes}

theorem ni_emit (c' : Nat) (r : Reply) : EB c e (emit c' r) := by
  unfold emit; ni [ni_modify _ (fun _ => rfl)]

theorem ni_writebackAll (d : Nat) (cis : List CI) : EB c e (writebackAll d cis) := by
  unfold writebackAll; ni [ni_getDb _, ni_setDb _ _, ni_notifyWatch _ _]

theorem ni_liveKeys (d : Nat) : EB c e (liveKeys d) := by
  unfold liveKeys; ni [ni_getDb _, ni_setDb _ _]

theorem ni_clearDb (d : Nat) : EB c e (clearDb d) := by
  unfold clearDb; ni [ni_liveKeys _, ni_notifyWatch _ _, ni_setDb _ _]

end derived

/-! ## The leaves of the command layer -/

section leaves
variable {c : Nat} {e : Bytes → Bytes}

theorem ni_swapdbCmd (args : List Arg) (cis : List CI) : EB c e (swapdbCmd args cis) := by
  unfold swapdbCmd okR; ni [ni_getDb _, ni_setDb _ _, ni_liveKeys _, ni_notifyWatch _ _]

theorem ni_moveCmd (d : Nat) (args : List Arg) (cis : List CI) : EB c e (moveCmd d args cis) := by
  unfold moveCmd; ni [ni_getDb _, ni_setDb _ _, ni_notifyWatch _ _]

theorem ni_randomkeyCmd (d : Nat) (cis : List CI) : EB c e (randomkeyCmd d cis) :=
  EB.iff_relJ.2 (randomkeyCmd_relJ EB.picksFree d cis (EB.iff_relJ.1 (ni_liveKeys d))
    (fun msg => EB.iff_relJ.1 (ni_fault msg)))

theorem ni_scanCmd (d : Nat) (args : List Arg) (cis : List CI) : EB c e (scanCmd d args cis) := by
  unfold scanCmd okR; ni [ni_liveKeys _, ni_getDb _]

theorem ni_subscribeGen (c' : Nat) (pattern : Bool) (names : List Bytes) :
    EB c e (subscribeGen c' pattern names) := by
  unfold subscribeGen; ni [ni_modify _ (fun _ => rfl), ni_modifyConn _ _, ni_emit _ _]

theorem ni_unsubscribeGen (c' : Nat) (pattern : Bool) (names : List Bytes) :
    EB c e (unsubscribeGen c' pattern names) := by
  unfold unsubscribeGen; ni [ni_modify _ (fun _ => rfl), ni_modifyConn _ _, ni_emit _ _]

theorem ni_publish (ch msg : Bytes) : EB c e (publish ch msg) := by
  unfold publish; ni [ni_emit _ _]

theorem ni_takeSetOrder (l : List Bytes) : EB c e (takeSetOrder l) := EB.iff_relJ.2 (takeSetOrder_relJ EB.picksFree l)

theorem ni_nextPick : EB c e nextPick := EB.iff_relJ.2 (nextPick_relJ EB.picksFree)

theorem ni_touch (d : Nat) (k : Bytes) : EB c e (touchKey d k) := by
  unfold touchKey; ni [ni_getDb _, ni_setDb _ _]

theorem ni_cleanupClosed : EB c e cleanupClosed := by
  unfold cleanupClosed; ni [ni_modify _ (fun _ => rfl), ni_clearWatches _]

theorem ni_applySig (d : Nat) (sig : Sig) (raw : List Bytes) : EB c e (applySig d sig raw) := by
  unfold applySig; ni [ni_getDb _, ni_setDb _ _]

theorem ni_regularStep (x : Conn) (sig : Sig) (body : Body) (raw : List Bytes) (fromScript : Bool) :
    EB c e (regularStep x sig body raw fromScript) := by
  unfold regularStep
  refine EB.bind (ni_getDb _) (fun db => ?_)
  refine EB.get_bind_same (fun _ => rfl) (fun s => ?_)
  extract_lets ctx o jp
  have hjp : ∀ x, EB c e (jp x) := by
    intro x; simp -zeta only [jp]; ni [ni_notifyWatch _ _]
  clear_value jp
  clear_value o
  ni [ni_setDb _ _, ni_modify _ (fun _ => rfl), ni_fault _, hjp _]

theorem ni_leaves (mode : Mode) (c' : Nat) : LeavesAll (@EB c e) mode c' where
  toSeq := EB.seq
  getConn := fun h hf => ni_getConn_bind c' h (fun x => hf x trivial)
  conn_db := fun _ _ => trivial
  conn_tx := fun _ _ _ _ _ _ => trivial
  conn := fun f op => by cases op <;> exact ni_modifyConn c' _
  touch := fun d _ => ni_touch d
  liveKeys := fun d _ => ni_liveKeys d
  clearDb := fun d _ => ni_clearDb d
  writebackAll := fun d _ cis _ => ni_writebackAll d cis
  writeback := fun d _ cis _ => ni_writebackAll d cis
  randomkey := fun d _ => ni_randomkeyCmd d
  scan := fun d _ => ni_scanCmd d
  applySig := fun d _ sig raw => Then.of EB.seq (ni_applySig d sig raw) (fun _ _ _ _ => ⟨trivial, trivial⟩)
  regular := fun x _ sig body raw fromScript _ => ni_regularStep x sig body raw fromScript
  fault := ni_fault
  nextClock := ni_nextClock
  nextPick := ni_nextPick
  takeSetOrder := ni_takeSetOrder
  readVersion := EB.readOf _ (fun _ => rfl)
  readScripts := EB.readOf _ (fun _ => rfl)
  cacheScript := fun _ _ => ni_modify _ (fun _ => rfl)
  flushScripts := ni_modify _ (fun _ => rfl)
  readLastsave := EB.readOf _ (fun _ => rfl)
  setLastsave := fun _ => ni_modify _ (fun _ => rfl)
  crash := fun _ _ => ni_modify _ (fun _ => rfl)
  swapdb := ni_swapdbCmd
  move := ni_moveCmd
  subscribe := ni_subscribeGen c'
  unsubscribe := ni_unsubscribeGen c'
  publish := ni_publish

/-- for any connection `c'`, in particular `c' = c` -/
theorem eb_processCommand (mode : Mode) (c' : Nat) (fields : List Bytes) :
    EB c e (processCommand mode c' fields) :=
  processCommand_of ((ni_leaves mode c').process fields (EB.readOf _ (fun _ => rfl)) (ni_emit c') ni_cleanupClosed
    (EB.bind ni_nextClock (fun _ => ni_modify _ (fun _ => rfl))) (ni_modifyConn c' _) (fun _ _ => ni_modifyConn c' _)
    (ni_modifyConn c' _))

end leaves

theorem ni_processCommand {c : Nat} {X : Bytes} (mode : Mode) (c' : Nat) (fields : List Bytes) :
    NI c X (processCommand mode c' fields) :=
  (eb_processCommand mode c' fields).ni

/-- the hypothesis of the conditional chunking theorems of `FR/Props/C04.lean` -/
theorem bufIndependent (mode : Mode) (c : Nat) : BufIndependent mode c := by
  intro fields X s
  exact ni_processCommand (c := c) (X := X) mode c fields s

/-! ## Chunk-insensitivity of `sendall`, unconditionally -/

section chunks

theorem dead_appendBuf (c : Nat) (b : Bytes) (s : Sys) : (connOf (appendBuf c b s) c).dead = (connOf s c).dead := by
  cases h : findConn s c with
  | none => rw [show appendBuf c b s = s from modifyConn_noconn c _ s h]
  | some x => rw [connOf_appendBuf_some h, connOf_some h]

theorem drain_dead (mode : Mode) (c : Nat) (f : Nat) (s : Sys) (h : (connOf s c).dead = true) :
    (drain mode c f).run s = ((), s) :=
  drain_stopped (by rw [h, Bool.or_true]) f

theorem sendall_append (mode : Mode) (c : Nat) (a b : Bytes) (s : Sys)
    (halive : (connOf ((sendall mode c a).run s).2 c).dead = false) :
    (do sendall mode c a; sendall mode c b : M Unit).run s = (sendall mode c (a ++ b)).run s :=
  sendall_append_aux (bufIndependent mode c) a b s halive

theorem sendall_dead_stays (mode : Mode) (c : Nat) (a : Bytes) (s : Sys) (h : (connOf s c).dead = true) :
    (connOf ((sendall mode c a).run s).2 c).dead = true := by
  rw [sendall_run, if_pos h]
  exact h

/-- the connection dies while the first chunk is processed: the one-shot `sendall` stops at the same request and leaves the
second chunk in the buffer (the chunked one raises on the second write) -/
theorem sendall_append_of_dead (mode : Mode) (c : Nat) (a b : Bytes) (s : Sys)
    (h0 : (connOf s c).dead = false)
    (h1 : (connOf ((sendall mode c a).run s).2 c).dead = true) :
    (sendall mode c (a ++ b)).run s = ((), appendBuf c b ((sendall mode c a).run s).2) := by
  have hd : ¬ ((connOf s c).dead = true) := by rw [h0]; exact Bool.false_ne_true
  rw [sendall_run mode c a, if_neg hd] at h1 ⊢
  rw [sendall_run mode c (a ++ b), if_neg hd, ← appendBuf_appendBuf]
  have hle := buf_appendBuf_le c a s
  rw [drain_append (bufIndependent mode c) b ((connOf s c).buf.length + a.length + 1) (appendBuf c a s)
    ((connOf s c).buf.length + (a ++ b).length + 1)
    ((connOf ((drain mode c ((connOf s c).buf.length + a.length + 1)).run (appendBuf c a s)).2 c).buf.length
      + b.length + 1)
    (by omega) (by simp only [List.length_append]; omega) (by omega)]
  exact drain_dead mode c _ _ (by rw [dead_appendBuf]; exact h1)

theorem alive_prefix (mode : Mode) (c : Nat) (a b : Bytes) (s : Sys)
    (h : (connOf ((sendall mode c (a ++ b)).run s).2 c).dead = false) :
    (connOf ((sendall mode c a).run s).2 c).dead = false := by
  cases h0 : (connOf s c).dead with
  | true => rw [sendall_dead_stays mode c (a ++ b) s h0] at h; cases h
  | false =>
    cases h1 : (connOf ((sendall mode c a).run s).2 c).dead with
    | false => rfl
    | true =>
      rw [sendall_append_of_dead mode c a b s h0 h1, dead_appendBuf, h1] at h
      cases h

def sendChunks (mode : Mode) (c : Nat) (cs : List Bytes) : M Unit := cs.forM (sendall mode c)

theorem sendChunks_cons (mode : Mode) (c : Nat) (a : Bytes) (cs : List Bytes) (s : Sys) :
    (sendChunks mode c (a :: cs)).run s = (sendChunks mode c cs).run ((sendall mode c a).run s).2 := rfl

theorem sendChunks_single (mode : Mode) (c : Nat) (a : Bytes) (s : Sys) :
    (sendChunks mode c [a]).run s = (sendall mode c a).run s := rfl

def AliveThrough (mode : Mode) (c : Nat) : List Bytes → Sys → Prop
  | [], _ => True
  | [_], _ => True
  | a :: b :: rest, s =>
    (connOf ((sendall mode c a).run s).2 c).dead = false ∧
      AliveThrough mode c (b :: rest) ((sendall mode c a).run s).2

theorem sendChunks_eq (mode : Mode) (c : Nat) (cs : List Bytes) (hne : cs ≠ []) (s : Sys)
    (h : AliveThrough mode c cs s) :
    (sendChunks mode c cs).run s = (sendall mode c cs.flatten).run s := by
  induction cs generalizing s with
  | nil => exact absurd rfl hne
  | cons a rest ih =>
    cases rest with
    | nil => rw [sendChunks_single]; simp only [List.flatten_cons, List.flatten_nil, List.append_nil]
    | cons b rest =>
      obtain ⟨h1, h2⟩ := h
      rw [sendChunks_cons, ih (by simp) _ h2, List.flatten_cons (l := a), ← sendall_append mode c a _ s h1]
      rfl

theorem aliveThrough_of_final (mode : Mode) (c : Nat) (cs : List Bytes) (s : Sys)
    (h : (connOf ((sendall mode c cs.flatten).run s).2 c).dead = false) : AliveThrough mode c cs s := by
  induction cs generalizing s with
  | nil => trivial
  | cons a rest ih =>
    cases rest with
    | nil => trivial
    | cons b rest =>
      rw [List.flatten_cons] at h
      have h1 := alive_prefix mode c a _ s h
      refine ⟨h1, ih _ ?_⟩
      have := sendall_append mode c a (b :: rest).flatten s h1
      rw [← this] at h
      exact h

end chunks

end FR.BufIndep

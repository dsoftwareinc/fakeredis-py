import FR.Proofs.Seq
/-!
# Two runs of the command machinery

`RelJ P Q V m₁ m₂`: run `m₁` from `s₁` and `m₂` from `s₂` with `P s₁ s₂`; the values returned are `V`-related, the final
states `Q`-related.  On the diagonal with `V = Eq` it is a judgment of `Seq.lean` (`RelJ.seq`).

The three two-run arguments define their judgment in their own file, in this shape, and prove their rules from the ones
here: `Twin.Sim R V m₁ m₂` is `RelJ R R V m₁ m₂` (`Sim.eq_relJ`), `DbFrame.Rel2 P Q m` is `RelJ P Q Eq m m` (`Rel2.eq_relJ`),
`BufIndep.EB c e m` is `RelJ` for "the second state is the first with the buffer of `c` edited by `e`" (`EB.iff_relJ`).
-/
namespace FR
open M

def RelJ {α : Type} (P Q : Sys → Sys → Prop) (V : α → α → Prop) (m₁ m₂ : M α) : Prop :=
  ∀ s₁ s₂, P s₁ s₂ → V (m₁ s₁).1 (m₂ s₂).1 ∧ Q (m₁ s₁).2 (m₂ s₂).2

namespace RelJ
variable {P P' Q Q' R : Sys → Sys → Prop} {α β : Type} {V V₂ : α → α → Prop} {V' : β → β → Prop}

theorem pure {a b : α} (h : V a b) : RelJ P P V (Pure.pure a : M α) (Pure.pure b : M α) := fun _ _ hr => ⟨h, hr⟩

theorem bind {m₁ m₂ : M α} {f g : α → M β} (hm : RelJ P Q V m₁ m₂)
    (hf : ∀ a b, V a b → RelJ Q Q' V' (f a) (g b)) : RelJ P Q' V' (m₁ >>= f) (m₂ >>= g) :=
  fun s₁ s₂ hr => hf _ _ (hm s₁ s₂ hr).1 _ _ (hm s₁ s₂ hr).2

theorem bindEq {m₁ m₂ : M α} {f g : α → M β} (hm : RelJ P Q Eq m₁ m₂)
    (hf : ∀ a, RelJ Q Q' V' (f a) (g a)) : RelJ P Q' V' (m₁ >>= f) (m₂ >>= g) :=
  bind hm (fun a _ h => h ▸ hf a)

theorem bindV {m : M α} {f : α → M β} (W : α → Prop) (hm : RelJ P Q Eq m m) (hW : ∀ s₁ s₂, P s₁ s₂ → W (m s₁).1)
    (hf : ∀ a, W a → RelJ Q Q' V' (f a) (f a)) : RelJ P Q' V' (m >>= f) (m >>= f) :=
  bind (V := fun a b => a = b ∧ W a) (fun s₁ s₂ hr => ⟨⟨(hm s₁ s₂ hr).1, hW s₁ s₂ hr⟩, (hm s₁ s₂ hr).2⟩)
    (fun a _ h => h.1 ▸ hf a h.2)

theorem conseq {m₁ m₂ : M α} (h : RelJ P Q V m₁ m₂) (hP : ∀ s₁ s₂, P' s₁ s₂ → P s₁ s₂)
    (hQ : ∀ s₁ s₂, Q s₁ s₂ → Q' s₁ s₂) (hV : ∀ a b, V a b → V₂ a b) : RelJ P' Q' V₂ m₁ m₂ :=
  fun s₁ s₂ hr => ⟨hV _ _ (h s₁ s₂ (hP _ _ hr)).1, hQ _ _ (h s₁ s₂ (hP _ _ hr)).2⟩

theorem map {m₁ m₂ : M α} (g : α → β) (hm : RelJ P Q Eq m₁ m₂) : RelJ P Q Eq (g <$> m₁) (g <$> m₂) :=
  fun s₁ s₂ hr => ⟨congrArg g (hm s₁ s₂ hr).1, (hm s₁ s₂ hr).2⟩

theorem seq (R : Sys → Sys → Prop) : Seq (fun {α} (m : M α) => RelJ R R Eq m m) := ⟨fun _ => pure rfl, bindEq⟩

/-- reading the state when related states differ by a replacement `put` that the continuation does not see -/
theorem get_bind_same {δ : Type} {put : Sys → δ → Sys} {f g : Sys → M β} (hR : ∀ s₁ s₂, R s₁ s₂ → ∃ v, s₂ = put s₁ v)
    (hg : ∀ s v, g (put s v) = g s) (hf : ∀ s, RelJ R Q V' (f s) (g s)) : RelJ R Q V' (get >>= f) (get >>= g) := by
  intro s₁ s₂ hr
  obtain ⟨v, rfl⟩ := hR s₁ s₂ hr
  show V' (f s₁ s₁).1 (g (put s₁ v) (put s₁ v)).1 ∧ Q (f s₁ s₁).2 (g (put s₁ v) (put s₁ v)).2
  rw [hg]
  exact hf s₁ s₁ _ hr

theorem readOf {δ γ : Type} {put : Sys → δ → Sys} (hR : ∀ s₁ s₂, R s₁ s₂ → ∃ v, s₂ = put s₁ v) (π : Sys → γ)
    (hπ : ∀ s v, π (put s v) = π s) : ReadOf (fun {α} (m : M α) => RelJ R R Eq m m) π := by
  intro β G f h hf
  have : G = fun s => f (π s) := funext h
  subst this
  exact get_bind_same hR (fun s v => congrArg f (hπ s v)) (fun s => hf (π s))

end RelJ

/-! ## The recorded picks

SORT of a set, RANDOMKEY and the script interpreter take what the Python run chose from the recorded picks, which all
three relations leave alone (`PicksFree`). -/

structure PicksFree (R : Sys → Sys → Prop) : Prop where
  eq : ∀ s₁ s₂, R s₁ s₂ → s₂.picks = s₁.picks
  set : ∀ s₁ s₂ r, R s₁ s₂ → R { s₁ with picks := r } { s₂ with picks := r }

namespace RelJ
variable {R : Sys → Sys → Prop} (hR : PicksFree R)
include hR

theorem picks {β : Type} {F : Sys → M β} (step : List (List Bytes) → Option (List (List Bytes))) (k₁ k₂ : List (List Bytes) → M β)
    (hF : ∀ s, F s = match step s.picks with
      | some r => set { s with picks := r } >>= fun _ => k₁ s.picks
      | none => k₂ s.picks)
    (h₁ : ∀ l, RelJ R R Eq (k₁ l) (k₁ l)) (h₂ : ∀ l, RelJ R R Eq (k₂ l) (k₂ l)) :
    RelJ R R Eq (get >>= F) (get >>= F) := by
  intro s₁ s₂ hr
  show Eq (F s₁ s₁).1 (F s₂ s₂).1 ∧ R (F s₁ s₁).2 (F s₂ s₂).2
  rw [hF, hF, hR.eq s₁ s₂ hr]
  cases step s₁.picks with
  | none => exact h₂ _ s₁ s₂ hr
  | some r => exact h₁ _ _ _ (hR.set s₁ s₂ r hr)

end RelJ

section
variable {R : Sys → Sys → Prop} (hR : PicksFree R)
include hR

theorem nextPick_relJ : RelJ R R Eq nextPick nextPick := by
  unfold nextPick
  refine RelJ.picks hR (fun l => match l with | _ :: rest => some rest | [] => none) (fun l => pure l.head?)
    (fun _ => pure none) (fun s => ?_) (fun _ => RelJ.pure rfl) (fun _ => RelJ.pure rfl)
  cases s.picks <;> rfl

theorem takeSetOrder_relJ (l : List Bytes) : RelJ R R Eq (takeSetOrder l) (takeSetOrder l) := by
  unfold takeSetOrder
  refine RelJ.picks hR
    (fun ps => match ps with
      | p :: rest => if p.length == l.length && p.all l.contains && l.all p.contains then some rest else none
      | [] => none)
    (fun ps => pure ps.head?) (fun _ => pure none) (fun s => ?_) (fun _ => RelJ.pure rfl) (fun _ => RelJ.pure rfl)
  cases s.picks with
  | nil => rfl
  | cons p rest => simp only []; split <;> rfl

theorem randomkeyCmd_relJ (d : Nat) (cis : List CI) (hlive : RelJ R R Eq (liveKeys d) (liveKeys d))
    (hfault : ∀ msg, RelJ R R Eq (fault msg) (fault msg)) : RelJ R R Eq (randomkeyCmd d cis) (randomkeyCmd d cis) := by
  unfold randomkeyCmd okR
  refine RelJ.bindEq hlive (fun ks => ?_)
  split
  · exact RelJ.pure rfl
  · refine RelJ.picks hR
      (fun ps => match ps with
        | [x] :: rest => if ks.contains x then some rest else none
        | _ => none)
      (fun ps => match ps with
        | [x] :: _ => pure (.ok (some (.bulk x), cis))
        | _ => pure (.error "model: bad hint"))
      (fun ps => match ps with
        | [x] :: _ => fault "randomkey: pick is not a live key" >>= fun _ => pure (.error "model: bad hint")
        | _ => fault "randomkey: no pick" >>= fun _ => pure (.error "model: bad hint"))
      (fun s => ?_) (fun l => ?_) (fun l => ?_)
    · generalize s.picks = ps
      match ps with
      | [x] :: rest => simp only []; split <;> rfl
      | [] | [] :: _ | (_ :: _ :: _) :: _ => rfl
    · split <;> exact RelJ.pure rfl
    · split <;> exact RelJ.bindEq (hfault _) (fun _ => RelJ.pure rfl)
end

end FR

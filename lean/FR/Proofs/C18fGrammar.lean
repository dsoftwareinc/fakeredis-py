import FR.Proofs.Decimal
/-!
# C18f: the declarative float grammar

Independent of the model's parser: the parse tree `DecLit` of a decimal literal (`frac = some fp` iff a `.` is written), its
bytes `render`, the C grammar `Valid`, the grammar `StrtodDecimal`, the rational a literal denotes (`rat`).  Then the byte
lists of the model's string literals, and `digitsVal_eq_decNat`: the model's left fold is the positional value.
-/
namespace FR.C18f
open FR

/-- `0`…`9` -/
def IsDig (c : UInt8) : Prop := 48 ≤ c ∧ c ≤ 57
instance (c : UInt8) : Decidable (IsDig c) := by unfold IsDig; infer_instance

def Digits (l : Bytes) : Prop := ∀ c ∈ l, IsDig c

instance (l : Bytes) : Decidable (Digits l) := by unfold Digits; infer_instance

inductive Sgn where
  | none | plus | minus
  deriving DecidableEq, Repr, Inhabited

def Sgn.bytes : Sgn → Bytes
  | .none => []
  | .plus => [43]
  | .minus => [45]

def Sgn.neg : Sgn → Bool
  | .minus => true
  | _ => false

/-- the exponent part `[eE][+-]?digits` -/
structure ExpPart where
  letter : UInt8
  sign : Sgn
  digits : Bytes
  deriving Repr, Inhabited

structure DecLit where
  sign : Sgn
  ip : Bytes
  frac : Option Bytes
  exp : Option ExpPart
  deriving Repr, Inhabited

namespace DecLit

def fp (L : DecLit) : Bytes := L.frac.getD []

def fracBytes (L : DecLit) : Bytes :=
  match L.frac with
  | none => []
  | some f => 46 :: f

def expBytes (L : DecLit) : Bytes :=
  match L.exp with
  | none => []
  | some x => x.letter :: (x.sign.bytes ++ x.digits)

/-- the bytes of the literal: nothing before, between or after the parts -/
def render (L : DecLit) : Bytes := L.sign.bytes ++ (L.ip ++ (L.fracBytes ++ L.expBytes))

/-- the C grammar: `digits [. digits*] | . digits`, then optionally `[eE][+-]?digits` -/
def Valid (L : DecLit) : Prop :=
  Digits L.ip ∧ Digits L.fp ∧ (L.ip ≠ [] ∨ L.fp ≠ []) ∧
  ∀ x, L.exp = some x → (x.letter = 101 ∨ x.letter = 69) ∧ Digits x.digits ∧ x.digits ≠ []

instance (L : DecLit) : Decidable L.Valid :=
  match h : L.exp with
  | none =>
    decidable_of_iff (Digits L.ip ∧ Digits L.fp ∧ (L.ip ≠ [] ∨ L.fp ≠ [])) (by
      unfold Valid; rw [h]
      exact ⟨fun ⟨a, b, c⟩ => ⟨a, b, c, fun x hx => by cases hx⟩, fun ⟨a, b, c, _⟩ => ⟨a, b, c⟩⟩)
  | some x =>
    decidable_of_iff (Digits L.ip ∧ Digits L.fp ∧ (L.ip ≠ [] ∨ L.fp ≠ []) ∧
        ((x.letter = 101 ∨ x.letter = 69) ∧ Digits x.digits ∧ x.digits ≠ [])) (by
      unfold Valid; rw [h]
      exact ⟨fun ⟨a, b, c, d⟩ => ⟨a, b, c, fun y hy => by cases hy; exact d⟩,
        fun ⟨a, b, c, d⟩ => ⟨a, b, c, d x rfl⟩⟩)

end DecLit

/-- the positional decimal value -/
def decNat : Bytes → Nat
  | [] => 0
  | c :: rest => (c.toNat - 48) * 10 ^ rest.length + decNat rest

namespace DecLit
def mant (L : DecLit) : Nat := decNat (L.ip ++ L.fp)
def expo (L : DecLit) : Int :=
  match L.exp with
  | none => 0
  | some x => if x.sign.neg then -(decNat x.digits : Int) else (decNat x.digits : Int)
def exp10 (L : DecLit) : Int := L.expo - (L.fp.length : Int)
/-- `|rat| = ratNum / ratDen`; one of the two powers is `10^0` -/
def ratNum (L : DecLit) : Nat := L.mant * 10 ^ L.exp10.toNat
def ratDen (L : DecLit) : Nat := 10 ^ (-L.exp10).toNat
/-- the rational number the literal denotes: `± mant · 10^exp10` -/
def rat (L : DecLit) : Rat := mkRat ((if L.sign.neg then -1 else 1) * (L.ratNum : Int)) L.ratDen
end DecLit

/-- `w` is `lit` up to ASCII case (`lit` is given in lower case) -/
def CIEq : Bytes → Bytes → Prop
  | [], [] => True
  | c :: w, l :: lit => (c = l ∨ c + 32 = l ∧ 65 ≤ c ∧ c ≤ 90) ∧ CIEq w lit
  | _, _ => False

instance : ∀ (w lit : Bytes), Decidable (CIEq w lit)
  | [], [] => isTrue trivial
  | [], _ :: _ => isFalse (fun h => h)
  | _ :: _, [] => isFalse (fun h => h)
  | c :: w, l :: lit =>
    have : Decidable (CIEq w lit) := instDecidableCIEq w lit
    decidable_of_iff ((c = l ∨ c + 32 = l ∧ 65 ≤ c ∧ c ≤ 90) ∧ CIEq w lit) Iff.rfl

/-- `inf` or `infinity`, any case -/
def InfWord (w : Bytes) : Prop := CIEq w [105, 110, 102] ∨ CIEq w [105, 110, 102, 105, 110, 105, 116, 121]
/-- `nan`, any case -/
def NanWord (w : Bytes) : Prop := CIEq w [110, 97, 110]
instance (w : Bytes) : Decidable (InfWord w) := by unfold InfWord; infer_instance
instance (w : Bytes) : Decidable (NanWord w) := by unfold NanWord; infer_instance

/-- an optional sign, then a decimal literal or `inf`/`infinity`; nothing else -/
def StrtodDecimal (s : Bytes) : Prop :=
  (∃ L : DecLit, L.Valid ∧ s = L.render) ∨ (∃ (sg : Sgn) (w : Bytes), InfWord w ∧ s = sg.bytes ++ w)

theorem lit_inf : strBytes "inf" = [105, 110, 102] := by rw [strBytes_eq]; rfl
theorem lit_infinity : strBytes "infinity" = [105, 110, 102, 105, 110, 105, 116, 121] := by rw [strBytes_eq]; rfl
theorem lit_nan : strBytes "nan" = [110, 97, 110] := by rw [strBytes_eq]; rfl
theorem lit_zero_dot_zero : strBytes "0.0" = [48, 46, 48] := by rw [strBytes_eq]; rfl

theorem isDig_iff (c : UInt8) : isDigit c = true ↔ IsDig c := by
  unfold isDigit IsDig; simp

theorem digits_iff_all (l : Bytes) : Digits l ↔ l.all isDigit = true := by
  rw [List.all_eq_true]
  exact ⟨fun h c hc => (isDig_iff c).mpr (h c hc), fun h c hc => (isDig_iff c).mp (h c hc)⟩

theorem Digits.nil : Digits [] := fun _ h => by cases h
theorem Digits.cons {c : UInt8} {l : Bytes} (hc : IsDig c) (hl : Digits l) : Digits (c :: l) := by
  intro x hx
  rcases List.mem_cons.mp hx with rfl | hx
  · exact hc
  · exact hl x hx
theorem Digits.tail {c : UInt8} {l : Bytes} (h : Digits (c :: l)) : Digits l :=
  fun x hx => h x (List.mem_cons_of_mem _ hx)
theorem Digits.head {c : UInt8} {l : Bytes} (h : Digits (c :: l)) : IsDig c := h c (List.mem_cons_self ..)
theorem Digits.append {a b : Bytes} (ha : Digits a) (hb : Digits b) : Digits (a ++ b) := by
  intro x hx
  rcases List.mem_append.mp hx with h | h
  · exact ha x h
  · exact hb x h

theorem of_mem_takeWhile {α} (p : α → Bool) : ∀ (l : List α) {x : α}, x ∈ l.takeWhile p → p x = true
  | [], _, h => by cases h
  | a :: l, x, h => by
    rw [List.takeWhile_cons] at h
    split at h
    · rcases List.mem_cons.mp h with rfl | h
      · assumption
      · exact of_mem_takeWhile p l h
    · cases h

theorem digits_takeWhile (l : Bytes) : Digits (l.takeWhile isDigit) := by
  intro c hc
  exact (isDig_iff c).mp (of_mem_takeWhile _ _ hc)

theorem digitsVal_eq_decNat (l : Bytes) : digitsVal l = decNat l := by
  suffices h : ∀ (l : Bytes) (acc : Nat),
      l.foldl (fun acc c => acc * 10 + (c.toNat - 48)) acc = acc * 10 ^ l.length + decNat l by
    have := h l 0
    simpa [digitsVal] using this
  intro l
  induction l with
  | nil => intro acc; simp [decNat]
  | cons c rest ih =>
    intro acc
    rw [List.foldl_cons, ih, decNat, List.length_cons, Nat.pow_succ, Nat.add_mul, Nat.mul_assoc,
      Nat.mul_comm 10, Nat.add_assoc]

theorem decNat_append (a b : Bytes) : decNat (a ++ b) = decNat a * 10 ^ b.length + decNat b := by
  induction a with
  | nil => simp [decNat]
  | cons c rest ih =>
    rw [List.cons_append, decNat, decNat, ih, List.length_append, Nat.pow_add, Nat.add_mul, Nat.mul_assoc,
      Nat.add_assoc]

theorem decNat_lt (l : Bytes) (h : Digits l) : decNat l < 10 ^ l.length := by
  induction l with
  | nil => simp [decNat]
  | cons c rest ih =>
    have hc := h.head
    have := ih h.tail
    unfold IsDig at hc
    have hc1 : c.toNat - 48 ≤ 9 := by
      have : c.toNat ≤ 57 := hc.2
      omega
    rw [decNat, List.length_cons, Nat.pow_succ]
    have : (c.toNat - 48) * 10 ^ rest.length ≤ 9 * 10 ^ rest.length := Nat.mul_le_mul_right _ hc1
    omega

theorem decNat_ge {c : UInt8} {rest : Bytes} (hc : IsDig c) (h0 : c ≠ 48) :
    10 ^ rest.length ≤ decNat (c :: rest) := by
  unfold IsDig at hc
  have h1 : 1 ≤ c.toNat - 48 := by
    have h48 : (48 : UInt8).toNat ≤ c.toNat := hc.1
    have : c.toNat ≠ 48 := fun h => h0 (UInt8.toNat_inj.mp h)
    have e : (48 : UInt8).toNat = 48 := rfl
    omega
  rw [decNat]
  have : 1 * 10 ^ rest.length ≤ (c.toNat - 48) * 10 ^ rest.length := Nat.mul_le_mul_right _ h1
  omega

theorem decNat_dropZeros (l : Bytes) : decNat (l.dropWhile (· == 48)) = decNat l := by
  induction l with
  | nil => rfl
  | cons c rest ih =>
    rw [List.dropWhile_cons]
    split
    · rename_i h
      have : c = 48 := by simpa using h
      subst this
      rw [ih, decNat]
      simp
    · rfl

theorem decNat_eq_zero_iff (l : Bytes) (h : Digits l) : decNat l = 0 ↔ ∀ c ∈ l, c = 48 := by
  induction l with
  | nil => simp [decNat]
  | cons c rest ih =>
    have hc := h.head
    unfold IsDig at hc
    rw [decNat]
    constructor
    · intro h0
      have hp : 0 < 10 ^ rest.length := Nat.pow_pos (by decide)
      have h1 : (c.toNat - 48) * 10 ^ rest.length = 0 := by omega
      have h2 : decNat rest = 0 := by omega
      have h3 : c.toNat - 48 = 0 := by
        rcases Nat.mul_eq_zero.mp h1 with h | h
        · exact h
        · omega
      have h48 : (48 : UInt8).toNat ≤ c.toNat := hc.1
      have e : (48 : UInt8).toNat = 48 := rfl
      have hc48 : c = 48 := UInt8.toNat_inj.mp (by omega)
      intro x hx
      rcases List.mem_cons.mp hx with rfl | hx
      · exact hc48
      · exact (ih h.tail).mp h2 x hx
    · intro hall
      have hc48 : c = 48 := hall c (List.mem_cons_self ..)
      have := (ih h.tail).mpr (fun x hx => hall x (List.mem_cons_of_mem _ hx))
      subst hc48
      simp [this]

end FR.C18f

import FR.Proofs.BufIndep
import FR.Proofs.C14p
import FR.Proofs.History
import FR.Proofs.Dispatch
import FR.Proofs.Prologue
import FR.Proofs.Request
import FR.Proofs.PubSubHist
import FR.Proofs.HashSetCmds
import FR.Proofs.C02lLists
import FR.Proofs.C03zCmds
import FR.Proofs.StrKeys
import FR.Props.C01k
import FR.Props.C17
/-!
# Sessions over the socket: one encoded request written with `sendall` is one `_process_command`, and what it answers

The lemmas behind `FR/Props/C17s.lean` (C17 end to end).
* §1–3: on an idle connection `sendallGuarded (encodeRequest fields)` runs `processCommand` once, on `fields`.
* §4–5: `after` / `run`, the state after one request / a list of requests.  `Ready s c`: `c` is an idle client;
  `Queuing`: the same inside MULTI.  `view s c`: the database the next command of `c` sees.  `step_regular`: a regular
  command does on the wire what `runRegular` does on `view s c` (`Stepped`); `step_cmd`: the same for a name in any
  letter case (`Spells`) and a row of the command tables (`Reg`).
* §6: between two commands of a session only the clock moves, so a session remembers `Holds s c k v`: `k` holds `v`
  without deadline.  `cmd_step` turns a command's run equation into reply, `Ready`, `DataInv` and `Holds` of what is
  left; `read_step`, `read_held`: the same for readers.  `Step` is the triple a session is made of, `Steps` a chain.
* §7–11: one step lemma per command used by C17s: `cmd_step` or `read_held` at its run equation and table row
  (`run_step`, `run_held` where the row is found by the name alone).
* §12–13: MULTI … EXEC and SUBSCRIBE / PUBLISH are not chains of `Step`: inside MULTI the connection is `Queuing`,
  EXEC runs the queue without prologue or clock reading in between (`InnerStep`; `exec_step` for the whole queue), a
  message goes to another connection.
  Their steps speak of the states directly and are composed by hand in C17s.
* §14: only the command name is case-normalised.
-/
namespace FR.Wire
open FR FR.M
set_option linter.unusedSimpArgs false
set_option linter.unusedVariables false

/-! ## 1. an encoded request on an idle connection is parsed to exactly its fields -/

theorem sendallGuarded_encode (mode : Mode) (c : Nat) (fields : List Bytes) (s : Sys)
    (hc : s.HasConn c) (hbuf : (s.conn c).buf = []) (hdead : (s.conn c).dead = false)
    (hpaused : (s.conn c).paused = false) (hup : s.srv.connected = true) :
    (sendallGuarded mode c (encodeRequest fields)).run s =
      ((), setBuf c [] ((processCommand mode c fields).run s).2) := by
  have hf := findConn_of_hasConn hc
  rw [show (sendallGuarded mode c (encodeRequest fields)).run s = (sendall mode c (encodeRequest fields)).run s from
    sendallGuarded_run_up mode c _ s hup, sendall_run, connOf_eq_conn, hdead]
  simp only [Bool.false_eq_true, if_false, hbuf, List.length_nil, Nat.zero_add]
  rw [drain_succ, connOf_appendBuf_some hf]
  simp only [hpaused, hdead, Bool.or_self, Bool.false_eq_true, if_false, hbuf, List.nil_append]
  have hp : tryParse (encodeRequest fields) = some (fields, []) := by
    have := tryParse_encode' fields []
    rwa [List.append_nil] at this
  rw [hp]
  simp only
  rw [setBuf_appendBuf, FR.BufIndep.bufIndependent mode c fields [] s]
  apply C14p.drain_empty
  rw [← connOf_eq_conn]
  have := buf_setBuf_le c [] ((processCommand mode c fields).run s).2
  exact List.eq_nil_of_length_eq_zero (by simpa using this)

/-! ## 2. the prologue of `_process_command` -/

/-- the state in which the body of the next known command runs: closed sockets cleaned up, clock refreshed -/
def pre (s : Sys) : Sys := (cleanupClosed s).2.refresh

/-- the clock reading the next command will see -/
def now (s : Sys) : Int := (pre s).srv.time

theorem pre_time (s : Sys) : (pre s).srv.time = now s := rfl
theorem pre_picks (s : Sys) : (pre s).picks = s.picks := s.prologue_picks

theorem now_of_clocks {s : Sys} {t : Int} {rest : List Int} (h : s.clocks = t :: rest) : now s = t := by
  show s.prologue.srv.time = t
  rw [s.prologue_time, h]; rfl



/-! ## 3. one known command through `_process_command` -/

theorem processCommand_refused (mode : Mode) (c : Nat) (name : Bytes) (args : List Bytes) (s : Sys)
    {sig : Sig} (hsig : lookupSig name = some sig) (har : sig.checkArity args.length = true)
    (htx : (s.conn c).tx = none) (hcr : s.crashed = none) (hrf : s.refuses c sig = true) :
    (processCommand mode c (name :: args)).run s = ((), (pre s).emitS c refusalReply) := by
  show processCommand mode c (name :: args) s = _
  rw [processCommand_runs mode c args s hsig har (by rw [htx]; rfl)]
  show ((), ErrSys.afterRun c (runCommand mode c sig args false s.prologue)) = _
  rw [runCommand_refused mode c sig args false ((s.prologue_refuses c sig).trans hrf),
    afterRun_emit c _ (s.prologue_crashed.trans hcr)]
  rfl

theorem processCommand_special (mode : Mode) (c : Nat) (name : Bytes) (args : List Bytes) (s : Sys)
    {sig : Sig} (hsig : lookupSig name = some sig) (hreg : Cmd.regular sig.name = none)
    (hns : scriptNames.contains sig.name = false) (har : sig.checkArity args.length = true)
    (hq : ((s.conn c).tx.isSome && !SigTable.notQueued.contains sig.name) = false)
    {a : List Arg} {cis : List CI} (hap : ∀ db, sig.apply args db = (db, .ok (.ok a cis)))
    (hps : (s.conn c).pubsub = 0 ∨ SigTable.pubsubAllowed.contains sig.name = true) :
    (processCommand mode c (name :: args)).run s =
      ((), ErrSys.afterRun c (afterSpecial (s.prologue.conn c).db cis (special (runInner mode c) mode c sig.name a cis) s.prologue)) := by
  show processCommand mode c (name :: args) s = _
  rw [processCommand_runs mode c args s hsig har hq]
  show ((), ErrSys.afterRun c (runCommand mode c sig args false s.prologue)) = _
  have hr : s.prologue.refuses c sig = false :=
    (s.prologue_refuses c sig).trans (Sys.refuses_eq_false.2 hps)
  rw [runCommand_not_script mode c sig args false (by simpa using hns),
    runWith_keyless _ mode c sig args false s.prologue hreg hr (hap _)]
  simp only [(runGate_of_not_refused false hr).trans (runGate_direct _)]

/-! ## 4. sessions: requests written one after the other -/

/-- the state after connection `r.1` has written the RESP encoding of the request `r.2` to its socket
(`FakeSocket.sendall`, outage check included) -/
def after (mode : Mode) (s : Sys) (r : Nat × List Bytes) : Sys :=
  ((sendallGuarded mode r.1 (encodeRequest r.2)).run s).2

/-- the state after a sequence of requests `(connection, fields)`, each written by its own `sendall` -/
def run (mode : Mode) (s : Sys) (reqs : List (Nat × List Bytes)) : Sys := reqs.foldl (after mode) s

@[simp] theorem run_nil (mode : Mode) (s : Sys) : run mode s [] = s := rfl
@[simp] theorem run_cons (mode : Mode) (s : Sys) (r) (rs) : run mode s (r :: rs) = run mode (after mode s r) rs := rfl

/-- `c` is an ordinary idle client (nothing buffered, not in MULTI, not subscribed) of a server that is up -/
structure Ready (s : Sys) (c : Nat) : Prop where
  has : s.HasConn c
  buf : (s.conn c).buf = []
  dead : (s.conn c).dead = false
  paused : (s.conn c).paused = false
  closed : (s.conn c).closed = false
  tx : (s.conn c).tx = none
  pubsub : (s.conn c).pubsub = 0
  dbIdx : (s.conn c).db < s.srv.dbs.length
  connected : s.srv.connected = true
  crashed : s.crashed = none

/-- connection `c` is inside MULTI with queue `q`, nothing it watches was touched; otherwise as `Ready` -/
structure Queuing (s : Sys) (c : Nat) (q : List (String × List Bytes)) : Prop where
  has : s.HasConn c
  buf : (s.conn c).buf = []
  dead : (s.conn c).dead = false
  paused : (s.conn c).paused = false
  closed : (s.conn c).closed = false
  tx : (s.conn c).tx = some q
  txFailed : (s.conn c).txFailed = false
  watchNotified : (s.conn c).watchNotified = false
  pubsub : (s.conn c).pubsub = 0
  dbIdx : (s.conn c).db < s.srv.dbs.length
  connected : s.srv.connected = true
  crashed : s.crashed = none

/-- what `Ready` and `Queuing` have in common -/
structure Idle (s : Sys) (c : Nat) : Prop where
  has : s.HasConn c
  buf : (s.conn c).buf = []
  dead : (s.conn c).dead = false
  paused : (s.conn c).paused = false
  closed : (s.conn c).closed = false
  pubsub : (s.conn c).pubsub = 0
  dbIdx : (s.conn c).db < s.srv.dbs.length
  connected : s.srv.connected = true
  crashed : s.crashed = none

theorem Ready.idle {s : Sys} {c : Nat} (h : Ready s c) : Idle s c :=
  ⟨h.has, h.buf, h.dead, h.paused, h.closed, h.pubsub, h.dbIdx, h.connected, h.crashed⟩

theorem Queuing.idle {s : Sys} {c : Nat} {q} (h : Queuing s c q) : Idle s c :=
  ⟨h.has, h.buf, h.dead, h.paused, h.closed, h.pubsub, h.dbIdx, h.connected, h.crashed⟩

theorem Idle.ready {s : Sys} {c : Nat} (h : Idle s c) (tx : (s.conn c).tx = none) : Ready s c :=
  ⟨h.has, h.buf, h.dead, h.paused, h.closed, tx, h.pubsub, h.dbIdx, h.connected, h.crashed⟩

theorem Idle.queuing {s : Sys} {c : Nat} {q} (h : Idle s c) (tx : (s.conn c).tx = some q)
    (txFailed : (s.conn c).txFailed = false) (wn : (s.conn c).watchNotified = false) : Queuing s c q :=
  ⟨h.has, h.buf, h.dead, h.paused, h.closed, tx, txFailed, wn, h.pubsub, h.dbIdx, h.connected, h.crashed⟩

/-- the fields of a connection record that only SELECT, (P)SUBSCRIBE/(P)UNSUBSCRIBE, a pause and the end of the
connection change -/
def passive (x : Conn) : Conn :=
  { id := x.id, db := x.db, pubsub := x.pubsub, paused := x.paused, closed := x.closed, dead := x.dead }

theorem Idle.step {s s' : Sys} {c : Nat} (h : Idle s c) (has : s'.HasConn c) (buf : (s'.conn c).buf = [])
    (hp : passive (s'.conn c) = passive (s.conn c)) (hn : s'.srv.dbs.length = s.srv.dbs.length)
    (hup : s'.srv.connected = s.srv.connected) (hcr : s'.crashed = s.crashed) : Idle s' c :=
  ⟨has, buf, (congrArg Conn.dead hp).trans h.dead, (congrArg Conn.paused hp).trans h.paused,
    (congrArg Conn.closed hp).trans h.closed, (congrArg Conn.pubsub hp).trans h.pubsub,
    by rw [hn, show (s'.conn c).db = (s.conn c).db from (congrArg Conn.db hp :)]; exact h.dbIdx,
    hup.trans h.connected, hcr.trans h.crashed⟩

def dictOf (s : Sys) (c : Nat) : Dict := s.srv.dbs.getD (s.conn c).db []

/-- the database selected by `c` as the next command will see it (clock already refreshed) -/
def view (s : Sys) (c : Nat) : Db := ⟨dictOf s c, now s⟩

/-- the context the next command on `c` runs in -/
def ctxFor (s : Sys) (c : Nat) : Ctx := FR.Ttl.ctxOf (pre s) c

theorem ctxFor_time (s : Sys) (c : Nat) : (ctxFor s c).time = (view s c).time := rfl
theorem ctxFor_version (s : Sys) (c : Nat) : (ctxFor s c).version = s.srv.version := s.prologue_version

/-! ### `setBuf c [] (X.emitS c r)`: where `sendall` returns when `_process_command` ended in `X` by sending `r` to `c` -/

theorem sent_out {X : Sys} {c : Nat} (r : Reply) (hcl : (X.conn c).closed = false) :
    (setBuf c [] (X.emitS c r)).out = (c, r) :: X.out := by
  rw [BufIndep.setBuf_eq_updConn, Sys.updConn_out, Sys.emitS_out, hcl]
  rfl

theorem sent_hasConn (X : Sys) (c : Nat) (r : Reply) (c' : Nat) :
    (setBuf c [] (X.emitS c r)).HasConn c' ↔ X.HasConn c' := by
  rw [BufIndep.setBuf_eq_updConn, Sys.hasConn_updConn (fun x => { x with buf := [] }) (fun _ => rfl), Sys.emitS_hasConn]

theorem sent_conn {X : Sys} {c : Nat} (r : Reply) (hc : X.HasConn c) :
    (setBuf c [] (X.emitS c r)).conn c = { X.conn c with buf := [] } := by
  rw [BufIndep.setBuf_eq_updConn, Sys.conn_updConn_same (fun x => { x with buf := [] }) ((Sys.emitS_hasConn X c r c).2 hc)
    (fun _ => rfl), Sys.emitS_conn]

theorem sent_conn_ne (X : Sys) {c c' : Nat} (r : Reply) (hne : c' ≠ c) :
    (setBuf c [] (X.emitS c r)).conn c' = X.conn c' := by
  rw [BufIndep.setBuf_eq_updConn, Sys.conn_updConn_ne (fun x => { x with buf := [] }) hne (fun _ => rfl), Sys.emitS_conn]

theorem sent_conn_proj {β} (X : Sys) (c : Nat) (r : Reply) (c' : Nat) (p : Conn → β)
    (hp : ∀ (x : Conn) B, p { x with buf := B } = p x) :
    p ((setBuf c [] (X.emitS c r)).conn c') = p (X.conn c') := by
  rw [BufIndep.setBuf_eq_updConn, Sys.conn_updConn_proj _ c c' (fun x => { x with buf := [] }) p (fun _ => rfl)
    (fun x => hp x []), Sys.emitS_conn]

theorem sent_srv {β} (q : Server → β) (hq : ∀ (srv : Server) conns, q { srv with conns := conns } = q srv)
    (X : Sys) (c : Nat) (r : Reply) : q (setBuf c [] (X.emitS c r)).srv = q X.srv := by
  rw [← Sys.emitS_srv X c r]
  exact hq _ _

theorem sent_crashed (X : Sys) (c : Nat) (r : Reply) : (setBuf c [] (X.emitS c r)).crashed = X.crashed :=
  Sys.emitS_crashed X c r

/-- what one regular command does, as seen from the wire: `s'` is the state after the request, `o` the outcome of
the pure runner on the selected database -/
structure Stepped (s s' : Sys) (c : Nat) (o : RunOut) : Prop where
  out : s'.out = (c, o.reply) :: s.out
  dict : dictOf s' c = o.db.dict
  ready : Ready s' c
  sel : (s'.conn c).db = (s.conn c).db
  version : s'.srv.version = s.srv.version
  clocks : ∀ t rest, s.clocks = t :: rest → s'.clocks = rest
  inv : s.DataInv → s'.DataInv

theorem after_eq (mode : Mode) {s : Sys} {c : Nat} (hi : Idle s c) (fields : List Bytes) :
    after mode s (c, fields) = setBuf c [] ((processCommand mode c fields).run s).2 := by
  unfold after
  simp only
  rw [sendallGuarded_encode mode c _ s hi.has hi.buf hi.dead hi.paused hi.connected]

theorem view_eq (s : Sys) (c : Nat) : view s c = C09v.viewAt s c := congrArg (Db.mk _) s.prologue_time

theorem _root_.FR.Ran.after (mode : Mode) {s : Sys} {c : Nat} (hi : Idle s c) {fields : List Bytes} {r : Reply}
    {D' : Dict} (h : Ran s (processCommand mode c fields s).2 c r D') :
    Ran s (after mode s (c, fields)) c r D' ∧ ((after mode s (c, fields)).conn c).buf = [] := by
  rw [after_eq mode hi]
  exact ⟨h.updConn _ (fun _ => rfl) (fun _ => rfl) (fun _ => rfl),
    congrArg Conn.buf (Sys.conn_updConn_same (fun x => { x with buf := [] }) ((h.has c).2 hi.has) (fun _ => rfl))⟩

theorem _root_.FR.Ran.idle {s s' : Sys} {c : Nat} {r : Reply} {D' : Dict} (h : Ran s s' c r D') (hi : Idle s c)
    (hb : (s'.conn c).buf = []) : Idle s' c :=
  ⟨(h.has c).2 hi.has, hb, (h.dead hi.crashed c).trans hi.dead, (h.field Conn.paused (fun _ => rfl) c).trans hi.paused,
    (h.field Conn.closed (fun _ => rfl) c).trans hi.closed, (h.field Conn.pubsub (fun _ => rfl) c).trans hi.pubsub,
    by rw [h.dbs, List.length_set, h.field Conn.db (fun _ => rfl) c]
       exact hi.dbIdx,
    h.connected.trans hi.connected, h.crashed.trans hi.crashed⟩

theorem step_regular (mode : Mode) {s : Sys} {c : Nat} (hr : Ready s c) (name : Bytes) (args : List Bytes)
    {sig : Sig} {body : Body} (hsig : lookupSig name = some sig) (hb : Cmd.regular sig.name = some body)
    (har : sig.checkArity args.length = true) :
    Stepped s (after mode s (c, name :: args)) c (runRegular sig body (ctxFor s c) none args (view s c)) := by
  obtain ⟨h, hbuf⟩ := (regular_ran mode c args s hsig hb har hr.tx hr.pubsub).after mode hr.idle
  have hdb : ((after mode s (c, name :: args)).conn c).db = (s.conn c).db := h.field Conn.db (fun _ => rfl) c
  rw [view_eq]
  exact ⟨by rw [h.out, hr.closed]; rfl, by unfold dictOf; rw [hdb, h.dbs]; exact getD_set_self _ _ _ _ hr.dbIdx,
    (h.idle hr.idle hbuf).ready ((h.field Conn.tx (fun _ => rfl) c).trans hr.tx), hdb, h.version,
    fun t rest e => by rw [h.clocks, e]; rfl, fun hi => dataInv_whole.sendallGuarded mode c _ s hi⟩

/-! ## 5. command names -/

/-- `name` spells the command `cmd` up to ASCII letter case (`SET`, `set`, `sEt` all spell `"set"`) -/
def Spells (name : Bytes) (cmd : String) : Prop := name.map lowerByte = (strBytes cmd).map lowerByte

instance (name : Bytes) (cmd : String) : Decidable (Spells name cmd) := by unfold Spells; infer_instance

theorem Spells.lookup {name : Bytes} {cmd : String} (h : Spells name cmd) : lookupSig name = lookupSig (strBytes cmd) :=
  FR.C17.lookupSig_case_insensitive _ _ h

theorem spells_self (cmd : String) : Spells (strBytes cmd) cmd := rfl

structure Reg (cmd : String) (sig : Sig) (body : Body) : Prop where
  look : lookupSig (strBytes cmd) = some sig
  name : sig.name = cmd
  body : Cmd.regular cmd = some body

/-- `cmd` is what `commandName` makes of its own bytes and is not hidden -/
def Plain (cmd : String) : Prop := commandName (strBytes cmd) = some cmd ∧ cmd.startsWith "_" = false

instance (cmd : String) : Decidable (Plain cmd) := by unfold Plain; infer_instance

theorem Reg.of_tables {cmd : String} {sig : Sig} {body : Body} (hp : Plain cmd)
    (hf : SigTable.find cmd = some sig) (hb : Cmd.regular cmd = some body) : Reg cmd sig body :=
  ⟨lookupSig_of_find hp.1 hp.2 hf, SigTable.find_name hf, hb⟩

theorem step_cmd (mode : Mode) {s : Sys} {c : Nat} (hr : Ready s c) {cmd : String} {sig : Sig} {body : Body}
    (hreg : Reg cmd sig body) {name : Bytes} (hn : Spells name cmd) (args : List Bytes)
    (har : sig.checkArity args.length = true) :
    Stepped s (after mode s (c, name :: args)) c (runRegular sig body (ctxFor s c) none args (view s c)) :=
  step_regular mode hr name args (hn.lookup.trans hreg.look) (by rw [hreg.name]; exact hreg.body) har

/-! ## 6. the key space between two commands -/

open FR.StrKeys in
theorem live_lookup {d : Dict} (nd : NodupKeys d) (t : Int) (k : Bytes) :
    Db.live ⟨d, t⟩ k =
      match d.lookup k with
      | none => none
      | some it => if expiredAt t it.expireat then none else some it :=
  WatchSys.live_eq_liveOf (db := ⟨d, t⟩) nd k

theorem live_persist {d : Dict} (nd : NodupKeys d) {t t' : Int} {k : Bytes} {it : Item}
    (h : Db.live ⟨d, t⟩ k = some it) (he : it.expireat = none) : Db.live ⟨d, t'⟩ k = some it := by
  rw [live_lookup nd] at h ⊢
  cases hl : d.lookup k with
  | none => rw [hl] at h; cases h
  | some it' =>
    rw [hl] at h
    simp only at h ⊢
    split at h
    · cases h
    · cases h
      simp [FR.StrKeys.expiredAt, he]

theorem live_none_mono {d : Dict} (nd : NodupKeys d) {t t' : Int} (htt : t ≤ t') {k : Bytes}
    (h : Db.live ⟨d, t⟩ k = none) : Db.live ⟨d, t'⟩ k = none := by
  rw [live_lookup nd] at h ⊢
  cases hl : d.lookup k with
  | none => rfl
  | some it =>
    rw [hl] at h
    simp only at h ⊢
    split at h
    · rename_i he
      have : FR.StrKeys.expiredAt t' it.expireat = true := by
        unfold FR.StrKeys.expiredAt at he ⊢
        cases hx : it.expireat with
        | none => rw [hx] at he; cases he
        | some e =>
          rw [hx] at he
          simp only [decide_eq_true_eq] at he ⊢
          omega
      simp [this]
    · cases h

theorem good_view {s : Sys} (hi : s.DataInv) (c : Nat) : NodupKeys (view s c).dict ∧ NoEmpty (view s c).dict :=
  hi.dbAt (s.conn c).db

theorem Stepped.view_eq {s s' : Sys} {c : Nat} {o : RunOut} (st : Stepped s s' c o) :
    view s' c = ⟨o.db.dict, now s'⟩ := by
  unfold view; rw [st.dict]

theorem Stepped.live_persist {s s' : Sys} {c : Nat} {o : RunOut} (st : Stepped s s' c o)
    (nd : NodupKeys o.db.dict) {k : Bytes} {it : Item} (h : o.db.live k = some it) (he : it.expireat = none) :
    (view s' c).live k = some it := by
  rw [st.view_eq]
  exact Wire.live_persist nd (t := o.db.time) h he

/-- key `k` of the database selected by `c` holds the value `v` without deadline: it is seen at every clock reading -/
def Holds (s : Sys) (c : Nat) (k : Bytes) (v : Value) : Prop :=
  ∀ t, Db.live ⟨dictOf s c, t⟩ k = some ⟨v, none⟩

theorem Holds.view {s : Sys} {c : Nat} {k : Bytes} {v : Value} (h : Holds s c k v) :
    (view s c).live k = some ⟨v, none⟩ := h (now s)

theorem Stepped.holds {s s' : Sys} {c : Nat} {o : RunOut} (st : Stepped s s' c o)
    (nd : NodupKeys o.db.dict) {k : Bytes} {v : Value} (h : o.db.live k = some ⟨v, none⟩) : Holds s' c k v := by
  intro t
  rw [st.dict]
  exact Wire.live_persist nd (t := o.db.time) h rfl

/-- `h` is the command's run equation on the database `c` sees; the step lemmas of §7–11 are instances -/
theorem cmd_step (mode : Mode) {s : Sys} {c : Nat} (hr : Ready s c) (hi : s.DataInv) {cmd : String} {sig : Sig}
    {body : Body} (hreg : Reg cmd sig body) {name : Bytes} (hn : Spells name cmd) (args : List Bytes)
    (har : sig.checkArity args.length = true) {r : Reply} {L : Bytes → Option Item}
    (h : NodupKeys (view s c).dict → NoEmpty (view s c).dict →
      (runRegular sig body (ctxFor s c) none args (view s c)).reply = r ∧
      (runRegular sig body (ctxFor s c) none args (view s c)).db.live = L) :
    (after mode s (c, name :: args)).out = (c, r) :: s.out ∧ Ready (after mode s (c, name :: args)) c ∧
    (after mode s (c, name :: args)).DataInv ∧
    (∀ k v, L k = some ⟨v, none⟩ → Holds (after mode s (c, name :: args)) c k v) := by
  have st := step_cmd mode hr hreg hn args har
  obtain ⟨nd, ne⟩ := good_view hi c
  obtain ⟨h1, h2⟩ := h nd ne
  refine ⟨by rw [st.out, h1], st.ready, st.inv hi, fun k v hk =>
    st.holds (runRegular_nodup sig body (ctxFor s c) none args nd) ?_⟩
  rw [h2]; exact hk

theorem read_step (mode : Mode) {s : Sys} {c : Nat} (hr : Ready s c) (hi : s.DataInv) {cmd : String} {sig : Sig}
    {body : Body} (hreg : Reg cmd sig body) {name : Bytes} (hn : Spells name cmd) (args : List Bytes)
    (har : sig.checkArity args.length = true) {r : Reply}
    (h : NodupKeys (view s c).dict → NoEmpty (view s c).dict →
      (runRegular sig body (ctxFor s c) none args (view s c)).reply = r ∧
      (runRegular sig body (ctxFor s c) none args (view s c)).db.live = (view s c).live) :
    (after mode s (c, name :: args)).out = (c, r) :: s.out ∧ Ready (after mode s (c, name :: args)) c ∧
    (after mode s (c, name :: args)).DataInv ∧
    (∀ k v, Holds s c k v → Holds (after mode s (c, name :: args)) c k v) := by
  obtain ⟨h1, h2, h3, h4⟩ := cmd_step mode hr hi hreg hn args har h
  exact ⟨h1, h2, h3, fun k v hk => h4 k v hk.view⟩

/-- a triple over the wire: with `c` ready, `DataInv` and `P`, the request `req` of `c` gets exactly the reply `r`, and
afterwards `c` is ready, `DataInv` and `Q` hold -/
def Step (mode : Mode) (c : Nat) (P : Sys → Prop) (req : List Bytes) (r : Reply) (Q : Sys → Prop) : Prop :=
  ∀ s, Ready s c → s.DataInv → P s →
    (after mode s (c, req)).out = (c, r) :: s.out ∧ Ready (after mode s (c, req)) c ∧
    (after mode s (c, req)).DataInv ∧ Q (after mode s (c, req))

/-- a session of `c`: its requests, each with the reply it gets -/
inductive Steps (mode : Mode) (c : Nat) : (Sys → Prop) → List (List Bytes × Reply) → (Sys → Prop) → Prop
  | nil {P} : Steps mode c P [] P
  | cons {P Q R req r rest} : Step mode c P req r Q → Steps mode c Q rest R → Steps mode c P ((req, r) :: rest) R

theorem Steps.out {mode : Mode} {c : Nat} {P R : Sys → Prop} {l : List (List Bytes × Reply)} (h : Steps mode c P l R)
    (s : Sys) (hr : Ready s c) (hi : s.DataInv) (hp : P s) :
    (run mode s (l.map fun p => (c, p.1))).out = (l.map fun p => (c, p.2)).reverse ++ s.out := by
  induction h generalizing s with
  | nil => rfl
  | cons h1 _ ih =>
    obtain ⟨o, r', i', q⟩ := h1 s hr hi hp
    rw [List.map_cons, run_cons, ih _ r' i' q, o]
    simp

theorem read_held (mode : Mode) {c : Nat} {cmd : String} {sig : Sig} {body : Body} (hreg : Reg cmd sig body)
    {name : Bytes} (hn : Spells name cmd) (args : List Bytes) (har : sig.checkArity args.length = true)
    {k : Bytes} {v : Value} {r : Reply}
    (h : ∀ s, Holds s c k v → NodupKeys (view s c).dict → NoEmpty (view s c).dict →
      (runRegular sig body (ctxFor s c) none args (view s c)).reply = r ∧
      (runRegular sig body (ctxFor s c) none args (view s c)).db.live = (view s c).live) :
    Step mode c (Holds · c k v) (name :: args) r (Holds · c k v) := fun s hr hi hk => by
  obtain ⟨h1, h2, h3, h4⟩ := read_step mode hr hi hreg hn args har (h s hk)
  exact ⟨h1, h2, h3, h4 k v hk⟩

/-! ## 7. strings -/
section strings
open FR.StrKeys FR.Props

theorem reg_set : Reg "set" sigSet Cmd.set :=
  let ⟨h, _⟩ := C01k.tables; .of_tables (by decide +kernel) h.1 h.2
theorem reg_get : Reg "get" sigGet Cmd.get :=
  let ⟨_, h, _⟩ := C01k.tables; .of_tables (by decide +kernel) h.1 h.2
theorem reg_strlen : Reg "strlen" sigStrlen Cmd.strlen :=
  let ⟨_, _, h, _⟩ := C01k.tables; .of_tables (by decide +kernel) h.1 h.2
theorem reg_mget : Reg "mget" sigMget Cmd.mget :=
  let ⟨_, _, _, _, _, _, _, h, _⟩ := C01k.tables; .of_tables (by decide +kernel) h.1 h.2
theorem reg_mset : Reg "mset" sigMset Cmd.mset :=
  let ⟨_, _, _, _, _, _, _, _, h, _⟩ := C01k.tables; .of_tables (by decide +kernel) h.1 h.2
theorem reg_append : Reg "append" sigAppend Cmd.append :=
  let ⟨_, _, _, _, _, _, _, _, _, _, _, _, _, _, _, h, _⟩ := C01k.tables; .of_tables (by decide +kernel) h.1 h.2
theorem reg_getrange : Reg "getrange" sigGetrange Cmd.getrange :=
  have h : Plain "getrange" ∧ SigTable.find "getrange" = some sigGetrange := by decide +kernel
  .of_tables h.1 h.2 rfl

theorem set_step (mode : Mode) (c : Nat) {name : Bytes} (hn : Spells name "set") (k v : Bytes) :
    Step mode c (fun _ => True) [name, k, v] .ok (Holds · c k (.str v)) := fun s hr hi _ => by
  obtain ⟨h1, h2, h3, h4⟩ := cmd_step mode hr hi reg_set hn [k, v] rfl fun nd ne =>
    Prod.mk.inj (C01k.set_plain (ctxFor s c) (view s c) nd ne (ctxFor_time s c) k v)
  exact ⟨h1, h2, h3, h4 k _ (upd_self ..)⟩

theorem get_step (mode : Mode) {s : Sys} {c : Nat} (hr : Ready s c) (hi : s.DataInv) {name : Bytes}
    (hn : Spells name "get") (k : Bytes) :
    (after mode s (c, [name, k])).out =
      (c, match (view s c).live k with
          | none => Reply.nil
          | some ⟨.str b, _⟩ => .bulk b
          | some _ => wrongtype) :: s.out ∧
    Ready (after mode s (c, [name, k])) c ∧ (after mode s (c, [name, k])).DataInv ∧
    (∀ k' v', Holds s c k' v' → Holds (after mode s (c, [name, k])) c k' v') := by
  refine read_step mode hr hi reg_get hn [k] rfl fun nd _ =>
    Prod.mk.inj ((C01k.get_spec (ctxFor s c) (view s c) nd k).trans ?_)
  cases (view s c).live k with
  | none => rfl
  | some it =>
    obtain ⟨v, e⟩ := it
    cases v <;> rfl

theorem get_held (mode : Mode) (c : Nat) {name : Bytes} (hn : Spells name "get") (k b : Bytes) :
    Step mode c (Holds · c k (.str b)) [name, k] (.bulk b) (Holds · c k (.str b)) := fun s hr hi hk => by
  obtain ⟨o, r, i, keep⟩ := get_step mode hr hi hn k
  rw [hk.view] at o
  exact ⟨o, r, i, keep _ _ hk⟩

theorem checkArity_ge (sg : Sig) (n : Nat) (hrep : sg.rep.isEmpty = false) (hn : sg.fixed.length ≤ n) :
    sg.checkArity n = true := by
  unfold Sig.checkArity
  split
  · simp only [hrep, Bool.or_false, Bool.not_eq_true', decide_eq_false_iff_not]; omega
  · rfl

theorem getrangeSpec_all (v : Bytes) : FR.Spec.getrangeSpec v 0 (-1) = v := by
  unfold FR.Spec.getrangeSpec
  rw [if_neg (by omega)]
  simp only
  rw [FR.Proofs.window_of_iff v 0 v.length _ (by
    intro i hi
    simp only [FR.Spec.norm]
    omega)]
  simp

theorem lrangeSpec_all {α} (l : List α) : FR.Spec.lrangeSpec l 0 (-1) = l := by
  unfold FR.Spec.lrangeSpec
  rw [FR.Proofs.window_of_iff l 0 l.length _ (by
    intro i hi
    simp only [FR.Spec.norm]
    omega)]
  simp

theorem append_step (mode : Mode) (c : Nat) {name : Bytes} (hn : Spells name "append") (k b w : Bytes)
    (hsz : b.length + w.length ≤ Conv.MAX_STRING_SIZE) :
    Step mode c (Holds · c k (.str b)) [name, k, w] (.int ((b ++ w).length : Nat)) (Holds · c k (.str (b ++ w))) :=
    fun s hr hi hk => by
  obtain ⟨h1, h2, h3, h4⟩ := cmd_step mode hr hi reg_append hn [k, w] rfl fun nd ne => by
    have sp := C01k.append_spec (ctxFor s c) (view s c) nd ne k w
    simp only [hk.view, C01k.appendOn_unfolded, if_neg (Nat.not_lt.2 hsz)] at sp
    exact Prod.mk.inj sp
  exact ⟨h1, h2, h3, h4 k _ (upd_self ..)⟩

theorem strlen_step (mode : Mode) (c : Nat) {name : Bytes} (hn : Spells name "strlen") (k b : Bytes) :
    Step mode c (Holds · c k (.str b)) [name, k] (.int (b.length : Nat)) (Holds · c k (.str b)) :=
  read_held mode reg_strlen hn [k] rfl fun s hk nd _ => by
    have sp := C01k.strlen_spec (ctxFor s c) (view s c) nd k
    simp only [hk.view] at sp
    exact Prod.mk.inj sp

theorem getrange_all_step (mode : Mode) (c : Nat) {name : Bytes} (hn : Spells name "getrange") (k b : Bytes) :
    Step mode c (Holds · c k (.str b)) [name, k, [48], [45, 49]] (.bulk b) (Holds · c k (.str b)) :=
  read_held mode reg_getrange hn [k, [48], [45, 49]] rfl fun s hk nd ne => by
    have sp := C01k.getrange_spec sigGetrange (Or.inl rfl) (ctxFor s c) (view s c) nd ne k [48] [45, 49] 0 (-1)
      rfl rfl
    simp only [hk.view, getrangeSpec_all] at sp
    exact Prod.mk.inj sp

/-- the value of the last pair naming `x` (`[]` when no pair names it) -/
def lastVal (ps : List (Bytes × Bytes)) (x : Bytes) : Bytes :=
  match ps.reverse.find? (fun q => q.1 == x) with
  | some q => q.2
  | none => []

theorem mset_step (mode : Mode) {s : Sys} {c : Nat} (hr : Ready s c) (hi : s.DataInv) {name : Bytes}
    (hn : Spells name "mset") (p : Bytes × Bytes) (ps : List (Bytes × Bytes)) :
    (after mode s (c, name :: flat (p :: ps))).out = (c, .ok) :: s.out ∧
    Ready (after mode s (c, name :: flat (p :: ps))) c ∧ (after mode s (c, name :: flat (p :: ps))).DataInv ∧
    (∀ q ∈ p :: ps, Holds (after mode s (c, name :: flat (p :: ps))) c q.1 (.str (lastVal (p :: ps) q.1))) := by
  obtain ⟨h1, h2, h3, h4⟩ := cmd_step mode hr hi reg_mset hn (flat (p :: ps))
    (checkArity_ge sigMset _ rfl (by rw [flat_length]; simp [sigMset]; omega)) fun nd _ =>
    Prod.mk.inj (C01k.mset_spec (ctxFor s c) (view s c) nd p ps)
  refine ⟨h1, h2, h3, fun q hq => h4 _ _ ?_⟩
  rw [C01k.mset_last_wins]
  unfold lastVal
  cases hf : (p :: ps).reverse.find? (fun r => r.1 == q.1) with
  | some r => rfl
  | none =>
    have := List.find?_eq_none.1 hf q (List.mem_reverse.2 hq)
    simp at this

theorem mget_step (mode : Mode) {s : Sys} {c : Nat} (hr : Ready s c) (hi : s.DataInv) {name : Bytes}
    (hn : Spells name "mget") (k : Bytes) (ks : List Bytes) :
    (after mode s (c, name :: k :: ks)).out =
      (c, .arr ((k :: ks).map fun x => mgetOne ((view s c).live x))) :: s.out ∧
    Ready (after mode s (c, name :: k :: ks)) c ∧ (after mode s (c, name :: k :: ks)).DataInv ∧
    (∀ k' v', Holds s c k' v' → Holds (after mode s (c, name :: k :: ks)) c k' v') :=
  read_step mode hr hi reg_mget hn (k :: ks) (checkArity_ge sigMget _ rfl (by simp [sigMget])) fun nd _ =>
    Prod.mk.inj (C01k.mget_spec (ctxFor s c) (view s c) nd k ks)

end strings

/-! ## 8. key names: EXISTS, DEL, RENAME, TYPE -/
section keys
open FR.StrKeys FR.Props

theorem reg_del : Reg "del" sigDel Cmd.del :=
  let ⟨_, _, _, _, _, _, _, _, _, _, _, _, _, _, _, _, h, _⟩ := C01k.tables; .of_tables (by decide +kernel) h.1 h.2
theorem reg_exists : Reg "exists" sigExists Cmd.exists_ :=
  let ⟨_, _, _, _, _, _, _, _, _, _, _, _, _, _, _, _, _, _, h, _⟩ := C01k.tables
  .of_tables (by decide +kernel) h.1 h.2
theorem reg_type : Reg "type" sigType Cmd.type_ :=
  let ⟨_, _, _, _, _, _, _, _, _, _, _, _, _, _, _, _, _, _, _, h, _⟩ := C01k.tables
  .of_tables (by decide +kernel) h.1 h.2
theorem reg_rename : Reg "rename" sigRename Cmd.rename :=
  let ⟨_, _, _, _, _, _, _, _, _, _, _, _, _, _, _, _, _, _, _, _, _, h, _⟩ := C01k.tables
  .of_tables (by decide +kernel) h.1 h.2

theorem exists_step (mode : Mode) (c : Nat) {name : Bytes} (hn : Spells name "exists") (k : Bytes) (v : Value) :
    Step mode c (Holds · c k v) [name, k] (.int 1) (Holds · c k v) :=
  read_held mode reg_exists hn [k] rfl fun s hk nd ne => by
    have sp := C01k.exists_spec (ctxFor s c) (view s c) nd ne k []
    have hf : List.filter (fun x => ((view s c).live x).isSome) [k] = [k] := by simp [hk.view]
    rw [hf] at sp
    exact Prod.mk.inj sp

theorem del_step (mode : Mode) (c : Nat) {name : Bytes} (hn : Spells name "del") (k : Bytes) (v : Value) :
    Step mode c (Holds · c k v) [name, k] (.int 1) (fun _ => True) := fun s hr hi hk' => by
  have hk : ((view s c).live k).isSome = true := by rw [hk'.view]; rfl
  obtain ⟨nd, ne⟩ := good_view hi c
  obtain ⟨d, hnd, hmem, hrep, _⟩ := C01k.del_spec (ctxFor s c) (view s c) nd ne k []
  -- the deleted keys are a list without repetition whose one member is `k`
  have hd : d = [k] := List.perm_singleton.1 ((List.perm_ext_iff_of_nodup hnd (List.pairwise_singleton _ k)).2 fun x => by
    rw [hmem]
    exact ⟨fun h => h.1, fun h => ⟨h, by rw [List.mem_singleton.1 h]; exact hk⟩⟩)
  subst hd
  obtain ⟨h1, h2, h3, _⟩ := cmd_step mode hr hi reg_del hn [k] rfl fun _ _ => ⟨hrep, rfl⟩
  exact ⟨h1, h2, h3, trivial⟩

theorem rename_step (mode : Mode) (c : Nat) {name : Bytes} (hn : Spells name "rename") (k nk : Bytes) (v : Value) :
    Step mode c (Holds · c k v) [name, k, nk] .ok (Holds · c nk v) := fun s hr hi hk => by
  obtain ⟨h1, h2, h3, h4⟩ := cmd_step mode hr hi reg_rename hn [k, nk] rfl fun nd ne => by
    have sp := C01k.rename_spec (ctxFor s c) (view s c) nd ne k nk
    simp only [hk.view] at sp
    exact Prod.mk.inj sp
  refine ⟨h1, h2, h3, h4 nk v ?_⟩
  rw [C01k.renamed_unfolded]
  by_cases h : nk = k
  · rw [if_pos h, h]; exact hk.view
  · rw [if_neg h, upd_self]

theorem type_step (mode : Mode) (c : Nat) {name : Bytes} (hn : Spells name "type") (k : Bytes) (v : Value) :
    Step mode c (Holds · c k v) [name, k] (.status (strBytes v.ty.name)) (Holds · c k v) :=
  read_held mode reg_type hn [k] rfl fun s hk nd _ => by
    have sp := C01k.type_spec (ctxFor s c) (view s c) nd k
    simp only [hk.view] at sp
    exact Prod.mk.inj sp

end keys

/-! ## 9. hashes and sets -/
section hashset
open FR.HashSet

/-- the registered signature and body of `cmd`, whatever they are, as `FR.HashSet.run` takes them: one evaluation of
`h` finds them -/
theorem reg_run {cmd : String}
    (h : (Plain cmd ∧ (SigTable.find cmd).isSome = true) ∧ (Cmd.regular cmd).isSome = true) :
    Reg cmd (sigOf cmd) ((Cmd.regular cmd).getD fun _ _ _ => .error "model: no body") :=
  .of_tables h.1.1 ((Option.eq_some_of_isSome h.1.2).trans (congrArg some (Option.get_eq_getD _)))
    ((Option.eq_some_of_isSome h.2).trans (congrArg some (Option.get_eq_getD _)))

/-- `cmd_step` for a command given by its name alone, with its outcome as the `run_*` closed forms of hashes, sets and
sorted sets give it; `hd` is one evaluation of the two command tables, `n` the number of arguments -/
theorem run_step (mode : Mode) {s : Sys} {c : Nat} (hr : Ready s c) (hi : s.DataInv) {cmd : String} {name : Bytes}
    (hn : Spells name cmd) (args : List Bytes) (n : Nat)
    (hd : ((Plain cmd ∧ (SigTable.find cmd).isSome = true) ∧ (Cmd.regular cmd).isSome = true) ∧
      (sigOf cmd).checkArity n = true) (hlen : args.length = n) {r : Reply} {L : Bytes → Option Item} {f : Bool}
    (h : NodupKeys (view s c).dict → Sees (FR.HashSet.run cmd (ctxFor s c) args (view s c)) r L f) :
    (after mode s (c, name :: args)).out = (c, r) :: s.out ∧ Ready (after mode s (c, name :: args)) c ∧
    (after mode s (c, name :: args)).DataInv ∧
    (∀ k v, L k = some ⟨v, none⟩ → Holds (after mode s (c, name :: args)) c k v) :=
  cmd_step mode hr hi (reg_run hd.1) hn args (hlen ▸ hd.2) fun nd _ => ⟨(h nd).1, (h nd).2.1⟩

/-- the same for a reader, as `read_held` -/
theorem run_held (mode : Mode) {c : Nat} {cmd : String} {name : Bytes} (hn : Spells name cmd) (args : List Bytes) (n : Nat)
    (hd : ((Plain cmd ∧ (SigTable.find cmd).isSome = true) ∧ (Cmd.regular cmd).isSome = true) ∧
      (sigOf cmd).checkArity n = true) (hlen : args.length = n) {k : Bytes} {v : Value} {r : Reply} {f : Bool}
    (h : ∀ s, Holds s c k v → NodupKeys (view s c).dict →
      Sees (FR.HashSet.run cmd (ctxFor s c) args (view s c)) r (view s c).live f) :
    Step mode c (Holds · c k v) (name :: args) r (Holds · c k v) :=
  read_held mode (reg_run hd.1) hn args (hlen ▸ hd.2) fun s hk nd _ => ⟨(h s hk nd).1, (h s hk nd).2.1⟩

/-- `h = []`: the key is missing -/
theorem hset_step (mode : Mode) (c : Nat) {name : Bytes} (hn : Spells name "hset") (k f v : Bytes) (h : HashV) :
    Step mode c (fun s => hashView (view s c).live k = some (h, none)) [name, k, f, v] (.int (hsetRec h [(f, v)]).2)
      (Holds · c k (.hash (hsetRec h [(f, v)]).1)) := fun s hr hi hv => by
  obtain ⟨h1, h2, h3, h4⟩ := run_step mode hr hi hn [k, f, v] 3 (by decide +kernel) rfl fun nd =>
    run_hset (ctxFor s c) k nd hv f v [] rfl
  refine ⟨h1, h2, h3, h4 k _ ?_⟩
  show putAt _ k (.hash (hsetRec h [(f, v)]).1) none k = _
  rw [putAt_self]
  have hne := hsetRec_ne_nil h (f, v) []
  cases hh : (hsetRec h [(f, v)]).1 with
  | nil => exact absurd hh hne
  | cons a as => rfl

theorem hsetRec_single_lookup (h : HashV) (f v : Bytes) : (hsetRec h [(f, v)]).1.lookup f = some v := by
  rw [hsetRec_lookup]
  simp

theorem hget_step (mode : Mode) (c : Nat) {name : Bytes} (hn : Spells name "hget") (k f : Bytes) (h : HashV) :
    Step mode c (Holds · c k (.hash h)) [name, k, f] (Reply.ofOptBulk (h.lookup f)) (Holds · c k (.hash h)) :=
  run_held mode hn [k, f] 2 (by decide +kernel) rfl fun s hk nd =>
    run_hget (ctxFor s c) k nd (hashC.see_stored hk.view) f

theorem hgetall_step (mode : Mode) (c : Nat) {name : Bytes} (hn : Spells name "hgetall") (k : Bytes) (h : HashV) :
    Step mode c (Holds · c k (.hash h)) [name, k] (.arr (h.flatMap fun p => [.bulk p.1, .bulk p.2]))
      (Holds · c k (.hash h)) :=
  run_held mode hn [k] 1 (by decide +kernel) rfl fun s hk nd =>
    run_hgetall (ctxFor s c) k nd (hashC.see_stored hk.view)

/-- `m₀ = []`: the key is missing -/
theorem sadd_step (mode : Mode) (c : Nat) {name : Bytes} (hn : Spells name "sadd") (k m : Bytes) (m₀ : List Bytes) :
    Step mode c (fun s => setView (view s c).live k = some (m₀, none)) [name, k, m]
      (.int ((Cmd.setUnion m₀ [m]).length - m₀.length : Nat)) (Holds · c k (.set (Cmd.setUnion m₀ [m]))) :=
    fun s hr hi hv => by
  obtain ⟨h1, h2, h3, h4⟩ := run_step mode hr hi hn [k, m] 2 (by decide +kernel) rfl fun nd =>
    run_sadd (ctxFor s c) k nd hv m []
  refine ⟨h1, h2, h3, h4 k _ ?_⟩
  rw [putAt_self]
  have hmem : m ∈ Cmd.setUnion m₀ [m] := (mem_setUnion m₀ [m] m).2 (Or.inr (by simp))
  cases hh : Cmd.setUnion m₀ [m] with
  | nil => rw [hh] at hmem; cases hmem
  | cons a as => rfl

theorem sismember_step (mode : Mode) (c : Nat) {name : Bytes} (hn : Spells name "sismember") (k m : Bytes)
    (m₀ : List Bytes) :
    Step mode c (Holds · c k (.set m₀)) [name, k, m] (.int (if m₀.contains m then 1 else 0)) (Holds · c k (.set m₀)) :=
  run_held mode hn [k, m] 2 (by decide +kernel) rfl fun s hk nd =>
    run_sismember (ctxFor s c) k nd (setC.see_stored hk.view) m

theorem smembers_step (mode : Mode) (c : Nat) {name : Bytes} (hn : Spells name "smembers") (k : Bytes)
    (m₀ : List Bytes) : Step mode c (Holds · c k (.set m₀)) [name, k] (Reply.bulks m₀) (Holds · c k (.set m₀)) :=
  run_held mode hn [k] 1 (by decide +kernel) rfl fun s hk nd =>
    run_smembers (ctxFor s c) k nd (setC.see_stored hk.view)

end hashset

/-! ## 10. lists -/
section lists
open FR.HashSet FR.ListKeys

/-- `l = []`: the key is missing -/
theorem push_step (mode : Mode) (c : Nat) (left : Bool) {cmd : String}
    (t : sigOf cmd = sigPush cmd ∧ Cmd.regular cmd = some (pushBody left false))
    (hreg : Reg cmd (sigOf cmd) ((Cmd.regular cmd).getD fun _ _ _ => .error "model: no body"))
    {name : Bytes} (hn : Spells name cmd) (k : Bytes) (l : List Bytes) (v : Bytes) (vs : List Bytes) :
    Step mode c (fun s => listView (view s c).live k = some (l, none)) (name :: k :: v :: vs)
      (.int ((pushed left l (v :: vs)).length : Nat)) (Holds · c k (.list (pushed left l (v :: vs)))) :=
    fun s hr hi hv => by
  have hne : pushed left l (v :: vs) ≠ [] := by cases left <;> simp [pushed]
  have e : pushCmd left false cmd (view s c).live (k :: v :: vs) =
      (.int ((pushed left l (v :: vs)).length : Nat), putList (view s c).live k (pushed left l (v :: vs)) none) := by
    simp only [pushCmd, pushL, onList, hv, Bool.false_eq_true, false_and, if_false]
  obtain ⟨h1, h2, h3, h4⟩ := cmd_step mode hr hi hreg hn (k :: v :: vs)
    (by rw [t.1]; exact checkArity_ge _ _ rfl (by simp [sigPush])) fun nd ne =>
    Prod.mk.inj ((push_run (ctxFor s c) (k :: v :: vs) nd ne left false t).trans e)
  exact ⟨h1, h2, h3, h4 k _ (by rw [putList_self, if_neg hne])⟩

theorem rpush_step (mode : Mode) (c : Nat) {name : Bytes} (hn : Spells name "rpush") (k : Bytes) (l : List Bytes)
    (v : Bytes) (vs : List Bytes) :
    Step mode c (fun s => listView (view s c).live k = some (l, none)) (name :: k :: v :: vs)
      (.int ((l ++ v :: vs).length : Nat)) (Holds · c k (.list (l ++ v :: vs))) :=
  push_step mode c false tables.2.1 (reg_run (by decide +kernel)) hn k l v vs

theorem lpush_step (mode : Mode) (c : Nat) {name : Bytes} (hn : Spells name "lpush") (k : Bytes) (l : List Bytes)
    (v : Bytes) (vs : List Bytes) :
    Step mode c (fun s => listView (view s c).live k = some (l, none)) (name :: k :: v :: vs)
      (.int (((v :: vs).reverse ++ l).length : Nat)) (Holds · c k (.list ((v :: vs).reverse ++ l))) :=
  push_step mode c true tables.1 (reg_run (by decide +kernel)) hn k l v vs

theorem lrange_step (mode : Mode) (c : Nat) {name : Bytes} (hn : Spells name "lrange") (k : Bytes) (l : List Bytes)
    (sb eb : Bytes) (a b : Int) (hs : Conv.int sb = .ok a) (ht : Conv.int eb = .ok b) :
    Step mode c (Holds · c k (.list l)) [name, k, sb, eb] (Reply.bulks (FR.Spec.lrangeSpec l a b))
      (Holds · c k (.list l)) :=
  read_held mode (reg_run (by decide +kernel)) hn [k, sb, eb]
    (show (sigOf "lrange").checkArity 3 = true by decide +kernel) fun s hk nd ne =>
    Prod.mk.inj ((lrange_run (ctxFor s c) [k, sb, eb] nd ne).trans (by
      simp only [lrangeCmd, withInt, hs, ht, onList, listView_list hk.view]))

theorem lindex_step (mode : Mode) (c : Nat) {name : Bytes} (hn : Spells name "lindex") (k : Bytes) (l : List Bytes)
    (ib : Bytes) (i : Int) (hs : Conv.int ib = .ok i) :
    Step mode c (Holds · c k (.list l)) [name, k, ib] (Reply.ofOptBulk (Py.index? l i)) (Holds · c k (.list l)) :=
  read_held mode (reg_run (by decide +kernel)) hn [k, ib]
    (show (sigOf "lindex").checkArity 2 = true by decide +kernel) fun s hk nd ne =>
    Prod.mk.inj ((lindex_run (ctxFor s c) [k, ib] nd ne).trans (by
      simp only [lindexCmd, hk.view, withInt, hs, onList, listView_list hk.view, lindexSpec, ← FR.Proofs.lindex_spec]))

/-- for `xs = []` the key is gone afterwards: hence the condition in the postcondition -/
theorem lpop_step (mode : Mode) (c : Nat) {name : Bytes} (hn : Spells name "lpop") (k x : Bytes) (xs : List Bytes) :
    Step mode c (Holds · c k (.list (x :: xs))) [name, k] (.bulk x) (fun s' => xs ≠ [] → Holds s' c k (.list xs)) :=
    fun s hr hi hk => by
  have e : popCmd true "lpop" (ctxFor s c).version (view s c).live [k] =
      (.bulk x, putList (view s c).live k xs none) := by
    simp only [popCmd, decodeInts, popL, popOn, onList, listView_list hk.view]
    rfl
  obtain ⟨h1, h2, h3, h4⟩ := cmd_step mode hr hi (reg_run (by decide +kernel)) hn [k]
    (show (sigOf "lpop").checkArity 1 = true by decide +kernel) fun nd ne =>
    Prod.mk.inj ((lpop_run (ctxFor s c) [k] nd ne).trans e)
  exact ⟨h1, h2, h3, fun hne => h4 k _ (by rw [putList_self, if_neg hne])⟩

end lists

/-! ## 11. sorted sets -/
section zsets
open FR.HashSet FR.ZCmd

theorem float_one : Conv.float [49] = .ok Dbl.one := by
  have h : (Conv.float [49]).toOption = some Dbl.one := by decide +kernel
  cases hx : Conv.float [49] with
  | error e => rw [hx] at h; cases h
  | ok d => rw [hx] at h; cases h; rfl

theorem one_plusZero : Dbl.one.plusZero = Dbl.one := by decide +kernel
theorem fmt_one (v : Nat) : Cmd.encodeFloat v Dbl.one false = [49] := by
  unfold Cmd.encodeFloat
  split
  · rw [one_plusZero]; decide +kernel
  · decide +kernel

def zsingle (m : Bytes) : ZSet := ⟨[(m, Dbl.one)], [(Dbl.one, m)]⟩

theorem zsingle_inv (m : Bytes) : (zsingle m).Inv := ZSet.add_inv (m := m) ZSet.empty_inv (s := Dbl.one) rfl

theorem zaddRes_one (ctx : Ctx) (m : Bytes) : zaddRes ctx ZSet.empty [[49], m] = .write (zsingle m) (.int 1) := by
  have hp : (if ctx.version ≥ 7 then Dbl.one.plusZero else Dbl.one) = Dbl.one := by
    split
    · exact one_plusZero
    · rfl
  rw [ZCmd.zaddRes_one ctx ZSet.empty (by decide +kernel) float_one, hp]
  rfl

theorem zadd_one_step (mode : Mode) (c : Nat) {name : Bytes} (hn : Spells name "zadd") (k m : Bytes) :
    Step mode c (fun s => (view s c).live k = none) [name, k, [49], m] (.int 1) (Holds · c k (.zset (zsingle m))) :=
    fun s hr hi hk => by
  obtain ⟨h1, h2, h3, h4⟩ := run_step mode hr hi hn [k, [49], m] 3 (by decide +kernel) rfl fun nd =>
    show Writes _ _ k (zsingle m) none (.int 1) from
      zaddRes_one (ctxFor s c) m ▸ run_zadd (ctxFor s c) k nd (zsetView_missing hk) [[49], m]
        (show ArityOK (sigOf "zadd") 3 by decide +kernel)
  exact ⟨h1, h2, h3, h4 k _ (putAt_self ..)⟩

theorem zrange_one_step (mode : Mode) (c : Nat) {name : Bytes} (hn : Spells name "zrange") (k m : Bytes) :
    Step mode c (Holds · c k (.zset (zsingle m))) [name, k, [48], [45, 49]] (.arr [.bulk m])
      (Holds · c k (.zset (zsingle m))) :=
  run_held mode hn [k, [48], [45, 49]] 3 (by decide +kernel) rfl fun s hk nd =>
    show ReadOnly _ _ (.arr [.bulk m]) from
      run_zrange (ctxFor s c) k nd (zsetView_stored hk.view) (zsingle_inv m) [48] [45, 49] [] (start := 0) (stop := -1)
        rfl rfl

theorem zscore_one_step (mode : Mode) (c : Nat) {name : Bytes} (hn : Spells name "zscore") (k m : Bytes) :
    Step mode c (Holds · c k (.zset (zsingle m))) [name, k, m] (.bulk [49]) (Holds · c k (.zset (zsingle m))) :=
  run_held mode hn [k, m] 2 (by decide +kernel) rfl fun s hk nd =>
    have hg : (zsingle m).get m = some Dbl.one := by
      show List.lookup m [(m, Dbl.one)] = _
      simp
    have e := run_zscore (ctxFor s c) k nd (zsetView_stored hk.view) m
    ⟨e.1.trans (by simp only [hg, Cmd.fmtScore, fmt_one]), e.2⟩

end zsets

/-! ## 12. special commands: MULTI, queueing, EXEC -/
section specials

theorem after_special (mode : Mode) {s : Sys} {c : Nat} (hi : Idle s c) (name : Bytes) (args : List Bytes)
    {sig : Sig} (hsig : lookupSig name = some sig) (hreg : Cmd.regular sig.name = none)
    (hns : scriptNames.contains sig.name = false) (har : sig.checkArity args.length = true)
    (hq : ((s.conn c).tx.isSome && !SigTable.notQueued.contains sig.name) = false)
    {a : List Arg} {cis : List CI} (hap : ∀ db, sig.apply args db = (db, .ok (.ok a cis))) :
    after mode s (c, name :: args) = setBuf c []
      (ErrSys.afterRun c (afterSpecial (s.prologue.conn c).db cis (special (runInner mode c) mode c sig.name a cis) s.prologue)) := by
  rw [after_eq mode hi, processCommand_special mode c name args s hsig hreg hns har hq hap (.inl hi.pubsub)]

def sigMulti : Sig := ⟨"multi", [], [], true, 0, 0, false⟩
theorem look_multi : lookupSig (strBytes "multi") = some sigMulti := by decide +kernel
theorem look_exec : lookupSig (strBytes "exec") = some PubSubHist.sigExec := by decide +kernel

theorem writebackAll_nil (d : Nat) (s : Sys) : writebackAll d [] s = ((), s) := rfl

/-- a request answered by one update `f` of the sender's record and a reply: MULTI, a queued and a refused request -/
theorem upd_step {s s' : Sys} {c : Nat} (hi : Idle s c) {f : Conn → Conn} {r : Reply}
    (hst : s' = setBuf c [] ((s.prologue.updConn c f).emitS c r)) (hid : ∀ x, (f x).id = x.id)
    (hf : ∀ x, passive (f x) = passive x) :
    s'.out = (c, r) :: s.out ∧ Idle s' c ∧ s'.conn c = { f (s.prologue.conn c) with buf := [] } ∧
    s'.srv.dbs = s.srv.dbs ∧ (s'.conn c).db = (s.conn c).db := by
  subst hst
  have hc0 : s.prologue.HasConn c := (s.prologue_hasConn c).2 hi.has
  have hc1 : (s.prologue.updConn c f).HasConn c := (Sys.hasConn_updConn f hid).2 hc0
  have hconn : (s.prologue.updConn c f).conn c = f (s.prologue.conn c) := Sys.conn_updConn_same f hc0 hid
  have hconn' := (sent_conn r hc1).trans (by rw [hconn])
  have hp : passive (f (s.prologue.conn c)) = passive (s.conn c) :=
    (hf _).trans (s.prologue_conn c passive (fun _ => rfl))
  have hdbs : (setBuf c [] ((s.prologue.updConn c f).emitS c r)).srv.dbs = s.srv.dbs := by
    rw [sent_srv (fun srv => srv.dbs) (fun _ _ => rfl), Sys.updConn_dbs, Sys.prologue_dbs]
  refine ⟨?_, hi.step ((sent_hasConn ..).2 hc1) (by rw [hconn']) (by rw [hconn']; exact hp) (by rw [hdbs]) ?_ ?_,
    hconn', hdbs, by rw [hconn']; exact (congrArg Conn.db hp :)⟩
  · rw [sent_out r (by rw [hconn]; exact (congrArg Conn.closed hp).trans hi.closed), Sys.updConn_out, Sys.prologue_out]
  · rw [sent_srv (fun srv => srv.connected) (fun _ _ => rfl)]; exact s.prologue_connected
  · rw [sent_crashed]; exact s.prologue_crashed

theorem multi_step (mode : Mode) {s : Sys} {c : Nat} (hr : Ready s c) (hw : (s.conn c).watchNotified = false)
    {name : Bytes} (hn : Spells name "multi") :
    (after mode s (c, [name])).out = (c, .ok) :: s.out ∧ Queuing (after mode s (c, [name])) c [] ∧
    (after mode s (c, [name])).srv.dbs = s.srv.dbs ∧ ((after mode s (c, [name])).conn c).db = (s.conn c).db := by
  have hst : after mode s (c, [name]) = setBuf c []
      ((s.prologue.updConn c fun x => { x with tx := some [], txFailed := false }).emitS c .ok) := by
    rw [after_special mode hr.idle name [] (hn.lookup.trans look_multi) rfl (by decide) (by decide)
      (by rw [hr.tx]; rfl) (a := []) (cis := []) (fun _ => rfl)]
    have htx : (s.prologue.conn c).tx = none := (s.prologue_conn c Conn.tx (fun _ => rfl)).trans hr.tx
    have hsp : special (runInner mode c) mode c sigMulti.name [] [] = multiCmd c [] := rfl
    unfold afterSpecial
    simp only [hsp, bind, StateT.bind, multiCmd_run_none [] htx, writebackAll_nil, pure, StateT.pure]
    exact congrArg (setBuf c []) (afterRun_emit c _ (s.prologue_crashed.trans hr.crashed))
  obtain ⟨h1, h2, h3, h4⟩ := upd_step hr.idle hst (fun _ => rfl) (fun _ => rfl)
  exact ⟨h1, h2.queuing (by rw [h3]) (by rw [h3]) (by rw [h3]; exact Sys.prologue_watchNotified hw), h4⟩

theorem queued_step (mode : Mode) {s : Sys} {c : Nat} {q : List (String × List Bytes)} (hq : Queuing s c q)
    (name : Bytes) (args : List Bytes) {sig : Sig} (hsig : lookupSig name = some sig)
    (har : sig.checkArity args.length = true) (hnq : SigTable.notQueued.contains sig.name = false)
    (hnm : SigTable.notInMulti.contains sig.name = false) :
    (after mode s (c, name :: args)).out = (c, .queued) :: s.out ∧
    Queuing (after mode s (c, name :: args)) c (q ++ [(sig.name, args)]) ∧
    (after mode s (c, name :: args)).srv.dbs = s.srv.dbs ∧
    ((after mode s (c, name :: args)).conn c).db = (s.conn c).db := by
  have hst : after mode s (c, name :: args) = setBuf c []
      ((s.prologue.updConn c fun x => { x with tx := x.tx.map (· ++ [(sig.name, args)]) }).emitS c .queued) := by
    rw [after_eq mode hq.idle]
    show setBuf c [] (processCommand mode c (name :: args) s).2 = _
    rw [processCommand_eq, Sys.processed_known mode c args s hsig,
      Sys.dispatched_queued _ _ _ _ _ _ har (by rw [hq.tx, hnq]; rfl) hnm]
  obtain ⟨h1, h2, h3, h4⟩ := upd_step hq.idle hst (fun _ => rfl) (fun _ => rfl)
  refine ⟨h1, h2.queuing ?_ ?_ ?_, h4⟩
  · rw [h3]
    show (s.prologue.conn c).tx.map _ = _
    rw [(s.prologue_conn c Conn.tx (fun _ => rfl)).trans hq.tx]; rfl
  · rw [h3]; exact (s.prologue_conn c Conn.txFailed (fun _ => rfl)).trans hq.txFailed
  · rw [h3]; exact Sys.prologue_watchNotified hq.watchNotified

theorem refused_step (mode : Mode) {s : Sys} {c : Nat} {q : List (String × List Bytes)} (hq : Queuing s c q)
    (name : Bytes) (args : List Bytes) {sig : Sig} (hsig : lookupSig name = some sig)
    (har : sig.checkArity args.length = true) (hnq : SigTable.notQueued.contains sig.name = false)
    (hnm : SigTable.notInMulti.contains sig.name = true) :
    (after mode s (c, name :: args)).out = (c, .err (strBytes Msgs.COMMAND_IN_MULTI_MSG)) :: s.out ∧
    (after mode s (c, name :: args)).HasConn c ∧
    ((after mode s (c, name :: args)).conn c).tx = some q ∧
    ((after mode s (c, name :: args)).conn c).txFailed = true ∧
    ((after mode s (c, name :: args)).conn c).buf = [] ∧
    ((after mode s (c, name :: args)).conn c).dead = false ∧
    ((after mode s (c, name :: args)).conn c).paused = false ∧
    ((after mode s (c, name :: args)).conn c).closed = false ∧
    ((after mode s (c, name :: args)).conn c).pubsub = 0 ∧
    (after mode s (c, name :: args)).srv.connected = true ∧
    (after mode s (c, name :: args)).crashed = none ∧
    (after mode s (c, name :: args)).srv.dbs = s.srv.dbs ∧
    ((after mode s (c, name :: args)).conn c).db = (s.conn c).db := by
  have hst : after mode s (c, name :: args) = setBuf c []
      ((s.prologue.updConn c fun x => { x with txFailed := true }).emitS c
        (.err (strBytes Msgs.COMMAND_IN_MULTI_MSG))) := by
    rw [after_eq mode hq.idle]
    show setBuf c [] (processCommand mode c (name :: args) s).2 = _
    rw [processCommand_eq, Sys.processed_known mode c args s hsig,
      Sys.dispatched_refused _ _ _ _ _ _ har (by rw [hq.tx, hnq]; rfl) hnm]
    rfl
  obtain ⟨h1, h2, h3, h4⟩ := upd_step hq.idle hst (fun _ => rfl) (fun _ => rfl)
  exact ⟨h1, h2.has, by rw [h3]; exact (s.prologue_conn c Conn.tx (fun _ => rfl)).trans hq.tx, by rw [h3], h2.buf,
    h2.dead, h2.paused, h2.closed, h2.pubsub, h2.connected, h2.crashed, h4⟩

/-- a record up to the notification flags and the in-transaction flag -/
def ess (x : Conn) : Conn := { x.core with inTx := false }

/-- what one queued regular command does when EXEC runs it -/
structure InnerStep (t t' : Sys) (c : Nat) (o : RunOut) : Prop where
  dbs : t'.srv.dbs = t.srv.dbs.set (t.conn c).db o.db.dict
  time : t'.srv.time = t.srv.time
  out : t'.out = t.out
  crashed : t'.crashed = t.crashed
  connected : t'.srv.connected = t.srv.connected
  has : t'.HasConn c ↔ t.HasConn c
  conn : ess (t'.conn c) = ess (t.conn c)

theorem passive_ess (x : Conn) : passive (ess x) = passive x := rfl
theorem ess_tx (x : Conn) : (ess x).tx = x.tx := rfl
theorem ess_buf (x : Conn) : (ess x).buf = x.buf := rfl

theorem InnerStep.passive {t t' : Sys} {c : Nat} {o : RunOut} (st : InnerStep t t' c o) :
    passive (t'.conn c) = passive (t.conn c) := by
  rw [← passive_ess, st.conn, passive_ess]

theorem InnerStep.tx {t t' : Sys} {c : Nat} {o : RunOut} (st : InnerStep t t' c o) :
    (t'.conn c).tx = (t.conn c).tx := by
  rw [← ess_tx, st.conn, ess_tx]

theorem InnerStep.ready {t t' : Sys} {c : Nat} {o : RunOut} (st : InnerStep t t' c o) (hr : Ready t c) : Ready t' c :=
  (hr.idle.step (st.has.2 hr.has) (by rw [← ess_buf, st.conn, ess_buf]; exact hr.buf) st.passive
    (by rw [st.dbs, List.length_set]) st.connected st.crashed).ready (st.tx.trans hr.tx)

/-- the next queued command sees the database the last one left -/
theorem InnerStep.dbAt {t t' : Sys} {c : Nat} {o : RunOut} (st : InnerStep t t' c o) (hr : Ready t c)
    (ht : o.db.time = t.srv.time) : t'.dbAt (t'.conn c).db = o.db := by
  show (⟨t'.srv.dbs.getD (t'.conn c).db [], t'.srv.time⟩ : Db) = o.db
  rw [st.dbs, st.time, show (t'.conn c).db = (t.conn c).db from (congrArg Conn.db st.passive :),
    getD_set_self _ _ _ _ hr.dbIdx, ← ht]

theorem queueStep_regular (mode : Mode) (c : Nat) {fname : String} (fargs : List Bytes) {sig : Sig} {body : Body}
    (hfind : SigTable.find fname = some sig) (hb : Cmd.regular sig.name = some body) (t : Sys)
    (hc : t.HasConn c) (hps : (t.conn c).pubsub = 0) :
    ∃ ctx : Ctx, ctx.time = t.srv.time ∧
      (queueStep (runInner mode c) c (fname, fargs) t).1 =
        some (runRegular sig body ctx none fargs (t.dbAt (t.conn c).db)).reply ∧
      InnerStep t (queueStep (runInner mode c) c (fname, fargs) t).2 c
        (runRegular sig body ctx none fargs (t.dbAt (t.conn c).db)) := by
  -- the command runs in `T`, the state with the in-transaction flag of `c` set
  obtain ⟨T, hT⟩ : ∃ T, T = t.updConn c fun x => { x with inTx := true } := ⟨_, rfl⟩
  have hconn : T.conn c = { t.conn c with inTx := true } := by
    rw [hT]; exact Sys.conn_updConn_same (fun x => { x with inTx := true }) hc (fun _ => rfl)
  have hThas : T.HasConn c ↔ t.HasConn c := by
    rw [hT]; exact Sys.hasConn_updConn (fun x => { x with inTx := true }) (fun _ => rfl)
  have hsel : T.dbAt (T.conn c).db = t.dbAt (t.conn c).db := by
    rw [hconn, hT]; rfl
  have hrun : queueStep (runInner mode c) c (fname, fargs) t =
      (some (T.run c sig body fargs).reply,
        (T.afterRegular (T.conn c).db (T.run c sig body fargs)).updConn c fun x => { x with inTx := false }) := by
    unfold queueStep
    simp only [hfind, bind, StateT.bind, modifyConn_run, ← hT,
      runInner_regular mode c sig fargs hb T (by rw [hconn]; exact hps), pure, StateT.pure]
  rw [hrun]
  unfold Sys.run
  rw [hsel]
  refine ⟨Ttl.ctxOf T c, by rw [hT]; rfl, rfl, ?_⟩
  generalize runRegular sig body (Ttl.ctxOf T c) none fargs (t.dbAt (t.conn c).db) = o
  have hf := T.afterRegular_frame (T.conn c).db o
  refine ⟨by rw [Sys.updConn_dbs, Sys.afterRegular_dbs, hconn, hT]; rfl,
    by rw [Sys.updConn_time, hf.srv (fun x => x.time) (fun _ _ _ => rfl), hT]; rfl,
    by rw [Sys.updConn_out, hf.out, hT]; rfl, hf.crashed.trans (by rw [hT]; rfl),
    (hf.srv (fun x => x.connected) (fun _ _ _ => rfl)).trans (by rw [hT]; rfl),
    by rw [Sys.hasConn_updConn (fun x => { x with inTx := false }) (fun _ => rfl), hf.has, hThas], ?_⟩
  rw [Sys.conn_updConn_same (fun x => { x with inTx := false }) ((hf.has c).2 (hThas.2 hc)) (fun _ => rfl)]
  exact (congrArg (fun x : Conn => ({ x with inTx := false } : Conn)) ((hf.conn c).trans (congrArg Conn.core hconn)) :)

/-- EXEC's reset of a clean transaction leaves `c` an ordinary client with nothing sent yet; the queue starts on the
database `c` sees -/
theorem Queuing.execStart {s : Sys} {c : Nat} {q : List (String × List Bytes)} (hq : Queuing s c q) :
    Ready (C19m.Sys.execStart s.prologue c) c ∧ (C19m.Sys.execStart s.prologue c).out = s.out ∧
    (C19m.Sys.execStart s.prologue c).dbAt ((C19m.Sys.execStart s.prologue c).conn c).db = view s c := by
  have hphas : s.prologue.HasConn c := (s.prologue_hasConn c).2 hq.has
  have hconn := C19m.execStart_conn hphas
  have hproj : ∀ {β} (p : Conn → β), (∀ x : Conn, p x.cleared = p x) →
      (∀ x : Conn, p { x with tx := none, txFailed := false, watchNotified := false, watches := [] } = p x) →
      p ((C19m.Sys.execStart s.prologue c).conn c) = p (s.conn c) := fun p h1 h2 => by
    rw [hconn, h2]; exact s.prologue_conn c p h1
  refine ⟨(hq.idle.step ((C19m.execStart_hasConn _ c c).2 hphas) ((hproj Conn.buf (fun _ => rfl) (fun _ => rfl)).trans hq.buf)
    (hproj passive (fun _ => rfl) (fun _ => rfl)) (congrArg List.length s.prologue_dbs) s.prologue_connected
    s.prologue_crashed).ready (by rw [hconn]), s.prologue_out, ?_⟩
  show (⟨s.prologue.srv.dbs.getD _ [], _⟩ : Db) = _
  rw [hproj Conn.db (fun _ => rfl) (fun _ => rfl), s.prologue_dbs]
  rfl

/-- EXEC of a clean transaction whose queued commands all answer: the reply is the array of their replies.  `t` is the
state in which the queue, run from EXEC's reset, ends. -/
theorem exec_step (mode : Mode) {s : Sys} {c : Nat} {q : List (String × List Bytes)} (hq : Queuing s c q)
    (hi : s.DataInv) {name : Bytes} (hn : Spells name "exec") {rs : List Reply} {t : Sys}
    (hrun : runQueue (runInner mode c) c q (C19m.Sys.execStart s.prologue c) = (rs.map some, t))
    (hr : Ready t c) (hout : t.out = s.out) :
    (after mode s (c, [name])).out = (c, .arr rs) :: s.out ∧ Ready (after mode s (c, [name])) c ∧
    (after mode s (c, [name])).DataInv := by
  have hinv : (after mode s (c, [name])).DataInv := dataInv_whole.sendallGuarded mode c _ s hi
  have hst : after mode s (c, [name]) = setBuf c [] (t.emitS c (.arr rs)) := by
    rw [after_eq mode hq.idle]
    show setBuf c [] (processCommand mode c [name] s).2 = _
    rw [processCommand_exec mode c s (hn.lookup.trans look_exec) hq.pubsub]
    show setBuf c [] (ErrSys.afterRun c (afterSpecial (s.conn c).db [] (execCmd (runInner mode c) c []) s.prologue)) = _
    rw [afterSpecial_run, execCmd_run (runInner mode c) [] ((s.prologue_conn c Conn.tx (fun _ => rfl)).trans hq.tx)
      ((s.prologue_conn c Conn.txFailed (fun _ => rfl)).trans hq.txFailed) (Sys.prologue_watchNotified hq.watchNotified),
      hrun]
    have hany : (rs.map some).any Option.isNone = false := by simp
    have hget : ((rs.map some).map fun r => r.getD .nil) = rs := by simp [Function.comp_def]
    simp only [hany, hget, Bool.false_eq_true, if_false]
    exact congrArg (setBuf c []) (afterRun_emit c _ hr.crashed)
  rw [hst] at hinv ⊢
  exact ⟨by rw [sent_out _ hr.closed, hout],
    (hr.idle.step ((sent_hasConn ..).2 hr.has) (by rw [sent_conn _ hr.has])
      (sent_conn_proj t c _ c passive (fun _ _ => rfl)) (sent_srv (fun srv => srv.dbs.length) (fun _ _ => rfl) ..)
      (sent_srv (fun srv => srv.connected) (fun _ _ => rfl) ..) (sent_crashed ..)).ready
      ((sent_conn_proj t c _ c Conn.tx (fun _ _ => rfl)).trans hr.tx), hinv⟩

theorem exec_set_get_step (mode : Mode) {s : Sys} {c : Nat} (k v : Bytes)
    (hq : Queuing s c [("set", [k, v]), ("get", [k])]) (hi : s.DataInv) {name : Bytes} (hn : Spells name "exec") :
    (after mode s (c, [name])).out = (c, .arr [.ok, .bulk v]) :: s.out ∧ Ready (after mode s (c, [name])) c ∧
    (after mode s (c, [name])).DataInv := by
  obtain ⟨hr0, hout0, hdb0⟩ := hq.execStart
  obtain ⟨nd, ne⟩ := good_view hi c
  -- first queued command: SET, on the database `c` sees
  obtain ⟨ctx1, hct1, hr1, st1⟩ := queueStep_regular mode c [k, v] FR.Props.C01k.tables.1.1 FR.Props.C01k.tables.1.2
    _ hr0.has hr0.pubsub
  rw [hdb0] at hr1 st1
  have htime0 : (C19m.Sys.execStart s.prologue c).srv.time = (view s c).time := congrArg Db.time hdb0
  obtain ⟨hrep1, hlive1⟩ := Prod.mk.inj (FR.Props.C01k.set_plain ctx1 (view s c) nd ne (hct1.trans htime0) k v)
  have nd1 := runRegular_nodup FR.StrKeys.sigSet Cmd.set ctx1 none [k, v] nd
  have hr1' := st1.ready hr0
  -- second queued command: GET, on the database SET left
  obtain ⟨ctx2, hct2, hr2, st2⟩ := queueStep_regular mode c [k] FR.Props.C01k.tables.2.1.1 FR.Props.C01k.tables.2.1.2
    _ hr1'.has hr1'.pubsub
  rw [st1.dbAt hr0 ((runRegular_time FR.StrKeys.sigSet Cmd.set ctx1 none [k, v] nd).trans htime0.symm)] at hr2 st2
  have gp := FR.Props.C01k.get_spec ctx2 _ nd1 k
  simp only at gp
  rw [hlive1, FR.StrKeys.upd_self] at gp
  refine exec_step mode hq hi hn (rs := [.ok, .bulk v]) ?_ (st2.ready hr1') (st2.out.trans (st1.out.trans hout0))
  rw [runQueue_cons_run, runQueue_cons_run, runQueue_nil, hr1, hr2, hrep1, (Prod.mk.inj gp).1]
  simp only [pure, StateT.pure, List.map]

end specials

/-! ## 13. pub/sub -/
section pubsub

theorem Spells.commandName {name : Bytes} {cmd : String} (h : Spells name cmd)
    (hc : commandName (strBytes cmd) = some cmd) : commandName name = some cmd :=
  (commandName_congr h).trans hc

theorem finish_ok (c : Nat) {X : Sys} (h : X.crashed = none) : PubSubHist.finish c X = X := by
  unfold PubSubHist.finish
  rw [h]; rfl

theorem pre_subs_nil {s : Sys} (h : s.srv.subs = []) : s.prologue.srv.subs = [] := by
  rw [s.prologue_subs, h]; rfl

theorem pre_psubs_nil {s : Sys} (h : s.srv.psubs = []) : s.prologue.srv.psubs = [] := by
  rw [s.prologue_psubs, h]; rfl

theorem publish_step (mode : Mode) {s : Sys} {P : Nat} (hr : Ready s P) (hcs : s.srv.closedSockets = [])
    {name : Bytes} (hn : Spells name "publish") (ch m : Bytes) :
    (after mode s (P, [name, ch, m])).out =
      (P, .int (deliveries s.srv ch m).length) ::
        (((deliveries s.srv ch m).filter fun d => !(s.conn d.1).closed).reverse ++ s.out) := by
  rw [after_eq mode hr.idle]
  show (setBuf P [] (processCommand mode P [name, ch, m] s).2).out = _
  rw [PubSubHist.process_publish mode P name ch m s (hn.commandName (by decide +kernel)) hr.tx hr.pubsub, PubSubHist.prep_eq]
  simp only [publish_run]
  have hpre := Sys.prologue_of_no_closed hcs
  have hd : deliveries s.prologue.srv ch m = deliveries s.srv ch m := by
    rw [hpre]; unfold deliveries; rw [Sys.refresh_subs, Sys.refresh_psubs]
  have hcl : ∀ d, (s.prologue.conn d).closed = (s.conn d).closed := fun d => by rw [hpre, Sys.refresh_conn]
  -- the state after the deliveries differs from `s.prologue` in `out` only
  have hcr : ∀ o, ({ s.prologue with out := o } : Sys).crashed = none := fun _ => s.prologue_crashed.trans hr.crashed
  have hclP : ∀ o, (({ s.prologue with out := o } : Sys).conn P).closed = false := fun _ => (hcl P).trans hr.closed
  rw [finish_ok P ((Sys.emitS_crashed ..).trans (hcr _)), sent_out _ (hclP _)]
  simp only [hd, hcl, Sys.prologue_out]

theorem subState_fresh {t : Sys} (h : t.srv.subs = []) (S : Nat) (ch : Bytes) :
    t.subState S false ch = (t.setTbl false [(ch, [S])]).updConn S fun x => { x with pubsub := x.pubsub + 1 } := by
  unfold Sys.subState
  have : tblSubscribe (t.tbl false) ch S = ([(ch, [S])], true) := by
    unfold Sys.tbl tblSubscribe
    simp [h]
  simp only [this, if_true]

theorem subscribe_step (mode : Mode) {s : Sys} {S : Nat} (hr : Ready s S) (hsubs : s.srv.subs = [])
    (hpsubs : s.srv.psubs = []) {name : Bytes} (hn : Spells name "subscribe") (ch : Bytes) :
    (after mode s (S, [name, ch])).out =
      (S, .arr [.bulk (strBytes "subscribe"), .bulk ch, .int 1]) :: s.out ∧
    (after mode s (S, [name, ch])).srv.subs = [(ch, [S])] ∧ (after mode s (S, [name, ch])).srv.psubs = [] ∧
    (after mode s (S, [name, ch])).srv.closedSockets = [] ∧
    ((after mode s (S, [name, ch])).conn S).closed = false ∧
    ((after mode s (S, [name, ch])).conn S).pubsub = 1 ∧
    (∀ P, P ≠ S → Ready s P → Ready (after mode s (S, [name, ch])) P) := by
  -- `X`: the state after the prologue and the subscription
  obtain ⟨X, hX⟩ : ∃ X, X = s.prologue.subState S false ch := ⟨_, rfl⟩
  have hX0 : X = (s.prologue.setTbl false [(ch, [S])]).updConn S fun x => { x with pubsub := x.pubsub + 1 } :=
    hX.trans (subState_fresh (pre_subs_nil hsubs) S ch)
  have hphas : s.prologue.HasConn S := (s.prologue_hasConn S).2 hr.has
  have hcnt : (X.conn S).pubsub = 1 := by
    rw [hX, Sys.subState_pubsub _ _ _ _ hphas, (s.prologue_conn S Conn.pubsub (fun _ => rfl)).trans hr.pubsub]
    have : (tblMembers (s.prologue.tbl false) ch).contains S = false := by
      unfold tblMembers Sys.tbl
      simp [pre_subs_nil hsubs]
    rw [this]; rfl
  have hXhas : ∀ P, X.HasConn P ↔ s.HasConn P := fun P => by
    rw [hX0, Sys.hasConn_updConn (fun x => { x with pubsub := x.pubsub + 1 }) (fun _ => rfl), Sys.setTbl_hasConn,
      Sys.prologue_hasConn]
  -- the subscription changes the record of `S` in `pubsub` only and no other record
  have hXcl : (X.conn S).closed = false := by
    rw [hX, Sys.subState_proj _ _ _ _ _ Conn.closed (fun _ _ => rfl)]
    exact (s.prologue_conn S Conn.closed (fun _ => rfl)).trans hr.closed
  have hXne : ∀ P, P ≠ S → X.conn P = s.prologue.conn P := fun P hne => by
    rw [hX0, Sys.conn_updConn_ne (fun x => { x with pubsub := x.pubsub + 1 }) hne (fun _ => rfl), Sys.setTbl_conn]
  have hXcr : X.crashed = s.crashed := by rw [hX0]; exact s.prologue_crashed
  have hst : after mode s (S, [name, ch]) = setBuf S [] (X.emitS S (subAck false ch 1)) := by
    rw [after_eq mode hr.idle]
    show setBuf S [] (processCommand mode S [name, ch] s).2 = _
    rw [PubSubHist.process_subscribe mode S name [ch] s false (hn.commandName (by decide +kernel)) (List.cons_ne_nil _ _)
      hr.tx, PubSubHist.prep_eq, subscribeGen_single_run, ← hX, hcnt,
      finish_ok S ((Sys.emitS_crashed ..).trans (hXcr.trans hr.crashed))]
  -- the server record changes in `subs` (and `conns`) only
  have hsrv : ∀ {β} (q : Server → β), (∀ (srv : Server) sb cn, q { srv with subs := sb, conns := cn } = q srv) →
      q (setBuf S [] (X.emitS S (subAck false ch 1))).srv = q s.prologue.srv := fun q hq => by
    rw [sent_srv q (fun srv cn => hq srv srv.subs cn), hX0]
    exact hq s.prologue.srv [(ch, [S])] _
  rw [hst]
  refine ⟨?_, ?_, (hsrv (fun srv => srv.psubs) (fun _ _ _ => rfl)).trans (pre_psubs_nil hpsubs),
    (hsrv (fun srv => srv.closedSockets) (fun _ _ _ => rfl)).trans s.prologue_closedSockets, ?_, ?_, ?_⟩
  · rw [sent_out _ hXcl, hX, Sys.subState_out, Sys.prologue_out]
    rfl
  · rw [sent_srv (fun srv => srv.subs) (fun _ _ => rfl), hX0]; rfl
  · exact (sent_conn_proj X S _ S Conn.closed (fun _ _ => rfl)).trans hXcl
  · exact (sent_conn_proj X S _ S Conn.pubsub (fun _ _ => rfl)).trans hcnt
  · intro P hne hP
    have hconn : (setBuf S [] (X.emitS S (subAck false ch 1))).conn P = s.prologue.conn P :=
      (sent_conn_ne X _ hne).trans (hXne P hne)
    refine (hP.idle.step ((sent_hasConn ..).trans (hXhas P) |>.2 hP.has) ?_ ?_ ?_ ?_ ?_).ready ?_
    · rw [hconn]; exact (s.prologue_conn P Conn.buf (fun _ => rfl)).trans hP.buf
    · rw [hconn]; exact s.prologue_conn P passive (fun _ => rfl)
    · rw [hsrv (fun srv => srv.dbs.length) (fun _ _ _ => rfl), Sys.prologue_dbs]
    · rw [hsrv (fun srv => srv.connected) (fun _ _ _ => rfl), Sys.prologue_connected]
    · rw [sent_crashed, hXcr]
    · rw [hconn]; exact (s.prologue_conn P Conn.tx (fun _ => rfl)).trans hP.tx

end pubsub

/-! ## 14. only the command name is case-normalised -/
section casing
open FR.StrKeys FR.Props

theorem after_case_insensitive (mode : Mode) {s : Sys} {c : Nat} (hc : s.HasConn c) (hbuf : (s.conn c).buf = [])
    (hdead : (s.conn c).dead = false) (hpaused : (s.conn c).paused = false) (hup : s.srv.connected = true)
    (n1 n2 : Bytes) (h : n1.map lowerByte = n2.map lowerByte) (args : List Bytes) :
    after mode s (c, n1 :: args) = after mode s (c, n2 :: args) := by
  unfold after
  simp only
  rw [sendallGuarded_encode mode c _ s hc hbuf hdead hpaused hup,
    sendallGuarded_encode mode c _ s hc hbuf hdead hpaused hup,
    FR.C17.processCommand_case_insensitive mode c n1 n2 args h]

/-- `t1 ≤ t2` is needed: with a clock running backwards an expired entry under `k` would be live again -/
theorem set_other_step (mode : Mode) {s : Sys} {c : Nat} (hr : Ready s c) (hi : s.DataInv) {name : Bytes}
    (hn : Spells name "set") (K v k : Bytes) (hne : k ≠ K) {t1 t2 : Int} {rest : List Int}
    (hclk : s.clocks = t1 :: t2 :: rest) (hmono : t1 ≤ t2) (hk : (view s c).live k = none) :
    (view (after mode s (c, [name, K, v])) c).live k = none := by
  have st := step_cmd mode hr reg_set hn [K, v] (show sigSet.checkArity 2 = true by decide)
  obtain ⟨nd, ne⟩ := good_view hi c
  have hlive := (Prod.mk.inj (C01k.set_plain (ctxFor s c) (view s c) nd ne (ctxFor_time s c) K v)).2
  have h1 : (runRegular sigSet Cmd.set (ctxFor s c) none [K, v] (view s c)).db.time = t1 :=
    (runRegular_time sigSet Cmd.set (ctxFor s c) none [K, v] nd).trans (now_of_clocks hclk)
  rw [st.view_eq, now_of_clocks (st.clocks t1 (t2 :: rest) hclk)]
  apply live_none_mono (runRegular_nodup sigSet Cmd.set (ctxFor s c) none [K, v] nd)
    (t := (runRegular sigSet Cmd.set (ctxFor s c) none [K, v] (view s c)).db.time) (by rw [h1]; exact hmono)
  show (runRegular sigSet Cmd.set (ctxFor s c) none [K, v] (view s c)).db.live k = none
  rw [hlive, upd_ne _ _ hne]
  exact hk

end casing

end FR.Wire

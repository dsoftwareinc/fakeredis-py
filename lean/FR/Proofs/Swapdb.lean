import FR.Proofs.Blocking
import FR.Proofs.Sets
/-!
# SWAPDB as a state function

`FakeRedis.swapdb` exchanges the two `Database` objects, takes the live keys of both (which purges them: first the new
`a`, then the new `b`) and calls `notify_watch` on both databases for every key live in either.  `swapdbCmd_run` writes
the body that way: the state `s.swapped a b` before the notifications, the keys `s.swapKeys a b`, the loop
`swapNotify`.  The loop changes connection records only (`swapNotify_frame`); `swapped` changes the list of databases
only (`Sys.swapped_eq`), and for two distinct existing indices it is the exchange of the purged databases
(`Sys.swapped_left/_right/_other`).
-/

namespace FR

open M

/-- `notify_watch` on the databases `a` and `b` for every key of `ks` -/
def swapNotify (a b : Nat) (ks : List Bytes) : M PUnit := ks.forM fun key => do notifyWatch a key; notifyWatch b key

theorem swapNotify_cons (a b : Nat) (k : Bytes) (ks : List Bytes) (s : Sys) :
    swapNotify a b (k :: ks) s = swapNotify a b ks ((s.mapConns (notifyFn a k)).mapConns (notifyFn b k)) := rfl

theorem swapNotify_frame {β : Type} (P : Sys → β) (hP : ∀ s g, P (s.mapConns g) = P s) (a b : Nat) (ks : List Bytes)
    (s : Sys) : P (swapNotify a b ks s).2 = P s := by
  induction ks generalizing s with
  | nil => rfl
  | cons k ks ih => rw [swapNotify_cons, ih, hP, hP]

/-- the state of SWAPDB `a b` before its notifications: the exchange, then the purge of `a` and of `b` -/
def Sys.swapped (s : Sys) (a b : Nat) : Sys :=
  let s1 := (s.setDbS a (s.dbAt b)).setDbS b (s.dbAt a)
  let s2 := s1.setDbS a (Db.purge (s1.dbAt a))
  s2.setDbS b (Db.purge (s2.dbAt b))

/-- the keys SWAPDB `a b` notifies: those live in either database after the exchange -/
def Sys.swapKeys (s : Sys) (a b : Nat) : List Bytes :=
  let s1 := (s.setDbS a (s.dbAt b)).setDbS b (s.dbAt a)
  let s2 := s1.setDbS a (Db.purge (s1.dbAt a))
  Cmd.setUnion ((Db.purge (s1.dbAt a)).dict.map Prod.fst) ((Db.purge (s2.dbAt b)).dict.map Prod.fst)

theorem swapdbCmd_run (i1 i2 : Int) (cis : List CI) (s : Sys) (hne : i1 ≠ i2) :
    swapdbCmd [.int i1, .int i2] cis s = (.ok (some .ok, cis),
      (swapNotify i1.toNat i2.toNat (s.swapKeys i1.toNat i2.toNat) (s.swapped i1.toNat i2.toNat)).2) := by
  have hb : (i1 != i2) = true := by simpa using hne
  unfold swapdbCmd
  simp only [hb, if_true]
  rfl

theorem swapdbCmd_same (i : Int) (cis : List CI) (s : Sys) :
    swapdbCmd [.int i, .int i] cis s = (.ok (some .ok, cis), s) := by
  unfold swapdbCmd
  simp only [bne_self_eq_false, Bool.false_eq_true, if_false]
  rfl

theorem Sys.swapped_eq (s : Sys) (a b : Nat) :
    s.swapped a b = { s with srv := { s.srv with dbs := (s.swapped a b).srv.dbs } } := rfl

theorem Sys.swapped_len (s : Sys) (a b : Nat) : (s.swapped a b).srv.dbs.length = s.srv.dbs.length := by
  simp [Sys.swapped]

theorem Sys.swapped_other (s : Sys) {a b j : Nat} (hja : j ≠ a) (hjb : j ≠ b) : (s.swapped a b).dbAt j = s.dbAt j := by
  unfold Sys.swapped
  simp only [Sys.setDbS_dbAt_ne _ _ _ _ hja, Sys.setDbS_dbAt_ne _ _ _ _ hjb]

theorem Sys.swapped_left (s : Sys) {a b : Nat} (hab : a ≠ b) (ha : a < s.srv.dbs.length) :
    (s.swapped a b).dbAt a = Db.purge (s.dbAt b) := by
  unfold Sys.swapped
  simp only [Sys.setDbS_dbAt_ne _ _ _ _ hab]
  rw [Sys.setDbS_dbAt_self _ _ _ (by simpa using ha) rfl, Sys.setDbS_dbAt_self _ _ _ ha rfl]

theorem Sys.swapped_right (s : Sys) {a b : Nat} (hab : a ≠ b) (hb : b < s.srv.dbs.length) :
    (s.swapped a b).dbAt b = Db.purge (s.dbAt a) := by
  unfold Sys.swapped
  rw [Sys.setDbS_dbAt_self _ _ _ (by simpa using hb) rfl, Sys.setDbS_dbAt_ne _ _ _ _ (Ne.symm hab),
    Sys.setDbS_dbAt_self _ _ _ (by simpa using hb) rfl]

theorem Sys.swapKeys_eq (s : Sys) {a b : Nat} (hab : a ≠ b) (ha : a < s.srv.dbs.length) (hb : b < s.srv.dbs.length) :
    s.swapKeys a b = Cmd.setUnion ((Db.purge (s.dbAt b)).dict.map Prod.fst) ((Db.purge (s.dbAt a)).dict.map Prod.fst) := by
  unfold Sys.swapKeys
  simp only [Sys.setDbS_dbAt_ne _ _ _ _ hab, Sys.setDbS_dbAt_ne _ _ _ _ (Ne.symm hab)]
  rw [Sys.setDbS_dbAt_self _ _ _ ha rfl, Sys.setDbS_dbAt_self _ _ _ (by simpa using hb) rfl]

/-- what is stored at an index just written is what was written (nothing, if the index does not exist) -/
theorem mem_getD_set_self {α : Type} {l : List (List α)} {i : Nat} {x : List α} {q : α}
    (h : q ∈ (l.set i x).getD i []) : q ∈ x := by
  rw [getD_set_eq] at h
  split at h
  · exact h
  · rename_i hn
    rw [List.getD_eq_getElem?_getD, List.getElem?_eq_none (by simpa using hn)] at h
    cases h

/-- Every entry SWAPDB leaves in `b`, and in `a`, has its key among the notified ones: no hypothesis on the indices (they
may be equal, or beyond the list), which is what an invariant that knows nothing of the arguments needs. -/
theorem Sys.swapKeys_right (s : Sys) (a b : Nat) {q : Bytes × Item} (h : q ∈ (s.swapped a b).srv.dbs.getD b []) :
    q.1 ∈ s.swapKeys a b :=
  (HashSet.mem_setUnion _ _ _).2 (.inr (List.mem_map.2 ⟨q, mem_getD_set_self h, rfl⟩))

theorem Sys.swapKeys_left (s : Sys) (a b : Nat) {q : Bytes × Item} (h : q ∈ (s.swapped a b).srv.dbs.getD a []) :
    q.1 ∈ s.swapKeys a b := by
  by_cases hab : a = b
  · subst hab; exact s.swapKeys_right a a h
  · unfold Sys.swapped Sys.setDbS at h
    simp only [getD_set_ne _ _ _ _ _ hab] at h
    exact (HashSet.mem_setUnion _ _ _).2 (.inl (List.mem_map.2 ⟨q, mem_getD_set_self h, rfl⟩))

end FR

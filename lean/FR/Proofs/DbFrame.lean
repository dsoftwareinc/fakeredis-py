import FR.Proofs.History
import FR.Proofs.RelJ
import FR.Proofs.Tower
import FR.Proofs.Events
import FR.Proofs.Hist
import FR.Proofs.Swapdb
/-!
# The databases of a server are independent keyspaces (C13)

Two runs of the same computation from states that differ only in the databases outside a set `T` of indices return the
same value and end in such states again (`Rel R m`; `Rel2 P Q`: pre-relation `P`, post-relation `Q`).  The relation is
`Sim T c b A D₁ D₂`: identical states except for the databases outside `T`, which are the reference lists `D₁`, `D₂`.  On
the diagonal this is a frame property, off the diagonal non-interference.

The parts: the rules (those of `RelJ`); the relation and the atomic accesses; the tactics; the special bodies and the
wake-ups; `_run_command` and `_process_command` for a connection selected inside `T`, SELECT being the one command whose
post-relation is weaker; `Agree T` (the relation of `FR/Props/C13s.lean`), events and histories; the exact effect of SWAPDB,
FLUSHALL, FLUSHDB and MOVE.
-/
namespace FR.DbFrame
open FR FR.M
set_option linter.unusedSimpArgs false

abbrev Queue := List (String × List Bytes)

/-- the same as `Twin.withDbs`; the statements of `FR/Props/C13s.lean` name this one -/
@[reducible] def withDbs (s : Sys) (D : List Dict) : Sys := { s with srv := { s.srv with dbs := D } }

/-! ## Two runs of one computation -/

def RelAt (R : Sys → Sys → Prop) {α : Type} (s1 s2 : Sys) (m1 m2 : M α) : Prop :=
  (m1 s1).1 = (m2 s2).1 ∧ R (m1 s1).2 (m2 s2).2

/-- both runs return the same value, from `P`-related states to `Q`-related ones -/
def Rel2 (P Q : Sys → Sys → Prop) {α : Type} (m : M α) : Prop := ∀ s1 s2, P s1 s2 → RelAt Q s1 s2 m m

abbrev Rel (R : Sys → Sys → Prop) {α : Type} (m : M α) : Prop := Rel2 R R m

namespace Rel2
variable {P Q Q' : Sys → Sys → Prop} {α β : Type}

/-- the rules below are those of `RelJ`, under the names the descent uses -/
theorem eq_relJ {m : M α} : Rel2 P Q m = RelJ P Q Eq m m := rfl

theorem bind {m : M α} {f : α → M β} (hm : Rel2 P Q m) (hf : ∀ a, Rel2 Q Q' (f a)) : Rel2 P Q' (m >>= f) :=
  RelJ.bindEq hm hf

theorem bindV {m : M α} {f : α → M β} (V : α → Prop) (hm : Rel2 P Q m) (hV : ∀ s1 s2, P s1 s2 → V (m s1).1)
    (hf : ∀ a, V a → Rel2 Q Q' (f a)) : Rel2 P Q' (m >>= f) := RelJ.bindV V hm hV hf

theorem post {m : M α} (hm : Rel2 P Q m) (hQ : ∀ s1 s2, Q s1 s2 → Q' s1 s2) : Rel2 P Q' m :=
  RelJ.conseq hm (fun _ _ h => h) hQ (fun _ _ h => h)

theorem pre {P' : Sys → Sys → Prop} {m : M α} (hm : Rel2 P Q m) (hP : ∀ s1 s2, P' s1 s2 → P s1 s2) : Rel2 P' Q m :=
  RelJ.conseq hm hP (fun _ _ h => h) (fun _ _ h => h)

end Rel2

namespace Rel
variable {R : Sys → Sys → Prop} {α β : Type}

theorem pure (a : α) : Rel R (Pure.pure a : M α) := RelJ.pure rfl

theorem bind {m : M α} {f : α → M β} (hm : Rel R m) (hf : ∀ a, Rel R (f a)) : Rel R (m >>= f) :=
  RelJ.bindEq hm hf

theorem seq (R : Sys → Sys → Prop) : Seq (@Rel R) := RelJ.seq R

theorem map {m : M α} (g : α → β) (hm : Rel R m) : Rel R (g <$> m) := RelJ.map g hm

end Rel


/-! ## The relation -/

/-- the database index that the argument list of a SELECT names, if it is one valid index -/
def selTarget (args : List Bytes) : Option Nat :=
  match args with
  | [b] => match Conv.dbIndex b with
    | .ok i => some i.toNat
    | .error _ => none
  | _ => none

/-- `s₂` is `s₁` with other databases outside `T`; inside `T` they agree; outside `T` they are `D₁` resp. `D₂`;
when `b` is set, connection `c` is selected on a database of `T`; every command queued on `c` satisfies `A`. -/
structure Sim (T : Nat → Prop) (c : Nat) (b : Bool) (A : String × List Bytes → Prop) (D1 D2 : List Dict)
    (s1 s2 : Sys) : Prop where
  eqv : s2 = withDbs s1 s2.srv.dbs
  len : s2.srv.dbs.length = s1.srv.dbs.length
  on : ∀ j, T j → s2.srv.dbs.getD j [] = s1.srv.dbs.getD j []
  off1 : ∀ j, ¬ T j → s1.srv.dbs.getD j [] = D1.getD j []
  off2 : ∀ j, ¬ T j → s2.srv.dbs.getD j [] = D2.getD j []
  sel : b = true → T (s1.conn c).db
  qok : ∀ q, (s1.conn c).tx = some q → ∀ e ∈ q, A e

section leaves
variable {T : Nat → Prop} {c : Nat} {b : Bool} {A : String × List Bytes → Prop} {D1 D2 : List Dict}

theorem Sim.exD {s1 s2 : Sys} (h : Sim T c b A D1 D2 s1 s2) : ∃ D, s2 = withDbs s1 D := ⟨_, h.eqv⟩

theorem Sim.mono {b' : Bool} {s1 s2 : Sys} (h : Sim T c b A D1 D2 s1 s2) (hb : b' = true → b = true) :
    Sim T c b' A D1 D2 s1 s2 :=
  { h with sel := fun e => h.sel (hb e) }

theorem Sim.refl (s : Sys) (hsel : b = true → T (s.conn c).db) (hq : ∀ q, (s.conn c).tx = some q → ∀ e ∈ q, A e) :
    Sim T c b A s.srv.dbs s.srv.dbs s s :=
  ⟨rfl, rfl, fun _ _ => rfl, fun _ _ => rfl, fun _ _ => rfl, hsel, hq⟩

theorem Sim.diag (T : Nat → Prop) (c : Nat) (s : Sys) : Sim T c false (fun _ => True) s.srv.dbs s.srv.dbs s s :=
  Sim.refl s (fun h => nomatch h) (fun _ _ _ _ => trivial)

theorem Sim.frame {s1 s2 : Sys} (h : Sim T c b A D1 D2 s1 s2) (g : Sys → Sys)
    (hg : ∀ s D, g (withDbs s D) = withDbs (g s) D) (hdbs : (g s1).srv.dbs = s1.srv.dbs)
    (hdb : ((g s1).conn c).db = (s1.conn c).db) (htx : ((g s1).conn c).tx = (s1.conn c).tx) :
    Sim T c b A D1 D2 (g s1) (g s2) := by
  obtain ⟨D, rfl⟩ := h.exD
  have h2 : (g (withDbs s1 D)).srv.dbs = D := by rw [hg]
  refine ⟨?_, ?_, ?_, ?_, ?_, ?_, ?_⟩
  · rw [h2, hg]
  · rw [h2, hdbs]; exact h.len
  · intro j hj; rw [h2, hdbs]; exact h.on j hj
  · intro j hj; rw [hdbs]; exact h.off1 j hj
  · intro j hj; rw [h2]; exact h.off2 j hj
  · intro hb; rw [hdb]; exact h.sel hb
  · rw [htx]; exact h.qok

theorem rel_modify_frame (g : Sys → Sys) (hg : ∀ s D, g (withDbs s D) = withDbs (g s) D)
    (hdbs : ∀ s, (g s).srv.dbs = s.srv.dbs) (hconns : ∀ s, (g s).srv.conns = s.srv.conns) :
    Rel (Sim T c b A D1 D2) (modify g) := by
  intro s1 s2 h
  refine ⟨rfl, h.frame g hg (hdbs s1) ?_ ?_⟩
  · simp only [Sys.conn_def, hconns]
  · simp only [Sys.conn_def, hconns]

theorem rel_getConn (c' : Nat) : Rel (Sim T c b A D1 D2) (getConn c') := by
  intro s1 s2 h
  obtain ⟨D, rfl⟩ := h.exD
  exact ⟨rfl, h⟩

theorem rel_getConn_bind {β : Type} {f : Conn → M β}
    (hf : ∀ conn : Conn, (b = true → T conn.db) → (∀ q, conn.tx = some q → ∀ e ∈ q, A e) →
      Rel (Sim T c b A D1 D2) (f conn)) :
    Rel (Sim T c b A D1 D2) (getConn c >>= f) :=
  Rel2.bindV (fun conn => (b = true → T conn.db) ∧ (∀ q, conn.tx = some q → ∀ e ∈ q, A e)) (rel_getConn c)
    (fun _ _ h => ⟨h.sel, h.qok⟩) (fun conn hc => hf conn hc.1 hc.2)

theorem rel_get_bind {β : Type} {f : Sys → M β} (hf : ∀ s D, f (withDbs s D) = f s)
    (hr : ∀ s, Rel (Sim T c b A D1 D2) (f s)) : Rel (Sim T c b A D1 D2) (get >>= f) :=
  RelJ.get_bind_same (fun _ _ h => h.exD) hf hr

theorem rel_getDb {d : Nat} (hd : T d) : Rel (Sim T c b A D1 D2) (getDb d) := by
  intro s1 s2 h
  refine ⟨?_, h⟩
  show (⟨s1.srv.dbs.getD d [], s1.srv.time⟩ : Db) = ⟨s2.srv.dbs.getD d [], s2.srv.time⟩
  rw [h.on d hd]
  obtain ⟨D, rfl⟩ := h.exD
  rfl

theorem getD_set_congr {α} (l1 l2 : List α) (d j : Nat) (x dflt : α) (hl : l2.length = l1.length)
    (h : l2.getD j dflt = l1.getD j dflt) : (l2.set d x).getD j dflt = (l1.set d x).getD j dflt := by
  rw [getD_set_eq, getD_set_eq, hl, h]

theorem rel_setDb {d : Nat} (hd : T d) (db : Db) : Rel (Sim T c b A D1 D2) (setDb d db) := by
  intro s1 s2 h
  refine ⟨rfl, ?_⟩
  obtain ⟨D, rfl⟩ := h.exD
  simp only [setDb_run]
  refine ⟨rfl, ?_, ?_, ?_, ?_, h.sel, h.qok⟩
  · show (D.set d db.dict).length = (s1.srv.dbs.set d db.dict).length
    rw [List.length_set, List.length_set]; exact h.len
  · intro j hj
    exact getD_set_congr _ _ _ _ _ _ h.len (h.on j hj)
  · intro j hj
    have : j ≠ d := fun e => hj (e ▸ hd)
    show (s1.srv.dbs.set d db.dict).getD j [] = _
    rw [getD_set_ne _ _ _ _ _ this]; exact h.off1 j hj
  · intro j hj
    have : j ≠ d := fun e => hj (e ▸ hd)
    show (D.set d db.dict).getD j [] = _
    rw [getD_set_ne _ _ _ _ _ this]; exact h.off2 j hj

theorem rel_mapConns (g : Conn → Conn) (hid : ∀ x, (g x).id = x.id) (hdb : ∀ x, (g x).db = x.db)
    (htx : ∀ x, (g x).tx = x.tx) :
    Rel (Sim T c b A D1 D2) (modify fun s => s.mapConns g) := by
  intro s1 s2 h
  refine ⟨rfl, h.frame (fun s => s.mapConns g) (fun _ _ => rfl) rfl ?_ ?_⟩
  · exact Sys.conn_mapConns_pred s1 g c (fun x => x.db = (s1.conn c).db) hid (fun x hx => (hdb x).trans hx) rfl
  · exact Sys.conn_mapConns_pred s1 g c (fun x => x.tx = (s1.conn c).tx) hid (fun x hx => (htx x).trans hx) rfl

theorem rel_modifyConn (c' : Nat) (f : Conn → Conn) (hid : ∀ x, (f x).id = x.id) (hdb : ∀ x, (f x).db = x.db)
    (htx : ∀ x, (f x).tx = x.tx) : Rel (Sim T c b A D1 D2) (modifyConn c' f) :=
  rel_mapConns (fun x => if x.id == c' then f x else x)
    (by intro x; split <;> simp [hid]) (by intro x; split <;> simp [hdb]) (by intro x; split <;> simp [htx])

/-- an update of connection `c'` that may change `tx` (MULTI, DISCARD, EXEC, queueing) -/
theorem rel_modifyConn_tx (c' : Nat) (f : Conn → Conn) (hid : ∀ x, (f x).id = x.id) (hdb : b = true → ∀ x, T x.db → T (f x).db)
    (htx : ∀ x, (∀ q, x.tx = some q → ∀ e ∈ q, A e) → ∀ q, (f x).tx = some q → ∀ e ∈ q, A e) :
    Rel (Sim T c b A D1 D2) (modifyConn c' f) := by
  intro s1 s2 h
  refine ⟨rfl, ?_⟩
  obtain ⟨D, rfl⟩ := h.exD
  refine ⟨rfl, h.len, h.on, h.off1, h.off2, ?_, ?_⟩
  · intro hb
    exact Sys.conn_updConn_pred s1 c' c f (fun x => T x.db) hid (hdb hb) (h.sel hb)
  · exact Sys.conn_updConn_pred s1 c' c f (fun x => ∀ q, x.tx = some q → ∀ e ∈ q, A e) hid htx h.qok

theorem rel_clearWatches (c' : Nat) : Rel (Sim T c b A D1 D2) (clearWatches c') :=
  rel_modifyConn c' _ (fun _ => rfl) (fun _ => rfl) (fun _ => rfl)

theorem rel_notifyWatch (d : Nat) (key : Bytes) : Rel (Sim T c b A D1 D2) (notifyWatch d key) :=
  rel_mapConns (notifyFn d key) (notifyFn_id d key) (fun x => by rw [notifyFn_fields]) (fun x => by rw [notifyFn_fields])

theorem rel_fault (msg : String) : Rel (Sim T c b A D1 D2) (M.fault msg) := by
  refine rel_modify_frame _ ?_ ?_ ?_
  · intro s D; dsimp only; split <;> rfl
  · intro s; split <;> rfl
  · intro s; split <;> rfl

theorem rel_emit (c' : Nat) (r : Reply) : Rel (Sim T c b A D1 D2) (emit c' r) := by
  unfold emit
  refine Rel.bind (rel_getConn c') (fun conn => ?_)
  split
  · exact rel_modify_frame _ (fun _ _ => rfl) (fun _ => rfl) (fun _ => rfl)
  · exact Rel.pure _

theorem rel_nextClock : Rel (Sim T c b A D1 D2) nextClock := by
  intro s1 s2 h
  obtain ⟨D, rfl⟩ := h.exD
  obtain ⟨srv, out, clocks, picks, flt, crashed⟩ := s1
  cases clocks with
  | nil =>
    refine ⟨rfl, ?_⟩
    exact h.frame (fun s => if s.fault.isNone then { s with fault := some "clock readings exhausted" } else s)
      (by intro s D; dsimp only; split <;> rfl) (by dsimp only; split <;> rfl) (by dsimp only; split <;> rfl)
      (by dsimp only; split <;> rfl)
  | cons t rest =>
    exact ⟨rfl, h.frame (fun s => { s with clocks := rest }) (fun _ _ => rfl) rfl rfl rfl⟩

theorem Sim.picksFree : PicksFree (Sim T c b A D1 D2) where
  eq := fun _ _ h => by obtain ⟨D, rfl⟩ := h.exD; rfl
  set := fun _ _ r h => h.frame (fun s => { s with picks := r }) (fun _ _ => rfl) rfl rfl rfl

theorem rel_nextPick : Rel (Sim T c b A D1 D2) nextPick := nextPick_relJ Sim.picksFree


theorem rel_writebackAll {d : Nat} (hd : T d) (cis : List CI) : Rel (Sim T c b A D1 D2) (writebackAll d cis) := by
  unfold writebackAll
  refine (Rel.seq _).forM (fun ci => ?_)
  refine Rel.bind (rel_getDb hd) (fun db => ?_)
  split
  rename_i db' notified heq
  refine Rel.bind (rel_setDb hd _) (fun _ => ?_)
  split
  · exact rel_notifyWatch d ci.key
  · exact Rel.pure _

theorem rel_liveKeys {d : Nat} (hd : T d) : Rel (Sim T c b A D1 D2) (liveKeys d) := by
  unfold liveKeys
  refine Rel.bind (rel_getDb hd) (fun db => ?_)
  split
  exact Rel.bind (rel_setDb hd _) (fun _ => Rel.pure _)

theorem rel_clearDb {d : Nat} (hd : T d) : Rel (Sim T c b A D1 D2) (clearDb d) := by
  unfold clearDb
  refine Rel.bind (rel_liveKeys hd) (fun ks => ?_)
  refine Rel.bind ((Rel.seq _).forM (fun k => rel_notifyWatch d k)) (fun _ => ?_)
  exact rel_setDb hd _

theorem rel_okR (r : Reply) (cis : List CI) : Rel (Sim T c b A D1 D2) (okR r cis) := Rel.pure _

theorem rel_touch {d : Nat} (hd : T d) (k : Bytes) : Rel (Sim T c b A D1 D2) (touchKey d k) := by
  unfold touchKey
  refine Rel.bind (rel_getDb hd) (fun db => ?_)
  exact Rel.bind (rel_setDb hd _) (fun _ => Rel.pure _)

theorem rel_takeSetOrder (l : List Bytes) : Rel (Sim T c b A D1 D2) (takeSetOrder l) :=
  takeSetOrder_relJ Sim.picksFree l

end leaves

/-! ## Automation -/

/-- side conditions `T d`: a hypothesis, or `T conn.db` from a hypothesis `b = true → T conn.db` about the record read from
the state, when `b` is `true` -/
syntax "rel_side" : tactic
macro_rules | `(tactic| rel_side) => `(tactic| first
  | assumption
  | (apply_assumption <;> rfl))

/-- leaves: the accesses the bodies make directly; one to a database carries the side condition `T d` (`rel_side`) -/
syntax "rel_leaf" : tactic
macro_rules | `(tactic| rel_leaf) => `(tactic| first
  | with_reducible exact rel_getConn _
  | with_reducible exact rel_emit _ _
  | with_reducible exact rel_fault _
  | with_reducible exact rel_nextClock
  | with_reducible exact rel_nextPick
  | with_reducible exact rel_clearWatches _
  | with_reducible exact rel_notifyWatch _ _
  | with_reducible exact rel_okR _ _
  | ((with_reducible refine rel_writebackAll ?_ _); rel_side)
  | ((with_reducible refine rel_liveKeys ?_); rel_side)
  | ((with_reducible refine rel_getDb ?_); rel_side)
  | ((with_reducible refine rel_setDb ?_ _); rel_side)
  | (with_reducible refine rel_modifyConn _ _ (fun _ => rfl) (fun _ => rfl) (fun _ => rfl))
  | ((with_reducible refine rel_modify_frame _ ?_ ?_ ?_) <;>
      first | exact fun _ _ => rfl | exact fun _ => rfl | (intros; split <;> rfl))
  | with_reducible assumption)

/-- descent through a `do` block: sequencing and loops are taken apart, calls closed by a leaf, `if` and `match` split; a goal
none of this applies to must be a hypothesis `∀ x…, Rel R (f x…)` -/
syntax "rel" : tactic
macro_rules | `(tactic| rel) => `(tactic| repeat' first
  | with_reducible exact Rel.pure _
  | ((with_reducible refine rel_get_bind (fun _ _ => rfl) (fun _ => ?_)))
  | (with_reducible refine Rel.bind ?_ (fun _ => ?_))
  | (with_reducible refine (Rel.seq _).forM (fun _ => ?_))
  | (with_reducible refine (Rel.seq _).forIn (fun _ _ => ?_) _)
  | rel_leaf
  | (with_reducible refine Seq.ite (fun _ => ?_) (fun _ => ?_))
  | split
  | (with_reducible apply_assumption; done))

/-! ## The special bodies -/

section bodies
variable {T : Nat → Prop} {c : Nat} {b : Bool} {A : String × List Bytes → Prop} {D1 D2 : List Dict}

-- `R`: the relation with all its parameters; `b` is arbitrary in this section
local notation "R" => Sim T c b A D1 D2

theorem scanCmd_rel {d : Nat} (hd : T d) (args : List Arg) (cis : List CI) : Rel R (scanCmd d args cis) := by
  unfold scanCmd; rel

theorem txNone_ok (f : Conn → Conn) (hf : ∀ x, (f x).tx = none) :
    ∀ x : Conn, (∀ q, x.tx = some q → ∀ e ∈ q, A e) → ∀ q, (f x).tx = some q → ∀ e ∈ q, A e := by
  intro x _ q hq
  rw [hf] at hq
  cases hq

theorem unwatch_rel (cis : List CI) : Rel R (do clearWatches c; okR .ok cis : M SpecialOut) := by rel

theorem selectCmd_rel2 (args : List Arg) (cis : List CI) :
    Rel2 R (Sim T c false A D1 D2) (selectCmd c args cis) := by
  unfold selectCmd
  split
  · rename_i i
    refine Rel2.bind (Q := Sim T c false A D1 D2) ?_ (fun _ => rel_okR _ _)
    refine Rel2.pre (P := Sim T c false A D1 D2) ?_ (fun _ _ h => h.mono nofun)
    exact rel_modifyConn_tx c _ (fun _ => rfl) (fun h => nomatch h) (fun _ h => h)
  · exact Rel2.post (Q := R) (by rel) (fun _ _ h => h.mono nofun)

theorem randomkeyCmd_rel {d : Nat} (hd : T d) (cis : List CI) : Rel R (randomkeyCmd d cis) :=
  randomkeyCmd_relJ Sim.picksFree d cis (rel_liveKeys hd) rel_fault

theorem subscribeGen_rel (pattern : Bool) (names : List Bytes) : Rel R (subscribeGen c pattern names) := by
  unfold subscribeGen; rel

theorem unsubscribeGen_rel (pattern : Bool) (names : List Bytes) : Rel R (unsubscribeGen c pattern names) := by
  unfold unsubscribeGen
  extract_lets mtype explicit
  refine rel_get_bind (fun _ _ => rfl) (fun s => ?_)
  extract_lets t names' jp
  -- the values are cleared so that `split` finds only the monadic `if`s, not the `if pattern` inside them
  clear_value mtype names' explicit
  have hjp : ∀ x, Rel R (jp x) := by
    intro x
    simp -zeta only [jp]
    refine (Rel.seq _).forM (fun name => ?_)
    refine rel_get_bind (fun _ _ => rfl) (fun s => ?_)
    extract_lets t'
    clear_value t'
    rel
  clear_value jp
  rel

theorem publish_rel (ch msg : Bytes) : Rel R (publish ch msg) := by
  unfold publish; rel

theorem rel_readOf {γ : Type} (π : Sys → γ) (hπ : ∀ s D, π (withDbs s D) = π s) : ReadOf (@Rel R) π :=
  RelJ.readOf (fun _ _ h => h.exD) π hπ

theorem rel_dbLeaves : DbLeaves (@Rel R) T where
  toSeq := Rel.seq R
  touch := fun _ hd => rel_touch hd
  liveKeys := fun _ hd => rel_liveKeys hd
  clearDb := fun _ hd => rel_clearDb hd
  writebackAll := fun _ hd cis _ => rel_writebackAll hd cis
  fault := rel_fault
  takeSetOrder := rel_takeSetOrder

/-! ## Blocked connections -/

def ParkedIn (T : Nat → Prop) (c' : Nat) (s : Sys) : Prop := ∀ p, (s.conn c').parked = some p → T p.db

theorem getConn_parked_bind {β : Type} (c' : Nat) {f : Conn → M β}
    (hf : ∀ conn : Conn, (∀ p, conn.parked = some p → T p.db) → Rel R (f conn)) :
    Rel2 (fun s1 s2 => R s1 s2 ∧ ParkedIn T c' s1) R (getConn c' >>= f) := by
  refine Rel2.bindV (Q := R) (fun conn => ∀ p, conn.parked = some p → T p.db) ?_ (fun s1 s2 h => h.2) hf
  exact Rel2.pre (rel_getConn c') (fun _ _ h => h.1)

theorem wakeConn_rel (c' : Nat) : Rel2 (fun s1 s2 => R s1 s2 ∧ ParkedIn T c' s1) R (wakeConn c') := by
  unfold wakeConn
  refine getConn_parked_bind c' (fun conn hconn => ?_)
  split
  · rel
  · rename_i p hp
    have : Rel R (parkedPass c' p) := rel_dbLeaves.parkedPass c' p (hconn p hp)
    rel

theorem timeoutConn_rel (c' : Nat) : Rel R (timeoutConn c') := by
  unfold timeoutConn; rel

/-! ## asyncio wake-ups: the wake-up proper, then the parser resumes -/

/-- what `wakeConnAsync` / `timeoutConnAsync` do after a served wake-up -/
def resume (mode : Mode) (c : Nat) : M Unit := do drain mode c ((← getConn c).buf.length + 1)

/-- the final states are related, or are reached from related states by running `k` -/
def ThenMaybe (Q : Sys → Sys → Prop) (k : M Unit) (s1 s2 : Sys) : Prop :=
  ∃ s1' s2', Q s1' s2' ∧ ((s1 = s1' ∧ s2 = s2') ∨ (s1 = (k s1').2 ∧ s2 = (k s2').2))

theorem Rel.notail {α : Type} {m : M α} (k : M Unit) (h : Rel R m) : Rel2 R (ThenMaybe R k) m :=
  fun s1 s2 hs => ⟨(h s1 s2 hs).1, _, _, (h s1 s2 hs).2, Or.inl ⟨rfl, rfl⟩⟩

theorem Rel.tail2 {α β : Type} {m1 : M α} {m2 : M β} (k : M Unit) (h1 : Rel R m1) (h2 : Rel R m2) :
    Rel2 R (ThenMaybe R k) (m1 >>= fun _ => m2 >>= fun _ => k) := by
  intro s1 s2 hs
  have h := (Rel.bind h1 (fun _ => h2)) s1 s2 hs
  refine ⟨?_, _, _, h.2, Or.inr ⟨rfl, rfl⟩⟩
  show (k _).1 = (k _).1
  rfl

theorem wakeConnAsync_rel (mode : Mode) (c' : Nat) :
    Rel2 (fun s1 s2 => R s1 s2 ∧ ParkedIn T c' s1) (ThenMaybe R (resume mode c')) (wakeConnAsync mode c') := by
  unfold wakeConnAsync
  refine Rel2.bindV (Q := R) (fun conn => ∀ p, conn.parked = some p → T p.db)
    (Rel2.pre (rel_getConn c') (fun _ _ h => h.1)) (fun s1 s2 h => h.2) (fun conn hconn => ?_)
  split
  · exact Rel.notail _ (by rel)
  · rename_i p hp
    refine Rel2.bind (Q := R) (rel_dbLeaves.parkedPass c' p (hconn p hp)) (fun r => ?_)
    split
    · exact Rel.tail2 _ (by rel) (by rel)
    · exact Rel.tail2 _ (by rel) (by rel)
    · exact Rel.notail _ (by rel)

theorem timeoutConnAsync_rel (mode : Mode) (c' : Nat) :
    Rel2 R (ThenMaybe R (resume mode c')) (timeoutConnAsync mode c') := by
  unfold timeoutConnAsync
  refine Rel2.bind (Q := R) (rel_getConn c') (fun conn => ?_)
  split
  · exact Rel.notail _ (by rel)
  · exact Rel.tail2 _ (by rel) (by rel)

end bodies

section spine
variable {T : Nat → Prop} {c : Nat} {A : String × List Bytes → Prop} {D1 D2 : List Dict} {b' : Bool}

-- from here on `R` says that `c` is selected inside `T` (`b := true`); `R'` is the relation after a command, with `b'` left
-- open: every command but SELECT keeps `b' := true`, a SELECT to an arbitrary database only gives `b' := false`
local notation "R" => Sim T c true A D1 D2
local notation "R'" => Sim T c b' A D1 D2

theorem Rel.weak {α : Type} {m : M α} (h : Rel R m) : Rel2 R R' m := Rel2.post h (fun _ _ h => h.mono (fun _ => rfl))

theorem tx_enqueue_ok {e : String × List Bytes} (he : A e) (x : Conn) (hx : ∀ q, x.tx = some q → ∀ e ∈ q, A e) :
    ∀ q, x.tx.map (· ++ [e]) = some q → ∀ e' ∈ q, A e' := by
  intro q hq e' he'
  cases htx : x.tx with
  | none => simp [htx] at hq
  | some q0 =>
    simp only [htx, Option.map_some, Option.some.injEq] at hq
    subst hq
    rcases List.mem_append.1 he' with h | h
    · exact hx q0 htx e' h
    · rw [List.mem_singleton.1 h]; exact he

/-- on behalf of `c`: the databases of `T` only, SELECT to `T` only, only commands satisfying `A` are queued -/
theorem rel_leaves (mode : Mode) :
    Leaves (@Rel R) mode c { conn := fun x => T x.db ∧ ∀ q, x.tx = some q → ∀ e ∈ q, A e, db := T, sel := T, enq := A } where
  toDbLeaves := rel_dbLeaves
  getConn := fun _ hf => rel_getConn_bind (fun conn hsel hq => hf conn ⟨hsel rfl, hq⟩)
  conn_db := fun _ h => h.1
  conn_tx := fun _ h => h.2
  conn := fun f op => by
    cases op with
    | select i h => exact rel_modifyConn_tx c _ (fun _ => rfl) (fun _ _ _ => h) (fun _ h => h)
    | multi => exact rel_modifyConn_tx c _ (fun _ => rfl) (fun _ _ h => h) (fun _ _ q hq e he => by cases hq; cases he)
    | discard => exact rel_modifyConn_tx c _ (fun _ => rfl) (fun _ _ h => h) (txNone_ok _ (fun _ => rfl))
    | abort => exact rel_modifyConn_tx c _ (fun _ => rfl) (fun _ _ h => h) (txNone_ok _ (fun _ => rfl))
    | _ => exact rel_modifyConn c _ (fun _ => rfl) (fun _ => rfl) (fun _ => rfl)
  randomkey := fun _ hd => randomkeyCmd_rel hd
  scan := fun _ hd => scanCmd_rel hd
  applySig := fun _ hd sig raw =>
    Then.of (Rel.seq R) (show Rel R (applySig _ sig raw) by unfold applySig; rel) (fun _ _ _ _ => ⟨trivial, trivial⟩)
  writeback := fun _ hd cis _ => rel_writebackAll hd cis
  regular := fun x hx sig body raw fromScript _ => by
    have hd : T x.db := hx.1
    unfold regularStep; rel
  nextClock := rel_nextClock
  nextPick := rel_nextPick
  readVersion := rel_readOf _ (fun _ _ => rfl)
  readScripts := rel_readOf _ (fun _ _ => rfl)
  cacheScript := fun _ _ => rel_modify_frame _ (fun _ _ => rfl) (fun _ => rfl) (fun _ => rfl)
  flushScripts := rel_modify_frame _ (fun _ _ => rfl) (fun _ => rfl) (fun _ => rfl)
  readLastsave := rel_readOf _ (fun _ _ => rfl)
  setLastsave := fun _ => rel_modify_frame _ (fun _ _ => rfl) (fun _ => rfl) (fun _ => rfl)
  crash := fun _ _ => rel_modify_frame _ (fun _ _ => rfl) (fun _ => rfl) (fun _ => rfl)

theorem special_rel (inner : Inner) (mode : Mode) (name : String) (args : List Arg) (cis : List CI)
    (h1 : name ≠ "swapdb") (h2 : name ≠ "move") (h3 : name ≠ "flushall")
    (hsel : name = "select" → ∀ i, args = [.int i] → T i.toNat)
    (hexec : name = "exec" → ∀ sig raw, SigTable.find sig.name = some sig → A (sig.name, raw) → Rel R (inner sig raw)) :
    Rel R (special inner mode c name args cis) :=
  special_at ((rel_leaves mode).callees inner name args hsel (fun e => absurd e h3) (fun _ => trivial)
    (fun e => absurd e h1)
    (fun e => absurd e h2) (fun e => (rel_leaves mode).execCmd trivial trivial inner (hexec e))
    (fun _ _ hx _ _ => (rel_leaves mode).blockingPop trivial _ _ _ _ (fun _ => rel_dbLeaves.bpopPass hx.1 _ _ _))
    (fun _ _ hx _ _ _ =>
      (rel_leaves mode).blockingPop trivial _ _ _ _ (fun _ => rel_dbLeaves.brpoplpushPass hx.1 _ _ _))
    (fun _ => subscribeGen_rel) (fun _ => unsubscribeGen_rel) (fun _ => publish_rel) cis)

/-- `_run_command`; the special body may leave the connection selected outside `T` (then `b' = false`).  With different
relations before and after, `Rel2 R R'` is not closed under `>>=`, hence no `Seq` judgment and not an instance of
`Leaves.runWith`: the steps before the body keep `R`, the body takes `R` to `R'`, the steps after it keep `R'`. -/
theorem runWith_rel (special : SpecialFn) (mode : Mode) (sig : Sig) (raw : List Bytes) (fromScript : Bool)
    (hsp : ∀ db db' args cis, sig.apply raw db = (db', .ok (.ok args cis)) →
      Rel2 R R' (special mode c sig.name args cis)) :
    Rel2 R R' (runWith special mode c sig raw fromScript) := by
  unfold runWith
  refine Rel2.bindV (Q := R) (fun conn => T conn.db) (rel_getConn c) (fun s1 s2 h => h.sel rfl) (fun conn hd => ?_)
  split
  · -- refused in subscriber mode: both runs answer the same error and change nothing
    exact Rel.weak (Rel.pure _)
  refine Rel2.bind (Q := R) (rel_getDb hd) (fun db => ?_)
  extract_lets gate
  clear_value gate
  split
  · exact Rel.weak (by rel)
  · split
    rename_i db' res happ
    refine Rel2.bind (Q := R) (rel_setDb hd _) (fun _ => ?_)
    split
    · exact Rel.weak (by rel)
    · exact Rel.weak (by rel)
    · rename_i args cis
      split
      · exact Rel.weak (by rel)
      · refine Rel2.bind (hsp db db' args cis happ) (fun r => ?_)
        show Rel R' _
        rel

/-- a queued command that EXEC may run without leaving the databases of `T` -/
def QAllowed (T : Nat → Prop) (e : String × List Bytes) : Prop :=
  e.1 ≠ "swapdb" ∧ e.1 ≠ "move" ∧ e.1 ≠ "flushall" ∧ (e.1 = "select" → ∀ k, selTarget e.2 = some k → T k) ∧
    e.1 ≠ "eval" ∧ e.1 ≠ "evalsha"

def selectSig : Sig := ⟨"select", [.dbIndex], [], false, 1, 0, false⟩

theorem find_select : SigTable.find "select" = some selectSig := by decide +kernel

theorem select_apply {raw : List Bytes} {db db' : Db} {args : List Arg} {cis : List CI}
    (h : selectSig.apply raw db = (db', .ok (.ok args cis))) :
    ∃ b i, raw = [b] ∧ Conv.dbIndex b = .ok i ∧ args = [.int i] := by
  match raw with
  | [] => simp [Sig.apply, Sig.checkArity, selectSig] at h
  | [b] =>
    refine ⟨b, ?_⟩
    simp only [Sig.apply, Sig.checkArity, selectSig, Sig.types, List.length_singleton, List.length_cons, List.length_nil,
      bne_self_eq_false, Bool.false_eq_true, ↓reduceIte, Bool.not_true, List.isEmpty_nil, Nat.sub_self, List.range_zero,
      List.map_nil, List.append_nil, List.zip_cons_cons, List.zip_nil_right, Sig.pass1, Conv.decode] at h
    cases hb : Conv.dbIndex b with
    | error e => simp [hb, Except.map] at h
    | ok i =>
      simp [hb, Except.map, Sig.pass1, Sig.pass2] at h
      exact ⟨i, rfl, rfl, h.2.1.symm⟩
  | b :: b' :: rest => simp [Sig.apply, Sig.checkArity, selectSig] at h

theorem select_target {sig : Sig} (hfind : SigTable.find sig.name = some sig) (hname : sig.name = "select")
    {raw : List Bytes} {db db' : Db} {args : List Arg} {cis : List CI}
    (happ : sig.apply raw db = (db', .ok (.ok args cis)))
    (hT : ∀ k, selTarget raw = some k → T k) : ∀ i, args = [.int i] → T i.toNat := by
  have : sig = selectSig := by
    rw [hname, find_select] at hfind
    exact (Option.some.inj hfind).symm
  subst this
  obtain ⟨b, i, rfl, hb, rfl⟩ := select_apply happ
  intro i' hi'
  cases hi'
  exact hT _ (by simp [selTarget, hb])

def stubInner : Inner := fun _ _ => do fault "nested exec"; return none

theorem stubInner_rel (sig : Sig) (raw : List Bytes) : Rel R (stubInner sig raw) := by
  unfold stubInner; rel

theorem shaHint_rel : Rel R shaHint := by
  unfold shaHint; rel

/-- SCRIPT LOAD / EXISTS / FLUSH (the branch of `scriptBody` that runs no script) -/
theorem scriptBody_rel (special : SpecialFn) (mode : Mode) (name : String) (args : List Arg)
    (h1 : name ≠ "eval") (h2 : name ≠ "evalsha") : Rel R (scriptBody special mode c name args) := by
  have hsha : Rel R shaHint := shaHint_rel
  unfold scriptBody
  refine rel_get_bind (fun _ _ => rfl) (fun s => ?_)
  split
  · exact absurd rfl h1
  · exact absurd rfl h2
  · rel
  · rel

theorem runScriptCmd_rel (mode : Mode) (sig : Sig) (raw : List Bytes) (fromScript : Bool)
    (h1 : sig.name ≠ "eval") (h2 : sig.name ≠ "evalsha") : Rel R (runScriptCmd mode c sig raw fromScript) := by
  have hbody : ∀ args, Rel R (scriptBody (special nestedStub) mode c sig.name args) :=
    fun args => scriptBody_rel _ mode _ args h1 h2
  unfold runScriptCmd
  refine rel_getConn_bind (fun conn hsel hq => ?_)
  have hd : T conn.db := hsel rfl
  rel

/-- EXEC's nested runner runs a queued script command by the direct script runner, so the queued commands must not be
EVAL / EVALSHA either; `QAllowed` says so -/
theorem runInner_rel (mode : Mode) (sig : Sig) (raw : List Bytes) (hfind : SigTable.find sig.name = some sig)
    (hA : QAllowed T (sig.name, raw)) : Rel R (runInner mode c sig raw) := by
  refine runInner_cases (P := fun m => Rel R m) mode c sig raw
    (fun _ => runScriptCmd_rel mode sig raw false hA.2.2.2.2.1 hA.2.2.2.2.2) (fun _ => ?_)
  refine runWith_rel _ mode sig raw false (fun db db' args cis happ => ?_)
  refine special_rel _ mode sig.name args cis hA.1 hA.2.1 hA.2.2.1 ?_ ?_
  · intro hname
    exact select_target hfind hname happ (hA.2.2.2.1 hname)
  · intro _ sig' raw' _ _
    exact stubInner_rel sig' raw'

theorem runCommand_rel (mode : Mode) (sig : Sig) (raw : List Bytes) (fromScript : Bool)
    (hfind : SigTable.find sig.name = some sig)
    (hA : QAllowed T (sig.name, raw)) (h4 : sig.name ≠ "eval") (h5 : sig.name ≠ "evalsha")
    (hexec : sig.name = "exec" → ∀ e, A e → QAllowed T e) :
    Rel R (runCommand mode c sig raw fromScript) := by
  unfold runCommand
  split
  · exact runScriptCmd_rel mode sig raw fromScript h4 h5
  · refine runWith_rel _ mode sig raw fromScript (fun db db' args cis happ => ?_)
    refine special_rel _ mode sig.name args cis hA.1 hA.2.1 hA.2.2.1 ?_ ?_
    · intro hname
      exact select_target hfind hname happ (hA.2.2.2.1 hname)
    · intro hname sig' raw' hfind' hA'
      exact runInner_rel mode sig' raw' hfind' (hexec hname _ hA')

theorem cleanupClosed_rel : Rel R cleanupClosed := by
  unfold cleanupClosed; rel


/-- the lower-cased command name of a request (`""` when there is none) -/
def cmdName : List Bytes → String
  | [] => ""
  | nameB :: _ => (commandName nameB).getD ""

/-- `_process_command`, given what `_run_command` does for the request's own command; the request itself satisfies
`A` (it may be queued).  Written out like `runWith_rel` and for the same reason (`processCommand_of` asks for a `Seq`
judgment); the enqueueing also needs `A` of this request, which a `Process` field could not assume. -/
theorem processCommand_rel2 (mode : Mode) (fields : List Bytes) (hA : A (cmdName fields, fields.tail))
    (hrun : ∀ sig, SigTable.find sig.name = some sig → sig.name = cmdName fields →
      Rel2 R R' (runCommand mode c sig fields.tail false)) :
    Rel2 R R' (processCommand mode c fields) := by
  unfold processCommand
  split
  · exact Rel.weak (by rel)
  · rename_i nameB args
    refine Rel2.bind (Q := R) (rel_getConn c) (fun conn => ?_)
    extract_lets sig?
    have hsig : ∀ sig, sig? = some sig → SigTable.find sig.name = some sig ∧ sig.name = cmdName (nameB :: args) := by
      intro sig h
      simp only [sig?] at h
      split at h
      · rename_i n hn
        split at h
        · cases h
        · have := SigTable.find_name h
          refine ⟨by rw [this]; exact h, ?_⟩
          simp only [cmdName, hn, Option.getD_some, this]
      · cases h
    clear_value sig?
    split
    · exact Rel.weak (by rel)
    · rename_i _ sig
      obtain ⟨hfind, hname⟩ := hsig sig rfl
      have hrun := hrun sig hfind hname
      rw [← hname] at hA
      have hcl : Rel R cleanupClosed := cleanupClosed_rel
      have mq : Rel R (modifyConn c fun x => { x with tx := x.tx.map (· ++ [(sig.name, args)]) }) :=
        rel_modifyConn_tx c _ (fun _ => rfl) (fun _ _ h => h) (tx_enqueue_ok hA)
      have m2 : Rel R (modifyConn c fun x => { x with tx := none, txFailed := false }) := (rel_leaves mode).conn _ .discard
      refine Rel2.bind (Q := R) hcl (fun _ => ?_)
      refine Rel2.bind (Q := R) rel_nextClock (fun now => ?_)
      refine Rel2.bind (Q := R) (by rel) (fun _ => ?_)
      split
      · exact Rel.weak (by rel)
      · split
        · exact Rel.weak (by rel)
        · refine Rel2.bind hrun (fun r => ?_)
          show Rel R' _
          rel

theorem processCommand_rel (mode : Mode) (fields : List Bytes)
    (hQ : QAllowed T (cmdName fields, fields.tail)) (h4 : cmdName fields ≠ "eval") (h5 : cmdName fields ≠ "evalsha")
    (hA : A (cmdName fields, fields.tail))
    (hexec : cmdName fields = "exec" → ∀ e, A e → QAllowed T e) :
    Rel R (processCommand mode c fields) := by
  refine processCommand_rel2 mode fields hA (fun sig hfind hname => ?_)
  rw [← hname] at hQ h4 h5 hexec
  exact runCommand_rel mode sig fields.tail false hfind hQ h4 h5 hexec

/-! ## SELECT with an arbitrary target (`b' = false` afterwards) -/

theorem special_select_rel2 (inner : Inner) (mode : Mode) (args : List Arg) (cis : List CI) :
    Rel2 R (Sim T c false A D1 D2) (special inner mode c "select" args cis) := by
  unfold special
  exact Rel2.bind (Q := R) (rel_getConn c) (fun conn => selectCmd_rel2 _ _)

theorem runCommand_select_rel2 (mode : Mode) (sig : Sig) (raw : List Bytes) (fromScript : Bool)
    (hname : sig.name = "select") : Rel2 R (Sim T c false A D1 D2) (runCommand mode c sig raw fromScript) := by
  unfold runCommand
  split
  · rename_i h
    rw [hname] at h
    exact absurd h (by decide)
  · refine runWith_rel _ mode sig raw fromScript (fun _ _ args cis _ => ?_)
    rw [hname]
    exact special_select_rel2 _ mode args cis

theorem processCommand_select_rel2 (mode : Mode) (fields : List Bytes) (hname : cmdName fields = "select")
    (hA : A (cmdName fields, fields.tail)) : Rel2 R (Sim T c false A D1 D2) (processCommand mode c fields) :=
  processCommand_rel2 mode fields hA (fun sig _ hn => runCommand_select_rel2 mode sig _ false (hn.trans hname))

end spine

/-! ## From the relation to statements about two runs -/

/-- `s₂` is `s₁` except for the content of the databases outside `T` -/
structure Agree (T : Nat → Prop) (s1 s2 : Sys) : Prop where
  eqv : s2 = withDbs s1 s2.srv.dbs
  len : s2.srv.dbs.length = s1.srv.dbs.length
  on : ∀ j, T j → s2.srv.dbs.getD j [] = s1.srv.dbs.getD j []

theorem Agree.refl (T : Nat → Prop) (s : Sys) : Agree T s s := ⟨rfl, rfl, fun _ _ => rfl⟩

theorem Agree.out {T : Nat → Prop} {s1 s2 : Sys} (h : Agree T s1 s2) : s2.out = s1.out := by
  rw [h.eqv]

theorem Agree.conn {T : Nat → Prop} {s1 s2 : Sys} (h : Agree T s1 s2) (c : Nat) : s2.conn c = s1.conn c := by
  rw [h.eqv]; rfl

theorem Agree.toSim {T : Nat → Prop} {s1 s2 : Sys} (h : Agree T s1 s2) (c : Nat) (b : Bool)
    (A : String × List Bytes → Prop) (hsel : b = true → T (s1.conn c).db)
    (hq : ∀ q, (s1.conn c).tx = some q → ∀ e ∈ q, A e) : Sim T c b A s1.srv.dbs s2.srv.dbs s1 s2 :=
  ⟨h.eqv, h.len, h.on, fun _ _ => rfl, fun _ _ => rfl, hsel, hq⟩

theorem Sim.agree {T : Nat → Prop} {c : Nat} {b : Bool} {A : String × List Bytes → Prop} {D1 D2 : List Dict}
    {s1 s2 : Sys} (h : Sim T c b A D1 D2 s1 s2) : Agree T s1 s2 := ⟨h.eqv, h.len, h.on⟩

theorem Rel2.run {T : Nat → Prop} {c : Nat} {b b' : Bool} {A : String × List Bytes → Prop} {α : Type} {m : M α}
    (hm : ∀ D1 D2, Rel2 (Sim T c b A D1 D2) (Sim T c b' A D1 D2) m) {s1 s2 : Sys} (h : Agree T s1 s2)
    (hsel : b = true → T (s1.conn c).db) (hq : ∀ q, (s1.conn c).tx = some q → ∀ e ∈ q, A e) :
    (m s1).1 = (m s2).1 ∧ Agree T (m s1).2 (m s2).2 ∧
    (∀ j, ¬ T j → (m s1).2.srv.dbs.getD j [] = s1.srv.dbs.getD j []) ∧
    (∀ j, ¬ T j → (m s2).2.srv.dbs.getD j [] = s2.srv.dbs.getD j []) ∧
    (b' = true → T ((m s1).2.conn c).db) ∧ (∀ q, ((m s1).2.conn c).tx = some q → ∀ e ∈ q, A e) := by
  obtain ⟨hv, hs⟩ := hm _ _ s1 s2 (h.toSim c b A hsel hq)
  exact ⟨hv, hs.agree, hs.off1, hs.off2, hs.sel, hs.qok⟩

/-- the diagonal: one run leaves the databases outside `T` as they are -/
theorem Rel2.frame {T : Nat → Prop} {c : Nat} {b b' : Bool} {A : String × List Bytes → Prop} {α : Type} {m : M α}
    {s : Sys} (hm : Rel2 (Sim T c b A s.srv.dbs s.srv.dbs) (Sim T c b' A s.srv.dbs s.srv.dbs) m)
    (hsel : b = true → T (s.conn c).db) (hq : ∀ q, (s.conn c).tx = some q → ∀ e ∈ q, A e) :
    ∀ j, ¬ T j → (m s).2.srv.dbs.getD j [] = s.srv.dbs.getD j [] :=
  (hm s s (Sim.refl s hsel hq)).2.off1

def ReqOk (T : Nat → Prop) (fields : List Bytes) : Prop :=
  QAllowed T (cmdName fields, fields.tail) ∧ cmdName fields ≠ "eval" ∧ cmdName fields ≠ "evalsha"

/-! ## Histories -/

theorem Agree.map {T : Nat → Prop} {s1 s2 : Sys} (h : Agree T s1 s2) (g : Sys → Sys)
    (hg : ∀ s D, g (withDbs s D) = withDbs (g s) D) (hdbs : ∀ s, (g s).srv.dbs = s.srv.dbs) :
    Agree T (g s1) (g s2) := by
  obtain ⟨e, l, o⟩ := h
  have h2 : (g s2).srv.dbs = s2.srv.dbs := hdbs s2
  refine ⟨?_, ?_, ?_⟩
  · rw [h2]; conv => lhs; rw [e, hg]
  · rw [h2, hdbs]; exact l
  · intro j hj; rw [h2, hdbs]; exact o j hj

/-- the events covered by the history theorem, judged in the state they are run from.  Raw writes are admitted by `OkEvW`
(`FR/Proofs/C13w.lean`); the asyncio resumptions, which go on to process whatever the buffer holds, are not covered. -/
def OkEv (T : Nat → Prop) (s : Sys) : Ev → Prop
  | .request _ c fields _ _ =>
    T (s.conn c).db ∧ (∀ q, (s.conn c).tx = some q → ∀ e ∈ q, QAllowed T e) ∧ ReqOk T fields
  | .wake c _ => ParkedIn T c s
  | .send .. => False
  | .awake .. => False
  | .atimeout .. => False
  | _ => True

structure StepOk (T : Nat → Prop) (s1 s2 r1 r2 : Sys) : Prop where
  agree : Agree T r1 r2
  off1 : ∀ j, ¬ T j → r1.srv.dbs.getD j [] = s1.srv.dbs.getD j []
  off2 : ∀ j, ¬ T j → r2.srv.dbs.getD j [] = s2.srv.dbs.getD j []

theorem StepOk.of_sim {T : Nat → Prop} {c : Nat} {b : Bool} {A : String × List Bytes → Prop} {s1 s2 r1 r2 : Sys}
    (h : Sim T c b A s1.srv.dbs s2.srv.dbs r1 r2) : StepOk T s1 s2 r1 r2 :=
  ⟨h.agree, h.off1, h.off2⟩

theorem StepOk.of_map {T : Nat → Prop} {s1 s2 : Sys} (h : Agree T s1 s2) (g : Sys → Sys)
    (hg : ∀ s D, g (withDbs s D) = withDbs (g s) D) (hdbs : ∀ s, (g s).srv.dbs = s.srv.dbs) :
    StepOk T s1 s2 (g s1) (g s2) :=
  ⟨h.map g hg hdbs, fun _ _ => by rw [hdbs], fun _ _ => by rw [hdbs]⟩

/-- the state component of `FR.closeConn_run` -/
theorem closeConn_run (c : Nat) (s : Sys) : (closeConn c s).2 =
    ({ s with srv := { s.srv with closedSockets := s.srv.closedSockets ++ [c] } } : Sys).updConn c
      (fun x => { x with closed := true }) := rfl

theorem stepEv_agree {T : Nat → Prop} {s1 s2 : Sys} (h : Agree T s1 s2) (e : Ev) (hok : OkEv T s1 e) :
    StepOk T s1 s2 (stepEv s1 e) (stepEv s2 e) := by
  have hb : ∀ {s1 s2 : Sys}, Agree T s1 s2 → ∀ clocks picks,
      Agree T (s1.beginEvent.withHints clocks picks) (s2.beginEvent.withHints clocks picks) :=
    fun h clocks picks => h.map (fun s => s.beginEvent.withHints clocks picks) (fun _ _ => rfl) (fun _ => rfl)
  have hmap : ∀ (m : M Unit), (∀ (s : Sys) D, (m (withDbs s.beginEvent D)).2 = withDbs (m s.beginEvent).2 D) →
      (∀ s : Sys, (m s.beginEvent).2.srv.dbs = s.srv.dbs) → ∀ s1 s2, Agree T s1 s2 →
      StepOk T s1 s2 (m s1.beginEvent).2 (m s2.beginEvent).2 :=
    fun m h1 h2 _ _ h => StepOk.of_map h (fun s => (m s.beginEvent).2) h1 h2
  refine Events.stepEv₂ (P := fun s1 s2 e r1 r2 => Agree T s1 s2 → OkEv T s1 e → StepOk T s1 s2 r1 r2) ?_ s1 s2 e h hok
  exact
    { version := fun _ s1 s2 h _ => hmap _ (fun _ _ => rfl) (fun _ => rfl) s1 s2 h
      opn := fun c s1 s2 h _ => hmap (openConn c) (fun _ _ => rfl) (fun _ => rfl) s1 s2 h
      close := fun c s1 s2 h _ => hmap (closeConn c) (fun _ _ => rfl) (fun _ => rfl) s1 s2 h
      gc := fun c s1 s2 h _ => hmap (gcConn c) (fun _ _ => rfl) (fun _ => rfl) s1 s2 h
      conn := fun _ s1 s2 h _ => hmap _ (fun _ _ => rfl) (fun _ => rfl) s1 s2 h
      request := fun mode c fields clocks picks _ _ h hok =>
        .of_sim (processCommand_rel mode fields hok.2.2.1 hok.2.2.2.1 hok.2.2.2.2 hok.2.2.1 (fun _ _ h => h) _ _
          ((hb h clocks picks).toSim c true (QAllowed T) (fun _ => hok.1) hok.2.1)).2
      send := fun _ _ _ _ _ _ _ _ hok => absurd hok id
      wake := fun c clocks _ _ h hok =>
        have hr := (wakeConn_rel c _ _
          ⟨(hb h clocks []).toSim c false (fun _ => True) (fun hb => nomatch hb) (fun _ _ _ _ => trivial), hok⟩).2
        .of_sim hr
      timeout := fun c _ _ h _ =>
        have hr := (timeoutConn_rel c _ _ ((h.map (fun s => s.beginEvent) (fun _ _ => rfl) (fun _ => rfl)).toSim c false
          (fun _ => True) (fun hb => nomatch hb) (fun _ _ _ _ => trivial))).2
        .of_sim hr
      awake := fun _ _ _ _ _ _ _ hok => absurd hok id
      atimeout := fun _ _ _ _ _ _ _ hok => absurd hok id }

/-- `HistAll (OkEv T)` of `FR/Proofs/Hist.lean`, written out (`okHist_iff_histAll`) -/
def OkHist (T : Nat → Prop) : Sys → List Ev → Prop
  | _, [] => True
  | s, e :: es => OkEv T s e ∧ OkHist T (stepEv s e) es

theorem okHist_iff_histAll {T : Nat → Prop} {s : Sys} {evs : List Ev} : OkHist T s evs ↔ HistAll (OkEv T) s evs := by
  induction evs generalizing s with
  | nil => exact Iff.rfl
  | cons e es ih => exact and_congr_right' ih

/-- the replies emitted by each event of a history, in order -/
def outs : Sys → List Ev → List (List (Nat × Reply))
  | _, [] => []
  | s, e :: es => (stepEv s e).out :: outs (stepEv s e) es

/-- for any notion `P` of a covered history that passes to the tail and whose head gives what one step needs -/
theorem history_agree_of {T : Nat → Prop} {ok : Sys → Ev → Prop} {P : Sys → List Ev → Prop}
    (hP : ∀ s e es, P s (e :: es) → ok s e ∧ P (stepEv s e) es)
    (hstep : ∀ {s1 s2 : Sys}, Agree T s1 s2 → ∀ e, ok s1 e → StepOk T s1 s2 (stepEv s1 e) (stepEv s2 e))
    (evs : List Ev) {s1 s2 : Sys} (h : Agree T s1 s2) (hok : P s1 evs) :
    outs s2 evs = outs s1 evs ∧ StepOk T s1 s2 (evs.foldl stepEv s1) (evs.foldl stepEv s2) := by
  induction evs generalizing s1 s2 with
  | nil => exact ⟨rfl, h, fun _ _ => rfl, fun _ _ => rfl⟩
  | cons e es ih =>
    obtain ⟨he, hes⟩ := hP _ _ _ hok
    have hstep := hstep h e he
    obtain ⟨ho, hr⟩ := ih hstep.agree hes
    refine ⟨?_, hr.agree, ?_, ?_⟩
    · simp only [outs, ho, hstep.agree.out]
    · intro j hj; rw [List.foldl_cons, hr.off1 j hj, hstep.off1 j hj]
    · intro j hj; rw [List.foldl_cons, hr.off2 j hj, hstep.off2 j hj]

theorem history_agree {T : Nat → Prop} (evs : List Ev) {s1 s2 : Sys} (h : Agree T s1 s2) (hok : OkHist T s1 evs) :
    outs s2 evs = outs s1 evs ∧ StepOk T s1 s2 (evs.foldl stepEv s1) (evs.foldl stepEv s2) :=
  history_agree_of (fun _ _ _ h => h) stepEv_agree evs h hok

/-! ## Exact effect of SWAPDB, FLUSHALL, FLUSHDB, MOVE (special bodies) -/

def noConns (s : Sys) : Sys := { s with srv := { s.srv with conns := [] } }

/-- the same as `Twin.purgeAt`; the statements of `FR/Props/C13s.lean` name this one -/
def purgeAt (t : Int) (d : Dict) : Dict := (Db.purge ⟨d, t⟩).dict

/-- `Twin.liveKeys_run`, spelled with `purgeAt` and the list of databases -/
theorem liveKeys_run (d : Nat) (s : Sys) : liveKeys d s =
    ((purgeAt s.srv.time (s.srv.dbs.getD d [])).map Prod.fst,
      { s with srv := { s.srv with dbs := s.srv.dbs.set d (purgeAt s.srv.time (s.srv.dbs.getD d [])) } }) := rfl

/-- `Database.clear` of database `d` -/
theorem clearDb_dbs (d : Nat) (s : Sys) : (clearDb d s).2.srv.dbs = s.srv.dbs.set d [] := by
  have key : ∃ ks : List Bytes, (clearDb d s).2.srv.dbs =
      ((ks.forM (notifyWatch d))
          { s with srv := { s.srv with dbs := s.srv.dbs.set d (purgeAt s.srv.time (s.srv.dbs.getD d [])) } }).2.srv.dbs.set d [] := by
    refine Exists.intro ?w ?h
    case h => rfl
  obtain ⟨ks, hk⟩ := key
  rw [hk, forM_notifyWatch_frame (fun s => s.srv.dbs) (fun _ _ => rfl) d ks]
  simp only [List.set_set]

theorem forM_clearDb_dbs (l : List Nat) (s : Sys) :
    (l.forM clearDb s).2.srv.dbs = l.foldl (fun D d => D.set d []) s.srv.dbs := by
  induction l generalizing s with
  | nil => rfl
  | cons d l ih =>
    have : ((d :: l).forM clearDb) s = (l.forM clearDb) (clearDb d s).2 := rfl
    rw [this, ih, clearDb_dbs]
    rfl

theorem foldl_clear_getD (l : List Nat) (D : List Dict) (j : Nat) :
    (l.foldl (fun D d => D.set d []) D).getD j [] = if j ∈ l then [] else D.getD j [] := by
  induction l generalizing D with
  | nil => simp
  | cons d l ih =>
    rw [List.foldl_cons, ih]
    by_cases hj : j ∈ l
    · simp [hj]
    · simp only [hj, if_false, List.mem_cons, or_false]
      by_cases hd : j = d
      · subst hd
        simp only [if_true]
        by_cases hlt : j < D.length
        · exact getD_set_self _ _ _ _ hlt
        · rw [List.set_eq_of_length_le (Nat.le_of_not_lt hlt)]
          simp [List.getD_eq_getElem?_getD, List.getElem?_eq_none (Nat.le_of_not_lt hlt)]
      · simp only [hd, if_false]
        exact getD_set_ne _ _ _ _ _ hd

theorem flushall_dbs (s : Sys) (hlen : s.srv.dbs.length ≤ 16) :
    ∀ j, (((List.range 16).forM clearDb) s).2.srv.dbs.getD j [] = [] := by
  intro j
  rw [forM_clearDb_dbs, foldl_clear_getD]
  split
  · rfl
  · rename_i h
    have : 16 ≤ j := by
      simp only [List.mem_range] at h
      omega
    simp [List.getD_eq_getElem?_getD, List.getElem?_eq_none (Nat.le_trans hlen this)]


theorem special_flushdb (inner : Inner) (mode : Mode) (c : Nat) (args : List Arg) (cis : List CI) (s : Sys)
    (hok : flushArgsOk (Cmd.rawArgs args) = true) :
    (special inner mode c "flushdb" args cis s).1 = .ok (some .ok, cis) ∧
    (special inner mode c "flushdb" args cis s).2.srv.dbs = s.srv.dbs.set (s.conn c).db [] := by
  have h : special inner mode c "flushdb" args cis s =
      (.ok (some .ok, cis), (clearDb (s.conn c).db s).2) := by
    unfold special
    simp only [bind, StateT.bind, getConn_run, hok, Bool.not_true, Bool.false_eq_true, if_false]
    rfl
  rw [h]
  exact ⟨rfl, clearDb_dbs _ _⟩

theorem moveCmd_same (d : Nat) (k : Nat) (dst : Int) (cis : List CI) (s : Sys) (h : dst.toNat = d) :
    moveCmd d [.key k, .int dst] cis s = (.error Msgs.SRC_DST_SAME_MSG, s) := by
  unfold moveCmd
  simp only [h, beq_self_eq_true, if_true]
  rfl

theorem moveCmd_missing (d : Nat) (k : Nat) (dst : Int) (cis : List CI) (s : Sys) (h : dst.toNat ≠ d)
    (hk : (ciAt cis k).truthy = false) :
    moveCmd d [.key k, .int dst] cis s = (.ok (some (.int 0), cis), s) := by
  unfold moveCmd
  have : (dst.toNat == d) = false := by simpa using h
  simp only [this, hk, Bool.false_eq_true, if_false, Bool.not_false, if_true]
  rfl

theorem moveCmd_present (d : Nat) (k : Nat) (dst : Int) (cis : List CI) (s : Sys) (h : dst.toNat ≠ d)
    (hk : (ciAt cis k).truthy = true)
    (hd : ((Db.get ⟨s.srv.dbs.getD dst.toNat [], s.srv.time⟩ (ciAt cis k).key).2).isSome = true) :
    moveCmd d [.key k, .int dst] cis s = (.ok (some (.int 0), cis),
      { s with srv := { s.srv with dbs := (s.srv.dbs.set dst.toNat
          (Db.get ⟨s.srv.dbs.getD dst.toNat [], s.srv.time⟩ (ciAt cis k).key).1.dict) } }) := by
  unfold moveCmd
  have : (dst.toNat == d) = false := by simpa using h
  simp only [this, hk, Bool.false_eq_true, if_false, Bool.not_true, bind, StateT.bind, getDb_run, setDb_run, hd, if_true]
  rfl

/-- MOVE proper.  The item found in `d` is stored under the key in the target; the body answers 1 and hands the key's
`CommandItem` back with value `None`, whose write-back in `_run_command` deletes the key from `d`. -/
theorem moveCmd_moves (d : Nat) (k : Nat) (dst : Int) (cis : List CI) (s : Sys) (h : dst.toNat ≠ d)
    (hk : (ciAt cis k).truthy = true)
    (hdst : (Db.get ⟨s.srv.dbs.getD dst.toNat [], s.srv.time⟩ (ciAt cis k).key).2 = none)
    (it : Item)
    (hsrc : (Db.get ⟨(s.srv.dbs.set dst.toNat
        (Db.get ⟨s.srv.dbs.getD dst.toNat [], s.srv.time⟩ (ciAt cis k).key).1.dict).getD d [], s.srv.time⟩
          (ciAt cis k).key).2 = some it) :
    let D1 := s.srv.dbs.set dst.toNat (Db.get ⟨s.srv.dbs.getD dst.toNat [], s.srv.time⟩ (ciAt cis k).key).1.dict
    let D2 := D1.set d (Db.get ⟨D1.getD d [], s.srv.time⟩ (ciAt cis k).key).1.dict
    (moveCmd d [.key k, .int dst] cis s).1 = .ok (some (.int 1), cis.set k ((ciAt cis k).setValue none)) ∧
    (moveCmd d [.key k, .int dst] cis s).2 =
      ({ s with srv := { s.srv with dbs := D2.set dst.toNat (Db.setRaw (D2.getD dst.toNat []) (ciAt cis k).key it) } } : Sys).mapConns
        (notifyFn dst.toNat (ciAt cis k).key) := by
  intro D1 D2
  unfold moveCmd
  have : (dst.toNat == d) = false := by simpa using h
  simp only [this, hk, Bool.false_eq_true, if_false, Bool.not_true, bind, StateT.bind, getDb_run, setDb_run, hdst,
    Option.isSome_none, hsrc, notifyWatch_run]
  exact ⟨rfl, rfl⟩

theorem moveCmd_moves_dbs (d : Nat) (k : Nat) (dst : Int) (cis : List CI) (s : Sys) (h : dst.toNat ≠ d)
    (hd : d < s.srv.dbs.length) (hj : dst.toNat < s.srv.dbs.length)
    (hk : (ciAt cis k).truthy = true)
    (hdst : (Db.get ⟨s.srv.dbs.getD dst.toNat [], s.srv.time⟩ (ciAt cis k).key).2 = none)
    (it : Item)
    (hsrc : (Db.get ⟨s.srv.dbs.getD d [], s.srv.time⟩ (ciAt cis k).key).2 = some it) :
    (moveCmd d [.key k, .int dst] cis s).1 = .ok (some (.int 1), cis.set k ((ciAt cis k).setValue none)) ∧
    (moveCmd d [.key k, .int dst] cis s).2.srv.dbs.getD dst.toNat [] =
      Db.setRaw (Db.get ⟨s.srv.dbs.getD dst.toNat [], s.srv.time⟩ (ciAt cis k).key).1.dict (ciAt cis k).key it ∧
    (moveCmd d [.key k, .int dst] cis s).2.srv.dbs.getD d [] =
      (Db.get ⟨s.srv.dbs.getD d [], s.srv.time⟩ (ciAt cis k).key).1.dict ∧
    (∀ j, j ≠ d → j ≠ dst.toNat → (moveCmd d [.key k, .int dst] cis s).2.srv.dbs.getD j [] = s.srv.dbs.getD j []) := by
  have e1 : (s.srv.dbs.set dst.toNat
      (Db.get ⟨s.srv.dbs.getD dst.toNat [], s.srv.time⟩ (ciAt cis k).key).1.dict).getD d [] = s.srv.dbs.getD d [] :=
    getD_set_ne _ _ _ _ _ (Ne.symm h)
  obtain ⟨hr, hs⟩ := moveCmd_moves d k dst cis s h hk hdst it (by rw [e1]; exact hsrc)
  refine ⟨hr, ?_, ?_, ?_⟩
  · rw [hs]
    show (List.set _ _ _).getD _ [] = _
    rw [getD_set_self _ _ _ _ (by simp [hj]), getD_set_ne _ _ _ _ _ h, getD_set_self _ _ _ _ hj]
  · rw [hs]
    show (List.set _ _ _).getD _ [] = _
    rw [getD_set_ne _ _ _ _ _ (Ne.symm h), getD_set_self _ _ _ _ (by simp [hd]), e1]
  · intro j hjd hjj
    rw [hs]
    show (List.set _ _ _).getD _ [] = _
    rw [getD_set_ne _ _ _ _ _ hjj, getD_set_ne _ _ _ _ _ hjd, getD_set_ne _ _ _ _ _ hjj]

def swapdbSig : Sig := ⟨"swapdb", [.dbIndex, .dbIndex], [], false, 2, 0, false⟩

theorem find_swapdb : SigTable.find "swapdb" = some swapdbSig := by decide +kernel

theorem swapdb_apply_invalid (x y : Bytes) (db : Db) (e : Err)
    (h : Conv.dbIndex x = .error e ∨ (∃ i, Conv.dbIndex x = .ok i ∧ Conv.dbIndex y = .error e)) :
    swapdbSig.apply [x, y] db = (db, .error e) := by
  rcases h with h | ⟨i, h1, h2⟩
  · simp [Sig.apply, Sig.checkArity, swapdbSig, Sig.types, Sig.pass1, Conv.decode, h, Except.map]
  · simp [Sig.apply, Sig.checkArity, swapdbSig, Sig.types, Sig.pass1, Conv.decode, h1, h2, Except.map]

/-- for a subscribed connection the subscriber-mode refusal comes first -/
theorem swapdb_invalid_unchanged (special : SpecialFn) (mode : Mode) (c : Nat) (x y : Bytes) (fromScript : Bool)
    (s : Sys) (e : Err)
    (h : Conv.dbIndex x = .error e ∨ (∃ i, Conv.dbIndex x = .ok i ∧ Conv.dbIndex y = .error e)) :
    runWith special mode c swapdbSig [x, y] fromScript s =
      (some (if s.refuses c swapdbSig then refusalReply else .err (strBytes e)), s) := by
  cases hr : s.refuses c swapdbSig with
  | true => rw [runWith_refused special mode c swapdbSig _ fromScript hr]; rfl
  | false =>
  rw [runWith_not_refused special mode c swapdbSig _ fromScript hr]
  unfold runWithBody
  have hreg : Cmd.regular swapdbSig.name = none := by decide +kernel
  simp only [bind, StateT.bind, getConn_run, getDb_run, hreg, swapdb_apply_invalid x y _ e h, setDb_run, set_getD_self,
    pure, StateT.pure, Bool.false_eq_true, if_false]



end FR.DbFrame

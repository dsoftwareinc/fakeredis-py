import FR.Proofs.Invariant
/-!
# What the special bodies return

`OutOf cis r`: of the items it was given a special body hands back the same list, or the list with a new value in one
item (MOVE, ZUNIONSTORE / ZINTERSTORE); so what holds of `cis` item by item and of every `setValue` holds of the result.
SORT and ZUNIONSTORE, the two bodies with loops and early exits, are traversed once for what they return (`Stored`).
-/
namespace FR
open M

def OutOf (cis : List CI) {ρ : Type} (r : Except Err (ρ × List CI)) : Prop :=
  ∀ x cis', r = .ok (x, cis') → cis' = cis ∨ ∃ i v, cis' = cis.set i ((ciAt cis i).setValue v)

section
variable {cis : List CI}

theorem outOf_error {ρ : Type} (e : Err) : OutOf cis (.error e : Except Err (ρ × List CI)) := by
  intro x cis' h; cases h

theorem outOf_same {ρ : Type} (x : ρ) : OutOf cis (.ok (x, cis)) := by
  intro x' cis' h; cases h; exact .inl rfl

theorem outOf_set {ρ : Type} (x : ρ) (i : Nat) (v : Option Value) :
    OutOf cis (.ok (x, cis.set i ((ciAt cis i).setValue v))) := by
  intro x' cis' h; cases h; exact .inr ⟨i, v, rfl⟩

theorem OutOf.reply {ρ σ : Type} {x : ρ} {cis' : List CI} (h : OutOf cis (.ok (x, cis'))) (y : σ) :
    OutOf cis (.ok (y, cis')) := by
  intro y' cis'' h'; cases h'; exact h x cis' rfl

/-- an error that is raised, or a reply that is not an error with items `OutOf cis` -/
def Stored (cis : List CI) (r : Except Err (Reply × List CI)) : Prop :=
  OutOf cis r ∧ ∀ e cis', r ≠ .ok (.err e, cis')

theorem stored_error (e : Err) : Stored cis (.error e) := ⟨outOf_error e, nofun⟩

/-- descent for `Ret (OutOf cis)` / `Ret (Stored cis)`: of a block only the last statement matters (`Ret.bind`) -/
macro "ret_out" : tactic => `(tactic| repeat' first
  | ((with_reducible refine Ret.pure ?_); first
      | exact outOf_error _ | exact outOf_same _ | exact outOf_set _ _ _ | exact stored_error _
      | exact ⟨outOf_same _, nofun⟩)
  | with_reducible assumption
  | with_reducible refine Ret.bind (fun _ => ?_)
  | split
  | simp only [])

theorem sortCmd_returns (c' d' : Nat) (args : List Arg) : Ret (Stored cis) (sortCmd c' d' args cis) := by
  unfold sortCmd
  split
  · extract_lets key wrong out x keyed err le jp
    split
    · ret_out
    · have hjp : ∀ x, Ret (Stored cis) (jp x) := by
        intro items?
        simp -zeta only [jp]
        split
        · ret_out
        · split
          · ret_out
          · extract_lets n start stop stop' gets sortby jp2
            have hjp2 : ∀ x, Ret (Stored cis) (jp2 x) := by
              intro sorted?
              simp -zeta only [jp2]
              ret_out
            clear_value jp2
            ret_out
            all_goals exact hjp2 _
      clear_value jp
      simp only []
      ret_out
      all_goals exact hjp _
  · ret_out

theorem sortCmd_ret (c' d' : Nat) (args : List Arg) : Ret (OutOf cis) (sortCmd c' d' args cis) :=
  fun s => (sortCmd_returns c' d' args s).1

def SlotErr {ρ σ : Type} (b : Option (Except Err ρ) × σ) : Prop := ∀ r, b.1 = some r → ∃ e, r = .error e

theorem slotErr_none {ρ σ : Type} (x : σ) : SlotErr ((none, x) : Option (Except Err ρ) × σ) := by
  intro r h; cases h

theorem slotErr_err {ρ σ : Type} (e : Err) (x : σ) : SlotErr ((some (.error e), x) : Option (Except Err ρ) × σ) := by
  intro r h; cases h; exact ⟨e, rfl⟩

theorem zunioninter_returns (u : Bool) (d' : Nat) (args : List Arg) : Ret (Stored cis) (zunioninter u d' args cis) := by
  unfold zunioninter
  split
  · extract_lets raw
    split
    · exact Ret.pure (stored_error _)
    split
    · exact Ret.pure (stored_error _)
    refine Ret.bindV SlotErr (Ret.forIn SlotErr (slotErr_none _) (fun key b _ => ?_)) (fun r hr => ?_)
    · -- the source loop leaves early only with a WRONGTYPE error
      refine Ret.bind (fun db => ?_)
      split
      refine Ret.bind (fun _ => ?_)
      split
      · exact Ret.pure (slotErr_none _)
      · split
        · exact Ret.pure (slotErr_none _)
        · exact Ret.pure (slotErr_err _ _)
    · obtain ⟨r1, sets⟩ := r
      cases r1 with
      | some r0 =>
        obtain ⟨e, rfl⟩ := hr _ rfl
        exact Ret.pure (stored_error _)
      | none =>
        refine Ret.bindV SlotErr (Ret.loop_pure SlotErr (fun b => b.2.2.2.2) _ (fun b => ?_) _ (slotErr_none _))
          (fun r2 hr2 => ?_)
        · -- the option loop is pure, leaves early only with an error, and burns its fuel when it continues
          obtain ⟨e0, w, a, opts, fuel⟩ := b
          dsimp only
          split
          · rename_i hc
            have hf : fuel - 1 < fuel := by
              have := of_decide_eq_true ((Bool.and_eq_true _ _).mp hc).2
              omega
            repeat' split
            all_goals first
              | exact ⟨_, rfl, fun _ => slotErr_none _, fun _ h => ForInStep.yield.inj h ▸ hf⟩
              | exact ⟨_, rfl, fun _ => slotErr_err _ _, fun _ h => nomatch h⟩
          · exact ⟨_, rfl, fun _ => slotErr_none _, fun _ h => nomatch h⟩
        · obtain ⟨r1, rest⟩ := r2
          cases r1 with
          | some r0 =>
            obtain ⟨e, rfl⟩ := hr2 _ rfl
            exact Ret.pure (stored_error _)
          | none => exact Ret.bind (fun _ => Ret.pure ⟨outOf_set _ _ _, nofun⟩)
  · exact Ret.pure (stored_error _)

theorem zunioninter_ret (u : Bool) (d' : Nat) (args : List Arg) : Ret (OutOf cis) (zunioninter u d' args cis) :=
  fun s => (zunioninter_returns u d' args s).1

end

end FR

import FR.Proofs.HashSetAlg
import FR.Proofs.StableSort
import FR.Proofs.History
import FR.Proofs.AsyncLife
/-!
# ZUNIONSTORE / ZINTERSTORE: functional specification of `zunioninter` (for `FR/Props/C03s.lean`)

The monadic body `zunioninter` (FR/Sys/Server.lean) is shown equal to a pure description `core`:
source look-ups (`readSrc`, lazy expiry included), option parsing (`parseOpts`), the member set
(`members`), the cardinality-sorted list of (source, weight) pairs (`pairs`), the score dictionary
(`outDict`) and the stored sorted set (`outZ`).  Everything else is proved about these pure functions.

§1 the pure description; §2 the three loops of the body compute it (`zunioninter_eq`); §3 the score of a member is
a fold of the aggregate over the sources that contain it; §4–§7 the stored set: insertion order, member set, the
stable order of the sources, the two-index invariant, score and membership (`result_*`); §8 the sources read off
the live view (`srcAll`); §9 the option parser; §10 signature, dispatch, write-back; §11 the command through
`runWith` as a function of the live view (`spec`, `run_zstore`, `run_ok`, `run_error`), with `Overwrites`, what
the write-back of a stored result does to the database.
-/
namespace FR.ZStore
open FR M

/-! ## 1. Pure description -/

/-- the source look-ups: `Database.get` (lazy expiry) on every source key, conversion of a plain set to a
zset with scores `1.0`, a missing key is an empty zset, any other type is `WRONGTYPE` -/
def readSrc : List Bytes → Db → List ZSet → Db × Except Err (List ZSet)
  | [], db, acc => (db, .ok acc)
  | k :: ks, db, acc =>
    match (db.get k).2 with
    | none => readSrc ks (db.get k).1 (acc ++ [ZSet.empty])
    | some it =>
      match zsetOfValue it.value with
      | .ok z => readSrc ks (db.get k).1 (acc ++ [z])
      | .error e => ((db.get k).1, .error e)

def badAgg (a : Bytes) : Bool := a != strBytes "sum" && a != strBytes "min" && a != strBytes "max"

/-- the option loop (`WEIGHTS w1 … wn`, `AGGREGATE sum|min|max`, repeated in any order; the last one wins) -/
def parseOpts (nk : Nat) : Nat → List Bytes → List Dbl → Bytes → Except Err (List Dbl × Bytes)
  | 0, _, w, a => .ok (w, a)
  | _ + 1, [], w, a => .ok (w, a)
  | fuel + 1, x :: rest', w, a =>
    if casematch x "weights" && decide (rest'.length ≥ nk) then
      match (rest'.take nk).mapM Conv.float with
      | .ok w' => parseOpts nk fuel (rest'.drop nk) w' a
      | .error e => .error e
    else if casematch x "aggregate" && decide (rest'.length ≥ 1) then
      match rest' with
      | v :: rest'' =>
        if badAgg (casenorm v) then .error Msgs.SYNTAX_ERROR_MSG else parseOpts nk fuel rest'' w (casenorm v)
      | [] => .error Msgs.SYNTAX_ERROR_MSG
    else .error Msgs.SYNTAX_ERROR_MSG

/-- `out_members` -/
def members (union : Bool) (sets : List ZSet) : List Bytes :=
  sets.tail.foldl (fun acc z =>
    if union then Cmd.setUnion acc (z.bylex.map Prod.fst) else acc.filter z.contains)
    ((sets.headD ZSet.empty).bylex.map Prod.fst)

/-- `sorted(zip(sets, weights), key=lambda x: len(x[0]))` -/
def pairs (sets : List ZSet) (weights : List Dbl) : List (ZSet × Dbl) :=
  stableSort (fun (a b : ZSet × Dbl) => decide (a.1.len ≤ b.1.len)) (sets.zip weights)

def nz (x : Dbl) : Dbl := if x.isNaN then Dbl.zero else x

/-- the weighted score of one source entry; only ZUNIONSTORE maps a NaN product to 0 at this point -/
def contrib (union : Bool) (s0 w : Dbl) : Dbl :=
  if union && (s0.mul w).isNaN then Dbl.zero else s0.mul w

/-- aggregation of a further contribution `x` into the score `old` accumulated so far -/
def combine (agg : Bytes) (old x : Dbl) : Dbl :=
  nz (if agg == strBytes "sum" then nz (x.add old)
      else if agg == strBytes "max" then old.pyMax x else old.pyMin x)

/-- the score written for a member whose accumulated score is `old` (if any) -/
def newScore (agg : Bytes) (old : Option Dbl) (x : Dbl) : Dbl :=
  match old with
  | some o => combine agg o x
  | none => nz x

/-- one entry `(m, s0)` of a source with weight `w` -/
def stepM (union : Bool) (agg : Bytes) (mem : List Bytes) (w : Dbl) (out : List (Bytes × Dbl)) (p : Bytes × Dbl) :
    List (Bytes × Dbl) :=
  if mem.contains p.1 then ZSet.dictSet out p.1 (newScore agg (out.lookup p.1) (contrib union p.2 w)) else out

/-- the Python dict `out` after the two nested loops -/
def outDict (union : Bool) (agg : Bytes) (mem : List Bytes) (ps : List (ZSet × Dbl)) : List (Bytes × Dbl) :=
  ps.foldl (fun out zw => zw.1.bylex.foldl (stepM union agg mem zw.2) out) []

/-- `out_zset` -/
def outZ (out : List (Bytes × Dbl)) : ZSet := out.foldl (fun z p => (z.add p.1 p.2).1) ZSet.empty

/-- the sorted set stored at the destination -/
def result (union : Bool) (agg : Bytes) (sets : List ZSet) (weights : List Dbl) : ZSet :=
  outZ (outDict union agg (members union sets) (pairs sets weights))

/-- the whole body on a state: the look-ups are the only effect -/
def core (union : Bool) (d : Nat) (dk : Nat) (numkeys : Int) (raw : List Bytes) (cis : List CI) :
    M (Except Err (Reply × List CI)) := fun s =>
  if numkeys < 1 then (.error Msgs.ZUNIONSTORE_KEYS_MSG, s)
  else if numkeys > raw.length then (.error Msgs.SYNTAX_ERROR_MSG, s)
  else
    let nk := numkeys.toNat
    let r := readSrc (raw.take nk) (s.dbAt d) []
    let s' := s.setDbS d r.1
    match r.2 with
    | .error e => (.error e, s')
    | .ok sets =>
      match parseOpts nk ((raw.drop nk).length + 1) (raw.drop nk) (List.replicate nk Dbl.one) (strBytes "sum") with
      | .error e => (.error e, s')
      | .ok (w, agg) =>
        (.ok (.int (result union agg sets w).len,
              cis.set dk ((ciAt cis dk).setValue (some (.zset (result union agg sets w))))), s')

/-! ## 2. The monadic body equals the pure description

The three loops of `zunioninter` are taken one at a time.  `srcBody`, `optBody` and `scoreBody` restate the body of
a `for` / `while` with the text the `do` elaborator produces for it (loop state as a tuple, early exit as
`ForInStep.done`), so that the loop in the unfolded model is recognised by `change` and can be named in a lemma;
`srcLoop`, `optLoop` and `scoreBody_eq` say what each loop computes. -/

abbrev Early := Option (Except Err (Reply × List CI))

/-- body of the source loop, as elaborated -/
def srcBody (d : Nat) (key : Bytes) (st : Early × List ZSet) : M (ForInStep (Early × List ZSet)) := do
  let sets := st.2
  let db ← M.getDb d
  match db.get key with
  | (db', item) => do
    M.setDb d db'
    match item with
    | none => pure (ForInStep.yield (none, sets ++ [ZSet.empty]))
    | some it =>
      match zsetOfValue it.value with
      | .ok z => pure (ForInStep.yield (none, sets ++ [z]))
      | .error e => pure (ForInStep.done (some (.error e), sets))

theorem bind_run {α β : Type} (m : M α) (k : α → M β) (s : Sys) : (m >>= k) s = k (m s).1 (m s).2 := rfl

theorem srcBody_run (d : Nat) (k : Bytes) (e : Early) (acc : List ZSet) (s : Sys) :
    srcBody d k (e, acc) s =
      ((match ((s.dbAt d).get k).2 with
        | none => ForInStep.yield (none, acc ++ [ZSet.empty])
        | some it =>
          match zsetOfValue it.value with
          | .ok z => ForInStep.yield (none, acc ++ [z])
          | .error e => ForInStep.done (some (.error e), acc)),
       s.setDbS d ((s.dbAt d).get k).1) := by
  unfold srcBody
  simp only [bind, StateT.bind, getDb_run', setDb_run']
  generalize (s.dbAt d).get k = r
  obtain ⟨db', item⟩ := r
  simp only
  cases item with
  | none => rfl
  | some it =>
    simp only
    cases zsetOfValue it.value <;> rfl

/-- the source loop followed by `k`: the look-ups are `readSrc`; `k` sees the sets, or the error of a wrong-typed key
(then the second component is whatever had been collected) -/
theorem srcLoop {β : Type} (d : Nat) (k : Early × List ZSet → M β) (ks : List Bytes) (acc : List ZSet) (s : Sys)
    (hd : d < s.srv.dbs.length) (R : β × Sys)
    (hok : ∀ sets, (readSrc ks (s.dbAt d) acc).2 = .ok sets →
      k (none, sets) (s.setDbS d (readSrc ks (s.dbAt d) acc).1) = R)
    (herr : ∀ e sets, (readSrc ks (s.dbAt d) acc).2 = .error e →
      k (some (.error e), sets) (s.setDbS d (readSrc ks (s.dbAt d) acc).1) = R) :
    (forIn ks ((none : Early), acc) (srcBody d) >>= k) s = R := by
  induction ks generalizing acc s with
  | nil =>
    rw [← hok acc rfl]
    simp only [readSrc, Sys.setDbS_self]
    rfl
  | cons key ks ih =>
    have ih' := fun acc' => ih acc' (s.setDbS d ((s.dbAt d).get key).1) (by rw [Sys.setDbS_len]; exact hd)
    have hchain : (s.setDbS d ((s.dbAt d).get key).1).dbAt d = ((s.dbAt d).get key).1 := s.looked_dbAt hd key
    simp only [hchain, Sys.setDbS_setDbS] at ih'
    rw [List.forIn_cons, bind_assoc, bind_run, srcBody_run]
    unfold readSrc at hok herr
    cases hi : ((s.dbAt d).get key).2 with
    | none =>
      simp only [hi] at hok herr
      exact ih' _ hok herr
    | some it =>
      cases hz : zsetOfValue it.value with
      | ok z =>
        simp only [hi, hz] at hok herr ⊢
        exact ih' _ hok herr
      | error e =>
        simp only [hi, hz] at herr ⊢
        exact herr e acc rfl

abbrev OptSt := Early × List Dbl × Bytes × List Bytes × Nat

/-- body of the option loop, as elaborated -/
def optBody (nk : Nat) (st : OptSt) : M (ForInStep OptSt) :=
  let weights := st.2.1
  let aggregate := st.2.2.1
  let opts := st.2.2.2.1
  let fuel := st.2.2.2.2
  if (!opts.isEmpty && decide (fuel > 0)) = true then
    let fuel := fuel - 1
    match opts with
    | a :: rest' =>
      if (casematch a "weights" && decide (rest'.length ≥ nk)) = true then
        match (rest'.take nk).mapM Conv.float with
        | .ok w => pure (.yield (none, w, aggregate, rest'.drop nk, fuel))
        | .error e => pure (.done (some (.error e), weights, aggregate, opts, fuel))
      else if (casematch a "aggregate" && decide (rest'.length ≥ 1)) = true then
        match rest' with
        | v :: rest'' =>
          if badAgg (casenorm v) = true then
            pure (.done (some (.error Msgs.SYNTAX_ERROR_MSG), weights, casenorm v, opts, fuel))
          else pure (.yield (none, weights, casenorm v, rest'', fuel))
        | [] => pure (.done (some (.error Msgs.SYNTAX_ERROR_MSG), weights, aggregate, opts, fuel))
      else pure (.done (some (.error Msgs.SYNTAX_ERROR_MSG), weights, aggregate, opts, fuel))
    | [] => pure (.yield (none, weights, aggregate, opts, fuel))
  else pure (.done (none, weights, aggregate, opts, fuel))

/-- the option loop followed by `k`: the loop is `parseOpts`; `k` sees the weights and the aggregate, or the error
(the other components of the loop state are whatever they were when the loop stopped) -/
theorem optLoop {β : Type} (nk : Nat) (k : OptSt → M β) (fuel : Nat) (opts : List Bytes) (w : List Dbl) (a : Bytes)
    (s : Sys) (R : β × Sys)
    (hok : ∀ w' a' o n, parseOpts nk fuel opts w a = .ok (w', a') → k (none, w', a', o, n) s = R)
    (herr : ∀ e w' a' o n, parseOpts nk fuel opts w a = .error e → k (some (.error e), w', a', o, n) s = R) :
    (forIn Lean.Loop.mk ((none, w, a, opts, fuel) : OptSt) (fun _ => optBody nk) >>= k) s = R := by
  -- one case per branch of `parseOpts`: the body, evaluated under the conditions of the branch, takes the same branch
  fun_induction parseOpts nk fuel opts w a generalizing R
  all_goals
    rw [loop_unfold]
    simp only [optBody, *, List.isEmpty_cons, List.isEmpty_nil, Bool.not_false, Bool.not_true, Bool.true_and,
      Bool.false_and, Bool.and_false, Nat.zero_lt_succ, Nat.lt_irrefl, decide_true, decide_false, Bool.false_eq_true,
      if_true, if_false, pure_bind]
  -- the two branches that go round the loop again
  all_goals rename_i ih; exact ih R hok herr

/-- the scoring step of `zunioninter` for the entry `p` of a source with weight `w` -/
def scoreBody (union : Bool) (agg : Bytes) (mem : List Bytes) (w : Dbl) (p : Bytes × Dbl) (out : List (Bytes × Dbl)) :
    M (ForInStep (List (Bytes × Dbl))) := do
  let mut out := out
  let mut score := Dbl.mul p.2 w
  if union && score.isNaN then score := Dbl.zero
  if mem.contains p.1 then
    match out.lookup p.1 with
    | some old =>
      if agg == strBytes "sum" then
        score := Dbl.add score old
        if score.isNaN then score := Dbl.zero
      else if agg == strBytes "max" then score := Dbl.pyMax old score
      else score := Dbl.pyMin old score
    | none => pure ()
    if score.isNaN then score := Dbl.zero
    out := ZSet.dictSet out p.1 score
  return .yield out

theorem scoreBody_eq (union : Bool) (agg : Bytes) (mem : List Bytes) (w : Dbl) :
    scoreBody union agg mem w = fun p out => pure (.yield (stepM union agg mem w out p)) := by
  funext p out
  unfold scoreBody
  -- the join points of the `do` block, innermost first, each with what it computes
  extract_lets out' score jpEnd jpSet zero jpNan jpMem
  have hNan : ∀ r x, jpNan r x = pure (.yield (ZSet.dictSet out p.1 (nz x))) := by
    intro r x
    unfold nz
    simp only [jpNan]
    split <;> rfl
  have hMem : ∀ r x, jpMem r x =
      pure (.yield (if mem.contains p.1 then ZSet.dictSet out p.1 (newScore agg (out.lookup p.1) x) else out)) := by
    intro r x
    simp only [jpMem, hNan]
    split
    · cases out.lookup p.1 with
      | none => rfl
      | some old =>
        simp only [newScore, combine]
        split
        · split <;> simp only [nz, zero, *, ite_self, if_true, if_false, Bool.false_eq_true]
        · split <;> rfl
    · rfl
  simp only [hMem, stepM, contrib]
  split <;> rfl

theorem zunioninter_eq (union : Bool) (d dk : Nat) (numkeys : Int) (rest : List Arg) (cis : List CI) (s : Sys)
    (hd : d < s.srv.dbs.length) :
    zunioninter union d (.key dk :: .int numkeys :: rest) cis s =
      core union d dk numkeys (Cmd.rawArgs rest) cis s := by
  unfold zunioninter core
  simp only []
  by_cases c1 : numkeys < 1
  · rw [if_pos c1, if_pos c1]; rfl
  rw [if_neg c1, if_neg c1]
  by_cases c2 : numkeys > ((Cmd.rawArgs rest).length : Int)
  · rw [if_pos c2, if_pos c2]; rfl
  rw [if_neg c2, if_neg c2]
  change (forIn _ ((none : Early), ([] : List ZSet)) (srcBody d) >>= _) s = _
  refine srcLoop d _ _ _ s hd _ (fun sets h => ?_) (fun e sets h => by rw [h]; rfl)
  rw [h]
  change (forIn Lean.Loop.mk _ (fun _ => optBody numkeys.toNat) >>= _ : M (Except Err (Reply × List CI))) _ = _
  refine optLoop numkeys.toNat _ _ _ _ _ _ _ (fun w agg o n h => ?_) (fun e w agg o n h => by rw [h]; rfl)
  rw [h]
  change (forIn (pairs sets w) [] (fun zw out =>
    forIn zw.1.bylex out (scoreBody union agg (members union sets) zw.2) >>= fun r => pure (.yield r)) >>= _ : M _) _ = _
  simp only [scoreBody_eq, List.forIn_pure_yield_eq_foldl, pure_bind]
  rfl


/-! ## 3. The score dictionary -/

theorem nz_not_nan (x : Dbl) : (nz x).isNaN = false := by
  unfold nz
  by_cases h : x.isNaN = true
  · rw [if_pos h]; rfl
  · rw [if_neg h]; simpa using h

theorem combine_not_nan (agg : Bytes) (old x : Dbl) : (combine agg old x).isNaN = false := nz_not_nan _

theorem newScore_not_nan (agg : Bytes) (old : Option Dbl) (x : Dbl) : (newScore agg old x).isNaN = false := by
  cases old with
  | none => exact nz_not_nan _
  | some o => exact combine_not_nan _ _ _

/-- one step of `scoreOf`, the fold of the aggregate over the sources that contain `m`, in the order of `ps` -/
def scoreStep (union : Bool) (agg : Bytes) (m : Bytes) (acc : Option Dbl) (zw : ZSet × Dbl) : Option Dbl :=
  match zw.1.get m with
  | none => acc
  | some s0 => some (newScore agg acc (contrib union s0 zw.2))

def scoreOf (union : Bool) (agg : Bytes) (ps : List (ZSet × Dbl)) (m : Bytes) : Option Dbl :=
  ps.foldl (scoreStep union agg m) none

theorem lookup_cons_eq {β} (k k' : Bytes) (v : β) (l : List (Bytes × β)) :
    List.lookup k ((k', v) :: l) = if k = k' then some v else l.lookup k := by
  rw [List.lookup_cons]
  by_cases e : k = k'
  · subst e; simp
  · have : (k == k') = false := by simpa using e
    rw [this, if_neg e]

/-- the score of `m` after one source entry: only the entry's own member changes, and only if it is among the members -/
theorem lookup_stepM (union : Bool) (agg : Bytes) (mem : List Bytes) (w : Dbl) (out : List (Bytes × Dbl))
    (p : Bytes × Dbl) (m : Bytes) :
    (stepM union agg mem w out p).lookup m =
      if m = p.1 ∧ mem.contains m = true then some (newScore agg (out.lookup m) (contrib union p.2 w))
      else out.lookup m := by
  unfold stepM
  by_cases hc : mem.contains p.1 = true
  · rw [if_pos hc, ZSet.lookup_dictSet]
    by_cases e : m = p.1
    · rw [if_pos e, if_pos ⟨e, by rw [e]; exact hc⟩, e]
    · rw [if_neg e, if_neg (fun h => e h.1)]
  · rw [if_neg hc, if_neg (fun h => hc (by rw [← h.1]; exact h.2))]

theorem lookup_inner (union : Bool) (agg : Bytes) (mem : List Bytes) (w : Dbl) (l : List (Bytes × Dbl))
    (hn : (l.map Prod.fst).Nodup) (out : List (Bytes × Dbl)) (m : Bytes) :
    (l.foldl (stepM union agg mem w) out).lookup m =
      if mem.contains m then
        (match l.lookup m with
         | some s0 => some (newScore agg (out.lookup m) (contrib union s0 w))
         | none => out.lookup m)
      else out.lookup m := by
  induction l generalizing out with
  | nil => simp
  | cons p l ih =>
    obtain ⟨m', s0⟩ := p
    rw [List.map_cons, List.nodup_cons] at hn
    rw [List.foldl_cons, ih hn.2, lookup_stepM, lookup_cons_eq]
    dsimp only
    by_cases e : m = m'
    · -- the entry of `m` itself: `m` does not occur again in `l`
      subst e
      rw [if_pos rfl, ZSet.lookup_none_iff.mpr hn.1]
      by_cases hc : mem.contains m = true
      · rw [if_pos hc, if_pos (⟨rfl, hc⟩ : m = m ∧ _), if_pos hc]
      · rw [if_neg hc, if_neg (fun h : m = m ∧ _ => hc h.2), if_neg hc]
    · rw [if_neg e, if_neg (fun h : m = m' ∧ _ => e h.1)]

theorem lookup_outer (union : Bool) (agg : Bytes) (mem : List Bytes) (ps : List (ZSet × Dbl))
    (hn : ∀ zw ∈ ps, (zw.1.bylex.map Prod.fst).Nodup) (out : List (Bytes × Dbl)) (m : Bytes) :
    (ps.foldl (fun out zw => zw.1.bylex.foldl (stepM union agg mem zw.2) out) out).lookup m =
      if mem.contains m then ps.foldl (scoreStep union agg m) (out.lookup m) else out.lookup m := by
  induction ps generalizing out with
  | nil => simp
  | cons zw ps ih =>
    rw [List.foldl_cons, List.foldl_cons, ih (fun x hx => hn x (List.mem_cons_of_mem _ hx)),
      lookup_inner union agg mem zw.2 _ (hn zw List.mem_cons_self)]
    by_cases hc : mem.contains m = true
    · simp only [hc, if_true]
      congr 1
      unfold scoreStep ZSet.get
      cases List.lookup m zw.1.bylex <;> rfl
    · simp only [hc, if_false, Bool.false_eq_true]

theorem lookup_outDict (union : Bool) (agg : Bytes) (mem : List Bytes) (ps : List (ZSet × Dbl))
    (hn : ∀ zw ∈ ps, (zw.1.bylex.map Prod.fst).Nodup) (m : Bytes) :
    (outDict union agg mem ps).lookup m = if mem.contains m then scoreOf union agg ps m else none := by
  unfold outDict scoreOf
  rw [lookup_outer union agg mem ps hn]
  rfl

theorem stepM_keys (union : Bool) (agg : Bytes) (mem : List Bytes) (w : Dbl) (out : List (Bytes × Dbl))
    (p : Bytes × Dbl) (hn : (out.map Prod.fst).Nodup) : ((stepM union agg mem w out p).map Prod.fst).Nodup := by
  unfold stepM
  split
  · exact ZSet.nodup_keys_dictSet hn _ _
  · exact hn

theorem stepM_scores (union : Bool) (agg : Bytes) (mem : List Bytes) (w : Dbl) (out : List (Bytes × Dbl))
    (p : Bytes × Dbl) (hn : (out.map Prod.fst).Nodup) (hs : ∀ q ∈ out, q.2.isNaN = false) :
    ∀ q ∈ stepM union agg mem w out p, q.2.isNaN = false := by
  unfold stepM
  split
  · intro q hq
    obtain ⟨k, v⟩ := q
    rcases (ZSet.mem_dictSet hn _ _ _ _).mp hq with ⟨_, rfl⟩ | ⟨_, h⟩
    · exact newScore_not_nan _ _ _
    · exact hs _ h
  · exact hs

theorem outDict_good (union : Bool) (agg : Bytes) (mem : List Bytes) (ps : List (ZSet × Dbl)) :
    ((outDict union agg mem ps).map Prod.fst).Nodup ∧ ∀ q ∈ outDict union agg mem ps, q.2.isNaN = false := by
  unfold outDict
  refine Cmd.foldl_keeps (fun out : List (Bytes × Dbl) => (out.map Prod.fst).Nodup ∧ ∀ q ∈ out, q.2.isNaN = false) _ ps
    (fun out h zw _ => ?_) [] ⟨List.nodup_nil, fun _ h => by cases h⟩
  exact Cmd.foldl_keeps (fun out : List (Bytes × Dbl) => (out.map Prod.fst).Nodup ∧ ∀ q ∈ out, q.2.isNaN = false) _
    zw.1.bylex (fun out h p _ => ⟨stepM_keys _ _ _ _ _ _ h.1, stepM_scores _ _ _ _ _ _ h.1 h.2⟩) out h

/-! ## 4. `out_zset` -/

theorem dictSet_fresh {β} (d : List (Bytes × β)) (k : Bytes) (v : β) (h : k ∉ d.map Prod.fst) :
    ZSet.dictSet d k v = d ++ [(k, v)] := by
  unfold ZSet.dictSet
  rw [if_neg (fun h' => h ((ZSet.any_key_iff d k).mp h'))]

theorem foldl_add_bylex (out : List (Bytes × Dbl)) (z : ZSet)
    (hn : (out.map Prod.fst).Nodup) (hd : ∀ k ∈ out.map Prod.fst, k ∉ z.bylex.map Prod.fst) :
    (out.foldl (fun z p => (z.add p.1 p.2).1) z).bylex = z.bylex ++ out := by
  induction out generalizing z with
  | nil => simp
  | cons p out ih =>
    obtain ⟨k, v⟩ := p
    rw [List.map_cons, List.nodup_cons] at hn
    rw [List.foldl_cons]
    have hk : k ∉ z.bylex.map Prod.fst := hd k (by simp)
    have hg : z.get k = none := ZSet.get_none_iff.mpr hk
    have hb : (z.add k v).1.bylex = z.bylex ++ [(k, v)] := by
      unfold ZSet.add
      rw [hg]
      exact dictSet_fresh _ _ _ hk
    rw [ih _ hn.2, hb]
    · simp
    · intro k' hk'
      rw [hb]
      simp only [List.map_append, List.map_cons, List.map_nil, List.mem_append, List.mem_singleton, not_or]
      refine ⟨hd k' (by simp [hk']), ?_⟩
      intro e; subst e; exact hn.1 hk'

theorem outZ_bylex (out : List (Bytes × Dbl)) (hn : (out.map Prod.fst).Nodup) : (outZ out).bylex = out := by
  unfold outZ
  rw [foldl_add_bylex out ZSet.empty hn (fun _ _ h => by simp [ZSet.empty] at h)]
  rfl

theorem outZ_inv (out : List (Bytes × Dbl)) (hs : ∀ q ∈ out, q.2.isNaN = false) : (outZ out).Inv := by
  unfold outZ
  exact Cmd.foldl_keeps ZSet.Inv _ out (fun _ hz p hp => ZSet.add_inv hz (hs p hp)) _ ZSet.empty_inv

/-! ## 5. `out_members` -/

theorem contains_iff_mem_keys (z : ZSet) (m : Bytes) : z.contains m = true ↔ m ∈ z.bylex.map Prod.fst := by
  unfold ZSet.contains
  cases h : z.get m with
  | none => simp [ZSet.get_none_iff.mp h]
  | some v =>
    simp only [Option.isSome_some, true_iff]
    false_or_by_contra
    rename_i hh
    rw [ZSet.get_none_iff.mpr hh] at h; cases h

theorem mem_foldl_members (union : Bool) (l : List ZSet) (acc : List Bytes) (m : Bytes) :
    m ∈ l.foldl (fun acc z =>
      if union then Cmd.setUnion acc (z.bylex.map Prod.fst) else acc.filter z.contains) acc ↔
      if union then (m ∈ acc ∨ ∃ z ∈ l, z.contains m = true) else (m ∈ acc ∧ ∀ z ∈ l, z.contains m = true) := by
  induction l generalizing acc with
  | nil => cases union <;> simp
  | cons z l ih =>
    rw [List.foldl_cons, ih]
    cases union
    · simp only [Bool.false_eq_true, if_false, List.mem_filter, List.forall_mem_cons]
      constructor
      · rintro ⟨⟨h1, h2⟩, h3⟩; exact ⟨h1, h2, h3⟩
      · rintro ⟨h1, h2, h3⟩; exact ⟨⟨h1, h2⟩, h3⟩
    · simp only [if_true, HashSet.mem_setUnion, ← contains_iff_mem_keys]
      constructor
      · rintro ((h | h) | ⟨z', hz', h⟩)
        · exact Or.inl h
        · exact Or.inr ⟨z, List.mem_cons_self, h⟩
        · exact Or.inr ⟨z', List.mem_cons_of_mem _ hz', h⟩
      · rintro (h | ⟨z', hz', h⟩)
        · exact Or.inl (Or.inl h)
        · rcases List.mem_cons.mp hz' with rfl | hz'
          · exact Or.inl (Or.inr h)
          · exact Or.inr ⟨z', hz', h⟩

theorem mem_members (union : Bool) (sets : List ZSet) (hne : sets ≠ []) (m : Bytes) :
    m ∈ members union sets ↔
      if union then (∃ z ∈ sets, z.contains m = true) else (∀ z ∈ sets, z.contains m = true) := by
  cases sets with
  | nil => exact absurd rfl hne
  | cons z0 l =>
    unfold members
    rw [mem_foldl_members]
    simp only [List.headD_cons, List.tail_cons, ← contains_iff_mem_keys]
    cases union <;> simp

/-! ## 6. the stable sort by cardinality -/

theorem pairs_perm (sets : List ZSet) (weights : List Dbl) : (pairs sets weights).Perm (sets.zip weights) :=
  SortSpec.stableSort_perm _ _

theorem pairs_sorted (sets : List ZSet) (weights : List Dbl) :
    (pairs sets weights).Pairwise (fun a b => a.1.len ≤ b.1.len) :=
  (SortSpec.stableSort_sorted _ (S := fun _ => True)
    ⟨fun a b _ _ => by simpa using Nat.le_total a.1.len b.1.len,
     fun a b c _ _ _ h1 h2 => by simpa using Nat.le_trans (of_decide_eq_true h1) (of_decide_eq_true h2)⟩
    _ (fun _ _ => trivial)).imp of_decide_eq_true

theorem pairs_stable (sets : List ZSet) (weights : List Dbl) (n : Nat) :
    (pairs sets weights).filter (fun a => a.1.len == n) = (sets.zip weights).filter (fun a => a.1.len == n) :=
  SortSpec.stableSort_filter _ _ _ (fun a _ b _ ha hb => by
    rw [beq_iff_eq] at ha hb
    exact decide_eq_true (by rw [ha, hb]; exact Nat.le_refl n))


/-! ## 7. The stored sorted set -/

theorem mem_pairs_fst {sets : List ZSet} {weights : List Dbl} {zw : ZSet × Dbl} (h : zw ∈ pairs sets weights) :
    zw.1 ∈ sets := by
  have h' := (pairs_perm sets weights).subset h
  obtain ⟨z, w⟩ := zw
  exact (List.of_mem_zip h').1

theorem exists_pair_of_mem {sets : List ZSet} {weights : List Dbl} (hlen : sets.length = weights.length)
    {z : ZSet} (hz : z ∈ sets) : ∃ w, (z, w) ∈ pairs sets weights := by
  obtain ⟨i, hi, rfl⟩ := List.mem_iff_getElem.mp hz
  have hi' : i < weights.length := hlen ▸ hi
  refine ⟨weights[i], (pairs_perm sets weights).symm.subset ?_⟩
  refine List.mem_iff_getElem.mpr ⟨i, by rw [List.length_zip]; omega, ?_⟩
  simp

theorem scoreStep_isSome (union : Bool) (agg : Bytes) (m : Bytes) (ps : List (ZSet × Dbl)) (acc : Option Dbl) :
    (ps.foldl (scoreStep union agg m) acc).isSome = true ↔
      acc.isSome = true ∨ ∃ zw ∈ ps, zw.1.contains m = true := by
  induction ps generalizing acc with
  | nil => simp
  | cons zw ps ih =>
    rw [List.foldl_cons, ih]
    unfold scoreStep ZSet.contains
    cases hg : zw.1.get m with
    | none =>
      simp only []
      constructor
      · rintro (h | ⟨x, hx, h⟩)
        · exact Or.inl h
        · exact Or.inr ⟨x, List.mem_cons_of_mem _ hx, h⟩
      · rintro (h | ⟨x, hx, h⟩)
        · exact Or.inl h
        · rcases List.mem_cons.mp hx with rfl | hx
          · rw [hg] at h; cases h
          · exact Or.inr ⟨x, hx, h⟩
    | some s0 =>
      simp only [Option.isSome_some, true_or, true_iff]
      exact Or.inr ⟨zw, List.mem_cons_self, by rw [hg]; rfl⟩

theorem scoreOf_isSome (union : Bool) (agg : Bytes) (ps : List (ZSet × Dbl)) (m : Bytes) :
    (scoreOf union agg ps m).isSome = true ↔ ∃ zw ∈ ps, zw.1.contains m = true := by
  unfold scoreOf
  rw [scoreStep_isSome]
  simp

/-- no hypothesis: sources that violate the invariant and NaN weights included -/
theorem result_inv (union : Bool) (agg : Bytes) (sets : List ZSet) (weights : List Dbl) :
    (result union agg sets weights).Inv :=
  outZ_inv _ (outDict_good _ _ _ _).2

theorem result_bylex (union : Bool) (agg : Bytes) (sets : List ZSet) (weights : List Dbl) :
    (result union agg sets weights).bylex = outDict union agg (members union sets) (pairs sets weights) :=
  outZ_bylex _ (outDict_good _ _ _ _).1

theorem result_no_nan (union : Bool) (agg : Bytes) (sets : List ZSet) (weights : List Dbl) (m : Bytes) (x : Dbl)
    (h : (result union agg sets weights).get m = some x) : x.isNaN = false := by
  have hi := result_inv union agg sets weights
  exact hi.2.2.2 (x, m) ((ZSet.get_iff_mem_byscore hi).mp h)

theorem result_get (union : Bool) (agg : Bytes) (sets : List ZSet) (weights : List Dbl)
    (hn : ∀ z ∈ sets, (z.bylex.map Prod.fst).Nodup) (m : Bytes) :
    (result union agg sets weights).get m =
      if (members union sets).contains m then scoreOf union agg (pairs sets weights) m else none := by
  unfold ZSet.get
  rw [result_bylex, lookup_outDict _ _ _ _ (fun zw h => hn _ (mem_pairs_fst h))]

theorem result_contains (union : Bool) (agg : Bytes) (sets : List ZSet) (weights : List Dbl)
    (hn : ∀ z ∈ sets, (z.bylex.map Prod.fst).Nodup) (hlen : sets.length = weights.length) (hne : sets ≠ [])
    (m : Bytes) :
    (result union agg sets weights).contains m = true ↔
      if union then (∃ z ∈ sets, z.contains m = true) else (∀ z ∈ sets, z.contains m = true) := by
  rw [← mem_members union sets hne]
  unfold ZSet.contains
  rw [result_get _ _ _ _ hn]
  by_cases hc : (members union sets).contains m = true
  · rw [if_pos hc, scoreOf_isSome]
    have hm : m ∈ members union sets := by simpa using hc
    refine ⟨fun _ => hm, fun _ => ?_⟩
    have : ∃ z ∈ sets, z.contains m = true := by
      have h' := (mem_members union sets hne m).mp hm
      cases union
      · simp only [Bool.false_eq_true, if_false] at h'
        cases sets with
        | nil => exact absurd rfl hne
        | cons z0 l => exact ⟨z0, List.mem_cons_self, h' z0 List.mem_cons_self⟩
      · simpa using h'
    obtain ⟨z, hz, hzm⟩ := this
    obtain ⟨w, hw⟩ := exists_pair_of_mem hlen hz
    exact ⟨(z, w), hw, hzm⟩
  · rw [if_neg hc]
    have hm : m ∉ members union sets := by simpa using hc
    simp [hm]

theorem result_len (union : Bool) (agg : Bytes) (sets : List ZSet) (weights : List Dbl) :
    (result union agg sets weights).len = (outDict union agg (members union sets) (pairs sets weights)).length := by
  unfold ZSet.len; rw [result_bylex]

theorem result_empty_iff (union : Bool) (agg : Bytes) (sets : List ZSet) (weights : List Dbl) :
    (Value.zset (result union agg sets weights)).isEmptyColl = true ↔ (result union agg sets weights).len = 0 := by
  unfold Value.isEmptyColl ZSet.len
  simp


/-! ## 8. The sources -/

/-- the sorted set a source key stands for, given its live entry -/
def srcOf : Option Item → Except Err ZSet
  | none => .ok ZSet.empty
  | some it => zsetOfValue it.value

/-- all sources, in key order; the first wrong-typed key gives the error -/
def srcAll (db : Db) : List Bytes → Except Err (List ZSet)
  | [] => .ok []
  | k :: ks =>
    match srcOf (db.live k) with
    | .error e => .error e
    | .ok z =>
      match srcAll db ks with
      | .error e => .error e
      | .ok zs => .ok (z :: zs)

theorem srcAll_cons (db : Db) (k : Bytes) (ks : List Bytes) :
    srcAll db (k :: ks) = (match srcOf (db.live k) with
      | .error e => .error e
      | .ok z =>
        match srcAll db ks with
        | .error e => .error e
        | .ok zs => .ok (z :: zs)) := rfl

/-- if all sources are read, then the first one and the others are, and the result is the one in front of the others -/
theorem srcAll_cons_ok {db : Db} {k : Bytes} {ks : List Bytes} {zs : List ZSet} (h : srcAll db (k :: ks) = .ok zs) :
    ∃ z zs', srcOf (db.live k) = .ok z ∧ srcAll db ks = .ok zs' ∧ zs = z :: zs' := by
  rw [srcAll_cons] at h
  split at h
  · cases h
  · split at h
    · cases h
    · cases h
      exact ⟨_, _, by assumption, by assumption, rfl⟩

/-- the error is that of the first source, or else that of the others -/
theorem srcAll_cons_error {db : Db} {k : Bytes} {ks : List Bytes} {e : Err} (h : srcAll db (k :: ks) = .error e) :
    srcOf (db.live k) = .error e ∨ srcAll db ks = .error e := by
  rw [srcAll_cons] at h
  split at h
  · cases h
    exact Or.inl (by assumption)
  · split at h
    · cases h
      exact Or.inr (by assumption)
    · cases h

theorem srcAll_congr {a b : Db} (h : ∀ k, a.live k = b.live k) (ks : List Bytes) : srcAll a ks = srcAll b ks := by
  induction ks with
  | nil => rfl
  | cons k ks ih => unfold srcAll; rw [h k, ih]

theorem readSrc_spec (ks : List Bytes) (db : Db) (nd : NodupKeys db.dict) (acc : List ZSet) :
    Reads db (readSrc ks db acc).1 ∧
      (readSrc ks db acc).2 = (match srcAll db ks with
        | .ok zs => .ok (acc ++ zs)
        | .error e => .error e) := by
  induction ks generalizing db acc with
  | nil => exact ⟨Reads.refl nd, by simp [readSrc, srcAll]⟩
  | cons k ks ih =>
    have nd' := Db.get_nodup k nd
    have hr := Reads.get nd k
    have hl : srcAll (db.get k).1 ks = srcAll db ks := srcAll_congr (fun k' => live_get nd k k') ks
    unfold readSrc srcAll
    rw [get_snd_live nd k]
    cases hk : db.live k with
    | none =>
      simp only [srcOf]
      obtain ⟨h1, h2⟩ := ih (db.get k).1 nd' (acc ++ [ZSet.empty])
      refine ⟨hr.trans h1, ?_⟩
      rw [h2, hl]
      cases srcAll db ks <;> simp
    | some it =>
      simp only [srcOf]
      cases hz : zsetOfValue it.value with
      | error e => exact ⟨hr, rfl⟩
      | ok z =>
        simp only
        obtain ⟨h1, h2⟩ := ih (db.get k).1 nd' (acc ++ [z])
        refine ⟨hr.trans h1, ?_⟩
        rw [h2, hl]
        cases srcAll db ks <;> simp

theorem srcAll_length {db : Db} {ks : List Bytes} {zs : List ZSet} (h : srcAll db ks = .ok zs) :
    zs.length = ks.length := by
  induction ks generalizing zs with
  | nil => simp [srcAll] at h; subst h; rfl
  | cons k ks ih =>
    obtain ⟨z, zs', _, hzs, rfl⟩ := srcAll_cons_ok h
    simp [ih hzs]

theorem srcAll_getElem {db : Db} {ks : List Bytes} {zs : List ZSet} (h : srcAll db ks = .ok zs) (i : Nat)
    (hi : i < ks.length) : srcOf (db.live ks[i]) = .ok (zs[i]'(by rw [srcAll_length h]; exact hi)) := by
  induction ks generalizing zs i with
  | nil => simp at hi
  | cons k ks ih =>
    obtain ⟨z, zs', hz, hzs, rfl⟩ := srcAll_cons_ok h
    cases i with
    | zero => simpa using hz
    | succ j => simpa using ih hzs j (by simpa using hi)

theorem zsetOfValue_error {v : Value} {e : Err} (h : zsetOfValue v = .error e) :
    e = Msgs.WRONGTYPE_MSG ∧ v.ty ≠ .set ∧ v.ty ≠ .zset := by
  cases v <;> simp [zsetOfValue] at h <;> subst h <;> simp [Value.ty]

theorem zsetOfValue_ok_iff (v : Value) : (∃ z, zsetOfValue v = .ok z) ↔ (v.ty = .set ∨ v.ty = .zset) := by
  cases v <;> simp [zsetOfValue, Value.ty]

theorem srcAll_error_iff (db : Db) (ks : List Bytes) :
    (∃ e, srcAll db ks = .error e) ↔
      ∃ k, k ∈ ks ∧ ∃ it, db.live k = some it ∧ it.value.ty ≠ .set ∧ it.value.ty ≠ .zset := by
  induction ks with
  | nil => simp [srcAll]
  | cons k ks ih =>
    have hsplit : ∀ P : Bytes → Prop, (∃ k', k' ∈ k :: ks ∧ P k') ↔ P k ∨ ∃ k', k' ∈ ks ∧ P k' := by
      intro P; simp
    rw [hsplit, ← ih, srcAll_cons]
    cases hk : db.live k with
    | none =>
      simp only [srcOf]
      cases srcAll db ks <;> simp
    | some it =>
      simp only [srcOf]
      cases hz : zsetOfValue it.value with
      | error e =>
        have := zsetOfValue_error hz
        simp only []
        constructor
        · intro _; exact Or.inl ⟨it, rfl, this.2⟩
        · intro _; exact ⟨e, rfl⟩
      | ok z =>
        have hty := (zsetOfValue_ok_iff it.value).mp ⟨z, hz⟩
        have hno : ¬ ∃ it', some it = some it' ∧ it'.value.ty ≠ .set ∧ it'.value.ty ≠ .zset := by
          rintro ⟨it', e, h1, h2⟩
          cases e
          rcases hty with h | h
          · exact h1 h
          · exact h2 h
        simp only []
        cases srcAll db ks with
        | error e => simp
        | ok zs => simp only [reduceCtorEq, exists_false, false_iff, not_or]; exact ⟨hno, fun h => h⟩

theorem srcAll_error_msg {db : Db} {ks : List Bytes} {e : Err} (h : srcAll db ks = .error e) :
    e = Msgs.WRONGTYPE_MSG := by
  induction ks with
  | nil => simp [srcAll] at h
  | cons k ks ih =>
    rcases srcAll_cons_error h with he | he
    · cases hk : db.live k with
      | none => rw [hk] at he; cases he
      | some it => rw [hk] at he; exact (zsetOfValue_error he).1
    · exact ih he

theorem setZ_get (s : List Bytes) (z : ZSet) (hz : ∀ m v, z.get m = some v → v = Dbl.one) (m : Bytes) :
    (s.foldl (fun z m => (z.add m Dbl.one).1) z).get m = if m ∈ s then some Dbl.one else z.get m := by
  induction s generalizing z with
  | nil => simp
  | cons x s ih =>
    have hstep : ∀ m', (z.add x Dbl.one).1.get m' = if m' = x then some Dbl.one else z.get m' := by
      intro m'
      rw [ZSet.get_add]
      by_cases e : m' = x
      · rw [if_pos e, if_pos e]
        cases hg : z.get x with
        | none => rfl
        | some old =>
          have := hz x old hg
          subst this
          simp only
          split <;> rfl
      · rw [if_neg e, if_neg e]
    rw [List.foldl_cons, ih]
    · rw [hstep]
      by_cases e : m = x
      · subst e; simp
      · simp only [List.mem_cons, e, false_or, if_false]
    · intro m' v hv
      rw [hstep] at hv
      split at hv
      · exact (Option.some.inj hv).symm
      · exact hz m' v hv

theorem zsetOfValue_set_get (s : List Bytes) (z : ZSet) (h : zsetOfValue (.set s) = .ok z) (m : Bytes) :
    z.get m = if m ∈ s then some Dbl.one else none := by
  simp only [zsetOfValue, Except.ok.injEq] at h
  subst h
  rw [setZ_get s ZSet.empty (fun m v h => by simp [ZSet.get, ZSet.empty] at h)]
  rfl

theorem setZ_inv (s : List Bytes) (z0 : ZSet) (h0 : z0.Inv) :
    (s.foldl (fun z m => (z.add m Dbl.one).1) z0).Inv :=
  Cmd.foldl_keeps ZSet.Inv _ s (fun _ hz _ _ => ZSet.add_inv hz (by decide)) z0 h0

theorem zsetOfValue_inv {v : Value} {z : ZSet} (hv : ∀ z', v = .zset z' → z'.Inv) (h : zsetOfValue v = .ok z) :
    z.Inv := by
  cases v with
  | set s =>
    simp only [zsetOfValue, Except.ok.injEq] at h
    subst h
    exact setZ_inv s _ ZSet.empty_inv
  | zset z' =>
    simp only [zsetOfValue, Except.ok.injEq] at h
    subst h; exact hv _ rfl
  | str _ => simp [zsetOfValue] at h
  | list _ => simp [zsetOfValue] at h
  | hash _ => simp [zsetOfValue] at h

def DbZInv (db : Db) : Prop := ∀ q ∈ db.dict, ∀ z, q.2.value = .zset z → z.Inv

theorem srcAll_inv {db : Db} (hz : DbZInv db) {ks : List Bytes} {zs : List ZSet} (h : srcAll db ks = .ok zs) :
    ∀ z ∈ zs, z.Inv := by
  induction ks generalizing zs with
  | nil => simp [srcAll] at h; subst h; intro z hz'; simp at hz'
  | cons k ks ih =>
    obtain ⟨z0, zs', hz0, hzs, rfl⟩ := srcAll_cons_ok h
    intro z hzm
    rcases List.mem_cons.mp hzm with rfl | hzm
    · cases hk : db.live k with
      | none => rw [hk] at hz0; cases hz0; exact ZSet.empty_inv
      | some it =>
        rw [hk] at hz0
        exact zsetOfValue_inv (fun z' e => hz (k, it) (live_some_mem hk) z' e) hz0
    · exact ih hzs z hzm


/-! ## 9. The options -/

theorem parseOpts_succ_cons (nk fuel : Nat) (x : Bytes) (rest' : List Bytes) (w : List Dbl) (a : Bytes) :
    parseOpts nk (fuel + 1) (x :: rest') w a =
      (if casematch x "weights" && decide (rest'.length ≥ nk) then
        match (rest'.take nk).mapM Conv.float with
        | .ok w' => parseOpts nk fuel (rest'.drop nk) w' a
        | .error e => .error e
      else if casematch x "aggregate" && decide (rest'.length ≥ 1) then
        match rest' with
        | v :: rest'' =>
          if badAgg (casenorm v) then .error Msgs.SYNTAX_ERROR_MSG else parseOpts nk fuel rest'' w (casenorm v)
        | [] => .error Msgs.SYNTAX_ERROR_MSG
      else .error Msgs.SYNTAX_ERROR_MSG) := rfl

theorem mapM_float_length {l : List Bytes} {w : List Dbl} (h : l.mapM Conv.float = .ok w) : w.length = l.length := by
  induction l generalizing w with
  | nil => simp [pure, Except.pure] at h; subst h; rfl
  | cons x l ih =>
    rw [List.mapM_cons] at h
    cases hx : Conv.float x with
    | error e => rw [hx] at h; cases h
    | ok v =>
      cases hl : l.mapM Conv.float with
      | error e => rw [hx, hl] at h; cases h
      | ok vs =>
        rw [hx, hl] at h
        cases h
        simp [ih hl]

theorem mapM_float_error {l : List Bytes} {e : Err} (h : l.mapM Conv.float = .error e) :
    e = Msgs.INVALID_FLOAT_MSG := by
  induction l with
  | nil => simp [pure, Except.pure] at h
  | cons x l ih =>
    rw [List.mapM_cons] at h
    cases hx : Conv.float x with
    | error e' => rw [hx] at h; cases h; exact Cmd.Conv.floatGen_error hx
    | ok v =>
      cases hl : l.mapM Conv.float with
      | error e' => rw [hx, hl] at h; cases h; exact ih hl
      | ok vs => rw [hx, hl] at h; cases h

/-- one turn of the option loop on a non-empty rest, whatever the fuel: an error, or the loop goes on with a shorter
rest; weights keep their number and the aggregate stays one of the three -/
theorem parseOpts_step (nk : Nat) (x : Bytes) (rest' : List Bytes) (w : List Dbl) (a : Bytes) :
    (∃ e, (e = Msgs.SYNTAX_ERROR_MSG ∨ e = Msgs.INVALID_FLOAT_MSG) ∧
      ∀ fuel, parseOpts nk (fuel + 1) (x :: rest') w a = .error e) ∨
    (∃ rest2 w2 a2, rest2.length ≤ rest'.length ∧ (w.length = nk → w2.length = nk) ∧
      (badAgg a = false → badAgg a2 = false) ∧
      ∀ fuel, parseOpts nk (fuel + 1) (x :: rest') w a = parseOpts nk fuel rest2 w2 a2) := by
  simp only [parseOpts_succ_cons]
  split
  · rename_i hc
    have hlen : rest'.length ≥ nk := by simp at hc; exact hc.2
    cases hm : (rest'.take nk).mapM Conv.float with
    | ok w2 =>
      exact Or.inr ⟨_, w2, a, by rw [List.length_drop]; omega,
        fun _ => by rw [mapM_float_length hm, List.length_take]; omega, id, fun _ => rfl⟩
    | error e => exact Or.inl ⟨e, Or.inr (mapM_float_error hm), fun _ => rfl⟩
  · split
    · cases rest' with
      | nil => exact Or.inl ⟨_, Or.inl rfl, fun _ => rfl⟩
      | cons v rest'' =>
        cases hb : badAgg (casenorm v) with
        | true => exact Or.inl ⟨_, Or.inl rfl, fun _ => by simp only [hb, if_true]⟩
        | false =>
          exact Or.inr ⟨rest'', w, casenorm v, Nat.le_succ _, id, fun _ => hb,
            fun _ => by simp only [hb, Bool.false_eq_true, if_false]⟩
    · exact Or.inl ⟨_, Or.inl rfl, fun _ => rfl⟩

theorem parseOpts_ok (nk fuel : Nat) (opts : List Bytes) (w : List Dbl) (a : Bytes) {w' : List Dbl} {a' : Bytes}
    (hw : w.length = nk) (ha : badAgg a = false) (h : parseOpts nk fuel opts w a = .ok (w', a')) :
    w'.length = nk ∧ badAgg a' = false := by
  induction fuel generalizing opts w a with
  | zero => simp only [parseOpts] at h; cases h; exact ⟨hw, ha⟩
  | succ fuel ih =>
    cases opts with
    | nil => simp only [parseOpts] at h; cases h; exact ⟨hw, ha⟩
    | cons x rest' =>
      rcases parseOpts_step nk x rest' w a with ⟨e, _, he⟩ | ⟨rest2, w2, a2, _, hw2, ha2, hs⟩
      · rw [he] at h; cases h
      · rw [hs] at h
        exact ih _ _ _ (hw2 hw) (ha2 ha) h

theorem parseOpts_error (nk fuel : Nat) (opts : List Bytes) (w : List Dbl) (a : Bytes) {e : Err}
    (h : parseOpts nk fuel opts w a = .error e) : e = Msgs.SYNTAX_ERROR_MSG ∨ e = Msgs.INVALID_FLOAT_MSG := by
  induction fuel generalizing opts w a with
  | zero => simp only [parseOpts] at h; cases h
  | succ fuel ih =>
    cases opts with
    | nil => simp only [parseOpts] at h; cases h
    | cons x rest' =>
      rcases parseOpts_step nk x rest' w a with ⟨e', hmsg, he⟩ | ⟨rest2, w2, a2, _, _, _, hs⟩
      · rw [he] at h; cases h; exact hmsg
      · rw [hs] at h
        exact ih _ _ _ h

/-- the fuel of the model's `while` loop never runs out -/
theorem parseOpts_fuel (nk f1 f2 : Nat) (opts : List Bytes) (w : List Dbl) (a : Bytes)
    (h1 : opts.length < f1) (h2 : opts.length < f2) : parseOpts nk f1 opts w a = parseOpts nk f2 opts w a := by
  induction f1 generalizing f2 opts w a with
  | zero => omega
  | succ f1 ih =>
    cases f2 with
    | zero => omega
    | succ f2 =>
      cases opts with
      | nil => simp [parseOpts]
      | cons x rest' =>
        simp only [List.length_cons] at h1 h2
        rcases parseOpts_step nk x rest' w a with ⟨e, _, he⟩ | ⟨rest2, w2, a2, hlen, _, _, hs⟩
        · rw [he, he]
        · rw [hs, hs]
          exact ih _ _ _ _ (by omega) (by omega)

theorem badAgg_false_iff (a : Bytes) :
    badAgg a = false ↔ a = strBytes "sum" ∨ a = strBytes "min" ∨ a = strBytes "max" := by
  unfold badAgg
  simp only [Bool.and_eq_false_iff, bne_eq_false_iff_eq, or_assoc]


/-! ## 10. The command: signature, dispatch, write-back -/

/-- the signature of both commands: `(Key(), Int, bytes), (bytes,)` -/
def zsig (name : String) : Sig := ⟨name, [.key none .unspecified, .int, .bytes], [.bytes], false, 2, 0, true⟩

/-- the `CommandItem` of the destination: its live entry, of any type -/
def destCI (db : Db) (dst : Bytes) : CI :=
  match (db.get dst).2 with
  | some it => ⟨dst, some it.value, it.expireat, false, false⟩
  | none => ⟨dst, none, none, false, false⟩

theorem zsig_arity (name : String) (n : Nat) : HashSet.ArityOK (zsig name) (n + 3) :=
  ⟨by simp [Sig.checkArity, zsig], fun _ => Nat.mod_one _⟩

theorem destCI_eq_ciOf (db : Db) (nd : NodupKeys db.dict) (dst : Bytes) :
    destCI db dst = HashSet.ciOf db.live none dst := by
  unfold destCI HashSet.ciOf
  rw [get_snd_live nd dst]
  cases db.live dst <;> rfl

/-- `Signature.apply` for ZUNIONSTORE / ZINTERSTORE: the database only loses expired entries; the value is the closed
form for a signature whose first argument is its only key (`applyL_keyFirst`, `decodeAll_t2`) -/
theorem zsig_apply (name : String) (dst nkb b0 : Bytes) (bs : List Bytes) {db : Db} (nd : NodupKeys db.dict) :
    Reads db ((zsig name).apply (dst :: nkb :: b0 :: bs) db).1 ∧
    ((zsig name).apply (dst :: nkb :: b0 :: bs) db).2 =
      match Conv.int nkb with
      | .error e => .error e
      | .ok n => .ok (.ok (.key 0 :: .int n :: .raw b0 :: bs.map Arg.raw) [destCI db dst]) := by
  refine ⟨Sig.apply_reads _ _ nd, ?_⟩
  rw [Ttl.apply_eq _ _ nd, destCI_eq_ciOf db nd,
    HashSet.applyL_keyFirst (ftl := [.int, .bytes])
      ⟨rfl, by decide, fun t ht => by rw [List.mem_singleton.1 ht]; rfl⟩ dst (nkb :: b0 :: bs) _ (zsig_arity name _),
    HashSet.decodeAll_t2 (s := zsig name) rfl (fun t ht => List.mem_singleton.1 ht) nkb b0 bs (zsig_arity name _)]
  simp only [Conv.decode]
  cases Conv.int nkb with
  | error e => rfl
  | ok n => rfl

theorem special_zstore (inner : Inner) (mode : Mode) (c : Nat) (name : String)
    (h : name = "zunionstore" ∨ name = "zinterstore") (args : List Arg) (cis : List CI) (s : Sys) :
    special inner mode c name args cis s =
      ((match (zunioninter (name == "zunionstore") (s.conn c).db args cis s).1 with
        | .ok (r, cis') => .ok (some r, cis')
        | .error e => .error e),
       (zunioninter (name == "zunionstore") (s.conn c).db args cis s).2) := by
  have key : special inner mode c name args cis =
      (do
        let conn ← getConn c
        match ← zunioninter (name == "zunionstore") conn.db args cis with
        | .ok (r, cis') => return .ok (some r, cis')
        | .error e => return .error e) := by
    rcases h with rfl | rfl
    · unfold special
      rfl
    · unfold special
      rfl
  rw [key]
  simp only [bind, StateT.bind, getConn_run]
  generalize zunioninter (name == "zunionstore") (s.conn c).db args cis s = r
  obtain ⟨x, s'⟩ := r
  cases x with
  | error e => rfl
  | ok p => rfl


/-! ## 11. End to end -/

/-- the outcome of the body after `numkeys` has been decoded: an error message or the stored sorted set -/
def specN (union : Bool) (db : Db) (n : Int) (rest : List Bytes) : Except Err ZSet :=
  if n < 1 then .error Msgs.ZUNIONSTORE_KEYS_MSG
  else if n > rest.length then .error Msgs.SYNTAX_ERROR_MSG
  else
    match srcAll db (rest.take n.toNat) with
    | .error e => .error e
    | .ok sets =>
      match parseOpts n.toNat ((rest.drop n.toNat).length + 1) (rest.drop n.toNat)
          (List.replicate n.toNat Dbl.one) (strBytes "sum") with
      | .error e => .error e
      | .ok (w, agg) => .ok (result union agg sets w)

/-- the outcome of the whole command on the live view `db` -/
def spec (union : Bool) (db : Db) (nkb : Bytes) (rest : List Bytes) : Except Err ZSet :=
  match Conv.int nkb with
  | .error e => .error e
  | .ok n => specN union db n rest

theorem specN_congr (union : Bool) {a b : Db} (h : ∀ k, a.live k = b.live k) (n : Int) (rest : List Bytes) :
    specN union a n rest = specN union b n rest := by
  unfold specN; rw [srcAll_congr h]

/-- `core` in one equation: the outcome is `specN` on the database before, as the reply and the item to write back; the
state only loses expired entries -/
theorem core_spec (union : Bool) (d dk : Nat) (n : Int) (raw : List Bytes) (cis : List CI) (s : Sys)
    (nd : NodupKeys (s.dbAt d).dict) :
    ∃ s', s.LazyStep d s' ∧
      core union d dk n raw cis s = ((match specN union (s.dbAt d) n raw with
        | .error e => .error e
        | .ok Z => .ok (.int Z.len, cis.set dk ((ciAt cis dk).setValue (some (.zset Z))))), s') := by
  unfold core specN
  by_cases c1 : n < 1
  · rw [if_pos c1, if_pos c1]
    exact ⟨s, Sys.LazyStep.refl nd, rfl⟩
  rw [if_neg c1, if_neg c1]
  by_cases c2 : n > (raw.length : Int)
  · rw [if_pos c2, if_pos c2]
    exact ⟨s, Sys.LazyStep.refl nd, rfl⟩
  rw [if_neg c2, if_neg c2]
  obtain ⟨h1, h2⟩ := readSrc_spec (raw.take n.toNat) (s.dbAt d) nd []
  refine ⟨_, ⟨_, rfl, h1⟩, ?_⟩
  simp only [h2]
  cases srcAll (s.dbAt d) (raw.take n.toNat) with
  | error e => rfl
  | ok sets =>
    simp only [List.nil_append]
    cases parseOpts n.toNat ((raw.drop n.toNat).length + 1) (raw.drop n.toNat)
      (List.replicate n.toNat Dbl.one) (strBytes "sum") with
    | error e => rfl
    | ok wa => rfl

theorem specN_error_msg {union : Bool} {db : Db} {n : Int} {rest : List Bytes} {e : Err}
    (h : specN union db n rest = .error e) :
    e = Msgs.ZUNIONSTORE_KEYS_MSG ∨ e = Msgs.SYNTAX_ERROR_MSG ∨ e = Msgs.WRONGTYPE_MSG ∨
      e = Msgs.INVALID_FLOAT_MSG := by
  unfold specN at h
  split at h
  · cases h; exact Or.inl rfl
  · split at h
    · cases h; exact Or.inr (Or.inl rfl)
    · split at h
      · rename_i e' he; cases h; exact Or.inr (Or.inr (Or.inl (srcAll_error_msg he)))
      · split at h
        · rename_i e' he
          cases h
          rcases parseOpts_error _ _ _ _ _ he with h | h
          · exact Or.inr (Or.inl h)
          · exact Or.inr (Or.inr (Or.inr h))
        · cases h

theorem specN_error_not_model {union : Bool} {db : Db} {n : Int} {rest : List Bytes} {e : Err}
    (h : specN union db n rest = .error e) : e.startsWith "model:" = false := by
  rcases specN_error_msg h with rfl | rfl | rfl | rfl <;> decide +kernel

/-- the body on decoded arguments, in any state: the outcome is `specN` on the selected database, as the reply and
the destination item to write back; the state only loses expired entries of that database -/
theorem special_spec (inner : Inner) (mode : Mode) (c : Nat) (name : String)
    (h : name = "zunionstore" ∨ name = "zinterstore") (n : Int) (raw : List Bytes) (cis : List CI) (s : Sys)
    (hd : (s.conn c).db < s.srv.dbs.length) (nd : NodupKeys (s.dbAt (s.conn c).db).dict) :
    ∃ s', s.LazyStep (s.conn c).db s' ∧
      special inner mode c name (.key 0 :: .int n :: raw.map Arg.raw) cis s =
        ((match specN (name == "zunionstore") (s.dbAt (s.conn c).db) n raw with
          | .error e => .error e
          | .ok Z => .ok (some (.int Z.len), cis.set 0 ((ciAt cis 0).setValue (some (.zset Z))))), s') := by
  obtain ⟨s', L, hv⟩ := core_spec (name == "zunionstore") (s.conn c).db 0 n raw cis s nd
  rw [special_zstore inner mode c name h, zunioninter_eq _ _ _ _ _ _ _ hd, rawArgs_map_raw, hv]
  refine ⟨s', L, ?_⟩
  cases specN (name == "zunionstore") (s.dbAt (s.conn c).db) n raw with
  | error e => rfl
  | ok Z => rfl

theorem writebackAll_clean (d : Nat) (ci : CI) (h : ci.Clean) (s : Sys) : writebackAll d [ci] s = ((), s) := by
  rw [writebackAll_single]
  unfold Sys.wbStep
  rw [CI.writeback_unmodified h.1 h.2]
  simp only [h.1, Bool.false_eq_true, if_false, Sys.setDbS_self]

theorem after_error (d : Nat) (ci : CI) (hci : ci.Clean) (e : Err) (he : e.startsWith "model:" = false)
    (x : M SpecialOut) (s s2 : Sys) (hx : x s = (.error e, s2)) :
    afterSpecial d [ci] x s = (some (.err (strBytes e)), s2) := by
  unfold afterSpecial
  simp only [bind, StateT.bind, hx, he, Bool.false_eq_true, if_false, writebackAll_clean d ci hci]
  rfl

theorem after_ok (d : Nat) (cis : List CI) (r : Reply) (ci' : CI) (x : M SpecialOut) (s s2 : Sys)
    (hx : x s = (.ok (some r, [ci']), s2)) :
    afterSpecial d cis x s = (some r, s2.wbStep d ci') := by
  unfold afterSpecial
  simp only [bind, StateT.bind, hx, writebackAll_single]
  rfl

theorem regular_none (name : String) (h : name = "zunionstore" ∨ name = "zinterstore") :
    Cmd.regular name = none := by
  rcases h with rfl | rfl <;> rfl


theorem destCI_key (db : Db) (dst : Bytes) : (destCI db dst).key = dst := by
  unfold destCI; split <;> rfl

theorem destCI_clean (db : Db) (dst : Bytes) : (destCI db dst).Clean := by
  unfold destCI; split <;> exact ⟨rfl, rfl⟩

theorem destCI_val (db : Db) (nd : NodupKeys db.dict) (dst : Bytes) :
    (destCI db dst).val = (db.live dst).map (·.value) ∧
      (destCI db dst).expireat = (db.live dst).bind (·.expireat) := by
  unfold destCI
  rw [get_snd_live nd dst]
  cases db.live dst <;> exact ⟨rfl, rfl⟩

/-- `runWith_special_run` in terms of `Sys.dbAt` / `Sys.setDbS` -/
theorem runWith_special_run' (special) (mode : Mode) (c : Nat) (sig : Sig) (raw : List Bytes) (fs : Bool) (s : Sys)
    (h : Cmd.regular sig.name = none) (hr : s.refuses c sig = false) :
    runWith special mode c sig raw fs s =
      (match (sig.apply raw (s.dbAt (s.conn c).db)).2 with
       | .error e => (some (.err (strBytes e)), s.setDbS (s.conn c).db (sig.apply raw (s.dbAt (s.conn c).db)).1)
       | .ok (.short r) => (some r, s.setDbS (s.conn c).db (sig.apply raw (s.dbAt (s.conn c).db)).1)
       | .ok (.ok args cis) =>
         match runGate sig fs ((s.conn c).pubsub > 0) with
         | some e => (some (.err (strBytes e)), s.setDbS (s.conn c).db (sig.apply raw (s.dbAt (s.conn c).db)).1)
         | none => afterSpecial (s.conn c).db cis (special mode c sig.name args cis)
             (s.setDbS (s.conn c).db (sig.apply raw (s.dbAt (s.conn c).db)).1)) :=
  runWith_special_run special mode c sig raw fs s h hr

theorem _root_.FR.Sig.apply_badArity (sig : Sig) (raw : List Bytes) (db : Db) (h : sig.checkArity raw.length = false) :
    sig.apply raw db = (db, .error sig.wrongArgs) := by
  unfold Sig.apply
  simp only [h, Bool.not_false, if_true]

/-- a special command with a wrong number of arguments: the arity error, or the subscriber-mode refusal, which comes
first; the state is unchanged -/
theorem runWith_special_badArity (special) (mode : Mode) (c : Nat) (sig : Sig) (raw : List Bytes) (fs : Bool) (s : Sys)
    (hreg : Cmd.regular sig.name = none) (h : sig.checkArity raw.length = false) :
    runWith special mode c sig raw fs s =
      (some (if s.refuses c sig then refusalReply else .err (strBytes sig.wrongArgs)), s) := by
  cases hr : s.refuses c sig with
  | true => exact runWith_refused _ mode c sig raw fs hr
  | false =>
    rw [runWith_special_run' _ _ _ _ _ _ _ hreg hr, Sig.apply_badArity sig raw _ h]
    simp only [Sys.setDbS_self, Bool.false_eq_true, if_false]

/-- a command that scripts may call, against a closed gate (that is, in subscriber mode): the reply is the refusal and
the state is literally unchanged, whatever the arguments are — no key is looked up -/
theorem runWith_gate_closed (special) (mode : Mode) (c : Nat) (sig : Sig) (raw : List Bytes) (fs : Bool) (s : Sys)
    (e : Err) (hns : (fs && sig.noScript) = false) (hg : runGate sig fs ((s.conn c).pubsub > 0) = some e) :
    runWith special mode c sig raw fs s = (some (.err (strBytes e)), s) := by
  obtain ⟨hr, rfl⟩ := Sys.refuses_of_gate_some hns hg
  exact runWith_refused _ mode c sig raw fs hr

/-- the complete run of the command through `runWith`: signature, gate, body, write-back -/
theorem run_zstore (inner : Inner) (mode : Mode) (c : Nat) (name : String)
    (h : name = "zunionstore" ∨ name = "zinterstore") (dst nkb b0 : Bytes) (bs : List Bytes) (fs : Bool) (s : Sys)
    (hd : (s.conn c).db < s.srv.dbs.length) (nd : NodupKeys (s.dbAt (s.conn c).db).dict)
    (hg : runGate (zsig name) fs ((s.conn c).pubsub > 0) = none) :
    ∃ db', Reads (s.dbAt (s.conn c).db) db' ∧
      (match spec (name == "zunionstore") (s.dbAt (s.conn c).db) nkb (b0 :: bs) with
       | .error e =>
         runWith (special inner) mode c (zsig name) (dst :: nkb :: b0 :: bs) fs s =
           (some (.err (strBytes e)), s.setDbS (s.conn c).db db')
       | .ok Z =>
         runWith (special inner) mode c (zsig name) (dst :: nkb :: b0 :: bs) fs s =
           (some (.int Z.len), (s.setDbS (s.conn c).db db').wbStep (s.conn c).db
             ((destCI (s.dbAt (s.conn c).db) dst).setValue (some (.zset Z))))) := by
  obtain ⟨hr0, hval⟩ := zsig_apply name dst nkb b0 bs nd
  rw [runWith_special_run' _ _ _ _ _ _ _ (regular_none name h) (Sys.refuses_of_gate_none hg), hval]
  unfold spec
  cases hn : Conv.int nkb with
  | error e => exact ⟨_, hr0, rfl⟩
  | ok n =>
    simp only [hg]
    -- the body runs in `s1`, the state after the look-ups of `Signature.apply`
    have L : s.LazyStep (s.conn c).db _ := ⟨_, rfl, hr0⟩
    have hc1 : (s.setDbS (s.conn c).db ((zsig name).apply (dst :: nkb :: b0 :: bs) (s.dbAt (s.conn c).db)).1).conn c =
        s.conn c := rfl
    generalize s.setDbS (s.conn c).db ((zsig name).apply (dst :: nkb :: b0 :: bs) (s.dbAt (s.conn c).db)).1 = s1
      at L hc1
    obtain ⟨s2, L1, hv⟩ := special_spec inner mode c name h n (b0 :: bs) [destCI (s.dbAt (s.conn c).db) dst] s1
      (by rw [hc1, L.len]; exact hd) (by rw [hc1]; exact (L.dbAt hd).nd)
    rw [hc1] at L1 hv
    rw [specN_congr _ (L.live hd) n (b0 :: bs)] at hv
    obtain ⟨db', rfl, hr'⟩ := L.trans hd L1
    refine ⟨db', hr', ?_⟩
    cases hsN : specN (name == "zunionstore") (s.dbAt (s.conn c).db) n (b0 :: bs) with
    | error e =>
      rw [hsN] at hv
      exact after_error _ _ (destCI_clean _ _) e (specN_error_not_model hsN) _ _ _ hv
    | ok Z =>
      rw [hsN] at hv
      exact after_ok _ _ _ _ _ _ _ hv


theorem Reads.live {a b : Db} (h : Reads a b) (k : Bytes) : b.live k = a.live k :=
  live_eq_of_purge h.eq k

/-- `dbf` is `db` with `key` overwritten by `v`: deadline cleared, deleted if `v` is an empty collection; every other
live entry kept.  This is what the write-back of a stored result (ZUNIONSTORE, ZINTERSTORE, SORT … STORE) does. -/
structure Overwrites (db : Db) (key : Bytes) (v : Value) (dbf : Db) : Prop where
  self : dbf.live key = if v.isEmptyColl then none else some ⟨v, none⟩
  other : ∀ k, k ≠ key → dbf.live k = db.live k
  nd : NodupKeys dbf.dict
  time : dbf.time = db.time
  sub : ∀ q ∈ dbf.dict, q ∈ db.dict ∨ q = (key, ⟨v, none⟩)

/-- lazy deletions before the write do not show -/
theorem Overwrites.of_reads {a b c : Db} {key : Bytes} {v : Value} (hr : Reads a b) (h : Overwrites b key v c) :
    Overwrites a key v c :=
  ⟨h.self, fun k hk => (h.other k hk).trans (Reads.live hr k), h.nd, h.time.trans (Reads.time hr),
    fun q hq => (h.sub q hq).imp_left (hr.sub q)⟩

theorem writeback_setValue {db : Db} (nd : NodupKeys db.dict) (ci : CI) (v : Value) :
    Overwrites db ci.key v ((ci.setValue (some v)).writeback db).1 := by
  have e : (ci.setValue (some v)).writeback db =
      if v.isEmptyColl then (db.pop ci.key, true) else (db.put ci.key v none, true) := by
    unfold CI.writeback
    simp only [CI.setValue, if_true]
  refine ⟨?_, fun k hk => CI.writeback_live_ne _ nd hk, CI.writeback_nodup _ nd, CI.writeback_time _ _, ?_⟩
  · rw [e]
    split
    · exact Db.live_pop_self _ _
    · exact live_put_self nd _ _ _ rfl
  · rw [e]
    intro q hq
    split at hq
    · rw [Db.pop_eq] at hq
      exact Or.inl (Db.mem_erase hq)
    · exact (Db.mem_setRaw hq).imp_left Db.get_dict_sub

/-- the runner's write-back step for a stored value, after a body that only read: `db'` is a lazily purged copy of
`db0`, and `notify_watch(key)` runs -/
theorem wbStep_setValue (s0 : Sys) (d : Nat) (hd : d < s0.srv.dbs.length) {db0 db' : Db} (hr : Reads db0 db')
    (ht : db0.time = s0.srv.time) (ci : CI) (v : Value) :
    ∃ dbf, (s0.setDbS d db').wbStep d (ci.setValue (some v)) = (s0.setDbS d dbf).mapConns (notifyFn d ci.key) ∧
      Overwrites db0 ci.key v dbf := by
  have hdb : (s0.setDbS d db').dbAt d = db' := Sys.setDbS_dbAt_self s0 _ _ hd ((Reads.time hr).trans ht)
  refine ⟨_, ?_, (writeback_setValue hr.nd ci v).of_reads hr⟩
  unfold Sys.wbStep
  rw [hdb, Sys.setDbS_setDbS]
  rfl

theorem notifyFn_watch (d : Nat) (key : Bytes) (x : Conn) (h : x.watches.contains (d, key) = true) :
    (notifyFn d key x).watchNotified = true := by
  rw [notifyFn_fields]
  simp only [h, Bool.or_true]

theorem notifyFn_watches (d : Nat) (key : Bytes) (x : Conn) : (notifyFn d key x).watches = x.watches := by
  rw [notifyFn_fields]


theorem Reads.dbZInv {a b : Db} (h : Reads a b) (hz : DbZInv a) : DbZInv b :=
  fun q hq z e => hz q (h.sub q hq) z e

theorem run_ok (inner : Inner) (mode : Mode) (c : Nat) (name : String)
    (h : name = "zunionstore" ∨ name = "zinterstore") (dst nkb b0 : Bytes) (bs : List Bytes) (fs : Bool) (s : Sys)
    (hd : (s.conn c).db < s.srv.dbs.length) (nd : NodupKeys (s.dbAt (s.conn c).db).dict)
    (hg : runGate (zsig name) fs ((s.conn c).pubsub > 0) = none) (Z : ZSet)
    (hs : spec (name == "zunionstore") (s.dbAt (s.conn c).db) nkb (b0 :: bs) = .ok Z) :
    ∃ dbf,
      runWith (special inner) mode c (zsig name) (dst :: nkb :: b0 :: bs) fs s =
        (some (.int Z.len), (s.setDbS (s.conn c).db dbf).mapConns (notifyFn (s.conn c).db dst)) ∧
      dbf.live dst = (if Z.len = 0 then none else some ⟨.zset Z, none⟩) ∧
      (∀ k, k ≠ dst → dbf.live k = (s.dbAt (s.conn c).db).live k) ∧
      NodupKeys dbf.dict ∧ dbf.time = (s.dbAt (s.conn c).db).time ∧
      (∀ q ∈ dbf.dict, q ∈ (s.dbAt (s.conn c).db).dict ∨ q = (dst, ⟨.zset Z, none⟩)) := by
  obtain ⟨db', hr, hm⟩ := run_zstore inner mode c name h dst nkb b0 bs fs s hd nd hg
  rw [hs] at hm
  obtain ⟨dbf, h1, o⟩ := wbStep_setValue s _ hd hr rfl (destCI (s.dbAt (s.conn c).db) dst) (.zset Z)
  rw [destCI_key] at h1 o
  refine ⟨dbf, hm.trans (congrArg _ h1), o.self.trans ?_, o.other, o.nd, o.time, o.sub⟩
  show (if Z.bylex.isEmpty = true then _ else _) = if Z.bylex.length = 0 then _ else _
  cases Z.bylex <;> rfl

theorem run_error (inner : Inner) (mode : Mode) (c : Nat) (name : String)
    (h : name = "zunionstore" ∨ name = "zinterstore") (dst nkb b0 : Bytes) (bs : List Bytes) (fs : Bool) (s : Sys)
    (hd : (s.conn c).db < s.srv.dbs.length) (nd : NodupKeys (s.dbAt (s.conn c).db).dict)
    (hg : runGate (zsig name) fs ((s.conn c).pubsub > 0) = none) (e : Err)
    (hs : spec (name == "zunionstore") (s.dbAt (s.conn c).db) nkb (b0 :: bs) = .error e) :
    ∃ db', Reads (s.dbAt (s.conn c).db) db' ∧
      runWith (special inner) mode c (zsig name) (dst :: nkb :: b0 :: bs) fs s =
        (some (.err (strBytes e)), s.setDbS (s.conn c).db db') := by
  obtain ⟨db', hr, hm⟩ := run_zstore inner mode c name h dst nkb b0 bs fs s hd nd hg
  rw [hs] at hm
  exact ⟨db', hr, hm⟩


theorem spec_ok {union : Bool} {db : Db} {nkb : Bytes} {rest : List Bytes} {Z : ZSet}
    (h : spec union db nkb rest = .ok Z) :
    ∃ (n : Int) (sets : List ZSet) (w : List Dbl) (agg : Bytes),
      Conv.int nkb = .ok n ∧ 1 ≤ n ∧ n ≤ rest.length ∧
      srcAll db (rest.take n.toNat) = .ok sets ∧
      parseOpts n.toNat ((rest.drop n.toNat).length + 1) (rest.drop n.toNat)
        (List.replicate n.toNat Dbl.one) (strBytes "sum") = .ok (w, agg) ∧
      Z = result union agg sets w ∧
      sets.length = n.toNat ∧ w.length = n.toNat ∧ sets ≠ [] ∧
      (agg = strBytes "sum" ∨ agg = strBytes "min" ∨ agg = strBytes "max") := by
  unfold spec at h
  cases hn : Conv.int nkb with
  | error e => rw [hn] at h; cases h
  | ok n =>
    rw [hn] at h
    simp only [specN] at h
    split at h
    · cases h
    · rename_i c1
      split at h
      · cases h
      · rename_i c2
        split at h
        · cases h
        · rename_i sets hsets
          split at h
          · cases h
          · rename_i w agg hp
            cases h
            have hlen : sets.length = n.toNat := by
              rw [srcAll_length hsets, List.length_take]; omega
            have hpo := parseOpts_ok _ _ _ _ _ (by simp) ((badAgg_false_iff _).mpr (Or.inl rfl)) hp
            refine ⟨n, sets, w, agg, rfl, by omega, by omega, hsets, hp, rfl, hlen, hpo.1, ?_,
              (badAgg_false_iff agg).mp hpo.2⟩
            intro e
            rw [e] at hlen
            simp at hlen
            omega

theorem spec_ok_inv {union : Bool} {db : Db} {nkb : Bytes} {rest : List Bytes} {Z : ZSet}
    (h : spec union db nkb rest = .ok Z) : Z.Inv := by
  obtain ⟨n, sets, w, agg, _, _, _, _, _, rfl, _⟩ := spec_ok h
  exact result_inv _ _ _ _

end FR.ZStore

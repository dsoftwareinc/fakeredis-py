import FR.Proofs.C11r
/-!
# C11s2 — helper lemmas: the exact outcome of BRPOPLPUSH run by `_run_command`
-/
namespace FR.C11s2
open FR FR.M FR.C04k FR.C11c FR.C11r FR.ErrSys

theorem apply_brpl (src dst tb : Bytes) (db : Db) :
    sigBrpoplpush.apply [src, dst, tb] db =
      (db, match Conv.timeout tb with
           | .error e => .error e
           | .ok t => .ok (.ok [.raw src, .raw dst, .int t] [])) := by
  unfold Sig.apply
  simp only [sigBrpoplpush, Sig.checkArity, Sig.types, List.length_cons, List.length_nil, List.isEmpty_nil,
    Nat.sub_self, List.range_zero, List.map_nil, List.append_nil, List.zip_cons_cons, List.zip_nil_right,
    Sig.pass1, Conv.decode]
  cases Conv.timeout tb with
  | error e => rfl
  | ok t => rfl

theorem runCommand_brpl (mode : Mode) (c : Nat) (src dst tb : Bytes) (s : Sys) (hps : (s.conn c).pubsub = 0) :
    runCommand mode c sigBrpoplpush [src, dst, tb] false s =
      match Conv.timeout tb with
      | .error e => (some (.err (strBytes e)), s)
      | .ok t => afterSpecial (s.conn c).db [] (blockBody mode c "brpoplpush" [.raw src, .raw dst, .int t] []) s := by
  have hg : runGate sigBrpoplpush false (decide ((s.conn c).pubsub > 0)) = none := by
    unfold runGate
    simp [hps]
  rw [runCommand_not_script mode c sigBrpoplpush _ false (by decide),
    runWith_keyless _ mode c sigBrpoplpush _ false s rfl (Sys.refuses_of_unsubscribed _ hps) (apply_brpl src dst tb _)]
  cases Conv.timeout tb with
  | error e => rfl
  | ok t =>
    simp only [hg]
    exact congrArg (fun X => afterSpecial (s.conn c).db [] X s)
      (special_blocking' _ mode c (name := "brpoplpush") (by decide) _ [])

end FR.C11s2

import FR.Proofs.Dispatch
/-!
# The prologue of `_process_command`, in closed form

Before a known command is checked and run, `_process_command` cleans up the sockets closed meanwhile and reads the
clock (`Sys.prologue`).  `Sys.prologue_eq` says what that does to the state outside the connection records,
`Sys.prologue_conn_cases` what it does to a record; the per-field facts are read off these two.  `Sys.prologue_answered`
is the state of a request that is answered behind the prologue without being run (wrong arity, refused or queued inside
MULTI), field by field.
-/
namespace FR
open M

theorem foldl_forget_eq (l : List Nat) (s : Sys) :
    l.foldl Sys.forget s =
      { s with srv := { s.srv with subs := stripAll s.srv.subs l, psubs := stripAll s.srv.psubs l,
                                   conns := (l.foldl Sys.forget s).srv.conns } } := by
  have h : ∀ (l : List Nat) (s : Sys), ∃ subs psubs conns, l.foldl Sys.forget s =
      { s with srv := { s.srv with subs := subs, psubs := psubs, conns := conns } } := by
    intro l
    induction l with
    | nil => exact fun s => ⟨_, _, _, rfl⟩
    | cons a as ih =>
      intro s
      obtain ⟨x, y, z, h⟩ := ih (s.forget a)
      exact ⟨x, y, z, by rw [List.foldl_cons, h]; rfl⟩
  obtain ⟨x, y, z, h⟩ := h l s
  have hs := foldl_forget_subs l s
  have hp := foldl_forget_psubs l s
  rw [h] at hs hp ⊢
  rw [show x = _ from hs, show y = _ from hp]

theorem cleanupClosed_eq (s : Sys) :
    (cleanupClosed s).2 =
      { s with srv := { s.srv with subs := stripAll s.srv.subs s.srv.closedSockets,
                                   psubs := stripAll s.srv.psubs s.srv.closedSockets,
                                   conns := (cleanupClosed s).2.srv.conns, closedSockets := [] } } := by
  have h : (cleanupClosed s).2 = _ := congrArg Prod.snd (cleanupClosed_run s)
  rw [foldl_forget_eq] at h
  rw [h]; rfl

theorem Sys.prologue_eq (s : Sys) :
    s.prologue =
      { s with
        srv := { s.srv with subs := stripAll s.srv.subs s.srv.closedSockets,
                            psubs := stripAll s.srv.psubs s.srv.closedSockets,
                            conns := s.prologue.srv.conns, closedSockets := [],
                            time := s.clocks.headD s.srv.time },
        clocks := s.clocks.tail,
        fault := if s.clocks.isEmpty && s.fault.isNone then some "clock readings exhausted" else s.fault } := by
  unfold Sys.prologue Sys.refresh
  rw [cleanupClosed_eq, nextClock_run]
  cases s.clocks with
  | cons t rest => rfl
  | nil => cases s.fault <;> rfl

theorem Sys.prologue_dbs (s : Sys) : s.prologue.srv.dbs = s.srv.dbs := by rw [s.prologue_eq]
theorem Sys.prologue_out (s : Sys) : s.prologue.out = s.out := by rw [s.prologue_eq]
theorem Sys.prologue_crashed (s : Sys) : s.prologue.crashed = s.crashed := by rw [s.prologue_eq]
theorem Sys.prologue_picks (s : Sys) : s.prologue.picks = s.picks := by rw [s.prologue_eq]
theorem Sys.prologue_version (s : Sys) : s.prologue.srv.version = s.srv.version := by rw [s.prologue_eq]
theorem Sys.prologue_connected (s : Sys) : s.prologue.srv.connected = s.srv.connected := by rw [s.prologue_eq]
theorem Sys.prologue_time (s : Sys) : s.prologue.srv.time = s.clocks.headD s.srv.time := by rw [s.prologue_eq]
theorem Sys.prologue_clocks (s : Sys) : s.prologue.clocks = s.clocks.tail := by rw [s.prologue_eq]
theorem Sys.prologue_closedSockets (s : Sys) : s.prologue.srv.closedSockets = [] := by rw [s.prologue_eq]
theorem Sys.prologue_subs (s : Sys) : s.prologue.srv.subs = stripAll s.srv.subs s.srv.closedSockets := by
  rw [s.prologue_eq]
theorem Sys.prologue_psubs (s : Sys) : s.prologue.srv.psubs = stripAll s.srv.psubs s.srv.closedSockets := by
  rw [s.prologue_eq]
theorem Sys.prologue_fault (s : Sys) {t : Int} {r : List Int} (h : s.clocks = t :: r) : s.prologue.fault = s.fault := by
  rw [s.prologue_eq, h]; rfl

theorem Sys.prologue_hasConn (s : Sys) (c : Nat) : s.prologue.HasConn c ↔ s.HasConn c := by
  unfold Sys.prologue
  rw [Sys.refresh_hasConn, cleanupClosed_hasConn]

theorem Sys.prologue_conn_cases (s : Sys) (c : Nat) :
    s.prologue.conn c = s.conn c ∨ s.prologue.conn c = (s.conn c).cleared := by
  unfold Sys.prologue
  rw [Sys.refresh_conn]
  exact cleanupClosed_conn_any s c

theorem Sys.prologue_conn {β} (s : Sys) (c : Nat) (p : Conn → β) (hp : ∀ x : Conn, p x.cleared = p x) :
    p (s.prologue.conn c) = p (s.conn c) := by
  rcases s.prologue_conn_cases c with e | e <;> rw [e]
  exact hp _

theorem Sys.prologue_refuses (s : Sys) (c : Nat) (sig : Sig) : s.prologue.refuses c sig = s.refuses c sig := by
  unfold Sys.refuses
  rw [s.prologue_conn c Conn.pubsub (fun _ => rfl)]

theorem Sys.prologue_watchNotified {s : Sys} {c : Nat} (h : (s.conn c).watchNotified = false) :
    (s.prologue.conn c).watchNotified = false := by
  rcases s.prologue_conn_cases c with e | e <;> rw [e]
  · exact h
  · rfl

/-- the form of every known command that is answered without being run (wrong arity, refused or queued in MULTI) -/
theorem Sys.prologue_answered (s : Sys) (c : Nat) (f : Conn → Conn) (r : Reply) (hid : ∀ x, (f x).id = x.id)
    (hcl : ∀ x, (f x).closed = x.closed) :
    ((s.prologue.updConn c f).emitS c r).out = (if (s.conn c).closed then s.out else (c, r) :: s.out) ∧
    (s.HasConn c → ((s.prologue.updConn c f).emitS c r).conn c = f (s.prologue.conn c)) ∧
    ((s.prologue.updConn c f).emitS c r).srv.dbs = s.srv.dbs ∧
    ((s.prologue.updConn c f).emitS c r).srv.subs = s.prologue.srv.subs ∧
    ((s.prologue.updConn c f).emitS c r).srv.psubs = s.prologue.srv.psubs ∧
    ((s.prologue.updConn c f).emitS c r).crashed = s.crashed := by
  obtain ⟨h1, h2, h3, h4, h5⟩ := Sys.answered s.prologue c f r hid hcl
  exact ⟨by rw [h1, s.prologue_out, s.prologue_conn c Conn.closed (fun _ => rfl)],
    fun hc => h2 ((s.prologue_hasConn c).2 hc), h3.trans s.prologue_dbs, h4, h5,
    (Sys.emitS_crashed ..).trans s.prologue_crashed⟩

theorem out_answered {s : Sys} {c : Nat} (f : Conn → Conn) (r : Reply) (hid : ∀ x, (f x).id = x.id)
    (hf : ∀ x, (f x).closed = x.closed) (h : (s.conn c).closed = false) :
    ((s.prologue.updConn c f).emitS c r).out = (c, r) :: s.out :=
  (s.prologue_answered c f r hid hf).1.trans (by rw [h]; rfl)

end FR

import FR.Proofs.Seq
/-!
# The command layer from its atomic accesses, for every judgment

Below `_process_command` the state is accessed in a handful of ways: the record of the issuing connection is read, or
updated by a `ConnUpd`; a key is read lazily, the live keys are listed, a database is cleared, command items are written
back; the replay's bookkeeping moves; the script cache or `lastsave` is set.  `Leaves J mode c G` asks for `J` of exactly
these (`DbLeaves J D`: the accesses to the databases, whoever issues the command).  Two leaves are pieces of `_run_command`
cut out to be judged whole: `applySig` (`Signature.apply` with the write-back of its lazy deletions) and `regularStep`
(the branch that runs a body of the command table).  From `Leaves` follow, for every `J` closed under sequencing, the
special bodies (`Leaves.callees`), EXEC's queue and the blocking pops.  `G : Guard` is what a judgment needs to know to
have a leaf.  `_run_command` (`runWith_then`, `Leaves.runWith`) hands the special body the arguments and items that
`Signature.apply` made, behind the `no_script` gate, and writes back what it returns: facts about values (`Then`,
`Leaves.SpecialAt`).

A judgment that needs no guard starts from `LeavesAll J mode c`; it gives every special body, `_run_command`, and
`LeavesAll.process`, a `Process` record.  From there one assembles a `Drain` / `Loop` record and an `Events` record by
hand, as `Twin.lean` does from `sim_leaves` on.
-/
namespace FR
open M

/-- side conditions under which a judgment has its leaves -/
structure Guard where
  /-- of the record of the connection, whenever it is read -/
  conn : Conn → Prop := fun _ => True
  db : Nat → Prop := fun _ => True
  sel : Nat → Prop := fun _ => True
  /-- of the commands in the queue of a record that was read (`conn_tx`), which EXEC runs; queueing (`Process.enqueue`)
  is no leaf here: a judgment that needs it of the queue keeps it there itself -/
  enq : String × List Bytes → Prop := fun _ => True
  /-- a blocking pop may park the connection whatever its pass found -/
  park : Prop := True
  /-- EXEC may run its queue -/
  exec : Prop := True
  /-- UNWATCH, DISCARD, EXEC may clear the watches -/
  clear : Prop := True
  /-- of the arguments and items that `Signature.apply` makes of a request -/
  args : Sig → List Bytes → List Arg → List CI → Prop := fun _ _ _ _ => True
  /-- of the items a special body is given and hands back -/
  items : List CI → Prop := fun _ => True

/-- the updates of the record of the issuing connection below `_process_command` (`pause`: the asyncio front-end also
pauses the parser) -/
inductive ConnUpd (mode : Mode) (G : Guard) : (Conn → Conn) → Prop
  | select (i : Nat) : G.sel i → ConnUpd mode G fun x => { x with db := i }
  | unwatch : G.clear → ConnUpd mode G fun x => { x with watchNotified := false, watches := [] }
  | watch (d : Nat) (ks : List Bytes) : ConnUpd mode G fun x =>
      { x with watches := ks.foldl (fun w key => if w.contains (d, key) then w else w ++ [(d, key)]) x.watches }
  | multi : ConnUpd mode G fun x => { x with tx := some [], txFailed := false }
  | discard : ConnUpd mode G fun x => { x with tx := none, txFailed := false }
  | abort : ConnUpd mode G fun x => { x with tx := none }
  | inTx (b : Bool) : G.exec → ConnUpd mode G fun x => { x with inTx := b }
  | park (p : Parked) : G.park → ConnUpd mode G fun x => { x with parked := some p }
  | pause (p : Parked) : G.park → mode.async = true →
      ConnUpd mode G fun x => { x with paused := true, parked := some p }

def applySig (d : Nat) (sig : Sig) (raw : List Bytes) : M (Except Err Sig.Applied) := do
  let db ← getDb d
  let (db', res) := sig.apply raw db
  setDb d db'
  return res

/-- A read of the arguments whose continuation uses only the result: `G` is the elaborated
`fun db => match sig.apply raw db with | (db', res) => do setDb d db'; f res` (cf. `Seq.touch_bind`). -/
theorem Seq.apply_bind {J : ∀ {α : Type}, M α → Prop} (hJ : Seq J) {d : Nat} {sig : Sig} {raw : List Bytes} {β : Type}
    (ha : J (applySig d sig raw)) {G : Db → M β} {f : Except Err Sig.Applied → M β}
    (h : ∀ db db' res, sig.apply raw db = (db', res) → G db = (M.setDb d db' >>= fun _ => f res))
    (hf : ∀ res, J (f res)) : J (M.getDb d >>= G) := by
  have : G = fun db => M.setDb d (sig.apply raw db).1 >>= fun _ => f (sig.apply raw db).2 := funext fun db => h db _ _ rfl
  subst this
  exact (show J (applySig d sig raw >>= f) from hJ.bind ha hf)

def regularStep (conn : Conn) (sig : Sig) (body : Body) (raw : List Bytes) (fromScript : Bool) : M (Option Reply) := do
  let d := conn.db
  let db ← getDb d
  let gate := runGate sig fromScript (conn.pubsub > 0)
  let s ← get
  let ctx : Ctx := { version := s.srv.version, time := s.srv.time, dbnum := d, inTx := conn.inTx, picks := s.picks }
  let o := runRegular sig body ctx gate raw db
  setDb d o.db
  modify fun s => { s with picks := s.picks.drop o.picksUsed }
  match o.fault with | some f => fault f | none => pure ()
  o.notified.forM (notifyWatch d)
  return some o.reply

theorem runGate_script {sig : Sig} {fromScript subscribed : Bool} (h : runGate sig fromScript subscribed = none)
    (hs : fromScript = true) : sig.noScript = false := by
  subst hs
  cases hn : sig.noScript with
  | false => rfl
  | true => simp [runGate, hn] at h

/-- `_run_command` from its accesses: `Signature.apply` makes arguments and items with `A`, items with `C`; the special
body is called behind the `no_script` gate with such, and hands back items with `C`; only those are written back. -/
theorem runWith_then {J : ∀ {α : Type}, M α → Prop} (hJ : Seq J) (special : SpecialFn) (mode : Mode) (c : Nat) (sig : Sig)
    (raw : List Bytes) (fromScript : Bool) (Good : Conn → Prop) (A : List Arg → List CI → Prop) (C : List CI → Prop)
    (getConn : ∀ {β : Type} {K : Conn → M β}, (∀ x B, K { x with buf := B } = K x) → (∀ x, Good x → J (K x)) →
      J (getConn c >>= K))
    (regular : ∀ x, Good x → ∀ body, Cmd.regular sig.name = some body → J (regularStep x sig body raw fromScript))
    (apply : ∀ x, Good x →
      Then J (applySig x.db sig raw) (fun r => ∀ args cis, r = .ok (.ok args cis) → A args cis ∧ C cis))
    (hsp : (fromScript = true → sig.noScript = false) → ∀ args cis, A args cis → C cis →
      Then J (special mode c sig.name args cis) (fun r => ∀ x cis', r = .ok (x, cis') → C cis'))
    (fault : ∀ msg, J (fault msg))
    (wb : ∀ x, Good x → ∀ cis, C cis → J (writebackAll x.db cis)) :
    J (runWith special mode c sig raw fromScript) := by
  unfold FR.runWith
  refine getConn (fun _ _ => rfl) (fun conn hconn => ?_)
  split
  · exact hJ.pure _
  cases hreg : Cmd.regular sig.name with
  | some body => exact regular conn hconn body hreg
  | none =>
    -- `Seq.apply_bind` with the value fact: the continuation is judged for the results `Signature.apply` can give
    have happ : ∀ {β : Type} {G : Db → M β} {f : Except Err Sig.Applied → M β},
        (∀ db db' res, sig.apply raw db = (db', res) → G db = (M.setDb conn.db db' >>= fun _ => f res)) →
        (∀ res, (∀ args cis, res = .ok (.ok args cis) → A args cis ∧ C cis) → J (f res)) → J (M.getDb conn.db >>= G) := by
      intro β G f h hf
      have : G = fun db => M.setDb conn.db (sig.apply raw db).1 >>= fun _ => f (sig.apply raw db).2 :=
        funext fun db => h db _ _ rfl
      subst this
      exact (show J (applySig conn.db sig raw >>= f) from apply conn hconn f hf)
    refine happ (f := ?f) (fun db db' res e => ?h) (fun res hres => ?_)
    case h => rw [e]
    split
    · exact hJ.pure _
    · exact hJ.pure _
    · rename_i args cis
      obtain ⟨ha, hc⟩ := hres args cis rfl
      split
      · exact hJ.pure _
      · rename_i hgate
        refine hsp (runGate_script hgate) args cis ha hc _ (fun r hr => ?_)
        split
        · seq_descend hJ [fault _, wb conn hconn _ hc]
        · seq_descend hJ [wb conn hconn _ (hr _ _ rfl)]

structure DbLeaves (J : ∀ {α : Type}, M α → Prop) (D : Nat → Prop) : Prop extends Seq J where
  touch : ∀ d, D d → ∀ k, J (touchKey d k)
  liveKeys : ∀ d, D d → J (liveKeys d)
  clearDb : ∀ d, D d → J (clearDb d)
  /-- of the items the bodies make themselves, which they mark modified -/
  writebackAll : ∀ d, D d → ∀ cis, (∀ ci ∈ cis, ci.modified = true) → J (writebackAll d cis)
  fault : ∀ msg, J (fault msg)
  takeSetOrder : ∀ s, J (takeSetOrder s)

structure Leaves (J : ∀ {α : Type}, M α → Prop) (mode : Mode) (c : Nat) (G : Guard) : Prop extends DbLeaves J G.db where
  /-- the record of `c` is read by a continuation that does not look at `buf` -/
  getConn : ∀ {β : Type} {K : Conn → M β}, (∀ x B, K { x with buf := B } = K x) → (∀ x, G.conn x → J (K x)) →
    J (getConn c >>= K)
  conn_db : ∀ x, G.conn x → G.db x.db
  conn_tx : ∀ x, G.conn x → ∀ q, x.tx = some q → ∀ e ∈ q, G.enq e
  conn : ∀ f, ConnUpd mode G f → J (modifyConn c f)
  randomkey : ∀ d, G.db d → ∀ cis, J (randomkeyCmd d cis)
  scan : ∀ d, G.db d → ∀ args cis, J (scanCmd d args cis)
  applySig : ∀ d, G.db d → ∀ sig raw,
    Then J (applySig d sig raw) (fun r => ∀ args cis, r = .ok (.ok args cis) → G.args sig raw args cis ∧ G.items cis)
  regular : ∀ x, G.conn x → ∀ sig body raw fromScript, Cmd.regular sig.name = some body →
    J (regularStep x sig body raw fromScript)
  writeback : ∀ d, G.db d → ∀ cis, G.items cis → J (FR.M.writebackAll d cis)
  nextClock : J nextClock
  nextPick : J nextPick
  readVersion : ReadOf J (·.srv.version)
  readScripts : ReadOf J (·.srv.scripts)
  cacheScript : ∀ sha script : Bytes,
    J (modify fun s => { s with srv := { s.srv with scripts := ZSet.dictSet s.srv.scripts sha script } })
  flushScripts : J (modify fun s => { s with srv := { s.srv with scripts := [] } })
  readLastsave : ReadOf J (·.srv.lastsave)
  setLastsave : ∀ t : Int, J (modify fun s => { s with srv := { s.srv with lastsave := t } })
  crash : G.exec → ∀ w : String, J (modify fun s => { s with crashed := some w })

/-- What `_run_command` asks of the special body of the request `sig raw`.  The `Leaves` argument plays no part: it is
there for the notation `L.SpecialAt special sig raw fromScript`. -/
def Leaves.SpecialAt {J : ∀ {α : Type}, M α → Prop} {mode : Mode} {c : Nat} {G : Guard} (_ : Leaves J mode c G)
    (special : SpecialFn) (sig : Sig) (raw : List Bytes) (fromScript : Bool) : Prop :=
  (fromScript = true → sig.noScript = false) → ∀ args cis, G.args sig raw args cis → G.items cis →
    Then J (special mode c sig.name args cis) (fun r => ∀ x cis', r = .ok (x, cis') → G.items cis')

theorem Leaves.specialAt_of {J : ∀ {α : Type}, M α → Prop} {mode : Mode} {c : Nat} {G : Guard} (L : Leaves J mode c G)
    {special : SpecialFn} {sig : Sig} {raw : List Bytes} {fromScript : Bool} (hitems : ∀ cis, G.items cis)
    (h : (fromScript = true → sig.noScript = false) → ∀ args cis, J (special mode c sig.name args cis)) :
    L.SpecialAt special sig raw fromScript :=
  fun hg args cis _ _ => Then.of L.toSeq (h hg args cis) (fun _ _ _ _ => hitems _)

namespace DbLeaves
variable {J : ∀ {α : Type}, M α → Prop} {D : Nat → Prop} (L : DbLeaves J D)
include L

theorem dataAt {d : Nat} (hd : D d) (args : List Arg) : DataAt J d args :=
  { L.toSeq with
    touch := L.touch d hd, storeList := fun _ _ _ => L.writebackAll d hd _ (fun _ h => List.mem_singleton.1 h ▸ rfl), fault := L.fault, takeSetOrder := L.takeSetOrder }

theorem bpopPass {d : Nat} (hd : D d) (left first : Bool) (keys : List Bytes) : J (bpopPass d left first keys) := by
  have hJ := L.toSeq
  induction keys with
  | nil => exact L.pure _
  | cons k rest ih =>
    unfold FR.bpopPass
    seq_touch hJ (L.touch d hd k)
    seq_descend hJ [L.writebackAll d hd _ (fun _ h => List.mem_singleton.1 h ▸ rfl), ih]

theorem brpoplpushPass {d : Nat} (hd : D d) (src dst : Bytes) (first : Bool) :
    J (brpoplpushPass d src dst first) := by
  have hJ := L.toSeq
  unfold FR.brpoplpushPass
  seq_touch hJ (L.touch d hd src)
  split
  · exact L.pure _
  split
  · seq_touch hJ (L.touch d hd dst)
    have hmod : ∀ a b : CI, a.modified = true → b.modified = true → ∀ ci ∈ [a, b], ci.modified = true := by
      intro a b ha hb ci h
      rcases List.mem_cons.1 h with rfl | h
      · exact ha
      · exact List.mem_singleton.1 h ▸ hb
    seq_descend hJ [L.writebackAll d hd _ (fun _ h => List.mem_singleton.1 h ▸ rfl), L.writebackAll d hd _ (hmod _ _ rfl rfl)]
  · seq_descend hJ []

theorem parkedPass (c : Nat) (p : Parked) (hp : D p.db) : J (parkedPass c p) := by
  unfold FR.parkedPass
  split
  · exact L.brpoplpushPass hp _ _ _
  · exact L.bpopPass hp _ _ _
  · exact L.bpopPass hp _ _ _

end DbLeaves

namespace Leaves
variable {J : ∀ {α : Type}, M α → Prop} {mode : Mode} {c : Nat} {G : Guard} (L : Leaves J mode c G)
include L

theorem selectCmd (args : List Arg) (cis : List CI) (hsel : ∀ i, args = [.int i] → G.sel i.toNat) :
    J (selectCmd c args cis) := by
  have hJ := L.toSeq
  unfold FR.selectCmd okR
  split
  · seq_descend hJ [L.conn _ (.select _ (hsel _ rfl))]
  · exact L.pure _

theorem multiCmd (cis : List CI) : J (multiCmd c cis) := by
  have hJ := L.toSeq
  unfold FR.multiCmd okR
  seq_descend hJ [L.getConn (fun _ _ => rfl) (fun _ _ => ?_), L.conn _ .multi]

theorem discardCmd (hc : G.clear) (cis : List CI) : J (discardCmd c cis) := by
  have hJ := L.toSeq
  unfold FR.discardCmd okR M.clearWatches
  seq_descend hJ [L.getConn (fun _ _ => rfl) (fun _ _ => ?_), L.conn _ .discard, L.conn _ (.unwatch hc)]

theorem watchCmd (d : Nat) (args : List Arg) (cis : List CI) : J (watchCmd c d args cis) := by
  have hJ := L.toSeq
  unfold FR.watchCmd okR
  seq_descend hJ [L.getConn (fun _ _ => rfl) (fun _ _ => ?_), L.conn _ (.watch _ _)]

theorem blocking (hpark : G.park) (kind : String) (keys : List Bytes) (timeout : Int)
    (pass : Bool → M (Except Err (Option Reply))) (hpass : ∀ first, J (pass first)) :
    J (blocking c mode.park kind keys timeout pass) := by
  have hJ := L.toSeq
  unfold FR.blocking
  seq_descend hJ [hpass _, L.getConn (fun _ _ => rfl) (fun _ _ => ?_), L.nextClock, L.conn _ (.park _ hpark)]

theorem blockingAsync (hpark : G.park) (hm : mode.async = true) (kind : String) (keys : List Bytes)
    (pass : Bool → M (Except Err (Option Reply))) (hpass : ∀ first, J (pass first)) :
    J (blockingAsync c kind keys pass) := by
  have hJ := L.toSeq
  unfold FR.blockingAsync
  seq_descend hJ [hpass _, L.getConn (fun _ _ => rfl) (fun _ _ => ?_), L.conn _ (.pause _ hpark hm)]

theorem blockingPop (hpark : G.park) (kind : String) (keys : List Bytes) (timeout : Int)
    (pass : Bool → M (Except Err (Option Reply))) (hpass : ∀ first, J (pass first)) :
    J (if mode.async then FR.blockingAsync c kind keys pass else FR.blocking c mode.park kind keys timeout pass) :=
  Seq.ite (fun h => L.blockingAsync hpark h kind keys pass hpass) (fun _ => L.blocking hpark kind keys timeout pass hpass)

theorem runQueue (he : G.exec) (inner : Inner)
    (hinner : ∀ sig raw, SigTable.find sig.name = some sig → G.enq (sig.name, raw) → J (inner sig raw))
    (q : List (String × List Bytes)) (hq : ∀ e ∈ q, G.enq e) : J (runQueue inner c q) := by
  have hJ := L.toSeq
  induction q with
  | nil => exact L.pure _
  | cons a rest ih =>
    rw [runQueue_cons]
    refine L.bind ?_ (fun _ => L.bind (ih (fun e he => hq e (List.mem_cons_of_mem _ he))) (fun _ => L.pure _))
    unfold queueStep
    split
    · seq_descend hJ [L.fault _]
    · rename_i sig hfind
      have hn := SigTable.find_name hfind
      have ha : G.enq (sig.name, a.2) := hn ▸ hq a (List.mem_cons_self ..)
      seq_descend hJ [L.conn _ (.inTx _ he), hinner sig a.2 (hn ▸ hfind) ha]

theorem execCmd (hc : G.clear) (he : G.exec) (inner : Inner)
    (hinner : ∀ sig raw, SigTable.find sig.name = some sig → G.enq (sig.name, raw) → J (inner sig raw)) (cis : List CI) :
    J (execCmd inner c cis) := by
  have hJ := L.toSeq
  unfold FR.execCmd okR M.clearWatches
  refine L.getConn (fun _ _ => rfl) (fun conn hconn => ?_)
  split
  · exact L.pure _
  · rename_i queue heq
    seq_descend hJ [L.conn _ .abort, L.conn _ .discard, L.conn _ (.unwatch hc),
      L.runQueue he inner hinner queue (L.conn_tx conn hconn queue heq), L.crash he _]

/-- The leaves of `special_at`.  Asked for, under the name of the command: SWAPDB and MOVE, which break invariants
inside; EXEC; the blocking pops, since parking may be sound only after an unserved pass (`blockingPop` otherwise); the
pub/sub bodies. -/
theorem callees (inner : Inner) (name : String) (args : List Arg)
    (hsel : name = "select" → ∀ i, args = [.int i] → G.sel i.toNat)
    (hall : name = "flushall" → ∀ d, G.db d)
    (hclear : name = "unwatch" ∨ name = "discard" → G.clear)
    (hswap : name = "swapdb" → ∀ cis, J (swapdbCmd args cis))
    (hmove : name = "move" → ∀ d, G.db d → ∀ cis, J (moveCmd d args cis))
    (hexec : name = "exec" → ∀ cis, J (FR.execCmd inner c cis))
    (hbpop : name = "blpop" ∨ name = "brpop" → ∀ x, G.conn x → ∀ keys timeout,
      J (if mode.async then FR.blockingAsync c name keys (fun first => FR.bpopPass x.db (name == "blpop") first keys)
        else FR.blocking c mode.park name keys timeout (fun first => FR.bpopPass x.db (name == "blpop") first keys)))
    (hbrpoplpush : name = "brpoplpush" → ∀ x, G.conn x → ∀ src dst timeout,
      J (if mode.async then FR.blockingAsync c name [src, dst] (fun first => FR.brpoplpushPass x.db src dst first)
        else FR.blocking c mode.park name [src, dst] timeout (fun first => FR.brpoplpushPass x.db src dst first)))
    (hsub : name = "subscribe" ∨ name = "psubscribe" → ∀ p names, J (subscribeGen c p names))
    (hunsub : name = "unsubscribe" ∨ name = "punsubscribe" → ∀ p names, J (unsubscribeGen c p names))
    (hpub : name = "publish" → ∀ ch msg, J (publish ch msg)) (cis : List CI) :
    CalleesAt J inner mode c G.conn name args cis :=
  { toSeq := L.toSeq
    getConn := L.getConn
    readLastsave := L.readLastsave
    liveKeys := fun x hx => L.liveKeys _ (L.conn_db x hx)
    clearDb := fun _ x hx => L.clearDb _ (L.conn_db x hx)
    clearAll := fun e => Seq.forM L.toSeq (fun d => L.clearDb d (hall e d))
    nextClock := L.nextClock
    setLastsave := L.setLastsave
    clearWatches := fun e => L.conn _ (.unwatch (hclear (.inl e)))
    fault := L.fault
    select := fun e => L.selectCmd args cis (hsel e)
    swapdb := fun e => hswap e cis
    move := fun e x hx => hmove e _ (L.conn_db x hx) cis
    randomkey := fun x hx => L.randomkey _ (L.conn_db x hx) cis
    scan := fun x hx => L.scan _ (L.conn_db x hx) args cis
    sort := fun _ x hx => sortCmd_at (L.dataAt (L.conn_db x hx) args) c cis
    zunioninter := fun x hx u => zunioninter_at L.toSeq (L.touch _ (L.conn_db x hx)) u args cis
    multi := fun _ => L.multiCmd cis
    discard := fun e => L.discardCmd (hclear (.inr e)) cis
    exec := fun e => hexec e cis
    watch := fun _ d => L.watchCmd d args cis
    subscribe := hsub
    unsubscribe := hunsub
    publish := hpub
    bpop := fun e x hx timeout => hbpop e x hx _ timeout
    brpoplpush := fun e x hx src dst timeout _ => hbrpoplpush e x hx src dst timeout }

theorem scripts : Scripts J :=
  { L.toSeq with
    readVersion := L.readVersion, readScripts := L.readScripts, nextPick := L.nextPick, fault := L.fault,
    cacheScript := L.cacheScript, flushScripts := L.flushScripts }

theorem runWith (special : SpecialFn) (sig : Sig) (raw : List Bytes) (fromScript : Bool)
    (hsp : L.SpecialAt special sig raw fromScript) : J (runWith special mode c sig raw fromScript) :=
  runWith_then L.toSeq special mode c sig raw fromScript G.conn (G.args sig raw) G.items L.getConn
    (fun x hx body h => L.regular x hx sig body raw fromScript h) (fun x hx => L.applySig _ (L.conn_db x hx) sig raw) hsp
    L.fault (fun x hx => L.writeback _ (L.conn_db x hx))

theorem nestedStub (sig : Sig) (raw : List Bytes) : J (FR.nestedStub sig raw) := by
  have hJ := L.toSeq
  unfold FR.nestedStub
  seq_descend hJ [L.fault _]

theorem runScriptCmd
    (hstub : ∀ n sig raw, SigTable.find n = some sig → L.SpecialAt (FR.special FR.nestedStub) sig raw true)
    (sig : Sig) (raw : List Bytes) (fromScript : Bool) : J (runScriptCmd mode c sig raw fromScript) := by
  have hJ := L.toSeq
  have hbody := scriptBody_seq L.scripts (special := FR.special FR.nestedStub) (mode := mode) (c := c)
    (fun n sig raw hf => L.runWith _ sig raw true (hstub n sig raw hf))
  unfold FR.runScriptCmd
  refine L.getConn (fun _ _ => rfl) (fun conn hconn => ?_)
  split
  · exact L.pure _
  refine Seq.apply_bind hJ (Then.run hJ (L.applySig _ (L.conn_db conn hconn) sig raw)) (f := ?f)
    (fun db db' res e => ?h) (fun res => ?_)
  case h => rw [e]
  seq_descend hJ [hbody _ _, L.fault _]

theorem runInner
    (hstub : ∀ n sig raw, SigTable.find n = some sig → L.SpecialAt (FR.special FR.nestedStub) sig raw true)
    (sig : Sig) (raw : List Bytes) (hsp : L.SpecialAt (FR.special FR.nestedStub) sig raw false) :
    J (runInner mode c sig raw) :=
  runInner_cases (P := fun m => J m) mode c sig raw (fun _ => L.runScriptCmd hstub sig raw false)
    (fun _ => L.runWith _ sig raw false hsp)

theorem runCommand
    (hstub : ∀ n sig raw, SigTable.find n = some sig → L.SpecialAt (FR.special FR.nestedStub) sig raw true)
    (sig : Sig) (raw : List Bytes) (fromScript : Bool)
    (hsp : L.SpecialAt (FR.special (FR.runInner mode c)) sig raw fromScript) :
    J (runCommand mode c sig raw fromScript) := by
  unfold FR.runCommand
  split
  · exact L.runScriptCmd hstub sig raw fromScript
  · exact L.runWith _ sig raw fromScript hsp

end Leaves

/-- `Leaves` at the guard `{}`, with SWAPDB, MOVE and the pub/sub bodies: such a judgment holds of every command -/
structure LeavesAll (J : ∀ {α : Type}, M α → Prop) (mode : Mode) (c : Nat) : Prop extends Leaves J mode c {} where
  swapdb : ∀ args cis, J (swapdbCmd args cis)
  move : ∀ d args cis, J (moveCmd d args cis)
  subscribe : ∀ p names, J (subscribeGen c p names)
  unsubscribe : ∀ p names, J (unsubscribeGen c p names)
  publish : ∀ ch msg, J (publish ch msg)

namespace LeavesAll
variable {J : ∀ {α : Type}, M α → Prop} {mode : Mode} {c : Nat} (L : LeavesAll J mode c)
include L

theorem special (inner : Inner) (hinner : ∀ sig raw, J (inner sig raw)) (name : String) (args : List Arg)
    (cis : List CI) : J (special inner mode c name args cis) :=
  special_at (L.callees inner name args (fun _ _ _ => trivial) (fun _ _ => trivial) (fun _ => trivial)
    (fun _ => L.swapdb args) (fun _ d _ => L.move d args)
    (fun _ => L.execCmd trivial trivial inner (fun sig raw _ _ => hinner sig raw))
    (fun _ _ _ keys timeout => L.blockingPop trivial name keys timeout _ (fun _ => L.bpopPass trivial _ _ _))
    (fun _ _ _ _ _ timeout => L.blockingPop trivial name _ timeout _ (fun _ => L.brpoplpushPass trivial _ _ _))
    (fun _ => L.subscribe) (fun _ => L.unsubscribe) (fun _ => L.publish) cis)

theorem specialAt (inner : Inner) (hinner : ∀ sig raw, J (inner sig raw)) (sig : Sig) (raw : List Bytes)
    (fromScript : Bool) : L.toLeaves.SpecialAt (FR.special inner) sig raw fromScript :=
  L.toLeaves.specialAt_of (fun _ => trivial) (fun _ args cis => L.special inner hinner _ args cis)

theorem runScriptCmd (sig : Sig) (raw : List Bytes) (fromScript : Bool) :
    J (runScriptCmd mode c sig raw fromScript) :=
  L.toLeaves.runScriptCmd (fun _ sig raw _ => L.specialAt _ L.nestedStub sig raw true) sig raw fromScript

theorem runInner (sig : Sig) (raw : List Bytes) : J (runInner mode c sig raw) :=
  L.toLeaves.runInner (fun _ sig raw _ => L.specialAt _ L.nestedStub sig raw true) sig raw
    (L.specialAt _ L.nestedStub sig raw false)

theorem runCommand (sig : Sig) (raw : List Bytes) (fromScript : Bool) : J (runCommand mode c sig raw fromScript) :=
  L.toLeaves.runCommand (fun _ sig raw _ => L.specialAt _ L.nestedStub sig raw true) sig raw fromScript
    (L.specialAt _ L.runInner sig raw fromScript)

theorem process (fields : List Bytes) (readCrashed : ReadOf J (·.crashed)) (emit : ∀ r, J (emit c r))
    (cleanupClosed : J cleanupClosed)
    (refresh : J (nextClock >>= fun now => modify fun s => { s with srv := { s.srv with time := now } }))
    (poison : J (modifyConn c fun x => { x with txFailed := true }))
    (enqueue : ∀ name args, J (modifyConn c fun x => { x with tx := x.tx.map (· ++ [(name, args)]) }))
    (markDead : J (modifyConn c fun x => { x with dead := true })) : Process J mode c fields :=
  { toSeq := L.toSeq
    readCrashed := readCrashed
    getConn := fun h hf => L.getConn h (fun x _ => hf x)
    emit := emit
    cleanupClosed := cleanupClosed
    refresh := refresh
    clearWatches := fun _ => L.conn _ (.unwatch trivial)
    poison := poison
    dropTx := L.conn _ .discard
    enqueue := enqueue
    markDead := markDead
    runCommand := fun sig _ => L.runCommand sig _ false }

end LeavesAll

end FR

import FR.Proofs.C04kHist
import FR.Proofs.Script
import FR.Proofs.Request
/-!
# Script commands (EVAL / EVALSHA / SCRIPT) queued inside MULTI

EXEC runs every queued command with `self._run_command(func, sig, args, False)` - for a queued script command that is
what a direct EVAL does.  The model's nested runner `runInner` dispatches a queued script command to `runScriptCmd`,
the runner of a direct one.  Hence EXEC of a queue of `QOk` names is the sequential composition of the direct runs, within
the one `processCommand` of the EXEC (parts 1-3); parts 4 and 5 evaluate a queued EVAL / EVALSHA that does not start its
script (`NotStarted`) and a queued EVAL whose recorded run makes no call and returns a value.
-/
namespace FR.C19m
open FR FR.M FR.C04k FR.ErrSys FR.PubSubHist

/-! ## 1. the nested runner of EXEC is the direct runner -/

/-- the runner of a request that is run at once (`_run_command(func, sig, args, False)`), as a nested runner -/
def directInner (mode : Mode) (c : Nat) : Inner := fun sig raw => runCommand mode c sig raw false

theorem runInner_eq_direct (mode : Mode) (c : Nat) (sig : Sig) (raw : List Bytes) (h : sig.name ≠ "exec") :
    runInner mode c sig raw = directInner mode c sig raw :=
  runInner_eq_runCommand' mode c sig raw h

theorem QOk.ne_exec {n : String} (h : QOk n) : n ≠ "exec" := by
  intro he
  exact h.2.1 (by rw [he]; decide)

theorem qOk_iff (n : String) :
    QOk n ↔ (n ∉ SigTable.notInMulti ∧ n ∉ SigTable.notQueued ∧ (SigTable.find n).isSome = true) := by
  unfold QOk
  constructor
  · rintro ⟨h1, h2, sig, h3⟩; exact ⟨h1, h2, by rw [h3]; rfl⟩
  · rintro ⟨h1, h2, h3⟩
    cases hf : SigTable.find n with
    | none => rw [hf] at h3; cases h3
    | some sig => exact ⟨h1, h2, sig, rfl⟩

instance (n : String) : Decidable (QOk n) := decidable_of_iff _ (qOk_iff n).symm

theorem runQueue_eq_direct (mode : Mode) (c : Nat) (q : List (String × List Bytes)) (hq : ∀ a ∈ q, a.1 ≠ "exec") :
    runQueue (runInner mode c) c q = runQueue (directInner mode c) c q :=
  runQueue_congr _ _ c q (fun a ha sig hsig =>
    runInner_eq_direct mode c sig a.2 (by rw [SigTable.find_name hsig]; exact hq a ha))

theorem execCmd_eq_direct (mode : Mode) (c : Nat) (cis : List CI) (s : Sys)
    (hq : ∀ q, (s.conn c).tx = some q → ∀ a ∈ q, a.1 ≠ "exec") :
    execCmd (runInner mode c) c cis s = execCmd (directInner mode c) c cis s :=
  execCmd_congr _ _ c cis s (fun q hq' a ha sig hsig =>
    runInner_eq_direct mode c sig a.2 (by rw [SigTable.find_name hsig]; exact hq q hq' a ha))

/-! ## 2. EXEC of a well-formed queue -/

theorem execCmd_sequential_direct (s : Sys) (mode : Mode) (c : Nat) (cis : List CI) (q : List (String × List Bytes))
    (h : (s.conn c).tx = some q) (hf : (s.conn c).txFailed = false) (hw : (s.conn c).watchNotified = false)
    (hq : ∀ a ∈ q, QOk a.1) :
    execCmd (runInner mode c) c cis s =
      (.ok (some (.arr ((runQueue (directInner mode c) c q (Sys.execStart s c)).1.map fun r => r.getD .nil)), cis),
        (runQueue (directInner mode c) c q (Sys.execStart s c)).2) := by
  have hc : s.HasConn c := Sys.hasConn_of_tx (by rw [h]; rfl)
  rw [execCmd_run _ cis h hf hw, (runQueue_spec mode c q (Sys.execStart s c) ((execStart_hasConn s c c).2 hc) hq).2,
    if_neg Bool.false_ne_true, runQueue_eq_direct mode c q (fun a ha => QOk.ne_exec (hq a ha))]

/-! ## 3. the one event of an EXEC request -/

/-- the run of the queue inside the EXEC request of `c`: by the direct runner, from the state behind the prologue with
the transaction closed and the watches dropped -/
def execRun (s : Sys) (mode : Mode) (c : Nat) (q : List (String × List Bytes)) : List (Option Reply) × Sys :=
  runQueue (directInner mode c) c q (Sys.execStart (prep s) c)

theorem processCommand_exec_sequential (s : Sys) (mode : Mode) (c : Nat) (nameB : Bytes)
    (q : List (String × List Bytes)) (hname : commandName nameB = some "exec")
    (htx : (s.conn c).tx = some q) (hf : (s.conn c).txFailed = false) (hw : (s.conn c).watchNotified = false)
    (hps : (s.conn c).pubsub = 0) (hq : ∀ a ∈ q, QOk a.1) :
    processCommand mode c [nameB] s =
      ((), finish c ((execRun s mode c q).2.emitS c (.arr ((execRun s mode c q).1.map fun r => r.getD .nil)))) := by
  have hsig : lookupSig nameB = some sigExec := by
    rw [lookupSig_of_name _ _ hname (by decide +kernel), find_exec]
  have htx1 : (s.prologue.conn c).tx = some q := (s.prologue_conn c Conn.tx (fun _ => rfl)).trans htx
  have hf1 : (s.prologue.conn c).txFailed = false := (s.prologue_conn c Conn.txFailed (fun _ => rfl)).trans hf
  rw [processCommand_exec mode c s hsig hps, afterSpecial_run,
    execCmd_sequential_direct s.prologue mode c [] q htx1 hf1 (Sys.prologue_watchNotified hw) hq]
  rfl

/-! ## 4. EVAL / EVALSHA that do not get as far as starting the script -/

/-- what the converted arguments of an EVAL / EVALSHA and the script cache say before any script runs: the SHA is not
cached (`NOSCRIPT`), or `numkeys` exceeds the number of arguments, or `numkeys` is negative -/
def NotStarted (name : String) (args : List Arg) (scripts : List (Bytes × Bytes)) : Prop :=
  ∃ x nk rest, args = .raw x :: .int nk :: rest ∧
    ((name = "evalsha" ∧ scripts.lookup x = none) ∨
     ((name = "eval" ∨ name = "evalsha") ∧ (nk > ((Cmd.rawArgs rest).length : Int) ∨ nk < 0)))

/-- only the replay bookkeeping changed: the hint list and the `fault` marker -/
structure OnlyHints (s s' : Sys) : Prop where
  srv : s'.srv = s.srv
  out : s'.out = s.out
  crashed : s'.crashed = s.crashed
  clocks : s'.clocks = s.clocks

theorem OnlyHints.refl (s : Sys) : OnlyHints s s := ⟨rfl, rfl, rfl, rfl⟩
theorem OnlyHints.trans {a b c : Sys} (h1 : OnlyHints a b) (h2 : OnlyHints b c) : OnlyHints a c :=
  ⟨h2.srv.trans h1.srv, h2.out.trans h1.out, h2.crashed.trans h1.crashed, h2.clocks.trans h1.clocks⟩

theorem nextPick_onlyHints (s : Sys) : OnlyHints s (nextPick s).2 := by
  cases hp : s.picks with
  | cons p more => rw [nextPick_run_cons p more s hp]; exact ⟨rfl, rfl, rfl, rfl⟩
  | nil =>
    have : nextPick s = (none, s) := by
      simp only [nextPick, bind, StateT.bind, get, getThe, MonadStateOf.get, StateT.get, pure, StateT.pure, hp]
    rw [this]; exact ⟨rfl, rfl, rfl, rfl⟩

theorem shaHint_onlyHints (s : Sys) : OnlyHints s (shaHint s).2 := by
  have h := nextPick_onlyHints s
  unfold shaHint
  simp only [bind, StateT.bind]
  revert h
  generalize nextPick s = r
  obtain ⟨p, s1⟩ := r
  intro h
  dsimp only at h ⊢
  split
  · split <;> exact h
  · exact h

theorem fault_onlyHints (msg : String) (s : Sys) : OnlyHints s (M.fault msg s).2 := by
  show OnlyHints s (if s.fault.isNone then { s with fault := some msg } else s)
  split <;> exact ⟨rfl, rfl, rfl, rfl⟩

theorem evalBody_not_started (special : SpecialFn) (mode : Mode) (c : Nat) (script : Bytes) (nk : Int)
    (rest : List Bytes) (s : Sys) (h : nk > (rest.length : Int) ∨ nk < 0) :
    raised (evalBody special mode c script nk rest s).1 ∧ OnlyHints s (evalBody special mode c script nk rest s).2 := by
  have hs := shaHint_onlyHints s
  unfold evalBody
  simp only [bind, StateT.bind]
  revert hs
  generalize shaHint s = r
  obtain ⟨o, s1⟩ := r
  intro hs
  dsimp only at hs ⊢
  cases o with
  | none =>
    dsimp only
    exact ⟨trivial, hs.trans (fault_onlyHints _ s1)⟩
  | some sha =>
    dsimp only
    by_cases h1 : nk > (rest.length : Int)
    · simp only [h1, if_true]
      exact ⟨trivial, hs⟩
    · have h2 : nk < 0 := h.resolve_left h1
      simp only [h1, if_false, h2, if_true, pure, StateT.pure]
      exact ⟨trivial, hs⟩

theorem scriptBody_not_started (special : SpecialFn) (mode : Mode) (c : Nat) (name : String) (args : List Arg)
    (s : Sys) (h : NotStarted name args s.srv.scripts) :
    raised (scriptBody special mode c name args s).1 ∧ OnlyHints s (scriptBody special mode c name args s).2 := by
  obtain ⟨x, nk, rest, rfl, h⟩ := h
  rcases h with ⟨rfl, hl⟩ | ⟨hn, hk⟩
  · have := scriptBody_evalsha_run special mode c x nk rest s
    simp only [StateT.run] at this
    rw [this, hl]
    exact ⟨trivial, OnlyHints.refl s⟩
  · rcases hn with rfl | rfl
    · rw [scriptBody_eval]
      exact evalBody_not_started special mode c x nk _ s hk
    · have := scriptBody_evalsha_run special mode c x nk rest s
      simp only [StateT.run] at this
      rw [this]
      cases hl : s.srv.scripts.lookup x with
      | none => exact ⟨trivial, OnlyHints.refl s⟩
      | some script => exact evalBody_not_started special mode c script nk _ s hk

theorem OnlyHints.quiet {s0 s s' : Sys} (hq : Quiet s0 s) (h : OnlyHints s s') : Quiet s0 s' :=
  hq.frame h.srv h.out

theorem runScriptCmd_not_started (mode : Mode) (c : Nat) (sig : Sig) (raw : List Bytes) (fs : Bool) (s : Sys)
    (hnd : NodupDbs s) {args : List Arg} {cis : List CI}
    (happ : (sig.apply raw (s.dbAt (s.conn c).db)).2 = .ok (.ok args cis))
    (hns : NotStarted sig.name args s.srv.scripts) :
    (∃ e, (runScriptCmd mode c sig raw fs s).1 = some (.err e)) ∧ Quiet s (runScriptCmd mode c sig raw fs s).2 := by
  cases hr : s.refuses c sig with
  | true =>
    rw [runScriptCmd_refused mode c sig raw fs hr]
    exact ⟨⟨_, rfl⟩, Quiet.refl hnd⟩
  | false =>
    rw [runScriptCmd_not_refused mode c sig raw fs hr]
    unfold runScriptCmdBody
    simp only [bind, StateT.bind, getConn_run, getDb_run', setDb_run']
    have hsim0 : Db.Sim (s.dbAt (s.conn c).db) (s.dbAt (s.conn c).db) := (Quiet.refl hnd).dbAt _
    revert happ
    generalize hap : sig.apply raw (s.dbAt (s.conn c).db) = ap
    obtain ⟨db', res⟩ := ap
    intro happ
    dsimp only at happ ⊢
    subst happ
    have hsim : Db.Sim (s.dbAt (s.conn c).db) db' := sim_apply hsim0 hap
    have hq1 : Quiet s (s.setDbS (s.conn c).db db') := (Quiet.refl hnd).setDbS _ hsim
    dsimp only
    cases hg : runGate sig fs (decide ((s.conn c).pubsub > 0)) with
    | some e => exact ⟨⟨_, rfl⟩, hq1⟩
    | none =>
      dsimp only
      obtain ⟨he, hoh⟩ := scriptBody_not_started (special nestedStub) mode c
        sig.name args (s.setDbS (s.conn c).db db') hns
      revert he hoh
      simp only [bind, StateT.bind]
      generalize scriptBody (special nestedStub) mode c sig.name args
        (s.setDbS (s.conn c).db db') = r
      obtain ⟨v, s2⟩ := r
      intro he hoh
      dsimp only at he hoh ⊢
      cases v with
      | ok r => exact absurd he id
      | error e =>
        by_cases hm : e.startsWith "model:" = true
        · simp only [hm, if_true]
          exact ⟨⟨_, rfl⟩, (hoh.trans (fault_onlyHints e s2)).quiet hq1⟩
        · simp only [hm, Bool.false_eq_true, if_false]
          exact ⟨⟨_, rfl⟩, hoh.quiet hq1⟩

theorem NotStarted.script {name : String} {args : List Arg} {scripts : List (Bytes × Bytes)}
    (h : NotStarted name args scripts) : scriptNames.contains name = true := by
  obtain ⟨_, _, _, _, h⟩ := h
  rcases h with ⟨rfl, _⟩ | ⟨rfl | rfl, _⟩ <;> decide

theorem queueStep_script_not_started (mode : Mode) (c : Nat) (a : String × List Bytes) {sig : Sig}
    (hf : SigTable.find a.1 = some sig) (s : Sys) (hnd : NodupDbs s) {args : List Arg} {cis : List CI}
    (happ : (sig.apply a.2 ((s.updConn c setInTx).dbAt ((s.updConn c setInTx).conn c).db)).2 = .ok (.ok args cis))
    (hns : NotStarted sig.name args s.srv.scripts) :
    (∃ e, (queueStep (runInner mode c) c a s).1 = some (.err e)) ∧
      QuietUpTo c clearInTx s (queueStep (runInner mode c) c a s).2 := by
  refine queueStep_quiet _ c a hf s ?_
  rw [runInner_script mode c sig a.2 hns.script]
  have hnd1 : NodupDbs (s.updConn c setInTx) := hnd
  exact runScriptCmd_not_started mode c sig a.2 false (s.updConn c setInTx) hnd1 happ hns

/-! ## 5. a queued EVAL whose script returns a value -/

theorem runTrace_return (special : SpecialFn) (mode : Mode) (c : Nat) (sha : Bytes) (fuel : Nat) (v : Bytes)
    (lv : LuaVal) (more : List (List Bytes)) (s : Sys)
    (hp : s.picks = [strBytes "return", v] :: more) (hv : LuaVal.ofBytes v = some lv) :
    runTrace special mode c sha (fuel + 1) s = (luaToReply false lv, { s with picks := more }) := by
  rw [runTrace]
  simp only [bind, StateT.bind, get, getThe, MonadStateOf.get, StateT.get, nextPick_run_cons _ _ s hp,
    beq_self_eq_true, if_true, hv, pure, StateT.pure]

/-- the state after an EVAL whose script ran to its return (the same update as `Sys.cacheScript` of Script.lean) -/
def Sys.evalDone (s : Sys) (more : List (List Bytes)) (sha script : Bytes) : Sys :=
  { s with picks := more, srv := { s.srv with scripts := ZSet.dictSet s.srv.scripts sha script } }

theorem evalBody_return (special : SpecialFn) (mode : Mode) (c : Nat) (script : Bytes) (nk : Int) (rest : List Bytes)
    (sha v : Bytes) (lv : LuaVal) (more : List (List Bytes)) (s : Sys)
    (hp : s.picks = [strBytes "sha", sha] :: [strBytes "return", v] :: more) (hv : LuaVal.ofBytes v = some lv)
    (h1 : ¬ nk > (rest.length : Int)) (h2 : ¬ nk < 0) :
    evalBody special mode c script nk rest s = (luaToReply false lv, Sys.evalDone s more sha script) := by
  have := evalBody_run special mode c script nk rest sha _ s hp
  simp only [StateT.run, h1, h2, if_false] at this
  rw [this, runTrace_return special mode c sha _ v lv more _ rfl hv]
  rfl

theorem runScriptCmd_eval_return (mode : Mode) (c : Nat) (sig : Sig) (raw : List Bytes) (s : Sys)
    (hname : sig.name = "eval") (hrf : s.refuses c sig = false)
    {script : Bytes} {nk : Int} {rest : List Arg} {cis : List CI} {db' : Db}
    (happ : sig.apply raw (s.dbAt (s.conn c).db) = (db', .ok (.ok (.raw script :: .int nk :: rest) cis)))
    (hg : runGate sig false (decide ((s.conn c).pubsub > 0)) = none)
    {sha v : Bytes} {lv : LuaVal} {more : List (List Bytes)}
    (hp : s.picks = [strBytes "sha", sha] :: [strBytes "return", v] :: more) (hv : LuaVal.ofBytes v = some lv)
    (h1 : ¬ nk > ((Cmd.rawArgs rest).length : Int)) (h2 : ¬ nk < 0) {r : Reply} (hr : luaToReply false lv = .ok r) :
    runScriptCmd mode c sig raw false s =
      (some r, Sys.evalDone (s.setDbS (s.conn c).db db') more sha script) := by
  rw [runScriptCmd_not_refused mode c sig raw false hrf]
  unfold runScriptCmdBody
  simp only [bind, StateT.bind, getConn_run, getDb_run', setDb_run', happ, hg, hname, scriptBody_eval]
  rw [evalBody_return _ mode c script nk _ sha v lv more (s.setDbS (s.conn c).db db') hp hv h1 h2, hr]
  rfl

theorem directInner_script (mode : Mode) (c : Nat) (sig : Sig) (raw : List Bytes)
    (hs : scriptNames.contains sig.name = true) : directInner mode c sig raw = runScriptCmd mode c sig raw false := by
  unfold directInner runCommand
  simp only [hs, if_true]

theorem queueStep_eval_return (inner : Inner) (mode : Mode) (c : Nat) (a : String × List Bytes) {sig : Sig}
    (hin : inner sig a.2 = runScriptCmd mode c sig a.2 false)
    (hf : SigTable.find a.1 = some sig) (s : Sys)
    (hname : sig.name = "eval") (hrf : (s.updConn c setInTx).refuses c sig = false)
    {script : Bytes} {nk : Int} {rest : List Arg} {cis : List CI} {db' : Db}
    (happ : sig.apply a.2 ((s.updConn c setInTx).dbAt ((s.updConn c setInTx).conn c).db) =
      (db', .ok (.ok (.raw script :: .int nk :: rest) cis)))
    (hg : runGate sig false (decide (((s.updConn c setInTx).conn c).pubsub > 0)) = none)
    {sha v : Bytes} {lv : LuaVal} {more : List (List Bytes)}
    (hp : s.picks = [strBytes "sha", sha] :: [strBytes "return", v] :: more) (hv : LuaVal.ofBytes v = some lv)
    (h1 : ¬ nk > ((Cmd.rawArgs rest).length : Int)) (h2 : ¬ nk < 0) {r : Reply} (hr : luaToReply false lv = .ok r) :
    queueStep inner c a s =
      (some r, (Sys.evalDone ((s.updConn c setInTx).setDbS ((s.updConn c setInTx).conn c).db db') more sha script).updConn
        c clearInTx) := by
  rw [queueStep_run inner c a hf, hin,
    runScriptCmd_eval_return mode c sig a.2 (s.updConn c setInTx) hname hrf happ hg hp hv h1 h2 hr]

end FR.C19m

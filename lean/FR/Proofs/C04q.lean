import FR.Proofs.C04o
/-!
# C04: the synchronous front-end never pauses a connection

Every atomic state change of the command layer keeps `pview` (`pk_open`), the asyncio branch (`blockingAsync`, the only
place that sets `paused := true`) being cut off by `mode.async = false`; this discharges the hypothesis `NoPark` of
`FR/Props/C04o.lean` for `FR/Props/C04q.lean`.
-/
namespace FR.C04q
open FR FR.M

/-- what the parser loop observes of a connection record: its id and whether it is paused -/
def pkey (x : Conn) : Nat × Bool := (x.id, x.paused)

def pview (s : Sys) : List (Nat × Bool) := s.srv.conns.map pkey

theorem pview_mapConns (s : Sys) (g : Conn → Conn) (hg : ∀ x, pkey (g x) = pkey x) :
    pview (s.mapConns g) = pview s := by
  unfold pview Sys.mapConns
  simp only [PubSubHist.map_key_congr pkey _ g hg]

theorem pview_updConn (s : Sys) (c : Nat) (f : Conn → Conn) (hf : ∀ x, pkey (f x) = pkey x) :
    pview (s.updConn c f) = pview s := by
  rw [Sys.updConn_eq_mapConns]
  apply pview_mapConns
  intro x; split
  · exact hf x
  · rfl

theorem pview_setTbl_upd (s : Sys) (p : Bool) (t : Tbl) (b : Bool) (c : Nat) (f : Conn → Conn)
    (hf : ∀ x, pkey (f x) = pkey x) : pview (if b then (s.setTbl p t).updConn c f else s.setTbl p t) = pview s := by
  have h : pview (s.setTbl p t) = pview s := congrArg (List.map pkey) (Sys.setTbl_conns s p t)
  split
  · exact (pview_updConn _ c f hf).trans h
  · exact h

theorem subState_pview (c : Nat) (p : Bool) (s : Sys) (n : Bytes) : pview (s.subState c p n) = pview s :=
  pview_setTbl_upd s p _ _ c (fun x => { x with pubsub := x.pubsub + 1 }) (fun _ => rfl)

theorem unsubState_pview (c : Nat) (p : Bool) (s : Sys) (n : Bytes) : pview (s.unsubState c p n) = pview s :=
  pview_setTbl_upd s p _ _ c (fun x => { x with pubsub := x.pubsub - 1 }) (fun _ => rfl)

theorem emitS_pview (c : Nat) (s : Sys) (r : Reply) : pview (s.emitS c r) = pview s := by
  unfold pview; rw [Sys.emitS_srv]

theorem pk_open (mode : Mode) (hm : mode.async = false) (c : Nat) (v : List (Nat × Bool)) :
    Conserve.Open (fun s => pview s = v) mode c :=
  { (Conserve.StableBase.ofSetDb (c := c) (setDb := fun _ _ _ h => h)
      (conn := fun s f hf h => (pview_updConn s c f (by cases hf <;> exact fun _ => rfl)).trans h)
      (notify := fun s d k h => (pview_mapConns s (notifyFn d k) (fun x => by rw [notifyFn_fields]; rfl)).trans h)
      (hint := fun s s' h _ _ _ hs => by unfold pview at *; rw [h]; exact hs)
      (scripts := fun _ _ h => h) (lastsave := fun _ _ h => h)).toStable_ofSetDb (fun _ _ _ h => h)
        (fun s f hf h => (pview_updConn s c f (by
          cases hf with
          | park p => exact fun _ => rfl
          | pause p ha => rw [hm] at ha; cases ha)).trans h) with
    inTx := fun b s h => (pview_updConn s c (fun x => { x with inTx := b }) (fun _ => rfl)).trans h
    crash := fun _ _ h => h
    pub := fun ch m s h => by rw [publish_run]; exact h
    sub := fun p names s h =>
      (forM_subStep_frame pview c p (subState_pview c p) (emitS_pview c) names s).trans h
    unsub := fun p names s h =>
      (unsubscribeGen_frame pview c p (unsubState_pview c p) (emitS_pview c) names s).trans h }

theorem cleanupClosed_pview (v : List (Nat × Bool)) : Pres (fun s => pview s = v) cleanupClosed := by
  have hJ := Pres.seq fun s => pview s = v
  have hw : ∀ c', Pres (fun s => pview s = v) (clearWatches c') :=
    fun c' s h => (pview_updConn s c' (fun x => { x with watchNotified := false, watches := [] }) (fun _ => rfl)).trans h
  have hm : ∀ g : Sys → Sys, (∀ s, pview (g s) = pview s) → Pres (fun s => pview s = v) (modify g) :=
    fun g hg s h => (hg s).trans h
  unfold cleanupClosed
  seq_descend hJ [Pres.get, hw _, hm _ (fun _ => rfl)]

theorem pk_loop (mode : Mode) (hm : mode.async = false) (c : Nat) (v : List (Nat × Bool)) :
    Loop (@Pres fun s => pview s = v) mode c :=
  (pk_open mode hm c v).loop (fun r s h => by rw [emit_run]; exact (emitS_pview c s r).trans h) (cleanupClosed_pview v)
    (fun _ _ h => h) (fun f hf s h => (pview_updConn s c f (by cases hf <;> exact fun _ => rfl)).trans h)

end FR.C04q

import FR.Proofs.History
import FR.Proofs.Prologue
import FR.Proofs.Closure
import FR.Proofs.Events
import FR.Proofs.Request
import FR.Proofs.Hist
/-!
# Pub/sub over histories (C10 for `runHistory`): who is subscribed, who receives a PUBLISH

The subscription tables of `FakeServer` (`subscribers`, `psubscribers`) and the subscription count of every connection
stay consistent under every event; from that, who is subscribed is a function of the history, and a PUBLISH is delivered
to exactly the effective subscribers, in table order, at once or — queued inside MULTI — when EXEC runs.

Part 1: `view s`, what the pub/sub layer observes of a state.  An invariant of the view (`Frame`; `Frame0`, Part 3, when
it does not see the replies) survives every atomic state change of the command layer (`fr_closed`), so only `emit`,
`publish`, `subscribeGen`, `unsubscribeGen` (`Hyps I c`) and `cleanupClosed` remain to be shown (`fr_loop`, `fr_wake`).
`Frame` is a class so that the leaves `fr_*` find it; `Hyps` depends on the connection and is passed as a structure.
Part 2: the tables as association lists (`cnt`, `TblOK`, `stripAll`).  Part 3: the table invariant on the view (`PSInvV`)
and the view after each state change.  Part 4: `PSInv` after every `Legal` history.  Part 5: `_process_command` of the
pub/sub commands outside MULTI in closed form, between `prep` and `finish`.  Part 6: `IsSub` as a fold over the history
(`subscribedTo`) under `QuietFrom c`.  Part 7: the subscriber-mode gate.  Part 8: who receives a PUBLISH, in which
order, read off `outLog`.  Part 9: a PUBLISH queued inside MULTI is delivered at EXEC.  Part 10: `Decidable` instances.
-/
namespace FR.C04q

/-- the commands whose body changes the tables (EXEC: may run such commands); used by `special_pres_plain` below and by
nothing in `FR/Proofs/C04q.lean`: only the name is C04q's -/
def sensitiveNames : List String :=
  ["subscribe", "psubscribe", "unsubscribe", "punsubscribe", "exec"]

end FR.C04q

namespace FR.PubSubHist
open FR FR.M

/-! ## the view -/

/-- what the pub/sub layer observes of a connection record (`C11c.ckey` of `ListBooks.lean` is the list family's:
`db`, `closed`, `tx`) -/
def ckey (x : Conn) : Nat × Bool × Nat := (x.id, x.closed, x.pubsub)

structure View where
  subs : Tbl
  psubs : Tbl
  closedSockets : List Nat
  conns : List (Nat × Bool × Nat)
  out : List (Nat × Reply)

def view (s : Sys) : View := ⟨s.srv.subs, s.srv.psubs, s.srv.closedSockets, s.srv.conns.map ckey, s.out⟩

/-- an invariant that depends on the view only -/
class Frame (I : Sys → Prop) : Prop where
  frame : ∀ s s' : Sys, view s' = view s → I s → I s'

theorem map_key_congr {κ : Type} (key : Conn → κ) (l : List Conn) (g : Conn → Conn) (hg : ∀ x, key (g x) = key x) :
    (l.map g).map key = l.map key := by
  rw [List.map_map]
  exact List.map_congr_left (fun x _ => hg x)

theorem view_mapConns (s : Sys) (g : Conn → Conn) (hg : ∀ x, ckey (g x) = ckey x) :
    view (s.mapConns g) = view s := by
  unfold view Sys.mapConns
  simp only [map_key_congr ckey _ g hg]

theorem view_updConn (s : Sys) (c : Nat) (f : Conn → Conn) (hf : ∀ x, ckey (f x) = ckey x) :
    view (s.updConn c f) = view s := by
  rw [Sys.updConn_eq_mapConns]
  apply view_mapConns
  intro x; split
  · exact hf x
  · rfl

theorem ckey_conn_updConn (s : Sys) (c : Nat) (f : Conn → Conn) (hf : ∀ x, ckey (f x) = ckey x) (c' : Nat) :
    ckey ((s.updConn c f).conn c') = ckey (s.conn c') :=
  Sys.conn_updConn_proj s c c' f ckey (fun x => congrArg (·.1) (hf x)) hf

theorem ckey_notifyFn (d : Nat) (k : Bytes) (x : Conn) : ckey (notifyFn d k x) = ckey x := by
  unfold notifyFn; simp only; split <;> split <;> (try split) <;> rfl

section tower
variable {I : Sys → Prop} [Frame I]

theorem fr_modifyConn (c : Nat) (f : Conn → Conn) (hf : ∀ x, ckey (f x) = ckey x) : Pres I (modifyConn c f) :=
  fun s hs => Frame.frame s _ (view_updConn s c f hf) hs

theorem fr_modify (g : Sys → Sys) (h : ∀ s, view (g s) = view s) : Pres I (modify g) :=
  fun s hs => Frame.frame s _ (h s) hs

/-- No atomic state change of the command layer touches the view: not the tables, the closed sockets,
`(id, closed, pubsub)` of a record or the reply list. -/
theorem fr_serverStable : Conserve.ServerStable I :=
  Conserve.ServerStable.ofSetDb (setDb := fun s _ _ h => Frame.frame s _ rfl h)
    (notify := fun s d k h => Frame.frame s _ (view_mapConns s _ (ckey_notifyFn d k)) h)
    (hint := fun s s' h1 h2 _ _ hs => Frame.frame s s' (by unfold view; rw [h1, h2]) hs)
    (scripts := fun _ => fr_modify _ (fun _ => rfl)) (lastsave := fun _ => fr_modify _ (fun _ => rfl))

theorem fr_closed (mode : Mode) (c : Nat) : Conserve.Stable I mode c :=
  Conserve.StableBase.toStable_ofSetDb
    { fr_serverStable with
      conn := fun s f hf h => fr_modifyConn c f (by cases hf <;> exact fun _ => rfl) s h }
    (fun s _ _ h => Frame.frame s _ rfl h)
    (fun s f hf h => fr_modifyConn c f (by cases hf <;> exact fun _ => rfl) s h)

/-! ## `special`, `_run_command`, scripts, `_process_command`, the parser loop, the scheduler events -/

/-- what the view-changing primitives issued on behalf of connection `c` do to the invariant -/
structure Hyps (I : Sys → Prop) (c : Nat) : Prop where
  emit : ∀ r, Pres I (emit c r)
  pub : ∀ ch m, Pres I (publish ch m)
  sub : ∀ p names, Pres I (subscribeGen c p names)
  unsub : ∀ p names, Pres I (unsubscribeGen c p names)

theorem Hyps.toOpen {c : Nat} (H : Hyps I c) (mode : Mode) : Conserve.Open I mode c :=
  { fr_closed mode c with
    inTx := fun _ => fr_modifyConn c _ (fun _ => rfl), crash := fun _ => fr_modify _ (fun _ => rfl)
    pub := H.pub, sub := H.sub, unsub := H.unsub }

theorem fr_loop {c : Nat} (H : Hyps I c) (hclean : Pres I cleanupClosed) (mode : Mode) : Loop (@Pres I) mode c :=
  (H.toOpen mode).loop H.emit hclean (fun _ => fr_modify _ (fun _ => rfl))
    (fun f hf => fr_modifyConn c f (by cases hf <;> exact fun _ => rfl))

theorem processCommand_pres {c : Nat} (H : Hyps I c) (hclean : Pres I cleanupClosed) (mode : Mode) (fields : List Bytes) :
    Pres I (processCommand mode c fields) := (fr_loop H hclean mode).process fields

theorem drain_pres {c : Nat} (H : Hyps I c) (hclean : Pres I cleanupClosed) (mode : Mode) (fuel : Nat) :
    Pres I (drain mode c fuel) := drain_of (fr_loop H hclean mode).toDrain fuel

theorem sendall_pres {c : Nat} (H : Hyps I c) (hclean : Pres I cleanupClosed) (mode : Mode) (data : Bytes) :
    Pres I (sendall mode c data) := sendall_of (fr_loop H hclean mode) data

theorem sendallGuarded_pres {c : Nat} (H : Hyps I c) (hclean : Pres I cleanupClosed) (mode : Mode) (data : Bytes) :
    Pres I (sendallGuarded mode c data) := sendallGuarded_of (fr_loop H hclean mode) data

/-- releasing a blocked connection and waiting on do not touch the view; the reply does, through `hemit` -/
theorem fr_wake {c : Nat} (hemit : ∀ r, Pres I (emit c r)) : Wake (@Pres I) c where
  toSeq := Pres.seq I
  getConn := Pres.getConn c
  fault := fr_serverStable.fault
  emit := hemit
  unpark := fr_modifyConn c _ (fun _ => rfl)
  resume := fr_modifyConn c _ (fun _ => rfl)
  nextClock := fr_serverStable.nextClock
  parkedPass := fr_serverStable.parkedPass c
  stay := fun _ => fr_modifyConn c _ (fun _ => rfl)

theorem wakeConn_pres {c : Nat} (hemit : ∀ r, Pres I (emit c r)) : Pres I (wakeConn c) := (fr_wake hemit).wakeConn

theorem timeoutConn_pres {c : Nat} (hemit : ∀ r, Pres I (emit c r)) : Pres I (timeoutConn c) :=
  (fr_wake hemit).timeoutConn

theorem wakeConnAsync_pres {c : Nat} (H : Hyps I c) (hclean : Pres I cleanupClosed) (mode : Mode) :
    Pres I (wakeConnAsync mode c) := (fr_wake H.emit).wakeConnAsync mode (drain_pres H hclean mode)

theorem timeoutConnAsync_pres {c : Nat} (H : Hyps I c) (hclean : Pres I cleanupClosed) (mode : Mode) :
    Pres I (timeoutConnAsync mode c) := (fr_wake H.emit).timeoutConnAsync mode (drain_pres H hclean mode)

end tower

theorem Hyps.ofSteps {I : Sys → Prop} {c : Nat} (hemit : ∀ r, Pres I (M.emit c r)) (pub : ∀ ch m, Pres I (publish ch m))
    (sub : ∀ s p n, I s → I (s.subState c p n)) (unsub : ∀ s p n, I s → I (s.unsubState c p n)) : Hyps I c :=
  ⟨hemit, pub, Conserve.pres_subscribeGen hemit sub, Conserve.pres_unsubscribeGen hemit unsub⟩

/-! ## Part 2: the subscription tables -/

/-- number of entries of a table that list `c` -/
def cnt (t : Tbl) (c : Nat) : Nat := (t.filter fun p => p.2.contains c).length

/-- names are unique, every subscriber list is duplicate-free -/
def TblOK (t : Tbl) : Prop := (t.map Prod.fst).Nodup ∧ ∀ p ∈ t, p.2.Nodup

def upd (t : Tbl) (n : Bytes) (g : List Nat → List Nat) : Tbl :=
  t.map fun p => if p.1 == n then (p.1, g p.2) else p

theorem nodup_concat {α} {l : List α} {a : α} (h : l.Nodup) (ha : a ∉ l) : (l ++ [a]).Nodup := by
  rw [List.nodup_append]
  exact ⟨h, by simp, fun x hx y hy e => ha (by rw [← List.mem_singleton.1 hy, ← e]; exact hx)⟩

theorem cnt_nil (c : Nat) : cnt [] c = 0 := rfl

theorem cnt_cons (p : Bytes × List Nat) (t : Tbl) (c : Nat) :
    cnt (p :: t) c = (if p.2.contains c then 1 else 0) + cnt t c := by
  unfold cnt
  simp only [List.filter_cons]
  split <;> simp <;> omega

theorem cnt_append (t u : Tbl) (c : Nat) : cnt (t ++ u) c = cnt t c + cnt u c := by
  unfold cnt; simp

theorem upd_keys (t : Tbl) (n : Bytes) (g) : (upd t n g).map Prod.fst = t.map Prod.fst := by
  unfold upd
  rw [List.map_map]
  apply List.map_congr_left
  intro p _
  simp only [Function.comp]
  split <;> rfl

theorem lookup_none_of_not_mem (t : Tbl) (n : Bytes) (h : n ∉ t.map Prod.fst) : t.lookup n = none := by
  rw [List.lookup_eq_none_iff]; intro p hp; simp only [bne_iff_ne, ne_eq]
  exact fun e => h (List.mem_map.2 ⟨p, hp, e.symm⟩)

theorem not_mem_of_lookup_none (t : Tbl) (n : Bytes) (h : t.lookup n = none) : n ∉ t.map Prod.fst := by
  rw [List.lookup_eq_none_iff] at h; intro hm; obtain ⟨p, hp, e⟩ := List.mem_map.1 hm; simpa [e] using h p hp

theorem lookup_of_mem_nodup (t : Tbl) (n : Bytes) (cs : List Nat) (h : (t.map Prod.fst).Nodup) (hm : (n, cs) ∈ t) :
    t.lookup n = some cs := by
  induction t with
  | nil => cases hm
  | cons p t ih =>
    obtain ⟨k, v⟩ := p
    simp only [List.map_cons, List.nodup_cons] at h
    rcases List.mem_cons.1 hm with e | hm'
    · cases e; simp
    · have : n ≠ k := by
        rintro rfl
        exact h.1 (List.mem_map_of_mem (f := Prod.fst) hm')
      have h1 : (n == k) = false := by simpa using this
      simp only [List.lookup_cons, h1]
      exact ih h.2 hm'

theorem cnt_erase (t : Tbl) (n : Bytes) (cs : List Nat) (c : Nat) (h : (t.map Prod.fst).Nodup)
    (hl : t.lookup n = some cs) :
    cnt (t.filter fun p => p.1 != n) c + (if cs.contains c then 1 else 0) = cnt t c := by
  induction t with
  | nil => cases hl
  | cons p t ih =>
    obtain ⟨k, v⟩ := p
    simp only [List.map_cons, List.nodup_cons] at h
    simp only [List.lookup_cons] at hl
    cases hk : n == k
    · rw [hk] at hl
      have h1 : (k != n) = true := by
        have : n ≠ k := by simpa using hk
        simpa using fun e => this e.symm
      simp only [List.filter_cons, h1, if_true]
      rw [cnt_cons, cnt_cons]
      have := ih h.2 hl
      omega
    · rw [hk] at hl
      have e : n = k := by simpa using hk
      subst e
      cases hl
      have h1 : (n != n) = false := by simp
      simp only [List.filter_cons, h1, Bool.false_eq_true, if_false]
      have : (t.filter fun p => p.1 != n) = t := by
        rw [List.filter_eq_self]
        intro p hp
        have : p.1 ≠ n := by rintro rfl; exact h.1 (List.mem_map_of_mem hp)
        simpa using this
      rw [this, cnt_cons]
      simp only
      omega

theorem filter_upd (t : Tbl) (n : Bytes) (g) :
    (upd t n g).filter (fun p => p.1 != n) = t.filter (fun p => p.1 != n) := by
  induction t with
  | nil => rfl
  | cons p t ih =>
    have hc : upd (p :: t) n g = (if p.1 == n then (p.1, g p.2) else p) :: upd t n g := rfl
    rw [hc, List.filter_cons, List.filter_cons, ih]
    by_cases hp : p.1 = n
    · simp [hp]
    · have : (p.1 == n) = false := by simpa using hp
      simp [this]

theorem cnt_upd (t : Tbl) (n : Bytes) (g) (cs : List Nat) (c : Nat) (h : (t.map Prod.fst).Nodup)
    (hl : t.lookup n = some cs) :
    cnt (upd t n g) c + (if cs.contains c then 1 else 0) = cnt t c + (if (g cs).contains c then 1 else 0) := by
  have h1 := cnt_erase (upd t n g) n (g cs) c (by rw [upd_keys]; exact h)
    (by unfold upd; rw [lookup_map_upd t n g, hl]; rfl)
  have h2 := cnt_erase t n cs c h hl
  rw [filter_upd] at h1
  omega

theorem entry_eq_of_lookup (t : Tbl) (n : Bytes) (cs : List Nat) (h : (t.map Prod.fst).Nodup)
    (hl : t.lookup n = some cs) (q : Bytes × List Nat) (hq : q ∈ t) (hn : q.1 = n) : q.2 = cs := by
  obtain ⟨k, v⟩ := q
  simp only at hn; subst hn
  have := lookup_of_mem_nodup t k v h hq
  rw [hl] at this
  exact (Option.some.inj this).symm

/-! ### `setEntry`, and with it `tblSubscribe` and `tblUnsubscribe` -/

theorem tblOK_upd (t : Tbl) (n : Bytes) (g) (h : TblOK t) (hg : ∀ q ∈ t, q.1 = n → (g q.2).Nodup) :
    TblOK (upd t n g) := by
  refine ⟨by rw [upd_keys]; exact h.1, ?_⟩
  intro p hp
  simp only [upd, List.mem_map] at hp
  obtain ⟨q, hq, rfl⟩ := hp
  split
  · rename_i hqn
    exact hg q hq (by simpa using hqn)
  · exact h.2 q hq

theorem tblOK_filter (t : Tbl) (f : Bytes × List Nat → Bool) (h : TblOK t) : TblOK (t.filter f) := by
  refine ⟨?_, fun p hp => h.2 p (List.mem_filter.1 hp).1⟩
  exact List.Nodup.sublist (List.Sublist.map _ List.filter_sublist) h.1

theorem nodup_tblMembers (t : Tbl) (n : Bytes) (h : TblOK t) : (tblMembers t n).Nodup := by
  unfold tblMembers
  cases hl : t.lookup n with
  | none => exact List.nodup_nil
  | some cs => exact h.2 (n, cs) (lookup_mem t n cs hl)

/-- listed under `n`: by an entry of that name (the converse, for unique names: `mem_members_of_mem`) -/
theorem mem_tblMembers (t : Tbl) (n : Bytes) (x : Nat) (hx : x ∈ tblMembers t n) : ∃ cs, (n, cs) ∈ t ∧ x ∈ cs := by
  unfold tblMembers at hx
  cases hl : t.lookup n with
  | none => rw [hl] at hx; cases hx
  | some cs => rw [hl] at hx; exact ⟨cs, lookup_mem t n cs hl, hx⟩

theorem tblOK_setEntry (t : Tbl) (n : Bytes) (g) (h : TblOK t) (hg : (g (tblMembers t n)).Nodup) :
    TblOK (setEntry t n g) := by
  unfold tblMembers at hg
  unfold setEntry
  cases hl : t.lookup n with
  | none =>
    rw [hl] at hg
    refine ⟨?_, ?_⟩
    · simp only [List.map_append, List.map_cons, List.map_nil]
      exact nodup_concat h.1 (not_mem_of_lookup_none t _ hl)
    · intro p hp
      rcases List.mem_append.1 hp with hp | hp
      · exact h.2 p hp
      · simp only [List.mem_singleton] at hp; subst hp; exact hg
  | some cs =>
    rw [hl] at hg
    simp only
    split
    · exact tblOK_filter t _ h
    · refine tblOK_upd t n g h (fun q hq hqn => ?_)
      rw [entry_eq_of_lookup t n cs h.1 hl q hq hqn]
      exact hg

theorem cnt_setEntry (t : Tbl) (n : Bytes) (g) (c : Nat) (h : (t.map Prod.fst).Nodup) :
    cnt (setEntry t n g) c + (if (tblMembers t n).contains c then 1 else 0) =
      cnt t c + (if (g (tblMembers t n)).contains c then 1 else 0) := by
  unfold setEntry tblMembers
  cases hl : t.lookup n with
  | none =>
    simp only [Option.getD_none]
    rw [cnt_append, cnt_cons, cnt_nil]
    simp
  | some cs =>
    simp only [Option.getD_some]
    split
    · rename_i he
      have := cnt_erase t n cs c h hl
      simp only [List.isEmpty_iff.mp he]
      simpa using this
    · exact cnt_upd t n g cs c h hl

theorem mem_setEntry (t : Tbl) (n : Bytes) (g) (p : Bytes × List Nat) (hp : p ∈ setEntry t n g) :
    p ∈ t ∨ (∃ q ∈ t, p.2 = g q.2 ∧ g (tblMembers t n) ≠ []) ∨ (t.lookup n = none ∧ p = (n, g [])) := by
  unfold setEntry at hp
  unfold tblMembers
  cases hl : t.lookup n with
  | none =>
    rw [hl] at hp
    rcases List.mem_append.1 hp with h | h
    · exact .inl h
    · exact .inr (.inr ⟨rfl, by simpa using h⟩)
  | some cs =>
    rw [hl] at hp
    simp only at hp
    split at hp
    · exact .inl (List.mem_filter.1 hp).1
    · rename_i he
      obtain ⟨q, hq, rfl⟩ := List.mem_map.1 hp
      split
      · exact .inr (.inl ⟨q, hq, rfl, fun e => he (by rw [Option.getD_some] at e; rw [e]; rfl)⟩)
      · exact .inl hq

theorem mem_members_subscribe (t : Tbl) (n : Bytes) (c0 c : Nat) (m : Bytes) :
    c ∈ tblMembers (tblSubscribe t n c0).1 m ↔ c ∈ tblMembers t m ∨ (c = c0 ∧ m = n) := by
  by_cases hm : m = n
  · subst hm
    rw [tblSubscribe_members]
    split
    · rename_i h
      constructor
      · exact .inl
      · rintro (h' | ⟨rfl, _⟩)
        · exact h'
        · simpa using h
    · simp only [List.mem_append, List.mem_singleton]
      constructor
      · rintro (h' | h')
        · exact .inl h'
        · exact .inr ⟨h', trivial⟩
      · rintro (h' | ⟨h', _⟩)
        · exact .inl h'
        · exact .inr h'
  · rw [tblSubscribe_members_ne t n m c0 hm]
    constructor
    · exact .inl
    · rintro (h' | ⟨_, h'⟩)
      · exact h'
      · exact absurd h' hm

theorem mem_members_unsubscribe (t : Tbl) (n : Bytes) (c0 c : Nat) (m : Bytes) :
    c ∈ tblMembers (tblUnsubscribe t n c0).1 m ↔ c ∈ tblMembers t m ∧ ¬ (c = c0 ∧ m = n) := by
  by_cases hm : m = n
  · subst hm
    rw [tblUnsubscribe_members, List.mem_filter]
    constructor
    · rintro ⟨h1, h2⟩
      exact ⟨h1, fun ⟨e, _⟩ => by simp [e] at h2⟩
    · rintro ⟨h1, h2⟩
      refine ⟨h1, ?_⟩
      have : c ≠ c0 := fun e => h2 ⟨e, rfl⟩
      simpa using this
  · rw [tblUnsubscribe_members_ne t n m c0 hm]
    constructor
    · exact fun h => ⟨h, fun ⟨_, e⟩ => hm e⟩
    · exact fun h => h.1

theorem mem_members_of_mem {t : Tbl} (h : (t.map Prod.fst).Nodup) {p : Bytes × List Nat} (hp : p ∈ t) {x : Nat}
    (hx : x ∈ p.2) : x ∈ tblMembers t p.1 := by
  unfold tblMembers; rw [lookup_of_mem_nodup t p.1 p.2 h hp]; exact hx

/-- whoever is listed after an entry has been rewritten is in the new member list of that entry or was listed before -/
theorem listed_setEntry (t : Tbl) (n : Bytes) (g) (h : TblOK t) (hg : (g (tblMembers t n)).Nodup)
    (e : Bytes × List Nat) (he : e ∈ setEntry t n g) (x : Nat) (hx : x ∈ e.2) :
    x ∈ g (tblMembers t n) ∨ ∃ q ∈ t, x ∈ q.2 := by
  have hm := mem_members_of_mem (tblOK_setEntry t n g h hg).1 he hx
  rw [tblMembers_setEntry] at hm
  split at hm
  · exact .inl hm
  · obtain ⟨cs, h1, h2⟩ := mem_tblMembers t e.1 x hm
    exact .inr ⟨_, h1, h2⟩

/-- (P)UNSUBSCRIBE never leaves an empty subscriber list behind: an entry that becomes empty is removed -/
theorem unsubscribe_no_new_empty (t : Tbl) (n : Bytes) (c : Nat) (p : Bytes × List Nat)
    (hp : p ∈ (tblUnsubscribe t n c).1) (he : p.2 = []) : p ∈ t := by
  rw [tblUnsubscribe_eq] at hp
  split at hp
  · rename_i hc
    rcases mem_setEntry t n _ p hp with h | ⟨_, _, e, hne⟩ | ⟨hl, _⟩
    · exact h
    · exact absurd (e.symm.trans he) hne
    · unfold tblMembers at hc; rw [hl] at hc; cases hc
  · exact hp

theorem subscribe_no_new_empty (t : Tbl) (n : Bytes) (c : Nat) (p : Bytes × List Nat)
    (hp : p ∈ (tblSubscribe t n c).1) (he : p.2 = []) : p ∈ t := by
  rw [tblSubscribe_eq] at hp
  split at hp
  · exact hp
  · rcases mem_setEntry t n _ p hp with h | ⟨_, _, e, _⟩ | ⟨_, rfl⟩
    · exact h
    · rw [he] at e; simp at e
    · cases he

/-! ### `stripAll` (clean-up, garbage collection) -/

theorem tblOK_stripAll (t : Tbl) (l : List Nat) (h : TblOK t) : TblOK (stripAll t l) := by
  refine ⟨by rw [stripAll_keys]; exact h.1, ?_⟩
  intro p hp
  simp only [stripAll, List.mem_map] at hp
  obtain ⟨q, hq, rfl⟩ := hp
  exact List.Nodup.sublist List.filter_sublist (h.2 q hq)

theorem cnt_stripAll (t : Tbl) (l : List Nat) (c : Nat) (hc : c ∉ l) : cnt (stripAll t l) c = cnt t c := by
  induction t with
  | nil => rfl
  | cons p t ih =>
    have : stripAll (p :: t) l = (p.1, p.2.filter fun x => !l.contains x) :: stripAll t l := rfl
    rw [this, cnt_cons, cnt_cons, ih]
    have : (p.2.filter fun x => !l.contains x).contains c = p.2.contains c := by
      cases hh : p.2.contains c
      · have : c ∉ p.2 := by simpa using hh
        simp [this]
      · have : c ∈ p.2 := by simpa using hh
        simp [this, hc]
    simp only [this]

theorem cnt_stripAll_mem (t : Tbl) (l : List Nat) (c : Nat) (hc : c ∈ l) : cnt (stripAll t l) c = 0 := by
  unfold cnt
  rw [List.length_eq_zero_iff, List.filter_eq_nil_iff]
  intro p hp
  have := mem_stripAll_entry t l p hp c hc
  simpa using this

theorem mem_stripAll_elem (t : Tbl) (l : List Nat) (p : Bytes × List Nat) (hp : p ∈ stripAll t l)
    (x : Nat) (hx : x ∈ p.2) : x ∉ l ∧ ∃ q ∈ t, x ∈ q.2 := by
  simp only [stripAll, List.mem_map] at hp
  obtain ⟨q, hq, rfl⟩ := hp
  simp only [List.mem_filter] at hx
  exact ⟨by simpa using hx.2, q, hq, hx.1⟩

theorem mem_members_stripAll (t : Tbl) (l : List Nat) (n : Bytes) (c : Nat) :
    c ∈ tblMembers (stripAll t l) n ↔ c ∈ tblMembers t n ∧ c ∉ l := by
  rw [tblMembers_stripAll, List.mem_filter]; simp

theorem stripTbl_eq (t : Tbl) (c : Nat) : stripTbl t c = stripAll t [c] := (stripAll_singleton t c).symm

theorem listed_strip {t : Tbl} {l : List Nat} {P : Nat → Prop} (ht : ∀ e ∈ t, ∀ c ∈ e.2, P c)
    {e : Bytes × List Nat} (he : e ∈ stripAll t l) {x : Nat} (hx : x ∈ e.2) : x ∉ l ∧ P x :=
  let ⟨hxl, q, hq, hxq⟩ := mem_stripAll_elem t l e he x hx
  ⟨hxl, ht q hq x hxq⟩

theorem cnt_zero_of_not_listed (t : Tbl) (c : Nat) (h : ∀ p ∈ t, c ∉ p.2) : cnt t c = 0 := by
  unfold cnt
  rw [List.length_eq_zero_iff, List.filter_eq_nil_iff]
  intro p hp
  simpa using h p hp

/-! ## Part 3: the table invariant -/

def View.tbl (v : View) (p : Bool) : Tbl := if p then v.psubs else v.subs

/-- the view without the emitted replies -/
def View.core (v : View) : Tbl × Tbl × List Nat × List (Nat × Bool × Nat) := (v.subs, v.psubs, v.closedSockets, v.conns)

/-- an invariant that depends on tables, closed sockets and `(id, closed, pubsub)` of the connections only -/
class Frame0 (I : Sys → Prop) : Prop where
  frame0 : ∀ s s' : Sys, (view s').core = (view s).core → I s → I s'

instance {I : Sys → Prop} [Frame0 I] : Frame I where
  frame s s' h hs := Frame0.frame0 s s' (by rw [h]) hs

theorem emitS_core (s : Sys) (c : Nat) (r : Reply) : (view (s.emitS c r)).core = (view s).core := by
  unfold Sys.emitS; split <;> rfl

theorem f0_emit {I : Sys → Prop} [Frame0 I] (c : Nat) (r : Reply) : Pres I (emit c r) := by
  intro s hs
  rw [emit_run]
  exact Frame0.frame0 s _ (emitS_core s c r) hs

theorem f0_publish {I : Sys → Prop} [Frame0 I] (ch msg : Bytes) : Pres I (publish ch msg) := by
  intro s hs
  rw [publish_run]
  exact Frame0.frame0 s _ rfl hs

/-- `Hyps` of an invariant that does not see the reply list: the reply and PUBLISH keep it -/
theorem Hyps.ofFrame0 {I : Sys → Prop} [Frame0 I] {c : Nat} (sub : ∀ s p n, I s → I (s.subState c p n))
    (unsub : ∀ s p n, I s → I (s.unsubState c p n)) : Hyps I c :=
  .ofSteps (f0_emit c) f0_publish sub unsub

/-- the table invariant, on the view -/
structure PSInvV (v : View) : Prop where
  tblOK : ∀ q, TblOK (v.tbl q)
  ids : (v.conns.map (·.1)).Nodup
  listed : ∀ q, ∀ e ∈ v.tbl q, ∀ c ∈ e.2, ∃ k ∈ v.conns, k.1 = c ∧ (k.2.1 = true → c ∈ v.closedSockets)
  count : ∀ k ∈ v.conns, k.2.1 = false → k.2.2 = cnt v.subs k.1 + cnt v.psubs k.1
  pending : ∀ c ∈ v.closedSockets, ∃ k ∈ v.conns, k.1 = c ∧ k.2.1 = true

/-- connection `c` is registered and not closed -/
def OpenV (v : View) (c : Nat) : Prop := ∃ k ∈ v.conns, k.1 = c ∧ k.2.1 = false

theorem PSInvV.of_core {v v' : View} (h : PSInvV v) (e : v'.core = v.core) : PSInvV v' := by
  obtain ⟨a1, a2, a3, a4, a5⟩ := v
  obtain ⟨b1, b2, b3, b4, b5⟩ := v'
  simp only [View.core, Prod.mk.injEq] at e
  obtain ⟨rfl, rfl, rfl, rfl⟩ := e
  exact ⟨h.tblOK, h.ids, h.listed, h.count, h.pending⟩

theorem OpenV.of_core {v v' : View} {c : Nat} (h : OpenV v c) (e : v'.core = v.core) : OpenV v' c := by
  have : v'.conns = v.conns := by
    have := congrArg (fun x => x.2.2.2) e
    exact this
  unfold OpenV; rw [this]; exact h

/-! ### a change of one table together with the subscription count of `c` -/

theorem map_fst_map (l : List (Nat × Bool × Nat)) (f : Nat × Bool × Nat → Nat × Bool × Nat) (hf : ∀ k, (f k).1 = k.1) :
    (l.map f).map (·.1) = l.map (·.1) := by
  rw [List.map_map]
  exact List.map_congr_left (fun k _ => hf k)

def bump (c : Nat) (g : Nat → Nat) (k : Nat × Bool × Nat) : Nat × Bool × Nat :=
  if k.1 == c then (k.1, k.2.1, g k.2.2) else k

theorem bump_fst (c g k) : (bump c g k).1 = k.1 := by unfold bump; split <;> rfl
theorem bump_closed (c g k) : (bump c g k).2.1 = k.2.1 := by unfold bump; split <;> rfl
theorem bump_cnt (c g k) : (bump c g k).2.2 = if k.1 = c then g k.2.2 else k.2.2 := by
  unfold bump; by_cases e : k.1 = c <;> simp [e]
theorem bump_id (c k) : bump c id k = k := by unfold bump; split <;> rfl
theorem map_bump_id (c : Nat) (l : List (Nat × Bool × Nat)) : l.map (bump c id) = l := by
  conv => rhs; rw [← List.map_id l]
  exact List.map_congr_left (fun k _ => bump_id c k)

def chgV (v : View) (p : Bool) (t' : Tbl) (c : Nat) (g : Nat → Nat) : View :=
  ⟨if p then v.subs else t', if p then t' else v.psubs, v.closedSockets, v.conns.map (bump c g), v.out⟩

theorem chgV_tbl (v : View) (p : Bool) (t' : Tbl) (c : Nat) (g) (q : Bool) :
    (chgV v p t' c g).tbl q = if q = p then t' else v.tbl q := by
  cases q <;> cases p <;> rfl

theorem chgV_same (v : View) (p : Bool) (c : Nat) : chgV v p (v.tbl p) c id = v := by
  unfold chgV; rw [map_bump_id]; cases p <;> rfl

/-- the two counts of a connection, the table `p` first -/
theorem cnt_both (v : View) (p : Bool) (x : Nat) :
    cnt v.subs x + cnt v.psubs x = cnt (v.tbl p) x + cnt (v.tbl (!p)) x := by
  cases p
  · rfl
  · exact Nat.add_comm _ _

theorem lift_map {l : List (Nat × Bool × Nat)} {f : Nat × Bool × Nat → Nat × Bool × Nat} (hf : ∀ k, (f k).1 = k.1)
    {x : Nat} {Q Q' : Nat × Bool × Nat → Prop} (hQ : ∀ k, k.1 = x → Q k → Q' (f k))
    (h : ∃ k ∈ l, k.1 = x ∧ Q k) : ∃ k ∈ l.map f, k.1 = x ∧ Q' k := by
  obtain ⟨k, hk, h1, h2⟩ := h
  exact ⟨f k, List.mem_map_of_mem hk, (hf k).trans h1, hQ k h1 h2⟩

theorem lift_conn {l : List (Nat × Bool × Nat)} {c : Nat} {g} {x : Nat} {Q : Bool → Prop}
    (h : ∃ k ∈ l, k.1 = x ∧ Q k.2.1) : ∃ k ∈ l.map (bump c g), k.1 = x ∧ Q k.2.1 :=
  lift_map (bump_fst c g) (fun k _ hq => by rw [bump_closed]; exact hq) h

theorem psinv_chg (v : View) (p : Bool) (t' : Tbl) (c : Nat) (g : Nat → Nat)
    (h : PSInvV v) (ho : OpenV v c) (ht : TblOK t')
    (hmem : ∀ e ∈ t', ∀ x ∈ e.2, x = c ∨ ∃ q ∈ v.tbl p, x ∈ q.2)
    (hne : ∀ c', c' ≠ c → cnt t' c' = cnt (v.tbl p) c')
    (hg : ∀ m, g (cnt (v.tbl p) c + m) = cnt t' c + m) :
    PSInvV (chgV v p t' c g) := by
  have hopen : ∃ k ∈ v.conns.map (bump c g), k.1 = c ∧ (k.2.1 = true → c ∈ v.closedSockets) := by
    obtain ⟨k, hk, h1, h2⟩ := ho
    exact lift_conn (Q := fun b => b = true → c ∈ v.closedSockets) ⟨k, hk, h1, by rw [h2]; intro x; cases x⟩
  have hold : ∀ q, ∀ e ∈ v.tbl q, ∀ x ∈ e.2,
      ∃ k ∈ v.conns.map (bump c g), k.1 = x ∧ (k.2.1 = true → x ∈ v.closedSockets) :=
    fun q e he x hx => lift_conn (Q := fun b => b = true → x ∈ v.closedSockets) (h.listed q e he x hx)
  have hnew : ∀ e ∈ t', ∀ x ∈ e.2,
      ∃ k ∈ v.conns.map (bump c g), k.1 = x ∧ (k.2.1 = true → x ∈ v.closedSockets) := by
    intro e he x hx
    rcases hmem e he x hx with rfl | ⟨q, hq, hxq⟩
    · exact hopen
    · exact hold p q hq x hxq
  refine ⟨?_, ?_, ?_, ?_, ?_⟩
  · intro q
    rw [chgV_tbl]
    split
    · exact ht
    · exact h.tblOK q
  · show ((v.conns.map (bump c g)).map (·.1)).Nodup
    rw [map_fst_map _ _ (bump_fst c g)]; exact h.ids
  · intro q e he x hx
    rw [chgV_tbl] at he
    split at he
    · exact hnew e he x hx
    · exact hold q e he x hx
  · intro k' hk' hcl
    obtain ⟨k, hk, rfl⟩ := List.mem_map.1 hk'
    rw [bump_closed] at hcl
    have hc := h.count k hk hcl
    rw [cnt_both v p] at hc
    show (bump c g k).2.2 = cnt (chgV v p t' c g).subs (bump c g k).1 + cnt (chgV v p t' c g).psubs (bump c g k).1
    rw [cnt_both _ p, chgV_tbl, chgV_tbl, if_pos rfl, if_neg (Bool.not_eq_self p).1, bump_fst, bump_cnt, hc]
    split
    · rename_i e
      rw [e]; exact hg _
    · rename_i e
      rw [hne k.1 e]
  · exact fun x hx => lift_conn (Q := (· = true)) (h.pending x hx)

theorem openV_chg (v : View) (p : Bool) (t' : Tbl) (c c' : Nat) (g : Nat → Nat) (h : OpenV v c') :
    OpenV (chgV v p t' c g) c' := lift_conn (Q := (· = false)) h

/-! ### the views of the state transformers -/

theorem map_ckey_upd (l : List Conn) (c : Nat) (f : Conn → Conn) (κ : Nat × Bool × Nat → Nat × Bool × Nat)
    (hf : ∀ x, ckey (f x) = κ (ckey x)) :
    (l.map fun x => if x.id == c then f x else x).map ckey = (l.map ckey).map fun k => if k.1 == c then κ k else k := by
  rw [List.map_map, List.map_map]
  apply List.map_congr_left
  intro x _
  show ckey (if x.id == c then f x else x) = if (ckey x).1 == c then κ (ckey x) else ckey x
  have : (ckey x).1 = x.id := rfl
  rw [this]
  cases x.id == c
  · rfl
  · exact hf x

theorem view_updConn_bump (s : Sys) (c : Nat) (f : Conn → Conn) (g : Nat → Nat)
    (hf : ∀ x, ckey (f x) = (x.id, x.closed, g x.pubsub)) :
    view (s.updConn c f) = ⟨s.srv.subs, s.srv.psubs, s.srv.closedSockets, (s.srv.conns.map ckey).map (bump c g), s.out⟩ :=
  congrArg (View.mk _ _ _ · _) (map_ckey_upd _ c f (fun k => (k.1, k.2.1, g k.2.2)) hf)

theorem view_tbl (s : Sys) (p : Bool) : (view s).tbl p = s.tbl p := by cases p <;> rfl

/-- table `p` replaced and, if `b`, the subscription count of `c` changed by `δ`: the shape of `Sys.subState` and of
`Sys.unsubState` -/
theorem view_setTbl (s : Sys) (c : Nat) (p : Bool) (t' : Tbl) (b : Bool) (δ : Nat → Nat) :
    view (if b then (s.setTbl p t').updConn c fun x => { x with pubsub := δ x.pubsub } else s.setTbl p t') =
      chgV (view s) p t' c (if b then δ else id) := by
  cases b
  · simp only [Bool.false_eq_true, if_false]
    unfold chgV
    rw [map_bump_id]
    cases p <;> rfl
  · simp only [if_true]
    rw [view_updConn_bump _ c (fun x => { x with pubsub := δ x.pubsub }) δ (fun _ => rfl)]
    cases p <;> rfl

theorem view_subState (s : Sys) (c : Nat) (p : Bool) (n : Bytes) :
    view (s.subState c p n) =
      chgV (view s) p (tblSubscribe ((view s).tbl p) n c).1 c
        (if (tblSubscribe ((view s).tbl p) n c).2 then (· + 1) else id) := by
  rw [view_tbl]; exact view_setTbl s c p _ _ (· + 1)

theorem view_unsubState (s : Sys) (c : Nat) (p : Bool) (n : Bytes) :
    view (s.unsubState c p n) =
      chgV (view s) p (tblUnsubscribe ((view s).tbl p) n c).1 c
        (if (tblUnsubscribe ((view s).tbl p) n c).2 then (· - 1) else id) := by
  rw [view_tbl]; exact view_setTbl s c p _ _ (· - 1)

/-- the entry of `n` in table `p` rewritten by `g` so that at most the membership of `c` changes, the subscription count
of `c` following by `δ`: what a (P)SUBSCRIBE or (P)UNSUBSCRIBE of `c` that changes the table does -/
theorem psinv_setEntry (v : View) (p : Bool) (n : Bytes) (c : Nat) (g : List Nat → List Nat) (δ : Nat → Nat)
    (h : PSInvV v) (ho : OpenV v c) (hnd : (g (tblMembers (v.tbl p) n)).Nodup)
    (hoth : ∀ x, x ≠ c → (x ∈ g (tblMembers (v.tbl p) n) ↔ x ∈ tblMembers (v.tbl p) n))
    (hδ : ∀ k k', k' + (if (tblMembers (v.tbl p) n).contains c then 1 else 0) =
      k + (if (g (tblMembers (v.tbl p) n)).contains c then 1 else 0) → δ k = k') :
    PSInvV (chgV v p (setEntry (v.tbl p) n g) c δ) := by
  have hok := h.tblOK p
  refine psinv_chg v p _ c δ h ho (tblOK_setEntry _ n g hok hnd) (fun e he x hx => ?_) (fun c' hc' => ?_)
    (fun m => hδ _ _ ?_)
  · rcases listed_setEntry _ n g hok hnd e he x hx with hx' | hx'
    · by_cases hxc : x = c
      · exact .inl hxc
      · obtain ⟨cs, h1, h2⟩ := mem_tblMembers _ n x ((hoth x hxc).1 hx')
        exact .inr ⟨_, h1, h2⟩
    · exact .inr hx'
  · have := cnt_setEntry (v.tbl p) n g c' hok.1
    have hb : (g (tblMembers (v.tbl p) n)).contains c' = (tblMembers (v.tbl p) n).contains c' := by
      rw [Bool.eq_iff_iff]; simpa using hoth c' hc'
    rw [hb] at this
    omega
  · have := cnt_setEntry (v.tbl p) n g c hok.1
    omega

theorem psinv_subState (s : Sys) (c : Nat) (p : Bool) (n : Bytes) (h : PSInvV (view s)) (ho : OpenV (view s) c) :
    PSInvV (view (s.subState c p n)) := by
  rw [view_subState, tblSubscribe_eq]
  split
  · simp only [Bool.false_eq_true, if_false]
    rw [chgV_same]; exact h
  · rename_i hc
    simp only [if_true]
    have hc' : c ∉ tblMembers ((view s).tbl p) n := by simpa using hc
    refine psinv_setEntry _ p n c _ _ h ho (nodup_concat (nodup_tblMembers _ n (h.tblOK p)) hc')
      (fun x hx => by simp [hx]) (fun k k' e => ?_)
    simp [hc'] at e
    omega

theorem psinv_unsubState (s : Sys) (c : Nat) (p : Bool) (n : Bytes) (h : PSInvV (view s)) (ho : OpenV (view s) c) :
    PSInvV (view (s.unsubState c p n)) := by
  rw [view_unsubState, tblUnsubscribe_eq]
  split
  · rename_i hc
    simp only [if_true]
    refine psinv_setEntry _ p n c _ _ h ho (List.Nodup.sublist List.filter_sublist (nodup_tblMembers _ n (h.tblOK p)))
      (fun x hx => by simp [hx]) (fun k k' e => ?_)
    have hc' : c ∈ tblMembers ((view s).tbl p) n := by simpa using hc
    simp [hc'] at e
    omega
  · simp only [Bool.false_eq_true, if_false]
    rw [chgV_same]; exact h

/-! ### clean-up -/

theorem forget_conns (s : Sys) (c : Nat) :
    (s.forget c).srv.conns = s.srv.conns.map fun x => if x.id == c then Conn.cleared x else x := rfl

theorem foldl_forget_ckeys (l : List Nat) (s : Sys) :
    (l.foldl Sys.forget s).srv.conns.map ckey = s.srv.conns.map ckey := by
  induction l generalizing s with
  | nil => rfl
  | cons a as ih =>
    rw [List.foldl_cons, ih, forget_conns]
    apply map_key_congr
    intro x; split <;> rfl

theorem foldl_forget_out (l : List Nat) (s : Sys) : (l.foldl Sys.forget s).out = s.out := by rw [foldl_forget_eq]

def cleanV (v : View) : View :=
  ⟨stripAll v.subs v.closedSockets, stripAll v.psubs v.closedSockets, [], v.conns, v.out⟩

theorem cleanV_tbl (v : View) (q : Bool) : (cleanV v).tbl q = stripAll (v.tbl q) v.closedSockets := by cases q <;> rfl

theorem view_cleanup (s : Sys) : view (cleanupClosed s).2 = cleanV (view s) := by
  rw [cleanupClosed_run]
  unfold cleanV view Sys.clearClosed
  simp only [foldl_forget_subs, foldl_forget_psubs, foldl_forget_ckeys, foldl_forget_out]

theorem eq_of_fst_eq {l : List (Nat × Bool × Nat)} (h : (l.map (·.1)).Nodup) {k k' : Nat × Bool × Nat}
    (hk : k ∈ l) (hk' : k' ∈ l) (e : k.1 = k'.1) : k = k' := by
  induction l with
  | nil => cases hk
  | cons a l ih =>
    simp only [List.map_cons, List.nodup_cons] at h
    rcases List.mem_cons.1 hk with e1 | hk1
    · rcases List.mem_cons.1 hk' with e2 | hk2
      · rw [e1, e2]
      · subst e1
        exact absurd (by rw [e]; exact List.mem_map_of_mem (f := (·.1)) hk2) h.1
    · rcases List.mem_cons.1 hk' with e2 | hk2
      · subst e2
        exact absurd (by rw [← e]; exact List.mem_map_of_mem (f := (·.1)) hk1) h.1
      · exact ih h.2 hk1 hk2

theorem psinv_clean (v : View) (h : PSInvV v) : PSInvV (cleanV v) := by
  refine ⟨?_, h.ids, ?_, ?_, ?_⟩
  · intro q
    rw [cleanV_tbl]; exact tblOK_stripAll _ _ (h.tblOK q)
  · intro q e he x hx
    rw [cleanV_tbl] at he
    obtain ⟨hxl, k, hk, h1, h2⟩ := listed_strip (h.listed q) he hx
    exact ⟨k, hk, h1, fun hcl => absurd (h2 hcl) hxl⟩
  · intro k hk hcl
    have hnot : k.1 ∉ v.closedSockets := by
      intro hin
      obtain ⟨k', hk', h1, h2⟩ := h.pending k.1 hin
      have := eq_of_fst_eq h.ids hk' hk h1
      rw [this] at h2
      rw [hcl] at h2; cases h2
    show k.2.2 = cnt (stripAll v.subs v.closedSockets) k.1 + cnt (stripAll v.psubs v.closedSockets) k.1
    rw [cnt_stripAll _ _ _ hnot, cnt_stripAll _ _ _ hnot]
    exact h.count k hk hcl
  · intro c hc; cases hc

/-! ### close, garbage collection, open -/

def mark (c : Nat) (k : Nat × Bool × Nat) : Nat × Bool × Nat := if k.1 == c then (k.1, true, k.2.2) else k

def closeV (v : View) (c : Nat) : View :=
  ⟨v.subs, v.psubs, v.closedSockets ++ [c], v.conns.map (mark c), v.out⟩

theorem view_close (s : Sys) (c : Nat) : view (closeConn c s).2 = closeV (view s) c := by
  rw [closeConn_run]
  exact congrArg (View.mk _ _ _ · _)
    (map_ckey_upd _ c (fun x => { x with closed := true }) (fun k => (k.1, true, k.2.2)) (fun _ => rfl))

theorem mark_fst (c k) : (mark c k).1 = k.1 := by unfold mark; split <;> rfl
theorem mark_cnt (c k) : (mark c k).2.2 = k.2.2 := by unfold mark; split <;> rfl
theorem mark_closed (c k) : (mark c k).2.1 = (k.1 == c || k.2.1) := by
  unfold mark; split <;> simp [*]

theorem psinv_close (v : View) (c : Nat) (h : PSInvV v) (hc : ∃ k ∈ v.conns, k.1 = c) : PSInvV (closeV v c) := by
  have lift : ∀ x, (∃ k ∈ v.conns, k.1 = x ∧ (k.2.1 = true → x ∈ v.closedSockets)) →
      ∃ k ∈ v.conns.map (mark c), k.1 = x ∧ (k.2.1 = true → x ∈ v.closedSockets ++ [c]) := fun x =>
    lift_map (mark_fst c) fun k h1 h2 hcl => by
      rw [mark_closed, Bool.or_eq_true, beq_iff_eq] at hcl
      rcases hcl with e | hcl
      · rw [← h1, e]; exact List.mem_append_right _ (List.mem_singleton_self c)
      · exact List.mem_append_left _ (h2 hcl)
  refine ⟨h.tblOK, ?_, fun q e he x hx => lift x (h.listed q e he x hx), ?_, ?_⟩
  · show ((v.conns.map (mark c)).map (·.1)).Nodup
    rw [map_fst_map _ _ (mark_fst c)]; exact h.ids
  · intro k' hk' hcl
    obtain ⟨k, hk, rfl⟩ := List.mem_map.1 hk'
    rw [mark_closed, Bool.or_eq_false_iff] at hcl
    rw [mark_cnt, mark_fst]
    exact h.count k hk hcl.2
  · intro x hx
    rcases List.mem_append.1 hx with hx | hx
    · exact lift_map (mark_fst c) (fun k _ h2 => by rw [mark_closed, h2, Bool.or_true]) (h.pending x hx)
    · obtain rfl := List.mem_singleton.1 hx
      obtain ⟨k, hk, h1⟩ := hc
      exact lift_map (Q := fun _ => True) (mark_fst x)
        (fun k h1 _ => by rw [mark_closed, beq_iff_eq.2 h1, Bool.true_or]) ⟨k, hk, h1, trivial⟩

def gcV (v : View) (c : Nat) : View :=
  ⟨stripAll v.subs [c], stripAll v.psubs [c], v.closedSockets.filter (· != c), v.conns.filter (·.1 != c), v.out⟩

theorem gcV_tbl (v : View) (c : Nat) (q : Bool) : (gcV v c).tbl q = stripAll (v.tbl q) [c] := by cases q <;> rfl

theorem view_gc (s : Sys) (c : Nat) : view (gcConn c s).2 = gcV (view s) c := by
  rw [gcConn_run]
  unfold gcV view
  simp only [stripTbl_eq]
  congr 1
  rw [List.filter_map]
  rfl

theorem psinv_gc (v : View) (c : Nat) (h : PSInvV v) : PSInvV (gcV v c) := by
  refine ⟨?_, ?_, ?_, ?_, ?_⟩
  · intro q
    rw [gcV_tbl]; exact tblOK_stripAll _ _ (h.tblOK q)
  · exact List.Nodup.sublist (List.Sublist.map _ List.filter_sublist) h.ids
  · intro q e he x hx
    rw [gcV_tbl] at he
    obtain ⟨hxl, k, hk, h1, h2⟩ := listed_strip (h.listed q) he hx
    have hxc : x ≠ c := by simpa using hxl
    refine ⟨k, List.mem_filter.2 ⟨hk, by rw [h1]; simpa using hxc⟩, h1, fun hcl => ?_⟩
    exact List.mem_filter.2 ⟨h2 hcl, by simpa using hxc⟩
  · intro k hk hcl
    obtain ⟨hk, hne⟩ := List.mem_filter.1 hk
    have hnot : k.1 ∉ [c] := by simpa using hne
    show k.2.2 = cnt (stripAll v.subs [c]) k.1 + cnt (stripAll v.psubs [c]) k.1
    rw [cnt_stripAll _ _ _ hnot, cnt_stripAll _ _ _ hnot]
    exact h.count k hk hcl
  · intro x hx
    obtain ⟨hx, hne⟩ := List.mem_filter.1 hx
    obtain ⟨k, hk, h1, h2⟩ := h.pending x hx
    exact ⟨k, List.mem_filter.2 ⟨hk, by rw [h1]; exact hne⟩, h1, h2⟩

def openV (v : View) (c : Nat) : View :=
  ⟨v.subs, v.psubs, v.closedSockets, v.conns ++ [(c, false, 0)], v.out⟩

theorem view_open (s : Sys) (c : Nat) : view (openConn c s).2 = openV (view s) c := by
  rw [openConn_run]
  unfold openV view
  simp only [List.map_append]
  rfl

theorem psinv_open (v : View) (c : Nat) (h : PSInvV v) (hfresh : ∀ k ∈ v.conns, k.1 ≠ c) : PSInvV (openV v c) := by
  have lift : ∀ x (P : Nat × Bool × Nat → Prop), (∃ k ∈ v.conns, k.1 = x ∧ P k) → ∃ k ∈ v.conns ++ [(c, false, 0)], k.1 = x ∧ P k := by
    rintro x P ⟨k, hk, h1⟩
    exact ⟨k, List.mem_append_left _ hk, h1⟩
  have hnl : ∀ q, ∀ e ∈ v.tbl q, c ∉ e.2 := by
    intro q e he hc
    obtain ⟨k, hk, h1, _⟩ := h.listed q e he c hc
    exact hfresh k hk h1
  refine ⟨h.tblOK, ?_, fun q e he x hx => lift x _ (h.listed q e he x hx), ?_,
    fun x hx => lift x _ (h.pending x hx)⟩
  · show ((v.conns ++ [(c, false, 0)]).map (fun k : Nat × Bool × Nat => k.1)).Nodup
    rw [List.map_append]
    refine nodup_concat h.ids fun ha => ?_
    obtain ⟨k, hk, e⟩ := List.mem_map.1 ha
    exact hfresh k hk e
  · intro k hk hcl
    rcases List.mem_append.1 hk with hk | hk
    · exact h.count k hk hcl
    · simp only [List.mem_singleton] at hk
      subst hk
      show 0 = cnt v.subs c + cnt v.psubs c
      rw [cnt_zero_of_not_listed v.subs c (hnl false), cnt_zero_of_not_listed v.psubs c (hnl true)]

/-! ## Part 4: the table invariant over all histories -/

/-- the table invariant of a state -/
def PSInv (s : Sys) : Prop := PSInvV (view s)

/-- connection `c` is registered and not closed, on the state (`OpenV` of its view: `openV_of_isOpen`) -/
def IsOpen (s : Sys) (c : Nat) : Prop := s.HasConn c ∧ (s.conn c).closed = false

theorem conn_mem_of_hasConn {s : Sys} {c : Nat} (h : s.HasConn c) : s.conn c ∈ s.srv.conns := by
  rw [Sys.hasConn_iff] at h
  rw [Sys.conn_def]
  cases h' : s.srv.conns.find? (·.id == c) with
  | none => rw [h'] at h; simp at h
  | some x => exact List.mem_of_find?_eq_some h'

theorem openV_of_isOpen {s : Sys} {c : Nat} (h : IsOpen s c) : OpenV (view s) c :=
  ⟨ckey (s.conn c), List.mem_map_of_mem (conn_mem_of_hasConn h.1), Sys.conn_id s c, h.2⟩

theorem hasConn_iff_view (s : Sys) (c : Nat) : s.HasConn c ↔ ∃ k ∈ (view s).conns, k.1 = c := by
  constructor
  · rintro ⟨x, hx, rfl⟩; exact ⟨ckey x, List.mem_map_of_mem hx, rfl⟩
  · rintro ⟨k, hk, rfl⟩
    obtain ⟨x, hx, rfl⟩ := List.mem_map.1 hk
    exact ⟨x, hx, rfl⟩

/-- the invariant carried through the events of an open connection `c` -/
def Inv (c : Nat) (s : Sys) : Prop := PSInvV (view s) ∧ OpenV (view s) c

instance (c : Nat) : Frame0 (Inv c) := ⟨fun _ _ e h => ⟨h.1.of_core e, h.2.of_core e⟩⟩
instance : Frame0 PSInv := ⟨fun _ _ e h => PSInvV.of_core h e⟩

theorem hyps_inv (c : Nat) : Hyps (Inv c) c :=
  .ofFrame0
    (fun s p n hs => ⟨psinv_subState s c p n hs.1 hs.2, by rw [view_subState]; exact openV_chg _ _ _ _ _ _ hs.2⟩)
    (fun s p n hs => ⟨psinv_unsubState s c p n hs.1 hs.2, by rw [view_unsubState]; exact openV_chg _ _ _ _ _ _ hs.2⟩)

theorem inv_clean (c : Nat) : Pres (Inv c) cleanupClosed := by
  intro s hs
  refine ⟨by rw [view_cleanup]; exact psinv_clean _ hs.1, ?_⟩
  rw [view_cleanup]; exact hs.2

theorem psinv_cleanup : Pres PSInv cleanupClosed := by
  intro s hs
  show PSInvV (view (cleanupClosed s).2)
  rw [view_cleanup]; exact psinv_clean _ hs

/-- the events a client object can produce in state `s`: a new socket has a fresh identity, only a registered socket
is closed, only a registered socket that was not closed sends requests (or is resumed by the asyncio loop).
`C11c.Legal` (`C11cSys.lean`) is another condition: the events of a list-family history. -/
def Legal (s : Sys) : Ev → Prop
  | .open c => ¬ s.HasConn c
  | .close c => s.HasConn c
  | .request _ c _ _ _ => IsOpen s c
  | .send _ c _ _ _ => IsOpen s c
  | .awake _ c _ _ => IsOpen s c
  | .atimeout _ c _ _ => IsOpen s c
  | _ => True

def LegalFrom (s : Sys) : List Ev → Prop
  | [] => True
  | e :: es => Legal s e ∧ LegalFrom (stepEv s e) es

theorem psinv_init : PSInv {} := by
  refine ⟨?_, ?_, ?_, ?_, ?_⟩
  · intro q; cases q <;> exact ⟨List.nodup_nil, fun p hp => by cases hp⟩
  · exact List.nodup_nil
  · intro q e he; cases q <;> cases he
  · intro k hk; cases hk
  · intro c hc; cases hc

theorem hints_core (s : Sys) (cl : List Int) (pk : List (List Bytes)) :
    (view (s.beginEvent.withHints cl pk)).core = (view s).core := rfl

theorem begin_core (s : Sys) : (view s.beginEvent).core = (view s).core := rfl

theorem psinv_step (s : Sys) (e : Ev) (h : PSInv s) (hl : Legal s e) : PSInv (stepEv s e) := by
  have h0 : PSInv s.beginEvent := PSInvV.of_core h (begin_core s)
  have hh : ∀ cl pk, PSInv (s.beginEvent.withHints cl pk) := fun cl pk => PSInvV.of_core h (hints_core s cl pk)
  have ho : ∀ c cl pk, IsOpen s c → Inv c (s.beginEvent.withHints cl pk) :=
    fun c cl pk hc => ⟨hh cl pk, (openV_of_isOpen hc).of_core (hints_core s cl pk)⟩
  unfold stepEv
  cases e with
  | version v => exact PSInvV.of_core h rfl
  | «open» c =>
    show PSInvV (view (openConn c s.beginEvent).2)
    rw [view_open]
    refine psinv_open _ c h0 ?_
    intro k hk hkc
    exact hl ((hasConn_iff_view s c).2 ⟨k, hk, hkc⟩)
  | close c =>
    show PSInvV (view (closeConn c s.beginEvent).2)
    rw [view_close]
    exact psinv_close _ c h0 ((hasConn_iff_view s c).1 hl)
  | gc c =>
    show PSInvV (view (gcConn c s.beginEvent).2)
    rw [view_gc]
    exact psinv_gc _ c h0
  | conn up => exact PSInvV.of_core h rfl
  | request mode c fields clocks picks =>
    exact (processCommand_pres (hyps_inv c) (inv_clean c) mode fields _ (ho c clocks picks hl)).1
  | send mode c data clocks picks =>
    exact (sendallGuarded_pres (hyps_inv c) (inv_clean c) mode data _ (ho c clocks picks hl)).1
  | wake c clocks => exact wakeConn_pres (I := PSInv) (f0_emit c) _ (hh clocks [])
  | timeout c => exact timeoutConn_pres (I := PSInv) (f0_emit c) _ h0
  | awake mode c clocks picks =>
    exact (wakeConnAsync_pres (hyps_inv c) (inv_clean c) mode _ (ho c clocks picks hl)).1
  | atimeout mode c clocks picks =>
    exact (timeoutConnAsync_pres (hyps_inv c) (inv_clean c) mode _ (ho c clocks picks hl)).1

theorem legalFrom_iff_histAll {s : Sys} {evs : List Ev} : LegalFrom s evs ↔ HistAll Legal s evs := by
  induction evs generalizing s with
  | nil => exact Iff.rfl
  | cons e es ih => exact and_congr_right' ih

theorem psinv_foldl (evs : List Ev) (s : Sys) (h : PSInv s) (hl : LegalFrom s evs) : PSInv (evs.foldl stepEv s) :=
  (legalFrom_iff_histAll.1 hl).foldl (fun s e hl h => psinv_step s e h hl) h

theorem psinv_runHistory (evs : List Ev) (hl : LegalFrom {} evs) : PSInv (runHistory evs) :=
  psinv_foldl evs {} psinv_init hl

/-! ### reading the invariant on the state -/

theorem conn_eq_of_mem {l : List Conn} (hnd : (l.map (·.id)).Nodup) {x : Conn} (hx : x ∈ l) :
    l.find? (·.id == x.id) = some x := by
  induction l with
  | nil => cases hx
  | cons a l ih =>
    simp only [List.map_cons, List.nodup_cons] at hnd
    rcases List.mem_cons.1 hx with e | hx'
    · subst e; simp
    · have : a.id ≠ x.id := by
        intro e
        exact hnd.1 (by rw [e]; exact List.mem_map_of_mem (f := (·.id)) hx')
      have e' : (a.id == x.id) = false := by simpa using this
      simp only [List.find?_cons, e']
      exact ih hnd.2 hx'

theorem ids_nodup_of_psinv {s : Sys} (h : PSInv s) : (s.srv.conns.map (·.id)).Nodup := by
  have := h.ids
  unfold view at this
  simp only [List.map_map] at this
  exact this

theorem conn_of_mem {s : Sys} (h : PSInv s) {x : Conn} (hx : x ∈ s.srv.conns) : s.conn x.id = x := by
  rw [Sys.conn_def, conn_eq_of_mem (ids_nodup_of_psinv h) hx]; rfl

theorem ckey_conn_of_view {s : Sys} (h : PSInv s) {k : Nat × Bool × Nat} (hk : k ∈ (view s).conns) :
    s.HasConn k.1 ∧ ckey (s.conn k.1) = k := by
  obtain ⟨x, hx, rfl⟩ := List.mem_map.1 hk
  exact ⟨⟨x, hx, rfl⟩, by show ckey (s.conn x.id) = ckey x; rw [conn_of_mem h hx]⟩

theorem psinv_unpack {s : Sys} (h : PSInv s) :
    (TblOK s.srv.subs ∧ TblOK s.srv.psubs) ∧
    (s.srv.conns.map (·.id)).Nodup ∧
    (∀ e, e ∈ s.srv.subs ∨ e ∈ s.srv.psubs → ∀ c ∈ e.2, s.HasConn c ∧ ((s.conn c).closed = true → c ∈ s.srv.closedSockets)) ∧
    (∀ c, IsOpen s c → (s.conn c).pubsub = cnt s.srv.subs c + cnt s.srv.psubs c) ∧
    (∀ c ∈ s.srv.closedSockets, s.HasConn c ∧ (s.conn c).closed = true) := by
  refine ⟨⟨h.tblOK false, h.tblOK true⟩, ids_nodup_of_psinv h, ?_, ?_, ?_⟩
  · intro e he c hc
    have : ∃ k ∈ (view s).conns, k.1 = c ∧ (k.2.1 = true → c ∈ (view s).closedSockets) := by
      rcases he with he | he
      · exact h.listed false e he c hc
      · exact h.listed true e he c hc
    obtain ⟨k, hk, h1, h2⟩ := this
    obtain ⟨hc1, hck⟩ := ckey_conn_of_view h hk
    rw [h1] at hc1 hck
    refine ⟨hc1, fun hcl => h2 ?_⟩
    have : (ckey (s.conn c)).2.1 = k.2.1 := by rw [hck]
    rw [← this]; exact hcl
  · intro c hc
    have hm := conn_mem_of_hasConn hc.1
    have := h.count (ckey (s.conn c)) (List.mem_map_of_mem hm) hc.2
    simp only [ckey, Sys.conn_id] at this
    exact this
  · intro c hc
    obtain ⟨k, hk, h1, h2⟩ := h.pending c hc
    obtain ⟨hc1, hck⟩ := ckey_conn_of_view h hk
    rw [h1] at hc1 hck
    refine ⟨hc1, ?_⟩
    have : (ckey (s.conn c)).2.1 = k.2.1 := by rw [hck]
    exact this.trans h2

/-! ## Part 5: what `_process_command` does for the pub/sub commands outside MULTI -/

/-! ### signatures whose arguments are all plain byte strings -/

theorem apply_bytes (sig : Sig) (args : List Bytes) (db : Db)
    (hf : ∀ t ∈ sig.fixed, t = .bytes) (hr : sig.rep = [] ∨ sig.rep = [.bytes])
    (har : sig.checkArity args.length = true) :
    sig.apply args db = (db, .ok (.ok (args.map Arg.raw) [])) := by
  have hr' : ∀ t ∈ sig.rep, t = .bytes := by
    rcases hr with h | h <;> rw [h] <;> simp
  have hmod : (!sig.rep.isEmpty && (args.length - sig.fixed.length) % sig.rep.length != 0) = false := by
    rcases hr with h | h <;> rw [h] <;> simp [Nat.mod_one]
  rw [Sig.apply_keyless sig args db (fun t h => by rw [hf t h]; rfl) (fun t h => by rw [hr' t h]; rfl), har, hmod,
    Ttl.decodeAll_raw args _ (Ttl.types_all (· = .bytes) sig rfl hf hr' _) (Ttl.types_length sig _)]
  rfl

/-! ### the dispatcher -/

/-- the state in which the body of a known command runs: clean-up done, clock refreshed -/
def prep (s : Sys) : Sys := (cleanupClosed s).2.refresh

/-- `if self._server crashed … dead` at the end of `_process_command` -/
def finish (c : Nat) (s : Sys) : Sys :=
  if s.crashed.isSome then s.updConn c fun x => { x with dead := true } else s

/-- `processCommand_runs` outside MULTI, with `prep` for the prologue and `finish` for the end -/
theorem processCommand_run (mode : Mode) (c : Nat) (nameB : Bytes) (args : List Bytes) (s : Sys) {sig : Sig}
    (h : lookupSig nameB = some sig) (har : sig.checkArity args.length = true) (htx : (s.conn c).tx = none) :
    processCommand mode c (nameB :: args) s =
      ((), finish c (match (runCommand mode c sig args false (prep s)).1 with
        | some x => (runCommand mode c sig args false (prep s)).2.emitS c x
        | none => (runCommand mode c sig args false (prep s)).2)) :=
  processCommand_runs mode c args s h har (by rw [htx]; rfl)

theorem dispatchBody_refused (mode : Mode) (c : Nat) (conn : Conn) (sig : Sig) (args : List Bytes) (s1 : Sys)
    (har : sig.checkArity args.length = true)
    (hq : (conn.tx.isSome && !SigTable.notQueued.contains sig.name) = true)
    (hnm : SigTable.notInMulti.contains sig.name = true) :
    dispatchBody mode c conn sig args s1 =
      ((), (s1.updConn c fun x => { x with txFailed := true }).emitS c
        (.err (strBytes Msgs.COMMAND_IN_MULTI_MSG))) := by
  rw [dispatchBody_eq, Sys.dispatched_refused _ _ _ _ _ _ har hq hnm]; rfl

theorem runCommand_bytes (mode : Mode) (c : Nat) (sig : Sig) (args : List Bytes) (s1 : Sys)
    (hns : sig.name ∉ scriptNames) (hreg : Cmd.regular sig.name = none)
    (hf : ∀ t ∈ sig.fixed, t = .bytes) (hrep : sig.rep = [] ∨ sig.rep = [.bytes])
    (har : sig.checkArity args.length = true) :
    runCommand mode c sig args false s1 =
      match runGate sig false ((s1.conn c).pubsub > 0) with
      | some e => (some (.err (strBytes e)), s1)
      | none => afterSpecial (s1.conn c).db [] (special (runInner mode c) mode c sig.name (args.map Arg.raw) []) s1 := by
  rw [runCommand_not_script mode c sig args false hns]
  cases hr : s1.refuses c sig with
  | true =>
    -- refused before the arguments are looked at; as `apply` leaves the database alone the old gate agrees
    rw [runWith_refused _ mode c sig args false hr, runGate_direct_of_refused hr]
    rfl
  | false => exact runWith_keyless _ mode c sig args false s1 hreg hr (apply_bytes sig args _ hf hrep har)

theorem afterSpecial_unit (d : Nat) (X : M Unit) (s1 : Sys) :
    afterSpecial d [] (do X; return .ok (none, []) : M SpecialOut) s1 = (none, (X s1).2) := rfl

theorem afterSpecial_reply (d : Nat) (X : M Reply) (s1 : Sys) :
    afterSpecial d [] (do let r ← X; okR r [] : M SpecialOut) s1 = (some (X s1).1, (X s1).2) := rfl

theorem faulted_crashed (e : Err) (s : Sys) : (faulted e s).crashed = s.crashed := by
  unfold faulted; split
  · show (if s.fault.isNone then { s with fault := some e } else s).crashed = s.crashed
    split <;> rfl
  · rfl

theorem afterSpecial_error (d : Nat) (e : Err) (s1 : Sys) :
    afterSpecial d [] (pure (.error e) : M SpecialOut) s1 = (some (.err (strBytes e)), faulted e s1) := by
  rw [afterSpecial_run]; rfl

/-! ### the special bodies by name -/

theorem special_subscribe (inner : Inner) (mode : Mode) (c : Nat) (p : Bool) (name : String) (args cis)
    (h : name = if p then "psubscribe" else "subscribe") :
    special inner mode c name args cis =
      (do subscribeGen c p (Cmd.rawArgs args); return .ok (none, cis) : M SpecialOut) := by
  subst h
  cases p <;> (unfold special; rfl)

theorem special_unsubscribe (inner : Inner) (mode : Mode) (c : Nat) (p : Bool) (name : String) (args cis)
    (h : name = if p then "punsubscribe" else "unsubscribe") :
    special inner mode c name args cis =
      (do unsubscribeGen c p (Cmd.rawArgs args); return .ok (none, cis) : M SpecialOut) := by
  subst h
  cases p <;> (unfold special; rfl)

theorem special_publish (inner : Inner) (mode : Mode) (c : Nat) (name : String) (ch msg : Bytes) (cis)
    (h : name = "publish") :
    special inner mode c name [.raw ch, .raw msg] cis =
      (do let n ← publish ch msg; okR (.int n) cis : M SpecialOut) := by
  subst h
  unfold special; rfl

/-! ### the five signatures -/

def sigSubscribe (p : Bool) : Sig := ⟨if p then "psubscribe" else "subscribe", [.bytes], [.bytes], true, 0, 0, true⟩
def sigUnsubscribe (p : Bool) : Sig := ⟨if p then "punsubscribe" else "unsubscribe", [], [.bytes], true, 0, 0, true⟩
def sigPublish : Sig := ⟨"publish", [.bytes, .bytes], [], false, 2, 0, false⟩

theorem find_subscribe (p : Bool) : SigTable.find (if p then "psubscribe" else "subscribe") = some (sigSubscribe p) := by
  cases p <;> decide +kernel
theorem find_unsubscribe (p : Bool) :
    SigTable.find (if p then "punsubscribe" else "unsubscribe") = some (sigUnsubscribe p) := by
  cases p <;> decide +kernel
theorem find_publish : SigTable.find "publish" = some sigPublish := by decide +kernel
theorem find_exec : SigTable.find "exec" = some sigExec := by decide +kernel

theorem lookupSig_of_name (nameB : Bytes) (n : String) (h : commandName nameB = some n)
    (hu : n.startsWith "_" = false) : lookupSig nameB = SigTable.find n := by
  unfold lookupSig
  simp only [h, hu, Bool.false_eq_true, if_false]

theorem lookupSig_some {nameB : Bytes} {sig : Sig} (h : lookupSig nameB = some sig) :
    commandName nameB = some sig.name ∧ SigTable.find sig.name = some sig := by
  unfold lookupSig at h
  cases hn : commandName nameB with
  | none => rw [hn] at h; cases h
  | some n =>
    rw [hn] at h
    simp only at h
    split at h
    · cases h
    · rw [SigTable.find_name h]; exact ⟨rfl, h⟩

theorem sig_eq_of_name {nameB : Bytes} {sig sig0 : Sig} {n : String} (h : lookupSig nameB = some sig)
    (hn : sig.name = n) (hf : SigTable.find n = some sig0) : sig = sig0 := by
  have := (lookupSig_some h).2
  rw [hn, hf] at this
  exact (Option.some.inj this).symm

theorem gate_subscribe (p b : Bool) : runGate (sigSubscribe p) false b = none := by
  cases p <;> cases b <;> decide +kernel
theorem gate_unsubscribe (p b : Bool) : runGate (sigUnsubscribe p) false b = none := by
  cases p <;> cases b <;> decide +kernel
theorem gate_publish_free : runGate sigPublish false false = none := by decide +kernel
theorem gate_exec_free : runGate sigExec false false = none := by decide +kernel

theorem runGate_subscribed (sig : Sig) (hna : sig.name ∉ SigTable.pubsubAllowed) :
    runGate sig false true = some Msgs.BAD_COMMAND_IN_PUBSUB_MSG := by
  have : SigTable.pubsubAllowed.contains sig.name = false := by simpa using hna
  simp [runGate, hna]

theorem arity_subscribe (p : Bool) (args : List Bytes) : (sigSubscribe p).checkArity args.length = !args.isEmpty := by
  cases args with
  | nil => rfl
  | cons a as =>
    simp only [Sig.checkArity, sigSubscribe, List.length_cons, List.length_nil, List.isEmpty_cons]
    cases as <;> simp

theorem arity_unsubscribe (p : Bool) (args : List Bytes) : (sigUnsubscribe p).checkArity args.length = true := by
  cases args <;> simp [Sig.checkArity, sigUnsubscribe]

/-! ### what `prep` keeps -/

theorem prep_eq (s : Sys) : prep s = s.prologue := rfl

theorem prep_conn_cases (s : Sys) (c : Nat) : (prep s).conn c = s.conn c ∨ (prep s).conn c = (s.conn c).cleared :=
  s.prologue_conn_cases c

theorem prep_pubsub (s : Sys) (c : Nat) : ((prep s).conn c).pubsub = (s.conn c).pubsub :=
  s.prologue_conn c Conn.pubsub (fun _ => rfl)
theorem prep_tx (s : Sys) (c : Nat) : ((prep s).conn c).tx = (s.conn c).tx :=
  s.prologue_conn c Conn.tx (fun _ => rfl)
theorem prep_closed (s : Sys) (c : Nat) : ((prep s).conn c).closed = (s.conn c).closed :=
  s.prologue_conn c Conn.closed (fun _ => rfl)

theorem prep_tbl (s : Sys) (q : Bool) : (prep s).tbl q = stripAll (s.tbl q) s.srv.closedSockets := by
  cases q
  · exact s.prologue_subs
  · exact s.prologue_psubs
theorem prep_out (s : Sys) : (prep s).out = s.out := s.prologue_out

/-! ### the requests -/

theorem process_subscribe (mode : Mode) (c : Nat) (nameB : Bytes) (args : List Bytes) (s : Sys) (p : Bool)
    (hname : commandName nameB = some (if p then "psubscribe" else "subscribe")) (hargs : args ≠ [])
    (htx : (s.conn c).tx = none) :
    processCommand mode c (nameB :: args) s = ((), finish c (subscribeGen c p args (prep s)).2) := by
  have hsig : lookupSig nameB = some (sigSubscribe p) := by
    rw [lookupSig_of_name _ _ hname (by cases p <;> decide +kernel), find_subscribe]
  have har : (sigSubscribe p).checkArity args.length = true := by
    rw [arity_subscribe]; cases args <;> simp_all
  rw [processCommand_run _ _ _ _ _ hsig har htx,
    runCommand_bytes mode c (sigSubscribe p) args (prep s) (by cases p <;> decide) (by cases p <;> rfl)
      (by simp [sigSubscribe]) (.inr rfl) har, gate_subscribe]
  rw [special_subscribe _ _ _ p (sigSubscribe p).name _ _ rfl, rawArgs_map_raw, afterSpecial_unit]

theorem process_unsubscribe (mode : Mode) (c : Nat) (nameB : Bytes) (args : List Bytes) (s : Sys) (p : Bool)
    (hname : commandName nameB = some (if p then "punsubscribe" else "unsubscribe"))
    (htx : (s.conn c).tx = none) :
    processCommand mode c (nameB :: args) s = ((), finish c (unsubscribeGen c p args (prep s)).2) := by
  have hsig : lookupSig nameB = some (sigUnsubscribe p) := by
    rw [lookupSig_of_name _ _ hname (by cases p <;> decide +kernel), find_unsubscribe]
  have har := arity_unsubscribe p args
  rw [processCommand_run _ _ _ _ _ hsig har htx,
    runCommand_bytes mode c (sigUnsubscribe p) args (prep s) (by cases p <;> decide) (by cases p <;> rfl)
      (by simp [sigUnsubscribe]) (.inr rfl) har, gate_unsubscribe]
  rw [special_unsubscribe _ _ _ p (sigUnsubscribe p).name _ _ rfl, rawArgs_map_raw, afterSpecial_unit]

/-- PUBLISH run by a connection without subscriptions: the deliveries, and their number as the reply -/
theorem runCommand_publish (mode : Mode) (c : Nat) (ch msg : Bytes) (s1 : Sys) (hps : (s1.conn c).pubsub = 0) :
    runCommand mode c sigPublish [ch, msg] false s1 = (some (.int (publish ch msg s1).1), (publish ch msg s1).2) := by
  have hg : runGate sigPublish false (decide ((s1.conn c).pubsub > 0)) = none := by rw [hps]; exact gate_publish_free
  rw [runCommand_bytes mode c sigPublish [ch, msg] s1 (by decide) rfl
      (by simp [sigPublish]) (.inl rfl) rfl, hg]
  simp only [List.map_cons, List.map_nil]
  rw [special_publish _ _ _ sigPublish.name _ _ _ rfl]
  rfl

theorem process_publish (mode : Mode) (c : Nat) (nameB ch msg : Bytes) (s : Sys)
    (hname : commandName nameB = some "publish") (htx : (s.conn c).tx = none) (hps : (s.conn c).pubsub = 0) :
    processCommand mode c [nameB, ch, msg] s =
      ((), finish c ((publish ch msg (prep s)).2.emitS c (.int (publish ch msg (prep s)).1))) := by
  have hsig : lookupSig nameB = some sigPublish := by
    rw [lookupSig_of_name _ _ hname (by decide +kernel), find_publish]
  rw [processCommand_run _ _ _ _ _ hsig rfl htx, runCommand_publish mode c ch msg (prep s) ((prep_pubsub s c).trans hps)]

theorem process_exec_none (mode : Mode) (c : Nat) (nameB : Bytes) (s : Sys)
    (hname : commandName nameB = some "exec") (htx : (s.conn c).tx = none) :
    ∃ (r : Reply) (s' : Sys), processCommand mode c [nameB] s = ((), finish c (s'.emitS c r)) ∧
      s'.srv = (prep s).srv ∧ s'.out = (prep s).out := by
  have hsig : lookupSig nameB = some sigExec := by
    rw [lookupSig_of_name _ _ hname (by decide +kernel), find_exec]
  have har : sigExec.checkArity ([] : List Bytes).length = true := rfl
  rw [processCommand_run _ _ _ _ _ hsig har htx,
    runCommand_bytes mode c sigExec [] (prep s) (by decide) rfl
      (by simp [sigExec]) (.inl rfl) har]
  cases hb : decide (((prep s).conn c).pubsub > 0)
  · rw [gate_exec_free]
    have hn : sigExec.name = "exec" := rfl
    simp only [List.map_nil]
    rw [special_exec _ _ _ _ _ _ hn]
    rw [afterSpecial_congr _ _ _ (pure (.error (Msgs.fmt1 Msgs.WITHOUT_MULTI_MSG "EXEC")) : M SpecialOut) _
      (execCmd_run_none (runInner mode c) [] (by rw [prep_tx]; exact htx)), afterSpecial_error]
    exact ⟨_, _, rfl, faulted_srv _ _, faulted_out _ _⟩
  · rw [runGate_subscribed sigExec (by decide)]
    exact ⟨_, _, rfl, rfl, rfl⟩

/-! ## Part 6: who is subscribed, as a function of the history -/

/-! ### membership in the tables -/

/-- `c` is listed under `m` in table `q` -/
def MemV (v : View) (q : Bool) (c : Nat) (m : Bytes) : Prop := c ∈ tblMembers (v.tbl q) m

/-- `c` is an effective subscriber of `m`: listed, and not closed-and-awaiting-clean-up -/
def SubV (v : View) (q : Bool) (c : Nat) (m : Bytes) : Prop := MemV v q c m ∧ c ∉ v.closedSockets

def IsSub (s : Sys) (q : Bool) (c : Nat) (m : Bytes) : Prop := SubV (view s) q c m

theorem sub_def (s : Sys) (q : Bool) (c : Nat) (m : Bytes) :
    IsSub s q c m ↔ c ∈ tblMembers (s.tbl q) m ∧ c ∉ s.srv.closedSockets := by
  unfold IsSub SubV MemV; rw [view_tbl]; rfl

theorem memV_subState (s : Sys) (c0 : Nat) (p : Bool) (n : Bytes) (q : Bool) (c : Nat) (m : Bytes) :
    MemV (view (s.subState c0 p n)) q c m ↔ MemV (view s) q c m ∨ (c = c0 ∧ q = p ∧ m = n) := by
  rw [view_subState]
  unfold MemV
  rw [chgV_tbl]
  by_cases hq : q = p
  · subst hq
    simp only [if_true, mem_members_subscribe, true_and]
  · simp only [hq, if_false, false_and, and_false, or_false]

theorem memV_unsubState (s : Sys) (c0 : Nat) (p : Bool) (n : Bytes) (q : Bool) (c : Nat) (m : Bytes) :
    MemV (view (s.unsubState c0 p n)) q c m ↔ MemV (view s) q c m ∧ ¬ (c = c0 ∧ q = p ∧ m = n) := by
  rw [view_unsubState]
  unfold MemV
  rw [chgV_tbl]
  by_cases hq : q = p
  · subst hq
    simp only [if_true, mem_members_unsubscribe, true_and]
  · simp only [hq, if_false, false_and, and_false, not_false_eq_true, and_true]

theorem closed_subState (s : Sys) (c0 : Nat) (p : Bool) (n : Bytes) :
    (view (s.subState c0 p n)).closedSockets = (view s).closedSockets := by rw [view_subState]; rfl
theorem closed_unsubState (s : Sys) (c0 : Nat) (p : Bool) (n : Bytes) :
    (view (s.unsubState c0 p n)).closedSockets = (view s).closedSockets := by rw [view_unsubState]; rfl

theorem memV_core {v v' : View} (e : v'.core = v.core) (q c m) : MemV v' q c m ↔ MemV v q c m := by
  obtain ⟨a1, a2, a3, a4, a5⟩ := v
  obtain ⟨b1, b2, b3, b4, b5⟩ := v'
  simp only [View.core, Prod.mk.injEq] at e
  obtain ⟨rfl, rfl, rfl, rfl⟩ := e
  exact Iff.rfl

theorem closed_core {v v' : View} (e : v'.core = v.core) : v'.closedSockets = v.closedSockets :=
  congrArg (fun x => x.2.2.1) e

theorem subV_core {v v' : View} (e : v'.core = v.core) (q c m) : SubV v' q c m ↔ SubV v q c m := by
  unfold SubV; rw [memV_core e, closed_core e]

/-! ### through `subscribeGen` / `unsubscribeGen` -/

theorem memV_forM_sub (c0 : Nat) (p : Bool) (names : List Bytes) (s : Sys) (q : Bool) (c : Nat) (m : Bytes) :
    MemV (view (names.forM (subStep c0 p) s).2) q c m ↔ MemV (view s) q c m ∨ (c = c0 ∧ q = p ∧ m ∈ names) := by
  induction names generalizing s with
  | nil => simp; rfl
  | cons n ns ih =>
    rw [forM_cons_eq]
    simp only [bind, StateT.bind, subStep_run]
    rw [ih, memV_core (emitS_core _ _ _), memV_subState]
    simp only [List.mem_cons]
    constructor
    · rintro ((h | ⟨h1, h2, h3⟩) | ⟨h1, h2, h3⟩)
      · exact .inl h
      · exact .inr ⟨h1, h2, .inl h3⟩
      · exact .inr ⟨h1, h2, .inr h3⟩
    · rintro (h | ⟨h1, h2, h3 | h3⟩)
      · exact .inl (.inl h)
      · exact .inl (.inr ⟨h1, h2, h3⟩)
      · exact .inr ⟨h1, h2, h3⟩

theorem memV_forM_unsub (c0 : Nat) (p : Bool) (names : List Bytes) (s : Sys) (q : Bool) (c : Nat) (m : Bytes) :
    MemV (view (names.forM (unsubStep c0 p) s).2) q c m ↔ MemV (view s) q c m ∧ ¬ (c = c0 ∧ q = p ∧ m ∈ names) := by
  induction names generalizing s with
  | nil => simp; rfl
  | cons n ns ih =>
    rw [forM_cons_eq]
    simp only [bind, StateT.bind, unsubStep_run]
    rw [ih, memV_core (emitS_core _ _ _), memV_unsubState]
    simp only [List.mem_cons]
    constructor
    · rintro ⟨⟨h, h1⟩, h2⟩
      refine ⟨h, ?_⟩
      rintro ⟨e1, e2, e3 | e3⟩
      · exact h1 ⟨e1, e2, e3⟩
      · exact h2 ⟨e1, e2, e3⟩
    · rintro ⟨h, h1⟩
      exact ⟨⟨h, fun ⟨e1, e2, e3⟩ => h1 ⟨e1, e2, .inl e3⟩⟩, fun ⟨e1, e2, e3⟩ => h1 ⟨e1, e2, .inr e3⟩⟩

theorem memV_subscribeGen (c0 : Nat) (p : Bool) (names : List Bytes) (s : Sys) (q : Bool) (c : Nat) (m : Bytes) :
    MemV (view (subscribeGen c0 p names s).2) q c m ↔ MemV (view s) q c m ∨ (c = c0 ∧ q = p ∧ m ∈ names) := by
  rw [subscribeGen_eq]; exact memV_forM_sub ..

theorem closed_subscribeGen (c0 : Nat) (p : Bool) (names : List Bytes) (s : Sys) :
    (view (subscribeGen c0 p names s).2).closedSockets = (view s).closedSockets :=
  Conserve.pres_subscribeGen (I := fun s' => (view s').closedSockets = (view s).closedSockets)
    (fun r s' h => by rw [emit_run]; exact (closed_core (emitS_core _ _ _)).trans h)
    (fun s' p n h => (closed_subState _ _ _ _).trans h) p names s rfl

theorem mem_subscribedNames (s : Sys) (c0 : Nat) (p : Bool) (m : Bytes) (h : MemV (view s) p c0 m) :
    m ∈ s.subscribedNames c0 p := by
  unfold MemV at h
  rw [view_tbl] at h
  obtain ⟨cs, hm, hc⟩ := mem_tblMembers _ m c0 h
  unfold Sys.subscribedNames
  exact List.mem_map.2 ⟨(m, cs), List.mem_filter.2 ⟨hm, by simpa using hc⟩, rfl⟩

theorem memV_unsubscribeGen (c0 : Nat) (p : Bool) (names : List Bytes) (s : Sys) (q : Bool) (c : Nat) (m : Bytes) :
    MemV (view (unsubscribeGen c0 p names s).2) q c m ↔
      MemV (view s) q c m ∧ ¬ (c = c0 ∧ q = p ∧ (names = [] ∨ m ∈ names)) := by
  by_cases hn : names = []
  · subst hn
    by_cases hsn : s.subscribedNames c0 p = []
    · rw [unsubscribeGen_nil_none _ _ _ hsn, memV_core (emitS_core _ _ _)]
      constructor
      · intro h
        refine ⟨h, ?_⟩
        rintro ⟨rfl, rfl, _⟩
        have := mem_subscribedNames s c q m h
        rw [hsn] at this; cases this
      · exact fun h => h.1
    · rw [unsubscribeGen_nil_some _ _ _ hsn, memV_forM_unsub]
      constructor
      · rintro ⟨h, h1⟩
        refine ⟨h, ?_⟩
        rintro ⟨rfl, rfl, _⟩
        exact h1 ⟨rfl, rfl, mem_subscribedNames s c q m h⟩
      · rintro ⟨h, h1⟩
        exact ⟨h, fun ⟨e1, e2, _⟩ => h1 ⟨e1, e2, .inl rfl⟩⟩
  · rw [unsubscribeGen_explicit _ _ _ _ hn, memV_forM_unsub]
    simp only [hn, false_or]

theorem closed_unsubscribeGen (c0 : Nat) (p : Bool) (names : List Bytes) (s : Sys) :
    (view (unsubscribeGen c0 p names s).2).closedSockets = (view s).closedSockets :=
  Conserve.pres_unsubscribeGen (I := fun s' => (view s').closedSockets = (view s).closedSockets)
    (fun r s' h => by rw [emit_run]; exact (closed_core (emitS_core _ _ _)).trans h)
    (fun s' p n h => (closed_unsubState _ _ _ _).trans h) p names s rfl

/-! ### clean-up, the clock refresh, the end of `_process_command` -/

theorem refresh_core (s : Sys) : (view s.refresh).core = (view s).core := by
  unfold view View.core Sys.refresh
  simp only [nextClock_srv]

theorem finish_core (c : Nat) (s : Sys) : (view (finish c s)).core = (view s).core := by
  unfold finish; split
  · rw [view_updConn s c (fun x => { x with dead := true }) (fun _ => rfl)]
  · rfl

theorem view_prep_core (s : Sys) : (view (prep s)).core = (cleanV (view s)).core := by
  unfold prep; rw [refresh_core, view_cleanup]

theorem subV_clean (v : View) (q : Bool) (c : Nat) (m : Bytes) : SubV (cleanV v) q c m ↔ SubV v q c m := by
  unfold SubV MemV
  rw [cleanV_tbl, mem_members_stripAll]
  exact and_iff_left List.not_mem_nil

theorem sub_prep (s : Sys) (q : Bool) (c : Nat) (m : Bytes) : IsSub (prep s) q c m ↔ IsSub s q c m := by
  unfold IsSub; rw [subV_core (view_prep_core s), subV_clean]

theorem prep_closedV (s : Sys) : (view (prep s)).closedSockets = [] := s.prologue_closedSockets

/-! ### the commands of other connections never change `c`'s subscriptions -/

/-- "`c` is an effective subscriber of `m` (table `q`) iff `b`", as an invariant of the state: what the events of other
connections keep (`K_hyps`, `sub_step_other`) -/
def K (q : Bool) (c : Nat) (m : Bytes) (b : Prop) (s : Sys) : Prop := IsSub s q c m ↔ b

instance (q : Bool) (c : Nat) (m : Bytes) (b : Prop) : Frame0 (K q c m b) :=
  ⟨fun _ _ e h => (subV_core e q c m).trans h⟩

theorem K_clean (q : Bool) (c : Nat) (m : Bytes) (b : Prop) : Pres (K q c m b) cleanupClosed := by
  intro s hs
  unfold K IsSub at hs ⊢
  rw [view_cleanup, subV_clean]
  exact hs

theorem K_hyps (q : Bool) (c : Nat) (m : Bytes) (b : Prop) (c0 : Nat) (hne : c0 ≠ c) : Hyps (K q c m b) c0 := by
  have hn : ∀ p n, ¬ (c = c0 ∧ q = p ∧ m = n) := fun _ _ h => hne h.1.symm
  refine .ofFrame0 (fun s p n hs => ?_) (fun s p n hs => ?_)
  · unfold K IsSub SubV at hs ⊢
    rw [memV_subState, closed_subState]
    simpa only [hn, or_false] using hs
  · unfold K IsSub SubV at hs ⊢
    rw [memV_unsubState, closed_unsubState]
    simpa only [hn, not_false_eq_true, and_true] using hs

/-- the connection an event belongs to -/
def evConn : Ev → Option Nat
  | .open c => some c
  | .close c => some c
  | .gc c => some c
  | .request _ c _ _ _ => some c
  | .send _ c _ _ _ => some c
  | .wake c _ => some c
  | .timeout c => some c
  | .awake _ c _ _ => some c
  | .atimeout _ c _ _ => some c
  | _ => none

theorem subV_close (v : View) (c0 c : Nat) (q m) : SubV (closeV v c0) q c m ↔ SubV v q c m ∧ c ≠ c0 := by
  unfold SubV MemV
  show c ∈ tblMembers (v.tbl q) m ∧ c ∉ v.closedSockets ++ [c0] ↔ _
  simp [and_assoc]

theorem subV_gc (v : View) (c0 c : Nat) (q m) : SubV (gcV v c0) q c m ↔ SubV v q c m ∧ c ≠ c0 := by
  unfold SubV MemV
  rw [gcV_tbl, mem_members_stripAll]
  show _ ∧ c ∉ v.closedSockets.filter (· != c0) ↔ _
  by_cases hc : c = c0 <;> simp [hc]

/-! ### the requests of `c` itself -/

/-- what a request means for the subscription tables -/
inductive PSKind where
  | sub (p : Bool) (names : List Bytes)
  | unsub (p : Bool) (names : List Bytes)
  | other
  deriving DecidableEq

/-- classification of a parsed request: (P)SUBSCRIBE with at least one name, (P)UNSUBSCRIBE, anything else
(including (P)SUBSCRIBE without a name, which is an arity error) -/
def psKind : List Bytes → PSKind
  | [] => .other
  | nameB :: args =>
    if commandName nameB = some "subscribe" then (if args.isEmpty then .other else .sub false args)
    else if commandName nameB = some "psubscribe" then (if args.isEmpty then .other else .sub true args)
    else if commandName nameB = some "unsubscribe" then .unsub false args
    else if commandName nameB = some "punsubscribe" then .unsub true args
    else .other

theorem psKind_cons (nameB : Bytes) (args : List Bytes) : psKind (nameB :: args) =
    if commandName nameB = some "subscribe" then (if args.isEmpty then .other else .sub false args)
    else if commandName nameB = some "psubscribe" then (if args.isEmpty then .other else .sub true args)
    else if commandName nameB = some "unsubscribe" then .unsub false args
    else if commandName nameB = some "punsubscribe" then .unsub true args
    else .other := rfl

theorem psKind_sub {fields : List Bytes} {p : Bool} {names : List Bytes} (h : psKind fields = .sub p names) :
    ∃ nameB, fields = nameB :: names ∧ commandName nameB = some (if p then "psubscribe" else "subscribe") ∧
      names ≠ [] := by
  cases fields with
  | nil => cases h
  | cons nameB args =>
    rw [psKind_cons] at h
    repeat' split at h
    all_goals cases h
    -- SUBSCRIBE, then PSUBSCRIBE, with at least one name
    all_goals exact ⟨nameB, rfl, ‹_›, fun e => ‹¬ _› (by rw [e]; rfl)⟩

theorem psKind_unsub {fields : List Bytes} {p : Bool} {names : List Bytes} (h : psKind fields = .unsub p names) :
    ∃ nameB, fields = nameB :: names ∧ commandName nameB = some (if p then "punsubscribe" else "unsubscribe") := by
  cases fields with
  | nil => cases h
  | cons nameB args =>
    rw [psKind_cons] at h
    repeat' split at h
    all_goals cases h
    all_goals exact ⟨nameB, rfl, ‹_›⟩

theorem psKind_other {nameB : Bytes} {args : List Bytes} (h : psKind (nameB :: args) = .other) (p : Bool) :
    (commandName nameB = some (if p then "psubscribe" else "subscribe") → args = []) ∧
    commandName nameB ≠ some (if p then "punsubscribe" else "unsubscribe") := by
  rw [psKind_cons] at h
  cases p <;> exact ⟨fun hn => by simpa [hn] using h, fun hn => by simp [hn] at h⟩

theorem subV_of_closed_nil {v : View} (hv : v.closedSockets = []) (q c m) : SubV v q c m ↔ MemV v q c m := by
  unfold SubV; rw [hv]; simp

/-- the end of a request: with no closed socket awaiting clean-up, the effective subscribers are those listed -/
theorem isSub_finish (c0 : Nat) (s' : Sys) (hcl : (view s').closedSockets = []) (q : Bool) (c : Nat) (m : Bytes) :
    IsSub (finish c0 s') q c m ↔ MemV (view s') q c m := by
  unfold IsSub; rw [subV_core (finish_core _ _), subV_of_closed_nil hcl]

/-- the start of a request: listed in the state in which the body runs are the effective subscribers before the event -/
theorem memV_prep (s : Sys) (cl : List Int) (pk) (q : Bool) (c : Nat) (m : Bytes) :
    MemV (view (prep (s.beginEvent.withHints cl pk))) q c m ↔ IsSub s q c m := by
  rw [← subV_of_closed_nil (prep_closedV _)]
  exact (sub_prep _ q c m).trans (subV_core (hints_core s cl pk) q c m)

theorem isSub_request_sub (s : Sys) (mode : Mode) (c : Nat) (fields : List Bytes) (cl : List Int) (pk)
    (p : Bool) (names : List Bytes) (hk : psKind fields = .sub p names) (htx : (s.conn c).tx = none)
    (q : Bool) (m : Bytes) :
    IsSub (stepEv s (.request mode c fields cl pk)) q c m ↔ IsSub s q c m ∨ (q = p ∧ m ∈ names) := by
  obtain ⟨nameB, rfl, hname, hne⟩ := psKind_sub hk
  show IsSub (processCommand mode c (nameB :: names) (s.beginEvent.withHints cl pk)).2 q c m ↔ _
  rw [process_subscribe mode c nameB names (s.beginEvent.withHints cl pk) p hname hne htx,
    isSub_finish _ _ ((closed_subscribeGen _ _ _ _).trans (prep_closedV _)), memV_subscribeGen, memV_prep]
  simp only [true_and]

theorem isSub_request_unsub (s : Sys) (mode : Mode) (c : Nat) (fields : List Bytes) (cl : List Int) (pk)
    (p : Bool) (names : List Bytes) (hk : psKind fields = .unsub p names) (htx : (s.conn c).tx = none)
    (q : Bool) (m : Bytes) :
    IsSub (stepEv s (.request mode c fields cl pk)) q c m ↔
      IsSub s q c m ∧ ¬ (q = p ∧ (names = [] ∨ m ∈ names)) := by
  obtain ⟨nameB, rfl, hname⟩ := psKind_unsub hk
  show IsSub (processCommand mode c (nameB :: names) (s.beginEvent.withHints cl pk)).2 q c m ↔ _
  rw [process_unsubscribe mode c nameB names (s.beginEvent.withHints cl pk) p hname htx,
    isSub_finish _ _ ((closed_unsubscribeGen _ _ _ _).trans (prep_closedV _)), memV_unsubscribeGen, memV_prep]
  simp only [true_and]

/-! ### any other request of `c` outside MULTI (no script command) -/

section other
variable {I : Sys → Prop} [Frame0 I]

theorem prep_pres (hclean : Pres I cleanupClosed) (s : Sys) (hs : I s) : I (prep s) :=
  Frame0.frame0 _ _ (refresh_core _) (hclean s hs)

/-- a special body other than (P)SUBSCRIBE / (P)UNSUBSCRIBE / EXEC leaves tables, closed sockets and
`(id, closed, pubsub)` alone: it only emits (the replies to the caller and, for PUBLISH, the deliveries) -/
theorem special_pres_plain (inner : Inner) (mode : Mode) (c : Nat) (name : String) (hn : name ∉ C04q.sensitiveNames)
    (args : List Arg) (cis : List CI) : Pres I (special inner mode c name args cis) :=
  (fr_closed mode c).special_plain inner name args cis hn f0_publish

theorem failTx_core (p : Sys) (c : Nat) (conn : Conn) : (view (p.failTx c conn)).core = (view p).core := by
  unfold Sys.failTx; split
  · rw [view_updConn p c ErrSys.markTxFailed (fun _ => rfl)]
  · rfl

theorem afterRun_core (c : Nat) (r : Option Reply × Sys) : (view (ErrSys.afterRun c r)).core = (view r.2).core := by
  obtain ⟨x, t⟩ := r
  show (view (finish c (match x with | some x => t.emitS c x | none => t))).core = _
  rw [finish_core]
  cases x
  · rfl
  · exact emitS_core t c _

theorem arity_exec (args : List Bytes) : sigExec.checkArity args.length = args.isEmpty := by
  cases args <;> simp [Sig.checkArity, sigExec]

theorem psKind_other_arity {nameB : Bytes} {args : List Bytes} {sig : Sig} (hk : psKind (nameB :: args) = .other)
    (hsig : lookupSig nameB = some sig)
    (hn : sig.name ∈ ["subscribe", "psubscribe", "unsubscribe", "punsubscribe"]) :
    sig.checkArity args.length = false := by
  have hnm := (lookupSig_some hsig).1
  simp only [List.mem_cons, List.not_mem_nil, or_false] at hn
  rcases hn with e | e | e | e <;> rw [e] at hnm
  · obtain rfl := sig_eq_of_name hsig e (find_subscribe false)
    rw [arity_subscribe, (psKind_other hk false).1 hnm]; rfl
  · obtain rfl := sig_eq_of_name hsig e (find_subscribe true)
    rw [arity_subscribe, (psKind_other hk true).1 hnm]; rfl
  · exact absurd hnm (psKind_other hk false).2
  · exact absurd hnm (psKind_other hk true).2

theorem other_request (hclean : Pres I cleanupClosed) (mode : Mode) (c : Nat) (fields : List Bytes) (s : Sys)
    (hk : psKind fields = .other) (htx : (s.conn c).tx = none)
    (hns : ∀ sig, reqSig fields = some sig → sig.name ∉ scriptNames) (hs : I s) :
    I (processCommand mode c fields s).2 := by
  cases fields with
  | nil => exact hs
  | cons nameB args =>
    have hp : I s.prologue := prep_pres hclean s hs
    have fr : ∀ {t t' : Sys}, (view t').core = (view t).core → I t → I t' := fun e h => Frame0.frame0 _ _ e h
    have hq : ∀ sig : Sig, ((s.conn c).tx.isSome && !SigTable.notQueued.contains sig.name) = false := by
      intro sig; rw [htx]; rfl
    -- outside MULTI a request is refused with one reply (unknown command, wrong number of arguments) or run
    refine processCommand_cases mode c nameB args s (fun _ => ?_) (fun sig _ _ _ => ?_) (fun sig _ _ _ => ?_)
      (fun sig _ _ h _ => by rw [hq] at h; cases h) (fun sig _ _ h _ => by rw [hq] at h; cases h)
      (fun sig hsig har _ => ?_)
    · exact fr (by rw [emitS_core, failTx_core]) hs
    · exact fr (by rw [emitS_core, failTx_core]) hp
    · refine fr ((emitS_core _ _ _).trans ((congrArg View.core (view_updConn _ c _ ?_)).trans
        ((congrArg View.core (view_updConn _ c _ ?_)).trans (failTx_core _ _ _)))) hp <;> exact fun _ => rfl
    · by_cases hexec : sig.name = "exec"
      · -- EXEC without MULTI replies with an error and does nothing else
        obtain rfl := sig_eq_of_name hsig hexec find_exec
        obtain rfl : args = [] := by rw [arity_exec] at har; simpa using har
        obtain ⟨r, s', hrun, h1, -⟩ := process_exec_none mode c nameB s (lookupSig_some hsig).1 htx
        rw [show ErrSys.afterRun c _ = _ from
          congrArg Prod.snd ((processCommand_runs mode c [] s hsig har (hq _)).symm.trans hrun)]
        refine fr ?_ hp
        rw [finish_core, emitS_core]
        unfold view View.core
        rw [h1]; rfl
      · refine fr (afterRun_core c _) ?_
        by_cases hsens : sig.name ∈ C04q.sensitiveNames
        · rw [psKind_other_arity hk hsig (by simpa [C04q.sensitiveNames, hexec] using hsens)] at har
          cases har
        · rw [runCommand_not_script mode c sig args false (hns sig hsig)]
          exact (fr_closed mode c).runWith _ sig args false (special_pres_plain _ mode c _ hsens) _ hp

end other

/-! ### the replay of `c`'s own requests -/

/-- one step of the replay: only `c`'s own (P)SUBSCRIBE / (P)UNSUBSCRIBE requests, its close and its garbage
collection matter -/
def subscribedStep (c : Nat) (q : Bool) (m : Bytes) (b : Bool) : Ev → Bool
  | .close c0 => if c0 = c then false else b
  | .gc c0 => if c0 = c then false else b
  | .request _ c0 fields _ _ =>
    if c0 = c then
      match psKind fields with
      | .sub p names => b || (p == q && names.contains m)
      | .unsub p names => b && !(p == q && (names.isEmpty || names.contains m))
      | .other => b
    else b
  | _ => b

/-- is `c` subscribed to channel (`q = false`) / pattern (`q = true`) `m` after the history?  Computed from `c`'s
own requests alone: the last (P)SUBSCRIBE / (P)UNSUBSCRIBE naming `m` wins, (P)UNSUBSCRIBE without names drops
everything of that kind, close and garbage collection drop everything. -/
def subscribedTo (evs : List Ev) (c : Nat) (q : Bool) (m : Bytes) : Bool :=
  evs.foldl (subscribedStep c q m) false

/-- the side condition on `c`'s own events: complete requests, issued outside MULTI, no script command
(other connections are unconstrained) -/
def QuietEv (c : Nat) (s : Sys) : Ev → Prop
  | .request _ c0 fields _ _ =>
    c0 = c → (s.conn c).tx = none ∧ ∀ sig, reqSig fields = some sig → sig.name ∉ scriptNames
  | .send _ c0 _ _ _ => c0 ≠ c
  | .awake _ c0 _ _ => c0 ≠ c
  | .atimeout _ c0 _ _ => c0 ≠ c
  | _ => True

/-- `QuietEv c` of every event in the state it meets: `HistAll (QuietEv c)` of `Hist.lean` written out, the spelling of
the statements of `FR/Props/C10s.lean` -/
def QuietFrom (c : Nat) (s : Sys) : List Ev → Prop
  | [] => True
  | e :: es => QuietEv c s e ∧ QuietFrom c (stepEv s e) es

theorem isSub_step (s : Sys) (e : Ev) (c : Nat) (q : Bool) (m : Bytes) (b : Bool) (hq : QuietEv c s e)
    (hb : IsSub s q c m ↔ b = true) : IsSub (stepEv s e) q c m ↔ subscribedStep c q m b e = true := by
  have h0 : K q c m (b = true) s.beginEvent := (subV_core (begin_core s) q c m).trans hb
  have hh : ∀ cl pk, K q c m (b = true) (s.beginEvent.withHints cl pk) :=
    fun cl pk => (subV_core (hints_core s cl pk) q c m).trans hb
  cases e with
  | version v => exact (subV_core (v := view s) rfl q c m).trans hb
  | conn up => exact (subV_core (v := view s) rfl q c m).trans hb
  | «open» c0 =>
    show SubV (view (openConn c0 s.beginEvent).2) q c m ↔ b = true
    rw [view_open]; exact hb
  | close c0 =>
    show SubV (view (closeConn c0 s.beginEvent).2) q c m ↔ (if c0 = c then false else b) = true
    rw [view_close, subV_close, show SubV (view s.beginEvent) q c m ↔ b = true from h0]
    by_cases hc : c0 = c <;> simp [hc, Ne.symm]
  | gc c0 =>
    show SubV (view (gcConn c0 s.beginEvent).2) q c m ↔ (if c0 = c then false else b) = true
    rw [view_gc, subV_gc, show SubV (view s.beginEvent) q c m ↔ b = true from h0]
    by_cases hc : c0 = c <;> simp [hc, Ne.symm]
  | wake c0 clocks => exact wakeConn_pres (I := K q c m _) (f0_emit c0) _ (hh clocks [])
  | timeout c0 => exact timeoutConn_pres (I := K q c m _) (f0_emit c0) _ h0
  | send mode c0 data clocks picks =>
    exact sendallGuarded_pres (K_hyps q c m _ c0 hq) (K_clean q c m _) mode data _ (hh clocks picks)
  | awake mode c0 clocks picks =>
    exact wakeConnAsync_pres (K_hyps q c m _ c0 hq) (K_clean q c m _) mode _ (hh clocks picks)
  | atimeout mode c0 clocks picks =>
    exact timeoutConnAsync_pres (K_hyps q c m _ c0 hq) (K_clean q c m _) mode _ (hh clocks picks)
  | request mode c0 fields clocks picks =>
    by_cases hc : c0 = c
    · subst hc
      obtain ⟨htx, hns⟩ := hq rfl
      simp only [subscribedStep, if_true]
      cases hk : psKind fields with
      | sub p names =>
        rw [isSub_request_sub s mode c0 fields clocks picks p names hk htx, hb]
        -- the same condition, spelt with propositions and with Booleans
        simp [@eq_comm _ q p]
      | unsub p names =>
        rw [isSub_request_unsub s mode c0 fields clocks picks p names hk htx, hb]
        by_cases e : p = q <;> simp [e, @eq_comm _ q p]
      | other =>
        exact other_request (I := K q c0 m _) (K_clean q c0 m _) mode c0 fields
          (s.beginEvent.withHints clocks picks) hk htx hns (hh clocks picks)
    · simp only [subscribedStep, hc, if_false]
      exact processCommand_pres (K_hyps q c m _ c0 hc) (K_clean q c m _) mode fields _ (hh clocks picks)

theorem isSub_foldl (evs : List Ev) (s : Sys) (c : Nat) (q : Bool) (m : Bytes) (b : Bool)
    (hq : QuietFrom c s evs) (hb : IsSub s q c m ↔ b = true) :
    IsSub (evs.foldl stepEv s) q c m ↔ evs.foldl (subscribedStep c q m) b = true := by
  induction evs generalizing s b with
  | nil => exact hb
  | cons e es ih => exact ih _ _ hq.2 (isSub_step s e c q m b hq.1 hb)

theorem quietEv_other {c : Nat} {s : Sys} {e : Ev} (he : evConn e ≠ some c) : QuietEv c s e := by
  cases e <;> first | trivial | exact fun h => he (congrArg some h) | exact fun h => absurd (congrArg some h) he

theorem subscribedStep_other {c : Nat} {q : Bool} {m : Bytes} {b : Bool} {e : Ev} (he : evConn e ≠ some c) :
    subscribedStep c q m b e = b := by
  cases e <;> first | rfl | exact if_neg fun h => he (congrArg some h)

/-- an event of another connection (or of no connection) leaves `c`'s subscriptions alone — whatever the
event is: MULTI/EXEC with queued (un)subscriptions, scripts, raw bytes, wake-ups … -/
theorem sub_step_other (s : Sys) (e : Ev) (q : Bool) (c : Nat) (m : Bytes) (he : evConn e ≠ some c) :
    IsSub (stepEv s e) q c m ↔ IsSub s q c m := by
  have key : ∀ b : Bool, (IsSub s q c m ↔ b = true) → (IsSub (stepEv s e) q c m ↔ IsSub s q c m) := fun b hb =>
    ((isSub_step s e c q m b (quietEv_other he) hb).trans (by rw [subscribedStep_other he])).trans hb.symm
  by_cases h : IsSub s q c m
  · exact key true (by simp [h])
  · exact key false (by simp [h])

/-! ## Part 7: subscriber mode — the gate -/

/-- a closed subscriber-mode gate: `_run_command` answers the fixed error before it looks at the arguments
(no conversion error, no `missing_return` short-cut takes precedence) and the state is literally unchanged
(no lazy expiry of the keys) -/
theorem runWith_gated (special : SpecialFn) (mode : Mode) (c : Nat) (sig : Sig) (args : List Bytes) (s1 : Sys)
    (hg : runGate sig false ((s1.conn c).pubsub > 0) = some Msgs.BAD_COMMAND_IN_PUBSUB_MSG) :
    runWith special mode c sig args false s1 = (some (.err (strBytes Msgs.BAD_COMMAND_IN_PUBSUB_MSG)), s1) :=
  runWith_refused special mode c sig args false (Sys.refuses_of_gate_some rfl hg).1

theorem runScriptCmd_gated (mode : Mode) (c : Nat) (sig : Sig) (args : List Bytes) (s1 : Sys)
    (hg : runGate sig false ((s1.conn c).pubsub > 0) = some Msgs.BAD_COMMAND_IN_PUBSUB_MSG) :
    runScriptCmd mode c sig args false s1 = (some (.err (strBytes Msgs.BAD_COMMAND_IN_PUBSUB_MSG)), s1) :=
  runScriptCmd_refused mode c sig args false (Sys.refuses_of_gate_some rfl hg).1

/-- While `Conn.pubsub > 0`, a request (outside MULTI, right number of arguments) for a command other than
(P)SUBSCRIBE / (P)UNSUBSCRIBE / PING / QUIT: after the clean-up and the clock refresh that precede every known command
the fixed error is the reply.  The arguments are not converted, no key is looked up, the body does not run. -/
theorem process_gated (mode : Mode) (c : Nat) (nameB : Bytes) (args : List Bytes) (s : Sys) (sig : Sig)
    (hsig : lookupSig nameB = some sig) (har : sig.checkArity args.length = true) (htx : (s.conn c).tx = none)
    (hps : (s.conn c).pubsub > 0) (hna : sig.name ∉ SigTable.pubsubAllowed) :
    processCommand mode c (nameB :: args) s =
      ((), finish c ((prep s).emitS c (.err (strBytes Msgs.BAD_COMMAND_IN_PUBSUB_MSG)))) := by
  have hg : runGate sig false (((prep s).conn c).pubsub > 0) = some Msgs.BAD_COMMAND_IN_PUBSUB_MSG := by
    rw [prep_pubsub]; simp only [hps, decide_true]; exact runGate_subscribed sig hna
  rw [processCommand_run _ _ _ _ _ hsig har htx,
    runCommand_refused mode c sig args false (Sys.refuses_of_gate_some rfl hg).1]
  rfl

/-- the final state of a request refused in subscriber mode is literally `prep s` plus the reply: tables, connection
records, every database (no lazy expiry) -/
theorem process_gated_frame (mode : Mode) (c : Nat) (nameB : Bytes) (args : List Bytes) (s : Sys) (sig : Sig)
    (hsig : lookupSig nameB = some sig) (har : sig.checkArity args.length = true) (htx : (s.conn c).tx = none)
    (hps : (s.conn c).pubsub > 0) (hna : sig.name ∉ SigTable.pubsubAllowed) (hcr : s.crashed = none) :
    let s' := (processCommand mode c (nameB :: args) s).2
    s' = (prep s).emitS c (.err (strBytes Msgs.BAD_COMMAND_IN_PUBSUB_MSG)) ∧
    s'.srv = (prep s).srv ∧
    s'.out = (if (s.conn c).closed then s.out else (c, .err (strBytes Msgs.BAD_COMMAND_IN_PUBSUB_MSG)) :: s.out) := by
  intro s'
  have e : s' = finish c ((prep s).emitS c (.err (strBytes Msgs.BAD_COMMAND_IN_PUBSUB_MSG))) := by
    show (processCommand mode c (nameB :: args) s).2 = _
    rw [process_gated mode c nameB args s sig hsig har htx hps hna]
  have hcr' : ∀ (x : Sys) r, x.crashed = none → finish c (x.emitS c r) = x.emitS c r := by
    intro x r hx
    unfold finish
    have : (x.emitS c r).crashed = none := by unfold Sys.emitS; split <;> exact hx
    rw [this]; rfl
  have hpc : (prep s).crashed = none := s.prologue_crashed.trans hcr
  rw [hcr' _ _ (by exact hpc)] at e
  refine ⟨e, ?_, ?_⟩
  · rw [e, Sys.emitS_srv]
  · rw [e, Sys.emitS_out]
    show (if ((prep s).conn c).closed = true then (prep s).out else _ :: (prep s).out) = _
    rw [prep_closed, prep_out]

/-! ## Part 8: PUBLISH — who receives what, in which order -/

/-- the server tables as the next command sees them: the closed sockets awaiting clean-up are gone -/
def liveSrv (s : Sys) : Server :=
  { s.srv with subs := stripAll s.srv.subs s.srv.closedSockets, psubs := stripAll s.srv.psubs s.srv.closedSockets }

def chanMsg (ch msg : Bytes) : Reply := .arr [.bulk (strBytes "message"), .bulk ch, .bulk msg]
def patMsg (pat ch msg : Bytes) : Reply := .arr [.bulk (strBytes "pmessage"), .bulk pat, .bulk ch, .bulk msg]

theorem deliveries_congr (srv srv' : Server) (h1 : srv'.subs = srv.subs) (h2 : srv'.psubs = srv.psubs)
    (ch msg : Bytes) : deliveries srv' ch msg = deliveries srv ch msg := by
  unfold deliveries; rw [h1, h2]

theorem psinv_prep (s : Sys) (h : PSInv s) : PSInv (prep s) := prep_pres psinv_cleanup s h

theorem listed_open (s : Sys) (hinv : PSInv s) (hcl : s.srv.closedSockets = []) (ch msg : Bytes) (c : Nat) (r : Reply)
    (h : (c, r) ∈ deliveries s.srv ch msg) : (s.conn c).closed = false := by
  have key : ∀ e, e ∈ s.srv.subs ∨ e ∈ s.srv.psubs → c ∈ e.2 → (s.conn c).closed = false := by
    intro e he hc
    cases hh : (s.conn c).closed
    · rfl
    · have := ((psinv_unpack hinv).2.2.1 e he c hc).2 hh
      rw [hcl] at this; cases this
  rw [mem_deliveries] at h
  rcases h with ⟨hm, _⟩ | ⟨pat, cs, hm, _, hc, _⟩
  · obtain ⟨cs, h1, h2⟩ := mem_tblMembers s.srv.subs ch c hm
    exact key _ (.inl h1) h2
  · exact key _ (.inr hm) hc

theorem deliveries_open (s : Sys) (hinv : PSInv s) (hcl : s.srv.closedSockets = []) (ch msg : Bytes) :
    (deliveries s.srv ch msg).filter (fun d => !(s.conn d.1).closed) = deliveries s.srv ch msg := by
  rw [List.filter_eq_self]
  intro d hd
  rw [listed_open s hinv hcl ch msg d.1 d.2 hd]; rfl

theorem finish_out (c : Nat) (s : Sys) : (finish c s).out = s.out := by
  unfold finish; split <;> rfl

/-- the state in which the body of a request runs: its tables are the live tables of `s`, and under the table invariant
nobody listed in them is closed, so a PUBLISH run there reaches all of `deliveries (liveSrv s)` -/
theorem deliveries_body (s : Sys) (hinv : PSInv s) (cl : List Int) (pk : List (List Bytes)) (ch msg : Bytes) :
    deliveries (prep (s.beginEvent.withHints cl pk)).srv ch msg = deliveries (liveSrv s) ch msg ∧
    (deliveries (liveSrv s) ch msg).filter (fun d => !((prep (s.beginEvent.withHints cl pk)).conn d.1).closed) =
      deliveries (liveSrv s) ch msg := by
  have hds : deliveries (prep (s.beginEvent.withHints cl pk)).srv ch msg = deliveries (liveSrv s) ch msg :=
    deliveries_congr _ _ (Sys.prologue_subs _) (Sys.prologue_psubs _) ch msg
  refine ⟨hds, ?_⟩
  rw [← hds]
  exact deliveries_open _ (psinv_prep _ (PSInvV.of_core hinv (hints_core s cl pk))) (Sys.prologue_closedSockets _) ch msg

/-- PUBLISH (outside MULTI, by an open client without subscriptions), in a state satisfying the table invariant:
the event emits, in this order, the deliveries computed from the cleaned-up tables and then the integer reply =
their number, to the publisher.  Nothing else is emitted. -/
theorem publish_request_out (s : Sys) (hinv : PSInv s) (mode : Mode) (P : Nat) (nameB ch msg : Bytes)
    (cl : List Int) (pk : List (List Bytes)) (hname : commandName nameB = some "publish")
    (hopen : IsOpen s P) (htx : (s.conn P).tx = none) (hps : (s.conn P).pubsub = 0) :
    (stepEv s (.request mode P [nameB, ch, msg] cl pk)).out.reverse =
      deliveries (liveSrv s) ch msg ++ [(P, .int (deliveries (liveSrv s) ch msg).length)] := by
  let s0 := s.beginEvent.withHints cl pk
  obtain ⟨hds, hopn⟩ := deliveries_body s hinv cl pk ch msg
  show (processCommand mode P [nameB, ch, msg] s0).2.out.reverse = _
  rw [process_publish mode P nameB ch msg s0 hname htx hps, finish_out, publish_run, Sys.emitS_out]
  have hPc : (Sys.conn { prep s0 with out := ((deliveries (prep s0).srv ch msg).filter
      fun d => !((prep s0).conn d.1).closed).reverse ++ (prep s0).out } P).closed = false := by
    show ((prep s0).conn P).closed = false
    rw [prep_closed]; exact hopen.2
  rw [hPc]
  simp only [Bool.false_eq_true, if_false]
  rw [hds, hopn, prep_out]
  show ((P, Reply.int _) :: ((deliveries (liveSrv s) ch msg).reverse ++ ([] : List (Nat × Reply)))).reverse = _
  simp

/-- an effective subscriber is one listed in the tables as the next command sees them (`liveSrv`) -/
theorem isSub_live (s : Sys) (q : Bool) (c : Nat) (m : Bytes) :
    IsSub s q c m ↔ c ∈ tblMembers (stripAll (s.tbl q) s.srv.closedSockets) m := by
  rw [sub_def, mem_members_stripAll]

/-- who receives a published message: the effective subscribers of the channel get `message`, the effective
subscribers of every matching pattern get `pmessage` — nobody else, nothing else -/
theorem mem_deliveries_live (s : Sys) (hinv : PSInv s) (ch msg : Bytes) (c : Nat) (r : Reply) :
    (c, r) ∈ deliveries (liveSrv s) ch msg ↔
      (IsSub s false c ch ∧ r = chanMsg ch msg) ∨
      (∃ pat, Glob.globMatch pat ch = true ∧ IsSub s true c pat ∧ r = patMsg pat ch msg) := by
  rw [mem_deliveries]
  simp only [isSub_live]
  have hnd : ((stripAll s.srv.psubs s.srv.closedSockets).map Prod.fst).Nodup :=
    (tblOK_stripAll _ _ (hinv.tblOK true)).1
  apply or_congr Iff.rfl
  constructor
  · rintro ⟨pat, cs, hm, hg, hc, rfl⟩
    exact ⟨pat, hg, mem_members_of_mem hnd hm hc, rfl⟩
  · rintro ⟨pat, hg, hs, rfl⟩
    obtain ⟨cs, hm, hc⟩ := mem_tblMembers _ pat c hs
    exact ⟨pat, cs, hm, hg, hc, rfl⟩

/-! ### the client-visible log of a history -/

/-- the replies emitted during a history, oldest first (`Sys.out` is newest-first and is reset by every event) -/
def outLog (s : Sys) : List Ev → List (Nat × Reply)
  | [] => []
  | e :: es => (stepEv s e).out.reverse ++ outLog (stepEv s e) es

theorem outLog_append (s : Sys) (evs1 evs2 : List Ev) :
    outLog s (evs1 ++ evs2) = outLog s evs1 ++ outLog (evs1.foldl stepEv s) evs2 := by
  induction evs1 generalizing s with
  | nil => rfl
  | cons e es ih => simp only [List.cons_append, outLog, List.foldl_cons, ih, List.append_assoc]

theorem outLog_append_cons (s : Sys) (pre : List Ev) (e : Ev) (post : List Ev) :
    outLog s (pre ++ e :: post) = outLog s pre ++
      ((stepEv (pre.foldl stepEv s) e).out.reverse ++ outLog (stepEv (pre.foldl stepEv s) e) post) := by
  rw [outLog_append]; rfl

theorem legalFrom_append (s : Sys) (evs1 evs2 : List Ev) :
    LegalFrom s (evs1 ++ evs2) ↔ LegalFrom s evs1 ∧ LegalFrom (evs1.foldl stepEv s) evs2 := by
  induction evs1 generalizing s with
  | nil => simp [LegalFrom]
  | cons e es ih => simp only [List.cons_append, LegalFrom, List.foldl_cons, ih, and_assoc]

theorem publish_pushes (s : Sys) (hinv : PSInv s) (mode : Mode) (P : Nat) (nameB ch msg : Bytes)
    (cl : List Int) (pk : List (List Bytes)) (hname : commandName nameB = some "publish")
    (hopen : IsOpen s P) (htx : (s.conn P).tx = none) (hps : (s.conn P).pubsub = 0)
    (S : Nat) (hS : IsSub s false S ch) :
    ∃ a b, (stepEv s (.request mode P [nameB, ch, msg] cl pk)).out.reverse = a ++ (S, chanMsg ch msg) :: b := by
  rw [publish_request_out s hinv mode P nameB ch msg cl pk hname hopen htx hps]
  have : (S, chanMsg ch msg) ∈ deliveries (liveSrv s) ch msg :=
    (mem_deliveries_live s hinv ch msg S _).2 (.inl ⟨hS, rfl⟩)
  obtain ⟨a, b, e⟩ := List.append_of_mem this
  exact ⟨a, b ++ [(P, .int (deliveries (liveSrv s) ch msg).length)], by rw [e]; simp⟩

/-- Order: two PUBLISH requests in a legal history, the first on a channel `S` is subscribed to at that moment,
the second on a channel `S` is subscribed to at that moment: in the log, `S`'s push for the first precedes `S`'s
push for the second -/
theorem publish_order (pre mid post : List Ev) (mode1 mode2 : Mode) (P1 P2 : Nat) (n1 ch1 m1 n2 ch2 m2 : Bytes)
    (cl1 cl2 : List Int) (pk1 pk2 : List (List Bytes)) (S : Nat)
    (hlegal : LegalFrom {} (pre ++ .request mode1 P1 [n1, ch1, m1] cl1 pk1 :: (mid ++ .request mode2 P2 [n2, ch2, m2] cl2 pk2 :: post)))
    (hn1 : commandName n1 = some "publish") (hn2 : commandName n2 = some "publish")
    (htx1 : ((runHistory pre).conn P1).tx = none) (hps1 : ((runHistory pre).conn P1).pubsub = 0)
    (hS1 : IsSub (runHistory pre) false S ch1)
    (htx2 : ((runHistory (pre ++ .request mode1 P1 [n1, ch1, m1] cl1 pk1 :: mid)).conn P2).tx = none)
    (hps2 : ((runHistory (pre ++ .request mode1 P1 [n1, ch1, m1] cl1 pk1 :: mid)).conn P2).pubsub = 0)
    (hS2 : IsSub (runHistory (pre ++ .request mode1 P1 [n1, ch1, m1] cl1 pk1 :: mid)) false S ch2) :
    ∃ A B C, outLog {} (pre ++ .request mode1 P1 [n1, ch1, m1] cl1 pk1 ::
        (mid ++ .request mode2 P2 [n2, ch2, m2] cl2 pk2 :: post)) =
      A ++ (S, chanMsg ch1 m1) :: (B ++ (S, chanMsg ch2 m2) :: C) := by
  obtain ⟨hl1, hl2⟩ := (legalFrom_append _ _ _).1 hlegal
  have hinv1 : PSInv (runHistory pre) := psinv_runHistory pre hl1
  have hopen1 : IsOpen (runHistory pre) P1 := hl2.1
  have hl3 := hl2.2
  obtain ⟨hl4, hl5⟩ := (legalFrom_append _ _ _).1 hl3
  have e2 : runHistory (pre ++ .request mode1 P1 [n1, ch1, m1] cl1 pk1 :: mid) =
      mid.foldl stepEv (stepEv (runHistory pre) (.request mode1 P1 [n1, ch1, m1] cl1 pk1)) := by
    unfold runHistory; rw [List.foldl_append]; rfl
  rw [e2] at htx2 hps2 hS2
  have hinv2 : PSInv (mid.foldl stepEv (stepEv (runHistory pre) (.request mode1 P1 [n1, ch1, m1] cl1 pk1))) :=
    psinv_foldl mid _ (psinv_step _ _ hinv1 hopen1) hl4
  have hopen2 := hl5.1
  obtain ⟨a1, b1, h1⟩ := publish_pushes _ hinv1 mode1 P1 n1 ch1 m1 cl1 pk1 hn1 hopen1 htx1 hps1 S hS1
  obtain ⟨a2, b2, h2⟩ := publish_pushes _ hinv2 mode2 P2 n2 ch2 m2 cl2 pk2 hn2 hopen2 htx2 hps2 S hS2
  rw [outLog_append_cons, show pre.foldl stepEv {} = runHistory pre from rfl, h1, outLog_append_cons, h2]
  generalize outLog _ mid = L1
  generalize outLog _ post = L2
  exact ⟨outLog {} pre ++ a1, b1 ++ (L1 ++ a2), b2 ++ L2, by simp only [List.append_assoc, List.cons_append]⟩

/-! ## Part 9: PUBLISH inside MULTI is delivered at EXEC -/

theorem process_queued (mode : Mode) (c : Nat) (nameB : Bytes) (args : List Bytes) (s : Sys) (sig : Sig)
    (q : List (String × List Bytes))
    (hsig : lookupSig nameB = some sig) (har : sig.checkArity args.length = true)
    (htx : (s.conn c).tx = some q) (hnq : sig.name ∉ SigTable.notQueued)
    (hnm : sig.name ∉ SigTable.notInMulti) :
    processCommand mode c (nameB :: args) s =
      ((), ((prep s).updConn c fun x => { x with tx := x.tx.map (· ++ [(sig.name, args)]) }).emitS c .queued) := by
  have h : ((s.conn c).tx.isSome && !SigTable.notQueued.contains sig.name) = true := by
    have : SigTable.notQueued.contains sig.name = false := by simpa using hnq
    rw [htx, this]; rfl
  rw [processCommand_eq, Sys.processed_known mode c args s hsig, Sys.dispatched_queued _ _ _ _ _ _ har h
    (by simpa using hnm)]
  rfl

theorem process_refused (mode : Mode) (c : Nat) (nameB : Bytes) (args : List Bytes) (s : Sys) (sig : Sig)
    (q : List (String × List Bytes))
    (hsig : lookupSig nameB = some sig) (har : sig.checkArity args.length = true)
    (htx : (s.conn c).tx = some q) (hnq : sig.name ∉ SigTable.notQueued)
    (hnm : sig.name ∈ SigTable.notInMulti) :
    processCommand mode c (nameB :: args) s =
      ((), ((prep s).updConn c fun x => { x with txFailed := true }).emitS c
        (.err (strBytes Msgs.COMMAND_IN_MULTI_MSG))) := by
  have h : ((s.conn c).tx.isSome && !SigTable.notQueued.contains sig.name) = true := by
    have : SigTable.notQueued.contains sig.name = false := by simpa using hnq
    rw [htx, this]; rfl
  rw [processCommand_eq, Sys.processed_known mode c args s hsig, Sys.dispatched_refused _ _ _ _ _ _ har h
    (by simpa using hnm)]
  rfl

/-- PUBLISH inside MULTI: nothing reaches any subscriber at queue time -/
theorem publish_queued_out (s : Sys) (mode : Mode) (c : Nat) (nameB ch msg : Bytes) (cl : List Int) (pk)
    (q : List (String × List Bytes)) (hname : commandName nameB = some "publish") (htx : (s.conn c).tx = some q) :
    let s' := stepEv s (.request mode c [nameB, ch, msg] cl pk)
    s'.out = (if (s.conn c).closed then [] else [(c, Reply.queued)]) ∧
    s'.srv.subs = (liveSrv s).subs ∧ s'.srv.psubs = (liveSrv s).psubs := by
  intro s'
  have hsig : lookupSig nameB = some sigPublish := by
    rw [lookupSig_of_name _ _ hname (by decide +kernel), find_publish]
  have e : s' = (((prep (s.beginEvent.withHints cl pk)).updConn c
      fun x => { x with tx := x.tx.map (· ++ [(sigPublish.name, [ch, msg])]) }).emitS c .queued) := by
    show (processCommand mode c [nameB, ch, msg] (s.beginEvent.withHints cl pk)).2 = _
    rw [process_queued mode c nameB [ch, msg] (s.beginEvent.withHints cl pk) sigPublish q hsig rfl htx (by decide) (by decide)]
  refine ⟨?_, ?_, ?_⟩
  · rw [e, Sys.emitS_out, Sys.updConn_out, prep_out, Sys.conn_updConn_proj _ c c (fun x => { x with tx := x.tx.map (· ++ [(sigPublish.name, [ch, msg])]) }) Conn.closed (fun _ => rfl) (fun _ => rfl), prep_closed]
    rfl
  · rw [e, Sys.emitS_srv, Sys.updConn_subs]; exact Sys.prologue_subs _
  · rw [e, Sys.emitS_srv, Sys.updConn_psubs]; exact Sys.prologue_psubs _

/-! ### EXEC of a queue of PUBLISH commands -/

def pubQueue (pubs : List (Bytes × Bytes)) : List (String × List Bytes) :=
  pubs.map fun p => ("publish", [p.1, p.2])

theorem queueStep_publish (mode : Mode) (c : Nat) (ch msg : Bytes) (s : Sys) (hps : (s.conn c).pubsub = 0) :
    queueStep (runInner mode c) c ("publish", [ch, msg]) s =
      (some (.int (deliveries s.srv ch msg).length),
        ({ (s.updConn c fun x => { x with inTx := true }) with
            out := ((deliveries s.srv ch msg).filter fun d => !(s.conn d.1).closed).reverse ++ s.out } : Sys).updConn c
          fun x => { x with inTx := false }) := by
  unfold queueStep
  simp only [find_publish]
  rw [runInner_eq_runCommand' mode c sigPublish [ch, msg] (by decide)]
  simp only [bind, StateT.bind, modifyConn_run]
  have hk := ckey_conn_updConn s c (fun x => { x with inTx := true }) (fun _ => rfl)
  rw [runCommand_publish mode c ch msg _ ((congrArg (·.2.2) (hk c)).trans hps), publish_run]
  simp only [pure, StateT.pure]
  have hcl : ∀ d : Nat × Reply, ((s.updConn c fun x => { x with inTx := true }).conn d.1).closed = (s.conn d.1).closed :=
    fun d => congrArg (·.2.1) (hk d.1)
  simp only [hcl]
  rfl

/-- what a run of queued PUBLISH commands leaves -/
structure PubRun (pubs : List (Bytes × Bytes)) (c : Nat) (s s' : Sys) (rs : List (Option Reply)) : Prop where
  replies : rs = pubs.map fun p => some (.int (deliveries s.srv p.1 p.2).length)
  out : s'.out = (pubs.flatMap fun p => (deliveries s.srv p.1 p.2).filter fun d => !(s.conn d.1).closed).reverse ++ s.out
  subs : s'.srv.subs = s.srv.subs
  psubs : s'.srv.psubs = s.srv.psubs
  closed : ∀ c', (s'.conn c').closed = (s.conn c').closed
  pubsub : (s'.conn c).pubsub = (s.conn c).pubsub
  crashed : s'.crashed = s.crashed

theorem PubRun.nil (c : Nat) (s : Sys) : PubRun [] c s s [] := ⟨rfl, rfl, rfl, rfl, fun _ => rfl, rfl, rfl⟩

/-- one queued PUBLISH, then the rest of the queue: the tables and the closed flags are still those of `s` -/
theorem PubRun.cons {p : Bytes × Bytes} {ps : List (Bytes × Bytes)} {c : Nat} {s s1 s' : Sys} {r : Option Reply}
    {rs : List (Option Reply)} (h1 : PubRun [p] c s s1 [r]) (h2 : PubRun ps c s1 s' rs) :
    PubRun (p :: ps) c s s' (r :: rs) := by
  have hd : ∀ ch m, deliveries s1.srv ch m = deliveries s.srv ch m :=
    fun ch m => deliveries_congr _ _ h1.subs h1.psubs ch m
  refine ⟨?_, ?_, h2.subs.trans h1.subs, h2.psubs.trans h1.psubs, fun c' => (h2.closed c').trans (h1.closed c'),
    h2.pubsub.trans h1.pubsub, h2.crashed.trans h1.crashed⟩
  · rw [h2.replies, List.head_eq_of_cons_eq h1.replies]
    simp only [hd, List.map_cons]
  · rw [h2.out, h1.out]
    simp only [hd, h1.closed, List.flatMap_cons, List.flatMap_nil, List.append_nil, List.reverse_append,
      List.append_assoc]

theorem queueStep_publish_run (mode : Mode) (c : Nat) (ch msg : Bytes) (s : Sys) (hps : (s.conn c).pubsub = 0) :
    PubRun [(ch, msg)] c s (queueStep (runInner mode c) c ("publish", [ch, msg]) s).2
      [(queueStep (runInner mode c) c ("publish", [ch, msg]) s).1] := by
  rw [queueStep_publish mode c ch msg s hps]
  have hk : ∀ c', ckey (Sys.conn (({ (s.updConn c fun x => { x with inTx := true }) with
      out := ((deliveries s.srv ch msg).filter fun d => !(s.conn d.1).closed).reverse ++ s.out } : Sys).updConn c
        fun x => { x with inTx := false }) c') = ckey (s.conn c') := fun c' =>
    (ckey_conn_updConn _ c (fun x => { x with inTx := false }) (fun _ => rfl) c').trans
      (ckey_conn_updConn s c (fun x => { x with inTx := true }) (fun _ => rfl) c')
  refine ⟨rfl, ?_, rfl, rfl, fun c' => congrArg (·.2.1) (hk c'), congrArg (·.2.2) (hk c), rfl⟩
  simp only [List.flatMap_cons, List.flatMap_nil, List.append_nil]
  rfl

theorem runQueue_publishes (mode : Mode) (c : Nat) (pubs : List (Bytes × Bytes)) (s : Sys)
    (hps : (s.conn c).pubsub = 0) :
    PubRun pubs c s (runQueue (runInner mode c) c (pubQueue pubs) s).2 (runQueue (runInner mode c) c (pubQueue pubs) s).1 := by
  induction pubs generalizing s with
  | nil => exact .nil c s
  | cons p ps ih =>
    have h1 := queueStep_publish_run mode c p.1 p.2 s hps
    show PubRun (p :: ps) c s (runQueue _ c (("publish", [p.1, p.2]) :: pubQueue ps) s).2
      (runQueue _ c (("publish", [p.1, p.2]) :: pubQueue ps) s).1
    rw [runQueue_cons_run]
    exact h1.cons (ih _ (h1.pubsub.trans hps))

theorem any_isNone_map_some {α β} (l : List α) (f : α → β) : (l.map fun p => some (f p)).any Option.isNone = false := by
  induction l with
  | nil => rfl
  | cons a as ih => simp only [List.map_cons, List.any_cons, Option.isNone_some, Bool.false_or, ih]

theorem ckey_conn_execStart (s : Sys) (c c' : Nat) : ckey ((C19m.Sys.execStart s c).conn c') = ckey (s.conn c') := by
  unfold C19m.Sys.execStart
  exact (ckey_conn_updConn _ c (fun x => { x with watchNotified := false, watches := [] }) (fun _ => rfl) c').trans
    (ckey_conn_updConn s c (fun x => { x with tx := none, txFailed := false }) (fun _ => rfl) c')

/-- EXEC of a transaction that queued PUBLISH commands only (open client without subscriptions, no aborted
queue, no touched watch), in a state satisfying the table invariant: the deliveries of the queued PUBLISH commands
appear now, in queue order, followed by the array of the delivery counts as the reply to EXEC -/
theorem exec_publishes_out (s : Sys) (hinv : PSInv s) (mode : Mode) (c : Nat) (nameB : Bytes)
    (pubs : List (Bytes × Bytes)) (cl : List Int) (pk : List (List Bytes))
    (hname : commandName nameB = some "exec") (hopen : IsOpen s c)
    (htx : (s.conn c).tx = some (pubQueue pubs)) (hf : (s.conn c).txFailed = false)
    (hw : (s.conn c).watchNotified = false) (hps : (s.conn c).pubsub = 0) :
    (stepEv s (.request mode c [nameB] cl pk)).out.reverse =
      (pubs.flatMap fun p => deliveries (liveSrv s) p.1 p.2) ++
        [(c, .arr (pubs.map fun p => .int (deliveries (liveSrv s) p.1 p.2).length))] := by
  let s0 := s.beginEvent.withHints cl pk
  have hsig : lookupSig nameB = some sigExec := by
    rw [lookupSig_of_name _ _ hname (by decide +kernel), find_exec]
  have htx1 : ((prep s0).conn c).tx = some (pubQueue pubs) := by rw [prep_tx]; exact htx
  have hf1 : ((prep s0).conn c).txFailed = false := (s0.prologue_conn c Conn.txFailed fun _ => rfl).trans hf
  have hw1 : ((prep s0).conn c).watchNotified = false := Sys.prologue_watchNotified hw
  show (processCommand mode c [nameB] s0).2.out.reverse = _
  rw [processCommand_exec mode c s0 hsig hps, afterSpecial_run, ← prep_eq s0,
    execCmd_run (runInner mode c) [] htx1 hf1 hw1]
  generalize hsa : C19m.Sys.execStart (prep s0) c = sa
  have hkey : ∀ c', ckey (sa.conn c') = ckey ((prep s0).conn c') := hsa ▸ ckey_conn_execStart (prep s0) c
  have hsa_ps : (sa.conn c).pubsub = 0 := (congrArg (·.2.2) (hkey c)).trans ((prep_pubsub s0 c).trans hps)
  have hsa_subs : sa.srv.subs = (prep s0).srv.subs := hsa ▸ C19m.execStart_srv Server.subs (fun _ _ => rfl) (prep s0) c
  have hsa_psubs : sa.srv.psubs = (prep s0).srv.psubs := hsa ▸ C19m.execStart_srv Server.psubs (fun _ _ => rfl) (prep s0) c
  have hsa_out : sa.out = [] := by rw [← hsa]; exact prep_out s0
  have hsa_closed : ∀ c', (sa.conn c').closed = ((prep s0).conn c').closed :=
    fun c' => congrArg (fun k => k.2.1) (hkey c')
  have hrun := runQueue_publishes mode c pubs sa hsa_ps
  revert hrun
  generalize runQueue (runInner mode c) c (pubQueue pubs) sa = r
  obtain ⟨rs, sb⟩ := r
  intro hrun
  simp only at hrun ⊢
  have hany : rs.any Option.isNone = false := by rw [hrun.replies]; exact any_isNone_map_some _ _
  simp only [hany, Bool.false_eq_true, if_false, writebackAll_nil]
  show (finish c (sb.emitS c (Reply.arr (rs.map fun r => r.getD .nil)))).out.reverse = _
  rw [finish_out, Sys.emitS_out]
  have hcl : (sb.conn c).closed = false := by
    rw [hrun.closed, hsa_closed, prep_closed]; exact hopen.2
  rw [hcl]
  simp only [Bool.false_eq_true, if_false]
  have hd : ∀ ch m, deliveries sa.srv ch m = deliveries (liveSrv s) ch m := fun ch m =>
    (deliveries_congr _ _ hsa_subs hsa_psubs ch m).trans (deliveries_body s hinv cl pk ch m).1
  have hopn : ∀ ch m, (deliveries (liveSrv s) ch m).filter (fun d => !((prep s0).conn d.1).closed) =
      deliveries (liveSrv s) ch m := fun ch m => (deliveries_body s hinv cl pk ch m).2
  rw [hrun.out, hsa_out, hrun.replies]
  simp only [hd, hsa_closed, hopn, List.append_nil, List.reverse_cons, List.reverse_reverse, List.map_map, Function.comp_def,
    Option.getD_some]

/-! ## Part 10: decidability of the side conditions (for concrete histories) -/

instance (s : Sys) (c : Nat) : Decidable (IsOpen s c) := by unfold IsOpen; infer_instance

instance (s : Sys) (e : Ev) : Decidable (Legal s e) := by
  cases e <;> unfold Legal <;> infer_instance

instance decLegalFrom (s : Sys) (evs : List Ev) : Decidable (LegalFrom s evs) :=
  decidable_of_iff _ legalFrom_iff_histAll.symm

instance (fields : List Bytes) : Decidable (∀ sig, reqSig fields = some sig → sig.name ∉ scriptNames) :=
  match reqSig fields with
  | none => isTrue (fun sig hs => by cases hs)
  | some sig0 =>
    if h' : sig0.name ∈ scriptNames then isFalse (fun hall => hall sig0 rfl h')
    else isTrue (fun sig hs => by cases hs; exact h')

instance (c : Nat) (s : Sys) (e : Ev) : Decidable (QuietEv c s e) := by
  cases e <;> unfold QuietEv <;> infer_instance

instance decQuietFrom (c : Nat) : (s : Sys) → (evs : List Ev) → Decidable (QuietFrom c s evs)
  | _, [] => isTrue trivial
  | s, e :: es =>
    have := decQuietFrom c (stepEv s e) es
    by unfold QuietFrom; infer_instance

instance (s : Sys) (q : Bool) (c : Nat) (m : Bytes) : Decidable (IsSub s q c m) :=
  decidable_of_iff _ (sub_def s q c m).symm

end FR.PubSubHist

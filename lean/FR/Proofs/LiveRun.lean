import FR.Proofs.Runner
import FR.Proofs.System
/-!
# The generic runner on the live view of a database

The live entry of a key after `put` / `pop` / `CI.writeback` / `writebackPure` is given by the formulas `wbLive` (one
item) and `wbFold` (a list of items); `run_outcome` then says that all that can be observed of `runRegular` is a
function `runO` of the clock and the live view.  `run_ok` and `run_fails` (at the end) are its cases for a caller that
has `applyL` and the body's result at hand.
-/
namespace FR.Ttl
open FR FR.Db

/-! ## The live entry after the database operations -/

def keepLive (t : Int) (it : Item) : Option Item :=
  match it.expireat with
  | none => some it
  | some e => if e < t then none else some it

theorem keepLive_eq (db : Db) (it : Item) :
    keepLive db.time it = if db.expired it then none else some it := by
  unfold keepLive Db.expired
  cases it.expireat with
  | none => simp
  | some e => by_cases h : e < db.time <;> simp [h]

theorem keepLive_none (t : Int) (v : Value) : keepLive t ⟨v, none⟩ = some ⟨v, none⟩ := rfl

theorem keepLive_future {t e : Int} (v : Value) (h : t ≤ e) : keepLive t ⟨v, some e⟩ = some ⟨v, some e⟩ := by
  unfold keepLive
  have : ¬ e < t := by omega
  simp [this]

theorem live_setRaw_self {db : Db} (nd : NodupKeys db.dict) (k : Bytes) (it : Item)
    (h : ∀ q ∈ db.dict, q.1 = k → (!db.expired q.2) = true) :
    Db.live { db with dict := setRaw db.dict k it } k = keepLive db.time it := by
  unfold Db.live
  rw [setRaw_purge k it h]
  show (List.filter (fun p => !db.expired p.2) (setRaw (purge db).dict k it)).lookup k = _
  rw [lookup_filter _ k (nodup_setRaw k it (purge_nodup nd)), lookup_setRaw_self, keepLive_eq]
  simp only
  cases db.expired it <;> simp

theorem live_put_self {db : Db} (nd : NodupKeys db.dict) (k : Bytes) (v : Value) (e : Option Int) :
    (db.put k v e).live k = keepLive db.time ⟨v, e⟩ := by
  unfold Db.put
  simp only
  have h := live_setRaw_self (get_nodup k nd) k ⟨v, e⟩ (get_live k nd)
  rw [get_time] at h
  rw [← h, get_time]

/-- `CommandItem.writeback` on the live entry of the item's key.  The third branch (`elif self._expireat_modified`) is
reached by no body (`CI.ExpModSound`); it keeps the formula exact for any item. -/
def wbLive (t : Int) (c : CI) (cur : Option Item) : Option Item :=
  if c.modified then
    match c.val with
    | none => none
    | some v => if v.isEmptyColl then none else keepLive t ⟨v, c.expireat⟩
  else if c.expMod then cur.bind fun it => keepLive t { it with expireat := c.expireat }
  else cur

theorem writeback_live_self (c : CI) {db : Db} (nd : NodupKeys db.dict) :
    (c.writeback db).1.live c.key = wbLive db.time c (db.live c.key) := by
  obtain ⟨key, val, ex, m, em⟩ := c
  cases m with
  | true =>
    cases val with
    | none => simp only [CI.writeback, wbLive, if_true]; exact live_pop_self _ _
    | some v =>
      simp only [CI.writeback, wbLive, if_true]
      cases hv : v.isEmptyColl
      · simp only [Bool.false_eq_true, if_false]; exact live_put_self nd _ _ _
      · simp only [if_true]; exact live_pop_self _ _
  | false =>
    cases em with
    | false => simp only [CI.writeback, wbLive, Bool.false_eq_true, if_false]
    | true =>
      simp only [CI.writeback, wbLive, Bool.false_eq_true, if_false, if_true]
      have hg := get_snd_live nd key
      have hl := live_setRaw_self (get_nodup key nd) key
      have hl' := fun it => hl it (get_live key nd)
      have hlg := live_get nd key key
      have ht := get_time db key
      revert hg hl' hlg ht
      generalize db.get key = g
      obtain ⟨db', r⟩ := g
      simp only
      intro hg hl' hlg ht
      cases r with
      | some it => simp only; rw [hl', ← hg, ht]; rfl
      | none => simp only; rw [hlg, ← hg]; rfl

/-- effect of a list of `CommandItem`s, written back in order, on the live entry of `k` -/
def wbFold (t : Int) (k : Bytes) (cis : List CI) (cur : Option Item) : Option Item :=
  cis.foldl (fun cur c => if c.key = k then wbLive t c cur else cur) cur

theorem wbFold_nil (t k cur) : wbFold t k [] cur = cur := rfl
theorem wbFold_cons (t k) (c : CI) (cs cur) :
    wbFold t k (c :: cs) cur = wbFold t k cs (if c.key = k then wbLive t c cur else cur) := rfl

theorem writebackPure_live_eq (cis : List CI) {db : Db} (nd : NodupKeys db.dict) (k : Bytes) :
    (writebackPure db cis).1.live k = wbFold db.time k cis (db.live k) := by
  induction cis generalizing db with
  | nil => rfl
  | cons c cs ih =>
    rw [writebackPure_cons, wbFold_cons]
    simp only
    rw [ih (c.writeback_nodup nd), c.writeback_time]
    congr 1
    by_cases h : c.key = k
    · subst h; simp only [if_true]; exact writeback_live_self c nd
    · simp only [h, if_false]; exact c.writeback_live_ne nd (Ne.symm h)

theorem wbLive_clean {c : CI} (h : c.Clean) (t cur) : wbLive t c cur = cur := by
  unfold wbLive; simp [h.1, h.2]

theorem wbFold_other (t : Int) (k : Bytes) (cis : List CI) (cur : Option Item)
    (h : ∀ c ∈ cis, c.key = k → c.Clean) : wbFold t k cis cur = cur := by
  induction cis generalizing cur with
  | nil => rfl
  | cons c cs ih =>
    rw [wbFold_cons, ih _ (fun c' hc' => h c' (by simp [hc']))]
    split
    · rename_i hk; exact wbLive_clean (h c (by simp) hk) _ _
    · rfl

theorem live_eq_fun {db out : Db} (r : Reads db out) : out.live = db.live :=
  funext (live_eq_of_purge r.eq)

theorem live_of_purge_eq {a b : Db} (h : Db.purge a = Db.purge b) (k : Bytes) : a.live k = b.live k :=
  live_eq_of_purge h k

end FR.Ttl

namespace FR.LiveRun
open FR FR.Db FR.Ttl

/-- what can be observed of one run of `_run_command` -/
structure Outcome where
  reply : Reply
  live : Bytes → Option Item
  wrote : List Bytes
  failed : Bool

def observe (out : RunOut) : Outcome := ⟨out.reply, out.db.live, out.notified, out.failed⟩

def fails (live : Bytes → Option Item) (e : Err) : Outcome := ⟨.err (strBytes e), live, [], true⟩

def wbView (time : Int) (live : Bytes → Option Item) (cis : List CI) : Bytes → Option Item :=
  fun k => wbFold time k cis (live k)

def finO (time : Int) (live : Bytes → Option Item) : Except Err BodyOut → Outcome
  | .error e => fails live e
  | .ok o => ⟨o.reply, wbView time live o.cis, (o.cis.filter (·.modified)).map (·.key), false⟩

def runO (sig : Sig) (body : Body) (ctx : Ctx) (raw : List Bytes) (time : Int) (live : Bytes → Option Item) :
    Outcome :=
  match applyL live sig raw with
  | .error e => fails live e
  | .ok (.short r) => ⟨r, live, [], false⟩
  | .ok (.ok args cis) => finO time live (body ctx args cis)

/-- the items the body hands back for write-back; none on the paths that write nothing -/
def returned (sig : Sig) (body : Body) (ctx : Ctx) (raw : List Bytes) (live : Bytes → Option Item) : List CI :=
  match applyL live sig raw with
  | .ok (.ok args cis) =>
    match body ctx args cis with
    | .ok o => o.cis
    | .error _ => []
  | _ => []

/-- the statement the families rest on; the second part: untouched items cost the database dead entries only -/
theorem run_outcome (sig : Sig) (body : Body) (ctx : Ctx) (raw : List Bytes) {db : Db} (nd : NodupKeys db.dict) :
    observe (runRegular sig body ctx none raw db) = runO sig body ctx raw db.time db.live ∧
    ((∀ c ∈ returned sig body ctx raw db.live, c.Clean) →
      Db.purge (runRegular sig body ctx none raw db).db = Db.purge db) := by
  have hr := Sig.apply_reads sig raw nd
  have h1 : (sig.apply raw db).1.live = db.live := live_eq_fun hr
  have ht : (sig.apply raw db).1.time = db.time := (congrArg Db.time hr.eq :)
  have ha := apply_eq sig raw nd
  refine runRegular_cases sig body ctx none raw db
    (P := fun out => observe out = runO sig body ctx raw db.time db.live ∧
      ((∀ c ∈ returned sig body ctx raw db.live, c.Clean) → Db.purge out.db = Db.purge db)) ?_ ?_ ?_ ?_ ?_
  all_goals unfold runO returned
  · intro e he
    rw [← ha, he]
    exact ⟨by rw [← h1]; rfl, fun _ => hr.eq⟩
  · intro r hs
    rw [← ha, hs]
    exact ⟨by rw [← h1]; rfl, fun _ => hr.eq⟩
  · intro args cis e _ hg
    cases hg
  · intro args cis e hok _ hb
    rw [← ha, hok]
    simp only [hb, finO, fails, observe]
    rw [writebackPure_clean (Sig.apply_clean sig raw db hok), ← h1]
    exact ⟨rfl, fun _ => hr.eq⟩
  · intro args cis o hok _ hb
    rw [← ha, hok]
    simp only [hb, finO, observe]
    refine ⟨?_, fun hq => by rw [writebackPure_clean hq]; exact hr.eq⟩
    rw [writebackPure_notified]
    congr 1
    funext k
    rw [writebackPure_live_eq _ hr.nd, h1, ht]
    rfl

end FR.LiveRun

namespace FR.Ttl
open FR FR.Db

/-! ## `runRegular` at the live level, case by case -/

theorem run_ok (sig : Sig) (body : Body) (ctx : Ctx) (raw : List Bytes) {db : Db} (nd : NodupKeys db.dict)
    {args : List Arg} {cis : List CI} {o : BodyOut}
    (ha : applyL db.live sig raw = .ok (.ok args cis)) (hb : body ctx args cis = .ok o) :
    (runRegular sig body ctx none raw db).reply = o.reply ∧
    (runRegular sig body ctx none raw db).failed = false ∧
    ∀ k, (runRegular sig body ctx none raw db).db.live k = wbFold db.time k o.cis (db.live k) := by
  have ho := (LiveRun.run_outcome sig body ctx raw nd).1
  simp only [LiveRun.runO, ha, hb, LiveRun.finO] at ho
  exact ⟨congrArg (·.reply) ho, congrArg (·.failed) ho, fun k => congrFun (congrArg (·.live) ho) k⟩

theorem run_fails (sig : Sig) (body : Body) (ctx : Ctx) (raw : List Bytes) {db : Db} (nd : NodupKeys db.dict)
    {e : Err} (h : LiveRun.runO sig body ctx raw db.time db.live = LiveRun.fails db.live e) :
    (runRegular sig body ctx none raw db).reply = .err (strBytes e) ∧
    (runRegular sig body ctx none raw db).failed = true ∧
    Db.purge (runRegular sig body ctx none raw db).db = Db.purge db := by
  have ho := (LiveRun.run_outcome sig body ctx raw nd).1.trans h
  have hf : (runRegular sig body ctx none raw db).failed = true := congrArg (·.failed) ho
  exact ⟨congrArg (·.reply) ho, hf, (runRegular_failed sig body ctx none raw nd hf).1.eq⟩

end FR.Ttl


import FR.Proofs.C03zRun
import FR.Proofs.Decimal
import FR.Proofs.Lists
/-!
# Sorted-set commands at the level of lists: what the operations of the model compute, in declarative form

* `limitSpec` (LIMIT offset count), `rangeWindow` (Redis index normalisation) and the Python slices of the model;
* score / lex ranges as filters of the sorted list; ZREM as a filter;
* `incrScore` (ZINCRBY); the fold `zaddSet` of ZADD (`FR/Proofs/ZSet.lean` §4) member by member; the option and pair
  parsers of ZADD;
* the sorted index is determined by the member ↦ score map; ZRANK as `idxOf`.
-/
namespace FR.ZCmd
open FR Db FR.HashSet FR.Cmd

/-! ## LIMIT -/

/-- `_limit_items`, declaratively: a negative offset yields nothing, a negative count everything from the offset -/
def limitSpec {α} (l : List α) (off cnt : Int) : List α :=
  if off < 0 then [] else if cnt < 0 then l.drop off.toNat else (l.drop off.toNat).take cnt.toNat

theorem limitItems_eq {α} (l : List α) (off cnt : Int) : limitItems l off cnt = limitSpec l off cnt := by
  induction l generalizing off cnt with
  | nil => simp [limitItems, limitSpec]
  | cons x xs ih =>
    unfold limitItems
    by_cases h0 : off = 0
    · subst h0
      simp only [bne_self_eq_false, Bool.false_eq_true, if_false]
      by_cases hc : cnt = 0
      · subst hc; simp [limitSpec]
      · have : (cnt == 0) = false := by simpa using hc
        rw [this]; simp only [Bool.false_eq_true, if_false]
        rw [ih]
        unfold limitSpec
        simp only [Int.lt_irrefl, if_false, Int.toNat_zero, List.drop_zero]
        by_cases hn : cnt < 0
        · rw [if_pos hn, if_pos (by omega)]
        · rw [if_neg hn, if_neg (by omega)]
          have : cnt.toNat = (cnt - 1).toNat + 1 := by omega
          rw [this, List.take_succ_cons]
    · have : (off != 0) = true := by simpa using h0
      rw [this]; simp only [if_true]
      rw [ih]
      unfold limitSpec
      by_cases hn : off < 0
      · rw [if_pos hn, if_pos (by omega)]
      · rw [if_neg hn, if_neg (by omega)]
        have : off.toNat = (off - 1).toNat + 1 := by omega
        rw [this, List.drop_succ_cons]

/-! ## index windows -/

/-- `Spec.norm` of `FR/Proofs/Lists.lean` under another name -/
def normIdx (i : Int) (len : Nat) : Int := if i < 0 then i + len else i

/-- the Redis index window `start … stop` of `l` (negative indices count from the end, the window is cut to the list)
as a `drop` and a `take`; `Spec.lrangeSpec` (`FR/Proofs/Lists.lean`) spells the same window as a `filterMap` -/
def rangeWindow {α} (l : List α) (start stop : Int) : List α :=
  (l.drop (max 0 (normIdx start l.length)).toNat).take
    (min (normIdx stop l.length) ((l.length : Int) - 1) + 1 - max 0 (normIdx start l.length)).toNat

theorem slice_fixRange {α} (l : List α) (start stop : Int) :
    Py.slice l (fixRange start stop l.length).1 (fixRange start stop l.length).2 = rangeWindow l start stop :=
  Proofs.fixRange_slice l start stop

theorem slice_fixRange_rev {α} (l : List α) (start stop : Int) :
    (Py.slice l ((l.length : Int) - (fixRange start stop l.length).2)
      ((l.length : Int) - (fixRange start stop l.length).1)).reverse = rangeWindow l.reverse start stop := by
  unfold rangeWindow
  rw [List.length_reverse]
  exact Proofs.fixRange_slice_rev l start stop

/-! ## score and lex ranges -/

/-- member `m` is at or above the lower lex bound -/
def lexGe (b : LexB) (excl : Bool) (m : Bytes) : Bool :=
  if excl then LexB.lt b (.val m) else !LexB.lt (.val m) b
/-- member `m` is at or below the upper lex bound -/
def lexLe (b : LexB) (excl : Bool) (m : Bytes) : Bool :=
  if excl then LexB.lt (.val m) b else !LexB.lt b (.val m)

/-- Python's tuple comparison: on equal scores the members decide, otherwise the scores -/
theorem pairLt_of_eq {s1 s2 : Dbl} (h : Dbl.eq s1 s2 = true) (m1 m2 : LexB) : pairLt s1 m1 s2 m2 = LexB.lt m1 m2 :=
  if_pos h

theorem pairLt_of_ne {s1 s2 : Dbl} (h : Dbl.eq s1 s2 = false) (m1 m2 : LexB) : pairLt s1 m1 s2 m2 = Dbl.lt s1 s2 :=
  if_neg (ne_true_of_eq_false h)

theorem firstScore_le {z : ZSet} (hz : z.Inv) {sc : Dbl} (h : z.firstScore = some sc) :
    sc.isNaN = false ∧ ∀ p ∈ z.byscore, Dbl.eq p.1 sc = true ∨ (Dbl.eq p.1 sc = false ∧ Dbl.lt sc p.1 = true) := by
  unfold ZSet.firstScore at h
  cases hb : z.byscore with
  | nil => rw [hb] at h; cases h
  | cons x xs =>
    rw [hb] at h
    simp only [List.head?_cons, Option.map_some, Option.some.injEq] at h
    subst h
    have hx : x.1.isNaN = false := hz.2.2.2 x (by rw [hb]; simp)
    refine ⟨hx, ?_⟩
    intro p hp
    rcases List.mem_cons.mp hp with e | hp
    · subst e; left; exact Dbl.eq_refl hx
    · have hs := hz.1
      rw [hb, List.pairwise_cons] at hs
      have := hs.1 p hp
      cases he : Dbl.eq x.1 p.1 with
      | true => left; exact Dbl.eq_symm he
      | false =>
        rw [pairLt_of_ne he] at this
        right
        exact ⟨(Dbl.eq_comm _ _).trans he, this⟩

theorem irangeLex_eq_filter {z : ZSet} (hz : z.Inv) (mn : LexB) (mne : Bool) (mx : LexB) (mxe : Bool) :
    z.irangeLex mn mx (!mne) (!mxe) =
      match z.firstScore with
      | none => []
      | some sc =>
        (z.byscore.filter (fun p => Dbl.eq p.1 sc && (lexGe mn mne p.2 && lexLe mx mxe p.2))).map Prod.snd := by
  unfold ZSet.irangeLex
  cases hf : z.firstScore with
  | none => rfl
  | some sc =>
    simp only []
    obtain ⟨hsc, hle⟩ := firstScore_le hz hf
    rw [ZSet.irange_eq_filter_gen hz]
    congr 1
    apply List.filter_congr
    intro p hp
    rcases hle p hp with he | ⟨he, hlt⟩
    · rw [he]
      unfold ZSet.lowP ZSet.hiP lexGe lexLe
      simp only [pairLt_of_eq he, pairLt_of_eq (Dbl.eq_symm he), Bool.true_and]
      cases mne <;> cases mxe <;> simp
    · rw [he]
      unfold ZSet.lowP ZSet.hiP
      simp only [pairLt_of_ne he, pairLt_of_ne ((Dbl.eq_comm _ _).trans he), Dbl.lt_asymm hlt, hlt, Bool.false_and]
      cases mne <;> cases mxe <;> simp

/-- ZLEXCOUNT counts exactly the members ZRANGEBYLEX (no LIMIT) returns -/
theorem zlexcount_eq_length (z : ZSet) (mn : LexB) (mne : Bool) (mx : LexB) (mxe : Bool) :
    z.zlexcount mn mne mx mxe = (z.irangeLex mn mx (!mne) (!mxe)).length := by
  unfold ZSet.zlexcount ZSet.irangeLex
  cases z.firstScore with
  | none => rfl
  | some sc =>
    simp only [List.length_map]
    rw [ZSet.irange_length]
    cases mne <;> cases mxe <;> rfl

/-! ### ZREM -/

theorem discard_byscore {z : ZSet} (hz : z.Inv) (m : Bytes) :
    (z.discard m).byscore = z.byscore.filter (fun p => p.2 != m) := by
  unfold ZSet.discard
  cases hg : z.get m with
  | some _ => rfl
  | none =>
    simp only []
    symm
    rw [List.filter_eq_self]
    intro p hp
    have := (ZSet.get_none_iff_byscore hz).mp hg p hp
    simpa using this

theorem foldl_discard_byscore (ms : List Bytes) {z : ZSet} (hz : z.Inv) :
    (ms.foldl ZSet.discard z).byscore = z.byscore.filter (fun p => !ms.contains p.2) := by
  induction ms generalizing z with
  | nil => symm; simp [List.filter_eq_self]
  | cons x xs ih =>
    rw [List.foldl_cons, ih (ZSet.discard_inv hz), discard_byscore hz, List.filter_filter]
    apply List.filter_congr
    intro p _
    simp only [List.contains_cons, Bool.not_or, bne, Bool.and_comm]

theorem foldl_discard_get (ms : List Bytes) (z : ZSet) (m : Bytes) :
    (ms.foldl ZSet.discard z).get m = if m ∈ ms then none else z.get m := by
  induction ms generalizing z with
  | nil => simp
  | cons x xs ih =>
    rw [List.foldl_cons, ih, ZSet.get_discard]
    by_cases h1 : m ∈ xs
    · simp [h1]
    · by_cases h2 : m = x
      · simp [h2]
      · simp [h1, h2]

/-- the number ZREM replies: the members of the argument list that are present, each counted once -/
theorem foldl_discard_len (ms : List Bytes) (z : ZSet) :
    z.len - (ms.foldl ZSet.discard z).len = (z.bylex.filter (fun p => ms.contains p.1)).length ∧
    (ms.foldl ZSet.discard z).len ≤ z.len := by
  unfold ZSet.len
  rw [ZSet.foldl_discard_bylex]
  have := length_filter_add (fun p : Bytes × Dbl => ms.contains p.1) z.bylex
  omega

theorem removed_card (ms : List Bytes) {z : ZSet} (hz : z.Inv) :
    CardEq (fun m => m ∈ ms ∧ z.get m ≠ none) (z.len - (ms.foldl ZSet.discard z).len) := by
  rw [(foldl_discard_len ms z).1]
  refine ⟨(z.bylex.filter (fun p => ms.contains p.1)).map Prod.fst, ?_, ?_, by simp⟩
  · exact hz.2.1.sublist (List.filter_sublist.map _)
  · intro x
    simp only [List.mem_map, List.mem_filter, List.contains_iff_mem]
    constructor
    · rintro ⟨p, ⟨hp, hc⟩, rfl⟩
      refine ⟨hc, ?_⟩
      rw [(ZSet.get_iff_mem hz).mpr (show (p.1, p.2) ∈ z.bylex from hp)]
      simp
    · rintro ⟨hx, hg⟩
      cases hgx : z.get x with
      | none => exact absurd hgx hg
      | some s => exact ⟨(x, s), ⟨(ZSet.get_iff_mem hz).mp hgx, hx⟩, rfl⟩

/-! ## ZINCRBY -/

/-- the score ZINCRBY computes: the old score plus the increment, or the increment for an absent member -/
def incrScore (z : ZSet) (m : Bytes) (incr : Dbl) : Dbl :=
  match z.get m with
  | some old => Dbl.add old incr
  | none => incr

theorem zincrRes_eq (ctx : Ctx) (z : ZSet) (incr : Dbl) (m : Bytes) :
    zincrRes ctx z incr m =
      if (incrScore z m incr).isNaN then .fail Msgs.SCORE_NAN_MSG
      else .write (z.add m (incrScore z m incr)).1 (.bulk (fmtScore ctx (incrScore z m incr))) := rfl

/-! ## ZADD: the fold `zaddSet` -/

theorem zaddSet_cons (nx xx : Bool) (z : ZSet) (p : Dbl × Bytes) (ps : List (Dbl × Bytes)) :
    zaddSet nx xx z (p :: ps) = zaddSet nx xx (zaddStep nx xx z p) ps := rfl

theorem zaddSet_append (nx xx : Bool) (z : ZSet) (a b : List (Dbl × Bytes)) :
    zaddSet nx xx z (a ++ b) = zaddSet nx xx (zaddSet nx xx z a) b := by
  simp [zaddSet, List.foldl_append]

theorem zaddSet_unchanged {nx xx : Bool} {z : ZSet} {items : List (Dbl × Bytes)}
    (h : zaddChanged nx xx z items = 0) : zaddSet nx xx z items = z := by
  induction items generalizing z with
  | nil => rfl
  | cons p ps ih =>
    rw [zaddSet_cons]
    simp only [zaddChanged] at h
    have h1 : zaddStep nx xx z p = z := by
      refine zaddStep_cases (C := (· = z)) nx xx z p (fun hw => ?_) (fun _ => rfl)
      rw [hw, Bool.true_and] at h
      cases hc : (z.add p.2 p.1).2 with
      | false => exact ZSet.add_unchanged hc
      | true => rw [hc] at h; simp at h
    rw [h1] at h ⊢
    exact ih (by omega)

theorem get_zaddSet_notin (nx xx : Bool) (z : ZSet) (items : List (Dbl × Bytes)) {m : Bytes}
    (h : m ∉ items.map Prod.snd) : (zaddSet nx xx z items).get m = z.get m :=
  foldl_keeps (fun z' => z'.get m = z.get m) _ items
    (fun z' h' p hp =>
      (get_zaddStep_other nx xx z' p (fun e : m = p.2 => h (e ▸ List.mem_map_of_mem hp))).trans h') z rfl

theorem get_zaddSet_nx_present (xx : Bool) (z : ZSet) (items : List (Dbl × Bytes)) {m : Bytes} {old : Dbl}
    (h : z.get m = some old) : (zaddSet true xx z items).get m = some old := by
  refine foldl_keeps (fun z' => z'.get m = some old) _ items (fun z' h' p _ => ?_) z h
  by_cases hm : m = p.2
  · subst hm
    rw [zaddStep_present xx h']
    exact h'
  · rw [get_zaddStep_other _ _ _ _ hm]; exact h'

theorem get_zaddSet_xx_absent (nx : Bool) (z : ZSet) (items : List (Dbl × Bytes)) {m : Bytes}
    (h : z.get m = none) : (zaddSet nx true z items).get m = none :=
  foldl_keeps (fun z' => z'.get m = none) _ items
    (fun z' h' p _ => (get_zaddStep_eq_none nx true z' p m).mpr ⟨h', fun _ => rfl⟩) z h

/-- a pair that is written and is the last one for its member determines the score, up to IEEE equality
(`ZSet.add` keeps an old score that is `==` the new one: `-0.0` does not overwrite `0.0`) -/
theorem get_zaddSet_last (nx xx : Bool) (z : ZSet) (pre post : List (Dbl × Bytes)) (s : Dbl) (m : Bytes)
    (hpost : m ∉ post.map Prod.snd)
    (hw : zaddWrites nx xx ((zaddSet nx xx z pre).contains m) = true) :
    ∃ s', (zaddSet nx xx z (pre ++ (s, m) :: post)).get m = some s' ∧ (s' = s ∨ Dbl.eq s s' = true) := by
  rw [zaddSet_append, zaddSet_cons, get_zaddSet_notin _ _ _ _ hpost, zaddStep_written (p := (s, m)) hw]
  exact ZSet.get_add_self_eq _ m s

theorem get_zaddSet_plain_last (z : ZSet) (pre post : List (Dbl × Bytes)) (s : Dbl) (m : Bytes)
    (hpost : m ∉ post.map Prod.snd) :
    ∃ s', (zaddSet false false z (pre ++ (s, m) :: post)).get m = some s' ∧ (s' = s ∨ Dbl.eq s s' = true) :=
  get_zaddSet_last false false z pre post s m hpost (zaddWrites_plain _)

theorem get_zaddSet_isSome (nx xx : Bool) (z : ZSet) (items : List (Dbl × Bytes)) {m : Bytes}
    (h : z.get m ≠ none) : (zaddSet nx xx z items).get m ≠ none :=
  foldl_keeps (fun z' => z'.get m ≠ none) _ items
    (fun z' h' p _ hc => h' ((get_zaddStep_eq_none nx xx z' p m).mp hc).1) z h

theorem get_zaddSet_xx_last (z : ZSet) (pre post : List (Dbl × Bytes)) (s : Dbl) (m : Bytes)
    (hpost : m ∉ post.map Prod.snd) (hpres : z.get m ≠ none) :
    ∃ s', (zaddSet false true z (pre ++ (s, m) :: post)).get m = some s' ∧ (s' = s ∨ Dbl.eq s s' = true) := by
  apply get_zaddSet_last false true z pre post s m hpost
  rw [zaddWrites_xx, contains_eq]
  have := get_zaddSet_isSome false true z pre hpres
  cases h : (zaddSet false true z pre).get m with
  | none => exact absurd h this
  | some _ => rfl

/-- NX: the first pair of a member that is absent gives the score, exactly -/
theorem get_zaddSet_nx_first (z : ZSet) (pre post : List (Dbl × Bytes)) (s : Dbl) (m : Bytes)
    (hpre : m ∉ pre.map Prod.snd) (habs : z.get m = none) :
    (zaddSet true false z (pre ++ (s, m) :: post)).get m = some s := by
  rw [zaddSet_append, zaddSet_cons]
  apply get_zaddSet_nx_present
  have h0 : (zaddSet true false z pre).get m = none := by rw [get_zaddSet_notin _ _ _ _ hpre]; exact habs
  rw [zaddStep_absent true (p := (s, m)) h0, if_neg Bool.false_ne_true, ZSet.get_add, if_pos rfl, h0]

/-- the members ZADD adds: those of the pairs that are absent — none with XX -/
theorem zaddSet_len (nx xx : Bool) (hnx : (nx && xx) = false) (z : ZSet) (items : List (Dbl × Bytes)) :
    ∃ l : List Bytes, l.Nodup ∧ (∀ x, x ∈ l ↔ (x ∈ items.map Prod.snd ∧ z.get x = none ∧ xx = false)) ∧
      (zaddSet nx xx z items).len = z.len + l.length := by
  induction items generalizing z with
  | nil => exact ⟨[], List.nodup_nil, by simp, rfl⟩
  | cons p ps ih =>
    obtain ⟨l1, hn1, hm1, hl1⟩ := ih (zaddStep nx xx z p)
    rw [zaddSet_cons, hl1, len_zaddStep]
    -- `l1`: the members of `ps` other than `p.2` that are absent from `z`
    simp only [get_zaddStep_eq_none] at hm1
    by_cases hnew : z.get p.2 = none ∧ xx = false
    · rw [if_pos hnew]
      have hnot : p.2 ∉ l1 := fun hc => by
        have := ((hm1 p.2).mp hc).2.1.2 rfl
        rw [hnew.2] at this; cases this
      refine ⟨p.2 :: l1, List.nodup_cons.mpr ⟨hnot, hn1⟩, fun x => ?_, by rw [List.length_cons]; omega⟩
      rw [List.mem_cons, List.map_cons, List.mem_cons, hm1]
      constructor
      · rintro (rfl | ⟨h1, ⟨h2, _⟩, h3⟩)
        · exact ⟨Or.inl rfl, hnew⟩
        · exact ⟨Or.inr h1, h2, h3⟩
      · rintro ⟨h1 | h1, h2, h3⟩
        · exact Or.inl h1
        · by_cases hx : x = p.2
          · exact Or.inl hx
          · exact Or.inr ⟨h1, ⟨h2, fun e => absurd e hx⟩, h3⟩
    · rw [if_neg hnew]
      refine ⟨l1, hn1, fun x => ?_, rfl⟩
      rw [hm1, List.map_cons, List.mem_cons]
      constructor
      · rintro ⟨h1, ⟨h2, _⟩, h3⟩; exact ⟨Or.inr h1, h2, h3⟩
      · rintro ⟨h1, h2, h3⟩
        have hx : x ≠ p.2 := fun e => hnew ⟨e ▸ h2, h3⟩
        exact ⟨h1.resolve_left hx, ⟨h2, fun e => absurd e hx⟩, h3⟩

/-! ### the option words and the score/member pairs of ZADD -/

/-- one of the four option words of ZADD (ASCII case-insensitive) -/
def isZaddFlag (a : Bytes) : Bool :=
  casematch a "ch" || casematch a "nx" || casematch a "xx" || casematch a "incr"

theorem casematch_excl {a : Bytes} {x y : String} (hx : casematch a x = true) (hne : strBytes x ≠ strBytes y) :
    casematch a y = false := by
  unfold casematch at *
  have := eq_of_beq hx
  rw [this]
  simpa using hne

/-- an option word in front sets its flag (a word matches at most one of the four); any other word ends the options -/
theorem parseZaddFlags_cons (a : Bytes) (rest : List Bytes) (f : ZaddFlags) :
    parseZaddFlags (a :: rest) f =
      if isZaddFlag a then
        parseZaddFlags rest
          ⟨f.ch || casematch a "ch", f.nx || casematch a "nx", f.xx || casematch a "xx", f.incr || casematch a "incr"⟩
      else (f, a :: rest) := by
  rw [parseZaddFlags]
  unfold isZaddFlag
  by_cases h1 : casematch a "ch" = true
  · rw [if_pos h1, h1, casematch_excl (y := "nx") h1 (by rw [strBytes_eq, strBytes_eq]; decide),
      casematch_excl (y := "xx") h1 (by rw [strBytes_eq, strBytes_eq]; decide),
      casematch_excl (y := "incr") h1 (by rw [strBytes_eq, strBytes_eq]; decide)]
    simp only [Bool.or_true, Bool.or_false, if_true]
  rw [if_neg h1, eq_false_of_ne_true h1]
  by_cases h2 : casematch a "nx" = true
  · rw [if_pos h2, h2, casematch_excl (y := "xx") h2 (by rw [strBytes_eq, strBytes_eq]; decide),
      casematch_excl (y := "incr") h2 (by rw [strBytes_eq, strBytes_eq]; decide)]
    simp only [Bool.or_true, Bool.or_false, if_true]
  rw [if_neg h2, eq_false_of_ne_true h2]
  by_cases h3 : casematch a "xx" = true
  · rw [if_pos h3, h3, casematch_excl (y := "incr") h3 (by rw [strBytes_eq, strBytes_eq]; decide)]
    simp only [Bool.or_true, Bool.or_false, if_true]
  rw [if_neg h3, eq_false_of_ne_true h3]
  by_cases h4 : casematch a "incr" = true
  · rw [if_pos h4, h4]
    simp only [Bool.or_true, Bool.or_false, if_true]
  · rw [if_neg h4, eq_false_of_ne_true h4]
    rfl

theorem parseZaddFlags_spec (l : List Bytes) (f0 : ZaddFlags) :
    (parseZaddFlags l f0).2 = l.dropWhile isZaddFlag ∧
    (parseZaddFlags l f0).1.ch = (f0.ch || (l.takeWhile isZaddFlag).any (casematch · "ch")) ∧
    (parseZaddFlags l f0).1.nx = (f0.nx || (l.takeWhile isZaddFlag).any (casematch · "nx")) ∧
    (parseZaddFlags l f0).1.xx = (f0.xx || (l.takeWhile isZaddFlag).any (casematch · "xx")) ∧
    (parseZaddFlags l f0).1.incr = (f0.incr || (l.takeWhile isZaddFlag).any (casematch · "incr")) := by
  induction l generalizing f0 with
  | nil => simp [parseZaddFlags]
  | cons a rest ih =>
    rw [parseZaddFlags_cons]
    by_cases hf : isZaddFlag a = true
    · rw [if_pos hf, List.dropWhile_cons_of_pos hf, List.takeWhile_cons_of_pos hf]
      simp only [List.any_cons, ← Bool.or_assoc]
      exact ih ⟨f0.ch || casematch a "ch", f0.nx || casematch a "nx", f0.xx || casematch a "xx",
        f0.incr || casematch a "incr"⟩
    · rw [if_neg hf, List.dropWhile_cons_of_neg hf, List.takeWhile_cons_of_neg hf]
      simp

/-- the argument list after the option words, cut into (score, member) pairs.  Not `Cmd.pairsOf` (the pairs of MSET),
which `open FR.Cmd` also brings into scope: write `ZCmd.pairsOf` where both are open. -/
def pairsOf : List Bytes → List (Bytes × Bytes)
  | s :: m :: rest => (s, m) :: pairsOf rest
  | _ => []

/-- the score ZADD stores for the parsed score `d`: version 7 computes `0.0 + d` (turning `-0.0` into `0.0`) -/
def zaddScore (version : Nat) (d : Dbl) : Dbl := if version ≥ 7 then d.plusZero else d

theorem float_error_msg {x : Bytes} {e : Err} (h : Conv.float x = .error e) : e = Msgs.INVALID_FLOAT_MSG :=
  Conv.floatGen_error h

/-- the score ZADD reads from the byte string `s`, `none` when `s` is not a valid float -/
def scoreOfBytes (v : Nat) (s : Bytes) : Option Dbl :=
  match Conv.float s with
  | .ok d => some (zaddScore v d)
  | .error _ => none

/-- one score/member pair in front is accepted when its score parses and the rest is accepted -/
theorem parseScorePairs_cons_ok (v : Nat) (s m : Bytes) (rest : List Bytes) (ps : List (Dbl × Bytes)) :
    parseScorePairs v (s :: m :: rest) = .ok ps ↔
      ∃ d ps', scoreOfBytes v s = some d ∧ parseScorePairs v rest = .ok ps' ∧ ps = (d, m) :: ps' := by
  rw [parseScorePairs]
  unfold scoreOfBytes
  cases Conv.float s with
  | error e => simp
  | ok d =>
    cases parseScorePairs v rest with
    | error e => simp
    | ok ps' => simp [zaddScore, eq_comm]

theorem parseScorePairs_ok_iff (v : Nat) (l : List Bytes) (ps : List (Dbl × Bytes)) :
    parseScorePairs v l = .ok ps ↔
      (pairsOf l).map (fun sm => (scoreOfBytes v sm.1, sm.2)) = ps.map (fun p => (some p.1, p.2)) := by
  fun_induction pairsOf l generalizing ps with
  | case1 s m rest ih =>
    rw [parseScorePairs_cons_ok, List.map_cons]
    constructor
    · rintro ⟨d, ps', hd, hps, rfl⟩
      rw [hd, (ih ps').mp hps]
      rfl
    · intro h
      cases ps with
      | nil => cases h
      | cons p ps' =>
        rw [List.map_cons, List.cons.injEq, Prod.mk.injEq] at h
        exact ⟨p.1, ps', h.1.1, (ih ps').mpr h.2, by rw [show m = p.2 from h.1.2]⟩
  | case2 l hl =>
    have : parseScorePairs v l = .ok [] := by
      unfold parseScorePairs
      split
      · rename_i s m rest; exact absurd rfl (hl s m rest)
      · rfl
    rw [this]
    constructor
    · intro h; cases h; rfl
    · intro h
      cases ps with
      | nil => rfl
      | cons _ _ => cases h

theorem parseScorePairs_error (v : Nat) (l : List Bytes) {e : Err} (h : parseScorePairs v l = .error e) :
    e = Msgs.INVALID_FLOAT_MSG ∧ ∃ sm ∈ pairsOf l, Conv.float sm.1 = .error e := by
  fun_induction parseScorePairs v l with
  | case1 s m rest e' he =>
    cases h
    exact ⟨float_error_msg he, (s, m), by simp [pairsOf], he⟩
  | case2 s m rest d hd e' he ih =>
    cases h
    obtain ⟨h1, sm, hsm, h2⟩ := ih he
    exact ⟨h1, sm, by simp [pairsOf, hsm], h2⟩
  | case3 s m rest d hd ps' hps ih => cases h
  | case4 l hl => cases h

/-! ## canonical form, rank -/

theorem byscore_eq_of_get_eq {z z' : ZSet} (hz : z.Inv) (hz' : z'.Inv) (h : ∀ m, z.get m = z'.get m) :
    z.byscore = z'.byscore := by
  apply List.Perm.eq_of_pairwise (le := ZSet.PLt) ?_ hz.1 hz'.1
  · rw [List.perm_ext_iff_of_nodup (ZSet.byscore_nodup hz) (ZSet.byscore_nodup hz')]
    intro a
    obtain ⟨s, m⟩ := a
    rw [← ZSet.get_iff_mem_byscore hz, ← ZSet.get_iff_mem_byscore hz', h]
  · intro a b _ _ hab hba
    have := pairLt_asymm hab
    unfold ZSet.PLt at hba
    rw [this] at hba; cases hba

theorem takeWhile_ne_length_eq_idxOf (l : List (Dbl × Bytes)) (m : Bytes) :
    (l.takeWhile (fun p => p.2 != m)).length = (l.map Prod.snd).idxOf m := by
  induction l with
  | nil => rfl
  | cons x xs ih =>
    rw [List.takeWhile_cons, List.map_cons, List.idxOf_cons]
    by_cases c : x.2 = m
    · simp [c]
    · have : (x.2 != m) = true := by simpa using c
      have c' : (x.2 == m) = false := by simpa using c
      rw [if_pos this, c']
      simp [ih]

theorem rank_eq_idxOf (z : ZSet) (m : Bytes) :
    z.rank m = if z.get m = none then none else some ((z.byscore.map Prod.snd).idxOf m) := by
  unfold ZSet.rank
  cases z.get m with
  | none => rfl
  | some s => simp [takeWhile_ne_length_eq_idxOf]

theorem mem_members_iff {z : ZSet} (hz : z.Inv) (m : Bytes) :
    m ∈ z.byscore.map Prod.snd ↔ z.get m ≠ none := by
  constructor
  · intro h
    obtain ⟨p, hp, rfl⟩ := List.mem_map.mp h
    rw [(ZSet.get_iff_mem_byscore hz).mpr (show (p.1, p.2) ∈ z.byscore from hp)]
    simp
  · intro h
    cases hg : z.get m with
    | none => exact absurd hg h
    | some s => exact List.mem_map.mpr ⟨(s, m), (ZSet.get_iff_mem_byscore hz).mp hg, rfl⟩

/-- removing the members of a sub-selection `filter P` of the sorted list leaves `filter ¬P` -/
theorem filter_not_contains_filter {z : ZSet} (hz : z.Inv) (P : Dbl × Bytes → Bool) :
    z.byscore.filter (fun p => !((z.byscore.filter P).map Prod.snd).contains p.2) =
      z.byscore.filter (fun p => !P p) := by
  apply List.filter_congr
  intro p hp
  congr 1
  cases hP : P p with
  | true =>
    have : p.2 ∈ (z.byscore.filter P).map Prod.snd :=
      List.mem_map.mpr ⟨p, List.mem_filter.mpr ⟨hp, hP⟩, rfl⟩
    simpa using this
  | false =>
    have : ¬ p.2 ∈ (z.byscore.filter P).map Prod.snd := by
      intro hc
      obtain ⟨q, hq', e⟩ := List.mem_map.mp hc
      obtain ⟨hq, hPq⟩ := List.mem_filter.mp hq'
      obtain ⟨s, m⟩ := p
      obtain ⟨s', m'⟩ := q
      simp only at e; subst e
      have := ZSet.byscore_score_unique hz hq hp
      subst this
      rw [hP] at hPq; cases hPq
    simpa using this

theorem removed_all {z : ZSet} (hz : z.Inv) {ms : List Bytes} (hn : ms.Nodup) (hp : ∀ m ∈ ms, z.get m ≠ none) :
    z.len - (ms.foldl ZSet.discard z).len = ms.length := by
  apply CardEq.unique (removed_card ms hz)
  exact ⟨ms, hn, fun x => ⟨fun h => ⟨h, hp x h⟩, fun h => h.1⟩, rfl⟩

/-- the members of a sublist of the iteration order are distinct and present: index windows, score ranges and lex
ranges are such sublists -/
theorem sublist_members {z : ZSet} (hz : z.Inv) {l : List (Dbl × Bytes)} (h : l.Sublist z.byscore) :
    (l.map Prod.snd).Nodup ∧ ∀ m ∈ l.map Prod.snd, z.get m ≠ none :=
  ⟨(ZSet.members_nodup hz).sublist (h.map _), fun m hm => (mem_members_iff hz m).mp ((h.map _).subset hm)⟩

theorem rangeWindow_sublist {α} (l : List α) (a b : Int) : (rangeWindow l a b).Sublist l :=
  (List.take_sublist _ _).trans (List.drop_sublist _ _)

end FR.ZCmd

import FR.Proofs.ListBooks
import FR.Proofs.PubSubHist
import FR.Proofs.BlockKinds
import FR.Proofs.C04kExec
/-!
# C11c, system level: every event of a list-family history conserves list elements

* `LInv` — the invariant of list-family histories: data invariant, no TTLs, every connection works on an existing
  database, a parked connection is not closed, only list-family commands are queued inside MULTI;
* `StepOk c pops pushes s s'` — the books of one step (`FR/Proofs/ListBooks.lean`, with the passes of the blocking pops);
* `ReqOut s q name args o s'` — `StepOk` and `LInv` together for a top-level request, the ledgers read off its reply `o`;
  with `none` for `o`: a step that changes nothing the books speak of;
* the regular commands, `_blocking`, EXEC, `_process_command`, wake-ups, time-outs.  That EXEC answers every queued
  command is not shown here again: `C04k.runQueue_spec`.
-/
namespace FR.C11c
open FR FR.M FR.Db FR.Conserve FR.StrKeys
set_option linter.unusedSimpArgs false
set_option linter.unusedSectionVars false

/-! ## vocabulary -/

/-- the blocking commands of the family; the same list as `FR.blockingNames` (the statements of FR/Props/C11c are
written with this name) -/
def blockNames : List String := ["blpop", "brpop", "brpoplpush"]

/-- the list command family (the commands that may be queued inside MULTI) -/
def famNames : List String := regNames ++ blockNames

/-- the transaction commands -/
def txNames : List String := ["multi", "exec", "discard"]

/-- a signature of the table is fixed by its name -/
theorem sig_of_find {sig sg : Sig} {n : String} (hfind : SigTable.find sig.name = some sig) (hname : sig.name = n)
    (hf : SigTable.find n = some sg) : sg = sig := by
  rw [hname, hf] at hfind
  exact Option.some.inj hfind

/-- a well-formed connection record: its database exists, it is not closed while parked, its queue holds family
commands only -/
structure ConnOk (n : Nat) (x : Conn) : Prop where
  db : x.db < n
  open_ : x.parked.isSome = true → x.closed = false
  tx : ∀ q, x.tx = some q → ∀ a ∈ q, a.1 ∈ famNames

/-- the invariant of list-family histories -/
structure LInv (s : Sys) : Prop where
  data : s.DataInv
  nottl : NoTTL s
  conns : ∀ c, ConnOk s.srv.dbs.length (s.conn c)

theorem connOk_default (n : Nat) (c : Nat) (h : 0 < n) : ConnOk n { id := c } :=
  ⟨h, fun h' => (by cases h'), fun q h' => (by cases h')⟩

theorem LInv.pos {s : Sys} (h : LInv s) : 0 < s.srv.dbs.length :=
  Nat.lt_of_le_of_lt (Nat.zero_le _) (h.conns 0).db

theorem linv_init : LInv {} := by
  refine ⟨Sys.dataInv_init, ?_, fun c => ?_⟩
  · intro d hd
    have : d = [] := by
      simp only [List.mem_replicate] at hd
      exact hd.2
    subst this
    intro q hq; cases hq
  · exact connOk_default _ c (by decide)

/-! ## the invariant along a step -/

section
variable {c : Nat} {p q : List Bytes} {s s' : Sys} (h : StepOk c p q s s') (c' : Nat)
include h

/-- a step keeps the fields of `ckey` -/
theorem StepOk.db : (s'.conn c').db = (s.conn c').db := congrArg (·.1) (h.conn c')
theorem StepOk.closed : (s'.conn c').closed = (s.conn c').closed := congrArg (·.2.1) (h.conn c')
theorem StepOk.tx : (s'.conn c').tx = (s.conn c').tx := congrArg (·.2.2) (h.conn c')

end

/-- the invariant after a step of a requester whose socket is open -/
theorem LInv.step {c : Nat} {p q : List Bytes} {s s' : Sys} (h : LInv s) (hs : StepOk c p q s s')
    (hopen : (s.conn c).closed = false) : LInv s' := by
  refine ⟨hs.data, hs.nottl, fun c' => ?_⟩
  have hold := h.conns c'
  rw [hs.len]
  refine ⟨by rw [hs.db]; exact hold.db, ?_, by rw [hs.tx]; exact hold.tx⟩
  intro hp
  rw [hs.closed]
  by_cases hne : c' = c
  · subst hne; exact hopen
  · rw [hs.park c' hne] at hp
    exact hold.open_ hp

/-! ## the regular commands through `_run_command` -/

/-- a regular list command through `_run_command` -/
theorem runWith_regular_ok (sp) (mode : Mode) (c : Nat) (sig : Sig) (body : Body) (raw : List Bytes) (fs : Bool)
    (hfind : SigTable.find sig.name = some sig) (hreg : Cmd.regular sig.name = some body) (hn : sig.name ∈ regNames)
    (s : Sys) (hd : s.DataInv) (ht : NoTTL s) (hdb : (s.conn c).db < s.srv.dbs.length) :
    ∃ r, (runWith sp mode c sig raw fs s).1 = some r ∧
      StepOk c (popsOf sig.name r) (pushesOf sig.name raw r) s (runWith sp mode c sig raw fs s).2 := by
  cases hr : s.refuses c sig with
  | true =>
    rw [runWith_refused sp mode c sig raw fs hr]
    refine ⟨refusalReply, rfl, ?_⟩
    exact (StepOk.refl c hd ht).of_eq (popsOf_err _ _).symm (pushesOf_err _ _ _).symm
  | false =>
    rw [runWith_regular_run sp mode c sig raw fs hreg s hr]
    refine ⟨_, rfl, ?_⟩
    rw [show s.regularOut c sig body raw fs = runRegular sig body _ _ raw (s.dbAt (s.conn c).db) from rfl]
    generalize (⟨s.srv.version, s.srv.time, (s.conn c).db, (s.conn c).inTx, s.picks⟩ : Ctx) = ctx
    generalize runGate sig fs (decide ((s.conn c).pubsub > 0)) = gate
    have hg : Good (s.dbAt (s.conn c).db).dict := hd.dbAt _
    have hcons := regular_family_conserve sig body hfind hreg hn ctx gate raw hg.1 (ht.dbAt _)
    have hgo : Good (runRegular sig body ctx gate raw (s.dbAt (s.conn c).db)).db.dict := hg.runRegular ..
    generalize runRegular sig body ctx gate raw (s.dbAt (s.conn c).db) = o at hcons hgo
    have hdbs := Sys.afterRegular_dbs s (s.conn c).db o
    have hdbs' : (s.afterRegular (s.conn c).db o).srv.dbs = (s.setDbS (s.conn c).db o.db).srv.dbs := hdbs
    have hf := s.afterRegular_frame (s.conn c).db o
    refine ⟨(hd.setDbS _ hgo).frame hdbs', noTTL_of_dbs (NoTTL.setDbS ht _ hcons.1) hdbs', ?_, ?_,
      fun c' => (congrArg ckey (hf.conn c') :), fun c' _ => ?_, hf.has, hf.out⟩
    · rw [hdbs]; simp
    · intro x
      rw [stored_of_dbs hdbs']
      have h1 := count_stored_setDbS s _ hdb o.db x
      have h2 := hcons.2 x
      omega
    · have := congrArg (fun y : Conn => y.parked.isSome) (hf.conn c')
      simpa only [Conn.core, Option.isSome_map] using this

/-! ## `_blocking` -/

theorem Quiet.updConn {a b : Sys} (h : Quiet a b) (c : Nat) (f : Conn → Conn) : Quiet (a.updConn c f) (b.updConn c f) := by
  refine ⟨h.dbs, ?_, h.out⟩
  show b.srv.conns.map _ = a.srv.conns.map _
  rw [h.conns]

theorem Quiet.clocked (s : Sys) (t : Int) : Quiet s (s.clocked t) := by
  unfold Sys.clocked; split
  · exact (Quiet.nextClock _).trans (Quiet.nextClock _)
  · exact Quiet.refl _

/-- what the first pass of a blocking command satisfies -/
def PassOk (c : Nat) (name : String) (pass : Pass) (s : Sys) : Prop :=
  (∀ r, (pass true s).1 = .ok (some r) → StepOk c (popsOf name r) [] s (pass true s).2) ∧
  ((∀ r, (pass true s).1 ≠ .ok (some r)) → (pass true s).2 = s)

theorem parkAs_keyFrame (kind : String) (keys : List Bytes) (db : Nat) (dl : Option Int) : KeyFrame (parkAs kind keys db dl) :=
  fun _ => ⟨rfl, rfl⟩

theorem parkAsync_keyFrame (kind : String) (keys : List Bytes) (db : Nat) : KeyFrame (parkAsync kind keys db) :=
  fun _ => ⟨rfl, rfl⟩

/-- `_blocking` on either front-end -/
theorem blockCall_ok (mode : Mode) (c : Nat) (kind : String) (keys : List Bytes) (timeout : Int) (pass : Pass)
    (name : String) (s : Sys) (hd : s.DataInv) (ht : NoTTL s) (hp : PassOk c name pass s) :
    match (blockCall mode c kind keys timeout pass s).1 with
    | .ok (some r) => StepOk c (popsOf name r) [] s (blockCall mode c kind keys timeout pass s).2
    | _ => StepOk c [] [] s (blockCall mode c kind keys timeout pass s).2 := by
  obtain ⟨hp1, hp2⟩ := hp
  rw [blockCall_run]
  generalize pass true s = X at hp1 hp2
  obtain ⟨res, s1⟩ := X
  simp only at hp1 hp2 ⊢
  rcases res with e | _ | r
  · obtain rfl : s1 = s := hp2 (fun r h => by cases h)
    exact StepOk.refl c hd ht
  · obtain rfl : s1 = s := hp2 (fun r h => by cases h)
    have nil : ∀ s2, Quiet s1 s2 → StepOk c (popsOf name .nil) [] s1 s2 :=
      fun s2 hq => ((StepOk.refl c hd ht).quiet_right hq).of_eq (popsOf_nil _).symm rfl
    cases htx : (s1.conn c).inTx <;> cases hasync : mode.async <;> cases hpark : mode.park <;>
      simp only [Sys.unserved, htx, hasync, hpark, Bool.false_eq_true, if_true, if_false]
    · exact nil _ (Quiet.clocked s1 timeout)
    · exact ((StepOk.refl c hd ht).quiet_right (Quiet.clocked s1 timeout)).updConn _ (parkAs_keyFrame _ _ _ _)
    · exact (StepOk.refl c hd ht).updConn _ (parkAsync_keyFrame _ _ _)
    · exact (StepOk.refl c hd ht).updConn _ (parkAsync_keyFrame _ _ _)
    all_goals exact nil _ (Quiet.refl _)
  · exact hp1 r rfl


/-! ## the blocking commands through `_run_command` -/

def popsO (name : String) : Option Reply → List Bytes
  | some r => popsOf name r
  | none => []

def pushesO (name : String) (raw : List Bytes) : Option Reply → List Bytes
  | some r => pushesOf name raw r
  | none => []

/-- a signature without keys: `apply` builds no `CommandItem` and never short-circuits -/
theorem applyL_nokey (sig : Sig) (hfx : ∀ t ∈ sig.fixed, Ttl.isKey t = false) (hrep : ∀ t ∈ sig.rep, Ttl.isKey t = false)
    (raw : List Bytes) (live : Bytes → Option Item) :
    (∃ e, applyL sig raw live = .error e) ∨ ∃ args, applyL sig raw live = .ok (.ok args []) := by
  rw [applyL_eq, Ttl.applyL_keyless live sig raw hfx hrep]
  split
  · exact .inl ⟨_, rfl⟩
  · split
    · exact .inl ⟨_, rfl⟩
    · cases Ttl.decodeAll (raw.zip (sig.types raw.length)) with
      | error e => exact .inl ⟨_, rfl⟩
      | ok as => exact .inr ⟨_, rfl⟩

theorem faulted_quiet (e : Err) (s : Sys) : Quiet s (PubSubHist.faulted e s) := by
  unfold PubSubHist.faulted
  split
  · exact Quiet.fault s e
  · exact Quiet.refl s

theorem popsOf_bpop {name : String} (hn : IsBPop name) (r : Reply) : popsOf name r = popElem r := by
  have h1 : ¬ (name = "lpop" ∨ name = "rpop") := by
    unfold IsBPop at hn
    rcases hn with rfl | rfl <;> decide
  unfold popsOf
  rw [if_neg h1]
  exact if_pos hn

theorem passOk_bpop {name : String} (hn : IsBPop name) (c d : Nat) (left : Bool) (keys : List Bytes) (s : Sys)
    (hd : s.DataInv) (ht : NoTTL s) : PassOk c name (fun first => bpopPass d left first keys) s := by
  have h := bpopPass_ok c d left true keys s hd ht
  refine ⟨fun r hr => ?_, h.2⟩
  obtain ⟨k, x, _, rfl, hs⟩ := h.1 r hr
  rw [popsOf_bpop hn]
  exact hs

theorem passOk_brpl (c d : Nat) (src dst : Bytes) (s : Sys) (hd : s.DataInv) (ht : NoTTL s) :
    PassOk c "brpoplpush" (fun first => brpoplpushPass d src dst first) s := by
  have h := brpoplpushPass_ok c d src dst true s hd ht
  refine ⟨fun r hr => ?_, h.2⟩
  rw [popsOf_of_not (by decide) (by decide)]
  exact h.1 r hr

/-- a special body leaves no `CommandItem`, and `P` holds of its reply (none, or the error reply `_run_command` makes of
an exception) and its state: what `runWith_nokey` asks of the body -/
def BodyOut (P : Option Reply → Sys → Prop) (out : SpecialOut × Sys) : Prop :=
  match out.1 with
  | .error e => P (some (.err (strBytes e))) out.2
  | .ok (r, cis') => cis' = [] ∧ P r out.2

theorem BodyOut.ok {P : Option Reply → Sys → Prop} {r : Option Reply} {s' : Sys} (h : P r s') :
    BodyOut P (.ok (r, []), s') := ⟨rfl, h⟩

theorem BodyOut.error {P : Option Reply → Sys → Prop} {e : Err} {s' : Sys} (h : P (some (.err (strBytes e))) s') :
    BodyOut P (.error e, s') := h

/-! ### the three kinds at once -/

theorem passOk_blockArgs {name : String} (hn : name ∈ blockNames) (c d : Nat) (args : List Arg) (s : Sys)
    (hd : s.DataInv) (ht : NoTTL s) {keys : List Bytes} {t : Int} {pass : Pass}
    (h : blockArgs name d args = .ok (keys, t, pass)) : PassOk c name pass s := by
  unfold blockArgs at h
  split at h
  · subst name
    split at h
    · cases h; exact passOk_brpl c d _ _ s hd ht
    · cases h
  · rename_i hne
    have hb : IsBPop name := by
      simp only [blockNames, List.mem_cons, List.not_mem_nil, or_false] at hn
      rcases hn with h | h | h
      · exact .inl h
      · exact .inr h
      · exact absurd h hne
    split at h
    · cases h
    · split at h
      · cases h
      · cases h; exact passOk_bpop hb c d _ _ s hd ht

theorem special_block_ok (inner : Inner) (mode : Mode) (c : Nat) {name : String} (hn : name ∈ blockNames)
    (args : List Arg) (s : Sys) (hd : s.DataInv) (ht : NoTTL s) :
    BodyOut (fun o s' => StepOk c (popsO name o) [] s s') (special inner mode c name args [] s) := by
  rw [special_blocking inner mode c hn]
  unfold blockBody
  cases h : blockArgs name (s.conn c).db args with
  | error e => exact .error ((StepOk.refl c hd ht).of_eq (popsOf_err _ _).symm rfl)
  | ok x =>
    obtain ⟨keys, t, pass⟩ := x
    dsimp only
    have h2 := blockCall_ok mode c name keys t pass name s hd ht (passOk_blockArgs hn c _ args s hd ht h)
    revert h2
    generalize blockCall mode c name keys t pass s = br
    obtain ⟨res, s2⟩ := br
    intro h2
    rcases res with e | _ | r
    · exact .error (h2.of_eq (popsOf_err _ _).symm rfl)
    · exact .ok h2
    · exact .ok h2

/-! ## `_run_command` of a command without keys, generically -/

theorem runWith_nokey (inner : Inner) (mode : Mode) (c : Nat) (sig : Sig) (raw : List Bytes) (fs : Bool)
    (hfx : ∀ t ∈ sig.fixed, Ttl.isKey t = false) (hrep : ∀ t ∈ sig.rep, Ttl.isKey t = false)
    (hreg : Cmd.regular sig.name = none)
    (s : Sys) (hd : s.DataInv) (ht : NoTTL s) (P : Option Reply → Sys → Prop)
    (herr : ∀ m, P (some (.err m)) s) (hquiet : ∀ o s1 s2, P o s1 → Quiet s1 s2 → P o s2)
    (hbody : ∀ args, BodyOut P (special inner mode c sig.name args [] s)) :
    P (runWith (special inner) mode c sig raw fs s).1 (runWith (special inner) mode c sig raw fs s).2 := by
  cases hr : s.refuses c sig with
  | true =>
    rw [runWith_refused _ mode c sig raw fs hr]
    exact herr _
  | false =>
    rw [runWith_keyless _ mode c sig raw fs s hreg hr (apply_noTTL sig raw (hd.dbAt _).1 (ht.dbAt _))]
    rcases applyL_nokey sig hfx hrep raw (fun k => (s.dbAt (s.conn c).db).dict.lookup k) with ⟨e, he⟩ | ⟨args, he⟩
    · rw [he]; exact herr _
    · rw [he]
      simp only
      cases runGate sig fs (decide ((s.conn c).pubsub > 0)) with
      | some e => exact herr _
      | none =>
        simp only
        rw [afterSpecial_run]
        have hb := hbody args
        unfold BodyOut at hb
        revert hb
        generalize special inner mode c sig.name args [] s = xr
        obtain ⟨res, s2⟩ := xr
        intro hb
        simp only at hb ⊢
        cases res with
        | error e => exact hquiet _ _ _ hb (faulted_quiet e s2)
        | ok pr =>
          obtain ⟨r, cis'⟩ := pr
          simp only at hb ⊢
          obtain ⟨rfl, hp⟩ := hb
          exact hp


def sigBlpop : Sig := ⟨"blpop", [.bytes, .bytes], [.bytes], true, 0, 0, true⟩
def sigBrpop : Sig := ⟨"brpop", [.bytes, .bytes], [.bytes], true, 0, 0, true⟩
def sigBrpoplpush : Sig := ⟨"brpoplpush", [.bytes, .bytes, .timeout], [], true, 3, 0, false⟩

/-- the signatures of the blocking commands and of MULTI / EXEC / DISCARD declare no key (a blocking pop takes its keys
as plain bytes and looks them up itself) and these commands have no regular body: `runWith_nokey` applies to them -/
theorem nokey_of_find {sig : Sig} (hfind : SigTable.find sig.name = some sig) (hn : sig.name ∈ blockNames ++ txNames) :
    (∀ t ∈ sig.fixed, Ttl.isKey t = false) ∧ (∀ t ∈ sig.rep, Ttl.isKey t = false) ∧ Cmd.regular sig.name = none := by
  have h := (by decide : ∀ n ∈ blockNames ++ txNames,
    ((SigTable.find n).all fun sg => (sg.fixed ++ sg.rep).all fun t => !Ttl.isKey t) = true ∧
      (Cmd.regular n).isNone = true) _ hn
  rw [hfind] at h
  simp only [Option.all_some, List.all_append, List.all_eq_true, Bool.and_eq_true, Bool.not_eq_true',
    Option.isNone_iff_eq_none] at h
  exact ⟨h.1.1, h.1.2, h.2⟩

theorem runWith_block_ok (inner : Inner) (mode : Mode) (c : Nat) (sig : Sig) (raw : List Bytes) (fs : Bool)
    (hfind : SigTable.find sig.name = some sig) (hn : sig.name ∈ blockNames) (s : Sys) (hd : s.DataInv) (ht : NoTTL s) :
    StepOk c (popsO sig.name (runWith (special inner) mode c sig raw fs s).1) [] s
      (runWith (special inner) mode c sig raw fs s).2 := by
  obtain ⟨hfx, hrep, hreg⟩ := nokey_of_find hfind (List.mem_append_left _ hn)
  exact runWith_nokey inner mode c sig raw fs hfx hrep hreg s hd ht
    (fun o s' => StepOk c (popsO sig.name o) [] s s')
    (fun m => (StepOk.refl c hd ht).of_eq (popsOf_err _ _).symm rfl)
    (fun o s1 s2 h hq => h.quiet_right hq) (fun args => special_block_ok inner mode c hn args s hd ht)

/-- every command of the list family through `_run_command` (top level or inside EXEC): the books balance, nothing
is emitted, the connection records keep what the family reads of them -/
theorem runWith_fam_ok (inner : Inner) (mode : Mode) (c : Nat) (sig : Sig) (raw : List Bytes) (fs : Bool)
    (hfind : SigTable.find sig.name = some sig) (hn : sig.name ∈ famNames)
    (s : Sys) (hd : s.DataInv) (ht : NoTTL s) (hdb : (s.conn c).db < s.srv.dbs.length) :
    StepOk c (popsO sig.name (runWith (special inner) mode c sig raw fs s).1)
      (pushesO sig.name raw (runWith (special inner) mode c sig raw fs s).1) s
      (runWith (special inner) mode c sig raw fs s).2 := by
  unfold famNames at hn
  rcases List.mem_append.1 hn with hn | hn
  · have hreg : ∃ body, Cmd.regular sig.name = some body := by
      simp only [regNames, List.mem_cons, List.not_mem_nil, or_false] at hn
      rcases hn with h | h | h | h | h | h | h | h | h | h <;> rw [h] <;> exact ⟨_, rfl⟩
    obtain ⟨body, hreg⟩ := hreg
    obtain ⟨r, hr, hs⟩ := runWith_regular_ok (special inner) mode c sig body raw fs hfind hreg hn s hd ht hdb
    rw [hr]
    exact hs
  · have hnp : ¬ IsPush sig.name := (by decide : ∀ n ∈ blockNames, ¬ IsPush n) _ hn
    have hpush : ∀ o, pushesO sig.name raw o = [] := by
      intro o; cases o with
      | none => rfl
      | some r => exact pushesOf_of_not hnp _ _
    rw [hpush]
    exact runWith_block_ok inner mode c sig raw fs hfind hn s hd ht


/-! ## EXEC -/

theorem find_fam {n : String} (h : n ∈ famNames) : ∃ sig, SigTable.find n = some sig :=
  Option.isSome_iff_exists.mp ((by decide : ∀ n ∈ famNames, (SigTable.find n).isSome = true) n h)

theorem famtx_not_script {name : String} (h : name ∈ famNames ∨ name ∈ txNames) : name ∉ scriptNames :=
  (by decide : ∀ n ∈ famNames ++ txNames, n ∉ scriptNames) name (List.mem_append.2 h)

theorem famtx_inMulti {name : String} (h : name ∈ famNames ∨ name ∈ txNames) : SigTable.notInMulti.contains name = false :=
  (by decide : ∀ n ∈ famNames ++ txNames, SigTable.notInMulti.contains n = false) name (List.mem_append.2 h)

theorem fam_queued {name : String} (h : name ∈ famNames) : SigTable.notQueued.contains name = false :=
  (by decide : ∀ n ∈ famNames, SigTable.notQueued.contains n = false) name h

/-- the commands of the family may be queued, so EXEC answers each of them (`C04k.runQueue_spec`) -/
theorem fam_qok {n : String} (h : n ∈ famNames) : C04k.QOk n :=
  ⟨fun hm => Bool.false_ne_true ((famtx_inMulti (.inl h)).symm.trans (List.contains_iff_mem.2 hm)),
    fun hm => Bool.false_ne_true ((fam_queued h).symm.trans (List.contains_iff_mem.2 hm)), find_fam h⟩

/-- the elements handed out / pushed by the commands of a transaction, read off the queue and the replies -/
def queuePops (q : List (String × List Bytes)) (rs : List (Option Reply)) : List Bytes :=
  (q.zip rs).flatMap fun p => popsO p.1.1 p.2
def queuePushes (q : List (String × List Bytes)) (rs : List (Option Reply)) : List Bytes :=
  (q.zip rs).flatMap fun p => pushesO p.1.1 p.1.2 p.2

theorem StepOk.db_lt {c : Nat} {p q : List Bytes} {s s' : Sys} (h : StepOk c p q s s') (c' : Nat)
    (hdb : (s.conn c').db < s.srv.dbs.length) : (s'.conn c').db < s'.srv.dbs.length := by
  rw [h.db, h.len]; exact hdb

theorem inTx_keyFrame (b : Bool) : KeyFrame (fun x : Conn => { x with inTx := b }) := fun _ => ⟨rfl, rfl⟩

theorem queueStep_ok (mode : Mode) (c : Nat) (a : String × List Bytes) (ha : a.1 ∈ famNames) (s : Sys)
    (hd : s.DataInv) (ht : NoTTL s) (hdb : (s.conn c).db < s.srv.dbs.length) :
    StepOk c (popsO a.1 (queueStep (runInner mode c) c a s).1) (pushesO a.1 a.2 (queueStep (runInner mode c) c a s).1) s
      (queueStep (runInner mode c) c a s).2 := by
  obtain ⟨sig, hsig⟩ := find_fam ha
  have hname : sig.name = a.1 := SigTable.find_name hsig
  have hn : sig.name ∈ famNames := hname ▸ ha
  rw [ErrSys.queueStep_run _ c a hsig,
    runInner_not_script mode c sig a.2 (scriptNames_contains_false_iff.2 (famtx_not_script (.inl hn)))]
  have h0 : StepOk c [] [] s (s.updConn c ErrSys.setInTx) := (StepOk.refl c hd ht).updConn _ (inTx_keyFrame true)
  have h1 := runWith_fam_ok nestedStub mode c sig a.2 false (hname ▸ hsig) hn _ h0.data h0.nottl (h0.db_lt c hdb)
  rw [hname] at h1
  exact ((h0.trans h1).updConn _ (inTx_keyFrame false)).of_eq (List.nil_append _) (List.nil_append _)

theorem runQueue_ok (mode : Mode) (c : Nat) (q : List (String × List Bytes)) (hq : ∀ a ∈ q, a.1 ∈ famNames) (s : Sys)
    (hd : s.DataInv) (ht : NoTTL s) (hdb : (s.conn c).db < s.srv.dbs.length) :
    StepOk c (queuePops q (runQueue (runInner mode c) c q s).1) (queuePushes q (runQueue (runInner mode c) c q s).1) s
      (runQueue (runInner mode c) c q s).2 := by
  induction q generalizing s with
  | nil => exact StepOk.refl c hd ht
  | cons a rest ih =>
    rw [runQueue_cons_run]
    have h1 := queueStep_ok mode c a (hq a (List.mem_cons_self ..)) s hd ht hdb
    exact h1.trans (ih (fun b hb => hq b (List.mem_cons_of_mem _ hb)) _ h1.data h1.nottl (h1.db_lt c hdb))


/-! ## the ledgers of one request -/

/-- the elements a reply hands out, for a request whose command is `name`; the reply of EXEC is read against the queue -/
def popsReq (q : List (String × List Bytes)) (name : String) (r : Reply) : List Bytes :=
  if name = "exec" then
    match r with
    | .arr rs => (q.zip rs).flatMap fun p => popsOf p.1.1 p.2
    | _ => []
  else popsOf name r

/-- the elements a request pushed, read off its arguments and its reply; EXEC: off the queue and the replies -/
def pushesReq (q : List (String × List Bytes)) (name : String) (args : List Bytes) (r : Reply) : List Bytes :=
  if name = "exec" then
    match r with
    | .arr rs => (q.zip rs).flatMap fun p => pushesOf p.1.1 p.1.2 p.2
    | _ => []
  else pushesOf name args r

def popsT (q : List (String × List Bytes)) (name : String) : Option Reply → List Bytes
  | some r => popsReq q name r
  | none => []

def pushesT (q : List (String × List Bytes)) (name : String) (args : List Bytes) : Option Reply → List Bytes
  | some r => pushesReq q name args r
  | none => []

theorem popsReq_err (q) (name : String) (m : Bytes) : popsReq q name (.err m) = [] := by
  unfold popsReq; split
  · rfl
  · exact popsOf_err _ _
theorem pushesReq_err (q) (name : String) (args : List Bytes) (m : Bytes) : pushesReq q name args (.err m) = [] := by
  unfold pushesReq; split
  · rfl
  · exact pushesOf_err _ _ _
theorem popsReq_status (q) (name : String) (m : Bytes) : popsReq q name (.status m) = [] := by
  unfold popsReq; split
  · rfl
  · exact popsOf_status _ _
theorem pushesReq_status (q) (name : String) (args : List Bytes) (m : Bytes) : pushesReq q name args (.status m) = [] := by
  unfold pushesReq; split
  · rfl
  · exact pushesOf_status _ _ _
theorem popsReq_nil (q) (name : String) : popsReq q name .nil = [] := by
  unfold popsReq; split
  · rfl
  · exact popsOf_nil _
theorem pushesReq_nil (q) (name : String) (args : List Bytes) : pushesReq q name args .nil = [] := by
  unfold pushesReq; split
  · rfl
  · exact pushesOf_nil _ _

/-- reading a ledger off the EXEC reply (every queued command answered) is reading it off the inner results -/
theorem queue_getD (f : String × List Bytes → Reply → List Bytes) (g : String × List Bytes → Option Reply → List Bytes)
    (hg : ∀ a r, g a (some r) = f a r) (q : List (String × List Bytes)) (rs : List (Option Reply))
    (h : rs.any Option.isNone = false) :
    (q.zip (rs.map fun r => r.getD .nil)).flatMap (fun p => f p.1 p.2) = (q.zip rs).flatMap fun p => g p.1 p.2 := by
  induction q generalizing rs with
  | nil => simp
  | cons a q ih =>
    cases rs with
    | nil => simp
    | cons o rs =>
      cases o with
      | none => cases h
      | some r =>
        simp only [List.map_cons, List.zip_cons_cons, List.flatMap_cons, Option.getD_some, hg]
        rw [ih rs h]

theorem queuePops_some (q : List (String × List Bytes)) (rs : List (Option Reply)) (h : rs.any Option.isNone = false) :
    popsT q "exec" (some (.arr (rs.map fun r => r.getD .nil))) = queuePops q rs := by
  simp only [popsT, popsReq, if_true]
  exact queue_getD (fun a r => popsOf a.1 r) (fun a o => popsO a.1 o) (fun _ _ => rfl) q rs h

theorem queuePushes_some (q : List (String × List Bytes)) (args : List Bytes) (rs : List (Option Reply))
    (h : rs.any Option.isNone = false) :
    pushesT q "exec" args (some (.arr (rs.map fun r => r.getD .nil))) = queuePushes q rs := by
  simp only [pushesT, pushesReq, if_true]
  exact queue_getD (fun a r => pushesOf a.1 a.2 r) (fun a o => pushesO a.1 a.2 o) (fun _ _ => rfl) q rs h

/-- the ledgers of a request other than EXEC are those of its command -/
theorem popsT_of_ne {name : String} (hne : name ≠ "exec") (q) (o : Option Reply) : popsT q name o = popsO name o := by
  cases o with
  | none => rfl
  | some r => simp only [popsT, popsO, popsReq, if_neg hne]

theorem pushesT_of_ne {name : String} (hne : name ≠ "exec") (q) (args : List Bytes) (o : Option Reply) :
    pushesT q name args o = pushesO name args o := by
  cases o with
  | none => rfl
  | some r => simp only [pushesT, pushesO, pushesReq, if_neg hne]

/-! ## MULTI / DISCARD / EXEC at top level -/

theorem special_multi (inner : Inner) (mode : Mode) (c : Nat) (args : List Arg) (cis : List CI) :
    special inner mode c "multi" args cis = multiCmd c cis := by
  unfold special; rfl

theorem special_discard (inner : Inner) (mode : Mode) (c : Nat) (args : List Arg) (cis : List CI) :
    special inner mode c "discard" args cis = discardCmd c cis := by
  unfold special; rfl

theorem LInv.quiet {s s' : Sys} (h : LInv s) (hq : Quiet s s') : LInv s' := by
  refine ⟨h.data.frame hq.dbs, noTTL_of_dbs h.nottl hq.dbs, fun c => ?_⟩
  rw [hq.conn c, hq.dbs]; exact h.conns c

theorem LInv.updConn {s : Sys} (h : LInv s) (c : Nat) (f : Conn → Conn) (hid : ∀ x, (f x).id = x.id)
    (hok : ConnOk s.srv.dbs.length (f (s.conn c))) : LInv (s.updConn c f) := by
  refine ⟨h.data, h.nottl, fun c' => ?_⟩
  rw [Sys.conn_updConn _ _ _ _ hid]
  split
  · rename_i hc
    rw [hc.1]; exact hok
  · exact h.conns c'

/-- the outcome of a top-level request with respect to the ledgers -/
structure ReqOut (s : Sys) (q : List (String × List Bytes)) (name : String) (args : List Bytes) (o : Option Reply)
    (s' : Sys) : Prop where
  inv : LInv s'
  out : s'.out = s.out
  closed : ∀ c', (s'.conn c').closed = (s.conn c').closed
  bal : ∀ x, (stored s').count x + (popsT q name o).count x = (stored s).count x + (pushesT q name args o).count x

theorem connOk_tx {n : Nat} {x : Conn} (h : ConnOk n x) (y : Conn) (hdb : y.db = x.db) (hp : y.parked = x.parked)
    (hc : y.closed = x.closed) (htx : ∀ q, y.tx = some q → ∀ a ∈ q, a.1 ∈ famNames) : ConnOk n y :=
  ⟨by rw [hdb]; exact h.db, by rw [hp, hc]; exact h.open_, htx⟩

theorem connOk_keep {n : Nat} {x : Conn} (h : ConnOk n x) (y : Conn) (hdb : y.db = x.db) (hp : y.parked = x.parked)
    (hc : y.closed = x.closed) (htx : y.tx = x.tx) : ConnOk n y :=
  connOk_tx h y hdb hp hc (by rw [htx]; exact h.tx)

/-- queueing a command of the family -/
theorem connOk_queue {n : Nat} {x : Conn} (h : ConnOk n x) {a : String × List Bytes} (ha : a.1 ∈ famNames) :
    ConnOk n { x with tx := x.tx.map (· ++ [a]) } := by
  refine connOk_tx h _ rfl rfl rfl fun q' hq' b hb => ?_
  obtain ⟨q1, htx1, rfl⟩ := Option.map_eq_some_iff.1 hq'
  rcases List.mem_append.1 hb with hb | hb
  · exact h.tx q1 htx1 b hb
  · obtain rfl := List.mem_singleton.1 hb
    exact ha

section
variable {s s1 s2 : Sys} {q : List (String × List Bytes)} {name : String} {args : List Bytes} {o : Option Reply}

theorem ReqOut.quiet (h : ReqOut s q name args o s1) (hq : Quiet s1 s2) : ReqOut s q name args o s2 :=
  ⟨h.inv.quiet hq, hq.out.trans h.out, fun c' => by rw [hq.conn c']; exact h.closed c',
    fun x => by rw [stored_of_dbs hq.dbs]; exact h.bal x⟩

/-- An outcome without a reply (`none`) says that nothing the books speak of has changed: so far the prologue and the
updates of the requester's record.  `ReqOut.trans` puts such steps in front of the request proper, `ReqOut.reply` ends
them with a reply that hands out nothing. -/
theorem ReqOut.refl (h : LInv s) (q) (name : String) (args : List Bytes) : ReqOut s q name args none s :=
  ⟨h, rfl, fun _ => rfl, fun _ => rfl⟩

theorem ReqOut.trans (h1 : ReqOut s q name args none s1) (h2 : ReqOut s1 q name args o s2) : ReqOut s q name args o s2 := by
  refine ⟨h2.inv, h2.out.trans h1.out, fun c' => (h2.closed c').trans (h1.closed c'), fun x => ?_⟩
  have e : (stored s1).count x = (stored s).count x := h1.bal x
  rw [← e]; exact h2.bal x

theorem ReqOut.reply (h : ReqOut s q name args none s1) {r : Reply} (h1 : popsReq q name r = [])
    (h2 : pushesReq q name args r = []) : ReqOut s q name args (some r) s1 :=
  ⟨h.inv, h.out, h.closed, fun x => by simp only [popsT, pushesT, h1, h2]; exact h.bal x⟩

theorem ReqOut.err (h : ReqOut s q name args none s1) (m : Bytes) : ReqOut s q name args (some (.err m)) s1 :=
  h.reply (popsReq_err _ _ _) (pushesReq_err _ _ _ _)

theorem ReqOut.status (h : ReqOut s q name args none s1) (m : Bytes) : ReqOut s q name args (some (.status m)) s1 :=
  h.reply (popsReq_status _ _ _) (pushesReq_status _ _ _ _)

theorem ReqOut.nil (h : ReqOut s q name args none s1) : ReqOut s q name args (some .nil) s1 :=
  h.reply (popsReq_nil _ _) (pushesReq_nil _ _ _)

/-- an update of the requester's record that keeps the invariant -/
theorem ReqOut.upd (h : ReqOut s q name args o s1) (c : Nat) (f : Conn → Conn) (hid : ∀ x, (f x).id = x.id)
    (hcl : ∀ x, (f x).closed = x.closed) (hok : ConnOk s1.srv.dbs.length (f (s1.conn c))) :
    ReqOut s q name args o (s1.updConn c f) := by
  refine ⟨h.inv.updConn c f hid hok, h.out, fun c' => ?_, h.bal⟩
  rw [Sys.conn_updConn_proj s1 c c' f Conn.closed hid hcl]; exact h.closed c'

/-- `f` closes the requester's transaction, then its watches are dropped: what DISCARD, EXEC and the refusal of an EXEC
with arguments do to its record -/
theorem ReqOut.dropTx (h : ReqOut s q name args o s1) (c : Nat) (f : Conn → Conn)
    (hf : ∀ x, (f x).id = x.id ∧ (f x).db = x.db ∧ (f x).parked = x.parked ∧ (f x).closed = x.closed ∧ (f x).tx = none) :
    ReqOut s q name args o ((s1.updConn c f).updConn c fun x => { x with watchNotified := false, watches := [] }) := by
  have a := h.upd c f (fun x => (hf x).1) (fun x => (hf x).2.2.2.1)
    (connOk_tx (h.inv.conns c) _ (hf _).2.1 (hf _).2.2.1 (hf _).2.2.2.1 (fun q' hq' => by rw [(hf _).2.2.2.2] at hq'; cases hq'))
  exact a.upd c _ (fun _ => rfl) (fun _ => rfl) (connOk_keep (a.inv.conns c) _ rfl rfl rfl rfl)

/-- a step of the books by a requester whose socket is open, read as the outcome of a request with these ledgers -/
theorem ReqOut.of_step {c : Nat} {pops pushes : List Bytes} (h : LInv s) (hopen : (s.conn c).closed = false)
    (hs : StepOk c pops pushes s s1) (e1 : popsT q name o = pops) (e2 : pushesT q name args o = pushes) :
    ReqOut s q name args o s1 :=
  ⟨h.step hs hopen, hs.out, hs.closed, fun x => by rw [e1, e2]; exact hs.bal x⟩

end

theorem multi_ok (inner : Inner) (mode : Mode) (c : Nat) (args : List Arg) (raw : List Bytes) (q) (s : Sys) (h : LInv s) :
    BodyOut (fun o s' => ReqOut s q "multi" raw o s') (special inner mode c "multi" args [] s) := by
  rw [special_multi]
  cases htx : (s.conn c).tx with
  | none =>
    rw [multiCmd_run_none [] htx]
    refine .ok (((ReqOut.refl h ..).status _).upd c _ (fun _ => rfl) (fun _ => rfl) ?_)
    exact connOk_tx (h.conns c) _ rfl rfl rfl (fun q' hq' a ha => by
      simp only [Option.some.injEq] at hq'; subst hq'; cases ha)
  | some q0 =>
    rw [multiCmd_run_some [] (by rw [htx]; rfl)]
    exact .error ((ReqOut.refl h ..).err _)

theorem discard_ok (inner : Inner) (mode : Mode) (c : Nat) (args : List Arg) (raw : List Bytes) (q) (s : Sys) (h : LInv s) :
    BodyOut (fun o s' => ReqOut s q "discard" raw o s') (special inner mode c "discard" args [] s) := by
  rw [special_discard]
  cases htx : (s.conn c).tx with
  | none =>
    rw [discardCmd_run_none [] htx]
    exact .error ((ReqOut.refl h ..).err _)
  | some q0 =>
    rw [discardCmd_run_some [] (by rw [htx]; rfl)]
    exact .ok (((ReqOut.refl h ..).status _).dropTx c (fun x => { x with tx := none, txFailed := false })
      (fun _ => ⟨rfl, rfl, rfl, rfl, rfl⟩))


/-- The body of EXEC, with the ledgers read against the queue it finds.  Without MULTI, after a queueing error
or with a dirty WATCH the reply is inert (an error or nil) and only the requester's record changes (`ReqOut.dropTx`).
Otherwise the queue runs from the state with the transaction closed: `runQueue_ok` balances the books of the queued
commands one by one and each has a reply (`C04k.runQueue_spec`), so the reply is the array of their replies and its
ledger is the sum of theirs (`queuePops_some`, `queuePushes_some`). -/
theorem exec_ok (mode : Mode) (c : Nat) (args : List Arg) (raw : List Bytes) (s : Sys) (h : LInv s)
    (hopen : (s.conn c).closed = false) :
    BodyOut (fun o s' => ReqOut s ((s.conn c).tx.getD []) "exec" raw o s')
      (special (runInner mode c) mode c "exec" args [] s) := by
  rw [special_exec _ mode c "exec" args [] rfl]
  cases htx : (s.conn c).tx with
  | none =>
    rw [execCmd_run_none _ [] htx]
    exact .error ((ReqOut.refl h ..).err _)
  | some q =>
    have hq : ∀ a ∈ q, a.1 ∈ famNames := (h.conns c).tx q htx
    have hc : s.HasConn c := Sys.hasConn_of_tx (by rw [htx]; rfl)
    have h0 := ReqOut.refl h q "exec" raw
    simp only [Option.getD_some]
    cases hf : (s.conn c).txFailed with
    | true =>
      rw [execCmd_run_failed _ [] htx hf]
      exact .error ((h0.err _).dropTx c (fun x => { x with tx := none }) (fun _ => ⟨rfl, rfl, rfl, rfl, rfl⟩))
    | false =>
      cases hw : (s.conn c).watchNotified with
      | true =>
        rw [execCmd_run_dirty _ [] htx hf hw]
        exact .ok (h0.nil.dropTx c (fun x => { x with tx := none, txFailed := false }) (fun _ => ⟨rfl, rfl, rfl, rfl, rfl⟩))
      | false =>
        rw [execCmd_run _ [] htx hf hw]
        have ha : ReqOut s q "exec" raw none (C19m.Sys.execStart s c) :=
          h0.dropTx c (fun x => { x with tx := none, txFailed := false }) (fun _ => ⟨rfl, rfl, rfl, rfl, rfl⟩)
        have hca : (C19m.Sys.execStart s c).HasConn c := (C19m.execStart_hasConn s c c).2 hc
        generalize C19m.Sys.execStart s c = sa at ha hca
        have hstep := runQueue_ok mode c q hq sa ha.inv.data ha.inv.nottl (ha.inv.conns c).db
        -- every queued command is answered: `inTx` is set, so a blocking pop does not park
        have hany := (C04k.runQueue_spec mode c q sa hca fun a ha => fam_qok (hq a ha)).2
        simp only [hany, Bool.false_eq_true, if_false]
        exact .ok (ha.trans (.of_step ha.inv ((ha.closed c).trans hopen) hstep (queuePops_some q _ hany)
          (queuePushes_some q raw _ hany)))


/-- MULTI / EXEC / DISCARD through `_run_command`: a refusal or a conversion error is an inert reply; otherwise it is the
body, in the state the request starts from -/
theorem tx_ok (mode : Mode) (c : Nat) (sig : Sig) (raw : List Bytes) (fs : Bool)
    (hfind : SigTable.find sig.name = some sig) (hn : sig.name ∈ txNames) (s : Sys) (h : LInv s)
    (hopen : (s.conn c).closed = false) :
    ReqOut s ((s.conn c).tx.getD []) sig.name raw (runWith (special (runInner mode c)) mode c sig raw fs s).1
      (runWith (special (runInner mode c)) mode c sig raw fs s).2 := by
  obtain ⟨hfx, hrep, hreg⟩ := nokey_of_find hfind (List.mem_append_right _ hn)
  refine runWith_nokey (runInner mode c) mode c sig raw fs hfx hrep hreg s h.data h.nottl
    (fun o s' => ReqOut s ((s.conn c).tx.getD []) sig.name raw o s') (fun m => (ReqOut.refl h ..).err m)
    (fun o s1 s2 h1 hq => h1.quiet hq) (fun args => ?_)
  simp only [txNames, List.mem_cons, List.not_mem_nil, or_false] at hn
  rcases hn with hn | hn | hn
  · rw [hn]
    exact multi_ok _ mode c args raw _ s h
  · rw [hn]
    exact exec_ok mode c args raw s h hopen
  · rw [hn]
    exact discard_ok _ mode c args raw _ s h

/-! ## `_process_command` for the family -/

theorem fam_ne_exec {name : String} (h : name ∈ famNames) : name ≠ "exec" :=
  (by decide : ∀ n ∈ famNames, n ≠ "exec") name h

theorem fam_ok (mode : Mode) (c : Nat) (sig : Sig) (raw : List Bytes) (fs : Bool)
    (hfind : SigTable.find sig.name = some sig) (hn : sig.name ∈ famNames) (q) (s : Sys) (h : LInv s)
    (hopen : (s.conn c).closed = false) :
    ReqOut s q sig.name raw (runWith (special (runInner mode c)) mode c sig raw fs s).1
      (runWith (special (runInner mode c)) mode c sig raw fs s).2 := by
  have hs := runWith_fam_ok (runInner mode c) mode c sig raw fs hfind hn s h.data h.nottl (h.conns c).db
  have hne := fam_ne_exec hn
  exact .of_step h hopen hs (popsT_of_ne hne ..) (pushesT_of_ne hne ..)

/-- the conclusion about one request event -/
def Final (s0 : Sys) (q : List (String × List Bytes)) (name : String) (args : List Bytes) (s' : Sys) : Prop :=
  LInv s' ∧ (∀ c', (s'.conn c').closed = (s0.conn c').closed) ∧
  ∀ x, (stored s').count x + (s'.out.flatMap fun p => popsReq q name p.2).count x =
    (stored s0).count x + (s'.out.flatMap fun p => pushesReq q name args p.2).count x

theorem linv_of_srv {s s' : Sys} (h : LInv s) (e : s'.srv = s.srv) : LInv s' := by
  refine ⟨h.data.frame (by rw [e]), noTTL_of_dbs h.nottl (by rw [e]), fun c => ?_⟩
  have : s'.conn c = s.conn c := by simp only [Sys.conn_def, e]
  rw [this, e]; exact h.conns c

theorem final_emit {s0 : Sys} {q} {name : String} {args : List Bytes} {r : Reply} {s2 : Sys} {c : Nat}
    (h : ReqOut s0 q name args (some r) s2) (hout : s0.out = []) (hopen : (s0.conn c).closed = false) :
    Final s0 q name args (s2.emitS c r) := by
  refine ⟨linv_of_srv h.inv (Sys.emitS_srv _ _ _), fun c' => (by rw [Sys.emitS_conn]; exact h.closed c'), fun x => ?_⟩
  have hcl : (s2.conn c).closed = false := by rw [h.closed c]; exact hopen
  have hst : stored (s2.emitS c r) = stored s2 := stored_of_dbs (by rw [Sys.emitS_srv])
  rw [Sys.emitS_out, hcl, h.out, hout, hst]
  simp only [Bool.false_eq_true, if_false, List.flatMap_cons, List.flatMap_nil, List.append_nil]
  exact h.bal x

theorem final_none {s0 : Sys} {q} {name : String} {args : List Bytes} {s2 : Sys}
    (h : ReqOut s0 q name args none s2) (hout : s0.out = []) : Final s0 q name args s2 := by
  refine ⟨h.inv, h.closed, fun x => ?_⟩
  rw [h.out, hout]
  exact h.bal x

theorem final_finish {s0 : Sys} {q} {name : String} {args : List Bytes} {s' : Sys} (c : Nat)
    (h : Final s0 q name args s') : Final s0 q name args (PubSubHist.finish c s') := by
  unfold PubSubHist.finish
  split
  · refine ⟨h.1.updConn c _ (fun _ => rfl) (connOk_keep (h.1.conns c) _ rfl rfl rfl rfl), fun c' => ?_, h.2.2⟩
    rw [Sys.conn_updConn_proj s' c c' (fun x => { x with dead := true }) Conn.closed (fun _ => rfl) (fun _ => rfl)]
    exact h.2.1 c'
  · exact h

/-- the run branch of the dispatcher behind `_run_command`: the reply, if there is one, is sent -/
theorem final_afterRun {s0 : Sys} {q} {name : String} {args : List Bytes} {c : Nat} {r : Option Reply × Sys}
    (h : ReqOut s0 q name args r.1 r.2) (hout : s0.out = []) (hopen : (s0.conn c).closed = false) :
    Final s0 q name args (ErrSys.afterRun c r) := by
  obtain ⟨o, s2⟩ := r
  refine final_finish c ?_
  cases o with
  | none => exact final_none h hout
  | some r => exact final_emit h hout hopen

/-- the prologue changes nothing the books speak of -/
theorem prep_ok (s : Sys) (h : LInv s) (q) (name : String) (args : List Bytes) : ReqOut s q name args none s.prologue := by
  have hdbs := s.prologue_dbs
  refine ⟨⟨h.data.frame hdbs, noTTL_of_dbs h.nottl hdbs, fun c => ?_⟩, s.prologue_out,
    fun c => s.prologue_conn c Conn.closed (fun _ => rfl), fun x => ?_⟩
  · rw [hdbs]
    rcases s.prologue_conn_cases c with e | e <;> rw [e]
    · exact h.conns c
    · exact connOk_keep (h.conns c) _ rfl rfl rfl rfl
  · rw [stored_of_dbs hdbs]; rfl

theorem find_of_lookup {nameB : Bytes} {sig : Sig} (h : lookupSig nameB = some sig) : SigTable.find sig.name = some sig :=
  (PubSubHist.lookupSig_some h).2

theorem tx_notQueued {name : String} (h : name ∈ txNames) : SigTable.notQueued.contains name = true :=
  (by decide : ∀ n ∈ txNames, SigTable.notQueued.contains n = true) name h

/-- one request of the list family (or MULTI / EXEC / DISCARD) through `_process_command`.  The prologue changes nothing
the books speak of (`prep_ok`).  Then, by the cases of the dispatcher (`processCommand_cases`): a refusal answers an error,
which is inert, after updates of the requester's record that keep `ConnOk` (`ReqOut.upd`, `ReqOut.dropTx`); queueing answers `QUEUED` and appends a family
command to the queue; a command run at once is `fam_ok` or `tx_ok`, followed by the
emission of its reply, if it has one (`final_afterRun`). -/
theorem request_ok (mode : Mode) (c : Nat) (nameB : Bytes) (args : List Bytes) (sig : Sig)
    (hsig : lookupSig nameB = some sig) (hn : sig.name ∈ famNames ∨ sig.name ∈ txNames)
    (s0 : Sys) (h : LInv s0) (hout : s0.out = []) (hopen : (s0.conn c).closed = false) :
    Final s0 ((s0.conn c).tx.getD []) sig.name args (processCommand mode c (nameB :: args) s0).2 := by
  have hfind := find_of_lookup hsig
  generalize hq : (s0.conn c).tx.getD [] = q
  have hp : ReqOut s0 q sig.name args none s0.prologue := prep_ok s0 h q sig.name args
  have hptx : (s0.prologue.conn c).tx = (s0.conn c).tx := s0.prologue_conn c Conn.tx (fun _ => rfl)
  -- a refusal marks an open transaction failed
  have hfail : ReqOut s0 q sig.name args none (s0.prologue.failTx c (s0.conn c)) := by
    unfold Sys.failTx
    split
    · exact hp.upd c _ (fun _ => rfl) (fun _ => rfl) (connOk_keep (hp.inv.conns c) _ rfl rfl rfl rfl)
    · exact hp
  -- each case of the dispatcher speaks of the signature found, which is `sig`
  have same : ∀ {sig' : Sig}, lookupSig nameB = some sig' → sig' = sig :=
    fun hl => Option.some.inj (hl.symm.trans hsig)
  refine processCommand_cases (P := fun s' => Final s0 q sig.name args s') mode c nameB args s0
    (fun h0 => by rw [hsig] at h0; cases h0) ?_ ?_ ?_ ?_ ?_
  · intro sig' hl _ _
    obtain rfl := same hl
    exact final_emit (hfail.err _) hout hopen
  · intro sig' hl _ _
    obtain rfl := same hl
    exact final_emit ((hfail.err _).dropTx c (fun x => { x with tx := none, txFailed := false })
      (fun _ => ⟨rfl, rfl, rfl, rfl, rfl⟩)) hout hopen
  · intro sig' hl _ _ hnm'
    obtain rfl := same hl
    rw [famtx_inMulti hn] at hnm'; cases hnm'
  · intro sig' hl _ hqd _
    obtain rfl := same hl
    simp only [Bool.and_eq_true, Bool.not_eq_true'] at hqd
    have hfam : sig'.name ∈ famNames := by
      rcases hn with hn | hn
      · exact hn
      · rw [tx_notQueued hn] at hqd; cases hqd.2
    have hb : ReqOut s0 q sig'.name args (some Reply.queued) s0.prologue := hp.status _
    exact final_emit (hb.upd c _ (fun _ => rfl) (fun _ => rfl) (connOk_queue (hb.inv.conns c) hfam)) hout hopen
  · intro sig' hl _ _
    obtain rfl := same hl
    rw [runCommand_not_script mode c sig' args false (famtx_not_script hn)]
    have hcl1 : (s0.prologue.conn c).closed = false := (hp.closed c).trans hopen
    refine final_afterRun (hp.trans ?_) hout hopen
    rcases hn with hn | hn
    · exact fam_ok mode c sig' args false hfind hn q s0.prologue hp.inv hcl1
    · have := tx_ok mode c sig' args false hfind hn s0.prologue hp.inv hcl1
      rw [hptx, hq] at this
      exact this


/-! ## wake-ups and time-outs -/

/-- the conclusion about a wake-up / time-out event -/
def FinalW (s0 s' : Sys) : Prop :=
  LInv s' ∧ (∀ c', (s'.conn c').closed = (s0.conn c').closed) ∧
  ∀ x, (stored s').count x + (s'.out.flatMap fun p => popElem p.2).count x = (stored s0).count x

theorem unpark_keyFrame : KeyFrame unpark := fun _ => ⟨rfl, rfl⟩

theorem stayParked_keyFrame (p : Parked) : KeyFrame (stayParked p) := fun _ => ⟨rfl, rfl⟩

/-- nothing the books speak of has changed (the fault of a turn for a connection that is not parked) -/
theorem finalW_quiet {s0 s' : Sys} (h : LInv s0) (hout : s0.out = []) (hq : Quiet s0 s') : FinalW s0 s' := by
  refine ⟨h.quiet hq, fun c' => (by rw [hq.conn c']), fun x => ?_⟩
  rw [hq.out, hout, stored_of_dbs hq.dbs]; rfl

/-- a step of the books that hands out nothing and sends no reply -/
theorem finalW_step {s0 s1 : Sys} {c : Nat} (h0 : LInv s0) (hs : StepOk c [] [] s0 s1) (hout : s0.out = [])
    (hopen : (s0.conn c).closed = false) : FinalW s0 s1 := by
  refine ⟨h0.step hs hopen, hs.closed, fun x => ?_⟩
  rw [hs.out, hout]
  exact hs.bal x

/-- a step of the books, then the reply that carries the element it took -/
theorem finalW_emit {s0 s1 : Sys} {c : Nat} {r : Reply} (h0 : LInv s0) (hs : StepOk c (popElem r) [] s0 s1)
    (hout : s0.out = []) (hopen : (s0.conn c).closed = false) : FinalW s0 (s1.emitS c r) := by
  refine ⟨linv_of_srv (h0.step hs hopen) (Sys.emitS_srv _ _ _), fun c' => (by rw [Sys.emitS_conn]; exact hs.closed c'),
    fun x => ?_⟩
  have hcl : (s1.conn c).closed = false := (hs.closed c).trans hopen
  have hst : stored (s1.emitS c r) = stored s1 := stored_of_dbs (by rw [Sys.emitS_srv])
  rw [Sys.emitS_out, hcl, hs.out, hout, hst]
  simp only [Bool.false_eq_true, if_false, List.flatMap_cons, List.flatMap_nil, List.append_nil]
  exact hs.bal x

/-- The parked connection's socket is open (`ConnOk.open_`), so `LInv.step` covers whatever the turn does to its parking
record: un-parking and staying parked are `KeyFrame` updates on top of the books of the re-run pass. -/
theorem wake_ok (c : Nat) (s0 : Sys) (h : LInv s0) (hout : s0.out = []) : FinalW s0 (wakeConn c s0).2 := by
  rw [wakeConn_eq]
  cases hp : (s0.conn c).parked with
  | none => exact finalW_quiet h hout (Quiet.fault s0 _)
  | some p =>
    have hopen : (s0.conn c).closed = false := (h.conns c).open_ (by rw [hp]; rfl)
    dsimp only
    rw [wakeState_eq]
    have hs := parkedPass_books c p s0 h.data h.nottl
    generalize parkedPass c p s0 = pr at hs
    obtain ⟨res, s1⟩ := pr
    dsimp only at hs ⊢
    -- the clock reading of an unserved turn changes nothing the books speak of
    have hq : Quiet s1 (wakeClock p res s1) :=
      ⟨by rw [wakeClock_srv], by rw [wakeClock_srv], wakeClock_out p res s1⟩
    have hs' := hs.quiet_right hq
    have htaken := popElem_wakeReply p res s1
    split
    · rename_i r hr
      rw [hr] at htaken
      exact finalW_emit h ((hs'.updConn _ unpark_keyFrame).of_eq htaken.symm rfl) hout hopen
    · -- stays parked: nothing was taken, nothing is handed over
      rename_i hr
      rw [hr] at htaken
      exact finalW_step h ((hs'.updConn _ (stayParked_keyFrame p)).of_eq htaken.symm rfl) hout hopen

theorem timeout_ok (c : Nat) (s0 : Sys) (h : LInv s0) (hout : s0.out = []) : FinalW s0 (timeoutConn c s0).2 := by
  rw [timeoutConn_eq]
  cases hp : (s0.conn c).parked with
  | none =>
    rw [if_neg (by simp)]
    exact finalW_quiet h hout (Quiet.fault s0 _)
  | some p =>
    have hopen : (s0.conn c).closed = false := (h.conns c).open_ (by rw [hp]; rfl)
    rw [if_pos Option.isSome_some]
    exact finalW_emit (r := .nil) h ((StepOk.refl c h.data h.nottl).updConn _ unpark_keyFrame) hout hopen


/-! ## events -/

/-- a request of the list family, or MULTI / EXEC / DISCARD -/
def FamilyReq (fields : List Bytes) : Prop :=
  ∃ nameB args sig, fields = nameB :: args ∧ lookupSig nameB = some sig ∧ (sig.name ∈ famNames ∨ sig.name ∈ txNames)

/-- the events a list-family history may contain, and when: requests of the family by connections whose socket is open,
wake-ups and time-outs of (parked) connections, new connections, closing a socket that is not parked, version / outage
switches, garbage collection of a connection object.  Not allowed: closing the socket of a parked connection (the
element its wake-up pops would be dropped with the reply: `FR.Props.C11c.conservation_false_with_close`); `send` of raw
bytes and the asyncio wake-up events, which run the parser loop on buffered bytes — the requests they process are not in
the event, so the ledgers `deliveredEv` / `pushedEv`, which are read off the event's own request, have nothing to be
read off. -/
def Legal (s : Sys) : Ev → Prop
  | .request _ c fields _ _ => FamilyReq fields ∧ (s.conn c).closed = false
  | .wake _ _ => True
  | .timeout _ => True
  | .open _ => True
  | .version _ => True
  | .conn _ => True
  | .close c => (s.conn c).parked = none
  | .gc _ => True
  | _ => False

/-- the list elements handed to clients by the replies of one event -/
def deliveredEv (s : Sys) (e : Ev) : List Bytes :=
  match e with
  | .request _ c (nameB :: _) _ _ =>
    match lookupSig nameB with
    | some sig => (stepEv s e).out.flatMap fun p => popsReq ((s.conn c).tx.getD []) sig.name p.2
    | none => []
  | .wake _ _ => (stepEv s e).out.flatMap fun p => popElem p.2
  | _ => []

/-- `deliveredEv` restricted to the replies addressed to connection `c'` -/
def deliveredToEv (c' : Nat) (s : Sys) (e : Ev) : List Bytes :=
  match e with
  | .request _ c (nameB :: _) _ _ =>
    match lookupSig nameB with
    | some sig => ((stepEv s e).out.filter fun p => p.1 == c').flatMap fun p => popsReq ((s.conn c).tx.getD []) sig.name p.2
    | none => []
  | .wake _ _ => ((stepEv s e).out.filter fun p => p.1 == c').flatMap fun p => popElem p.2
  | _ => []

/-- the list elements pushed by the commands of one event -/
def pushedEv (s : Sys) (e : Ev) : List Bytes :=
  match e with
  | .request _ c (nameB :: args) _ _ =>
    match lookupSig nameB with
    | some sig => (stepEv s e).out.flatMap fun p => pushesReq ((s.conn c).tx.getD []) sig.name args p.2
    | none => []
  | _ => []

theorem linv_open (c : Nat) (s : Sys) (h : LInv s) : LInv (openConn c s).2 := by
  refine ⟨h.data, h.nottl, fun c' => ?_⟩
  show ConnOk s.srv.dbs.length ((openConn c s).2.conn c')
  rw [openConn_conn]; exact h.conns c'

theorem gcConn_conn (c c' : Nat) (s : Sys) :
    (gcConn c s).2.conn c' = if c' = c then { id := c' } else s.conn c' := by
  split
  · rename_i h
    subst h
    exact Sys.conn_of_not_hasConn (gcConn_not_hasConn c' s)
  · exact gcConn_conn_other c c' s ‹_›

theorem linv_gc (c : Nat) (s : Sys) (h : LInv s) : LInv (gcConn c s).2 := by
  refine ⟨h.data, h.nottl, fun c' => ?_⟩
  show ConnOk s.srv.dbs.length ((gcConn c s).2.conn c')
  rw [gcConn_conn]
  split
  · exact connOk_default _ _ h.pos
  · exact h.conns c'

/-- every legal event keeps the invariant and balances the books; no event but `close` closes a socket -/
theorem stepEv_ok (s : Sys) (e : Ev) (h : LInv s) (hl : Legal s e) :
    LInv (stepEv s e) ∧
    (∀ x, (stored (stepEv s e)).count x + (deliveredEv s e).count x = (stored s).count x + (pushedEv s e).count x) ∧
    ((∀ c, e ≠ .close c) → (∀ c', (s.conn c').closed = false) → ∀ c', ((stepEv s e).conn c').closed = false) := by
  cases e with
  | request mode c fields clocks picks =>
    obtain ⟨⟨nameB, args, sig, rfl, hsig, hn⟩, hopen⟩ := hl
    have h0 : LInv (s.beginEvent.withHints clocks picks) := linv_of_srv h rfl
    have := request_ok mode c nameB args sig hsig hn _ h0 rfl hopen
    simp only [deliveredEv, pushedEv, hsig]
    exact ⟨this.1, this.2.2, fun _ hall c' => (this.2.1 c').trans (hall c')⟩
  | wake c clocks =>
    have h0 : LInv (s.beginEvent.withHints clocks []) := linv_of_srv h rfl
    have := wake_ok c _ h0 rfl
    refine ⟨this.1, fun x => ?_, fun _ hall c' => (this.2.1 c').trans (hall c')⟩
    simp only [deliveredEv, pushedEv, List.count_nil, Nat.add_zero]
    exact this.2.2 x
  | timeout c =>
    have h0 : LInv s.beginEvent := linv_of_srv h rfl
    have := timeout_ok c _ h0 rfl
    refine ⟨this.1, fun x => ?_, fun _ hall c' => (this.2.1 c').trans (hall c')⟩
    simp only [deliveredEv, pushedEv, List.count_nil, Nat.add_zero]
    rw [stored_of_dbs (timeout_conserve s c).1]
  | «open» c =>
    refine ⟨linv_open c _ (linv_of_srv h rfl), fun x => rfl, fun _ hall c' => ?_⟩
    show ((openConn c s.beginEvent).2.conn c').closed = false
    rw [openConn_conn]; exact hall c'
  | close c =>
    have h0 : LInv s.beginEvent := linv_of_srv h rfl
    have hp : (s.beginEvent.conn c).parked = none := hl
    refine ⟨?_, fun x => rfl, fun hne => absurd rfl (hne c)⟩
    show LInv (closeConn c s.beginEvent).2
    rw [closeConn_run]
    have h1 : LInv ({ s.beginEvent with srv := { s.beginEvent.srv with closedSockets := s.beginEvent.srv.closedSockets ++ [c] } } : Sys) :=
      ⟨h0.data, h0.nottl, h0.conns⟩
    refine h1.updConn c _ (fun _ => rfl) ⟨(h0.conns c).db, fun hq => ?_, (h0.conns c).tx⟩
    have : ((s.beginEvent.conn c).parked).isSome = true := hq
    rw [hp] at this; cases this
  | version v => exact ⟨⟨h.data, h.nottl, h.conns⟩, fun x => rfl, fun _ hall => hall⟩
  | conn up => exact ⟨⟨h.data, h.nottl, h.conns⟩, fun x => rfl, fun _ hall => hall⟩
  | gc c =>
    refine ⟨linv_gc c _ (linv_of_srv h rfl), fun x => rfl, fun _ hall c' => ?_⟩
    show ((gcConn c s.beginEvent).2.conn c').closed = false
    rw [gcConn_conn]
    split
    · rfl
    · exact hall c'
  | send mode c data clocks picks => exact absurd hl id
  | awake mode c clocks picks => exact absurd hl id
  | atimeout mode c clocks picks => exact absurd hl id


end FR.C11c


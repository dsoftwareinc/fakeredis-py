import FR.Proofs.HashSetCmds
import FR.Proofs.Emptied
import FR.Proofs.C02lLists
import FR.Proofs.C03zRun
import FR.Proofs.Lists
import FR.Proofs.Lrem
/-!
# The removing commands, family by family (for `FR/Props/C09v.lean`)

Each lemma runs the registered signature and body of a removing command through `runRegular` on an arbitrary database
with unique keys and states: the reply, and — when the command removes the last element — that the key is `Gone`:
nothing is stored under it afterwards and it was notified.  `Gone` speaks of the stored dictionary, which the live view
of `HashSet.typed_view` does not determine; so `key1_gone'` goes from `Signature.apply` to `runRegular_emptied` itself.
-/
namespace FR.C09v
open FR FR.Cmd FR.HashSet FR.Proofs
open FR.Props.C09v (Gone)

/-- a command whose body hands back, as the last modified item of key `k`, one without content: the reply is the
body's, nothing is stored under `k` afterwards and `k` was notified -/
theorem gone_of_emptied (sig : Sig) (body : Body) (ctx : Ctx) (raw : List Bytes) {db : Db} (nd : NodupKeys db.dict)
    {args : List Arg} {cis : List CI} (happ : Ttl.applyL db.live sig raw = .ok (.ok args cis))
    {o : BodyOut} (hb : body ctx args cis = .ok o) {k : Bytes} (he : EmptiedLast o.cis k) :
    (runRegular sig body ctx none raw db).reply = o.reply ∧
    Gone (runRegular sig body ctx none raw db) k := by
  have hap : (sig.apply raw db).2 = .ok (.ok args cis) := by rw [Ttl.apply_eq sig raw nd, happ]
  refine ⟨?_, runRegular_emptied sig body ctx raw db hap hb he⟩
  rw [runRegular_eq, hap]
  simp only [runTail, hb]

/-- a command registered as `(Key(ty), bytes × a), bytes…`, called with the key and at least `a` more arguments: the key
comes first and is the only one, the number of arguments is accepted, and those behind the key are handed on as they are -/
theorem plain_args {name : String} {ty : Option Ty} (a : Nat)
    (hfix : (sigOf name).fixed = .key ty .unspecified :: List.replicate a .bytes) (hrep : (sigOf name).rep = [.bytes])
    (rest : List Bytes) (hn : a ≤ rest.length) :
    KeyFirst (sigOf name) ty (List.replicate a .bytes) ∧ ArityOK (sigOf name) (rest.length + 1) ∧
    Ttl.decodeAll (rest.zip ((sigOf name).types (rest.length + 1)).tail) = .ok (rest.map .raw) :=
  have hb : ∀ t ∈ (sigOf name).rep, t = .bytes := by rw [hrep]; exact fun t ht => List.mem_singleton.1 ht
  have har := arity_var name (rest.length + 1) (a + 1) (by rw [hfix, List.length_cons, List.length_replicate])
    (by rw [hrep]; rfl) (by omega)
  ⟨keyFirst_plain hfix hb, har, decodeAll_plain _ _ a hfix hb rest har⟩

section key1
variable {name : String} {ty : Option Ty} {ftl : List ArgTy} (hs : KeyFirst (sigOf name) ty ftl)
  (body : Body) (ctx : Ctx) (key : Bytes) (rest : List Bytes) {db : Db} (nd : NodupKeys db.dict)
  (har : ArityOK (sigOf name) (rest.length + 1)) {as : List Arg}
  (hdec : Ttl.decodeAll (rest.zip ((sigOf name).types (rest.length + 1)).tail) = .ok as)
  {v : Value} {e : Option Int} (hl : db.live key = some ⟨v, e⟩) (hok : typeOK db.live ty key = true)
include hs nd har hdec hl hok

/-- a command whose only key comes first, on a key that holds `v`: when the body hands its item back with an empty
collection (and possibly consumes hints), the key is gone -/
theorem key1_gone' {o : BodyOut} {v' : Value}
    (hb : body ctx (.key 0 :: as) [⟨key, some v, e, false, false⟩] = .ok o)
    (ho : o.cis = [{ (⟨key, some v, e, false, false⟩ : CI) with val := some v', modified := true }])
    (hv : v'.isEmptyColl = true) :
    (runRegular (sigOf name) body ctx none (key :: rest) db).reply = o.reply ∧
    Gone (runRegular (sigOf name) body ctx none (key :: rest) db) key := by
  have happ := applyL_keyFirst_ok hs key rest db.live har hdec hok
  rw [ciOf_live _ hl] at happ
  exact gone_of_emptied _ body ctx _ nd happ hb (ho ▸ ⟨[], _, [], rfl, rfl, rfl, hv, fun _ h => by cases h⟩)

theorem key1_gone {r : Reply} {v' : Value}
    (hb : body ctx (.key 0 :: as) [⟨key, some v, e, false, false⟩] =
      ret r [{ (⟨key, some v, e, false, false⟩ : CI) with val := some v', modified := true }])
    (hv : v'.isEmptyColl = true) :
    (runRegular (sigOf name) body ctx none (key :: rest) db).reply = r ∧
    Gone (runRegular (sigOf name) body ctx none (key :: rest) db) key :=
  key1_gone' hs body ctx key rest nd har hdec hl hok hb rfl hv

end key1


/-! ## lists -/

theorem sig_rpoplpush : sigOf "rpoplpush" =
    ⟨"rpoplpush", [.key (some .list) .nil, .key (some .list) .unspecified], [], false, 2, 0, false⟩ := by decide +kernel
theorem sig_lmove : sigOf "lmove" =
    ⟨"lmove", [.key (some .list) .nil, .key (some .list) .unspecified, .sstr, .sstr], [], false, 4, 0, false⟩ := by
  decide +kernel

def popName (left : Bool) : String := if left then "lpop" else "rpop"

/-- `LPOP key` / `RPOP key` on a list with one element: the element is returned and the key is gone -/
theorem run_pop_last (left : Bool) (ctx : Ctx) (key : Bytes) {db : Db} (nd : NodupKeys db.dict) {x : Bytes}
    {e : Option Int} (hl : db.live key = some ⟨.list [x], e⟩) :
    (runRegular (sigOf (popName left)) (Cmd.listPop left) ctx none [key] db).reply = .bulk x ∧
    Gone (runRegular (sigOf (popName left)) (Cmd.listPop left) ctx none [key] db) key := by
  have hb : Cmd.listPop left ctx [.key 0] [ListKeys.listC.ci key [x] e] =
      ret (.bulk x) [{ ListKeys.listC.ci key [x] e with val := some (.list []), modified := true }] := by
    rw [listPop_single_body left ctx [ListKeys.listC.ci key [x] e] 0 [x] rfl (by simp)]
    cases left <;> rfl
  cases left
  · exact key1_gone (name := "rpop") ⟨rfl, by decide, by decide⟩ _ ctx key [] nd (by decide) rfl hl rfl hb rfl
  · exact key1_gone (name := "lpop") ⟨rfl, by decide, by decide⟩ _ ctx key [] nd (by decide) rfl hl rfl hb rfl

/-- `LPOP key n` / `RPOP key n` with `n` not smaller than the length of the list: all elements are returned (in pop
order) and the key is gone -/
theorem run_pop_all (left : Bool) (ctx : Ctx) (key nb : Bytes) (n : Int) {db : Db} (nd : NodupKeys db.dict)
    {l : List Bytes} {e : Option Int} (hl : db.live key = some ⟨.list l, e⟩) (hne : l ≠ [])
    (hn : Conv.int nb = .ok n) (hall : (l.length : Int) ≤ n) :
    (runRegular (sigOf (popName left)) (Cmd.listPop left) ctx none [key, nb] db).reply =
      Reply.bulks (if left then l else l.reverse) ∧
    Gone (runRegular (sigOf (popName left)) (Cmd.listPop left) ctx none [key, nb] db) key := by
  have hlen : 0 < l.length := List.length_pos_iff.2 hne
  have htn : l.length ≤ n.toNat := by omega
  have hd : Ttl.decodeAll [(nb, ArgTy.int)] = .ok [.int n] := by simp [Ttl.decodeAll, Conv.decode, Except.map, hn]
  have hb : Cmd.listPop left ctx [.key 0, .int n] [ListKeys.listC.ci key l e] =
      ret (Reply.bulks (if left then l else l.reverse))
        [{ ListKeys.listC.ci key l e with val := some (.list []), modified := true }] := by
    rw [listPop_count_body left ctx [ListKeys.listC.ci key l e] 0 n l rfl hne (by omega) (by omega)]
    cases left
    · simp only [Cmd.popRightN, Bool.false_eq_true, if_false]
      have h0 : l.length - n.toNat = 0 := by omega
      rw [h0]
      simp only [List.drop_zero, List.take_zero]
      rfl
    · simp only [Cmd.popLeftN, if_true]
      rw [List.take_of_length_le htn, List.drop_of_length_le htn]
      rfl
  cases left
  · exact key1_gone (name := "rpop") ⟨rfl, by decide, by decide⟩ _ ctx key [nb] nd (by show ArityOK _ 2; decide) hd hl
      rfl hb rfl
  · exact key1_gone (name := "lpop") ⟨rfl, by decide, by decide⟩ _ ctx key [nb] nd (by show ArityOK _ 2; decide) hd hl
      rfl hb rfl


theorem decodeAll_lrem {cb v : Bytes} {count : Int} (hc : Conv.int cb = .ok count) :
    Ttl.decodeAll ([cb, v].zip ((sigOf "lrem").types ([cb, v].length + 1)).tail) = .ok [.int count, .raw v] := by
  show Ttl.decodeAll [(cb, .int), (v, .bytes)] = _
  simp [Ttl.decodeAll, Conv.decode, Except.map, hc]

/-- `LREM key count v` removing as many elements as the list has (every element is `v` and `count` allows it): the
reply is the length and the key is gone -/
theorem run_lrem_all (ctx : Ctx) (key cb v : Bytes) (count : Int) {db : Db} (nd : NodupKeys db.dict)
    {l : List Bytes} {e : Option Int} (hl : db.live key = some ⟨.list l, e⟩) (hne : l ≠ [])
    (hc : Conv.int cb = .ok count)
    (hall : (if count = 0 then l.count v else min count.natAbs (l.count v)) = l.length) :
    (runRegular (sigOf "lrem") Cmd.lrem ctx none [key, cb, v] db).reply = .int (l.length : Nat) ∧
    Gone (runRegular (sigOf "lrem") Cmd.lrem ctx none [key, cb, v] db) key := by
  have hrm : (lremRm l count v).length = l.length := by rw [lremRm_length]; exact hall
  have hsub : (lremRm l count v).Sublist (List.range' 0 l.length) :=
    (lremRm_sublist l count v).trans (occurrences_sublist l v)
  have hkeep : lremKeep l (lremRm l count v) = [] := by
    have := lremKeep_length l (lremRm l count v) hsub
    exact List.eq_nil_of_length_eq_zero (by omega)
  have hnonempty : (lremRm l count v).isEmpty = false := by
    cases h : lremRm l count v with
    | nil => rw [h] at hrm; exact absurd hrm.symm (by simpa using hne)
    | cons _ _ => rfl
  exact key1_gone (name := "lrem") ⟨rfl, by decide, by decide⟩ Cmd.lrem ctx key [cb, v] nd (by show ArityOK _ 3; decide)
    (decodeAll_lrem hc) hl (typeOK_live hl rfl) (r := .int (l.length : Nat)) (v' := .list []) (by
    rw [lrem_body]
    have e1 : Cmd.listOf (ciAt [ListKeys.listC.ci key l e] 0) = l := rfl
    simp only [e1, hnonempty, Bool.false_eq_true, if_false, hkeep, hrm]
    rfl) rfl

/-- `LTRIM key a b` with an empty window: OK and the key is gone -/
theorem run_ltrim_all (ctx : Ctx) (key sb eb : Bytes) (a b : Int) {db : Db} (nd : NodupKeys db.dict)
    {l : List Bytes} {e : Option Int} (hl : db.live key = some ⟨.list l, e⟩) (hne : l ≠ [])
    (hs : Conv.int sb = .ok a) (he : Conv.int eb = .ok b) (hwin : FR.Spec.lrangeSpec l a b = []) :
    (runRegular (sigOf "ltrim") Cmd.ltrim ctx none [key, sb, eb] db).reply = .ok ∧
    Gone (runRegular (sigOf "ltrim") Cmd.ltrim ctx none [key, sb, eb] db) key := by
  have ht : (ListKeys.listC.ci key l e).truthy = true := by
    unfold CI.truthy
    cases l with
    | nil => exact absurd rfl hne
    | cons x xs => rfl
  exact key1_gone (name := "ltrim") ⟨rfl, by decide, by decide⟩ Cmd.ltrim ctx key [sb, eb] nd
    (by show ArityOK _ 3; decide) (as := [.int a, .int b])
    (by show Ttl.decodeAll [(sb, .int), (eb, .int)] = _; simp [Ttl.decodeAll, Conv.decode, Except.map, hs, he])
    hl (typeOK_live hl rfl) (r := .ok) (v' := .list []) (by
    rw [ltrim_body]
    have e0 : ciAt [ListKeys.listC.ci key l e] 0 = ListKeys.listC.ci key l e := rfl
    have e1 : Cmd.listOf (ListKeys.listC.ci key l e) = l := rfl
    simp only [e0, ht, Bool.not_true, Bool.false_eq_true, if_false, e1, hwin, List.length_nil]
    have : ((0 : Nat) != l.length) = true := by
      have : 0 < l.length := List.length_pos_iff.2 hne
      simp; omega
    rw [this]
    rfl) rfl


/-- a two-key command whose body empties its first item and writes something to a different key -/
theorem gone_src2 (sig : Sig) (body : Body) (ctx : Ctx) (raw : List Bytes) {db : Db} (nd : NodupKeys db.dict)
    {args : List Arg} {cs cd : CI} (happ : Ttl.applyL db.live sig raw = .ok (.ok args [cs, cd]))
    {r : Reply} {v' : Value} {cd' : CI}
    (hb : body ctx args [cs, cd] = ret r [{ cs with val := some v', modified := true }, cd'])
    (hv : v'.isEmptyColl = true) (hne : cd'.key ≠ cs.key) :
    (runRegular sig body ctx none raw db).reply = r ∧
    Gone (runRegular sig body ctx none raw db) cs.key :=
  gone_of_emptied sig body ctx raw nd happ hb
    ⟨[], _, [cd'], rfl, rfl, rfl, hv, fun _ hc' hk => absurd ((List.mem_singleton.1 hc') ▸ hk) hne⟩

/-- two list keys, the first with `missing_return`: not a `KeyFirst` signature, so `Signature.apply` is evaluated
directly (`HashSet.applyL`, whose second pass tests `typeOK` as the hypotheses give it) -/
theorem applyL_rpoplpush (live : Live) (src dst : Bytes) (it : Item) (hs : live src = some it)
    (hts : typeOK live (some .list) src = true) (htd : typeOK live (some .list) dst = true) :
    Ttl.applyL live (sigOf "rpoplpush") [src, dst] =
      .ok (.ok [.key 0, .key 1] [ciOf live (some .list) src, ciOf live (some .list) dst]) := by
  rw [← applyL_eq, sig_rpoplpush]
  simp [applyL, applyT, Sig.checkArity, Sig.types, p1, p2, hs, hts, htd]

theorem applyL_lmove (live : Live) (src dst a b : Bytes) (it : Item) (hs : live src = some it)
    (hts : typeOK live (some .list) src = true) (htd : typeOK live (some .list) dst = true) :
    Ttl.applyL live (sigOf "lmove") [src, dst, a, b] =
      .ok (.ok [.key 0, .key 1, .raw a, .raw b] [ciOf live (some .list) src, ciOf live (some .list) dst]) := by
  rw [← applyL_eq, sig_lmove]
  simp [applyL, applyT, Sig.checkArity, Sig.types, p1, p2, Conv.decode, hs, hts, htd]

theorem ciOf_key' (live : Live) (ty : Option Ty) (k : Bytes) : (ciOf live ty k).key = k := ciOf_key live ty k

theorem moveCore_last (key : Bytes) (x : Bytes) (e : Option Int) (cd : CI) (hne : cd.key ≠ key) (fl tl : Bool) :
    Cmd.moveCore [ListKeys.listC.ci key [x] e, cd] 0 1 fl tl =
      ret (.bulk x) [{ ListKeys.listC.ci key [x] e with val := some (.list []), modified := true },
        { cd with val := some (.list (if tl then x :: Cmd.listOf cd else Cmd.listOf cd ++ [x])), modified := true }] := by
  unfold Cmd.moveCore
  have e0 : ciAt [ListKeys.listC.ci key [x] e, cd] 0 = ListKeys.listC.ci key [x] e := rfl
  have e1 : ciAt [ListKeys.listC.ci key [x] e, cd] 1 = cd := rfl
  have e2 : Cmd.listOf (ListKeys.listC.ci key [x] e) = [x] := rfl
  have hk : ((ListKeys.listC.ci key [x] e).key == cd.key) = false := by
    show (key == cd.key) = false
    simpa using fun h => hne h.symm
  simp only [e0, e1, e2, hk, Bool.false_eq_true, if_false]
  cases fl <;> cases tl <;> rfl

/-- `RPOPLPUSH src dst` with a one-element source and a different destination: the source key is gone -/
theorem run_rpoplpush_last (ctx : Ctx) (src dst : Bytes) {db : Db} (nd : NodupKeys db.dict) {x : Bytes}
    {e : Option Int} (hl : db.live src = some ⟨.list [x], e⟩) (hd : typeOK db.live (some .list) dst = true)
    (hne : dst ≠ src) :
    (runRegular (sigOf "rpoplpush") Cmd.rpoplpush ctx none [src, dst] db).reply = .bulk x ∧
    Gone (runRegular (sigOf "rpoplpush") Cmd.rpoplpush ctx none [src, dst] db) src := by
  have happ := applyL_rpoplpush db.live src dst _ hl (typeOK_live hl rfl) hd
  rw [ciOf_live _ hl] at happ
  have hk : (ciOf db.live (some .list) dst).key ≠ src := by rw [ciOf_key]; exact hne
  exact gone_src2 _ Cmd.rpoplpush ctx [src, dst] nd happ (r := .bulk x) (v' := .list [])
    (hb := by rw [rpoplpush_body]; exact moveCore_last src x e _ hk false true) rfl
    (by show (ciOf db.live (some .list) dst).key ≠ src; exact hk)

theorem run_lmove_last (ctx : Ctx) (src dst a b : Bytes) {db : Db} (nd : NodupKeys db.dict) {x : Bytes}
    {e : Option Int} (hl : db.live src = some ⟨.list [x], e⟩) (hd : typeOK db.live (some .list) dst = true)
    (hne : dst ≠ src)
    (ha : casenorm a = strBytes "left" ∨ casenorm a = strBytes "right")
    (hb : casenorm b = strBytes "left" ∨ casenorm b = strBytes "right") :
    (runRegular (sigOf "lmove") Cmd.lmove ctx none [src, dst, a, b] db).reply = .bulk x ∧
    Gone (runRegular (sigOf "lmove") Cmd.lmove ctx none [src, dst, a, b] db) src := by
  have happ := applyL_lmove db.live src dst a b _ hl (typeOK_live hl rfl) hd
  rw [ciOf_live _ hl] at happ
  have hk : (ciOf db.live (some .list) dst).key ≠ src := by rw [ciOf_key]; exact hne
  have hbody : Cmd.lmove ctx [.key 0, .key 1, .raw a, .raw b] [ListKeys.listC.ci src [x] e, ciOf db.live (some .list) dst] =
      Cmd.moveCore [ListKeys.listC.ci src [x] e, ciOf db.live (some .list) dst] 0 1 (casenorm a == strBytes "left")
        (casenorm b == strBytes "left") := by
    unfold Cmd.lmove
    have h1 : ¬ ((casenorm a != strBytes "left" && casenorm a != strBytes "right") = true) := by
      rcases ha with h | h <;> simp [h]
    have h2 : ¬ ((casenorm b != strBytes "left" && casenorm b != strBytes "right") = true) := by
      rcases hb with h | h <;> simp [h]
    simp only [h1, h2, if_false, Bool.false_eq_true]
  exact gone_src2 _ Cmd.lmove ctx [src, dst, a, b] nd happ (r := .bulk x) (v' := .list [])
    (hb := by rw [hbody]; exact moveCore_last src x e _ hk _ _) rfl
    (by show (ciOf db.live (some .list) dst).key ≠ src; exact hk)


/-! ## sorted sets -/

theorem foldl_discard_all {ms : List Bytes} {z : ZSet} (hall : ∀ p ∈ z.bylex, p.1 ∈ ms) :
    (ms.foldl ZSet.discard z).bylex = [] := by
  rw [ZSet.foldl_discard_bylex, List.filter_eq_nil_iff]
  intro p hp
  simpa using hall p hp

theorem zremCore_all (key : Bytes) (z : ZSet) (e : Option Int) (ms : List Bytes) (hz : z.bylex ≠ [])
    (hall : ∀ p ∈ z.bylex, p.1 ∈ ms) :
    Cmd.zremCore [ZCmd.zsetC.ci key z e] 0 ms =
      ret (.int (z.len : Nat)) [{ ZCmd.zsetC.ci key z e with val := some (.zset (ms.foldl ZSet.discard z)), modified := true }] := by
  unfold Cmd.zremCore
  have e0 : Cmd.zsetOf (ciAt [ZCmd.zsetC.ci key z e] 0) = z := rfl
  have hlen : (ms.foldl ZSet.discard z).len = 0 := by
    unfold ZSet.len; rw [foldl_discard_all hall]; rfl
  have hpos : 0 < z.len := List.length_pos_iff.2 hz
  simp only [e0, hlen, Nat.sub_zero]
  rw [if_pos hpos]
  rfl

theorem run_zrem_generic {name : String} {ftl : List ArgTy} (hs : KeyFirst (sigOf name) (some .zset) ftl) (body : Body)
    (ctx : Ctx) (key : Bytes) (rest : List Bytes) {db : Db} (nd : NodupKeys db.dict)
    (har : ArityOK (sigOf name) (rest.length + 1)) {as : List Arg}
    (hdec : Ttl.decodeAll (rest.zip ((sigOf name).types (rest.length + 1)).tail) = .ok as)
    {z : ZSet} {e : Option Int} (hl : db.live key = some ⟨.zset z, e⟩) (hz : z.bylex ≠ []) (ms : List Bytes)
    (hbody : body ctx (.key 0 :: as) [ZCmd.zsetC.ci key z e] = Cmd.zremCore [ZCmd.zsetC.ci key z e] 0 ms)
    (hall : ∀ p ∈ z.bylex, p.1 ∈ ms) :
    (runRegular (sigOf name) body ctx none (key :: rest) db).reply = .int (z.len : Nat) ∧
    Gone (runRegular (sigOf name) body ctx none (key :: rest) db) key :=
  key1_gone hs body ctx key rest nd har hdec hl (typeOK_live hl rfl) (r := .int (z.len : Nat))
    (v' := .zset (ms.foldl ZSet.discard z)) (by rw [hbody]; exact zremCore_all key z e ms hz hall)
    (by show (ms.foldl ZSet.discard z).bylex.isEmpty = true; rw [foldl_discard_all hall]; rfl)


/-- `ZREM key m …` naming every member: the reply is the cardinality and the key is gone -/
theorem run_zrem_all (ctx : Ctx) (key m : Bytes) (rest : List Bytes) {db : Db} (nd : NodupKeys db.dict) {z : ZSet}
    {e : Option Int} (hl : db.live key = some ⟨.zset z, e⟩) (hz : z.bylex ≠ [])
    (hall : ∀ p ∈ z.bylex, p.1 ∈ m :: rest) :
    (runRegular (sigOf "zrem") Cmd.zrem ctx none (key :: m :: rest) db).reply = .int (z.len : Nat) ∧
    Gone (runRegular (sigOf "zrem") Cmd.zrem ctx none (key :: m :: rest) db) key :=
  have ⟨hs, har, hdec⟩ := plain_args (name := "zrem") 1 rfl rfl (m :: rest) (by simp)
  run_zrem_generic hs Cmd.zrem ctx key (m :: rest) nd har hdec hl hz (m :: rest)
    (by simp only [Cmd.zrem, rawArgs_map_raw]) hall

theorem run_zremrangebyrank_all (ctx : Ctx) (key sb eb : Bytes) (a b : Int) {db : Db} (nd : NodupKeys db.dict)
    {z : ZSet} {e : Option Int} (hl : db.live key = some ⟨.zset z, e⟩) (hz : z.bylex ≠ [])
    (hs : Conv.int sb = .ok a) (he : Conv.int eb = .ok b)
    (hall : ∀ p ∈ z.bylex, p.1 ∈ (Py.slice z.byscore (fixRange a b z.len).1 (fixRange a b z.len).2).map Prod.snd) :
    (runRegular (sigOf "zremrangebyrank") Cmd.zremrangebyrank ctx none [key, sb, eb] db).reply = .int (z.len : Nat) ∧
    Gone (runRegular (sigOf "zremrangebyrank") Cmd.zremrangebyrank ctx none [key, sb, eb] db) key :=
  run_zrem_generic (name := "zremrangebyrank") ⟨rfl, by decide, by decide⟩ Cmd.zremrangebyrank ctx key [sb, eb] nd
    (by show ArityOK _ 3; decide) (as := [.int a, .int b])
    (by show Ttl.decodeAll [(sb, .int), (eb, .int)] = _; simp [Ttl.decodeAll, Conv.decode, Except.map, hs, he])
    hl hz _ rfl hall

theorem run_zremrangebyscore_all (ctx : Ctx) (key mnb mxb : Bytes) (mn mx : Dbl) (mne mxe : Bool) {db : Db}
    (nd : NodupKeys db.dict) {z : ZSet} {e : Option Int} (hl : db.live key = some ⟨.zset z, e⟩) (hz : z.bylex ≠ [])
    (hs : Conv.scoreTest mnb = .ok (mn, mne)) (he : Conv.scoreTest mxb = .ok (mx, mxe))
    (hall : ∀ p ∈ z.bylex, p.1 ∈ ((z.irange mn (Cmd.lowerTail mne) mx (Cmd.upperTail mxe) true true).map Prod.snd)) :
    (runRegular (sigOf "zremrangebyscore") Cmd.zremrangebyscore ctx none [key, mnb, mxb] db).reply =
      .int (z.len : Nat) ∧
    Gone (runRegular (sigOf "zremrangebyscore") Cmd.zremrangebyscore ctx none [key, mnb, mxb] db) key :=
  run_zrem_generic (name := "zremrangebyscore") ⟨rfl, by decide, by decide⟩ Cmd.zremrangebyscore ctx key [mnb, mxb] nd
    (by show ArityOK _ 3; decide) (as := [.score mn mne, .score mx mxe])
    (by show Ttl.decodeAll [(mnb, .scoreTest), (mxb, .scoreTest)] = _
        simp [Ttl.decodeAll, Conv.decode, Except.map, hs, he])
    hl hz _ rfl hall

theorem run_zremrangebylex_all (ctx : Ctx) (key mnb mxb : Bytes) (mn mx : LexB) (mne mxe : Bool) {db : Db}
    (nd : NodupKeys db.dict) {z : ZSet} {e : Option Int} (hl : db.live key = some ⟨.zset z, e⟩) (hz : z.bylex ≠ [])
    (hs : Conv.stringTest mnb = .ok (mn, mne)) (he : Conv.stringTest mxb = .ok (mx, mxe))
    (hall : ∀ p ∈ z.bylex, p.1 ∈ z.irangeLex mn mx (!mne) (!mxe)) :
    (runRegular (sigOf "zremrangebylex") Cmd.zremrangebylex ctx none [key, mnb, mxb] db).reply =
      .int (z.len : Nat) ∧
    Gone (runRegular (sigOf "zremrangebylex") Cmd.zremrangebylex ctx none [key, mnb, mxb] db) key :=
  run_zrem_generic (name := "zremrangebylex") ⟨rfl, by decide, by decide⟩ Cmd.zremrangebylex ctx key [mnb, mxb] nd
    (by show ArityOK _ 3; decide) (as := [.lex mn mne, .lex mx mxe])
    (by show Ttl.decodeAll [(mnb, .stringTest), (mxb, .stringTest)] = _
        simp [Ttl.decodeAll, Conv.decode, Except.map, hs, he])
    hl hz _ rfl hall


/-! ## hashes and sets -/

theorem hdelRec_pos : ∀ (fs : List Bytes) (h : HashSet.HashV), h ≠ [] → (∀ p ∈ h, p.1 ∈ fs) → 0 < (hdelRec h fs).2
  | [], h, hne, hall => by
    cases h with
    | nil => exact absurd rfl hne
    | cons p ps => have := hall p (by simp); cases this
  | f :: fs, h, hne, hall => by
    simp only [hdelRec]
    split
    · simp
    · rename_i hf
      apply hdelRec_pos fs h hne
      intro p hp
      rcases List.mem_cons.1 (hall p hp) with e | hm
      · exfalso
        apply hf
        rw [List.any_eq_true]
        exact ⟨p, hp, by simp [e]⟩
      · exact hm

/-- `HDEL key f …` naming every field of the hash: the reply is the number of fields removed and the key is gone -/
theorem run_hdel_all (ctx : Ctx) (key f : Bytes) (rest : List Bytes) {db : Db} (nd : NodupKeys db.dict) {h : HashSet.HashV}
    {e : Option Int} (hl : db.live key = some ⟨.hash h, e⟩) (hne : h ≠ []) (hall : ∀ p ∈ h, p.1 ∈ f :: rest) :
    (runRegular (sigOf "hdel") Cmd.hdel ctx none (key :: f :: rest) db).reply = .int ((hdelRec h (f :: rest)).2 : Nat) ∧
    0 < (hdelRec h (f :: rest)).2 ∧
    Gone (runRegular (sigOf "hdel") Cmd.hdel ctx none (key :: f :: rest) db) key := by
  obtain ⟨hs, har, hdec⟩ := plain_args (name := "hdel") 1 rfl rfl (f :: rest) (by simp)
  have hpos := hdelRec_pos (f :: rest) h hne hall
  have hnil : (hdelRec h (f :: rest)).1 = [] := by
    rw [hdelRec_fst, List.filter_eq_nil_iff]
    intro p hp
    have hm : (f :: rest).contains p.1 = true := List.contains_iff_mem.2 (hall p hp)
    rw [hm]; simp
  have := key1_gone hs Cmd.hdel ctx key (f :: rest) nd har hdec hl (typeOK_live hl rfl)
    (r := .int ((hdelRec h (f :: rest)).2 : Nat)) (v' := .hash (hdelRec h (f :: rest)).1)
    (by rw [body_hdel, if_pos hpos]) (by rw [hnil]; rfl)
  exact ⟨this.1, hpos, this.2⟩

/-- `SREM key m …` naming every member of the set: the reply is the cardinality and the key is gone -/
theorem run_srem_all (ctx : Ctx) (key m : Bytes) (rest : List Bytes) {db : Db} (nd : NodupKeys db.dict)
    {s : List Bytes} {e : Option Int} (hl : db.live key = some ⟨.set s, e⟩) (hne : s ≠ [])
    (hall : ∀ x ∈ s, x ∈ m :: rest) :
    (runRegular (sigOf "srem") Cmd.srem ctx none (key :: m :: rest) db).reply = .int (s.length : Nat) ∧
    Gone (runRegular (sigOf "srem") Cmd.srem ctx none (key :: m :: rest) db) key := by
  obtain ⟨hs, har, hdec⟩ := plain_args (name := "srem") 1 rfl rfl (m :: rest) (by simp)
  have hd : Cmd.setDiff s (m :: rest) = [] := by
    unfold Cmd.setDiff
    rw [List.filter_eq_nil_iff]
    intro x hx
    have hm : (m :: rest).contains x = true := List.contains_iff_mem.2 (hall x hx)
    show (!(m :: rest).contains x) ≠ true
    rw [hm]; simp
  have hpos : 0 < s.length := List.length_pos_iff.2 hne
  exact key1_gone hs Cmd.srem ctx key (m :: rest) nd har hdec hl (typeOK_live hl rfl)
    (r := .int (s.length : Nat)) (v' := .set []) (by
    simp only [Cmd.srem, rawArgs_map_raw]
    have e1 : Cmd.setOf (ciAt [setC.ci key s e] 0) = s := rfl
    rw [e1, hd]
    simp only [List.length_nil, Nat.sub_zero]
    rw [if_pos hpos]
    rfl) rfl


/-- `SPOP key` on a set with one member (the recorded random choice must be that member) -/
theorem run_spop_last (ctx : Ctx) (key : Bytes) {db : Db} (nd : NodupKeys db.dict) {x : Bytes} {e : Option Int}
    (hl : db.live key = some ⟨.set [x], e⟩) (rest : List (List Bytes)) (hp : ctx.picks = [x] :: rest) :
    (runRegular (sigOf "spop") Cmd.spop ctx none [key] db).reply = .bulk x ∧
    Gone (runRegular (sigOf "spop") Cmd.spop ctx none [key] db) key := by
  have hb : Cmd.spop ctx [.key 0] [setC.ci key [x] e] =
      .ok { reply := .bulk x, cis := [{ setC.ci key [x] e with val := some (.set []), modified := true }],
            picksUsed := 1 } := by
    have e1 : Cmd.setOf (ciAt [setC.ci key [x] e] 0) = [x] := rfl
    simp only [Cmd.spop, Cmd.intArgs, List.length_nil, e1, List.head?_nil, Cmd.srandCore, hp]
    simp [Cmd.setDiff, Cmd.putSet, ciAt]
  exact key1_gone' (name := "spop") ⟨rfl, by decide, by decide⟩ Cmd.spop ctx key [] nd (by decide) rfl hl
    (typeOK_live hl rfl) (v' := .set []) hb rfl rfl

/-- `SMOVE src dst m` when `m` is the only member of the source and the destination is another key -/
theorem run_smove_last (ctx : Ctx) (src dst m : Bytes) {db : Db} (nd : NodupKeys db.dict) {es : Option Int}
    (hl : db.live src = some ⟨.set [m], es⟩) {sd : List Bytes} {ed : Option Int}
    (hvd : setView db.live dst = some (sd, ed)) (hne : dst ≠ src) :
    (runRegular (sigOf "smove") Cmd.smove ctx none [src, dst, m] db).reply = .int 1 ∧
    Gone (runRegular (sigOf "smove") Cmd.smove ctx none [src, dst, m] db) src := by
  have hvs : setView db.live src = some ([m], es) := setC.see_stored hl
  have happ : Ttl.applyL db.live (sigOf "smove") [src, dst, m] =
      .ok (.ok [.key 0, .key 1, .raw m] [setC.ci src [m] es, setC.ci dst sd ed]) := by
    rw [smove_apply, hl]
    have h1 : typeOK db.live (some .set) src = true ∧ ciOf db.live (some .set) src = setC.ci src [m] es :=
      setC.see_some hvs
    have h2 : typeOK db.live (some .set) dst = true ∧ ciOf db.live (some .set) dst = setC.ci dst sd ed :=
      setC.see_some hvd
    simp only [h1.1, h2.1, and_self, if_true, h1.2, h2.2]
  have hb : Cmd.smove ctx [.key 0, .key 1, .raw m] [setC.ci src [m] es, setC.ci dst sd ed] =
      ret (.int 1)
        [{ setC.ci src [m] es with val := some (.set []), modified := true },
         { setC.ci dst sd ed with val := some (.set (Cmd.setIns sd m)), modified := true }] := by
    rw [body_smove, if_neg (by simp), if_neg (by simpa using fun h => hne h.symm)]
    simp
  exact gone_src2 _ Cmd.smove ctx [src, dst, m] nd happ (r := .int 1) (v' := .set []) (hb := hb) rfl
    (by show dst ≠ src; exact hne)

/-- the three storing set operations are registered as `(Key(), Key(set)), Key(set)…` -/
theorem store_sig : ∀ p ∈ [("sdiffstore", Cmd.SetOp.diff), ("sinterstore", .inter), ("sunionstore", .union)],
    (sigOf p.1).fixed = [.key none .unspecified, .key (some .set) .unspecified] ∧
    (sigOf p.1).rep = [.key (some .set) .unspecified] := by decide +kernel

/-- `SDIFFSTORE` / `SINTERSTORE` / `SUNIONSTORE dst k …` with an empty result (the reply is 0): nothing is stored
under `dst` afterwards, whatever it held before -/
theorem run_setopStore_empty (ctx : Ctx) {db : Db} (nd : NodupKeys db.dict) (name : String) (op : Cmd.SetOp)
    (hfix : (sigOf name).fixed = [.key none .unspecified, .key (some .set) .unspecified])
    (hrep : (sigOf name).rep = [.key (some .set) .unspecified])
    (dst k : Bytes) (ks : List Bytes) (hty : (k :: ks).all (typeOK db.live (some .set)) = true)
    (hempty : Cmd.calcSetop op (setAt db.live k) (ks.map (setAt db.live)) = []) :
    (runRegular (sigOf name) (Cmd.setopStore op) ctx none (dst :: k :: ks) db).reply = .int 0 ∧
    Gone (runRegular (sigOf name) (Cmd.setopStore op) ctx none (dst :: k :: ks) db) dst := by
  have har : ArityOK (sigOf name) ((k :: ks).length + 1) :=
    arity_var name _ 2 (by rw [hfix]; rfl) (by rw [hrep]; rfl) (by simp)
  have happ := applyL_store (sigOf name) hfix hrep db.live dst (k :: ks) har
  rw [if_pos hty] at happ
  have hb := body_setopStore op ctx db.live (ciOf db.live none dst) k ks
  rw [hempty] at hb
  refine gone_of_emptied (sigOf name) (Cmd.setopStore op) ctx _ nd happ hb
    ⟨[], _, _, rfl, ciOf_key _ _ _, rfl, rfl, fun c' hc' _ hm => ?_⟩
  obtain ⟨k', _, rfl⟩ := List.mem_map.1 hc'
  rw [(ciOf_clean _ _ _).1] at hm; cases hm


/-! ## no-op writes on a missing key -/

theorem putAt_empty_missing {live : Live} {k : Bytes} (hm : live k = none) {v : Value} (hv : v.isEmptyColl = true)
    (e : Option Int) : putAt live k v e = live := by
  funext x
  by_cases hx : x = k
  · rw [hx, putAt_self, if_pos hv, hm]
  · exact putAt_ne live v e hx

theorem run_pushx_missing (left : Bool) (ctx : Ctx) (key v : Bytes) (vs : List Bytes) {db : Db}
    (nd : NodupKeys db.dict) (hm : db.live key = none) :
    let name := if left then "lpushx" else "rpushx"
    let body := if left then Cmd.lpushx else Cmd.rpushx
    (runRegular (sigOf name) body ctx none (key :: v :: vs) db).reply = .int 0 ∧
    (runRegular (sigOf name) body ctx none (key :: v :: vs) db).db.live = db.live := by
  cases left
  · obtain ⟨hs, har, hdec⟩ := plain_args (name := "rpushx") 1 rfl rfl (v :: vs) (by simp)
    have := typed_read ListKeys.listC hs ctx key (v :: vs) nd har hdec rfl (ListKeys.listC.see_missing hm) (r := .int 0) rfl
    exact ⟨this.1, this.2.1⟩
  · obtain ⟨hs, har, hdec⟩ := plain_args (name := "lpushx") 1 rfl rfl (v :: vs) (by simp)
    have := typed_read ListKeys.listC hs ctx key (v :: vs) nd har hdec rfl (ListKeys.listC.see_missing hm) (r := .int 0) rfl
    exact ⟨this.1, this.2.1⟩

theorem run_lrem_missing (ctx : Ctx) (key cb v : Bytes) (count : Int) {db : Db} (nd : NodupKeys db.dict)
    (hm : db.live key = none) (hc : Conv.int cb = .ok count) :
    (runRegular (sigOf "lrem") Cmd.lrem ctx none [key, cb, v] db).reply = .int 0 ∧
    (runRegular (sigOf "lrem") Cmd.lrem ctx none [key, cb, v] db).db.live = db.live := by
  have := typed_read ListKeys.listC (name := "lrem") ⟨rfl, by decide, by decide⟩ ctx key [cb, v] nd
    (by show ArityOK _ 3; decide) (decodeAll_lrem hc) rfl (ListKeys.listC.see_missing hm) (r := .int 0) (by
    rw [lrem_body]
    have e1 : Cmd.listOf (ciAt [ListKeys.listC.ci key [] none] 0) = [] := rfl
    rw [e1]
    have : lremRm [] count v = [] := by
      unfold lremRm Cmd.occurrences
      simp
    simp only [this]
    rfl)
  exact ⟨this.1, this.2.1⟩

theorem run_zrem_missing (ctx : Ctx) (key m : Bytes) (rest : List Bytes) {db : Db} (nd : NodupKeys db.dict)
    (hm : db.live key = none) :
    (runRegular (sigOf "zrem") Cmd.zrem ctx none (key :: m :: rest) db).reply = .int 0 ∧
    (runRegular (sigOf "zrem") Cmd.zrem ctx none (key :: m :: rest) db).db.live = db.live := by
  obtain ⟨hs, har, hdec⟩ := plain_args (name := "zrem") 1 rfl rfl (m :: rest) (by simp)
  have := typed_read ZCmd.zsetC hs ctx key (m :: rest) nd har hdec rfl (ZCmd.zsetC.see_missing hm) (r := .int 0) (by
      simp only [Cmd.zrem, rawArgs_map_raw, Cmd.zremCore]
      have e1 : Cmd.zsetOf (ciAt [ZCmd.zsetC.ci key ZSet.empty none] 0) = ZSet.empty := rfl
      rw [e1]
      have : ((m :: rest).foldl ZSet.discard ZSet.empty).bylex = [] := by
        rw [ZSet.foldl_discard_bylex]; rfl
      have hl : ((m :: rest).foldl ZSet.discard ZSet.empty).len = 0 := by unfold ZSet.len; rw [this]; rfl
      rw [hl]
      rfl)
  exact ⟨this.1, this.2.1⟩

end FR.C09v

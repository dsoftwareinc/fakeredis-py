import FR.Proofs.Runner
/-!
# The write-back of an emptied collection removes the key

`CommandItem.writeback` deletes the key when the value to store is an empty collection (or none): a body whose last
modified item of a key has no content leaves nothing stored under it, and the key is notified.
-/
namespace FR.HashSet
open FR Db

theorem mem_writeback {c : CI} {db : Db} {q : Bytes × Item} (hq : q ∈ (c.writeback db).1.dict) :
    q ∈ db.dict ∨ (q.1 = c.key ∧
      ((c.modified = true ∧ c.val = some q.2.value ∧ q.2.value.isEmptyColl = false) ∨
        ∃ it, (c.key, it) ∈ db.dict ∧ q.2.value = it.value)) := by
  unfold CI.writeback at hq
  split at hq
  · rename_i hm
    split at hq
    · rw [Db.pop_eq] at hq; exact .inl (Db.mem_erase hq)
    · rename_i v hv
      split at hq
      · rw [Db.pop_eq] at hq; exact .inl (Db.mem_erase hq)
      · rename_i hne
        rcases Db.mem_setRaw hq with h | rfl
        · exact .inl (Db.get_dict_sub h)
        · exact .inr ⟨rfl, .inl ⟨hm, hv, by simpa using hne⟩⟩
  · split at hq
    · split at hq
      · rename_i db' it heq
        have e1 : db' = (db.get c.key).1 := by rw [heq]
        subst e1
        rcases Db.mem_setRaw hq with h | rfl
        · exact .inl (Db.get_dict_sub h)
        · exact .inr ⟨rfl, .inr ⟨it, Db.get_mem (by rw [heq]), rfl⟩⟩
      · rename_i db' heq
        have e1 : db' = (db.get c.key).1 := by rw [heq]
        subst e1
        exact .inl (Db.get_dict_sub hq)
    · exact .inl hq

end FR.HashSet

namespace FR.C09v
open FR

def Absent (D : Dict) (k : Bytes) : Prop := ∀ q ∈ D, q.1 ≠ k

theorem absent_iff_lookup {D : Dict} {k : Bytes} : Absent D k ↔ D.lookup k = none := Db.lookup_none_iff.symm

/-- the item carries no value, or an empty list / set / hash / sorted set -/
def NoContent (c : CI) : Prop :=
  match c.val with
  | none => True
  | some v => v.isEmptyColl = true

/-- the last modified item of key `k` in the list handed to the write-back carries no content -/
def EmptiedLast (cis : List CI) (k : Bytes) : Prop :=
  ∃ pre c post, cis = pre ++ c :: post ∧ c.key = k ∧ c.modified = true ∧ NoContent c ∧
    ∀ c' ∈ post, c'.key = k → c'.modified = true → NoContent c'

theorem writeback_noContent (c : CI) (db : Db) (hm : c.modified = true) (hn : NoContent c) :
    Absent (c.writeback db).1.dict c.key ∧ (c.writeback db).1 = db.pop c.key := by
  unfold NoContent at hn
  unfold CI.writeback
  simp only [hm, if_true]
  cases hv : c.val with
  | none =>
    simp only
    rw [Db.pop_eq]
    exact ⟨absent_iff_lookup.2 (Db.lookup_erase_self _ _), trivial⟩
  | some v =>
    rw [hv] at hn
    simp only at hn ⊢
    rw [hn]
    simp only [if_true]
    rw [Db.pop_eq]
    exact ⟨absent_iff_lookup.2 (Db.lookup_erase_self _ _), trivial⟩

theorem writeback_keeps_absent (c : CI) (db : Db) {k : Bytes} (h : Absent db.dict k)
    (hc : c.key = k → c.modified = true → NoContent c) : Absent (c.writeback db).1.dict k := by
  intro q hq hk
  rcases HashSet.mem_writeback hq with h' | ⟨hkey, ⟨hm, hv, hne⟩ | ⟨it, hit, _⟩⟩
  · exact h q h' hk
  · have := hc (hkey.symm.trans hk) hm
    unfold NoContent at this
    rw [hv] at this
    rw [this] at hne; cases hne
  · exact h _ hit (hkey.symm.trans hk)

theorem writebackPure_append (db : Db) (a b : List CI) :
    writebackPure db (a ++ b) =
      ((writebackPure (writebackPure db a).1 b).1, (writebackPure db a).2 ++ (writebackPure (writebackPure db a).1 b).2) := by
  induction a generalizing db with
  | nil => simp [writebackPure_nil]
  | cons c cs ih =>
    rw [List.cons_append, writebackPure_cons, writebackPure_cons, ih]
    simp only [List.append_assoc]

theorem writebackPure_keeps_absent (cis : List CI) (db : Db) {k : Bytes} (h : Absent db.dict k)
    (hc : ∀ c ∈ cis, c.key = k → c.modified = true → NoContent c) : Absent (writebackPure db cis).1.dict k := by
  induction cis generalizing db with
  | nil => exact h
  | cons c cs ih =>
    rw [writebackPure_cons]
    exact ih _ (writeback_keeps_absent c db h (hc c (by simp))) (fun c' hc' => hc c' (by simp [hc']))

theorem writebackPure_emptied (cis : List CI) (db : Db) {k : Bytes} (he : EmptiedLast cis k) :
    Absent (writebackPure db cis).1.dict k ∧ k ∈ (writebackPure db cis).2 := by
  obtain ⟨pre, c, post, rfl, hk, hm, hn, hpost⟩ := he
  rw [writebackPure_append, writebackPure_cons]
  simp only
  constructor
  · apply writebackPure_keeps_absent post _ _ hpost
    rw [← hk]
    exact (writeback_noContent c _ hm hn).1
  · simp [hm, hk]

/-- behind `FR.Props.C09v.last_element_removal_deletes` (C09), for any signature and any body -/
theorem runRegular_emptied (sig : Sig) (body : Body) (ctx : Ctx) (raw : List Bytes) (db : Db)
    {args : List Arg} {cis : List CI} {o : BodyOut} (hap : (sig.apply raw db).2 = .ok (.ok args cis))
    (hb : body ctx args cis = .ok o) {k : Bytes} (he : EmptiedLast o.cis k) :
    Absent (runRegular sig body ctx none raw db).db.dict k ∧ k ∈ (runRegular sig body ctx none raw db).notified := by
  rw [runRegular_eq, hap]
  simp only [runTail, hb]
  exact writebackPure_emptied o.cis _ he

theorem emptiedLast_set {cis : List CI} (hclean : ∀ c ∈ cis, c.modified = false) {i : Nat} (hi : i < cis.length)
    {c' : CI} (hm : c'.modified = true) (hn : NoContent c') : EmptiedLast (cis.set i c') c'.key := by
  refine ⟨cis.take i, c', cis.drop (i + 1), ?_, rfl, hm, hn, ?_⟩
  · rw [List.set_eq_take_append_cons_drop, if_pos hi]
  · intro x hx _ hxm
    have := hclean x (List.mem_of_mem_drop hx)
    rw [this] at hxm; cases hxm

end FR.C09v

def FR.Props.C09v.Gone (out : FR.RunOut) (k : FR.Bytes) : Prop := FR.C09v.Absent out.db.dict k ∧ k ∈ out.notified

import FR.Proofs.C18aCmd
/-!
# C18a: `Dbl.RN` is the round-to-nearest-even function

`Dbl.IsRNE q d` is the definition independent of the model.  `RN_tie_even'`: `RN` satisfies its tie rule.  `RNE_unique`: any
finite `d` satisfying it is `RN q`, through `gap_above` (the next well-formed magnitude is at least one unit in the last
place away) and `no_two_even` (two distinct nearest magnitudes are not both even).  Together: `RN_isRNE`, `isRNE_iff`,
`RN_unique`.
-/
namespace FR.C18a
open FR FR.C18f FR.DumpRound

/-- in a tie between `M · 2^e` and another candidate `m' · 2^e'`, `X` is a half-integer -/
theorem tie_of_core (x : ℚ) (e : Int) (M : Nat) (h52 : e ≠ -1074 → (2 : ℚ) ^ 52 ≤ x / (2 : ℚ) ^ e)
    (hM : |(M : ℚ) - x / (2 : ℚ) ^ e| ≤ 1 / 2) (m' : Nat) (e' : Int) (hm' : m' < 2 ^ 53) (he' : -1074 ≤ e')
    (hne : (m' : ℚ) * (2 : ℚ) ^ e' ≠ (M : ℚ) * (2 : ℚ) ^ e)
    (heq : |(m' : ℚ) * (2 : ℚ) ^ e' - x| = |(M : ℚ) * (2 : ℚ) ^ e - x|) :
    |(M : ℚ) - x / (2 : ℚ) ^ e| = 1 / 2 := by
  rw [abs_scaled_sub' x e e' m', abs_scaled_sub x e M] at heq
  refine (cand_far _ e h52 M hM m' e' hm' he' fun hW => hne ?_).2 (mul_right_cancel₀ (two_zpow_pos e).ne' heq)
  rw [← hW, mul_assoc, ← zpow_add₀ (by norm_num : (2 : ℚ) ≠ 0), sub_add_cancel]

theorem abs_val_sub' (n : Bool) (m : Nat) (e : Int) (q : ℚ) :
    |Dbl.val (.fin n m e) - q| = |(m : ℚ) * (2 : ℚ) ^ e - (if n then -q else q)| := by
  rw [val_fin]
  cases n
  · simp
  · simp only [if_true]
    rw [← abs_neg]; congr 1; ring

theorem val_eq_iff_mag (n : Bool) (m1 m2 : Nat) (e1 e2 : Int) :
    Dbl.val (.fin n m1 e1) = Dbl.val (.fin n m2 e2) ↔ (m1 : ℚ) * (2 : ℚ) ^ e1 = (m2 : ℚ) * (2 : ℚ) ^ e2 := by
  rw [val_fin, val_fin, mul_assoc, mul_assoc]
  exact mul_right_inj' (sgn_ne_zero n)

theorem RN_tie_even' (z : Bool) (q : ℚ) {n : Bool} {m : Nat} {e : Int} (h : Dbl.RN z q = .fin n m e)
    (n' : Bool) (m' : Nat) (e' : Int) (hwf : Dbl.WF (.fin n' m' e'))
    (hne : Dbl.val (.fin n' m' e') ≠ Dbl.val (.fin n m e))
    (heq : |Dbl.val (.fin n' m' e') - q| = |Dbl.val (.fin n m e) - q|) : m % 2 = 0 := by
  obtain ⟨hn, e0, M, _, _, h52, hhalf, hc, htie⟩ := RN_fin_core z q h
  rcases hc with ⟨rfl, rfl⟩ | rfl
  · -- same-sign candidates
    have same : ∀ (m' : Nat) (e' : Int), m' < 2 ^ 53 → -1074 ≤ e' →
        Dbl.val (.fin n m' e') ≠ Dbl.val (.fin n M e0) →
        |Dbl.val (.fin n m' e') - q| = |Dbl.val (.fin n M e0) - q| → M % 2 = 0 := by
      intro m' e' hm' he' hne heq
      rw [hn, abs_val_sub, abs_val_sub] at heq
      exact htie (tie_of_core |q| e0 M h52 hhalf m' e' hm' he' (fun hh => hne ((val_eq_iff_mag _ _ _ _ _).mpr hh)) heq)
    by_cases hs : n' = n
    · subst hs
      exact same m' e' hwf.1 hwf.2.1 hne heq
    · -- opposite sign: only a zero can tie, and then the zero of the right sign ties as well
      have h0 := FR.C18a.RN_nearest z q h n 0 (-1074) (wf_zero_signed _)
      have hz : Dbl.val (.fin n 0 (-1074)) = 0 := (val_eq_zero_iff _ _ _).mpr rfl
      rw [hz, zero_sub, abs_neg] at h0
      rw [hn] at hs
      have hv0 : Dbl.val (.fin n' m' e') = 0 :=
        (wrong_sign_far hs m' e').2 (le_antisymm (heq.trans_le h0) (wrong_sign_far hs m' e').1)
      rw [hv0] at hne heq
      exact same 0 (-1074) (by decide) (by decide) (by rw [hz]; exact hne) (by rw [hz]; exact heq)
  · decide

theorem gap_above {n : Bool} {m m0 : Nat} {e e0 : Int} (w : Dbl.WF (.fin n m e)) (w0 : Dbl.WF (.fin n m0 e0))
    (h : (m : ℚ) * (2 : ℚ) ^ e < (m0 : ℚ) * (2 : ℚ) ^ e0) :
    ((m + 1 : Nat) : ℚ) * (2 : ℚ) ^ e ≤ (m0 : ℚ) * (2 : ℚ) ^ e0 := by
  have hP : (0 : ℚ) < (2 : ℚ) ^ e := two_zpow_pos e
  by_cases hge : e ≤ e0
  · obtain ⟨k, hk⟩ : ∃ k : Nat, e0 = e + (k : Int) := ⟨(e0 - e).toNat, by omega⟩
    subst hk
    rw [zpow_split, ← mul_assoc] at h ⊢
    have h1 : (m : ℚ) < (m0 : ℚ) * (2 : ℚ) ^ k := lt_of_mul_lt_mul_right h hP.le
    have h2 : m < m0 * 2 ^ k := by exact_mod_cast h1
    have h3 : ((m + 1 : Nat) : ℚ) ≤ (m0 : ℚ) * (2 : ℚ) ^ k := by exact_mod_cast h2
    exact mul_le_mul_of_nonneg_right h3 hP.le
  · exfalso
    have hm : 2 ^ 52 ≤ m := by
      rcases w.2.2.2.1 with h | h
      · exact h
      · have := w0.2.1; omega
    obtain ⟨k, hk⟩ : ∃ k : Nat, e = e0 + ((k + 1 : Nat) : Int) := ⟨(e - e0).toNat - 1, by omega⟩
    subst hk
    rw [zpow_split] at h
    have hP0 : (0 : ℚ) < (2 : ℚ) ^ e0 := two_zpow_pos e0
    have h1 : (m : ℚ) * (2 : ℚ) ^ (k + 1) < (m0 : ℚ) := by
      rw [← mul_assoc] at h; exact lt_of_mul_lt_mul_right h hP0.le
    have h2 : m * 2 ^ (k + 1) < m0 := by exact_mod_cast h1
    have h3 : 2 ^ 52 * 2 ^ 1 ≤ m * 2 ^ (k + 1) :=
      Nat.mul_le_mul hm (Nat.pow_le_pow_right (by decide) (by omega))
    have := w0.1
    omega

theorem no_two_even {n : Bool} {m m0 : Nat} {e e0 : Int} (t : ℚ) (w : Dbl.WF (.fin n m e)) (w0 : Dbl.WF (.fin n m0 e0))
    (hlt : (m : ℚ) * (2 : ℚ) ^ e < (m0 : ℚ) * (2 : ℚ) ^ e0)
    (heq : |(m : ℚ) * (2 : ℚ) ^ e - t| = |(m0 : ℚ) * (2 : ℚ) ^ e0 - t|)
    (hnear : ∀ m' e', Dbl.WF (.fin n m' e') → |(m : ℚ) * (2 : ℚ) ^ e - t| ≤ |(m' : ℚ) * (2 : ℚ) ^ e' - t|)
    (hev : m % 2 = 0) (hev0 : m0 % 2 = 0) : False := by
  have hgap := gap_above w w0 hlt
  have hwf1 : Dbl.WF (.fin n (m + 1) e) := by
    obtain ⟨a, b, c, d, _⟩ := w
    refine ⟨by omega, b, c, ?_, fun h => by omega⟩
    rcases d with d | d
    · exact Or.inl (by omega)
    · exact Or.inr d
  rcases lt_or_eq_of_le hgap with hl | he
  · have := hnear (m + 1) e hwf1
    have hP : (0 : ℚ) < (2 : ℚ) ^ e := two_zpow_pos e
    have hc : (m : ℚ) * (2 : ℚ) ^ e < ((m + 1 : Nat) : ℚ) * (2 : ℚ) ^ e := by
      push_cast; nlinarith
    generalize (m : ℚ) * (2 : ℚ) ^ e = a at *
    generalize (m0 : ℚ) * (2 : ℚ) ^ e0 = b at *
    generalize ((m + 1 : Nat) : ℚ) * (2 : ℚ) ^ e = c at *
    rcases abs_cases (a - t) with ⟨h1, _⟩ | ⟨h1, _⟩ <;> rcases abs_cases (b - t) with ⟨h2, _⟩ | ⟨h2, _⟩ <;>
      rcases abs_cases (c - t) with ⟨h3, _⟩ | ⟨h3, _⟩ <;> rw [h1, h2] at heq <;> rw [h1, h3] at this <;> linarith
  · have hv : Dbl.val (.fin n (m + 1) e) = Dbl.val (.fin n m0 e0) := (val_eq_iff_mag _ _ _ _ _).mpr he
    obtain ⟨h1, _, _⟩ := val_inj hwf1 w0 hv
    omega

theorem RNE_unique (q : ℚ) (n : Bool) (m : Nat) (e : Int) (hwf : Dbl.WF (.fin n m e))
    (hsign : q ≠ 0 → n = decide (q < 0)) (hovf : |q| < (2 : ℚ) ^ 1024 - (2 : ℚ) ^ 970)
    (hnear : ∀ n' m' e', Dbl.WF (.fin n' m' e') → |Dbl.val (.fin n m e) - q| ≤ |Dbl.val (.fin n' m' e') - q|)
    (htie : ∀ n' m' e', Dbl.WF (.fin n' m' e') → Dbl.val (.fin n' m' e') ≠ Dbl.val (.fin n m e) →
      |Dbl.val (.fin n' m' e') - q| = |Dbl.val (.fin n m e) - q| → m % 2 = 0) :
    Dbl.RN n q = .fin n m e := by
  have hfin := (RN_isFinite_iff n q).mpr hovf
  have hw := RN_wf n q
  have hsb := RN_signBit n q
  cases hr : Dbl.RN n q with
  | nan => rw [hr] at hfin; cases hfin
  | inf s => rw [hr] at hfin; cases hfin
  | fin n0 m0 e0 =>
    rw [hr] at hw hsb
    have hn0 : n0 = n := by
      have : n0 = if q = 0 then n else decide (q < 0) := hsb
      rw [this]
      split
      · rfl
      · rename_i h; exact (hsign h).symm
    subst hn0
    have hd1 := hnear n0 m0 e0 hw
    have hd2 := FR.C18a.RN_nearest n0 q hr n0 m e hwf
    have hdist := le_antisymm hd1 hd2
    by_cases hv : Dbl.val (.fin n0 m0 e0) = Dbl.val (.fin n0 m e)
    · obtain ⟨h1, h2, _⟩ := val_inj hw hwf hv
      subst h1 h2; rfl
    · exfalso
      have ev := htie n0 m0 e0 hw hv hdist.symm
      have ev0 := RN_tie_even' n0 q hr n0 m e hwf (fun h => hv h.symm) hdist
      rw [abs_val_sub', abs_val_sub'] at hdist
      have hmag : (m0 : ℚ) * (2 : ℚ) ^ e0 ≠ (m : ℚ) * (2 : ℚ) ^ e := fun h => hv ((val_eq_iff_mag _ _ _ _ _).mpr h)
      rcases lt_or_gt_of_ne hmag with hlt | hgt
      · refine no_two_even (if n0 then -q else q) hw hwf hlt hdist.symm (fun m' e' w' => ?_) ev0 ev
        have := FR.C18a.RN_nearest n0 q hr n0 m' e' w'
        rwa [abs_val_sub', abs_val_sub'] at this
      · refine no_two_even (if n0 then -q else q) hwf hw hgt hdist (fun m' e' w' => ?_) ev ev0
        have := hnear n0 m' e' w'
        rwa [abs_val_sub', abs_val_sub'] at this

/-- `d` is a correct IEEE-754 round-to-nearest-even result for `q`, stated without any function of the model; for `q = 0`
both zeros qualify -/
def _root_.FR.Dbl.IsRNE (q : ℚ) : Dbl → Prop
  | .fin n m e => Dbl.WF (.fin n m e) ∧ |q| < (2 : ℚ) ^ 1024 - (2 : ℚ) ^ 970 ∧ (q ≠ 0 → n = decide (q < 0)) ∧
      (∀ n' m' e', Dbl.WF (.fin n' m' e') → |Dbl.val (.fin n m e) - q| ≤ |Dbl.val (.fin n' m' e') - q|) ∧
      (∀ n' m' e', Dbl.WF (.fin n' m' e') → Dbl.val (.fin n' m' e') ≠ Dbl.val (.fin n m e) →
        |Dbl.val (.fin n' m' e') - q| = |Dbl.val (.fin n m e) - q| → m % 2 = 0)
  | .inf n => (2 : ℚ) ^ 1024 - (2 : ℚ) ^ 970 ≤ |q| ∧ n = decide (q < 0)
  | .nan => False

theorem RN_isRNE (z : Bool) (q : ℚ) : Dbl.IsRNE q (Dbl.RN z q) := by
  cases hr : Dbl.RN z q with
  | nan => have := RN_not_nan z q; rw [hr] at this; cases this
  | inf n => exact (RN_eq_inf_iff z q n).mp hr
  | fin n m e =>
    have hw := RN_wf z q
    have hf := (RN_isFinite_iff z q).mp (by rw [hr]; rfl)
    have hs := RN_signBit z q
    rw [hr] at hw hs
    refine ⟨hw, hf, fun hq => ?_, fun n' m' e' w' => FR.C18a.RN_nearest z q hr n' m' e' w',
      fun n' m' e' w' hne heq => RN_tie_even' z q hr n' m' e' w' hne heq⟩
    have : n = if q = 0 then z else decide (q < 0) := hs
    rw [if_neg hq] at this
    exact this

theorem isRNE_iff (q : ℚ) (d : Dbl) : Dbl.IsRNE q d ↔ d = Dbl.RN d.signBit q := by
  constructor
  · intro h
    cases d with
    | nan => exact h.elim
    | inf n => exact ((RN_eq_inf_iff _ q n).mpr h).symm
    | fin n m e =>
      obtain ⟨h1, h2, h3, h4, h5⟩ := h
      exact (RNE_unique q n m e h1 h3 h2 h4 h5).symm
  · intro h
    rw [h]; exact RN_isRNE _ _

theorem RN_unique (z : Bool) (q : ℚ) (d : Dbl) (hd : Dbl.IsRNE q d) (hs : d.signBit = (Dbl.RN z q).signBit) :
    d = Dbl.RN z q := by
  rw [(isRNE_iff q d).mp hd, hs]
  exact ((isRNE_iff _ _).mp (RN_isRNE z q)).symm

end FR.C18a

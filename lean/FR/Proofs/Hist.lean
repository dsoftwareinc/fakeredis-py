import FR.Proofs.Invariant
/-!
`HistAll P`: each event of a history satisfies `P` in the state it meets.  Bridges `…_iff_histAll` exist for `OkHist`,
`OkHistW`, `HarmlessRun`, `LegalFrom`.
-/
namespace FR

def HistAll (P : Sys → Ev → Prop) : Sys → List Ev → Prop
  | _, [] => True
  | s, e :: es => P s e ∧ HistAll P (stepEv s e) es

namespace HistAll
variable {P Q : Sys → Ev → Prop}

instance dec [∀ s e, Decidable (P s e)] : ∀ s evs, Decidable (HistAll P s evs)
  | _, [] => isTrue trivial
  | s, e :: es => @instDecidableAnd _ _ _ (dec (stepEv s e) es)

theorem mono (h : ∀ s e, P s e → Q s e) {s : Sys} {evs : List Ev} (hp : HistAll P s evs) : HistAll Q s evs := by
  induction evs generalizing s with
  | nil => trivial
  | cons e es ih => exact ⟨h s e hp.1, ih hp.2⟩

theorem foldl {I : Sys → Prop} (step : ∀ s e, P s e → I s → I (stepEv s e)) {s : Sys} {evs : List Ev}
    (hp : HistAll P s evs) (hi : I s) : I (evs.foldl stepEv s) := by
  induction evs generalizing s with
  | nil => exact hi
  | cons e es ih => exact ih hp.2 (step s e hp.1 hi)

end HistAll
end FR

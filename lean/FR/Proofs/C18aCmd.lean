import FR.Proofs.C18aMono
import FR.Proofs.C18fRun
/-!
# C18a: from the arithmetic to INCRBYFLOAT / HINCRBYFLOAT / ZINCRBY
-/
namespace FR.C18a
open FR FR.C18f FR.DumpRound

theorem isFinite_iff (d : Dbl) : d.isFinite = true ↔ d.isNaN = false ∧ d.isInf = false := by
  cases d <;> simp [Dbl.isFinite, Dbl.isNaN, Dbl.isInf]

theorem RN_isFinite_iff (z : Bool) (q : ℚ) :
    (Dbl.RN z q).isFinite = true ↔ |q| < (2 : ℚ) ^ 1024 - (2 : ℚ) ^ 970 := by
  rw [isFinite_iff, ← not_le, ← RN_isInf_iff z q]
  have := RN_not_nan z q
  constructor
  · rintro ⟨_, h⟩; rw [h]; exact Bool.false_ne_true
  · intro h; exact ⟨this, by simpa using h⟩

theorem toRat_of_finite {d : Dbl} (h : d.isFinite = true) : ∃ x, d.toRat = some x := by
  cases d with
  | nan => cases h
  | inf _ => cases h
  | fin n m e => exact ⟨_, rfl⟩

theorem add_finite_operands {a b : Dbl} (h : (Dbl.add a b).isFinite = true) :
    a.isFinite = true ∧ b.isFinite = true := by
  cases a with
  | nan => cases b <;> cases h
  | inf x =>
    cases b with
    | nan => cases h
    | inf y => cases x <;> cases y <;> cases h
    | fin _ _ _ => cases h
  | fin n1 m1 e1 =>
    cases b with
    | nan => cases h
    | inf y => cases h
    | fin n2 m2 e2 => exact ⟨rfl, rfl⟩

theorem add_not_finite {a b : Dbl} (h : a.isFinite = false ∨ b.isFinite = false) : (Dbl.add a b).isFinite = false := by
  cases hf : (Dbl.add a b).isFinite with
  | false => rfl
  | true =>
    obtain ⟨h1, h2⟩ := add_finite_operands hf
    rcases h with h | h
    · rw [h1] at h; cases h
    · rw [h2] at h; cases h

/-- the score ZINCRBY computes is a NaN exactly for `inf + (-inf)` -/
theorem incrScore_nan_iff {z : ZSet} (hz : z.Inv) (m : Bytes) {incr : Dbl} (hi : incr.isNaN = false) :
    (ZCmd.incrScore z m incr).isNaN = true ↔ ∃ s, z.get m = some (.inf s) ∧ incr = .inf (!s) := by
  unfold ZCmd.incrScore
  cases hg : z.get m with
  | none =>
    simp only
    rw [hi]
    constructor
    · intro h; cases h
    · rintro ⟨s, h, _⟩; cases h
  | some old =>
    simp only
    have hold : old.isNaN = false :=
      hz.2.2.2 (old, m) ((ZSet.get_iff_mem_byscore hz).mp hg)
    have key : (Dbl.add old incr).isNaN = true ↔ Dbl.add old incr = .nan := by
      cases Dbl.add old incr <;> simp [Dbl.isNaN]
    rw [key, add_eq_nan_iff]
    constructor
    · rintro (h | h | ⟨s, h1, h2⟩)
      · subst h; cases hold
      · subst h; cases hi
      · exact ⟨s, by rw [h1], h2⟩
    · rintro ⟨s, h1, h2⟩
      injection h1 with h1
      exact Or.inr (Or.inr ⟨s, h1, h2⟩)

end FR.C18a

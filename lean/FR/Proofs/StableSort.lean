import FR.Sys.Server
/-!
# The stable insertion sort `stableSort`

For an arbitrary comparison that is a total preorder on the elements of the list: permutation, sortedness,
stability, uniqueness; Python's `sort(reverse=True)`.  Used for SORT and for the cardinality order of ZUNIONSTORE.
The insertion itself (`ins_perm`, `ins_pairwise`) asks nothing of the comparison; `sortBy` of the SCAN cursor and
`ZSet.insertSortedPair` are the same insertion and take their permutation and sortedness facts from here.
-/
namespace FR.SortSpec
open FR

section SortGen
variable {α : Type} (le : α → α → Bool)

structure TotalPre (S : α → Prop) : Prop where
  total : ∀ a b, S a → S b → le a b = true ∨ le b a = true
  trans : ∀ a b c, S a → S b → S c → le a b = true → le b c = true → le a c = true

theorem TotalPre.refl {S : α → Prop} (h : TotalPre le S) (a : α) (ha : S a) : le a a = true := by
  rcases h.total a a ha ha with h | h <;> exact h

theorem TotalPre.flip {S : α → Prop} (h : TotalPre le S) : TotalPre (fun a b => le b a) S :=
  ⟨fun a b ha hb => (h.total a b ha hb).symm, fun a b c ha hb hc h1 h2 => h.trans c b a hc hb ha h2 h1⟩

theorem ins_nil (x : α) : stableSort.ins le x [] = [x] := rfl

theorem ins_cons (x y : α) (ys : List α) :
    stableSort.ins le x (y :: ys) = if le x y then x :: y :: ys else y :: stableSort.ins le x ys := rfl

theorem stableSort_nil : stableSort le ([] : List α) = [] := rfl

theorem stableSort_cons (x : α) (l : List α) : stableSort le (x :: l) = stableSort.ins le x (stableSort le l) := rfl

theorem insertSorted_eq_ins (x : α) (l : List α) : insertSorted le x l = stableSort.ins le x l := by
  induction l with
  | nil => rfl
  | cons y ys ih => rw [insertSorted, ih, ins_cons]

theorem sortBy_eq_stableSort (l : List α) : sortBy le l = stableSort le l := by
  induction l with
  | nil => rfl
  | cons x xs ih =>
    show insertSorted le x (sortBy le xs) = _
    rw [ih, insertSorted_eq_ins, stableSort_cons]

theorem ins_perm (x : α) (l : List α) : (stableSort.ins le x l).Perm (x :: l) := by
  induction l with
  | nil => exact List.Perm.refl _
  | cons y ys ih =>
    rw [ins_cons]
    split
    · exact List.Perm.refl _
    · exact ((List.Perm.cons y ih).trans (List.Perm.swap x y ys))

theorem stableSort_perm (l : List α) : (stableSort le l).Perm l := by
  induction l with
  | nil => exact List.Perm.refl _
  | cons x l ih =>
    rw [stableSort_cons]
    exact (ins_perm le x _).trans (List.Perm.cons x ih)

theorem mem_stableSort {l : List α} {a : α} : a ∈ stableSort le l ↔ a ∈ l :=
  (stableSort_perm le l).mem_iff

theorem length_stableSort (l : List α) : (stableSort le l).length = l.length :=
  (stableSort_perm le l).length_eq

/-- `R`: any notion of "may stand before": `le a b` for SORT, `¬ lt b a` for the SCAN cursor, `PLt` for a sorted set -/
theorem ins_pairwise {R : α → α → Prop} (x : α) (l : List α)
    (hpos : ∀ y ∈ l, le x y = true → R x y ∧ ∀ a ∈ l, R y a → R x a)
    (hneg : ∀ y ∈ l, ¬ le x y = true → R y x) (hs : l.Pairwise R) : (stableSort.ins le x l).Pairwise R := by
  induction l with
  | nil => rw [ins_nil]; exact List.pairwise_singleton _ _
  | cons y ys ih =>
    rw [ins_cons]
    rw [List.pairwise_cons] at hs
    by_cases hle : le x y = true
    · rw [if_pos hle]
      obtain ⟨hxy, htr⟩ := hpos y List.mem_cons_self hle
      refine List.pairwise_cons.mpr ⟨?_, List.pairwise_cons.mpr hs⟩
      intro a ha
      rcases List.mem_cons.mp ha with rfl | ha
      · exact hxy
      · exact htr a (List.mem_cons_of_mem _ ha) (hs.1 a ha)
    · rw [if_neg hle]
      refine List.pairwise_cons.mpr ⟨?_, ih ?_ (fun z hz => hneg z (List.mem_cons_of_mem _ hz)) hs.2⟩
      · intro a ha
        rcases List.mem_cons.mp ((ins_perm le x ys).subset ha) with rfl | ha
        · exact hneg y List.mem_cons_self hle
        · exact hs.1 a ha
      · intro z hz hxz
        obtain ⟨h1, h2⟩ := hpos z (List.mem_cons_of_mem _ hz) hxz
        exact ⟨h1, fun a ha => h2 a (List.mem_cons_of_mem _ ha)⟩

theorem stableSort_sorted {S : α → Prop} (h : TotalPre le S) (l : List α) (hl : ∀ a ∈ l, S a) :
    (stableSort le l).Pairwise (fun a b => le a b = true) := by
  induction l with
  | nil => exact List.Pairwise.nil
  | cons x l ih =>
    rw [stableSort_cons]
    have hx : S x := hl x List.mem_cons_self
    have hl' : ∀ a ∈ stableSort le l, S a := fun a ha => hl a (List.mem_cons_of_mem _ ((mem_stableSort le).mp ha))
    refine ins_pairwise le x _ (fun y hy hxy => ⟨hxy, fun a ha hya => h.trans x y a hx (hl' y hy) (hl' a ha) hxy hya⟩)
      (fun y hy hxy => (h.total x y hx (hl' y hy)).resolve_left hxy) (ih fun a ha => hl a (List.mem_cons_of_mem _ ha))

/-- inserting `x` does not move it past an element it is tied with -/
theorem ins_filter (p : α → Bool) (x : α) (l : List α) (hp : ∀ y ∈ l, p x = true → p y = true → le x y = true) :
    (stableSort.ins le x l).filter p = (x :: l).filter p := by
  induction l with
  | nil => rfl
  | cons y ys ih =>
    rw [ins_cons]
    by_cases hle : le x y = true
    · rw [if_pos hle]
    · rw [if_neg hle, List.filter_cons, ih (fun z hz => hp z (List.mem_cons_of_mem _ hz))]
      by_cases hx : p x = true
      · have hy : p y = false := by
          cases hy : p y with
          | false => rfl
          | true => exact absurd (hp y List.mem_cons_self hx hy) hle
        simp [hx, hy]
      · simp [List.filter_cons, hx]

/-- stability, of any family `p` of mutually tied elements; no property of `le` is needed -/
theorem stableSort_filter (p : α → Bool) (l : List α)
    (hp : ∀ a ∈ l, ∀ b ∈ l, p a = true → p b = true → le a b = true) :
    (stableSort le l).filter p = l.filter p := by
  induction l with
  | nil => rfl
  | cons x l ih =>
    rw [stableSort_cons, ins_filter le p x _ ?h, List.filter_cons, List.filter_cons,
      ih (fun a ha b hb => hp a (List.mem_cons_of_mem _ ha) b (List.mem_cons_of_mem _ hb))]
    intro y hy
    exact hp x List.mem_cons_self y (List.mem_cons_of_mem _ ((mem_stableSort le).mp hy))

def tied (k : α) (a : α) : Bool := le a k && le k a

theorem tied_le {S : α → Prop} (h : TotalPre le S) {k a b : α} (hk : S k) (ha : S a) (hb : S b)
    (h1 : tied le k a = true) (h2 : tied le k b = true) : le a b = true := by
  simp only [tied, Bool.and_eq_true] at h1 h2
  exact h.trans a k b ha hk hb h1.1 h2.2

theorem stableSort_stable {S : α → Prop} (h : TotalPre le S) (l : List α) (hl : ∀ a ∈ l, S a) (k : α) (hk : S k) :
    (stableSort le l).filter (tied le k) = l.filter (tied le k) :=
  stableSort_filter le _ l (fun a ha b hb h1 h2 => tied_le le h hk (hl a ha) (hl b hb) h1 h2)

/-- uniqueness: a sorted permutation that keeps every tie class in source order is determined -/
theorem sorted_stable_unique {S : α → Prop} (h : TotalPre le S) (l1 l2 : List α) (hl : ∀ a ∈ l1, S a)
    (hperm : l1.Perm l2)
    (s1 : l1.Pairwise (fun a b => le a b = true)) (s2 : l2.Pairwise (fun a b => le a b = true))
    (hst : ∀ k, S k → l1.filter (tied le k) = l2.filter (tied le k)) : l1 = l2 := by
  induction l1 generalizing l2 with
  | nil => exact (List.Perm.nil_eq hperm)
  | cons a t1 ih =>
    cases l2 with
    | nil => exact absurd hperm.symm.nil_eq (by simp)
    | cons b t2 =>
      have ha : S a := hl a List.mem_cons_self
      have hl2 : ∀ x ∈ b :: t2, S x := fun x hx => hl x (hperm.mem_iff.mpr hx)
      have hb : S b := hl2 b List.mem_cons_self
      rw [List.pairwise_cons] at s1 s2
      have hab : le a b = true := by
        rcases List.mem_cons.mp (hperm.mem_iff.mpr (List.mem_cons_self (a := b) (l := t2))) with e | e
        · rw [e]; exact h.refl le a ha
        · exact s1.1 b e
      have hba : le b a = true := by
        rcases List.mem_cons.mp (hperm.mem_iff.mp (List.mem_cons_self (a := a) (l := t1))) with e | e
        · rw [e]; exact h.refl le b hb
        · exact s2.1 a e
      have e : a = b := by
        have := hst a ha
        have ta : tied le a a = true := by simp [tied, h.refl le a ha]
        have tb : tied le a b = true := by simp [tied, hab, hba]
        rw [List.filter_cons, List.filter_cons, if_pos ta, if_pos tb] at this
        exact (List.cons.inj this).1
      subst e
      congr 1
      refine ih t2 (fun x hx => hl x (List.mem_cons_of_mem _ hx)) (List.Perm.cons_inv hperm) s1.2 s2.2 ?_
      intro k hk
      have := hst k hk
      rw [List.filter_cons, List.filter_cons] at this
      by_cases t : tied le k a = true
      · rw [if_pos t, if_pos t] at this; exact (List.cons.inj this).2
      · rw [if_neg t, if_neg t] at this; exact this

/-- Python's `list.sort(reverse=True)` as the model writes it -/
def descSort (l : List α) : List α := (stableSort le l.reverse).reverse

theorem descSort_perm (l : List α) : (descSort le l).Perm l :=
  (List.reverse_perm _).trans ((stableSort_perm le _).trans (List.reverse_perm _))

theorem mem_descSort {l : List α} {a : α} : a ∈ descSort le l ↔ a ∈ l := (descSort_perm le l).mem_iff

theorem length_descSort (l : List α) : (descSort le l).length = l.length := (descSort_perm le l).length_eq

theorem descSort_sorted {S : α → Prop} (h : TotalPre le S) (l : List α) (hl : ∀ a ∈ l, S a) :
    (descSort le l).Pairwise (fun a b => le b a = true) := by
  unfold descSort
  rw [List.pairwise_reverse]
  exact stableSort_sorted le h _ (fun a ha => hl a (List.mem_reverse.mp ha))

theorem descSort_filter (p : α → Bool) (l : List α)
    (hp : ∀ a ∈ l, ∀ b ∈ l, p a = true → p b = true → le a b = true) :
    (descSort le l).filter p = l.filter p := by
  unfold descSort
  rw [List.filter_reverse, stableSort_filter le p _ ?h, List.filter_reverse, List.reverse_reverse]
  intro a ha b hb
  exact hp a (List.mem_reverse.mp ha) b (List.mem_reverse.mp hb)

theorem tied_flip (k a : α) : tied (fun a b => le b a) k a = tied le k a := by
  simp only [tied, Bool.and_comm]

theorem descSort_eq_stableSort_flip {S : α → Prop} (h : TotalPre le S) (l : List α) (hl : ∀ a ∈ l, S a) :
    descSort le l = stableSort (fun a b => le b a) l := by
  refine sorted_stable_unique (fun a b => le b a) (TotalPre.flip le h) _ _ (fun a ha => hl a ((mem_descSort le).mp ha))
    ((descSort_perm le l).trans (stableSort_perm _ l).symm) (descSort_sorted le h l hl)
    (stableSort_sorted _ (TotalPre.flip le h) l hl) ?_
  intro k hk
  rw [stableSort_stable _ (TotalPre.flip le h) l hl k hk]
  have : tied (fun a b => le b a) k = tied le k := funext (tied_flip le k)
  rw [this]
  exact descSort_filter le _ l (fun a ha b hb h1 h2 => tied_le le h hk (hl a ha) (hl b hb) h1 h2)

end SortGen

end FR.SortSpec

namespace FR.ScanSys
open FR

/-! `sortBy` sorts -/

section sort
variable {α : Type} (lt : α → α → Bool)

theorem sortBy_perm (l : List α) : (sortBy lt l).Perm l := by
  rw [SortSpec.sortBy_eq_stableSort]
  exact SortSpec.stableSort_perm lt l

theorem mem_sortBy {l : List α} {x : α} : x ∈ sortBy lt l ↔ x ∈ l := (sortBy_perm lt l).mem_iff

theorem length_sortBy (l : List α) : (sortBy lt l).length = l.length := (sortBy_perm lt l).length_eq

theorem nodup_sortBy {l : List α} (h : l.Nodup) : (sortBy lt l).Nodup := (sortBy_perm lt l).nodup_iff.2 h

variable (asymm : ∀ a b, lt a b = true → lt b a = false)
  (trans : ∀ a b c, lt a b = true → lt b c = true → lt a c = true)
include asymm trans

theorem sortBy_sorted (l : List α) : (sortBy lt l).Pairwise (fun a b => lt b a = false) := by
  induction l with
  | nil => exact List.Pairwise.nil
  | cons x xs ih =>
    show (insertSorted lt x (sortBy lt xs)).Pairwise _
    rw [SortSpec.insertSorted_eq_ins]
    refine SortSpec.ins_pairwise lt x _ (fun y _ hxy => ⟨asymm _ _ hxy, fun z _ hyz => ?_⟩)
      (fun y _ hxy => Bool.eq_false_iff.mpr hxy) ih
    -- x < y and not z < y: then not z < x
    show lt z x = false
    cases hzx : lt z x with
    | false => rfl
    | true => exact absurd (trans _ _ _ hzx hxy) (Bool.eq_false_iff.mp hyz)

end sort

end FR.ScanSys

import FR.Proofs.C18fRound
import Mathlib.Tactic.Ring
import Mathlib.Tactic.Linarith
import Mathlib.Tactic.Positivity
import Mathlib.Tactic.FieldSimp
import Mathlib.Tactic.NormNum
import Mathlib.Algebra.Order.Field.Rat
/-!
# C18a: the soft-float arithmetic is IEEE-754 round-to-nearest-even arithmetic — vocabulary and the two equations

Vocabulary: `Dbl.WF` (`wf_iff_canon`: the same as `DumpRound.Canon`), `Dbl.val` / `Dbl.toRat`, the rounding specification
`Dbl.RN`.  The two equations `addFin_eq_RN`, `mul_fin_eq_RN`: `add` / `mul` of two finite doubles, canonical or not, is the
rounding of the exact sum / product; an exact zero sum is `-0` iff both operands carry the sign bit, a zero product has the
xor of the sign bits.
-/
namespace FR.C18a
open FR FR.C18f FR.DumpRound

/-- canonical representation, what `roundPos` produces: a 53-bit significand; exponents from `-1074 = -1022 - 52` (there
also the subnormals and the zeros) to `971 = 1023 - 52` -/
def _root_.FR.Dbl.WF : Dbl → Prop
  | .fin _ m e => m < 2 ^ 53 ∧ -1074 ≤ e ∧ e ≤ 971 ∧ (2 ^ 52 ≤ m ∨ e = -1074) ∧ (m = 0 → e = -1074)
  | _ => True

instance (d : Dbl) : Decidable (Dbl.WF d) := by
  unfold Dbl.WF; split <;> infer_instance

theorem wf_iff_canon (d : Dbl) : Dbl.WF d ↔ Canon d := by
  cases d with
  | nan => exact Iff.rfl
  | inf _ => exact Iff.rfl
  | fin n m e =>
    unfold Dbl.WF Canon
    constructor
    · rintro ⟨h1, h2, h3, h4, h5⟩
      rcases h4 with h4 | h4
      · by_cases c : m < 2 ^ 52
        · omega
        · exact Or.inr ⟨h4, h1, h2, h3⟩
      · by_cases c : m < 2 ^ 52
        · exact Or.inl ⟨c, h4⟩
        · exact Or.inr ⟨by omega, h1, h2, h3⟩
    · rintro (⟨h1, h2⟩ | ⟨h1, h2, h3, h4⟩)
      · exact ⟨by omega, by omega, by omega, Or.inr h2, fun _ => h2⟩
      · exact ⟨h2, h3, h4, Or.inl h1, fun h => by omega⟩

def _root_.FR.Dbl.signBit : Dbl → Bool
  | .fin n _ _ => n
  | .inf n => n
  | .nan => false

def _root_.FR.Dbl.val : Dbl → ℚ
  | .fin neg m e => (if neg then -1 else 1) * (m : ℚ) * (2 : ℚ) ^ e
  | _ => 0

def _root_.FR.Dbl.toRat : Dbl → Option ℚ
  | .fin neg m e => some (Dbl.val (.fin neg m e))
  | _ => none

/-- the rounding specification: the double nearest to `q` (ties to even, overflow to the infinity of the sign of `q`);
an exact zero gets the sign bit `zneg` -/
def _root_.FR.Dbl.RN (zneg : Bool) (q : ℚ) : Dbl :=
  if q = 0 then .fin zneg 0 (-1074) else roundAbs (decide (q < 0)) q

theorem abs_eq_natAbs_div (q : ℚ) : |q| = (q.num.natAbs : ℚ) / (q.den : ℚ) := by
  conv_lhs => rw [← Rat.num_div_den q]
  rw [abs_div, Nat.abs_cast, ← Int.cast_abs, Int.abs_eq_natAbs, Int.cast_natCast]

theorem roundAbs_of_abs (neg : Bool) (q : ℚ) (a b : Nat) (hb : 0 < b) (h : |q| = (a : ℚ) / (b : ℚ)) :
    roundAbs neg q = Dbl.roundPos neg a b := by
  unfold roundAbs
  apply roundPos_congr neg q.den_pos hb
  rw [abs_eq_natAbs_div, div_eq_div_iff (by exact_mod_cast q.den_pos.ne') (by exact_mod_cast hb.ne')] at h
  exact_mod_cast h

/-- the common tail of `addFin` and `mul`: rounding `mag · 2^e` -/
theorem roundPos_pow_eq (neg : Bool) (mag : Nat) (e : Int) (q : ℚ) (h : |q| = (mag : ℚ) * (2 : ℚ) ^ e) :
    (if e ≥ 0 then Dbl.roundPos neg (mag * Dbl.pow2 e.toNat) 1 else Dbl.roundPos neg mag (Dbl.pow2 (-e).toNat)) =
      roundAbs neg q := by
  simp only [pow2_eq]
  split
  · rename_i he
    symm
    apply roundAbs_of_abs _ _ _ _ (by decide)
    rw [h]
    have : e = (e.toNat : Int) := by omega
    conv_lhs => rw [this, zpow_natCast]
    push_cast
    ring
  · rename_i he
    symm
    apply roundAbs_of_abs _ _ _ _ (Nat.pow_pos (by decide))
    rw [h]
    have : e = -((-e).toNat : Int) := by omega
    conv_lhs => rw [this, zpow_neg, zpow_natCast]
    push_cast
    ring

theorem sgn_ne_zero (n : Bool) : ((if n then -1 else 1 : ℚ)) ≠ 0 := by cases n <;> norm_num

theorem abs_sgn (n : Bool) : |(if n then -1 else 1 : ℚ)| = 1 := by cases n <;> norm_num

theorem two_zpow_pos (e : Int) : (0 : ℚ) < (2 : ℚ) ^ e := zpow_pos (by norm_num) e

theorem val_fin (n : Bool) (m : Nat) (e : Int) :
    Dbl.val (.fin n m e) = (if n then -1 else 1) * (m : ℚ) * (2 : ℚ) ^ e := rfl

theorem zpow_split (e : Int) (k : Nat) : (2 : ℚ) ^ (e + (k : Int)) = (2 : ℚ) ^ k * (2 : ℚ) ^ e := by
  rw [zpow_add₀ (by norm_num), zpow_natCast, mul_comm]

theorem val_sign (n : Bool) (m : Nat) (e : Int) :
    (n = true → Dbl.val (.fin n m e) ≤ 0) ∧ (n = false → 0 ≤ Dbl.val (.fin n m e)) := by
  have : (0 : ℚ) ≤ (m : ℚ) * (2 : ℚ) ^ e := mul_nonneg (by positivity) (two_zpow_pos e).le
  rw [val_fin]
  constructor
  · rintro rfl; simp only [if_true]; linarith
  · rintro rfl; simp only [Bool.false_eq_true, if_false]; linarith

theorem val_eq_zero_iff (n : Bool) (m : Nat) (e : Int) : Dbl.val (.fin n m e) = 0 ↔ m = 0 := by
  rw [val_fin, mul_assoc]
  constructor
  · intro h
    rcases mul_eq_zero.mp h with h | h
    · exact absurd h (sgn_ne_zero n)
    · rcases mul_eq_zero.mp h with h | h
      · exact_mod_cast h
      · exact absurd h (two_zpow_pos e).ne'
  · rintro rfl; simp

theorem val_neg_iff (n : Bool) (m : Nat) (e : Int) : Dbl.val (.fin n m e) < 0 ↔ n = true ∧ m ≠ 0 := by
  obtain ⟨v1, v2⟩ := val_sign n m e
  have hz := val_eq_zero_iff n m e
  constructor
  · intro h
    cases n
    · have := v2 rfl; linarith
    · exact ⟨rfl, fun hm => by rw [hz.mpr hm] at h; exact lt_irrefl _ h⟩
  · rintro ⟨rfl, hm⟩
    exact lt_of_le_of_ne (v1 rfl) (fun h => hm (hz.mp h))

theorem val_pos_iff (n : Bool) (m : Nat) (e : Int) : 0 < Dbl.val (.fin n m e) ↔ n = false ∧ m ≠ 0 := by
  obtain ⟨v1, v2⟩ := val_sign n m e
  have hz := val_eq_zero_iff n m e
  constructor
  · intro h
    cases n
    · exact ⟨rfl, fun hm => by rw [hz.mpr hm] at h; exact lt_irrefl _ h⟩
    · have := v1 rfl; linarith
  · rintro ⟨rfl, hm⟩
    exact lt_of_le_of_ne (v2 rfl) (fun h => hm (hz.mp h.symm))

theorem val_flip (n : Bool) (m : Nat) (e : Int) : Dbl.val (.fin (!n) m e) = - Dbl.val (.fin n m e) := by
  rw [val_fin, val_fin]; cases n <;> simp

theorem abs_val (n : Bool) (m : Nat) (e : Int) : |Dbl.val (.fin n m e)| = (m : ℚ) * (2 : ℚ) ^ e := by
  rw [val_fin, mul_assoc, abs_mul, abs_sgn, one_mul,
    abs_of_nonneg (mul_nonneg (by positivity) (two_zpow_pos e).le)]

theorem decide_val_neg {n : Bool} {m : Nat} {e : Int} (hm : m ≠ 0) : decide (Dbl.val (.fin n m e) < 0) = n := by
  cases n
  · exact decide_eq_false fun h => Bool.false_ne_true ((val_neg_iff false m e).mp h).1
  · exact decide_eq_true ((val_neg_iff true m e).mpr ⟨rfl, hm⟩)

theorem addFin_eq_RN (n1 : Bool) (m1 : Nat) (e1 : Int) (n2 : Bool) (m2 : Nat) (e2 : Int) :
    Dbl.addFin n1 m1 e1 n2 m2 e2 = Dbl.RN (n1 && n2) (Dbl.val (.fin n1 m1 e1) + Dbl.val (.fin n2 m2 e2)) := by
  have hp : (0 : ℚ) < (2 : ℚ) ^ (min e1 e2) := two_zpow_pos _
  have hsum : Dbl.val (.fin n1 m1 e1) + Dbl.val (.fin n2 m2 e2) =
      ((((if n1 then -1 else 1) * (m1 * Dbl.pow2 (e1 - min e1 e2).toNat : Nat) +
        (if n2 then -1 else 1) * (m2 * Dbl.pow2 (e2 - min e1 e2).toNat : Nat) : Int)) : ℚ) * (2 : ℚ) ^ (min e1 e2) := by
    rw [val_fin, val_fin]
    have h1 : e1 = min e1 e2 + ((e1 - min e1 e2).toNat : Int) := by omega
    have h2 : e2 = min e1 e2 + ((e2 - min e1 e2).toNat : Int) := by omega
    generalize (e1 - min e1 e2).toNat = k1 at *
    generalize (e2 - min e1 e2).toNat = k2 at *
    generalize min e1 e2 = e at *
    subst h1 h2
    rw [zpow_split, zpow_split]
    simp only [pow2_eq]
    push_cast
    cases n1 <;> cases n2 <;> simp <;> ring
  unfold Dbl.addFin Dbl.RN
  simp only []
  rw [hsum]
  generalize ((if n1 then -1 else 1) * (m1 * Dbl.pow2 (e1 - min e1 e2).toNat : Nat) +
        (if n2 then -1 else 1) * (m2 * Dbl.pow2 (e2 - min e1 e2).toNat : Nat) : Int) = s
  generalize min e1 e2 = e at *
  by_cases hs : s = 0
  · subst hs
    simp
  · have hb : (s == 0) = false := by simpa using hs
    have hq : ((s : ℚ) * (2 : ℚ) ^ e) ≠ 0 := mul_ne_zero (by exact_mod_cast hs) hp.ne'
    rw [hb, if_neg hq]
    simp only [Bool.false_eq_true, if_false]
    have hneg : decide (s < 0) = decide ((s : ℚ) * (2 : ℚ) ^ e < 0) := by
      congr 1
      rw [eq_iff_iff, mul_neg_iff]
      constructor
      · intro h; right; exact ⟨by exact_mod_cast h, hp⟩
      · rintro (⟨_, h⟩ | ⟨h, _⟩)
        · exact absurd h (not_lt.mpr hp.le)
        · exact_mod_cast h
    rw [hneg]
    apply roundPos_pow_eq
    rw [abs_mul, abs_of_pos hp, ← Int.cast_abs, Int.abs_eq_natAbs, Int.cast_natCast]

theorem add_fin_eq_RN (n1 : Bool) (m1 : Nat) (e1 : Int) (n2 : Bool) (m2 : Nat) (e2 : Int) :
    Dbl.add (.fin n1 m1 e1) (.fin n2 m2 e2) =
      Dbl.RN (n1 && n2) (Dbl.val (.fin n1 m1 e1) + Dbl.val (.fin n2 m2 e2)) :=
  addFin_eq_RN _ _ _ _ _ _

theorem val_mul (n1 : Bool) (m1 : Nat) (e1 : Int) (n2 : Bool) (m2 : Nat) (e2 : Int) :
    Dbl.val (.fin n1 m1 e1) * Dbl.val (.fin n2 m2 e2) = Dbl.val (.fin (n1 != n2) (m1 * m2) (e1 + e2)) := by
  rw [val_fin, val_fin, val_fin, zpow_add₀ (by norm_num)]
  push_cast
  cases n1 <;> cases n2 <;> simp <;> ring

theorem mul_fin_eq_RN (n1 : Bool) (m1 : Nat) (e1 : Int) (n2 : Bool) (m2 : Nat) (e2 : Int) :
    Dbl.mul (.fin n1 m1 e1) (.fin n2 m2 e2) =
      Dbl.RN (n1 != n2) (Dbl.val (.fin n1 m1 e1) * Dbl.val (.fin n2 m2 e2)) := by
  show (if (m1 * m2 == 0) then Dbl.fin (n1 != n2) 0 (-1074)
    else if e1 + e2 ≥ 0 then Dbl.roundPos (n1 != n2) (m1 * m2 * Dbl.pow2 (e1 + e2).toNat) 1
      else Dbl.roundPos (n1 != n2) (m1 * m2) (Dbl.pow2 (-(e1 + e2)).toNat)) = _
  unfold Dbl.RN
  rw [val_mul]
  generalize m1 * m2 = m
  generalize e1 + e2 = e
  generalize (n1 != n2) = n
  by_cases hm : m = 0
  · subst hm
    rw [if_pos ((val_eq_zero_iff n 0 e).mpr rfl)]
    rfl
  · have hb : (m == 0) = false := by simpa using hm
    rw [hb, if_neg (mt (val_eq_zero_iff n m e).mp hm), decide_val_neg hm]
    simp only [Bool.false_eq_true, if_false]
    exact roundPos_pow_eq n m e _ (abs_val n m e)

end FR.C18a

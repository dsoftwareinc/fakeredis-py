import FR.Proofs.C03zAlg
/-!
# Sorted-set commands through the runner: one theorem `run_x` per command

A body is a function of the sorted set in its item to a result `ZRes` (`ZSet.lean` §4: `zaddRes`, `zincrRes`, `zremRes`;
here `zrangeRes`, `zrangebyscoreRes`, `zrangebylexRes`), and `Does` (`C03zRun.lean`) reads the result as the outcome of
the run.  Then the facts about windows, `lexRange`, option tails and `-0` that `FR/Props/C03z.lean` uses; `Removes`; the
argument and type errors of the commands with two bounds.

To add a command `x`: `xRes` and `x_eq : Cmd.x … cis = (xRes …).out cis k` (a writer: in `ZSet.lean` §4, with
`xRes_stores`), then `run_x := zk1_does … x_eq` (copy `run_zrem`; two converted arguments: `zt2_does`, copy `run_zrange`;
a read: copy `run_zcard`).
-/
namespace FR.ZCmd
open FR Db FR.HashSet FR.Cmd

section key1
variable (ctx : Ctx) (key : Bytes) {db : Db} (nd : NodupKeys db.dict)
  (name : String) (body : Body) (a : Nat)
  (hfix : (sigOf name).fixed = .key (some .zset) .unspecified :: List.replicate a .bytes)
  (hrep : ∀ t ∈ (sigOf name).rep, t = .bytes) (rest : List Bytes)
  (har : ArityOK (sigOf name) (rest.length + 1))
include nd hfix hrep har

variable {z : ZSet} {e : Option Int} (hv : zsetView db.live key = some (z, e))
include hv

/-- the error case of `zk1_view`, for a body that need not be the registered one -/
theorem zk1_err {er : Err}
    (hb : body ctx (.key 0 :: rest.map .raw) [zsetCI key z e] = .error er) :
    Fails (runRegular (sigOf name) body ctx none (key :: rest) db) db er := by
  apply view_eq
  rw [run_view _ body ctx _ nd, applyL_keyFirst (keyFirst_plain hfix hrep) key rest db.live har,
    decodeAll_plain _ _ a hfix hrep rest har]
  dsimp only
  rw [if_pos (zsetC.see_some hv).1, (zsetC.see_some hv).2]
  exact congrArg (outcome db.time db.live) hb

end key1

/-- a body that parses an option tail first: the parser's error, or the result for the parsed options -/
def ZRes.bind {α} (x : Except Err α) (f : α → ZRes) : ZRes :=
  match x with
  | .error er => .fail er
  | .ok a => f a

theorem Does.bind {out : RunOut} {db : Db} {key : Bytes} {e : Option Int} {α} {x : Except Err α} {f : α → ZRes}
    (h : Does out db key e (ZRes.bind x f)) :
    (∀ er, x = .error er → Fails out db er) ∧ (∀ a, x = .ok a → Does out db key e (f a)) := by
  cases x with
  | error er =>
    refine ⟨fun er' h' => ?_, fun a h' => ?_⟩
    · cases h'; exact h
    · cases h'
  | ok a =>
    refine ⟨fun er h' => ?_, fun a' h' => ?_⟩
    · cases h'
    · cases h'; exact h

/-! ## the range commands as functions of the sorted set -/

/-- ZRANGE / ZREVRANGE: the Redis index window of the (reversed) iteration order; every option word must be
WITHSCORES -/
def zrangeRes (rev : Bool) (ctx : Ctx) (z : ZSet) (start stop : Int) (opts : List Bytes) : ZRes :=
  if opts.all (fun a => casematch a "withscores") = true then
    .read (.arr (withScores ctx (rangeWindow (if rev then z.byscore.reverse else z.byscore) start stop)
      (!opts.isEmpty)))
  else .fail Msgs.SYNTAX_ERROR_MSG

theorem zrangeGen_eq (rev : Bool) (ctx : Ctx) (k : Nat) {cis : List CI} (hz : (zsetOf (ciAt cis k)).Inv)
    (start stop : Int) (opts : List Bytes) :
    zrangeGen rev ctx (.key k :: .int start :: .int stop :: opts.map .raw) cis =
      (zrangeRes rev ctx (zsetOf (ciAt cis k)) start stop opts).out cis k := by
  simp only [zrangeGen, rawArgs_map_raw, zrangeRes]
  by_cases hall : opts.all (fun a => casematch a "withscores") = true
  · rw [if_pos hall]
    simp only [hall, Bool.not_true, Bool.false_eq_true, if_false]
    rw [← ZSet.byscore_length hz]
    cases rev
    · simp only [Bool.false_eq_true, if_false]
      rw [← slice_fixRange]
      rfl
    · simp only [if_true]
      rw [← slice_fixRange_rev]
      rfl
  · rw [if_neg hall]
    simp only [hall, Bool.not_false, if_true]
    rfl

/-- ZRANGEBYSCORE / ZREVRANGEBYSCORE: the members within the score bounds, reversed for the latter, then LIMIT,
then WITHSCORES -/
def zrangebyscoreRes (rev : Bool) (ctx : Ctx) (z : ZSet) (mn : Dbl) (mne : Bool) (mx : Dbl) (mxe : Bool)
    (opts : List Bytes) : ZRes :=
  ZRes.bind (parseRbsOpts opts {}) fun o =>
    .read (.arr (withScores ctx (limitSpec
      (if rev then (z.irange mn (lowerTail mne) mx (upperTail mxe) true true).reverse
       else z.irange mn (lowerTail mne) mx (upperTail mxe) true true) o.off o.cnt) o.ws))

theorem zrangebyscoreGen_eq (rev : Bool) (ctx : Ctx) (mn : Dbl) (mne : Bool) (mx : Dbl) (mxe : Bool) (k : Nat)
    (opts : List Bytes) (cis : List CI) :
    zrangebyscoreGen rev ctx mn mne mx mxe k opts cis =
      (zrangebyscoreRes rev ctx (zsetOf (ciAt cis k)) mn mne mx mxe opts).out cis k := by
  unfold zrangebyscoreGen zrangebyscoreRes
  cases parseRbsOpts opts {} with
  | error er => rfl
  | ok o => simp only [limitItems_eq]; rfl

def parseLexOpts (opts : List Bytes) : Except Err (Int × Int) :=
  match opts with
  | [] => .ok (0, -1)
  | [l, o, c] =>
    if !casematch l "limit" then .error Msgs.SYNTAX_ERROR_MSG
    else match Conv.int o with
      | .error e => .error e
      | .ok off => match Conv.int c with
        | .error e => .error e
        | .ok cnt => .ok (off, cnt)
  | _ => .error Msgs.SYNTAX_ERROR_MSG

/-- ZRANGEBYLEX / ZREVRANGEBYLEX: the members within the lex bounds, reversed for the latter, then LIMIT -/
def zrangebylexRes (rev : Bool) (z : ZSet) (mn : LexB) (mne : Bool) (mx : LexB) (mxe : Bool)
    (opts : List Bytes) : ZRes :=
  ZRes.bind (parseLexOpts opts) fun p =>
    .read (Reply.bulks (limitSpec
      (if rev then (z.irangeLex mn mx (!mne) (!mxe)).reverse else z.irangeLex mn mx (!mne) (!mxe)) p.1 p.2))

theorem zrangebylexGen_eq (rev : Bool) (mn : LexB) (mne : Bool) (mx : LexB) (mxe : Bool) (k : Nat)
    (opts : List Bytes) (cis : List CI) :
    zrangebylexGen rev mn mne mx mxe k opts cis =
      (zrangebylexRes rev (zsetOf (ciAt cis k)) mn mne mx mxe opts).out cis k := by
  unfold zrangebylexGen zrangebylexRes
  show (match parseLexOpts opts with | .error er => _ | .ok (off, cnt) => _) = _
  cases parseLexOpts opts with
  | error er => rfl
  | ok p => obtain ⟨off, cnt⟩ := p; simp only [limitItems_eq]; rfl

theorem dec_ok {α} {f : α → Arg} {x : Except Err α} {a : α} (h : x = .ok a) : x.map f = .ok (f a) := by
  rw [h]; rfl
theorem dec_err {α} {f : α → Arg} {x : Except Err α} {er : Err} (h : x = .error er) : x.map f = .error er := by
  rw [h]; rfl

theorem scoreTest_not_nan {b : Bytes} {d : Dbl} {x : Bool} (h : Conv.scoreTest b = .ok (d, x)) :
    d.isNaN = false := by
  unfold Conv.scoreTest at h
  split at h
  rename_i excl v _
  cases hf : Conv.floatGen Msgs.INVALID_FLOAT_MSG true true true true v with
  | error _ => rw [hf] at h; cases h
  | ok d' =>
    rw [hf] at h
    simp only [Except.ok.injEq, Prod.mk.injEq] at h
    rw [← h.1]; exact Conv.floatGen_not_nan hf

theorem scoreTest_error {b : Bytes} {er : Err} (h : Conv.scoreTest b = .error er) :
    er = Msgs.INVALID_MIN_MAX_FLOAT_MSG := by
  unfold Conv.scoreTest at h
  split at h
  split at h
  · cases h
  · cases h; rfl

theorem stringTest_error {b : Bytes} {er : Err} (h : Conv.stringTest b = .error er) :
    er = Msgs.INVALID_MIN_MAX_STR_MSG := by
  unfold Conv.stringTest at h
  repeat' split at h
  all_goals first | (cases h; rfl) | cases h

section cmds
variable (ctx : Ctx) (key : Bytes) {db : Db} (nd : NodupKeys db.dict) {z : ZSet} {e : Option Int}
  (hv : zsetView db.live key = some (z, e))
include nd hv

theorem zt2_does {name : String} {t1 t2 : ArgTy} (h1 : Ttl.isKey t1 = false) (h2 : Ttl.isKey t2 = false)
    (hfix : (sigOf name).fixed = [.key (some .zset) .unspecified, t1, t2])
    (hrep : ∀ t ∈ (sigOf name).rep, t = .bytes) (a b : Bytes) (rest : List Bytes)
    (har : ArityOK (sigOf name) (rest.length + 3)) {body : Body} (hreg : Cmd.regular name = some body)
    {x y : Arg} (hx : Conv.decode t1 a = .ok x) (hy : Conv.decode t2 b = .ok y) {res : ZRes}
    (hb : body ctx (.key 0 :: x :: y :: rest.map .raw) [zsetCI key z e] = res.out [zsetCI key z e] 0) :
    Does (run name ctx (key :: a :: b :: rest) db) db key e res :=
  Does.of_view (zsetC.notExp nd (a := z) hv) (zt2_view ctx key nd h1 h2 hfix hrep a b rest har hreg hx hy hv) hb

theorem run_zcard : ReadOnly (run "zcard" ctx [key] db) db (.int z.len) :=
  ReadOnly.of_view (zk1_view ctx key nd (a := 0) rfl rfl (by decide) [] (by show ArityOK _ 1; decide) hv) rfl

theorem run_zscore (m : Bytes) :
    ReadOnly (run "zscore" ctx [key, m] db) db
      (match z.get m with | some s => .bulk (fmtScore ctx s) | none => .nil) :=
  ReadOnly.of_view (zk1_view ctx key nd (a := 1) rfl rfl (by decide) [m] (by show ArityOK _ 2; decide) hv) (by
    simp only [Cmd.zscore, List.map_cons, List.map_nil]
    show (match z.get m with | some s => _ | none => _) = _
    cases z.get m <;> rfl)

theorem run_zrank (m : Bytes) :
    ReadOnly (run "zrank" ctx [key, m] db) db
      (match z.rank m with | some r => .int r | none => .nil) :=
  ReadOnly.of_view (zk1_view ctx key nd (a := 1) rfl rfl (by decide) [m] (by show ArityOK _ 2; decide) hv) (by
    simp only [Cmd.zrank, List.map_cons, List.map_nil]
    show (match z.rank m with | some r => _ | none => _) = _
    cases z.rank m <;> rfl)

theorem run_zrevrank (m : Bytes) :
    ReadOnly (run "zrevrank" ctx [key, m] db) db
      (match z.rank m with | some r => .int ((z.len : Int) - 1 - r) | none => .nil) :=
  ReadOnly.of_view (zk1_view ctx key nd (a := 1) rfl rfl (by decide) [m] (by show ArityOK _ 2; decide) hv) (by
    simp only [Cmd.zrevrank, List.map_cons, List.map_nil]
    show (match z.rank m with | some r => _ | none => _) = _
    cases z.rank m <;> rfl)

theorem run_zrem (m : Bytes) (rest : List Bytes) :
    Does (run "zrem" ctx (key :: m :: rest) db) db key e (zremRes z (m :: rest)) :=
  zk1_does ctx key nd hv (a := 1) (body := Cmd.zrem) rfl rfl (by decide) (m :: rest)
    (arity_var "zrem" _ 2 rfl rfl (by simp)) (by simp only [Cmd.zrem, rawArgs_map_raw]; exact zremCore_eq _ _ _)

omit hv in
theorem run_zincrby_bad (a m : Bytes) {er : Err} (ha : Conv.float a = .error er) :
    Fails (run "zincrby" ctx [key, a, m] db) db er :=
  (zt2_errors ctx key nd (name := "zincrby") (t1 := .float) (t2 := .bytes) rfl rfl rfl (by decide) a m []
    (by show ArityOK _ 3; decide)).1 er (dec_err ha)

theorem run_zincrby (a m : Bytes) {incr : Dbl} (ha : Conv.float a = .ok incr) :
    Does (run "zincrby" ctx [key, a, m] db) db key e (zincrRes ctx z incr m) :=
  zt2_does ctx key nd hv (name := "zincrby") (t1 := .float) (t2 := .bytes) rfl rfl rfl (by decide) a m []
    (by show ArityOK _ 3; decide) (body := Cmd.zincrby) rfl (dec_ok ha) (y := .raw m) rfl
    (by simp only [Cmd.zincrby, List.map_nil]; exact zincrbyCore_eq _ _ _ _ _)

theorem run_zcount (a b : Bytes) {mn mx : Dbl} {mne mxe : Bool}
    (ha : Conv.scoreTest a = .ok (mn, mne)) (hb : Conv.scoreTest b = .ok (mx, mxe)) :
    ReadOnly (run "zcount" ctx [key, a, b] db) db (.int (z.zcount mn (lowerTail mne) mx (upperTail mxe))) :=
  ReadOnly.of_view (zt2_view ctx key nd (t1 := .scoreTest) (t2 := .scoreTest) rfl rfl rfl (by decide) a b []
    (by show ArityOK _ 3; decide) rfl (dec_ok ha) (dec_ok hb) hv) rfl

theorem run_zlexcount (a b : Bytes) {mn mx : LexB} {mne mxe : Bool}
    (ha : Conv.stringTest a = .ok (mn, mne)) (hb : Conv.stringTest b = .ok (mx, mxe)) :
    ReadOnly (run "zlexcount" ctx [key, a, b] db) db (.int (z.zlexcount mn mne mx mxe)) :=
  ReadOnly.of_view (zt2_view ctx key nd (t1 := .stringTest) (t2 := .stringTest) rfl rfl rfl (by decide) a b []
    (by show ArityOK _ 3; decide) rfl (dec_ok ha) (dec_ok hb) hv) rfl

theorem run_zrange (hz : z.Inv) (a b : Bytes) (rest : List Bytes) {start stop : Int}
    (ha : Conv.int a = .ok start) (hb : Conv.int b = .ok stop) :
    Does (run "zrange" ctx (key :: a :: b :: rest) db) db key e (zrangeRes false ctx z start stop rest) :=
  zt2_does ctx key nd hv (t1 := .int) (t2 := .int) rfl rfl rfl (by decide) a b rest
    (arity_var "zrange" _ 3 rfl rfl (by simp)) (body := zrangeGen false) rfl (dec_ok ha) (dec_ok hb)
    (zrangeGen_eq false ctx 0 (cis := [zsetCI key z e]) hz start stop rest)

theorem run_zrevrange (hz : z.Inv) (a b : Bytes) (rest : List Bytes) {start stop : Int}
    (ha : Conv.int a = .ok start) (hb : Conv.int b = .ok stop) :
    Does (run "zrevrange" ctx (key :: a :: b :: rest) db) db key e (zrangeRes true ctx z start stop rest) :=
  zt2_does ctx key nd hv (t1 := .int) (t2 := .int) rfl rfl rfl (by decide) a b rest
    (arity_var "zrevrange" _ 3 rfl rfl (by simp)) (body := zrangeGen true) rfl (dec_ok ha) (dec_ok hb)
    (zrangeGen_eq true ctx 0 (cis := [zsetCI key z e]) hz start stop rest)

theorem run_zrangebyscore (a b : Bytes) (rest : List Bytes) {mn mx : Dbl} {mne mxe : Bool}
    (ha : Conv.scoreTest a = .ok (mn, mne)) (hb : Conv.scoreTest b = .ok (mx, mxe)) :
    Does (run "zrangebyscore" ctx (key :: a :: b :: rest) db) db key e
      (zrangebyscoreRes false ctx z mn mne mx mxe rest) :=
  zt2_does ctx key nd hv (t1 := .scoreTest) (t2 := .scoreTest) rfl rfl rfl (by decide) a b rest
    (arity_var "zrangebyscore" _ 3 rfl rfl (by simp)) (body := Cmd.zrangebyscore) rfl (dec_ok ha) (dec_ok hb)
    (by simp only [Cmd.zrangebyscore, rawArgs_map_raw]; exact zrangebyscoreGen_eq _ _ _ _ _ _ _ _ _)

/-- note the argument order: `max` first -/
theorem run_zrevrangebyscore (a b : Bytes) (rest : List Bytes) {mn mx : Dbl} {mne mxe : Bool}
    (ha : Conv.scoreTest a = .ok (mx, mxe)) (hb : Conv.scoreTest b = .ok (mn, mne)) :
    Does (run "zrevrangebyscore" ctx (key :: a :: b :: rest) db) db key e
      (zrangebyscoreRes true ctx z mn mne mx mxe rest) :=
  zt2_does ctx key nd hv (t1 := .scoreTest) (t2 := .scoreTest) rfl rfl rfl (by decide) a b rest
    (arity_var "zrevrangebyscore" _ 3 rfl rfl (by simp)) (body := Cmd.zrevrangebyscore) rfl (dec_ok ha)
    (dec_ok hb) (by simp only [Cmd.zrevrangebyscore, rawArgs_map_raw]; exact zrangebyscoreGen_eq _ _ _ _ _ _ _ _ _)

theorem run_zrangebylex (a b : Bytes) (rest : List Bytes) {mn mx : LexB} {mne mxe : Bool}
    (ha : Conv.stringTest a = .ok (mn, mne)) (hb : Conv.stringTest b = .ok (mx, mxe)) :
    Does (run "zrangebylex" ctx (key :: a :: b :: rest) db) db key e (zrangebylexRes false z mn mne mx mxe rest) :=
  zt2_does ctx key nd hv (t1 := .stringTest) (t2 := .stringTest) rfl rfl rfl (by decide) a b rest
    (arity_var "zrangebylex" _ 3 rfl rfl (by simp)) (body := Cmd.zrangebylex) rfl (dec_ok ha) (dec_ok hb)
    (by simp only [Cmd.zrangebylex, rawArgs_map_raw]; exact zrangebylexGen_eq _ _ _ _ _ _ _ _)

/-- note the argument order: `max` first -/
theorem run_zrevrangebylex (a b : Bytes) (rest : List Bytes) {mn mx : LexB} {mne mxe : Bool}
    (ha : Conv.stringTest a = .ok (mx, mxe)) (hb : Conv.stringTest b = .ok (mn, mne)) :
    Does (run "zrevrangebylex" ctx (key :: a :: b :: rest) db) db key e (zrangebylexRes true z mn mne mx mxe rest) :=
  zt2_does ctx key nd hv (t1 := .stringTest) (t2 := .stringTest) rfl rfl rfl (by decide) a b rest
    (arity_var "zrevrangebylex" _ 3 rfl rfl (by simp)) (body := Cmd.zrevrangebylex) rfl (dec_ok ha) (dec_ok hb)
    (by simp only [Cmd.zrevrangebylex, rawArgs_map_raw]; exact zrangebylexGen_eq _ _ _ _ _ _ _ _)

/-! ### ZREMRANGEBYRANK / BYSCORE / BYLEX: `zrem` of the members the range selects -/

theorem run_zremrangebyrank (hz : z.Inv) (a b : Bytes) {start stop : Int}
    (ha : Conv.int a = .ok start) (hb : Conv.int b = .ok stop) :
    Does (run "zremrangebyrank" ctx [key, a, b] db) db key e
      (zremRes z ((rangeWindow z.byscore start stop).map Prod.snd)) :=
  zt2_does ctx key nd hv (t1 := .int) (t2 := .int) rfl rfl rfl (by decide) a b []
    (by show ArityOK _ 3; decide) (body := Cmd.zremrangebyrank) rfl (dec_ok ha) (dec_ok hb) (by
      simp only [Cmd.zremrangebyrank, List.map_nil]
      have hzs : zsetOf (ciAt [zsetCI key z e] 0) = z := rfl
      rw [hzs, ← ZSet.byscore_length hz, ← slice_fixRange]
      exact zremCore_eq _ _ _)

theorem run_zremrangebyscore (a b : Bytes) {mn mx : Dbl} {mne mxe : Bool}
    (ha : Conv.scoreTest a = .ok (mn, mne)) (hb : Conv.scoreTest b = .ok (mx, mxe)) :
    Does (run "zremrangebyscore" ctx [key, a, b] db) db key e
      (zremRes z ((z.irange mn (lowerTail mne) mx (upperTail mxe) true true).map Prod.snd)) :=
  zt2_does ctx key nd hv (t1 := .scoreTest) (t2 := .scoreTest) rfl rfl rfl (by decide) a b []
    (by show ArityOK _ 3; decide) (body := Cmd.zremrangebyscore) rfl (dec_ok ha) (dec_ok hb)
    (zremCore_eq _ _ _)

theorem run_zremrangebylex (a b : Bytes) {mn mx : LexB} {mne mxe : Bool}
    (ha : Conv.stringTest a = .ok (mn, mne)) (hb : Conv.stringTest b = .ok (mx, mxe)) :
    Does (run "zremrangebylex" ctx [key, a, b] db) db key e (zremRes z (z.irangeLex mn mx (!mne) (!mxe))) :=
  zt2_does ctx key nd hv (t1 := .stringTest) (t2 := .stringTest) rfl rfl rfl (by decide) a b []
    (by show ArityOK _ 3; decide) (body := Cmd.zremrangebylex) rfl (dec_ok ha) (dec_ok hb)
    (zremCore_eq _ _ _)

end cmds

/-! ## ZADD -/

theorem zaddSet_len_le (nx xx : Bool) (z : ZSet) (items : List (Dbl × Bytes)) :
    (zaddSet nx xx z items).len ≤ z.len + zaddChanged nx xx z items := by
  induction items generalizing z with
  | nil => simp [zaddSet, zaddChanged]
  | cons p ps ih =>
    rw [zaddSet_cons]
    have := ih (zaddStep nx xx z p)
    simp only [zaddChanged]
    have hstep : (zaddStep nx xx z p).len ≤
        z.len + (if (zaddWrites nx xx (z.contains p.2) && (z.add p.2 p.1).2) = true then 1 else 0) := by
      refine zaddStep_cases (C := fun z' => z'.len ≤ _) nx xx z p (fun hw => ?_) (fun _ => Nat.le_add_right _ _)
      rw [hw, Bool.true_and, ZSet.len_add, ZSet.add_changed]
      cases z.get p.2 with
      | none => simp
      | some old => simp
    omega

theorem parseScorePairs_two {v : Nat} {elements : List Bytes} (hl : elements.length = 2)
    {items : List (Dbl × Bytes)} (hp : parseScorePairs v elements = .ok items) : ∃ s m, items = [(s, m)] := by
  match elements, hl with
  | [x, y], _ =>
    have := (parseScorePairs_ok_iff _ _ _).mp hp
    simp only [pairsOf, List.map_cons, List.map_nil] at this
    cases items with
    | nil => simp at this
    | cons p ps =>
      cases ps with
      | cons _ _ => simp at this
      | nil => exact ⟨p.1, p.2, rfl⟩

/-! ## further facts that `FR/Props/C03z.lean` uses -/

theorem rangeWindow_all {α} (l : List α) : rangeWindow l 0 (-1) = l := by
  unfold rangeWindow normIdx
  rw [if_neg (by decide : ¬ (0 : Int) < 0), if_pos (by decide : (-1 : Int) < 0),
    show (max (0:Int) 0).toNat = 0 from rfl, List.drop_zero]
  exact List.take_of_length_le (by omega)

theorem rangeWindow_getElem? {α} (l : List α) (start stop : Int) (i : Nat) :
    (rangeWindow l start stop)[i]? =
      if (max 0 (normIdx start l.length)) + i ≤ min (normIdx stop l.length) ((l.length : Int) - 1) then
        l[(max 0 (normIdx start l.length)).toNat + i]?
      else none := by
  unfold rangeWindow
  rw [List.getElem?_take]
  split
  · rename_i h
    rw [List.getElem?_drop, if_pos (by omega)]
  · rename_i h
    rw [if_neg (by omega)]

theorem get_all_none {z : ZSet} (h : ∀ x, z.get x = none) : z.bylex = [] := by
  cases hb : z.bylex with
  | nil => rfl
  | cons p ps =>
    have := h p.1
    unfold ZSet.get at this
    rw [hb] at this
    simp at this

/-- the members ZRANGEBYLEX selects: among the members whose score is IEEE-equal to the lowest score of the
set, those within the two lex bounds, in iteration order -/
def lexRange (z : ZSet) (mn : LexB) (mne : Bool) (mx : LexB) (mxe : Bool) : List Bytes :=
  match z.firstScore with
  | none => []
  | some sc =>
    (z.byscore.filter (fun p => Dbl.eq p.1 sc && (lexGe mn mne p.2 && lexLe mx mxe p.2))).map Prod.snd

theorem irangeLex_eq_lexRange {z : ZSet} (hz : z.Inv) (mn : LexB) (mne : Bool) (mx : LexB) (mxe : Bool) :
    z.irangeLex mn mx (!mne) (!mxe) = lexRange z mn mne mx mxe := irangeLex_eq_filter hz mn mne mx mxe

/-- when all scores are IEEE-equal (the only case Redis defines), the selection is a filter on the member bytes
of the whole set -/
theorem lexRange_same_score {z : ZSet}
    (hsame : ∀ p ∈ z.byscore, ∀ q ∈ z.byscore, Dbl.eq p.1 q.1 = true)
    (mn : LexB) (mne : Bool) (mx : LexB) (mxe : Bool) :
    lexRange z mn mne mx mxe =
      (z.byscore.filter (fun p => lexGe mn mne p.2 && lexLe mx mxe p.2)).map Prod.snd := by
  unfold lexRange ZSet.firstScore
  cases hb : z.byscore with
  | nil => rfl
  | cons x xs =>
    simp only [List.head?_cons, Option.map_some]
    congr 1
    apply List.filter_congr
    intro p hp
    rw [hsame p (by rw [hb]; exact hp) x (by rw [hb]; simp)]
    simp

theorem lexRange_nodup {z : ZSet} (hz : z.Inv) (mn : LexB) (mne : Bool) (mx : LexB) (mxe : Bool) :
    (lexRange z mn mne mx mxe).Nodup ∧ ∀ m ∈ lexRange z mn mne mx mxe, z.get m ≠ none := by
  unfold lexRange
  cases z.firstScore with
  | none => exact ⟨List.nodup_nil, fun m hm => by cases hm⟩
  | some sc => exact sublist_members hz List.filter_sublist

theorem idxOf_reverse {l : List Bytes} (hn : l.Nodup) {m : Bytes} (hm : m ∈ l) :
    l.reverse.idxOf m = l.length - 1 - l.idxOf m := by
  have hi : l.idxOf m < l.length := List.idxOf_lt_length_iff.mpr hm
  have hj : l.length - 1 - l.idxOf m < l.reverse.length := by simp; omega
  have := List.Nodup.idxOf_getElem ((List.reverse_perm l).nodup_iff.mpr hn) (l.length - 1 - l.idxOf m) hj
  rw [← this]
  congr 1
  rw [List.getElem_reverse]
  have e : l.length - 1 - (l.length - 1 - l.idxOf m) = l.idxOf m := by omega
  simp only [e]
  exact (List.getElem_idxOf hi).symm

/-! ### the LIMIT / WITHSCORES tail of ZRANGEBYSCORE -/

theorem parseRbsOpts_nil (o : RbsOpts) : parseRbsOpts [] o = .ok o := rfl

theorem parseRbsOpts_withscores (a : Bytes) (rest : List Bytes) (o : RbsOpts)
    (h : casematch a "withscores" = true) :
    parseRbsOpts (a :: rest) o = parseRbsOpts rest { o with ws := true } := by
  conv => lhs; unfold parseRbsOpts
  simp [h]

theorem parseRbsOpts_limit (a x y : Bytes) (rest : List Bytes) (o : RbsOpts)
    (h : casematch a "limit" = true) :
    parseRbsOpts (a :: x :: y :: rest) o =
      match Conv.int x with
      | .error e => .error e
      | .ok off =>
        match Conv.int y with
        | .error e => .error e
        | .ok cnt => parseRbsOpts rest { o with off := off, cnt := cnt } := by
  have hw : casematch a "withscores" = false :=
    casematch_excl h (by rw [strBytes_eq, strBytes_eq]; decide)
  rw [parseRbsOpts]
  simp only [hw, h, Bool.false_eq_true, if_false, List.length_cons, Bool.true_and]
  rw [if_pos (by simp)]
  cases Conv.int x with
  | error _ => rfl
  | ok _ => cases Conv.int y <;> rfl

theorem parseRbsOpts_limit_short (a : Bytes) (rest : List Bytes) (o : RbsOpts)
    (h : casematch a "limit" = true) (hl : rest.length < 2) :
    parseRbsOpts (a :: rest) o = .error Msgs.SYNTAX_ERROR_MSG := by
  have hw : casematch a "withscores" = false :=
    casematch_excl h (by rw [strBytes_eq, strBytes_eq]; decide)
  have : ¬ (rest.length ≥ 2) := by omega
  unfold parseRbsOpts; simp [h, hw, this]

theorem parseRbsOpts_other (a : Bytes) (rest : List Bytes) (o : RbsOpts)
    (h1 : casematch a "withscores" = false) (h2 : casematch a "limit" = false) :
    parseRbsOpts (a :: rest) o = .error Msgs.SYNTAX_ERROR_MSG := by
  unfold parseRbsOpts; simp [h1, h2]

/-- `-0.0`: `Dbl.zero` with the sign set -/
def negZero : Dbl := .fin true 0 (-1074)

theorem fmtScore_def (ctx : Ctx) (d : Dbl) :
    fmtScore ctx d = Dbl.encode (if ctx.version ≥ 7 then d.plusZero else d) false := rfl

theorem plusZero_negZero : negZero.plusZero = Dbl.zero := by decide +kernel
theorem plusZero_zero : Dbl.zero.plusZero = Dbl.zero := by decide +kernel
theorem plusZero_inf (b : Bool) : (Dbl.inf b).plusZero = .inf b := rfl
theorem plusZero_nan : Dbl.nan.plusZero = .nan := rfl

theorem encode_negZero : Dbl.encode negZero false = strBytes "-0" := by decide +kernel
theorem encode_zero : Dbl.encode Dbl.zero false = strBytes "0" := by decide +kernel

theorem fmtScore_negZero (ctx : Ctx) :
    fmtScore ctx negZero = if ctx.version ≥ 7 then strBytes "0" else strBytes "-0" := by
  rw [fmtScore_def]
  split
  · rw [plusZero_negZero, encode_zero]
  · rw [encode_negZero]

theorem fmtScore_zero (ctx : Ctx) : fmtScore ctx Dbl.zero = strBytes "0" := by
  rw [fmtScore_def]
  split
  · rw [plusZero_zero, encode_zero]
  · rw [encode_zero]

/-! ## removal of a list of members -/

/-- the members `ms` are removed from the sorted set `z` held at `key` and counted once each; the rest keeps the
invariant, its scores and its order -/
def Removes (out : RunOut) (db : Db) (key : Bytes) (z : ZSet) (e : Option Int) (ms : List Bytes) : Prop :=
  ∃ (n : Nat) (z' : ZSet),
    CardEq (fun x => x ∈ ms ∧ z.get x ≠ none) n ∧
    z'.Inv ∧ (∀ x, z'.get x = if x ∈ ms then none else z.get x) ∧
    z'.byscore = z.byscore.filter (fun p => !ms.contains p.2) ∧
    (n = 0 → ReadOnly out db (.int 0)) ∧
    (n > 0 → Writes out db key z' e (.int n))

theorem Removes.of_does {out : RunOut} {db : Db} {key : Bytes} {z : ZSet} {e : Option Int} (hz : z.Inv)
    {ms : List Bytes} (h : Does out db key e (zremRes z ms)) : Removes out db key z e ms := by
  unfold zremRes at h
  refine ⟨z.len - (ms.foldl ZSet.discard z).len, ms.foldl ZSet.discard z, removed_card ms hz,
    foldl_keeps ZSet.Inv _ ms (fun _ hz _ _ => ZSet.discard_inv hz) z hz, foldl_discard_get ms z,
    foldl_discard_byscore ms hz, fun h0 => ?_, fun hp => ?_⟩
  · rwa [if_neg (by omega)] at h
  · rwa [if_pos hp] at h

theorem Removes.reply_length {out : RunOut} {db : Db} {key : Bytes} {z : ZSet} {e : Option Int} {ms : List Bytes}
    (h : Removes out db key z e ms) (hn : ms.Nodup) (hp : ∀ m ∈ ms, z.get m ≠ none) :
    out.reply = .int ms.length := by
  obtain ⟨n, z', hc, _, _, _, h0, h1⟩ := h
  have : n = ms.length :=
    CardEq.unique hc ⟨ms, hn, fun x => ⟨fun h => ⟨h, hp x h⟩, fun h => h.1⟩, rfl⟩
  subst this
  by_cases hl : ms.length = 0
  · rw [(h0 hl).1, hl]; rfl
  · exact (h1 (by omega)).1

theorem Removes.deleted {out : RunOut} {db : Db} {key : Bytes} {z : ZSet} {e : Option Int} {ms : List Bytes}
    (h : Removes out db key z e ms) (hall : ∀ x, z.get x ≠ none → x ∈ ms) (hne : z.bylex ≠ []) :
    out.db.live key = none := by
  obtain ⟨n, z', hc, _, hg, _, h0, h1⟩ := h
  have hpos : n > 0 := by
    apply hc.pos.mpr
    cases hb : z.bylex with
    | nil => exact absurd hb hne
    | cons p ps =>
      have hgp : z.get p.1 ≠ none := by
        unfold ZSet.get; rw [hb]; simp
      exact ⟨p.1, hall _ hgp, hgp⟩
  apply (h1 hpos).deleted
  apply get_all_none
  intro x
  rw [hg]
  split
  · rfl
  · rename_i hx
    cases hgx : z.get x with
    | none => rfl
    | some s => exact absurd (hall x (by rw [hgx]; simp)) hx

/-! ## argument and type errors, generically -/

theorem decode_score_cases (a : Bytes) :
    (∀ er, Conv.scoreTest a = .error er → Conv.decode .scoreTest a = .error Msgs.INVALID_MIN_MAX_FLOAT_MSG) ∧
    (∀ p, Conv.scoreTest a = .ok p → Conv.decode .scoreTest a = .ok (.score p.1 p.2)) :=
  ⟨fun er h => by rw [← scoreTest_error h]; exact dec_err h, fun p h => dec_ok h⟩

theorem decode_lex_cases (a : Bytes) :
    (∀ er, Conv.stringTest a = .error er → Conv.decode .stringTest a = .error Msgs.INVALID_MIN_MAX_STR_MSG) ∧
    (∀ p, Conv.stringTest a = .ok p → Conv.decode .stringTest a = .ok (.lex p.1 p.2)) :=
  ⟨fun er h => by rw [← stringTest_error h]; exact dec_err h, fun p h => dec_ok h⟩

theorem decode_int_cases (a : Bytes) :
    (∀ er, Conv.int a = .error er → Conv.decode .int a = .error Msgs.INVALID_INT_MSG) ∧
    (∀ n, Conv.int a = .ok n → Conv.decode .int a = .ok (.int n)) :=
  ⟨fun er h => by rw [← Conv.int_error h]; exact dec_err h, fun n h => dec_ok h⟩

/-- a bad first bound, then a bad second bound, then a key of another type; `htab` is read off the signature table -/
theorem bound_errors {β : Type} (t : ArgTy) (ht : Ttl.isKey t = false) (conv : Bytes → Except Err β) (msg : Err)
    (hdec : ∀ a, (∀ er, conv a = .error er → Conv.decode t a = .error msg) ∧
      (∀ p, conv a = .ok p → ∃ x, Conv.decode t a = .ok x))
    (cmds : List String)
    (htab : ∀ n ∈ cmds, (sigOf n).fixed = [.key (some .zset) .unspecified, t, t] ∧ ∀ t ∈ (sigOf n).rep, t = .bytes)
    (ctx : Ctx) (db : Db) (nd : NodupKeys db.dict) (key : Bytes)
    (name : String) (hname : name ∈ cmds) (a b : Bytes) (rest : List Bytes)
    (har : ArityOK (sigOf name) (rest.length + 3)) :
    (∀ er, conv a = .error er → Fails (run name ctx (key :: a :: b :: rest) db) db msg) ∧
    (∀ p er, conv a = .ok p → conv b = .error er → Fails (run name ctx (key :: a :: b :: rest) db) db msg) ∧
    (∀ p q, conv a = .ok p → conv b = .ok q → zsetView db.live key = none →
      Fails (run name ctx (key :: a :: b :: rest) db) db Msgs.WRONGTYPE_MSG) := by
  obtain ⟨e1, e2, e3⟩ := zt2_errors ctx key nd ht ht (htab name hname).1 (htab name hname).2 a b rest har
  refine ⟨fun er h => e1 _ ((hdec a).1 er h), fun p er h1 h2 => ?_, fun p q h1 h2 hv => ?_⟩
  · obtain ⟨x, hx⟩ := (hdec a).2 p h1
    exact e2 _ _ hx ((hdec b).1 er h2)
  · obtain ⟨x, hx⟩ := (hdec a).2 p h1
    obtain ⟨y, hy⟩ := (hdec b).2 q h2
    exact e3 _ _ hx hy hv

/-- when the members of the pairs are distinct, every pair is judged against the original set: CH counts the pairs
that are written and whose member is new or gets a score that is not IEEE-equal to its old one -/
theorem zaddChanged_nodup (nx xx : Bool) (z : ZSet) (items : List (Dbl × Bytes))
    (hn : (items.map Prod.snd).Nodup) :
    zaddChanged nx xx z items =
      (items.filter (fun p => zaddWrites nx xx (z.contains p.2) && (z.add p.2 p.1).2)).length := by
  induction items generalizing z with
  | nil => rfl
  | cons p ps ih =>
    rw [List.map_cons, List.nodup_cons] at hn
    simp only [zaddChanged]
    rw [ih _ hn.2, List.filter_cons]
    have hcongr : ps.filter (fun q => zaddWrites nx xx ((zaddStep nx xx z p).contains q.2) &&
          ((zaddStep nx xx z p).add q.2 q.1).2) =
        ps.filter (fun q => zaddWrites nx xx (z.contains q.2) && (z.add q.2 q.1).2) := by
      apply List.filter_congr
      intro q hq
      have hne : q.2 ≠ p.2 := by
        intro e; exact hn.1 (e ▸ List.mem_map.mpr ⟨q, hq, rfl⟩)
      have hg := get_zaddStep_other nx xx z p hne
      rw [contains_eq, contains_eq, ZSet.add_changed, ZSet.add_changed, hg]
    rw [hcongr]
    split <;> simp <;> omega

end FR.ZCmd

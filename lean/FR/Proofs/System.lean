import FR
/-!
# What the state accesses and the command bodies of `FR/Sys/Server.lean`, `FR/Sys/Process.lean` do, as functions of the state

The vocabulary of every later file: `s.conn c` (the record `getConn c` returns), `s.HasConn c`, `s.updConn c f`
(`modifyConn`), `s.emitS c r` (`emit`), each with its run equation, and the look-up of a record after an update.  Then,
one section each: MULTI / DISCARD / EXEC (`execCmd_run` from `C19m.Sys.execStart`, `queueStep`, the nested runner
`runInner` against the direct one); PUBLISH; the pub/sub tables (`setEntry`) and SUBSCRIBE / UNSUBSCRIBE; the clock
refresh `Sys.refresh`; `_run_command` (`runWith`): `notifyFn`, the subscriber-mode check `Sys.refuses` with the rest
`runWithBody` / `runScriptCmdBody` behind it, and the regular branch in closed form (`runWith_regular_run`:
`Sys.regularOut` is what the pure runner returns, `Sys.afterRegular` the state `_run_command` makes of it); the
transaction state after EXEC; SELECT and new connections; `Sys.answered` (a record update followed by a reply).
-/
namespace FR
open M
set_option linter.unusedSimpArgs false

/-- the connection record `getConn c` returns in state `s` -/
abbrev Sys.conn (s : Sys) (c : Nat) : Conn := (getConn c s).1

/-- connection `c` is registered (open) in `s` -/
def Sys.HasConn (s : Sys) (c : Nat) : Prop := ∃ x ∈ s.srv.conns, x.id = c

def Sys.updConn (s : Sys) (c : Nat) (f : Conn → Conn) : Sys :=
  { s with srv := { s.srv with conns := s.srv.conns.map fun x => if x.id == c then f x else x } }

def Sys.emitS (s : Sys) (c : Nat) (r : Reply) : Sys :=
  if (s.conn c).closed then s else { s with out := (c, r) :: s.out }

theorem getConn_run (c : Nat) (s : Sys) : getConn c s = (s.conn c, s) := rfl
theorem modifyConn_run (c : Nat) (f) (s : Sys) : modifyConn c f s = ((), s.updConn c f) := rfl
theorem getDb_run (i : Nat) (s : Sys) : getDb i s = (⟨s.srv.dbs.getD i [], s.srv.time⟩, s) := rfl
theorem setDb_run (i : Nat) (db : Db) (s : Sys) :
    setDb i db s = ((), { s with srv := { s.srv with dbs := s.srv.dbs.set i db.dict } }) := rfl
theorem clearWatches_run (c : Nat) (s : Sys) :
    clearWatches c s = ((), s.updConn c fun x => { x with watchNotified := false, watches := [] }) := rfl

theorem emit_run (c : Nat) (r : Reply) (s : Sys) : emit c r s = ((), s.emitS c r) := by
  unfold emit Sys.emitS
  simp only [bind, StateT.bind, getConn_run]
  cases (s.conn c).closed <;> rfl

/-! ### connection lookup after an update -/

theorem Sys.conn_def (s : Sys) (c : Nat) :
    s.conn c = (s.srv.conns.find? (·.id == c)).getD { id := c } := rfl

theorem Sys.hasConn_iff (s : Sys) (c : Nat) :
    s.HasConn c ↔ (s.srv.conns.find? (·.id == c)).isSome = true := by
  unfold Sys.HasConn
  rw [List.find?_isSome]
  constructor
  · rintro ⟨x, hx, rfl⟩; exact ⟨x, hx, by simp⟩
  · rintro ⟨x, hx, h⟩; exact ⟨x, hx, by simpa using h⟩

theorem Sys.conn_id (s : Sys) (c : Nat) : (s.conn c).id = c := by
  rw [Sys.conn_def]
  cases h : s.srv.conns.find? (·.id == c) with
  | none => rfl
  | some x => simpa using List.find?_some h

def Sys.mapConns (s : Sys) (g : Conn → Conn) : Sys :=
  { s with srv := { s.srv with conns := s.srv.conns.map g } }

theorem Sys.updConn_eq_mapConns (s : Sys) (c : Nat) (f : Conn → Conn) :
    s.updConn c f = s.mapConns fun x => if x.id == c then f x else x := rfl

instance Sys.decHasConn (s : Sys) (c : Nat) : Decidable (s.HasConn c) :=
  decidable_of_iff _ (Sys.hasConn_iff s c).symm

theorem Sys.hasConn_mapConns (s : Sys) (g : Conn → Conn) (c : Nat) (hid : ∀ x, (g x).id = x.id) :
    (s.mapConns g).HasConn c ↔ s.HasConn c := by
  unfold Sys.HasConn Sys.mapConns
  simp only [List.mem_map]
  constructor
  · rintro ⟨x, ⟨y, hy, rfl⟩, hx⟩; exact ⟨y, hy, by rw [← hid]; exact hx⟩
  · rintro ⟨x, hx, h⟩; exact ⟨g x, ⟨x, hx, rfl⟩, by rw [hid]; exact h⟩

/-- the record of `c` after every registered connection went through `g`: a connection that is not registered keeps its
default record -/
theorem Sys.conn_mapConns_if (s : Sys) (g : Conn → Conn) (c : Nat) (hid : ∀ x, (g x).id = x.id) :
    (s.mapConns g).conn c = if s.HasConn c then g (s.conn c) else s.conn c := by
  have : ((fun x : Conn => x.id == c) ∘ g) = fun x : Conn => x.id == c := by
    funext x; simp only [Function.comp, hid]
  simp only [Sys.conn_def, Sys.mapConns, List.find?_map, Sys.hasConn_iff, this]
  cases s.srv.conns.find? (·.id == c) <;> rfl

/-- the record of `c'` after an update of `c` -/
theorem Sys.conn_updConn (s : Sys) (c c' : Nat) (f : Conn → Conn) (hf : ∀ x, (f x).id = x.id) :
    (s.updConn c f).conn c' = if c' = c ∧ s.HasConn c' then f (s.conn c') else s.conn c' := by
  rw [Sys.updConn_eq_mapConns, Sys.conn_mapConns_if _ _ _ (by intro x; split <;> simp [hf]), Sys.conn_id]
  by_cases h1 : c' = c <;> by_cases h2 : s.HasConn c' <;> simp [h1, h2]

theorem Sys.conn_updConn_same {s : Sys} {c : Nat} (f : Conn → Conn) (h : s.HasConn c)
    (hf : ∀ x, (f x).id = x.id) : (s.updConn c f).conn c = f (s.conn c) := by
  rw [Sys.conn_updConn _ _ _ _ hf, if_pos ⟨rfl, h⟩]

theorem Sys.conn_updConn_ne {s : Sys} {c c' : Nat} (f : Conn → Conn) (hne : c' ≠ c)
    (hf : ∀ x, (f x).id = x.id) : (s.updConn c f).conn c' = s.conn c' := by
  rw [Sys.conn_updConn _ _ _ _ hf, if_neg fun h => hne h.1]

theorem Sys.conn_mapConns_pred (s : Sys) (g : Conn → Conn) (c : Nat) (Q : Conn → Prop)
    (hid : ∀ x, (g x).id = x.id) (hg : ∀ x, Q x → Q (g x)) (h : Q (s.conn c)) :
    Q ((s.mapConns g).conn c) := by
  rw [Sys.conn_mapConns_if _ _ _ hid]
  split
  · exact hg _ h
  · exact h

theorem Sys.conn_updConn_pred (s : Sys) (c c' : Nat) (f : Conn → Conn) (Q : Conn → Prop)
    (hid : ∀ x, (f x).id = x.id) (hf : ∀ x, Q x → Q (f x)) (h : Q (s.conn c')) :
    Q ((s.updConn c f).conn c') := by
  rw [Sys.conn_updConn _ _ _ _ hid]
  split
  · exact hf _ h
  · exact h

theorem Sys.hasConn_updConn {s : Sys} {c c' : Nat} (f : Conn → Conn)
    (hf : ∀ x, (f x).id = x.id) : (s.updConn c f).HasConn c' ↔ s.HasConn c' :=
  Sys.hasConn_mapConns s _ c' (by intro x; split <;> simp [hf])

@[simp] theorem Sys.updConn_dbs (s : Sys) (c f) : (s.updConn c f).srv.dbs = s.srv.dbs := rfl
@[simp] theorem Sys.updConn_subs (s : Sys) (c f) : (s.updConn c f).srv.subs = s.srv.subs := rfl
@[simp] theorem Sys.updConn_psubs (s : Sys) (c f) : (s.updConn c f).srv.psubs = s.srv.psubs := rfl
@[simp] theorem Sys.updConn_out (s : Sys) (c f) : (s.updConn c f).out = s.out := rfl
@[simp] theorem Sys.updConn_time (s : Sys) (c f) : (s.updConn c f).srv.time = s.srv.time := rfl

theorem Sys.emitS_eq (s : Sys) (c r) :
    s.emitS c r = { s with out := if (s.conn c).closed then s.out else (c, r) :: s.out } := by
  unfold Sys.emitS; split <;> rfl

theorem Sys.emitS_srv (s : Sys) (c r) : (s.emitS c r).srv = s.srv := by rw [Sys.emitS_eq]
theorem Sys.emitS_conn (s : Sys) (c r c') : (s.emitS c r).conn c' = s.conn c' := by
  simp only [Sys.conn_def, Sys.emitS_srv]
theorem Sys.emitS_crashed (s : Sys) (c r) : (s.emitS c r).crashed = s.crashed := by rw [Sys.emitS_eq]
theorem Sys.emitS_hasConn (s : Sys) (c r c') : (s.emitS c r).HasConn c' ↔ s.HasConn c' := by
  simp only [Sys.HasConn, Sys.emitS_srv]
theorem Sys.emitS_out (s : Sys) (c r) :
    (s.emitS c r).out = if (s.conn c).closed then s.out else (c, r) :: s.out := by rw [Sys.emitS_eq]


/-! ### MULTI / DISCARD / EXEC -/

theorem multiCmd_run_none {s : Sys} {c : Nat} (cis : List CI) (h : (s.conn c).tx = none) :
    multiCmd c cis s = (.ok (some .ok, cis), s.updConn c fun x => { x with tx := some [], txFailed := false }) := by
  unfold multiCmd
  simp only [bind, StateT.bind, getConn_run, h]
  rfl

theorem multiCmd_run_some {s : Sys} {c : Nat} (cis : List CI) (h : (s.conn c).tx.isSome) :
    multiCmd c cis s = (.error Msgs.MULTI_NESTED_MSG, s) := by
  unfold multiCmd
  simp only [bind, StateT.bind, getConn_run, h]
  rfl

theorem discardCmd_run_none {s : Sys} {c : Nat} (cis : List CI) (h : (s.conn c).tx = none) :
    discardCmd c cis s = (.error (Msgs.fmt1 Msgs.WITHOUT_MULTI_MSG "DISCARD"), s) := by
  unfold discardCmd
  simp only [bind, StateT.bind, getConn_run, h]
  rfl

theorem discardCmd_run_some {s : Sys} {c : Nat} (cis : List CI) (h : (s.conn c).tx.isSome) :
    discardCmd c cis s = (.ok (some .ok, cis),
      (s.updConn c fun x => { x with tx := none, txFailed := false }).updConn c
        fun x => { x with watchNotified := false, watches := [] }) := by
  unfold discardCmd
  have : (s.conn c).tx.isNone = false := by
    cases h' : (s.conn c).tx <;> simp_all
  simp only [bind, StateT.bind, getConn_run, this]
  rfl

theorem execCmd_run_none {s : Sys} {c : Nat} (inner : Inner) (cis : List CI) (h : (s.conn c).tx = none) :
    execCmd inner c cis s = (.error (Msgs.fmt1 Msgs.WITHOUT_MULTI_MSG "EXEC"), s) := by
  unfold execCmd
  simp only [bind, StateT.bind, getConn_run, h]
  rfl

theorem execCmd_run_failed {s : Sys} {c : Nat} (inner : Inner) (cis : List CI) {q}
    (h : (s.conn c).tx = some q) (hf : (s.conn c).txFailed = true) :
    execCmd inner c cis s = (.error Msgs.EXECABORT_MSG,
      (s.updConn c fun x => { x with tx := none }).updConn c
        fun x => { x with watchNotified := false, watches := [] }) := by
  unfold execCmd
  simp only [bind, StateT.bind, getConn_run, h, hf]
  rfl

theorem execCmd_run_dirty {s : Sys} {c : Nat} (inner : Inner) (cis : List CI) {q}
    (h : (s.conn c).tx = some q) (hf : (s.conn c).txFailed = false) (hw : (s.conn c).watchNotified = true) :
    execCmd inner c cis s = (.ok (some .nil, cis),
      (s.updConn c fun x => { x with tx := none, txFailed := false }).updConn c
        fun x => { x with watchNotified := false, watches := [] }) := by
  unfold execCmd
  simp only [bind, StateT.bind, getConn_run, h, hf, hw]
  rfl

theorem execCmd_eq_sequential {s : Sys} {c : Nat} (inner : Inner) (cis : List CI) {q}
    (h : (s.conn c).tx = some q) (hf : (s.conn c).txFailed = false) (hw : (s.conn c).watchNotified = false) :
    execCmd inner c cis s = (do
      modifyConn c fun x => { x with tx := none, txFailed := false }
      clearWatches c
      let results ← runQueue inner c q
      if results.any Option.isNone then
        modify fun s => { s with crashed := some "AssertionError" }
        return .ok (none, cis)
      else okR (.arr (results.map fun r => r.getD .nil)) cis : M SpecialOut) s := by
  unfold execCmd
  simp only [bind, StateT.bind, getConn_run, h, hf, hw]
  rfl

namespace C19m

/-- the state in which EXEC starts its queue: transaction closed, watches dropped -/
def Sys.execStart (s : Sys) (c : Nat) : Sys :=
  (s.updConn c fun x => { x with tx := none, txFailed := false }).updConn c
    fun x => { x with watchNotified := false, watches := [] }

theorem execStart_hasConn (s : Sys) (c c' : Nat) : (Sys.execStart s c).HasConn c' ↔ s.HasConn c' :=
  (Sys.hasConn_updConn (fun x => { x with watchNotified := false, watches := [] }) (fun _ => rfl)).trans
    (Sys.hasConn_updConn (fun x => { x with tx := none, txFailed := false }) (fun _ => rfl))

theorem execStart_conn {s : Sys} {c : Nat} (hc : s.HasConn c) :
    (Sys.execStart s c).conn c =
      { s.conn c with tx := none, txFailed := false, watchNotified := false, watches := [] } := by
  unfold Sys.execStart
  rw [Sys.conn_updConn_same (fun x => { x with watchNotified := false, watches := [] })
      ((Sys.hasConn_updConn (fun x => { x with tx := none, txFailed := false }) (fun _ => rfl)).2 hc) (fun _ => rfl),
    Sys.conn_updConn_same (fun x => { x with tx := none, txFailed := false }) hc (fun _ => rfl)]

theorem execStart_conn_ne (s : Sys) {c c' : Nat} (hne : c' ≠ c) : (Sys.execStart s c).conn c' = s.conn c' := by
  unfold Sys.execStart
  rw [Sys.conn_updConn_ne (fun x => { x with watchNotified := false, watches := [] }) hne (fun _ => rfl),
    Sys.conn_updConn_ne (fun x => { x with tx := none, txFailed := false }) hne (fun _ => rfl)]

theorem execStart_srv {β : Type} (q : Server → β) (hq : ∀ (x : Server) conns, q { x with conns := conns } = q x)
    (s : Sys) (c : Nat) : q (Sys.execStart s c).srv = q s.srv :=
  (hq _ _).trans (hq _ _)

end C19m

/-- **EXEC of an open, clean transaction**: the queue is run from `C19m.Sys.execStart`; the reply is the array of the inner
replies, unless one of them is `NoResponse` (the assertion of fakeredis fails) -/
theorem execCmd_run {s : Sys} {c : Nat} (inner : Inner) (cis : List CI) {q : List (String × List Bytes)}
    (h : (s.conn c).tx = some q) (hf : (s.conn c).txFailed = false) (hw : (s.conn c).watchNotified = false) :
    execCmd inner c cis s =
      if (runQueue inner c q (C19m.Sys.execStart s c)).1.any Option.isNone then
        (.ok (none, cis), { (runQueue inner c q (C19m.Sys.execStart s c)).2 with crashed := some "AssertionError" })
      else (.ok (some (.arr ((runQueue inner c q (C19m.Sys.execStart s c)).1.map fun r => r.getD .nil)), cis),
        (runQueue inner c q (C19m.Sys.execStart s c)).2) := by
  rw [execCmd_eq_sequential inner cis h hf hw]
  unfold C19m.Sys.execStart
  simp only [bind, StateT.bind, modifyConn_run, clearWatches_run]
  generalize runQueue inner c q _ = R
  obtain ⟨rs, s2⟩ := R
  dsimp only
  cases hany : rs.any Option.isNone
  · simp only [Bool.false_eq_true, if_false]; rfl
  · simp only [if_true]; rfl

/-- one queued command, as run by EXEC (the body of the loop in `runQueue`: `runQueue_cons`) -/
def queueStep (inner : Inner) (c : Nat) (a : String × List Bytes) : M (Option Reply) :=
  match SigTable.find a.1 with
  | none => do fault "exec: unknown queued command"; pure none
  | some sig => do
    modifyConn c fun x => { x with inTx := true }
    let r ← inner sig a.2
    modifyConn c fun x => { x with inTx := false }
    pure r

theorem runQueue_nil (inner : Inner) (c : Nat) : runQueue inner c [] = pure [] := rfl

theorem runQueue_cons (inner : Inner) (c : Nat) (a : String × List Bytes) (rest) :
    runQueue inner c (a :: rest) = (do
      let r ← queueStep inner c a
      let rs ← runQueue inner c rest
      pure (r :: rs)) := by
  obtain ⟨fname, fargs⟩ := a
  rw [runQueue]
  simp only [queueStep]
  cases SigTable.find fname <;> simp only [bind_assoc, pure_bind]

theorem runQueue_cons_run (inner : Inner) (c : Nat) (a : String × List Bytes) (rest : List (String × List Bytes))
    (s : Sys) :
    runQueue inner c (a :: rest) s =
      ((queueStep inner c a s).1 :: (runQueue inner c rest (queueStep inner c a s).2).1,
        (runQueue inner c rest (queueStep inner c a s).2).2) := by
  rw [runQueue_cons]; rfl

theorem runQueue_append (inner : Inner) (c : Nat) (q1 q2 : List (String × List Bytes)) :
    runQueue inner c (q1 ++ q2) = (do
      let r1 ← runQueue inner c q1
      let r2 ← runQueue inner c q2
      pure (r1 ++ r2)) := by
  induction q1 with
  | nil => simp [runQueue_nil]
  | cons a rest ih =>
    simp only [List.cons_append, runQueue_cons, ih, bind_assoc, pure_bind]

theorem scriptCmd_inner_irrel (i1 i2 : Inner) (c name args cis) :
    scriptCmd i1 c name args cis = scriptCmd i2 c name args cis := rfl

theorem special_inner_irrel (i1 i2 : Inner) (mode : Mode) (c : Nat) (name : String) (args cis)
    (h : name ≠ "exec") : special i1 mode c name args cis = special i2 mode c name args cis := by
  unfold special
  simp only []
  split <;> first | rfl | (exfalso; exact h rfl) | exact scriptCmd_inner_irrel ..

/-- the dummy innermost runner (an EXEC cannot be queued) -/
abbrev nestedStub : Inner := fun _ _ => do fault "nested exec"; return none

/-- EXEC's nested runner on a queued script command: the direct script runner -/
theorem runInner_script (mode : Mode) (c : Nat) (sig : Sig) (raw : List Bytes)
    (hs : scriptNames.contains sig.name = true) :
    runInner mode c sig raw = runScriptCmd mode c sig raw false := by
  unfold runInner
  simp only [hs, ↓reduceIte]

/-- EXEC's nested runner on a queued command that is not a script command: `_run_command` with the dummy innermost
runner -/
theorem runInner_not_script (mode : Mode) (c : Nat) (sig : Sig) (raw : List Bytes)
    (hs : scriptNames.contains sig.name = false) :
    runInner mode c sig raw = runWith (special nestedStub) mode c sig raw false := by
  unfold runInner
  simp only [hs, Bool.false_eq_true, ↓reduceIte]

theorem scriptNames_contains_false_iff {n : String} : scriptNames.contains n = false ↔ n ∉ scriptNames := by
  rw [← List.contains_iff_mem]
  cases scriptNames.contains n <;> simp

theorem regular_notScript {n : String} {body : Body} (h : Cmd.regular n = some body) :
    scriptNames.contains n = false := by
  cases hc : scriptNames.contains n with
  | false => rfl
  | true =>
    exfalso
    simp only [scriptNames, List.contains_cons, List.contains_nil, Bool.or_false, Bool.or_eq_true, beq_iff_eq] at hc
    have e1 : Cmd.regular "eval" = none := rfl
    have e2 : Cmd.regular "evalsha" = none := rfl
    have e3 : Cmd.regular "script" = none := rfl
    rcases hc with hc | hc | hc <;> subst hc
    · rw [e1] at h; cases h
    · rw [e2] at h; cases h
    · rw [e3] at h; cases h

theorem runInner_regular_eq (mode : Mode) (c : Nat) (sig : Sig) (raw : List Bytes) {body : Body}
    (h : Cmd.regular sig.name = some body) :
    runInner mode c sig raw = runWith (special nestedStub) mode c sig raw false :=
  runInner_not_script mode c sig raw (regular_notScript h)

/-- a property of both runners is a property of EXEC's nested runner -/
theorem runInner_cases {P : M (Option Reply) → Prop} (mode : Mode) (c : Nat) (sig : Sig) (raw : List Bytes)
    (h1 : scriptNames.contains sig.name = true → P (runScriptCmd mode c sig raw false))
    (h2 : scriptNames.contains sig.name = false → P (runWith (special nestedStub) mode c sig raw false)) :
    P (runInner mode c sig raw) := by
  cases hs : scriptNames.contains sig.name with
  | true => rw [runInner_script mode c sig raw hs]; exact h1 hs
  | false => rw [runInner_not_script mode c sig raw hs]; exact h2 hs

/-- EXEC runs a queued command exactly as the client's direct request would be run - script commands included -/
theorem runInner_eq_runCommand' (mode : Mode) (c : Nat) (sig : Sig) (raw : List Bytes) (h : sig.name ≠ "exec") :
    runInner mode c sig raw = runCommand mode c sig raw false := by
  unfold runInner runCommand
  split
  · rfl
  · unfold runWith
    simp only [special_inner_irrel _ (runInner mode c) mode c sig.name _ _ h]

theorem cleanupClosed_run_nil {s : Sys} (h : s.srv.closedSockets = []) : cleanupClosed s = ((), s) := by
  unfold cleanupClosed
  simp only [bind, StateT.bind, get, getThe, MonadStateOf.get, StateT.get, h, forIn, ForIn.forIn, List.forIn'_nil, pure, StateT.pure, modify, modifyGet, MonadStateOf.modifyGet, StateT.modifyGet]
  obtain ⟨⟨_, _, _, _, _, _, _, _, _, _⟩, _, _, _, _, _⟩ := s
  simp only at h
  subst h
  rfl


/-! ### PUBLISH -/

def chanDeliveries (srv : Server) (channel message : Bytes) : List (Nat × Reply) :=
  ((srv.subs.lookup channel).getD []).map
    (fun c => (c, Reply.arr [.bulk (strBytes "message"), .bulk channel, .bulk message]))

def patDeliveries (srv : Server) (channel message : Bytes) : List (Nat × Reply) :=
  (srv.psubs.filter (fun p => Glob.globMatch p.1 channel)).flatMap fun p =>
    p.2.map fun c => (c, Reply.arr [.bulk (strBytes "pmessage"), .bulk p.1, .bulk channel, .bulk message])

theorem deliveries_eq_append (srv : Server) (ch msg : Bytes) :
    deliveries srv ch msg = chanDeliveries srv ch msg ++ patDeliveries srv ch msg := rfl

theorem mem_deliveries (srv : Server) (ch msg : Bytes) (c : Nat) (r : Reply) :
    (c, r) ∈ deliveries srv ch msg ↔
      (c ∈ (srv.subs.lookup ch).getD [] ∧ r = .arr [.bulk (strBytes "message"), .bulk ch, .bulk msg]) ∨
      (∃ pat cs, (pat, cs) ∈ srv.psubs ∧ Glob.globMatch pat ch = true ∧ c ∈ cs ∧
        r = .arr [.bulk (strBytes "pmessage"), .bulk pat, .bulk ch, .bulk msg]) := by
  unfold deliveries
  simp only [List.mem_append, List.mem_map, List.mem_flatMap, List.mem_filter, Prod.mk.injEq, Prod.exists]
  constructor
  · rintro (⟨a, ha, rfl, rfl⟩ | ⟨pat, cs, ⟨hm, hg⟩, a, ha, rfl, rfl⟩)
    · exact .inl ⟨ha, rfl⟩
    · exact .inr ⟨pat, cs, hm, hg, ha, rfl⟩
  · rintro (⟨ha, rfl⟩ | ⟨pat, cs, hm, hg, ha, rfl⟩)
    · exact .inl ⟨c, ha, rfl, rfl⟩
    · exact .inr ⟨pat, cs, ⟨hm, hg⟩, c, ha, rfl, rfl⟩

theorem forM_cons_eq {m : Type → Type} [Monad m] {α} (a : α) (as : List α) (f : α → m PUnit) :
    (a :: as).forM f = (do f a; as.forM f) := rfl

theorem set_getD_self {α} (l : List α) (i : Nat) (x : α) : l.set i (l.getD i x) = l := by
  induction l generalizing i with
  | nil => rfl
  | cons a as ih =>
    cases i with
    | zero => rfl
    | succ i => simp only [List.set_cons_succ, List.getD_cons_succ, ih]

theorem forM_emit_run (ds : List (Nat × Reply)) (s : Sys) :
    (ds.forM fun d => emit d.1 d.2) s =
      ((), { s with out := (ds.filter fun d => !(s.conn d.1).closed).reverse ++ s.out }) := by
  induction ds generalizing s with
  | nil => rfl
  | cons d ds ih =>
    rw [forM_cons_eq]
    simp only [bind, StateT.bind, emit_run, ih, Sys.emitS_conn]
    simp only [Sys.emitS, List.filter_cons]
    cases h : (s.conn d.1).closed <;> simp

theorem publish_run (ch msg : Bytes) (s : Sys) :
    publish ch msg s = ((deliveries s.srv ch msg).length,
      { s with out := ((deliveries s.srv ch msg).filter fun d => !(s.conn d.1).closed).reverse ++ s.out }) := by
  unfold publish
  simp only [bind, StateT.bind, get, getThe, MonadStateOf.get, StateT.get, forM_emit_run]
  rfl

/-! ### pub/sub tables -/

abbrev Tbl := List (Bytes × List Nat)

/-- the connections registered under `name` -/
def tblMembers (t : Tbl) (name : Bytes) : List Nat := (t.lookup name).getD []

theorem lookup_map_upd (t : Tbl) (n : Bytes) (g : List Nat → List Nat) :
    (t.map fun p => if p.1 == n then (p.1, g p.2) else p).lookup n = (t.lookup n).map g := by
  induction t with
  | nil => rfl
  | cons p t ih =>
    obtain ⟨k, v⟩ := p
    simp only [List.map_cons]
    by_cases h : k = n
    · subst h; simp
    · have h1 : (k == n) = false := by simpa using h
      have h2 : (n == k) = false := by simpa using fun e => h e.symm
      simp only [h1, Bool.false_eq_true, if_false, List.lookup_cons, h2, ih]

theorem lookup_map_upd_ne (t : Tbl) (n m : Bytes) (g : List Nat → List Nat) (hne : m ≠ n) :
    (t.map fun p => if p.1 == n then (p.1, g p.2) else p).lookup m = t.lookup m := by
  induction t with
  | nil => rfl
  | cons p t ih =>
    obtain ⟨k, v⟩ := p
    simp only [List.map_cons]
    by_cases h : k = n
    · subst h
      have h2 : (m == k) = false := by simpa using hne
      simp only [BEq.rfl, if_true, List.lookup_cons, h2, ih]
    · have h1 : (k == n) = false := by simpa using h
      simp only [h1, Bool.false_eq_true, if_false, List.lookup_cons, ih]

theorem lookup_filter_self (t : Tbl) (n : Bytes) : (t.filter fun p => p.1 != n).lookup n = none := by
  induction t with
  | nil => rfl
  | cons p t ih =>
    obtain ⟨k, v⟩ := p
    simp only [List.filter_cons]
    by_cases h : k = n
    · subst h; simp [ih]
    · have h1 : (k != n) = true := by simpa using h
      have h2 : (n == k) = false := by simpa using fun e => h e.symm
      simp only [h1, if_true, List.lookup_cons, h2, ih]

theorem lookup_append_none (t : Tbl) (n : Bytes) (v) (h : t.lookup n = none) :
    (t ++ [(n, v)]).lookup n = some v := by
  induction t with
  | nil => simp
  | cons p t ih =>
    obtain ⟨k, w⟩ := p
    simp only [List.lookup_cons, List.cons_append] at h ⊢
    cases hk : n == k
    · simp only [hk] at h; simp only [ih h]
    · simp [hk] at h


theorem lookup_filter_ne (t : Tbl) (n m : Bytes) (hne : m ≠ n) :
    (t.filter fun p => p.1 != n).lookup m = t.lookup m := by
  induction t with
  | nil => rfl
  | cons p t ih =>
    obtain ⟨k, v⟩ := p
    simp only [List.filter_cons]
    by_cases h : k = n
    · subst h
      have h2 : (m == k) = false := by simpa using hne
      simp [h2, ih, List.lookup_cons]
    · have h1 : (k != n) = true := by simpa using h
      simp only [h1, if_true, List.lookup_cons, ih]

/-- `t` with the entry of `n` changed by `g`: a missing entry is appended (as `g []`), an entry that becomes empty is
removed — the two ways in which `tblSubscribe` / `tblUnsubscribe` rewrite the dict -/
def setEntry (t : Tbl) (n : Bytes) (g : List Nat → List Nat) : Tbl :=
  match t.lookup n with
  | some cs => if (g cs).isEmpty then t.filter (fun p => p.1 != n) else t.map fun p => if p.1 == n then (p.1, g p.2) else p
  | none => t ++ [(n, g [])]

theorem tblMembers_setEntry (t : Tbl) (n : Bytes) (g : List Nat → List Nat) (m : Bytes) :
    tblMembers (setEntry t n g) m = if m = n then g (tblMembers t n) else tblMembers t m := by
  unfold setEntry tblMembers
  by_cases hm : m = n
  · subst hm
    rw [if_pos rfl]
    cases h : t.lookup m with
    | none => simp only [lookup_append_none _ _ _ h, Option.getD_some, Option.getD_none]
    | some cs =>
      simp only [Option.getD_some]
      split
      · rename_i he
        rw [lookup_filter_self, List.isEmpty_iff.mp he]; rfl
      · rw [lookup_map_upd t m g, h]; rfl
  · rw [if_neg hm]
    cases h : t.lookup n with
    | none =>
      have : (m == n) = false := by simpa using hm
      simp [List.lookup_append, List.lookup_cons, this]
    | some cs =>
      simp only
      split
      · rw [lookup_filter_ne t n m hm]
      · rw [lookup_map_upd_ne t n m g hm]

/-- SUBSCRIBE of `c` to `n`: nothing if `c` is listed already, else `c` is put at the end of the entry -/
theorem tblSubscribe_eq (t : Tbl) (n : Bytes) (c : Nat) :
    tblSubscribe t n c =
      if (tblMembers t n).contains c then (t, false) else (setEntry t n (· ++ [c]), true) := by
  unfold tblSubscribe setEntry tblMembers
  cases h : t.lookup n with
  | none => rfl
  | some cs =>
    simp only [Option.getD_some]
    split
    · rfl
    · simp

/-- UNSUBSCRIBE of `c` from `n`: nothing if `c` is not listed, else `c` is taken out of the entry -/
theorem tblUnsubscribe_eq (t : Tbl) (n : Bytes) (c : Nat) :
    tblUnsubscribe t n c =
      if (tblMembers t n).contains c then (setEntry t n fun _ => (tblMembers t n).filter (· != c), true)
      else (t, false) := by
  unfold tblUnsubscribe setEntry tblMembers
  cases h : t.lookup n with
  | none => rfl
  | some cs => rfl

theorem tblSubscribe_snd (t : Tbl) (n : Bytes) (c : Nat) :
    (tblSubscribe t n c).2 = !(tblMembers t n).contains c := by
  rw [tblSubscribe_eq]; cases (tblMembers t n).contains c <;> rfl

theorem tblSubscribe_members (t : Tbl) (n : Bytes) (c : Nat) :
    tblMembers (tblSubscribe t n c).1 n =
      if (tblMembers t n).contains c then tblMembers t n else tblMembers t n ++ [c] := by
  rw [tblSubscribe_eq]
  split
  · rfl
  · rw [tblMembers_setEntry, if_pos rfl]

theorem tblSubscribe_members_ne (t : Tbl) (n m : Bytes) (c : Nat) (hne : m ≠ n) :
    tblMembers (tblSubscribe t n c).1 m = tblMembers t m := by
  rw [tblSubscribe_eq]
  split
  · rfl
  · rw [tblMembers_setEntry, if_neg hne]

theorem tblUnsubscribe_snd (t : Tbl) (n : Bytes) (c : Nat) :
    (tblUnsubscribe t n c).2 = (tblMembers t n).contains c := by
  rw [tblUnsubscribe_eq]; cases (tblMembers t n).contains c <;> rfl

theorem filter_ne_of_not_contains (cs : List Nat) (c : Nat) (h : cs.contains c = false) :
    cs.filter (· != c) = cs := by
  rw [List.filter_eq_self]
  intro a ha
  have : a ≠ c := by rintro rfl; simp_all
  simpa using this

theorem tblUnsubscribe_members (t : Tbl) (n : Bytes) (c : Nat) :
    tblMembers (tblUnsubscribe t n c).1 n = (tblMembers t n).filter (· != c) := by
  rw [tblUnsubscribe_eq]
  split
  · rw [tblMembers_setEntry, if_pos rfl]
  · rename_i hc
    exact (filter_ne_of_not_contains _ _ (by simpa using hc)).symm

theorem tblUnsubscribe_members_ne (t : Tbl) (n m : Bytes) (c : Nat) (hne : m ≠ n) :
    tblMembers (tblUnsubscribe t n c).1 m = tblMembers t m := by
  rw [tblUnsubscribe_eq]
  split
  · rw [tblMembers_setEntry, if_neg hne]
  · rfl

theorem tblUnsubscribe_unknown (t : Tbl) (n : Bytes) (c : Nat) (h : (tblMembers t n).contains c = false) :
    tblUnsubscribe t n c = (t, false) := by
  rw [tblUnsubscribe_eq, h]; rfl


/-! ### SUBSCRIBE / UNSUBSCRIBE -/

def Sys.tbl (s : Sys) (pattern : Bool) : Tbl := if pattern then s.srv.psubs else s.srv.subs

def Sys.setTbl (s : Sys) (pattern : Bool) (t : Tbl) : Sys :=
  { s with srv := if pattern then { s.srv with psubs := t } else { s.srv with subs := t } }

theorem Sys.setTbl_conns (s : Sys) (p t) : (s.setTbl p t).srv.conns = s.srv.conns := by
  unfold Sys.setTbl; cases p <;> rfl
theorem Sys.setTbl_dbs (s : Sys) (p t) : (s.setTbl p t).srv.dbs = s.srv.dbs := by
  unfold Sys.setTbl; cases p <;> rfl
theorem Sys.setTbl_out (s : Sys) (p t) : (s.setTbl p t).out = s.out := rfl
theorem Sys.setTbl_conn (s : Sys) (p t c) : (s.setTbl p t).conn c = s.conn c := by
  simp only [Sys.conn_def, Sys.setTbl_conns]
theorem Sys.setTbl_hasConn (s : Sys) (p t c) : (s.setTbl p t).HasConn c ↔ s.HasConn c := by
  simp only [Sys.HasConn, Sys.setTbl_conns]
theorem Sys.setTbl_tbl (s : Sys) (p t) : (s.setTbl p t).tbl p = t := by
  unfold Sys.setTbl Sys.tbl; cases p <;> rfl

def subAck (pattern : Bool) (name : Bytes) (count : Nat) : Reply :=
  .arr [.bulk (strBytes (if pattern then "psubscribe" else "subscribe")), .bulk name, .int count]

/-- the state after subscribing to one name, before the acknowledgement -/
def Sys.subState (s : Sys) (c : Nat) (pattern : Bool) (name : Bytes) : Sys :=
  let r := tblSubscribe (s.tbl pattern) name c
  let s1 := s.setTbl pattern r.1
  if r.2 then s1.updConn c fun x => { x with pubsub := x.pubsub + 1 } else s1

def subStep (c : Nat) (pattern : Bool) (name : Bytes) : M Unit := do
  let s ← get
  let t := if pattern then s.srv.psubs else s.srv.subs
  let (t', added) := tblSubscribe t name c
  modify fun s => { s with srv := if pattern then { s.srv with psubs := t' } else { s.srv with subs := t' } }
  if added then modifyConn c fun x => { x with pubsub := x.pubsub + 1 }
  let conn ← getConn c
  emit c (.arr [.bulk (strBytes (if pattern then "psubscribe" else "subscribe")), .bulk name, .int conn.pubsub])

theorem subscribeGen_eq (c : Nat) (pattern : Bool) (names : List Bytes) :
    subscribeGen c pattern names = names.forM (subStep c pattern) := rfl

theorem subStep_run (c : Nat) (pattern : Bool) (name : Bytes) (s : Sys) :
    subStep c pattern name s =
      ((), (s.subState c pattern name).emitS c (subAck pattern name ((s.subState c pattern name).conn c).pubsub)) := by
  unfold subStep Sys.subState
  simp only [bind, StateT.bind, get, getThe, MonadStateOf.get, StateT.get]
  cases h : (tblSubscribe (s.tbl pattern) name c).2 <;>
  · have h' : (tblSubscribe (if pattern then s.srv.psubs else s.srv.subs) name c).2 = _ := h
    simp only [pure, h', Bool.false_eq_true, if_false, if_true, StateT.bind, emit_run, getConn_run,
      modifyConn_run, modify, modifyGet, MonadStateOf.modifyGet, StateT.modifyGet]
    rfl

theorem Sys.conn_updConn_proj {β} (s : Sys) (c c' : Nat) (f : Conn → Conn) (p : Conn → β)
    (hf : ∀ x, (f x).id = x.id) (hp : ∀ x, p (f x) = p x) :
    p ((s.updConn c f).conn c') = p (s.conn c') := by
  rw [Sys.conn_updConn _ _ _ _ hf]
  split
  · exact hp _
  · rfl

theorem Sys.subState_proj {β} (s : Sys) (c c' : Nat) (pattern : Bool) (name : Bytes) (p : Conn → β)
    (hp : ∀ (x : Conn) n, p { x with pubsub := n } = p x) :
    p ((s.subState c pattern name).conn c') = p (s.conn c') := by
  unfold Sys.subState
  simp only
  split
  · refine (Sys.conn_updConn_proj _ c c' (fun x => { x with pubsub := x.pubsub + 1 }) p (fun _ => rfl) (fun x => hp x _)).trans ?_
    rw [Sys.setTbl_conn]
  · rw [Sys.setTbl_conn]

theorem Sys.subState_out (s : Sys) (c : Nat) (pattern : Bool) (name : Bytes) :
    (s.subState c pattern name).out = s.out := by
  unfold Sys.subState; simp only; split <;> rfl

theorem Sys.subState_dbs (s : Sys) (c : Nat) (pattern : Bool) (name : Bytes) :
    (s.subState c pattern name).srv.dbs = s.srv.dbs := by
  unfold Sys.subState; simp only; split <;> simp only [Sys.updConn_dbs, Sys.setTbl_dbs]

theorem Sys.subState_tbl (s : Sys) (c : Nat) (pattern : Bool) (name : Bytes) :
    (s.subState c pattern name).tbl pattern = (tblSubscribe (s.tbl pattern) name c).1 := by
  unfold Sys.subState; simp only; split
  · exact Sys.setTbl_tbl ..
  · exact Sys.setTbl_tbl ..

theorem Sys.subState_pubsub (s : Sys) (c : Nat) (pattern : Bool) (name : Bytes) (hc : s.HasConn c) :
    ((s.subState c pattern name).conn c).pubsub =
      (s.conn c).pubsub + if (tblMembers (s.tbl pattern) name).contains c then 0 else 1 := by
  unfold Sys.subState
  simp only [tblSubscribe_snd]
  cases (tblMembers (s.tbl pattern) name).contains c
  · simp only [Bool.not_false, if_true, Bool.false_eq_true, if_false]
    refine (congrArg Conn.pubsub (Sys.conn_updConn_same (fun x => { x with pubsub := x.pubsub + 1 })
      ((Sys.setTbl_hasConn ..).2 hc) (fun _ => rfl))).trans ?_
    rw [Sys.setTbl_conn]
  · simp only [Bool.not_true, Bool.false_eq_true, if_false, if_true, Sys.setTbl_conn, Nat.add_zero]

theorem subscribeGen_single_run (c : Nat) (pattern : Bool) (name : Bytes) (s : Sys) :
    subscribeGen c pattern [name] s =
      ((), (s.subState c pattern name).emitS c (subAck pattern name ((s.subState c pattern name).conn c).pubsub)) := by
  rw [subscribeGen_eq, forM_cons_eq]
  simp only [bind, StateT.bind, subStep_run]
  rfl

/-! a `forM` of steps that each change the state and acknowledge to `c` (the loops of SUBSCRIBE and UNSUBSCRIBE) -/

theorem forM_ack_out (c : Nat) (step : Bytes → M Unit) (st : Sys → Bytes → Sys) (ack : Sys → Bytes → Reply)
    (hrun : ∀ n s, step n s = ((), (st s n).emitS c (ack s n)))
    (hcl : ∀ s n, ((st s n).conn c).closed = (s.conn c).closed)
    (hout : ∀ s n, (st s n).out = s.out) (names : List Bytes) (s : Sys)
    (hopen : (s.conn c).closed = false) :
    ∃ acks : List (Nat × Reply), (names.forM step s).2.out = acks ++ s.out ∧
      acks.length = names.length ∧ ∀ a ∈ acks, a.1 = c := by
  induction names generalizing s with
  | nil => exact ⟨[], rfl, rfl, by simp⟩
  | cons n ns ih =>
    rw [forM_cons_eq]
    simp only [bind, StateT.bind, hrun]
    have h1 : ((st s n).conn c).closed = false := by rw [hcl]; exact hopen
    obtain ⟨acks, h2, h3, h4⟩ := ih ((st s n).emitS c (ack s n)) (by rw [Sys.emitS_conn]; exact h1)
    refine ⟨acks ++ [(c, ack s n)], ?_, ?_, ?_⟩
    · rw [h2, Sys.emitS_out, h1, hout]; simp
    · simp [h3]
    · intro a ha
      rcases List.mem_append.1 ha with h | h
      · exact h4 a h
      · simp at h; rw [h]

theorem forM_ack_frame {β} (P : Sys → β) (c : Nat) (step : Bytes → M Unit) (st : Sys → Bytes → Sys)
    (ack : Sys → Bytes → Reply)
    (hrun : ∀ n s, step n s = ((), (st s n).emitS c (ack s n)))
    (hst : ∀ s n, P (st s n) = P s) (hemit : ∀ s r, P (s.emitS c r) = P s)
    (names : List Bytes) (s : Sys) : P (names.forM step s).2 = P s := by
  induction names generalizing s with
  | nil => rfl
  | cons n ns ih =>
    rw [forM_cons_eq]
    simp only [bind, StateT.bind, hrun]
    rw [ih, hemit, hst]

theorem subscribeGen_out (c : Nat) (pattern : Bool) (names : List Bytes) (s : Sys)
    (hopen : (s.conn c).closed = false) :
    ∃ acks : List (Nat × Reply), (subscribeGen c pattern names s).2.out = acks ++ s.out ∧
      acks.length = names.length ∧ ∀ a ∈ acks, a.1 = c :=
  forM_ack_out c _ (fun s n => s.subState c pattern n)
    (fun s n => subAck pattern n ((s.subState c pattern n).conn c).pubsub)
    (fun n s => subStep_run c pattern n s)
    (fun s n => Sys.subState_proj s c c pattern n Conn.closed (fun _ _ => rfl))
    (fun s n => Sys.subState_out s c pattern n) names s hopen

theorem subscribeGen_closed_out (c : Nat) (pattern : Bool) (names : List Bytes) (s : Sys)
    (hcl : (s.conn c).closed = true) : (subscribeGen c pattern names s).2.out = s.out := by
  rw [subscribeGen_eq]
  induction names generalizing s with
  | nil => rfl
  | cons n ns ih =>
    rw [forM_cons_eq]
    simp only [bind, StateT.bind, subStep_run]
    have h1 : ((s.subState c pattern n).conn c).closed = true := by
      rw [Sys.subState_proj _ _ _ _ _ Conn.closed (fun _ _ => rfl)]; exact hcl
    rw [ih _ (by rw [Sys.emitS_conn]; exact h1), Sys.emitS_out, h1, Sys.subState_out]; rfl



def unsubType (pattern : Bool) : Bytes := strBytes (if pattern then "punsubscribe" else "unsubscribe")

def unsubAck (pattern : Bool) (name : Bytes) (count : Nat) : Reply :=
  .arr [.bulk (unsubType pattern), .bulk name, .int count]

def Sys.unsubState (s : Sys) (c : Nat) (pattern : Bool) (name : Bytes) : Sys :=
  let r := tblUnsubscribe (s.tbl pattern) name c
  let s1 := s.setTbl pattern r.1
  if r.2 then s1.updConn c fun x => { x with pubsub := x.pubsub - 1 } else s1

def unsubStep (c : Nat) (pattern : Bool) (name : Bytes) : M Unit := do
  let s ← get
  let t := if pattern then s.srv.psubs else s.srv.subs
  let (t', removed) := tblUnsubscribe t name c
  modify fun s => { s with srv := if pattern then { s.srv with psubs := t' } else { s.srv with subs := t' } }
  if removed then modifyConn c fun x => { x with pubsub := x.pubsub - 1 }
  let conn ← getConn c
  emit c (.arr [.bulk (unsubType pattern), .bulk name, .int conn.pubsub])

theorem unsubStep_run (c : Nat) (pattern : Bool) (name : Bytes) (s : Sys) :
    unsubStep c pattern name s =
      ((), (s.unsubState c pattern name).emitS c (unsubAck pattern name ((s.unsubState c pattern name).conn c).pubsub)) := by
  unfold unsubStep Sys.unsubState
  simp only [bind, StateT.bind, get, getThe, MonadStateOf.get, StateT.get]
  cases h : (tblUnsubscribe (s.tbl pattern) name c).2 <;>
  · have h' : (tblUnsubscribe (if pattern then s.srv.psubs else s.srv.subs) name c).2 = _ := h
    simp only [pure, h', Bool.false_eq_true, if_false, if_true, StateT.bind, emit_run, getConn_run,
      modifyConn_run, modify, modifyGet, MonadStateOf.modifyGet, StateT.modifyGet]
    rfl

/-- the names `UNSUBSCRIBE` without arguments expands to -/
def Sys.subscribedNames (s : Sys) (c : Nat) (pattern : Bool) : List Bytes :=
  ((s.tbl pattern).filter fun p => p.2.contains c).map Prod.fst

theorem unsubscribeGen_explicit (c : Nat) (pattern : Bool) (names : List Bytes) (s : Sys) (h : names ≠ []) :
    unsubscribeGen c pattern names s = names.forM (unsubStep c pattern) s := by
  unfold unsubscribeGen
  have : names.isEmpty = false := by cases names <;> simp_all
  simp only [bind, StateT.bind, get, getThe, MonadStateOf.get, StateT.get, this, pure, StateT.pure,
    Bool.not_false, Bool.not_true, Bool.false_and, Bool.false_eq_true, if_false, if_true]
  rfl

theorem unsubscribeGen_nil_none (c : Nat) (pattern : Bool) (s : Sys) (h : s.subscribedNames c pattern = []) :
    unsubscribeGen c pattern [] s =
      ((), s.emitS c (.arr [.bulk (unsubType pattern), .nil, .int (s.conn c).pubsub])) := by
  unfold unsubscribeGen
  have h' : (List.filter (fun p => p.2.contains c) (if pattern then s.srv.psubs else s.srv.subs)).map Prod.fst = [] := h
  simp only [bind, StateT.bind, get, getThe, MonadStateOf.get, StateT.get, pure, StateT.pure, List.isEmpty_nil,
    Bool.not_false, Bool.not_true, Bool.true_and, Bool.false_eq_true, if_false, if_true, h', getConn_run, emit_run]
  rfl

theorem unsubscribeGen_nil_some (c : Nat) (pattern : Bool) (s : Sys) (h : s.subscribedNames c pattern ≠ []) :
    unsubscribeGen c pattern [] s = (s.subscribedNames c pattern).forM (unsubStep c pattern) s := by
  unfold unsubscribeGen
  have h' : ((List.filter (fun p => p.2.contains c) (if pattern then s.srv.psubs else s.srv.subs)).map Prod.fst).isEmpty = false := by
    have : (s.subscribedNames c pattern).isEmpty = false := by
      cases h2 : s.subscribedNames c pattern <;> simp_all
    exact this
  simp only [bind, StateT.bind, get, getThe, MonadStateOf.get, StateT.get, pure, StateT.pure, List.isEmpty_nil,
    Bool.not_false, Bool.not_true, Bool.true_and, Bool.false_eq_true, if_false, if_true, h']
  rfl


theorem Sys.unsubState_proj {β} (s : Sys) (c c' : Nat) (pattern : Bool) (name : Bytes) (p : Conn → β)
    (hp : ∀ (x : Conn) n, p { x with pubsub := n } = p x) :
    p ((s.unsubState c pattern name).conn c') = p (s.conn c') := by
  unfold Sys.unsubState
  simp only
  split
  · refine (Sys.conn_updConn_proj _ c c' (fun x => { x with pubsub := x.pubsub - 1 }) p (fun _ => rfl) (fun x => hp x _)).trans ?_
    rw [Sys.setTbl_conn]
  · rw [Sys.setTbl_conn]

theorem Sys.unsubState_out (s : Sys) (c : Nat) (pattern : Bool) (name : Bytes) :
    (s.unsubState c pattern name).out = s.out := by
  unfold Sys.unsubState; simp only; split <;> rfl

theorem Sys.unsubState_dbs (s : Sys) (c : Nat) (pattern : Bool) (name : Bytes) :
    (s.unsubState c pattern name).srv.dbs = s.srv.dbs := by
  unfold Sys.unsubState; simp only; split <;> simp only [Sys.updConn_dbs, Sys.setTbl_dbs]

theorem Sys.unsubState_tbl (s : Sys) (c : Nat) (pattern : Bool) (name : Bytes) :
    (s.unsubState c pattern name).tbl pattern = (tblUnsubscribe (s.tbl pattern) name c).1 := by
  unfold Sys.unsubState; simp only; split
  · exact Sys.setTbl_tbl ..
  · exact Sys.setTbl_tbl ..

theorem Sys.unsubState_pubsub (s : Sys) (c : Nat) (pattern : Bool) (name : Bytes) (hc : s.HasConn c) :
    ((s.unsubState c pattern name).conn c).pubsub =
      (s.conn c).pubsub - if (tblMembers (s.tbl pattern) name).contains c then 1 else 0 := by
  unfold Sys.unsubState
  simp only [tblUnsubscribe_snd]
  cases (tblMembers (s.tbl pattern) name).contains c
  · simp only [Bool.false_eq_true, if_false, Sys.setTbl_conn, Nat.sub_zero]
  · simp only [if_true]
    refine (congrArg Conn.pubsub (Sys.conn_updConn_same (fun x => { x with pubsub := x.pubsub - 1 })
      ((Sys.setTbl_hasConn ..).2 hc) (fun _ => rfl))).trans ?_
    rw [Sys.setTbl_conn]

theorem Sys.setTbl_self (s : Sys) (p : Bool) : s.setTbl p (s.tbl p) = s := by
  unfold Sys.setTbl Sys.tbl; cases p <;> rfl

theorem Sys.unsubState_unknown (s : Sys) (c : Nat) (pattern : Bool) (name : Bytes)
    (h : (tblMembers (s.tbl pattern) name).contains c = false) : s.unsubState c pattern name = s := by
  unfold Sys.unsubState
  simp only [tblUnsubscribe_unknown _ _ _ h, Bool.false_eq_true, if_false, Sys.setTbl_self]

theorem unsubscribeGen_single_run (c : Nat) (pattern : Bool) (name : Bytes) (s : Sys) :
    unsubscribeGen c pattern [name] s =
      ((), (s.unsubState c pattern name).emitS c (unsubAck pattern name ((s.unsubState c pattern name).conn c).pubsub)) := by
  rw [unsubscribeGen_explicit _ _ _ _ (by simp), forM_cons_eq]
  simp only [bind, StateT.bind, unsubStep_run]
  rfl

theorem forM_unsubStep_out (c : Nat) (pattern : Bool) (names : List Bytes) (s : Sys)
    (hopen : (s.conn c).closed = false) :
    ∃ acks : List (Nat × Reply), (names.forM (unsubStep c pattern) s).2.out = acks ++ s.out ∧
      acks.length = names.length ∧ ∀ a ∈ acks, a.1 = c :=
  forM_ack_out c _ (fun s n => s.unsubState c pattern n)
    (fun s n => unsubAck pattern n ((s.unsubState c pattern n).conn c).pubsub)
    (fun n s => unsubStep_run c pattern n s)
    (fun s n => Sys.unsubState_proj s c c pattern n Conn.closed (fun _ _ => rfl))
    (fun s n => Sys.unsubState_out s c pattern n) names s hopen

theorem unsubscribeGen_out (c : Nat) (pattern : Bool) (names : List Bytes) (s : Sys)
    (hopen : (s.conn c).closed = false) :
    ∃ acks : List (Nat × Reply), (unsubscribeGen c pattern names s).2.out = acks ++ s.out ∧
      acks.length = (if names = [] then max 1 (s.subscribedNames c pattern).length else names.length) ∧
      ∀ a ∈ acks, a.1 = c := by
  by_cases hn : names = []
  · subst hn
    by_cases hs : s.subscribedNames c pattern = []
    · rw [unsubscribeGen_nil_none _ _ _ hs]
      refine ⟨[(c, .arr [.bulk (unsubType pattern), .nil, .int (s.conn c).pubsub])], ?_, by simp [hs], by simp⟩
      rw [Sys.emitS_out, hopen]; rfl
    · rw [unsubscribeGen_nil_some _ _ _ hs]
      obtain ⟨acks, h1, h2, h3⟩ := forM_unsubStep_out c pattern (s.subscribedNames c pattern) s hopen
      refine ⟨acks, h1, ?_, h3⟩
      have : 1 ≤ (s.subscribedNames c pattern).length := by
        cases h : s.subscribedNames c pattern <;> simp_all
      simp only [if_true, h2]; omega
  · rw [unsubscribeGen_explicit _ _ _ _ hn]
    simp only [hn, if_false]
    exact forM_unsubStep_out c pattern names s hopen

theorem forM_subStep_frame {β} (P : Sys → β) (c : Nat) (pattern : Bool)
    (hst : ∀ s n, P (s.subState c pattern n) = P s) (hemit : ∀ s r, P (s.emitS c r) = P s)
    (names : List Bytes) (s : Sys) : P (subscribeGen c pattern names s).2 = P s :=
  forM_ack_frame P c _ (fun s n => s.subState c pattern n)
    (fun s n => subAck pattern n ((s.subState c pattern n).conn c).pubsub)
    (fun n s => subStep_run c pattern n s) hst hemit names s

theorem forM_unsubStep_frame {β} (P : Sys → β) (c : Nat) (pattern : Bool)
    (hst : ∀ s n, P (s.unsubState c pattern n) = P s) (hemit : ∀ s r, P (s.emitS c r) = P s)
    (names : List Bytes) (s : Sys) : P (names.forM (unsubStep c pattern) s).2 = P s :=
  forM_ack_frame P c _ (fun s n => s.unsubState c pattern n)
    (fun s n => unsubAck pattern n ((s.unsubState c pattern n).conn c).pubsub)
    (fun n s => unsubStep_run c pattern n s) hst hemit names s

theorem unsubscribeGen_frame {β} (P : Sys → β) (c : Nat) (pattern : Bool)
    (hst : ∀ s n, P (s.unsubState c pattern n) = P s) (hemit : ∀ s r, P (s.emitS c r) = P s)
    (names : List Bytes) (s : Sys) : P (unsubscribeGen c pattern names s).2 = P s := by
  by_cases hn : names = []
  · subst hn
    by_cases hs : s.subscribedNames c pattern = []
    · rw [unsubscribeGen_nil_none _ _ _ hs]; exact hemit ..
    · rw [unsubscribeGen_nil_some _ _ _ hs]; exact forM_unsubStep_frame P c pattern hst hemit _ s
  · rw [unsubscribeGen_explicit _ _ _ _ hn]; exact forM_unsubStep_frame P c pattern hst hemit _ s



theorem nextClock_run (s : Sys) : nextClock s =
    match s.clocks with
    | t :: rest => (t, { s with clocks := rest })
    | [] => (s.srv.time, if s.fault.isNone then { s with fault := some "clock readings exhausted" } else s) := by
  obtain ⟨srv, out, clocks, picks, flt, crashed⟩ := s
  cases clocks <;> rfl

theorem nextClock_srv (s : Sys) : (nextClock s).2.srv = s.srv := by
  rw [nextClock_run]
  split
  · rfl
  · simp only; split <;> rfl

theorem nextClock_out (s : Sys) : (nextClock s).2.out = s.out := by
  rw [nextClock_run]
  split
  · rfl
  · simp only; split <;> rfl

/-- the state after the clock refresh of `_process_command` -/
def Sys.refresh (s : Sys) : Sys :=
  { (nextClock s).2 with srv := { (nextClock s).2.srv with time := (nextClock s).1 } }

theorem Sys.refresh_conn (s : Sys) (c : Nat) : s.refresh.conn c = s.conn c := by
  simp only [Sys.conn_def, Sys.refresh, nextClock_srv]
theorem Sys.refresh_hasConn (s : Sys) (c : Nat) : s.refresh.HasConn c ↔ s.HasConn c := by
  simp only [Sys.HasConn, Sys.refresh, nextClock_srv]
theorem Sys.refresh_out (s : Sys) : s.refresh.out = s.out := nextClock_out s
theorem Sys.refresh_subs (s : Sys) : s.refresh.srv.subs = s.srv.subs := by
  simp only [Sys.refresh, nextClock_srv]
theorem Sys.refresh_psubs (s : Sys) : s.refresh.srv.psubs = s.srv.psubs := by
  simp only [Sys.refresh, nextClock_srv]



/-! ### regular commands through `runWith` -/

def notifyFn (d : Nat) (key : Bytes) (x : Conn) : Conn :=
  let x := if x.watches.contains (d, key) then { x with watchNotified := true } else x
  match x.parked with
  | some p => if p.db == d then { x with parked := some { p with woken := true } } else x
  | none => x

theorem notifyWatch_run (d : Nat) (key : Bytes) (s : Sys) :
    notifyWatch d key s = ((), s.mapConns (notifyFn d key)) := rfl

/-- `notify_watch` touches two fields of a connection: the dirty flag of WATCH and the wake-up flag of a parked pop -/
theorem notifyFn_fields (d : Nat) (key : Bytes) (x : Conn) :
    notifyFn d key x = { x with
      watchNotified := x.watchNotified || x.watches.contains (d, key)
      parked := x.parked.map fun p => if p.db == d then { p with woken := true } else p } := by
  obtain ⟨id, db, tx, txFailed, inTx, wn, watches, pubsub, buf, paused, closed, dead, parked⟩ := x
  unfold notifyFn
  cases hw : watches.contains (d, key) <;> cases parked with
  | none => simp [hw]
  | some p => by_cases hp : p.db = d <;> simp [hw, hp]

/-- normal (non-transaction, nothing watched) mode of a connection -/
def Conn.normal (x : Conn) : Prop := x.tx = none ∧ x.watches = [] ∧ x.watchNotified = false

theorem notifyFn_id (d key x) : (notifyFn d key x).id = x.id := by rw [notifyFn_fields]

theorem notifyFn_normal (d key x) (h : Conn.normal x) : Conn.normal (notifyFn d key x) := by
  rw [notifyFn_fields]
  exact ⟨h.1, h.2.1, by simp [h.2.1, h.2.2]⟩

/-- the keys of one command notified in turn: every connection goes through `notifyFn` for each of them -/
theorem forM_notifyWatch_run (d : Nat) (ks : List Bytes) (s : Sys) :
    ks.forM (notifyWatch d) s = ((), s.mapConns fun x => ks.foldl (fun x k => notifyFn d k x) x) := by
  induction ks generalizing s with
  | nil => simp [Sys.mapConns]; rfl
  | cons k ks ih =>
    rw [forM_cons_eq]
    simp only [bind, StateT.bind, notifyWatch_run, ih, Sys.mapConns, List.map_map, List.foldl_cons]
    rfl

theorem foldl_notifyFn_id (d : Nat) (ks : List Bytes) (x : Conn) :
    (ks.foldl (fun x k => notifyFn d k x) x).id = x.id := by
  induction ks generalizing x with
  | nil => rfl
  | cons k ks ih => rw [List.foldl_cons, ih, notifyFn_id]

theorem forM_notifyWatch_frame {β} (P : Sys → β) (hP : ∀ s g, P (s.mapConns g) = P s)
    (d : Nat) (ks : List Bytes) (s : Sys) : P (ks.forM (notifyWatch d) s).2 = P s := by
  rw [forM_notifyWatch_run, hP]

theorem forM_notifyWatch_pred (Q : Conn → Prop) (hQ : ∀ d key x, Q x → Q (notifyFn d key x))
    (d : Nat) (ks : List Bytes) (c : Nat) (s : Sys)
    (h : Q (s.conn c)) : Q ((ks.forM (notifyWatch d) s).2.conn c) := by
  rw [forM_notifyWatch_run]
  refine Sys.conn_mapConns_pred _ _ _ Q (foldl_notifyFn_id d ks) (fun x hx => ?_) h
  induction ks generalizing x with
  | nil => exact hx
  | cons k ks ih => exact ih _ (hQ d k x hx)

def Sys.faultS (s : Sys) (f : Option String) : Sys :=
  match f with
  | some msg => if s.fault.isNone then { s with fault := some msg } else s
  | none => s

theorem Sys.faultS_eq (s : Sys) (f : Option String) : s.faultS f = { s with fault := s.fault.or f } := by
  obtain ⟨srv, out, clocks, picks, flt, crashed⟩ := s
  cases f <;> cases flt <;> rfl

theorem Sys.faultS_srv (s : Sys) (f) : (s.faultS f).srv = s.srv := by rw [Sys.faultS_eq]

/-- what the pure runner returns for a regular command issued on connection `c` in state `s`, as the regular branch of
`_run_command` calls it (`runWithBody`, with `runGate` as the gate): on the selected database, in the context built from
the state.  With `Sys.afterRegular` it is that branch in closed form (`runWith_regular_run`); `regularStep`
(Tower.lean) is the same branch as a computation (`regularStep_run`); on a connection that is not subscribed the gate is
open and it is `Sys.run` (`Sys.regularOut_open`, Request.lean) -/
def Sys.regularOut (s : Sys) (c : Nat) (sig : Sig) (body : Body) (raw : List Bytes) (fromScript : Bool) : RunOut :=
  runRegular sig body
    { version := s.srv.version, time := s.srv.time, dbnum := (s.conn c).db, inTx := (s.conn c).inTx, picks := s.picks }
    (runGate sig fromScript ((s.conn c).pubsub > 0)) raw ⟨s.srv.dbs.getD (s.conn c).db [], s.srv.time⟩

/-- what `_run_command` makes of the state once the pure runner has returned `o` for a command on database `d`: the
database written back, the picks used up, a model fault recorded, the watchers of the changed keys notified
(`Sys.afterRegular_eq` is the closed form) -/
def Sys.afterRegular (s : Sys) (d : Nat) (o : RunOut) : Sys :=
  (o.notified.forM (notifyWatch d)
    (Sys.faultS { s with srv := { s.srv with dbs := s.srv.dbs.set d o.db.dict }, picks := s.picks.drop o.picksUsed }
      o.fault)).2

/-! #### the subscriber-mode check at the head of `_run_command`

A subscribed connection that issues a command outside the allow-list is refused before the arguments are looked at:
the reply is the context error and the state is literally unchanged. -/

/-- `_run_command` refuses the command: the connection is in subscriber mode and the command is not on the allow-list -/
def Sys.refuses (s : Sys) (c : Nat) (sig : Sig) : Bool :=
  decide ((s.conn c).pubsub > 0) && !SigTable.pubsubAllowed.contains sig.name

def refusalReply : Reply := .err (strBytes Msgs.BAD_COMMAND_IN_PUBSUB_MSG)

theorem Sys.refuses_eq_true {s : Sys} {c : Nat} {sig : Sig} :
    s.refuses c sig = true ↔ (s.conn c).pubsub > 0 ∧ sig.name ∉ SigTable.pubsubAllowed := by
  simp [Sys.refuses]

theorem Sys.refuses_eq_false {s : Sys} {c : Nat} {sig : Sig} :
    s.refuses c sig = false ↔ ((s.conn c).pubsub = 0 ∨ SigTable.pubsubAllowed.contains sig.name = true) := by
  simp only [Sys.refuses, Bool.and_eq_false_iff, decide_eq_false_iff_not, Bool.not_eq_false', Nat.not_lt,
    Nat.le_zero_eq, gt_iff_lt]

theorem Sys.refuses_of_unsubscribed {s : Sys} {c : Nat} (sig : Sig) (h : (s.conn c).pubsub = 0) :
    s.refuses c sig = false := Sys.refuses_eq_false.2 (.inl h)

/-- behind the check the subscriber branch of `runGate` cannot be taken -/
theorem runGate_of_not_refused {s : Sys} {c : Nat} {sig : Sig} (fromScript : Bool) (h : s.refuses c sig = false) :
    runGate sig fromScript (decide ((s.conn c).pubsub > 0)) = runGate sig fromScript false := by
  unfold Sys.refuses at h
  unfold runGate
  simp only [h, Bool.false_and, Bool.false_eq_true, if_false]

/-- for a refused command `runGate` is closed too -/
theorem runGate_of_refused {s : Sys} {c : Nat} {sig : Sig} (fromScript : Bool) (h : s.refuses c sig = true) :
    ∃ e, runGate sig fromScript (decide ((s.conn c).pubsub > 0)) = some e := by
  unfold Sys.refuses at h
  unfold runGate
  simp only [h, if_true]
  split <;> exact ⟨_, rfl⟩

/-- outside scripts `runGate` gives a refused command the subscriber-mode error -/
theorem runGate_direct_of_refused {s : Sys} {c : Nat} {sig : Sig} (h : s.refuses c sig = true) :
    runGate sig false (decide ((s.conn c).pubsub > 0)) = some Msgs.BAD_COMMAND_IN_PUBSUB_MSG := by
  unfold Sys.refuses at h
  unfold runGate
  simp only [h, Bool.false_and, Bool.false_eq_true, if_false, if_true]

/-- the pure runner with a closed gate notifies nothing, uses no pick and reports no model fault -/
theorem runRegular_gated (sig : Sig) (body : Body) (ctx : Ctx) (e : Err) (raw : List Bytes) (db : Db) :
    (runRegular sig body ctx (some e) raw db).notified = [] ∧
    (runRegular sig body ctx (some e) raw db).picksUsed = 0 ∧
    (runRegular sig body ctx (some e) raw db).fault = none := by
  unfold runRegular
  split <;> exact ⟨rfl, rfl, rfl⟩

/-- an open `runGate` means the command is not refused -/
theorem Sys.refuses_of_gate_none {s : Sys} {c : Nat} {sig : Sig} {fromScript : Bool}
    (h : runGate sig fromScript (decide ((s.conn c).pubsub > 0)) = none) : s.refuses c sig = false := by
  cases hr : s.refuses c sig with
  | false => rfl
  | true => obtain ⟨e, he⟩ := runGate_of_refused fromScript hr; rw [he] at h; cases h

/-- for a command that scripts may call, or outside scripts, a closed `runGate` is the subscriber-mode refusal -/
theorem Sys.refuses_of_gate_some {s : Sys} {c : Nat} {sig : Sig} {fromScript : Bool} {e : Err}
    (hns : (fromScript && sig.noScript) = false)
    (h : runGate sig fromScript (decide ((s.conn c).pubsub > 0)) = some e) :
    s.refuses c sig = true ∧ e = Msgs.BAD_COMMAND_IN_PUBSUB_MSG := by
  unfold runGate at h
  rw [hns] at h
  simp only [Bool.false_eq_true, if_false] at h
  split at h
  · rename_i h'
    exact ⟨h', (Option.some.inj h).symm⟩
  · cases h

/-- the part of `_run_command` (`runWith`) behind the subscriber-mode check (`runWith_eq_ite`); its regular branch in
closed form is `runWith_regular_run` -/
def runWithBody (special : Mode → Nat → String → List Arg → List CI → M (Except Err (Option Reply × List CI)))
    (mode : Mode) (c : Nat) (sig : Sig) (raw : List Bytes) (fromScript : Bool) : M (Option Reply) := do
  let conn ← getConn c
  let d := conn.db
  let db ← getDb d
  let gate := runGate sig fromScript (conn.pubsub > 0)
  match Cmd.regular sig.name with
  | some body =>
    let s ← get
    let ctx : Ctx := { version := s.srv.version, time := s.srv.time, dbnum := d, inTx := conn.inTx, picks := s.picks }
    let o := runRegular sig body ctx gate raw db
    setDb d o.db
    modify fun s => { s with picks := s.picks.drop o.picksUsed }
    match o.fault with | some f => fault f | none => pure ()
    o.notified.forM (notifyWatch d)
    return some o.reply
  | none =>
    let (db', res) := sig.apply raw db
    setDb d db'
    match res with
    | .error e => return some (.err (strBytes e))
    | .ok (.short r) => return some r
    | .ok (.ok args cis) =>
      match gate with
      | some e => return some (.err (strBytes e))
      | none =>
        match ← special mode c sig.name args cis with
        | .error e =>
          if e.startsWith "model:" then fault e
          writebackAll d cis
          return some (.err (strBytes e))
        | .ok (r, cis') =>
          writebackAll d cis'
          return r

/-- `_run_command` = the subscriber-mode check, then the rest -/
theorem runWith_eq_ite (special) (mode : Mode) (c : Nat) (sig : Sig) (raw : List Bytes) (fromScript : Bool) (s : Sys) :
    runWith special mode c sig raw fromScript s =
      if s.refuses c sig then (some refusalReply, s) else runWithBody special mode c sig raw fromScript s := by
  unfold runWith runWithBody Sys.refuses refusalReply
  simp only [bind, StateT.bind, getConn_run]
  split <;> rfl

theorem runWith_refused (special) (mode : Mode) (c : Nat) (sig : Sig) (raw : List Bytes) (fromScript : Bool) {s : Sys}
    (h : s.refuses c sig = true) :
    runWith special mode c sig raw fromScript s = (some refusalReply, s) := by
  rw [runWith_eq_ite, if_pos h]

theorem runWith_not_refused (special) (mode : Mode) (c : Nat) (sig : Sig) (raw : List Bytes) (fromScript : Bool) {s : Sys}
    (h : s.refuses c sig = false) :
    runWith special mode c sig raw fromScript s = runWithBody special mode c sig raw fromScript s := by
  rw [runWith_eq_ite, h]; rfl

/-- the part of `runScriptCmd` behind the subscriber-mode check -/
def runScriptCmdBody (mode : Mode) (c : Nat) (sig : Sig) (raw : List Bytes) (fromScript : Bool) : M (Option Reply) := do
  let conn ← getConn c
  let db ← getDb conn.db
  let (db', res) := sig.apply raw db
  setDb conn.db db'
  match res with
  | .error e => return some (.err (strBytes e))
  | .ok (.short r) => return some r
  | .ok (.ok args _) =>
    match runGate sig fromScript (conn.pubsub > 0) with
    | some e => return some (.err (strBytes e))
    | none =>
      match ← scriptBody (special nestedStub) mode c sig.name args with
      | .ok r => return some r
      | .error e =>
        if e.startsWith "model:" then fault e
        return some (.err (strBytes e))

theorem runScriptCmd_eq_ite (mode : Mode) (c : Nat) (sig : Sig) (raw : List Bytes) (fromScript : Bool) (s : Sys) :
    runScriptCmd mode c sig raw fromScript s =
      if s.refuses c sig then (some refusalReply, s) else runScriptCmdBody mode c sig raw fromScript s := by
  unfold runScriptCmd runScriptCmdBody Sys.refuses refusalReply
  simp only [bind, StateT.bind, getConn_run]
  split <;> rfl

theorem runScriptCmd_refused (mode : Mode) (c : Nat) (sig : Sig) (raw : List Bytes) (fromScript : Bool) {s : Sys}
    (h : s.refuses c sig = true) :
    runScriptCmd mode c sig raw fromScript s = (some refusalReply, s) := by
  rw [runScriptCmd_eq_ite, if_pos h]

theorem runScriptCmd_not_refused (mode : Mode) (c : Nat) (sig : Sig) (raw : List Bytes) (fromScript : Bool) {s : Sys}
    (h : s.refuses c sig = false) :
    runScriptCmd mode c sig raw fromScript s = runScriptCmdBody mode c sig raw fromScript s := by
  rw [runScriptCmd_eq_ite, h]; rfl

/-- `_run_command` of a client command refuses in subscriber mode, whatever the command -/
theorem runCommand_refused (mode : Mode) (c : Nat) (sig : Sig) (raw : List Bytes) (fromScript : Bool) {s : Sys}
    (h : s.refuses c sig = true) :
    runCommand mode c sig raw fromScript s = (some refusalReply, s) := by
  unfold runCommand
  split
  · exact runScriptCmd_refused mode c sig raw fromScript h
  · exact runWith_refused _ mode c sig raw fromScript h

/-- `Sys.regularOut` passes `runGate` to the pure runner: for a refused command it notifies nothing -/
theorem Sys.regularOut_of_refused {s : Sys} {c : Nat} {sig : Sig} (body : Body) (raw : List Bytes) (fromScript : Bool)
    (h : s.refuses c sig = true) :
    (s.regularOut c sig body raw fromScript).notified = [] ∧
    (s.regularOut c sig body raw fromScript).picksUsed = 0 ∧
    (s.regularOut c sig body raw fromScript).fault = none := by
  obtain ⟨e, he⟩ := runGate_of_refused fromScript h
  unfold Sys.regularOut
  rw [he]
  exact runRegular_gated ..

/-- a regular command that is not refused: the pure runner on the selected database -/
theorem runWith_regular_run (special) (mode : Mode) (c : Nat) (sig : Sig) (raw : List Bytes) (fromScript : Bool)
    {body : Body} (h : Cmd.regular sig.name = some body) (s : Sys) (hr : s.refuses c sig = false) :
    runWith special mode c sig raw fromScript s =
      (some (s.regularOut c sig body raw fromScript).reply,
        s.afterRegular (s.conn c).db (s.regularOut c sig body raw fromScript)) := by
  rw [runWith_not_refused special mode c sig raw fromScript hr]
  unfold runWithBody Sys.afterRegular Sys.regularOut
  simp only [bind, StateT.bind, getConn_run, getDb_run, h, get, getThe, MonadStateOf.get, StateT.get, setDb_run,
    modify, modifyGet, MonadStateOf.modifyGet, StateT.modifyGet, pure, StateT.pure]
  generalize runRegular _ _ _ _ _ _ = o
  cases hf : o.fault <;> rfl


theorem Sys.afterRegular_eq (s : Sys) (d : Nat) (o : RunOut) :
    s.afterRegular d o = { s with
      srv := { s.srv with
        dbs := s.srv.dbs.set d o.db.dict
        conns := s.srv.conns.map fun x => o.notified.foldl (fun x k => notifyFn d k x) x }
      picks := s.picks.drop o.picksUsed
      fault := s.fault.or o.fault } := by
  unfold Sys.afterRegular
  rw [forM_notifyWatch_run, Sys.faultS_eq]
  rfl

theorem Sys.afterRegular_dbs (s : Sys) (d : Nat) (o : RunOut) :
    (s.afterRegular d o).srv.dbs = s.srv.dbs.set d o.db.dict := by rw [Sys.afterRegular_eq]

theorem Sys.afterRegular_time (s : Sys) (d : Nat) (o : RunOut) : (s.afterRegular d o).srv.time = s.srv.time := by
  rw [Sys.afterRegular_eq]

theorem Sys.afterRegular_version (s : Sys) (d : Nat) (o : RunOut) :
    (s.afterRegular d o).srv.version = s.srv.version := by rw [Sys.afterRegular_eq]

theorem Sys.afterRegular_out (s : Sys) (d : Nat) (o : RunOut) : (s.afterRegular d o).out = s.out := by
  rw [Sys.afterRegular_eq]

theorem Sys.afterRegular_crashed (s : Sys) (d : Nat) (o : RunOut) : (s.afterRegular d o).crashed = s.crashed := by
  rw [Sys.afterRegular_eq]

theorem Sys.afterRegular_hasConn (s : Sys) (d : Nat) (o : RunOut) (c : Nat) :
    (s.afterRegular d o).HasConn c ↔ s.HasConn c := by
  unfold Sys.afterRegular
  rw [forM_notifyWatch_run]
  exact (Sys.hasConn_mapConns _ _ c (foldl_notifyFn_id d o.notified)).trans (by unfold Sys.HasConn; rw [Sys.faultS_srv])

theorem Sys.afterRegular_pred (s : Sys) (d : Nat) (o : RunOut) (c : Nat) (Q : Conn → Prop)
    (hQ : ∀ d key x, Q x → Q (notifyFn d key x)) (h : Q (s.conn c)) : Q ((s.afterRegular d o).conn c) := by
  unfold Sys.afterRegular
  apply forM_notifyWatch_pred Q hQ
  simp only [Sys.conn_def, Sys.faultS_srv] at h ⊢
  exact h

theorem getD_set_ne {α} (l : List α) (d j : Nat) (x dflt : α) (h : j ≠ d) :
    (l.set d x).getD j dflt = l.getD j dflt := by
  simp only [List.getD_eq_getElem?_getD, List.getElem?_set_ne (Ne.symm h)]

theorem getD_set_self {α} (l : List α) (d : Nat) (x dflt : α) (h : d < l.length) :
    (l.set d x).getD d dflt = x := by
  simp only [List.getD_eq_getElem?_getD, List.getElem?_set_self h, Option.getD_some]

theorem getD_set_eq {α} (l : List α) (i j : Nat) (x dflt : α) :
    (l.set i x).getD j dflt = if j = i ∧ i < l.length then x else l.getD j dflt := by
  by_cases hji : j = i
  · subst hji
    by_cases hlt : j < l.length
    · simp only [hlt, and_self, if_true]; exact getD_set_self _ _ _ _ hlt
    · simp only [hlt, and_false, if_false]
      rw [List.set_eq_of_length_le (Nat.le_of_not_lt hlt)]
  · simp only [hji, false_and, if_false]
    exact getD_set_ne _ _ _ _ _ hji

/-! ### the transaction state after EXEC -/

theorem Sys.hasConn_of_tx {s : Sys} {c : Nat} (h : (s.conn c).tx.isSome) : s.HasConn c := by
  rw [Sys.hasConn_iff]
  rw [Sys.conn_def] at h
  cases h' : s.srv.conns.find? (·.id == c) with
  | none => rw [h'] at h; simp at h
  | some x => rfl

theorem queueStep_normal (inner : Inner) (c : Nat) (a : String × List Bytes) (s : Sys)
    (hinner : ∀ sig, SigTable.find a.1 = some sig → ∀ s : Sys, (s.conn c).normal → ((inner sig a.2 s).2.conn c).normal)
    (h : (s.conn c).normal) : ((queueStep inner c a s).2.conn c).normal := by
  unfold queueStep
  cases hf : SigTable.find a.1 with
  | none =>
    simp only [bind, StateT.bind, fault, modify, modifyGet, MonadStateOf.modifyGet, StateT.modifyGet, pure, StateT.pure]
    split <;> exact h
  | some sig =>
    simp only [bind, StateT.bind, modifyConn_run, pure, StateT.pure]
    have h2 := hinner sig hf _
      (Sys.conn_updConn_pred s c c (fun x => { x with inTx := true }) Conn.normal (fun _ => rfl) (fun x hx => hx) h)
    revert h2
    generalize inner sig a.2 _ = r
    intro h2
    obtain ⟨r1, r2⟩ := r
    exact Sys.conn_updConn_pred r2 c c (fun x => { x with inTx := false }) Conn.normal (fun _ => rfl) (fun x hx => hx) h2

theorem runQueue_normal (inner : Inner) (c : Nat) (q : List (String × List Bytes)) (s : Sys)
    (hinner : ∀ a ∈ q, ∀ sig, SigTable.find a.1 = some sig →
      ∀ s : Sys, (s.conn c).normal → ((inner sig a.2 s).2.conn c).normal)
    (h : (s.conn c).normal) : ((runQueue inner c q s).2.conn c).normal := by
  induction q generalizing s with
  | nil => exact h
  | cons a rest ih =>
    rw [runQueue_cons]
    simp only [bind, StateT.bind, pure, StateT.pure]
    apply ih _ (fun b hb => hinner b (List.mem_cons_of_mem _ hb))
    exact queueStep_normal inner c a s (hinner a (List.mem_cons_self ..)) h

theorem clear_normal {s : Sys} {c : Nat} (hc : s.HasConn c) (f : Conn → Conn) (hid : ∀ x, (f x).id = x.id)
    (hf : ∀ x, (f x).tx = none) :
    (((s.updConn c f).updConn c fun x => { x with watchNotified := false, watches := [] }).conn c).normal := by
  rw [Sys.conn_updConn_same (fun x => { x with watchNotified := false, watches := [] })
    ((Sys.hasConn_updConn f hid).2 hc) (fun _ => rfl), Sys.conn_updConn_same f hc hid]
  exact ⟨hf _, rfl, rfl⟩

theorem execCmd_normal (inner : Inner) (c : Nat) (cis : List CI) (s : Sys) {q : List (String × List Bytes)}
    (htx : (s.conn c).tx = some q)
    (hinner : ∀ a ∈ q, ∀ sig, SigTable.find a.1 = some sig →
      ∀ s : Sys, (s.conn c).normal → ((inner sig a.2 s).2.conn c).normal) :
    ((execCmd inner c cis s).2.conn c).normal := by
  have hc : s.HasConn c := Sys.hasConn_of_tx (by rw [htx]; rfl)
  cases hf : (s.conn c).txFailed with
  | true =>
    rw [execCmd_run_failed inner cis htx hf]
    exact clear_normal hc _ (fun _ => rfl) (fun _ => rfl)
  | false =>
    cases hw : (s.conn c).watchNotified with
    | true =>
      rw [execCmd_run_dirty inner cis htx hf hw]
      exact clear_normal hc _ (fun _ => rfl) (fun _ => rfl)
    | false =>
      rw [execCmd_run inner cis htx hf hw]
      have h1 := runQueue_normal inner c q _ hinner
        (clear_normal hc (fun x => { x with tx := none, txFailed := false }) (fun _ => rfl) (fun _ => rfl))
      split <;> exact h1

theorem runWith_regular_normal (special) (mode : Mode) (c : Nat) (sig : Sig) (raw : List Bytes) (fromScript : Bool)
    {body : Body} (h : Cmd.regular sig.name = some body) (s : Sys) (c' : Nat) (hn : (s.conn c').normal) :
    ((runWith special mode c sig raw fromScript s).2.conn c').normal := by
  cases hr : s.refuses c sig with
  | true => rw [runWith_refused special mode c sig raw fromScript hr]; exact hn
  | false =>
    rw [runWith_regular_run special mode c sig raw fromScript h s hr]
    exact Sys.afterRegular_pred _ _ _ _ Conn.normal notifyFn_normal hn

/-! ### SELECT, new connections -/

theorem selectCmd_run (c : Nat) (i : Int) (cis : List CI) (s : Sys) :
    selectCmd c [.int i] cis s = (.ok (some .ok, cis), s.updConn c fun x => { x with db := i.toNat }) := rfl

theorem openConn_run (c : Nat) (s : Sys) :
    openConn c s = ((), { s with srv := { s.srv with conns := s.srv.conns ++ [{ id := c }] } }) := rfl

theorem openConn_conn_new (c : Nat) (s : Sys) (h : ¬ s.HasConn c) :
    (openConn c s).2.HasConn c ∧ (openConn c s).2.conn c = { id := c } := by
  rw [openConn_run]
  refine ⟨⟨{ id := c }, by simp, rfl⟩, ?_⟩
  rw [Sys.hasConn_iff] at h
  simp only [Sys.conn_def, List.find?_append]
  cases h' : s.srv.conns.find? (·.id == c) with
  | none => simp
  | some x => rw [h'] at h; simp at h

/-- a new socket changes the record of no connection: a record that `c` already has is kept, and the record it gets is
the default one that `conn` answered before -/
theorem openConn_conn (c : Nat) (s : Sys) (c' : Nat) : (openConn c s).2.conn c' = s.conn c' := by
  rw [openConn_run]
  simp only [Sys.conn_def, List.find?_append]
  cases h : s.srv.conns.find? (·.id == c') with
  | some x => rfl
  | none =>
    simp only [Option.none_or, List.find?_cons, List.find?_nil]
    by_cases hc : c = c'
    · subst hc; simp
    · have : (c == c') = false := by simpa using hc
      simp [this]

/-- **a record update followed by a reply**: the requester's record is updated by `f` (which keeps `id` and `closed`) and
the reply `r` is emitted - the state field by field.  `Sys.prologue_answered` (Prologue.lean) is this behind the
prologue of `_process_command`: the form of every request that is answered without being run -/
theorem Sys.answered (s : Sys) (c : Nat) (f : Conn → Conn) (r : Reply) (hid : ∀ x, (f x).id = x.id)
    (hcl : ∀ x, (f x).closed = x.closed) :
    ((s.updConn c f).emitS c r).out = (if (s.conn c).closed then s.out else (c, r) :: s.out) ∧
    (s.HasConn c → ((s.updConn c f).emitS c r).conn c = f (s.conn c)) ∧
    ((s.updConn c f).emitS c r).srv.dbs = s.srv.dbs ∧
    ((s.updConn c f).emitS c r).srv.subs = s.srv.subs ∧
    ((s.updConn c f).emitS c r).srv.psubs = s.srv.psubs := by
  refine ⟨?_, fun hc => ?_, ?_, ?_, ?_⟩
  · rw [Sys.emitS_out, Sys.updConn_out, Sys.conn_updConn_proj s c c f Conn.closed hid hcl]
  · rw [Sys.emitS_conn, Sys.conn_updConn_same f hc hid]
  · rw [Sys.emitS_srv, Sys.updConn_dbs]
  · rw [Sys.emitS_srv, Sys.updConn_subs]
  · rw [Sys.emitS_srv, Sys.updConn_psubs]

/-- the signature `_process_command` finds for the first field of a request: the name is lower-cased, a name
starting with `_` is never a command -/
def lookupSig (nameB : Bytes) : Option Sig :=
  match commandName nameB with
  | some n => if n.startsWith "_" then none else SigTable.find n
  | none => none

theorem SigTable.find_name {n : String} {sig : Sig} (h : SigTable.find n = some sig) : sig.name = n := by
  unfold SigTable.find at h
  simpa using List.find?_some h

/-! ### the gate of `_run_command` for commands called from a script -/

abbrev Special := Mode → Nat → String → List Arg → List CI → M (Except Err (Option Reply × List CI))

theorem runGate_noScript (sig : Sig) (subscribed : Bool) (h : sig.noScript = true) :
    runGate sig true subscribed = some Msgs.COMMAND_IN_SCRIPT_MSG := by
  simp only [runGate, h, Bool.and_self, if_true]

theorem runGate_direct (sig : Sig) : runGate sig false false = none := by
  simp [runGate]

def forbiddenInScripts : List String :=
  ["multi","exec","discard","watch","unwatch","eval","evalsha","script","subscribe","psubscribe","unsubscribe",
   "punsubscribe","blpop","brpop","brpoplpush","save","bgsave"]

theorem sigs_noScript_iff : ∀ sig ∈ SigTable.sigs, (sig.noScript = true ↔ sig.name ∈ forbiddenInScripts) := by
  decide +kernel

theorem noScript_not_regular : ∀ sig ∈ SigTable.sigs, sig.noScript = true → (Cmd.regular sig.name).isNone = true := by
  decide +kernel

/-- a command flagged `no_script` that reaches the gate from a script is refused before its body runs:
the outcome does not depend on the table of bodies -/
theorem runWith_noScript_run (special : Special) (mode : Mode) (c : Nat) (sig : Sig) (raw : List Bytes) (s : Sys)
    (h : sig.noScript = true) (hreg : Cmd.regular sig.name = none) (hr : s.refuses c sig = false) :
    runWith special mode c sig raw true s =
      let d := (s.conn c).db
      let o := sig.apply raw ⟨s.srv.dbs.getD d [], s.srv.time⟩
      (some (match o.2 with
        | .error e => .err (strBytes e)
        | .ok (.short r) => r
        | .ok (.ok _ _) => .err (strBytes Msgs.COMMAND_IN_SCRIPT_MSG)),
       { s with srv := { s.srv with dbs := s.srv.dbs.set d o.1.dict } }) := by
  rw [runWith_not_refused special mode c sig raw true hr]
  simp only [runWithBody, bind, StateT.bind, getConn_run, getDb_run, hreg, runGate_noScript sig _ h]
  rcases hap : sig.apply raw ⟨s.srv.dbs.getD (s.conn c).db [], s.srv.time⟩ with ⟨db', res⟩
  simp only [setDb_run]
  rcases res with e | (r | ⟨args, cis⟩) <;> rfl

end FR

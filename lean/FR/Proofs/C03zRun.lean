import FR.Proofs.HashSetAlg
/-!
# Sorted-set commands through the runner: sorted sets as a `HashSet.Coll` (`zsetView`, `zsetC`), the three outcomes of
a run in which `FR/Props/C03z.lean` is written (`ReadOnly`, `Fails`, `Writes`; `Does` reads the result `ZRes` of a body
as one of them), and `typed_view` for the two shapes of sorted-set signatures (`zk1_view`, `zt2_view`, `zt2_errors`)
-/
namespace FR.ZCmd
open FR Db FR.HashSet FR.Cmd

/-- what a sorted-set command sees at `key` (`zsetC.see`) -/
def zsetView (live : Live) (key : Bytes) : Option (ZSet × Option Int) :=
  match live key with
  | none => some (ZSet.empty, none)
  | some it =>
    match it.value with
    | .zset z => some (z, it.expireat)
    | _ => none

/-- `zsetC.ci key z e` written out -/
def zsetCI (key : Bytes) (z : ZSet) (e : Option Int) : CI := ⟨key, some (.zset z), e, false, false⟩

abbrev zsetC : Coll ZSet where
  T := .zset
  inj := .zset
  prj | .zset z => some z | _ => none
  empty := ZSet.empty
  prj_some := fun {v a} h => by cases v <;> simp at h; rw [h]
  prj_none := fun {v} h => by cases v <;> simp at h <;> rfl
  prj_inj := fun _ => rfl
  ty_inj := fun _ => rfl
  dflt := rfl
  see := zsetView
  see_eq := fun live key => by
    unfold zsetView
    cases live key with
    | none => rfl
    | some it => obtain ⟨v, e⟩ := it; cases v <;> rfl

theorem zsetView_missing {live : Live} {key : Bytes} (h : live key = none) :
    zsetView live key = some (ZSet.empty, none) :=
  zsetC.see_missing h

theorem zsetView_stored {live : Live} {key : Bytes} {z : ZSet} {e : Option Int}
    (h : live key = some ⟨.zset z, e⟩) : zsetView live key = some (z, e) :=
  zsetC.see_stored h

theorem zsetView_putAt_ne (live : Live) {key k : Bytes} (v : Value) (e : Option Int) (h : k ≠ key) :
    zsetView (putAt live key v e) k = zsetView live k :=
  zsetC.see_putAt_ne live v e h

/-! ## outcomes of a run: three instances of `HashSet.Sees` -/

def ReadOnly (out : RunOut) (db : Db) (r : Reply) : Prop :=
  out.reply = r ∧ out.db.live = db.live ∧ out.failed = false

def Fails (out : RunOut) (db : Db) (er : Err) : Prop :=
  out.reply = .err (strBytes er) ∧ out.db.live = db.live ∧ out.failed = true

def Writes (out : RunOut) (db : Db) (key : Bytes) (z' : ZSet) (e : Option Int) (r : Reply) : Prop :=
  out.reply = r ∧ out.db.live = putAt db.live key (.zset z') e ∧ out.failed = false

theorem Writes.other {out : RunOut} {db : Db} {key : Bytes} {z' : ZSet} {e : Option Int} {r : Reply}
    (h : Writes out db key z' e r) {k : Bytes} (hk : k ≠ key) : out.db.live k = db.live k := by
  rw [h.2.1, putAt_ne _ _ _ hk]

theorem Writes.deleted {out : RunOut} {db : Db} {key : Bytes} {z' : ZSet} {e : Option Int} {r : Reply}
    (h : Writes out db key z' e r) (hz : z'.bylex = []) : out.db.live key = none := by
  rw [h.2.1, putAt_self]
  simp [Value.isEmptyColl, hz]

theorem Writes.stored {out : RunOut} {db : Db} {key : Bytes} {z' : ZSet} {e : Option Int} {r : Reply}
    (h : Writes out db key z' e r) (hz : z'.bylex ≠ []) : out.db.live key = some ⟨.zset z', e⟩ := by
  rw [h.2.1, putAt_self]
  cases hb : z'.bylex with
  | nil => exact absurd hb hz
  | cons _ _ => simp [Value.isEmptyColl, hb]

theorem Writes.view {out : RunOut} {db : Db} {key : Bytes} {z' : ZSet} {e : Option Int} {r : Reply}
    (h : Writes out db key z' e r) :
    zsetView out.db.live key = if z'.bylex.isEmpty then some (ZSet.empty, none) else some (z', e) := by
  rw [h.2.1]
  exact zsetC.see_putAt db.live key z' e

theorem ReadOnly.of_view {out : RunOut} {db : Db} {x : Except Err BodyOut} {r : Reply} {key : Bytes} {z : ZSet}
    {e : Option Int} (h : view out = outcome db.time db.live x) (hx : x = ret r [zsetCI key z e]) :
    ReadOnly out db r :=
  view_eq (h.trans (by rw [hx]; exact outcome_read _ _ _ (by simp [CI.Clean, zsetCI])))

/-- the run `out` on `db` does what the result `res` of the body says -/
def Does (out : RunOut) (db : Db) (key : Bytes) (e : Option Int) : ZRes → Prop
  | .fail er => Fails out db er
  | .read r => ReadOnly out db r
  | .write z' r => Writes out db key z' e r

theorem Does.of_view {out : RunOut} {db : Db} {x : Except Err BodyOut} {key : Bytes} {z : ZSet} {e : Option Int}
    (he : notExp db.time e) (h : view out = outcome db.time db.live x) {res : ZRes}
    (hx : x = res.out [zsetCI key z e] 0) : Does out db key e res := by
  subst hx
  cases res with
  | fail er => exact view_eq h
  | read r => exact ReadOnly.of_view h rfl
  | write z' r => exact view_eq (h.trans (outcome_write _ _ _ (zsetCI key z e) _ he))

theorem Does.ite {out : RunOut} {db : Db} {key : Bytes} {e : Option Int} (c : Prop) [Decidable c] (a b : ZRes) :
    Does out db key e (if c then a else b) ↔ if c then Does out db key e a else Does out db key e b := by
  split
  · rfl
  · rfl

theorem Does.pos {out : RunOut} {db : Db} {key : Bytes} {e : Option Int} {c : Prop} [Decidable c] {a b : ZRes}
    (h : Does out db key e (if c then a else b)) (hc : c) : Does out db key e a := by
  rwa [if_pos hc] at h

theorem Does.neg {out : RunOut} {db : Db} {key : Bytes} {e : Option Int} {c : Prop} [Decidable c] {a b : ZRes}
    (h : Does out db key e (if c then a else b)) (hc : ¬ c) : Does out db key e b := by
  rwa [if_neg hc] at h

/-! ## commands `(Key(ZSet), bytes…), (bytes,)?` -/

theorem zk1_view (ctx : Ctx) (key : Bytes) {db : Db} (nd : NodupKeys db.dict) {name : String} {body : Body}
    (hreg : Cmd.regular name = some body) {a : Nat}
    (hfix : (sigOf name).fixed = .key (some .zset) .unspecified :: List.replicate a .bytes)
    (hrep : ∀ t ∈ (sigOf name).rep, t = .bytes) (rest : List Bytes) (har : ArityOK (sigOf name) (rest.length + 1))
    {z : ZSet} {e : Option Int} (hv : zsetView db.live key = some (z, e)) :
    view (run name ctx (key :: rest) db) =
      outcome db.time db.live (body ctx (.key 0 :: rest.map .raw) [zsetCI key z e]) :=
  typed_view zsetC (keyFirst_plain hfix hrep) ctx key rest nd har (decodeAll_plain _ _ a hfix hrep rest har) hreg hv

/-! ## commands `(Key(ZSet), T1, T2), (bytes,)?` -/

section t2
variable (ctx : Ctx) (key : Bytes) {db : Db} (nd : NodupKeys db.dict) {name : String} {t1 t2 : ArgTy}
  (h1 : Ttl.isKey t1 = false) (h2 : Ttl.isKey t2 = false)
  (hfix : (sigOf name).fixed = [.key (some .zset) .unspecified, t1, t2])
  (hrep : ∀ t ∈ (sigOf name).rep, t = .bytes) (a b : Bytes) (rest : List Bytes)
  (har : ArityOK (sigOf name) (rest.length + 3))
include nd h1 h2 hfix hrep har

omit nd har in
theorem keyFirst_t2 : KeyFirst (sigOf name) (some .zset) [t1, t2] :=
  ⟨hfix, fun t ht => by
      simp only [List.mem_cons, List.not_mem_nil, or_false] at ht
      rcases ht with rfl | rfl
      · exact h1
      · exact h2,
    fun t ht => by rw [hrep t ht]; rfl⟩

/-- a bad first argument, a bad second argument, a key of another type — in this order of precedence, whatever the
body -/
theorem zt2_errors :
    (∀ er, Conv.decode t1 a = .error er → Fails (run name ctx (key :: a :: b :: rest) db) db er) ∧
    (∀ x er, Conv.decode t1 a = .ok x → Conv.decode t2 b = .error er →
      Fails (run name ctx (key :: a :: b :: rest) db) db er) ∧
    (∀ x y, Conv.decode t1 a = .ok x → Conv.decode t2 b = .ok y → zsetView db.live key = none →
      Fails (run name ctx (key :: a :: b :: rest) db) db Msgs.WRONGTYPE_MSG) := by
  have hs := keyFirst_t2 h1 h2 hfix hrep
  have hd := decodeAll_t2 hfix hrep a b rest har
  refine ⟨fun er hx => ?_, fun x er hx hy => ?_, fun x y hx hy hv => ?_⟩
  · rw [hx] at hd
    exact typed_baddec zsetC hs ctx key (a :: b :: rest) nd har hd
  · rw [hx, hy] at hd
    exact typed_baddec zsetC hs ctx key (a :: b :: rest) nd har hd
  · rw [hx, hy] at hd
    exact typed_wrongtype zsetC hs ctx key (a :: b :: rest) nd har hd hv

theorem zt2_view {body : Body} (hreg : Cmd.regular name = some body) {x y : Arg} (hx : Conv.decode t1 a = .ok x)
    (hy : Conv.decode t2 b = .ok y) {z : ZSet} {e : Option Int} (hv : zsetView db.live key = some (z, e)) :
    view (run name ctx (key :: a :: b :: rest) db) =
      outcome db.time db.live (body ctx (.key 0 :: x :: y :: rest.map .raw) [zsetCI key z e]) := by
  have hd := decodeAll_t2 hfix hrep a b rest har
  rw [hx, hy] at hd
  exact typed_view zsetC (keyFirst_t2 h1 h2 hfix hrep) ctx key (a :: b :: rest) nd har hd hreg hv

end t2

section does
variable (ctx : Ctx) (key : Bytes) {db : Db} (nd : NodupKeys db.dict) {z : ZSet} {e : Option Int}
  (hv : zsetView db.live key = some (z, e))
include nd hv

theorem zk1_does {name : String} {body : Body} (hreg : Cmd.regular name = some body) {a : Nat}
    (hfix : (sigOf name).fixed = .key (some .zset) .unspecified :: List.replicate a .bytes)
    (hrep : ∀ t ∈ (sigOf name).rep, t = .bytes) (rest : List Bytes) (har : ArityOK (sigOf name) (rest.length + 1))
    {res : ZRes} (hb : body ctx (.key 0 :: rest.map .raw) [zsetCI key z e] = res.out [zsetCI key z e] 0) :
    Does (run name ctx (key :: rest) db) db key e res :=
  Does.of_view (zsetC.notExp nd (a := z) hv) (zk1_view ctx key nd hreg hfix hrep rest har hv) hb

theorem run_zadd (rest : List Bytes) (har : ArityOK (sigOf "zadd") (rest.length + 1)) :
    Does (run "zadd" ctx (key :: rest) db) db key e (zaddRes ctx z rest) :=
  zk1_does ctx key nd hv (a := 2) (body := Cmd.zadd) rfl rfl (by decide) rest har
    (by rw [zadd_eq, rawArgs_map_raw]; rfl)

end does

end FR.ZCmd

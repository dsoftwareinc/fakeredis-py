import FR.Proofs.Closure
/-!
# The data invariant survives every atomic state change

`Sys.DataInv` (unique keys, no stored empty collection) is an instance of `Conserve.Whole`: `dataInv_base` gives what
happens below `_run_command`, `dataInv_whole` the rest (histories: `FR/Props/C09b.lean`).  The two are the model for a new
invariant of the databases and the connection records.

Only SWAPDB and MOVE, which store whole databases, are proved body by body, with the tactic `pres` (not `seq_descend`:
the continuation of a read is judged knowing that the database read is good); `ErrSys` extends it.
-/
namespace FR
open M
set_option linter.unusedSimpArgs false


theorem pres_getDb (i : Nat) : Pres Sys.DataInv (getDb i) := Pres.getDb i

theorem pres_getDb_bind {β : Type} (i : Nat) {f : Db → M β} (hf : ∀ db, Good db.dict → Pres Sys.DataInv (f db)) :
    Pres Sys.DataInv (getDb i >>= f) :=
  Pres.bindV (fun db => Good db.dict) (fun _ h => ⟨h, h.dbAt i⟩) hf

theorem pres_setDb (i : Nat) {db : Db} (hg : Good db.dict) : Pres Sys.DataInv (setDb i db) :=
  fun _ h => h.setDbS i hg

theorem pres_modifyConn (c : Nat) (f : Conn → Conn) : Pres Sys.DataInv (modifyConn c f) := fun _ h => h

theorem pres_clearWatches (c : Nat) : Pres Sys.DataInv (clearWatches c) := pres_modifyConn c _

theorem pres_notifyWatch (d : Nat) (k : Bytes) : Pres Sys.DataInv (notifyWatch d k) := fun _ h => h

theorem pres_set_frame (s' : Sys) (h' : s'.DataInv) : Pres Sys.DataInv (set s') := fun _ _ => h'

theorem pres_writebackAll (d : Nat) (cis : List CI) : Pres Sys.DataInv (writebackAll d cis) := by
  unfold writebackAll
  refine Pres.forM (fun ci => ?_)
  refine pres_getDb_bind d (fun db hdb => ?_)
  split
  rename_i db' notified heq
  refine Pres.bind (pres_setDb d (hdb.writeback' heq)) (fun _ => ?_)
  split
  · exact pres_notifyWatch d ci.key
  · exact Pres.pure _

theorem pres_liveKeys (d : Nat) : Pres Sys.DataInv (liveKeys d) := by
  unfold liveKeys
  refine pres_getDb_bind d (fun db hdb => ?_)
  split
  rename_i db' ks heq
  exact Pres.bind (pres_setDb d (hdb.keys heq)) (fun _ => Pres.pure _)

theorem okR_preserves (r : Reply) (cis : List CI) : Pres Sys.DataInv (okR r cis) := Pres.pure _

/-! ## Automation

What is stored must be a good dictionary: `pres_getDb_bind` hands on that the database read is good, `pres_setDb` asks it
of the one stored (`pres_good`).  A call `pres` repeats `pres_step` on every goal until nothing fits: a step closes a goal
`Pres I m` by a leaf, or takes `m` apart (sequencing, list loops, `split` on an `if` or `match`).  A hypothesis of the
context is a leaf (`assumption`): a fact about a callee is passed in by `have … ; pres`.  `ErrSys` extends `pres_leaf`
and `pres_step` by further `macro_rules` for `Pres (Quiet s0)`; of several rules for one syntax the last declared is
tried first. -/

/-- the dictionary was read, was read and lost an expired entry, or gained the live entry that MOVE found -/
syntax "pres_good" : tactic
macro_rules | `(tactic| pres_good) => `(tactic| first
  | assumption
  | (refine Good.get ?_ _; assumption)
  | (refine Good.setRaw ?_ _ (Good.get_snd ?_ ‹_›) <;> assumption))

syntax "pres_leaf" : tactic
macro_rules | `(tactic| pres_leaf) => `(tactic| first
  | with_reducible exact Pres.pure _
  | with_reducible exact pres_clearWatches _
  | with_reducible exact pres_notifyWatch _ _
  | with_reducible exact pres_liveKeys _
  | with_reducible exact okR_preserves _ _
  | ((with_reducible apply pres_setDb); pres_good)
  | with_reducible assumption)

syntax "pres_step" : tactic
macro_rules | `(tactic| pres_step) => `(tactic| first
  | pres_leaf
  | (with_reducible refine pres_getDb_bind _ (fun db hdb => ?_))
  | (with_reducible refine Pres.bind ?_ (fun _ => ?_))
  | (with_reducible refine Pres.forM (fun _ => ?_))
  | (with_reducible refine Pres.forIn (fun _ _ => ?_) _)
  | (with_reducible refine Pres.mapM (fun _ => ?_))
  | split
  | (simp only []))

syntax "pres" : tactic
macro_rules | `(tactic| pres) => `(tactic| repeat' pres_step)

theorem swapdbCmd_preserves (args : List Arg) (cis : List CI) : Pres Sys.DataInv (swapdbCmd args cis) := by
  unfold swapdbCmd okR; pres

theorem moveCmd_preserves (d : Nat) (args : List Arg) (cis : List CI) : Pres Sys.DataInv (moveCmd d args cis) := by
  unfold moveCmd
  pres

open Conserve in
theorem dataInv_base (c : Nat) : StableBase Sys.DataInv c where
  reads := fun s d _ h hr => h.setDbS d ((Del.of_reads (hr (h.dbAt d).1)).good (h.dbAt d))
  clear := fun s d _ h => h.setDbS d good_nil
  wb := fun s d ci h => by
    have hg : Good (ci.writeback (s.dbAt d)).1.dict := (h.dbAt d).writeback ci
    unfold Sys.wbStep
    simp only
    split
    · exact (h.setDbS d hg).frame rfl
    · exact h.setDbS d hg
  regular := fun s d sig body ctx gate raw h =>
    (h.setDbS d ((h.dbAt d).runRegular ..)).frame (Sys.afterRegular_dbs s d _)
  conn := fun _ _ _ h => h
  notify := fun _ _ _ h => h
  hint := fun _ _ e _ _ _ _ h => h.frame (by rw [e])
  scripts := fun _ _ h => h
  lastsave := fun _ _ h => h

open Conserve in
theorem dataInv_whole : Whole Sys.DataInv where
  cmd := fun _ c => (dataInv_base c).toStable swapdbCmd_preserves moveCmd_preserves (fun _ _ _ h => h)
  frame := fun _ _ e _ h => h.frame e
  conn := fun _ _ _ _ h => h
  inTx := fun _ _ _ h => h
  unpark := fun _ _ _ _ h => h
  stay := fun s c p h _ _ => (dataInv_base c).parkedPass c p s h
  opn := fun _ _ h => h
  gc := fun _ _ h => h

/-! ## EXEC's queue and nested runner (cited by `ErrSys`, `C19m`); UNWATCH and the regular branch on their own -/

theorem unwatch_preserves (c : Nat) (cis : List CI) :
    Pres Sys.DataInv (do clearWatches c; okR .ok cis : M SpecialOut) := by pres

theorem runQueue_preserves (inner : Inner) (hinner : ∀ sig raw, Pres Sys.DataInv (inner sig raw)) (c : Nat)
    (q : List (String × List Bytes)) : Pres Sys.DataInv (runQueue inner c q) :=
  (dataInv_whole.open {} c).leaves.runQueue trivial inner (fun sig raw _ _ => hinner sig raw) q (fun _ _ => trivial)

theorem runWith_regular_preserves (special) (mode : Mode) (c : Nat) (sig : Sig) (raw : List Bytes) (fromScript : Bool)
    {body : Body} (h : Cmd.regular sig.name = some body) :
    Pres Sys.DataInv (runWith special mode c sig raw fromScript) :=
  (dataInv_whole.cmd mode c).runWith_regular special sig raw fromScript h

theorem runInner_preserves (mode : Mode) (c : Nat) (sig : Sig) (raw : List Bytes) :
    Pres Sys.DataInv (runInner mode c sig raw) :=
  (dataInv_whole.open mode c).runInner sig raw

end FR

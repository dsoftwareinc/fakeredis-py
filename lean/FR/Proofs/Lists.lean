import FR.Proofs.Basic
/-! # Index windows of the list commands (C02)

`norm` and `lrangeSpec` state LRANGE declaratively; `_fix_range` and the Python slices are shown to cut the same
`drop`/`take` window (LRANGE, LTRIM); then LINDEX / LSET by normalised index, the pops, and RPOPLPUSH on one key. -/
namespace FR.Spec

/-- Redis index normalisation: negative indices count from the end. -/
def norm (i : Int) (len : Nat) : Int := if i < 0 then i + len else i

/-- Declarative LRANGE: the elements whose index lies in the normalised closed window. -/
def lrangeSpec {α} (l : List α) (start stop : Int) : List α :=
  (List.range l.length).filterMap fun (i : Nat) =>
    if norm start l.length ≤ (i : Int) ∧ (i : Int) ≤ norm stop l.length then l[i]? else none

end FR.Spec

namespace FR.Proofs
open FR FR.Spec

theorem ite_none_congr {α} {p q : Prop} [Decidable p] [Decidable q] (h : p ↔ q) (x : Option α) :
    (if p then x else none) = (if q then x else none) := by
  by_cases hp : p
  · rw [if_pos hp, if_pos (h.mp hp)]
  · rw [if_neg hp, if_neg (fun hq => hp (h.mpr hq))]

theorem window_nat {α} (l : List α) (a b : Nat) :
    (List.range l.length).filterMap (fun i => if a ≤ i ∧ i < b then l[i]? else none)
      = (l.drop a).take (b - a) := by
  induction l generalizing a b with
  | nil => simp
  | cons x xs ih =>
    rw [List.length_cons, List.range_succ_eq_map, List.filterMap_cons, List.filterMap_map]
    cases a with
    | zero =>
      cases b with
      | zero =>
        simp
      | succ b =>
        have := ih 0 b
        simp only [Nat.zero_le, true_and, Nat.sub_zero, List.drop_zero] at this
        simp only [Nat.zero_le, true_and, Nat.zero_lt_succ, if_true, List.getElem?_cons_zero,
          List.drop_zero, Nat.sub_zero, List.take_succ_cons, Function.comp_def,
          Nat.succ_lt_succ_iff, List.getElem?_cons_succ]
        rw [this]
    | succ a =>
      have := ih a (b - 1)
      have h0 : ¬ (a + 1 ≤ 0 ∧ 0 < b) := by omega
      simp only [h0, if_false, List.drop_succ_cons, Function.comp_def, List.getElem?_cons_succ]
      have e : b - (a + 1) = b - 1 - a := by omega
      rw [e, ← this]
      apply filterMap_congr'
      intro i _
      apply ite_none_congr
      omega

theorem window_of_iff {α} (l : List α) (s e : Nat) (p : Nat → Prop) [DecidablePred p]
    (h : ∀ i, i < l.length → (p i ↔ (s ≤ i ∧ i < e))) :
    (List.range l.length).filterMap (fun i => if p i then l[i]? else none)
      = (l.drop s).take (e - s) := by
  rw [← window_nat]
  apply filterMap_congr'
  intro i hi
  exact ite_none_congr (h i (List.mem_range.mp hi)) _

theorem slice_eq_window {α} (l : List α) (x y : Int) (p : Nat → Prop) [DecidablePred p]
    (h : ∀ i, i < l.length → (p i ↔ (Py.adj x l.length ≤ i ∧ i < Py.adj y l.length))) :
    Py.slice l x y = (List.range l.length).filterMap (fun i => if p i then l[i]? else none) := by
  rw [window_of_iff l _ _ p h]; rfl

theorem window_int {α} (l : List α) {s e : Int} (hs : 0 ≤ s) (p : Nat → Prop) [DecidablePred p]
    (h : ∀ i : Nat, i < l.length → (p i ↔ (s ≤ i ∧ i < e))) :
    (List.range l.length).filterMap (fun i => if p i then l[i]? else none)
      = (l.drop s.toNat).take (e - s).toNat := by
  rw [window_of_iff l s.toNat e.toNat p (by intro i hi; rw [h i hi]; omega),
    show e.toNat - s.toNat = (e - s).toNat by omega]

theorem adj_of_mem {i : Int} {n : Nat} (h0 : 0 ≤ i) (hn : i ≤ n) : Py.adj i n = i.toNat := by
  unfold Py.adj
  rw [if_neg (Int.not_lt.mpr h0), if_neg (Int.not_lt.mpr hn)]

/-- below the length, the clamped bound `Py.adj` cuts where the normalised index does -/
theorem adj_le_iff (x : Int) {i n : Nat} (hi : i < n) : Py.adj x n ≤ i ↔ norm x n ≤ i := by
  unfold Py.adj norm
  split <;> split <;> omega

theorem lt_adj_iff (y : Int) {i n : Nat} (hi : i < n) : i < Py.adj y n ↔ i < norm y n := by
  unfold Py.adj norm
  split <;> split <;> omega

theorem slice_of_mem {α} (l : List α) {x y : Int} (hx : 0 ≤ x) (hxy : x ≤ y) (hy : y ≤ l.length) :
    Py.slice l x y = (l.drop x.toNat).take (y - x).toNat := by
  unfold Py.slice
  rw [adj_of_mem hx (Int.le_trans hxy hy), adj_of_mem (Int.le_trans hx hxy) hy]
  show List.take (y.toNat - x.toNat) _ = _
  rw [show y.toNat - x.toNat = (y - x).toNat by omega]

theorem slice_self {α} (l : List α) (x : Int) : Py.slice l x x = [] := by
  show List.take (Py.adj x l.length - Py.adj x l.length) _ = []
  rw [Nat.sub_self, List.take_zero]

theorem reverse_drop_take {α} (l : List α) (s k : Nat) (h : s + k ≤ l.length) :
    ((l.drop s).take k).reverse = (l.reverse.drop (l.length - s - k)).take k := by
  rw [List.drop_reverse]
  have e1 : l.length - (l.length - s - k) = s + k := by omega
  rw [e1, List.take_reverse]
  congr 1
  rw [List.length_take, Nat.min_eq_left h, List.drop_take]
  have e2 : s + k - k = s := by omega
  have e3 : s + k - s = k := by omega
  rw [e2, e3]

/-- `l[len-y : len-x][::-1] = l[::-1][x:y]` -/
theorem slice_of_mem_rev {α} (l : List α) {x y : Int} (hx : 0 ≤ x) (hxy : x ≤ y) (hy : y ≤ l.length) :
    (Py.slice l (l.length - y) (l.length - x)).reverse = (l.reverse.drop x.toNat).take (y - x).toNat := by
  rw [slice_of_mem l (by omega) (by omega) (by omega), reverse_drop_take l _ _ (by omega)]
  congr 2
  · omega
  · omega

/-- `_fix_range` returns the normalised closed window `[S, E - 1]` clipped to the list, as a half-open pair, or the
marker `(-1, -1)` when that window is empty -/
theorem fixRange_cases (start stop : Int) (n : Nat) {S E : Int}
    (hS : S = max 0 (norm start n)) (hE : E = min (norm stop n) (n - 1) + 1) :
    (S < E ∧ 0 ≤ S ∧ E ≤ n ∧ fixRange start stop n = (S, E)) ∨
      (E ≤ S ∧ fixRange start stop n = (-1, -1)) := by
  have hs : (if start < 0 then max 0 (start + n) else start) = S := by
    rw [hS]
    unfold norm
    split
    · rfl
    · next h => exact (Int.max_eq_right (Int.not_lt.mp h)).symm
  have he : (if stop < 0 then stop + n else stop) = norm stop n := rfl
  unfold fixRange
  rw [hs, he]
  by_cases h : S < E
  · refine .inl ⟨h, hS ▸ Int.le_max_left .., by omega, ?_⟩
    rw [hE]
    exact if_neg (by omega)
  · exact .inr ⟨Int.not_lt.mp h, if_pos (by omega)⟩

theorem fixRange_slice {α} (l : List α) (start stop : Int) :
    Py.slice l (fixRange start stop l.length).1 (fixRange start stop l.length).2 =
      (l.drop (max 0 (norm start l.length)).toNat).take
        (min (norm stop l.length) (l.length - 1) + 1 - max 0 (norm start l.length)).toNat := by
  obtain ⟨h, h0, hn, e⟩ | ⟨h, e⟩ := fixRange_cases start stop l.length rfl rfl
  · rw [e]
    exact slice_of_mem l h0 (Int.le_of_lt h) hn
  · rw [e, slice_self, Int.toNat_of_nonpos (Int.sub_nonpos_of_le h), List.take_zero]

theorem fixRange_slice_rev {α} (l : List α) (start stop : Int) :
    (Py.slice l (l.length - (fixRange start stop l.length).2) (l.length - (fixRange start stop l.length).1)).reverse =
      (l.reverse.drop (max 0 (norm start l.length)).toNat).take
        (min (norm stop l.length) (l.length - 1) + 1 - max 0 (norm start l.length)).toNat := by
  obtain ⟨h, h0, hn, e⟩ | ⟨h, e⟩ := fixRange_cases start stop l.length rfl rfl
  · rw [e]
    exact slice_of_mem_rev l h0 (Int.le_of_lt h) hn
  · rw [e, slice_self, Int.toNat_of_nonpos (Int.sub_nonpos_of_le h), List.take_zero]
    rfl

theorem lrangeSpec_eq {α} (l : List α) (start stop : Int) :
    lrangeSpec l start stop =
      (l.drop (max 0 (norm start l.length)).toNat).take
        (min (norm stop l.length) (l.length - 1) + 1 - max 0 (norm start l.length)).toNat :=
  window_int l (Int.le_max_left ..) _ (by intro i hi; omega)

theorem lrange_eq_spec {α} (l : List α) (a b : Int) :
    (let (x, y) := fixRange a b l.length; Py.slice l x y) = lrangeSpec l a b :=
  (fixRange_slice l a b).trans (lrangeSpec_eq l a b).symm

def ltrimKeep {α} (l : List α) (s e : Int) : List α :=
  if e == -1 then Py.sliceFrom l s else Py.slice l s (e + 1)

theorem sliceFrom_eq_window {α} (l : List α) (x : Int) (p : Nat → Prop) [DecidablePred p]
    (h : ∀ i, i < l.length → (p i ↔ Py.adj x l.length ≤ i)) :
    Py.sliceFrom l x = (List.range l.length).filterMap (fun i => if p i then l[i]? else none) := by
  rw [window_of_iff l (Py.adj x l.length) l.length p (by intro i hi; rw [h i hi]; omega)]
  unfold Py.sliceFrom
  rw [List.take_of_length_le (by simp)]

theorem ltrim_eq_spec {α} (l : List α) (s e : Int) :
    (if e == -1 then Py.sliceFrom l s else Py.slice l s (e + 1)) = lrangeSpec l s e := by
  unfold lrangeSpec
  split
  next h =>
    have h : e = -1 := by simpa using h
    subst h
    apply sliceFrom_eq_window
    intro i hi
    rw [adj_le_iff s hi]
    unfold norm
    omega
  next h =>
    have h : e ≠ -1 := by simpa using h
    apply slice_eq_window
    intro i hi
    rw [adj_le_iff s hi, lt_adj_iff _ hi]
    unfold norm
    omega

/-- the body of LTRIM stores exactly `lrangeSpec` (or leaves the item alone when nothing is cut) -/
theorem ltrim_body (ctx : Ctx) (cis : List CI) (k : Nat) (s e : Int) :
    Cmd.ltrim ctx [.key k, .int s, .int e] cis =
      (let c := ciAt cis k
       if !c.truthy then ret .ok cis
       else
         let nv := lrangeSpec (Cmd.listOf c) s e
         if nv.length != (Cmd.listOf c).length then ret .ok (cis.set k (c.update (.list nv)))
         else ret .ok cis) := by
  simp only [Cmd.ltrim, ltrim_eq_spec]

theorem lrange_body (ctx : Ctx) (cis : List CI) (k : Nat) (s e : Int) :
    Cmd.lrange ctx [.key k, .int s, .int e] cis =
      ret (Reply.bulks (lrangeSpec (Cmd.listOf (ciAt cis k)) s e)) cis := by
  have := lrange_eq_spec (Cmd.listOf (ciAt cis k)) s e
  simp only [Cmd.lrange]
  rw [← this]

/-! ## LINDEX / LSET -/

theorem lindex_spec {α} (l : List α) (i : Int) :
    Py.index? l i = (if 0 ≤ norm i l.length then l[(norm i l.length).toNat]? else none) := by
  unfold Py.index? norm
  repeat' split
  all_goals first | rfl | (exfalso; omega) | skip
  all_goals simp_all

theorem lset_spec {α} (l : List α) (i : Int) (v : α) :
    Py.setIndex? l i v =
      (if 0 ≤ norm i l.length ∧ norm i l.length < l.length
       then some (l.set (norm i l.length).toNat v) else none) := by
  unfold Py.setIndex? norm
  repeat' split
  all_goals first | rfl | (exfalso; omega) | skip

theorem lset_none_iff {α} (l : List α) (i : Int) (v : α) :
    Py.setIndex? l i v = none ↔ ¬ (0 ≤ norm i l.length ∧ norm i l.length < l.length) := by
  rw [lset_spec]
  split <;> simp_all

/-! ## pops -/

theorem popLeftN_eq (l : List Bytes) (n : Nat) : Cmd.popLeftN l n = (l.take n, l.drop n) := rfl

theorem popLeftN_conserve (l : List Bytes) (n : Nat) :
    (Cmd.popLeftN l n).1 ++ (Cmd.popLeftN l n).2 = l := by
  simp [Cmd.popLeftN]

theorem popLeftN_length (l : List Bytes) (n : Nat) :
    (Cmd.popLeftN l n).1.length = min n l.length ∧
    (Cmd.popLeftN l n).1.length + (Cmd.popLeftN l n).2.length = l.length := by
  simp only [Cmd.popLeftN, List.length_take, List.length_drop]
  refine ⟨trivial, ?_⟩
  omega

theorem popRightN_popped (l : List Bytes) (n : Nat) :
    (Cmd.popRightN l n).1 = l.reverse.take n := by
  simp only [Cmd.popRightN]
  rw [List.reverse_drop, List.take_eq_take_iff, List.length_reverse]
  omega

theorem popRightN_conserve (l : List Bytes) (n : Nat) :
    (Cmd.popRightN l n).2 ++ (Cmd.popRightN l n).1.reverse = l := by
  simp [Cmd.popRightN]

theorem popRightN_length (l : List Bytes) (n : Nat) :
    (Cmd.popRightN l n).1.length = min n l.length ∧
    (Cmd.popRightN l n).1.length + (Cmd.popRightN l n).2.length = l.length := by
  simp only [Cmd.popRightN, List.length_take, List.length_drop, List.length_reverse]
  omega

/-! ## RPOPLPUSH on one key rotates -/

theorem ciAt_set_self (cis : List CI) (k : Nat) (c : CI) (h : k < cis.length) :
    ciAt (cis.set k c) k = c := by
  simp [ciAt, List.getD, List.getElem?_set_self h]

theorem ciAt_set_ne (cis : List CI) (k j : Nat) (c : CI) (h : k ≠ j) :
    ciAt (cis.set k c) j = ciAt cis j := by
  simp [ciAt, List.getD, List.getElem?_set_ne h]

theorem listOf_setList_self (cis : List CI) (k : Nat) (l : List Bytes) (h : k < cis.length) :
    Cmd.listOf (ciAt (Cmd.setList cis k l) k) = l := by
  unfold Cmd.setList
  rw [ciAt_set_self _ _ _ h]
  rfl

theorem listOf_setList_setList (cis : List CI) (s d : Nat) (l : List Bytes)
    (hs : s < cis.length) (hd : d < cis.length) :
    Cmd.listOf (ciAt (Cmd.setList (Cmd.setList cis s l) d l) s) = l ∧
    Cmd.listOf (ciAt (Cmd.setList (Cmd.setList cis s l) d l) d) = l := by
  refine ⟨?_, listOf_setList_self _ _ _ (by simpa [Cmd.setList] using hd)⟩
  by_cases hsd : s = d
  · subst hsd
    exact listOf_setList_self _ _ _ (by simpa [Cmd.setList] using hd)
  · have : ciAt (Cmd.setList (Cmd.setList cis s l) d l) s = ciAt (Cmd.setList cis s l) s := by
      exact ciAt_set_ne _ _ _ _ (Ne.symm hsd)
    rw [this]
    exact listOf_setList_self _ _ _ hs

theorem rpoplpush_same_key_rotates (cis : List CI) (s d : Nat) (l : List Bytes)
    (hkey : (ciAt cis s).key = (ciAt cis d).key) (hl : Cmd.listOf (ciAt cis s) = l) (hne : l ≠ []) :
    Cmd.moveCore cis s d false true =
      .ok { reply := .bulk (l.getLast hne),
            cis := Cmd.setList (Cmd.setList cis s (l.getLast hne :: l.dropLast)) d
                     (l.getLast hne :: l.dropLast) } := by
  unfold Cmd.moveCore
  simp only [hl, Cmd.popRightN, Bool.false_eq_true, if_false, hkey, beq_self_eq_true, if_true]
  have hh : (l.drop (l.length - 1)).reverse.head? = some (l.getLast hne) := by
    rw [List.head?_reverse, List.getLast?_drop]
    have : 0 < l.length := List.length_pos_iff.mpr hne
    rw [if_neg (by omega), List.getLast?_eq_some_getLast hne]
  rw [hh]
  simp only [List.dropLast_eq_take]
  rfl

theorem rpoplpush_body (ctx : Ctx) (cis : List CI) (s d : Nat) :
    Cmd.rpoplpush ctx [.key s, .key d] cis = Cmd.moveCore cis s d false true := rfl

end FR.Proofs

namespace FR.ListKeys
open FR

/-- the inner function of `_list_pop` on the item `k` -/
def popGo (left : Bool) (cis : List CI) (k : Nat) (count : Nat) (single : Bool) : Except Err BodyOut :=
  if !(ciAt cis k).truthy then ret .nil cis
  else
    match (ciAt cis k).val with
    | some (.list l) =>
      ret (if single then Reply.ofOptBulk (if left then Cmd.popLeftN l count else Cmd.popRightN l count).1.head?
           else Reply.bulks (if left then Cmd.popLeftN l count else Cmd.popRightN l count).1)
        (Cmd.setList cis k (if left then Cmd.popLeftN l count else Cmd.popRightN l count).2)
    | _ => .error Msgs.WRONGTYPE_MSG

/-- the body of LPOP / RPOP for every list of counts: none, one (negative; zero in version 6; otherwise), several -/
theorem listPop_eval (left : Bool) (ctx : Ctx) (cis : List CI) (k : Nat) (cs : List Int) :
    Cmd.listPop left ctx (.key k :: cs.map .int) cis =
      match cs with
      | [] => popGo left cis k 1 true
      | [n] =>
        if n < 0 then .error Msgs.INDEX_ERROR_MSG
        else if (n == 0 && ctx.version == 6) = true then ret .nil cis
        else popGo left cis k n.toNat false
      | _ :: _ :: _ => .error Msgs.SYNTAX_ERROR_MSG := by
  match cs with
  | [] =>
    simp only [Cmd.listPop, List.map_nil, List.filterMap_nil, List.length_nil, Nat.not_lt_zero, gt_iff_lt, if_false,
      popGo]
    cases (ciAt cis k).truthy <;> simp
    cases (ciAt cis k).val with
    | none => rfl
    | some v => cases v <;> cases left <;> rfl
  | [n] =>
    simp only [Cmd.listPop, List.map_cons, List.map_nil, List.filterMap_cons, List.filterMap_nil, List.length_cons,
      List.length_nil, gt_iff_lt, Nat.lt_irrefl, if_false, popGo]
    by_cases hn : n < 0
    · simp [hn]
    · simp only [hn, if_false]
      by_cases hz : (n == 0 && ctx.version == 6) = true
      · simp only [hz, if_true]
      · simp only [hz, if_false]
        cases (ciAt cis k).truthy <;> simp
        cases (ciAt cis k).val with
        | none => rfl
        | some v => cases v <;> cases left <;> rfl
  | a :: b :: rest =>
    simp only [Cmd.listPop, List.map_cons, List.filterMap_cons, List.length_cons]
    rw [if_pos (by omega)]

theorem truthy_list {c : CI} {l : List Bytes} (hv : c.val = some (.list l)) (hne : l ≠ []) : c.truthy = true := by
  unfold CI.truthy
  rw [hv]
  cases l with
  | nil => exact absurd rfl hne
  | cons x xs => rfl

end FR.ListKeys

namespace FR.Proofs
open FR FR.Spec

theorem listPop_count_body (left : Bool) (ctx : Ctx) (cis : List CI) (k : Nat) (n : Int)
    (l : List Bytes) (hv : (ciAt cis k).val = some (.list l)) (hne : l ≠ [])
    (hn : 0 ≤ n) (hver : ¬ (n = 0 ∧ ctx.version = 6)) :
    Cmd.listPop left ctx [.key k, .int n] cis =
      (let pr := if left then Cmd.popLeftN l n.toNat else Cmd.popRightN l n.toNat
       ret (Reply.bulks pr.1) (Cmd.setList cis k pr.2)) := by
  have : ¬ ((n == 0 && ctx.version == 6) = true) := by
    simpa using fun h => by simpa [h] using hver
  refine (ListKeys.listPop_eval left ctx cis k [n]).trans ?_
  simp only [if_neg (Int.not_lt.mpr hn), if_neg this, ListKeys.popGo, ListKeys.truthy_list hv hne, hv, Bool.not_true,
    Bool.false_eq_true, if_false]

theorem listPop_single_body (left : Bool) (ctx : Ctx) (cis : List CI) (k : Nat)
    (l : List Bytes) (hv : (ciAt cis k).val = some (.list l)) (hne : l ≠ []) :
    Cmd.listPop left ctx [.key k] cis =
      (let pr := if left then Cmd.popLeftN l 1 else Cmd.popRightN l 1
       ret (Reply.ofOptBulk pr.1.head?) (Cmd.setList cis k pr.2)) := by
  refine (ListKeys.listPop_eval left ctx cis k []).trans ?_
  simp only [ListKeys.popGo, ListKeys.truthy_list hv hne, hv, Bool.not_true, Bool.false_eq_true, if_false, if_true]

end FR.Proofs

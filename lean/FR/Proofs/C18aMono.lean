import FR.Proofs.C18aOrder
/-!
# C18a: the rounding is monotone, hence so is `add` in its second argument
-/
namespace FR.C18a
open FR FR.C18f FR.DumpRound

theorem sgn_natAbs_num (z : Bool) (q : ℚ) :
    (if (if q = 0 then z else decide (q < 0)) then -1 else 1) * (q.num.natAbs : Int) = q.num := by
  by_cases h0 : q = 0
  · subst h0; simp
  · rw [if_neg h0]
    by_cases hlt : q < 0
    · have : q.num < 0 := Rat.num_neg.mpr hlt
      simp only [hlt, decide_true, if_true]
      omega
    · have : 0 ≤ q.num := Rat.num_nonneg.mpr (not_lt.mp hlt)
      simp only [hlt, decide_false, Bool.false_eq_true, if_false]
      omega

theorem RN_mono (z1 z2 : Bool) {q1 q2 : ℚ} (h : q1 ≤ q2) : Dbl.le (Dbl.RN z1 q1) (Dbl.RN z2 q2) = true := by
  rw [RN_roundAbs, RN_roundAbs]
  unfold roundAbs
  apply roundPos_mono_signed _ _ q1.den_pos q2.den_pos
  rw [sgn_natAbs_num, sgn_natAbs_num]
  exact (Rat.le_iff q1 q2).mp h

theorem add_mono_right (n : Bool) (m : Nat) (e : Int) (n1 : Bool) (m1 : Nat) (e1 : Int) (n2 : Bool) (m2 : Nat) (e2 : Int)
    (h : Dbl.val (.fin n1 m1 e1) ≤ Dbl.val (.fin n2 m2 e2)) :
    Dbl.le (Dbl.add (.fin n m e) (.fin n1 m1 e1)) (Dbl.add (.fin n m e) (.fin n2 m2 e2)) = true := by
  rw [add_fin_eq_RN, add_fin_eq_RN]
  exact RN_mono _ _ (by linarith)

end FR.C18a

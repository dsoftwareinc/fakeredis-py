import FR.Proofs.PubSubHist
import FR.Proofs.C04kHist
/-!
# C04, "in request order": the reply list only grows, a registered connection stays registered

`Grows o0` and `Has c0` depend only on the pub/sub `view` of a state (`PubSubHist.Frame`), so the tower of
`FR/Proofs/PubSubHist.lean` carries them through `_process_command`, the parser loop and the wake-up / time-out events.
-/
namespace FR.C04o
open FR FR.M FR.PubSubHist

/-- the reply list of `s` extends `o0` (newest first: `o0` is a suffix) -/
def Grows (o0 : List (Nat × Reply)) (s : Sys) : Prop := ∃ pre, s.out = pre ++ o0

variable {o0 : List (Nat × Reply)}

theorem Grows.refl (s : Sys) : Grows s.out s := ⟨[], rfl⟩

theorem Grows.of_out_eq {s s' : Sys} (h : Grows o0 s) (e : s'.out = s.out) : Grows o0 s' := by
  obtain ⟨pre, hp⟩ := h; exact ⟨pre, e.trans hp⟩

instance : Frame (Grows o0) where
  frame _ _ e h := h.of_out_eq (congrArg View.out e)

theorem gr_emit (c : Nat) (r : Reply) : Pres (Grows o0) (emit c r) := by
  intro s h
  rw [emit_run]
  obtain ⟨pre, hp⟩ := h
  unfold Sys.emitS
  split
  · exact ⟨pre, hp⟩
  · exact ⟨(c, r) :: pre, by simp [hp]⟩

theorem gr_publish (ch msg : Bytes) : Pres (Grows o0) (publish ch msg) := by
  intro s h
  obtain ⟨pre, hp⟩ := h
  rw [publish_run]
  exact ⟨((deliveries s.srv ch msg).filter fun d => !(s.conn d.1).closed).reverse ++ pre, by simp [hp]⟩

theorem gr_hyps (c : Nat) : Hyps (Grows o0) c :=
  .ofSteps (gr_emit c) gr_publish (fun s p n h => h.of_out_eq (Sys.subState_out s c p n))
    (fun s p n h => h.of_out_eq (Sys.unsubState_out s c p n))

theorem gr_clean : Pres (Grows o0) cleanupClosed :=
  fun s h => h.of_out_eq (FR.ErrSys.cleanupClosed_out s)

theorem openConn_out (c : Nat) (s : Sys) : (openConn c s).2.out = s.out := rfl
theorem gcConn_out (c : Nat) (s : Sys) : (gcConn c s).2.out = s.out := rfl
theorem closeConn_out (c : Nat) (s : Sys) : (closeConn c s).2.out = s.out := rfl


/-! ## a registered connection stays registered -/

def Has (c0 : Nat) (s : Sys) : Prop := s.HasConn c0

variable {c0 : Nat}

instance : Frame (Has c0) where
  frame s s' e h := by
    unfold Has at *
    rw [hasConn_iff_view] at *
    rw [e]; exact h

theorem Has.of_conns {s s' : Sys} (h : Has c0 s) (e : s'.srv.conns = s.srv.conns) : Has c0 s' := by
  unfold Has Sys.HasConn at *; rw [e]; exact h

theorem has_emit (c : Nat) (r : Reply) : Pres (Has c0) (emit c r) := by
  intro s h
  rw [emit_run]
  exact h.of_conns (by rw [Sys.emitS_srv])

theorem has_publish (ch msg : Bytes) : Pres (Has c0) (publish ch msg) := by
  intro s h
  rw [publish_run]
  exact h.of_conns rfl

theorem Has.setTbl_upd {s : Sys} (h : Has c0 s) (p : Bool) (t : Tbl) (b : Bool) (c : Nat) (f : Conn → Conn)
    (hf : ∀ x, (f x).id = x.id) : Has c0 (if b then (s.setTbl p t).updConn c f else s.setTbl p t) := by
  have h' : Has c0 (s.setTbl p t) := (Sys.setTbl_hasConn ..).2 h
  split
  · exact Iff.mpr (Sys.hasConn_updConn f hf) h'
  · exact h'

theorem has_hyps (c : Nat) : Hyps (Has c0) c :=
  .ofSteps (has_emit c) has_publish
    (fun _ p _ h => h.setTbl_upd p _ _ c (fun x => { x with pubsub := x.pubsub + 1 }) (fun _ => rfl))
    (fun _ p _ h => h.setTbl_upd p _ _ c (fun x => { x with pubsub := x.pubsub - 1 }) (fun _ => rfl))

theorem has_clean : Pres (Has c0) cleanupClosed :=
  fun s h => (cleanupClosed_hasConn s c0).2 h

theorem processCommand_hasConn (mode : Mode) (c : Nat) (fields : List Bytes) (s : Sys) (c0 : Nat) (h : s.HasConn c0) :
    (processCommand mode c fields s).2.HasConn c0 :=
  processCommand_pres (I := Has c0) (has_hyps c) has_clean mode fields s h

/-! ## lists: the replies of one connection, oldest first -/

/-- the replies sent to connection `c`, oldest first -/
def repliesOf (c : Nat) (out : List (Nat × Reply)) : List Reply := ((out.filter (·.1 == c)).reverse).map (·.2)

theorem repliesOf_append (c : Nat) (a b : List (Nat × Reply)) :
    repliesOf c (a ++ b) = repliesOf c b ++ repliesOf c a := by
  unfold repliesOf
  rw [List.filter_append, List.reverse_append, List.map_append]

theorem repliesOf_nil (c : Nat) : repliesOf c [] = [] := rfl

theorem repliesOf_cons_self (c : Nat) (r : Reply) (l : List (Nat × Reply)) :
    repliesOf c ((c, r) :: l) = repliesOf c l ++ [r] := by
  unfold repliesOf
  simp

theorem repliesOf_all (c : Nat) (l : List (Nat × Reply)) (h : ∀ a ∈ l, a.1 = c) :
    (repliesOf c l).length = l.length := by
  unfold repliesOf
  rw [List.length_map, List.length_reverse, List.filter_eq_self.2 (fun a ha => by simp [h a ha])]

end FR.C04o

import FR.Proofs.History
import FR.Proofs.C02lBlocking
import FR.Proofs.Swapdb
/-!
# No lost wake-up as an invariant over all histories; the stored list elements; a wake-up serves the first non-empty key

* Part A: `Kit`, the invariants over the databases and the connection records that are broken and restored inside
  SWAPDB, MOVE and parking.  `Kit.whole` makes such an invariant a `Whole` of `FR/Proofs/Closure.lean`, which hands its
  closure conditions as leaves to the descents of `Tower.lean` and `Events.lean`: hence every command, every event.
* Part B: the invariant `Inv` = data invariant + no lost wake-up, its `Kit`, `inv_runHistory`
* Part C: the multiset of stored list elements and its algebra under write-backs; a pass over a database without TTLs in
  closed form; time-outs; a wake-up serves the first non-empty key (the books of passes and wake-ups:
  `FR/Proofs/ListBooks.lean`)
-/
namespace FR.Conserve
open FR FR.M FR.Db
set_option linter.unusedSimpArgs false
set_option linter.unusedSectionVars false

/-! ## Part A: the kit -/

/-- an update that parks with record `p` -/
def ParkFn (p : Parked) (f : Conn → Conn) : Prop :=
  ∀ x, (f x).parked = some p ∧ (f x).inTx = x.inTx ∧ (f x).id = x.id

/-- the two states have the same databases and the same connection records -/
def FrEq (s s' : Sys) : Prop := s'.srv.dbs = s.srv.dbs ∧ s'.srv.conns = s.srv.conns

theorem FrEq.refl (s : Sys) : FrEq s s := ⟨rfl, rfl⟩
theorem FrEq.trans {a b c : Sys} (h : FrEq a b) (h' : FrEq b c) : FrEq a c :=
  ⟨h'.1.trans h.1, h'.2.trans h.2⟩
theorem FrEq.updConn {a b : Sys} (h : FrEq a b) (c : Nat) (f : Conn → Conn) : FrEq (a.updConn c f) (b.updConn c f) := by
  refine ⟨h.1, ?_⟩
  show b.srv.conns.map _ = a.srv.conns.map _
  rw [h.2]
theorem FrEq.nextClock (s : Sys) : FrEq s (nextClock s).2 := by
  unfold FrEq; rw [nextClock_srv]; exact ⟨rfl, rfl⟩
theorem FrEq.emitS (s : Sys) (c : Nat) (r : Reply) : FrEq s (s.emitS c r) := by
  unfold FrEq; rw [Sys.emitS_srv]; exact ⟨rfl, rfl⟩
theorem FrEq.conn {a b : Sys} (h : FrEq a b) (c : Nat) : b.conn c = a.conn c := by
  simp only [Sys.conn_def, h.2]

/-- What the descent needs to know about an invariant `I`: it depends only on the databases and the connection
records, it contains the data invariant, and it is preserved by the primitive state changes. -/
class KitBase (I : Sys → Prop) : Prop where
  data : ∀ s, I s → s.DataInv
  frame : ∀ s s', I s → FrEq s s' → I s'
  conn : ∀ s c f, I s → ConnFrame f → I (s.updConn c f)
  unpark : ∀ s c f, I s → Unpark f → I (s.updConn c f)
  notify : ∀ s d k, I s → I (s.mapConns (notifyFn d k))
  del : ∀ s d db', I s → Del (s.dbAt d) db' → I (s.setDbS d db')
  wb : ∀ s d ci, I s → I (s.wbStep d ci)
  regular : ∀ s d sig body ctx gate raw, I s →
    I (s.afterRegular d (runRegular sig body ctx gate raw (s.dbAt d)))
  opn : ∀ s c, I s → I (openConn c s).2
  gc : ∀ s c, I s → I (gcConn c s).2

/-- a `KitBase` invariant that is also kept by the bodies that cannot be treated step by step, because the invariant is
broken and restored inside them: SWAPDB, MOVE, and parking after an unserved pass -/
class Kit (I : Sys → Prop) : Prop extends KitBase I where
  swap : ∀ args cis, Pres I (swapdbCmd args cis)
  move : ∀ d args cis, Pres I (moveCmd d args cis)
  /-- parking after an unserved first BLPOP/BRPOP pass on the connection's database -/
  parkB : ∀ s c left keys p f, I s → ParkFn p f → p.keys = keys → p.db = (s.conn c).db → p.woken = false →
    (bpopPass (s.conn c).db left true keys s).1 = .ok none →
    I ((bpopPass (s.conn c).db left true keys s).2.updConn c f)
  /-- parking after an unserved first BRPOPLPUSH pass -/
  parkR : ∀ s c src dst p f, I s → ParkFn p f → p.kind = "brpoplpush" → p.keys = [src, dst] →
    p.db = (s.conn c).db → p.woken = false →
    (brpoplpushPass (s.conn c).db src dst true s).1 = .ok none →
    I ((brpoplpushPass (s.conn c).db src dst true s).2.updConn c f)
  /-- staying parked (flag cleared) after an unserved re-check -/
  stay : ∀ s c p f, I s → (s.conn c).parked = some p → ParkFn { p with woken := false } f →
    (parkedPass c p s).1 = .ok none → I ((parkedPass c p s).2.updConn c f)


section base
variable {I : Sys → Prop} [kit : KitBase I]

theorem Kit.nodupAt {s : Sys} (h : I s) (i : Nat) : NodupKeys (s.dbAt i).dict := ((kit.data s h).dbAt i).1

theorem k_setDb_del (i : Nat) (db' : Db) {s : Sys} (h : I s) (hd : Del (s.dbAt i) db') : I (setDb i db' s).2 :=
  kit.del s i db' h hd

theorem k_getDb (i : Nat) : Pres I (getDb i) := Pres.getDb i

theorem at_set_bind {β : Type} {s s' : Sys} {g : PUnit → M β} (hs : I s) (h : FrEq s s')
    (hg : Pres I (g ⟨⟩)) : PresAt I s (set s' >>= g) := hg _ (kit.frame s s' hs h)

theorem ConnOp.connFrame {f : Conn → Conn} (h : ConnOp f) : ConnFrame f := by
  cases h <;> exact fun _ => ⟨rfl, rfl, rfl⟩

theorem KitBase.base (c : Nat) : StableBase I c where
  reads := fun s d db' h hr => kit.del s d db' h (Del.of_reads (hr (Kit.nodupAt h d)))
  clear := fun s d t h => kit.del s d _ h (Del.nil _ t)
  wb := kit.wb
  regular := kit.regular
  notify := fun s d k h => kit.notify s d k h
  hint := fun s s' e _ _ _ _ h => kit.frame s s' h ⟨by rw [e], by rw [e]⟩
  scripts := fun _ s h => kit.frame s _ h ⟨rfl, rfl⟩
  lastsave := fun _ s h => kit.frame s _ h ⟨rfl, rfl⟩
  conn := fun s f hf h => kit.conn s c f h hf.connFrame

end base


/-! ## `blocking` / `blockingAsync`: the final state -/

theorem FrEq.clocked (s : Sys) (t : Int) : FrEq s (s.clocked t) := by
  unfold Sys.clocked
  split
  · exact (FrEq.nextClock _).trans (FrEq.nextClock _)
  · exact FrEq.refl _

theorem blocking_state (c : Nat) (park : Bool) (kind : String) (keys : List Bytes) (timeout : Int) (pass : Pass) (s : Sys) :
    FrEq (pass true s).2 (blocking c park kind keys timeout pass s).2 ∨
    ((pass true s).1 = .ok none ∧ ((pass true s).2.conn c).inTx = false ∧
      ∃ dl, FrEq ((pass true s).2.updConn c (parkAs kind keys ((pass true s).2.conn c).db dl))
      (blocking c park kind keys timeout pass s).2) := by
  rw [blocking_run]
  generalize pass true s = pr
  obtain ⟨r, s1⟩ := pr
  rcases r with e | _ | r
  · exact .inl (FrEq.refl _)
  · dsimp only [Sys.unserved]
    cases htx : (s1.conn c).inTx
    · cases park
      · exact .inl (FrEq.clocked s1 timeout)
      · exact .inr ⟨rfl, rfl, _, (FrEq.clocked s1 timeout).updConn c _⟩
    · exact .inl (FrEq.refl _)
  · exact .inl (FrEq.refl _)

theorem blockingAsync_state (c : Nat) (kind : String) (keys : List Bytes) (pass : Pass) (s : Sys) :
    FrEq (pass true s).2 (blockingAsync c kind keys pass s).2 ∨
    ((pass true s).1 = .ok none ∧ ((pass true s).2.conn c).inTx = false ∧
      (blockingAsync c kind keys pass s).2 =
        (pass true s).2.updConn c (parkAsync kind keys ((pass true s).2.conn c).db)) := by
  rw [blockingAsync_run]
  generalize pass true s = pr
  obtain ⟨r, s1⟩ := pr
  rcases r with e | _ | r
  · exact .inl (FrEq.refl _)
  · dsimp only [Sys.unserved]
    cases htx : (s1.conn c).inTx
    · exact .inr ⟨rfl, rfl, rfl⟩
    · exact .inl (FrEq.refl _)
  · exact .inl (FrEq.refl _)

theorem parkAs_parkFn (kind : String) (keys : List Bytes) (db : Nat) (dl : Option Int) :
    ParkFn { kind := kind, keys := keys, db := db, deadline := dl } (parkAs kind keys db dl) :=
  fun _ => ⟨rfl, rfl, rfl⟩

theorem parkAsync_parkFn (kind : String) (keys : List Bytes) (db : Nat) :
    ParkFn { kind := kind, keys := keys, db := db, deadline := none } (parkAsync kind keys db) :=
  fun _ => ⟨rfl, rfl, rfl⟩

theorem at_blocking {I : Sys → Prop} [kit : KitBase I] {s : Sys} (hs : I s) (c : Nat) (kind : String)
    (keys : List Bytes) (pass : Pass) (hpass : Pres I (pass true))
    (hpark : ∀ p f, ParkFn p f → p.kind = kind → p.keys = keys → p.db = ((pass true s).2.conn c).db →
      p.woken = false → (pass true s).1 = .ok none → I ((pass true s).2.updConn c f)) :
    (∀ park t, PresAt I s (blocking c park kind keys t pass)) ∧ PresAt I s (blockingAsync c kind keys pass) := by
  refine ⟨fun park t => ?_, ?_⟩
  · rcases blocking_state c park kind keys t pass s with h | ⟨hn, _, dl, h⟩
    · exact kit.frame _ _ (hpass s hs) h
    · exact kit.frame _ _ (hpark _ _ (parkAs_parkFn _ _ _ _) rfl rfl rfl rfl hn) h
  · rcases blockingAsync_state c kind keys pass s with h | ⟨hn, _, h⟩
    · exact kit.frame _ _ (hpass s hs) h
    · show I (blockingAsync c kind keys pass s).2
      rw [h]
      exact hpark _ _ (parkAsync_parkFn _ _ _) rfl rfl rfl rfl hn

variable {I : Sys → Prop} [kit : Kit I]

theorem at_blockingB {s : Sys} (hs : I s) (c : Nat) (name : String) (keys : List Bytes) (left : Bool) :
    (∀ park t, PresAt I s (blocking c park name keys t (fun first => bpopPass (s.conn c).db left first keys))) ∧
    PresAt I s (blockingAsync c name keys (fun first => bpopPass (s.conn c).db left first keys)) := by
  refine at_blocking hs c name keys _ ((KitBase.base c).bpopPass _ _ _ _) (fun p f hf _ hk hdb hw hn => ?_)
  rw [((framed_bpopPass ..).frame s).db c] at hdb
  exact kit.parkB s c left keys p f hs hf hk hdb hw hn

theorem at_blockingR {s : Sys} (hs : I s) (c : Nat) (src dst : Bytes) :
    (∀ park t, PresAt I s
      (blocking c park "brpoplpush" [src, dst] t (fun first => brpoplpushPass (s.conn c).db src dst first))) ∧
    PresAt I s (blockingAsync c "brpoplpush" [src, dst] (fun first => brpoplpushPass (s.conn c).db src dst first)) := by
  refine at_blocking hs c _ _ _ ((KitBase.base c).brpoplpushPass _ _ _ _) (fun p f hf hkind hk hdb hw hn => ?_)
  rw [((framed_brpoplpushPass ..).frame s).db c] at hdb
  exact kit.parkR s c src dst p f hs hf hkind hk hdb hw hn

theorem Kit.stable (mode : Mode) (c : Nat) : Stable I mode c :=
  { KitBase.base c with
    swap := Kit.swap
    move := Kit.move
    bpop := fun _ kind left keys _ hs =>
      at_ite (fun _ => (at_blockingB hs c kind keys left).2) (fun _ => (at_blockingB hs c kind keys left).1 _ _)
    brpoplpush := fun _ src dst _ hs =>
      at_ite (fun _ => (at_blockingR hs c src dst).2) (fun _ => (at_blockingR hs c src dst).1 _ _) }

theorem stayParked_parkFn (p : Parked) : ParkFn { p with woken := false } (stayParked p) := fun _ => ⟨rfl, rfl, rfl⟩

/-- A `Kit` invariant that does not see EXEC's `inTx` mark is carried through every event. -/
theorem Kit.whole (hinTx : ∀ s c (b : Bool), I s → I (s.updConn c fun x => { x with inTx := b })) : Whole I where
  cmd := Kit.stable
  frame := fun s s' e1 e2 h => kit.frame s s' h ⟨e1, e2⟩
  conn := fun s c f hf h => kit.conn s c f h hf
  inTx := hinTx
  unpark := fun s c f hf h => kit.unpark s c f h hf
  stay := fun s c p h hp hn => kit.stay s c p (stayParked p) h hp (stayParked_parkFn p) hn
  opn := kit.opn
  gc := kit.gc

def stubInner : Inner := fun _ _ => do fault "nested exec"; return none

theorem k_stubInner (sig : Sig) (raw : List Bytes) : Pres I (stubInner sig raw) :=
  Pres.bind ((KitBase.base 0).fault _) (fun _ => Pres.pure _)

/-- EXEC preserves the invariant, at both nesting levels -/
structure ExecOk (I : Sys → Prop) : Prop where
  stub : ∀ c cis, Pres I (execCmd (fun _ _ => do fault "nested exec"; return none) c cis)
  top : ∀ mode c cis, Pres I (execCmd (runInner mode c) c cis)

section
variable (hx : ExecOk I)
include hx

theorem k_runInner (mode : Mode) (c : Nat) (sig : Sig) (raw : List Bytes) : Pres I (runInner mode c sig raw) :=
  have P := pres_pubsub (c := c) (fun s s' e1 e2 h => kit.frame s s' h ⟨e1, e2⟩) (fun s f hf h => kit.conn s c f h hf)
  (Kit.stable mode c).runInner (fun name args cis => (Kit.stable mode c).special nestedStub name args cis
    (fun _ => P.1) (fun _ => P.2.1) (fun _ => P.2.2) (fun _ => hx.stub c)) sig raw

end

end FR.Conserve


/-! ## Part B: no lost wake-up, as an invariant over all histories -/
namespace FR.Conserve
open FR FR.M FR.Db
set_option linter.unusedSimpArgs false
set_option linter.unusedSectionVars false

/-! ## the invariant -/

/-- the keys a parked connection can be served from: all its keys for BLPOP / BRPOP, the source for BRPOPLPUSH
(this mirrors `parkedPass`) -/
def serveKeys (p : Parked) : List Bytes :=
  match p.kind, p.keys with
  | "brpoplpush", [src, _] => [src]
  | _, keys => keys

/-- the dictionary stores a list under `k` (expired or not) -/
def ListAt (d : Dict) (k : Bytes) : Prop := ∃ it l, (k, it) ∈ d ∧ it.value = .list l

/-- No lost wake-up: a parked connection whose flag `woken` is clear has no list under any of the keys it can be
served from. -/
def NoLost (s : Sys) : Prop :=
  ∀ x ∈ s.srv.conns, ∀ p, x.parked = some p → p.woken = false →
    ∀ k ∈ serveKeys p, ¬ ListAt (s.srv.dbs.getD p.db []) k

/-- the invariant carried through all code: the data invariant and no lost wake-up -/
def Inv (s : Sys) : Prop := s.DataInv ∧ NoLost s

theorem inv_init : Inv {} := ⟨Sys.dataInv_init, fun x hx => by cases hx⟩

theorem serveKeys_sub (p : Parked) : ∀ k ∈ serveKeys p, k ∈ p.keys := by
  intro k hk
  unfold serveKeys at hk
  split at hk
  · rename_i h1 h2
    simp only [List.mem_singleton] at hk
    rw [h2, hk]; simp
  · exact hk

/-- the general step lemma of `NoLost` -/
theorem NoLost.of_step {s s' : Sys} (h : NoLost s)
    (hconns : ∀ x' ∈ s'.srv.conns, ∀ p, x'.parked = some p → p.woken = false →
      ∃ x ∈ s.srv.conns, x.parked = some p)
    (hdbs : ∀ j, s'.AllWoken j ∨ ∀ k, ListAt (s'.srv.dbs.getD j []) k → ListAt (s.srv.dbs.getD j []) k) :
    NoLost s' := by
  intro x' hx' p hp hw k hk hl
  obtain ⟨x, hx, hxp⟩ := hconns x' hx' p hp hw
  rcases hdbs p.db with ha | hsub
  · have := ha x' hx' p hp rfl
    rw [hw] at this; cases this
  · exact h x hx p hxp hw k hk (hsub k hl)

theorem conns_map {s s' : Sys} (g : Conn → Conn) (hs : s'.srv.conns = s.srv.conns.map g)
    (hg : ∀ x p, (g x).parked = some p → p.woken = false → x.parked = some p) :
    ∀ x' ∈ s'.srv.conns, ∀ p, x'.parked = some p → p.woken = false → ∃ x ∈ s.srv.conns, x.parked = some p := by
  intro x' hx' p hp hw
  rw [hs, List.mem_map] at hx'
  obtain ⟨x, hx, rfl⟩ := hx'
  exact ⟨x, hx, hg x p hp hw⟩

theorem notifyFn_unwoken (d : Nat) (key : Bytes) (x : Conn) (p : Parked)
    (hp : (notifyFn d key x).parked = some p) (hw : p.woken = false) : x.parked = some p := by
  rw [notifyFn_parked] at hp
  cases hq : x.parked with
  | none => rw [hq] at hp; cases hp
  | some q =>
    rw [hq] at hp
    simp only [Option.map_some, Option.some.injEq] at hp
    split at hp
    · subst hp; cases hw
    · rw [hp]

theorem upd_unwoken (c : Nat) (f : Conn → Conn) (hf : ∀ x p, (f x).parked = some p → p.woken = false → x.parked = some p)
    (x : Conn) (p : Parked) (hp : (if x.id == c then f x else x).parked = some p) (hw : p.woken = false) :
    x.parked = some p := by
  split at hp
  · exact hf x p hp hw
  · exact hp

theorem NoLost.mapConns {s : Sys} (h : NoLost s) (g : Conn → Conn)
    (hg : ∀ x p, (g x).parked = some p → p.woken = false → x.parked = some p) : NoLost (s.mapConns g) :=
  h.of_step (conns_map g rfl hg) (fun _ => .inr fun _ hk => hk)

theorem NoLost.updConn {s : Sys} (h : NoLost s) (c : Nat) (f : Conn → Conn)
    (hf : ∀ x p, (f x).parked = some p → p.woken = false → x.parked = some p) : NoLost (s.updConn c f) := by
  rw [Sys.updConn_eq_mapConns]
  exact h.mapConns _ (upd_unwoken c f hf)

/-! ## databases -/

theorem setDbS_getD (s : Sys) (d j : Nat) (db : Db) :
    (s.setDbS d db).srv.dbs.getD j [] = if j = d ∧ d < s.srv.dbs.length then db.dict else s.srv.dbs.getD j [] :=
  getD_set_eq _ _ _ _ _

theorem listAt_mono {a b : Dict} (h : ∀ q ∈ a, q ∈ b) {k : Bytes} (hl : ListAt a k) : ListAt b k := by
  obtain ⟨it, l, hm, hv⟩ := hl
  exact ⟨it, l, h _ hm, hv⟩

theorem setDbS_listAt {s : Sys} {d : Nat} {db : Db} (hsub : ∀ k, ListAt db.dict k → ListAt (s.dbAt d).dict k)
    (j : Nat) (k : Bytes) (hl : ListAt ((s.setDbS d db).srv.dbs.getD j []) k) : ListAt (s.srv.dbs.getD j []) k := by
  rw [setDbS_getD] at hl
  split at hl
  · rename_i h; rw [h.1]; exact hsub k hl
  · exact hl

theorem inv_setDb_sub {s : Sys} (h : Inv s) (d : Nat) (db : Db) (hg : Good db.dict)
    (hsub : ∀ k, ListAt db.dict k → ListAt (s.dbAt d).dict k) : Inv (s.setDbS d db) :=
  ⟨h.1.setDbS d hg, h.2.of_step (fun x hx _ hp _ => ⟨x, hx, hp⟩) (fun j => .inr (setDbS_listAt hsub j))⟩

/-! ## write-back -/

theorem writeback_unmod_listAt (ci : CI) (db : Db) (hm : ci.modified = false) (k : Bytes)
    (hl : ListAt (ci.writeback db).1.dict k) : ListAt db.dict k := by
  unfold CI.writeback at hl
  simp only [hm, Bool.false_eq_true, if_false] at hl
  split at hl
  · split at hl
    · rename_i db' it heq
      obtain ⟨it', l, hmem, hv⟩ := hl
      simp only at hmem
      rcases mem_setRaw hmem with hq | hq
      · exact ⟨it', l, get_dict_sub (by rw [heq]; exact hq), hv⟩
      · simp only [Prod.mk.injEq] at hq
        obtain ⟨hk, hit⟩ := hq
        subst hit
        have : (db.get ci.key).2 = some it := by rw [heq]
        exact ⟨it, l, by rw [hk]; exact get_mem this, hv⟩
    · rename_i db' heq
      exact listAt_mono (fun q hq => get_dict_sub (by rw [heq]; exact hq)) hl
  · exact hl

theorem allWoken_setDbS {s : Sys} {j : Nat} (d : Nat) (db : Db) (h : s.AllWoken j) : (s.setDbS d db).AllWoken j := h

theorem inv_wb (s : Sys) (d : Nat) (ci : CI) (h : Inv s) : Inv (s.wbStep d ci) := by
  refine ⟨?_, ?_⟩
  · have hg : Good (ci.writeback (s.dbAt d)).1.dict := (h.1.dbAt d).writeback ci
    unfold Sys.wbStep
    simp only
    split
    · exact (h.1.setDbS d hg).frame rfl
    · exact h.1.setDbS d hg
  · by_cases hm : ci.modified = true
    · have hw : (s.wbStep d ci).AllWoken d := Sys.allWoken_wbStep s d ci hm
      refine h.2.of_step ?_ ?_
      · unfold Sys.wbStep
        simp only [hm, if_true]
        exact conns_map (notifyFn d ci.key) rfl (notifyFn_unwoken d ci.key)
      · intro j
        by_cases hj : j = d
        · subst hj; exact .inl hw
        · right
          intro k hk
          have : (s.wbStep d ci).srv.dbs = (s.setDbS d (ci.writeback (s.dbAt d)).1).srv.dbs := by
            unfold Sys.wbStep; simp only [hm, if_true]; rfl
          rw [this, setDbS_getD] at hk
          simp only [hj, false_and, if_false] at hk
          exact hk
    · have hm : ci.modified = false := by simpa using hm
      have : s.wbStep d ci = s.setDbS d (ci.writeback (s.dbAt d)).1 := by
        unfold Sys.wbStep; simp only [hm, Bool.false_eq_true, if_false]
      rw [this]
      exact (inv_setDb_sub h d _ ((h.1.dbAt d).writeback ci) (writeback_unmod_listAt ci _ hm)).2

/-! ## regular commands -/

theorem writebackPure_listAt (cis : List CI) (db : Db) (hn : (writebackPure db cis).2 = []) (k : Bytes)
    (hl : ListAt (writebackPure db cis).1.dict k) : ListAt db.dict k := by
  induction cis generalizing db with
  | nil => exact hl
  | cons c cs ih =>
    rw [writebackPure_cons] at hn hl
    simp only [List.append_eq_nil_iff] at hn
    have hm : c.modified = false := by
      cases hc : c.modified with
      | false => rfl
      | true => rw [hc] at hn; simp at hn
    exact writeback_unmod_listAt c db hm k (ih _ hn.2 hl)

theorem runRegular_listAt (sig : Sig) (body : Body) (ctx : Ctx) (gate : Option Err) (raw : List Bytes)
    {db : Db} (nd : NodupKeys db.dict) (hn : (runRegular sig body ctx gate raw db).notified = []) (k : Bytes)
    (hl : ListAt (runRegular sig body ctx gate raw db).db.dict k) : ListAt db.dict k := by
  have hr := listAt_mono (Sig.apply_reads sig raw nd).sub (k := k)
  rcases runRegular_out sig body ctx gate raw db with ⟨hd, _⟩ | ⟨_, _, cis', _, _, hd, hn'⟩
  · exact hr (hd ▸ hl)
  · exact hr (writebackPure_listAt cis' _ (hn' ▸ hn) k (hd ▸ hl))

theorem forM_notify_unwoken (d : Nat) (ks : List Bytes) (s : Sys) :
    ∀ x' ∈ (ks.forM (notifyWatch d) s).2.srv.conns, ∀ p, x'.parked = some p → p.woken = false →
      ∃ x ∈ s.srv.conns, x.parked = some p := by
  induction ks generalizing s with
  | nil => intro x hx p hp _; exact ⟨x, hx, hp⟩
  | cons k ks ih =>
    rw [forM_cons_eq]
    simp only [bind, StateT.bind, notifyWatch_run]
    intro x' hx' p hp hw
    obtain ⟨x1, hx1, hp1⟩ := ih _ x' hx' p hp hw
    exact conns_map (notifyFn d k) rfl (notifyFn_unwoken d k) x1 hx1 p hp1 hw

theorem inv_regular (s : Sys) (d : Nat) (sig : Sig) (body : Body) (ctx : Ctx) (gate : Option Err)
    (raw : List Bytes) (h : Inv s) : Inv (s.afterRegular d (runRegular sig body ctx gate raw (s.dbAt d))) := by
  have hg : Good (runRegular sig body ctx gate raw (s.dbAt d)).db.dict := (h.1.dbAt d).runRegular ..
  have hdbs := Sys.afterRegular_dbs s d (runRegular sig body ctx gate raw (s.dbAt d))
  refine ⟨(h.1.setDbS d hg).frame hdbs, ?_⟩
  refine h.2.of_step ?_ ?_
  · unfold Sys.afterRegular
    intro x' hx' p hp hw
    obtain ⟨x, hx, hxp⟩ := forM_notify_unwoken d _ _ x' hx' p hp hw
    rw [Sys.faultS_srv] at hx
    exact ⟨x, hx, hxp⟩
  · intro j
    by_cases hn : (runRegular sig body ctx gate raw (s.dbAt d)).notified = []
    · right
      intro k hk
      rw [hdbs] at hk
      exact setDbS_listAt (s := s) (d := d) (db := (runRegular sig body ctx gate raw (s.dbAt d)).db)
        (runRegular_listAt sig body ctx gate raw (h.1.dbAt d).1 hn) j k hk
    · by_cases hj : j = d
      · subst hj; exact .inl (Sys.afterRegular_allWoken s j _ hn)
      · right
        intro k hk
        rw [hdbs, getD_set_eq] at hk
        simp only [hj, false_and, if_false] at hk
        exact hk

/-! ## the base kit -/

theorem inv_frame (s s' : Sys) (h : Inv s) (he : FrEq s s') : Inv s' := by
  refine ⟨h.1.frame he.1, ?_⟩
  unfold NoLost
  rw [he.1, he.2]
  exact h.2

theorem inv_updConn (s : Sys) (c : Nat) (f : Conn → Conn) (h : Inv s)
    (hf : ∀ x p, (f x).parked = some p → p.woken = false → x.parked = some p) : Inv (s.updConn c f) :=
  ⟨h.1, h.2.updConn c f hf⟩

theorem inv_open (s : Sys) (c : Nat) (h : Inv s) : Inv (openConn c s).2 := by
  refine ⟨h.1, h.2.of_step ?_ (fun j => .inr fun k hk => hk)⟩
  intro x' hx' p hp hw
  have : x' ∈ s.srv.conns ++ [{ id := c }] := hx'
  rcases List.mem_append.1 this with hx | hx
  · exact ⟨x', hx, hp⟩
  · simp only [List.mem_singleton] at hx
    subst hx; cases hp

theorem inv_gc (s : Sys) (c : Nat) (h : Inv s) : Inv (gcConn c s).2 := by
  refine ⟨h.1, h.2.of_step ?_ (fun j => .inr fun k hk => hk)⟩
  intro x' hx' p hp hw
  have : x' ∈ s.srv.conns.filter (·.id != c) := hx'
  exact ⟨x', (List.mem_filter.1 this).1, hp⟩

instance : KitBase Inv where
  data := fun _ h => h.1
  frame := inv_frame
  conn := fun s c f h hf => inv_updConn s c f h (fun x p hp _ => by rw [← (hf x).1]; exact hp)
  unpark := fun s c f h hf => inv_updConn s c f h (fun x p hp _ => by rw [(hf x).1] at hp; cases hp)
  notify := fun s d k h => ⟨h.1, h.2.mapConns _ (notifyFn_unwoken d k)⟩
  del := fun s d db' h hd => inv_setDb_sub h d db' (hd.good (h.1.dbAt d)) (fun k => listAt_mono hd.sub)
  wb := inv_wb
  regular := inv_regular
  opn := inv_open
  gc := inv_gc

/-! ## an unserved pass leaves no list under the keys it looked at -/

theorem get_none_noentry {db : Db} {k : Bytes} (h : (db.get k).2 = none) : ∀ q ∈ (db.get k).1.dict, q.1 ≠ k := by
  unfold Db.get at h ⊢
  cases hl : db.dict.lookup k with
  | none => simp only [hl]; exact lookup_none_iff.1 hl
  | some it =>
    simp only [hl] at h ⊢
    split at h
    · rename_i he
      simp only [he, if_true]
      intro q hq
      have := (List.mem_filter.1 hq).2
      simpa using this
    · cases h

theorem get_some_eq {db : Db} {k : Bytes} {it : Item} (h : (db.get k).2 = some it) :
    db.dict.lookup k = some it ∧ (db.get k).1 = db := by
  unfold Db.get at h ⊢
  cases hl : db.dict.lookup k with
  | none => simp only [hl] at h; cases h
  | some it' =>
    simp only [hl] at h ⊢
    split at h
    · cases h
    · rename_i he
      simp only [Option.some.injEq] at h
      simp only [he, if_false, Bool.false_eq_true]
      refine ⟨by rw [h], ?_⟩
      first | rfl | trivial

theorem get_some_nolist {db : Db} {k : Bytes} {it : Item} (nd : NodupKeys db.dict) (h : (db.get k).2 = some it)
    (hv : ∀ l, it.value ≠ .list l) : ¬ ListAt (db.get k).1.dict k := by
  obtain ⟨hl, he⟩ := get_some_eq h
  rw [he]
  rintro ⟨it', l, hm, hv'⟩
  have := nodup_unique nd hl (k, it') hm rfl
  simp only [Prod.mk.injEq, true_and] at this
  subst this
  exact hv l hv'

theorem noentry_nolist {d : Dict} {k : Bytes} (h : ∀ q ∈ d, q.1 ≠ k) : ¬ ListAt d k := by
  rintro ⟨it, l, hm, _⟩
  exact h _ hm rfl

theorem getD_out_of_range (s : Sys) (d : Nat) (h : s.srv.dbs.length ≤ d) : s.srv.dbs.getD d [] = [] := by
  rw [List.getD_eq_getElem?_getD, List.getElem?_eq_none h]; rfl

/-- after an unserved pass (first or later) the stored dictionary of `d` has no list, expired or not, under any of the
keys: what `NoLost` asks of a connection that parks or stays parked -/
theorem bpopPass_none_noList (d : Nat) (left first : Bool) (keys : List Bytes) (s : Sys)
    (nd : NodupKeys (s.dbAt d).dict) (h : (bpopPass d left first keys s).1 = .ok none) :
    ∀ k ∈ keys, ¬ ListAt ((bpopPass d left first keys s).2.srv.dbs.getD d []) k := by
  by_cases hd : d < s.srv.dbs.length
  · -- together with: the final dictionary holds nothing that the first one did not
    refine (bpopPass_ind d left first (fun keys s r => d < s.srv.dbs.length → NodupKeys (s.dbAt d).dict →
      r.1 = .ok none → (∀ q ∈ r.2.srv.dbs.getD d [], q ∈ (s.dbAt d).dict) ∧
        ∀ k ∈ keys, ¬ ListAt (r.2.srv.dbs.getD d []) k)
      (fun _ _ _ _ => ⟨fun _ hq => hq, fun _ hk => (by cases hk)⟩) ?_ ?_ ?_ keys s hd nd h).2
    · intro key rest s r hsk ih hd nd hn
      have L1 := Sys.LazyStep.get nd key
      have hdb1 := s.looked_dbAt hd key
      obtain ⟨isub, ino⟩ := ih (by rw [L1.len]; exact hd) (L1.dbAt hd).nd hn
      rw [hdb1] at isub
      refine ⟨fun q hq => get_dict_sub (isub q hq), fun k hk => ?_⟩
      rcases List.mem_cons.1 hk with rfl | hk
      · -- the look-up left no entry of `k`, or one that is not a list
        rcases hsk with hg | ⟨_, it, hg, hv⟩
        · exact noentry_nolist (fun q hq => get_none_noentry hg q (isub q hq))
        · exact fun hl => get_some_nolist nd hg hv (listAt_mono isub hl)
      · exact ino k hk
    · intro _ _ _ _ _ _ _ _ _ hn; cases hn
    · intro _ _ _ _ _ _ _ _ _ hn; cases hn
  · have hd : s.srv.dbs.length ≤ d := by omega
    rw [bpopPass_out_of_range d left first keys s hd]
    intro k _
    rw [getD_out_of_range s d hd]
    rintro ⟨_, _, hm, _⟩; cases hm

theorem brpoplpushPass_none_noList (d : Nat) (src dst : Bytes) (first : Bool) (s : Sys)
    (hg : Good (s.dbAt d).dict) (h : (brpoplpushPass d src dst first s).1 = .ok none) :
    ¬ ListAt ((brpoplpushPass d src dst first s).2.srv.dbs.getD d []) src := by
  by_cases hd : d < s.srv.dbs.length
  · -- after the look-up of the source, database `d` is what `get` left
    have key : (s.looked d src).srv.dbs.getD d [] = ((s.dbAt d).get src).1.dict :=
      congrArg Db.dict (s.looked_dbAt hd src)
    rw [brpoplpushPass_run] at h ⊢
    revert h
    cases e2 : ((s.dbAt d).get src).2 with
    | none =>
      intro _
      show ¬ ListAt ((s.looked d src).srv.dbs.getD d []) src
      rw [key]
      exact noentry_nolist (get_none_noentry e2)
    | some sit =>
      obtain ⟨sv, se⟩ := sit
      have hne : sv.isEmptyColl = false := hg.get_snd e2
      cases sv with
      | list sl =>
        -- a stored list is not empty, so the pass either raises or serves
        have hsl : sl ≠ [] := by
          intro e; subst e; simp [Value.isEmptyColl] at hne
        obtain ⟨x, rem, hp, _⟩ := popRightN_one hsl
        intro h
        dsimp only at h
        split at h
        · cases h
        · rw [hp] at h; cases h
      | _ =>
        cases first
        all_goals first
          | (intro h; cases h; done)
          | (intro _
             show ¬ ListAt ((s.looked d src).srv.dbs.getD d []) src
             rw [key]
             exact get_some_nolist hg.1 e2 (fun l hl => by cases hl))
  · have hd : s.srv.dbs.length ≤ d := by omega
    have : (brpoplpushPass d src dst first s).2.srv.dbs.length = s.srv.dbs.length :=
      brpoplpushPass_frame (fun s' => s'.srv.dbs.length = s.srv.dbs.length) (fun s i db h => by simpa using h)
        (fun s d k h => h) d src dst first s rfl
    rw [getD_out_of_range _ d (by rw [this]; exact hd)]
    rintro ⟨_, _, hm, _⟩; cases hm

/-! ## parking -/

theorem noLost_park {s1 : Sys} (h : NoLost s1) (c : Nat) (f : Conn → Conn) (p : Parked) (hf : ParkFn p f)
    (hp : p.woken = false → ∀ k ∈ serveKeys p, ¬ ListAt (s1.srv.dbs.getD p.db []) k) : NoLost (s1.updConn c f) := by
  intro x' hx' p' hp' hw k hk
  rw [Sys.updConn_eq_mapConns] at hx'
  have : x' ∈ s1.srv.conns.map (fun x => if x.id == c then f x else x) := hx'
  obtain ⟨x, hx, rfl⟩ := List.mem_map.1 this
  split at hp'
  · rw [(hf x).1] at hp'
    simp only [Option.some.injEq] at hp'
    subst hp'
    exact hp hw k hk
  · exact h x hx p' hp' hw k hk

theorem inv_parkB (s : Sys) (c : Nat) (left : Bool) (keys : List Bytes) (p : Parked) (f : Conn → Conn) (h : Inv s)
    (hf : ParkFn p f) (hk : p.keys = keys) (hdb : p.db = (s.conn c).db) (_hw : p.woken = false)
    (hn : (bpopPass (s.conn c).db left true keys s).1 = .ok none) :
    Inv ((bpopPass (s.conn c).db left true keys s).2.updConn c f) := by
  have h1 : Inv (bpopPass (s.conn c).db left true keys s).2 := (KitBase.base c).bpopPass _ _ _ _ s h
  refine ⟨h1.1, noLost_park h1.2 c f p hf ?_⟩
  intro _ k hkk
  rw [hdb]
  exact bpopPass_none_noList _ _ _ _ s (h.1.dbAt _).1 hn k (hk ▸ serveKeys_sub p k hkk)

theorem serveKeys_brpoplpush {p : Parked} {src dst : Bytes} (hkind : p.kind = "brpoplpush") (hk : p.keys = [src, dst]) :
    serveKeys p = [src] := by
  unfold serveKeys
  rw [hkind, hk]
  first | rfl | simp

theorem inv_parkR (s : Sys) (c : Nat) (src dst : Bytes) (p : Parked) (f : Conn → Conn) (h : Inv s)
    (hf : ParkFn p f) (hkind : p.kind = "brpoplpush") (hk : p.keys = [src, dst]) (hdb : p.db = (s.conn c).db)
    (_hw : p.woken = false) (hn : (brpoplpushPass (s.conn c).db src dst true s).1 = .ok none) :
    Inv ((brpoplpushPass (s.conn c).db src dst true s).2.updConn c f) := by
  have h1 : Inv (brpoplpushPass (s.conn c).db src dst true s).2 := (KitBase.base c).brpoplpushPass _ _ _ _ s h
  refine ⟨h1.1, noLost_park h1.2 c f p hf ?_⟩
  intro _ k hkk
  rw [serveKeys_brpoplpush hkind hk, List.mem_singleton] at hkk
  subst hkk
  rw [hdb]
  exact brpoplpushPass_none_noList _ _ _ _ s (h.1.dbAt _) hn

theorem inv_stay (s : Sys) (c : Nat) (p : Parked) (f : Conn → Conn) (h : Inv s) (_hp : (s.conn c).parked = some p)
    (hf : ParkFn { p with woken := false } f) (hn : (parkedPass c p s).1 = .ok none) :
    Inv ((parkedPass c p s).2.updConn c f) := by
  have h1 : Inv (parkedPass c p s).2 := (KitBase.base c).parkedPass c p s h
  refine ⟨h1.1, noLost_park h1.2 c f _ hf ?_⟩
  intro _ k hkk
  show ¬ ListAt ((parkedPass c p s).2.srv.dbs.getD p.db []) k
  have hkk : k ∈ serveKeys p := hkk
  rcases parkedPass_cases c p with ⟨src, dst, hkind, hkeys, he⟩ | ⟨_, he⟩ | ⟨_, he⟩
  · rw [serveKeys_brpoplpush hkind hkeys, List.mem_singleton] at hkk
    subst hkk
    rw [he] at hn ⊢
    exact brpoplpushPass_none_noList _ _ _ _ s (h.1.dbAt _) hn
  · rw [he] at hn ⊢
    exact bpopPass_none_noList _ _ _ _ s (h.1.dbAt _).1 hn k (serveKeys_sub p k hkk)
  · rw [he] at hn ⊢
    exact bpopPass_none_noList _ _ _ _ s (h.1.dbAt _).1 hn k (serveKeys_sub p k hkk)

/-! ## SWAPDB -/

theorem swapNotify_unwoken (a b : Nat) (ks : List Bytes) (s : Sys) :
    ∀ x' ∈ (swapNotify a b ks s).2.srv.conns, ∀ p, x'.parked = some p → p.woken = false →
      ∃ x ∈ s.srv.conns, x.parked = some p := by
  induction ks generalizing s with
  | nil => intro x hx p hp _; exact ⟨x, hx, hp⟩
  | cons k ks ih =>
    rw [swapNotify_cons]
    intro x' hx' p hp hw
    obtain ⟨x1, hx1, hp1⟩ := ih _ x' hx' p hp hw
    obtain ⟨x2, hx2, hp2⟩ := conns_map (notifyFn b k) rfl (notifyFn_unwoken b k) x1 hx1 p hp1 hw
    exact conns_map (notifyFn a k) rfl (notifyFn_unwoken a k) x2 hx2 p hp2 hw

theorem swapNotify_allWoken_pres (a b j : Nat) (ks : List Bytes) (s : Sys) (h : s.AllWoken j) :
    (swapNotify a b ks s).2.AllWoken j := by
  induction ks generalizing s with
  | nil => exact h
  | cons k ks ih =>
    rw [swapNotify_cons]
    exact ih _ (Sys.allWoken_notify_pres _ j b k (Sys.allWoken_notify_pres _ j a k h))

theorem swapNotify_allWoken (a b : Nat) (ks : List Bytes) (s : Sys) (hks : ks ≠ []) :
    (swapNotify a b ks s).2.AllWoken a ∧ (swapNotify a b ks s).2.AllWoken b := by
  cases ks with
  | nil => exact absurd rfl hks
  | cons k ks =>
    rw [swapNotify_cons]
    exact ⟨swapNotify_allWoken_pres a b a ks _ (Sys.allWoken_notify_pres _ a b k (Sys.allWoken_notify _ a k)),
      swapNotify_allWoken_pres a b b ks _ (Sys.allWoken_notify _ b k)⟩

/-- SWAPDB keeps `Inv`.  After the two dictionaries have changed places a connection parked on either database may face
a list it was never woken for; the command repairs that itself, since it calls `notify_watch` on both databases for every
live key of either (`swapdbCmd_run`): a database that holds a key afterwards has all its parked connections flagged
(`swapNotify_allWoken`), one that holds none holds no list, and the other databases are as before. -/
theorem inv_swap (args : List Arg) (cis : List CI) : Pres Inv (swapdbCmd args cis) := by
  intro s h
  refine ⟨swapdbCmd_preserves args cis s h.1, ?_⟩
  unfold swapdbCmd
  split
  · rename_i i1 i2
    show NoLost (swapdbCmd [Arg.int i1, Arg.int i2] cis s).2
    by_cases hne : i1 = i2
    · subst hne; rw [swapdbCmd_same]; exact h.2
    rw [swapdbCmd_run i1 i2 cis s hne]
    generalize i1.toNat = a
    generalize i2.toNat = b
    refine h.2.of_step (swapNotify_unwoken a b _ (s.swapped a b)) fun j => ?_
    rw [swapNotify_frame (fun s => s.srv.dbs) (fun _ _ => rfl)]
    have hnone : s.swapKeys a b = [] → (j = a ∨ j = b) →
        ∀ k, ListAt ((s.swapped a b).srv.dbs.getD j []) k → ListAt (s.srv.dbs.getD j []) k := by
      rintro hk hj k ⟨it, l, hm, _⟩
      have : (k, it).1 ∈ s.swapKeys a b := by
        rcases hj with rfl | rfl
        · exact s.swapKeys_left _ _ hm
        · exact s.swapKeys_right _ _ hm
      rw [hk] at this; cases this
    by_cases hja : j = a
    · by_cases hk : s.swapKeys a b = []
      · exact .inr (hnone hk (.inl hja))
      · subst hja; exact .inl (swapNotify_allWoken j b _ _ hk).1
    · by_cases hjb : j = b
      · by_cases hk : s.swapKeys a b = []
        · exact .inr (hnone hk (.inr hjb))
        · subst hjb; exact .inl (swapNotify_allWoken a j _ _ hk).2
      · right
        intro k hk
        have e : (s.swapped a b).srv.dbs.getD j [] = s.srv.dbs.getD j [] := congrArg Db.dict (s.swapped_other hja hjb)
        rwa [e] at hk
  · exact h.2

/-! ## MOVE -/

theorem inv_putNotify (s : Sys) (h : Inv s) (i : Nat) (k : Bytes) (it : Item) (hit : it.value.isEmptyColl = false) :
    Inv ((s.setDbS i ⟨Db.setRaw (s.dbAt i).dict k it, (s.dbAt i).time⟩).mapConns (notifyFn i k)) := by
  have hg : Good (Db.setRaw (s.dbAt i).dict k it) := (h.1.dbAt i).setRaw k hit
  refine ⟨(h.1.setDbS i (db := ⟨_, _⟩) hg).frame rfl, ?_⟩
  refine h.2.of_step (conns_map (notifyFn i k) rfl (notifyFn_unwoken i k)) ?_
  intro j
  by_cases hj : j = i
  · subst hj; exact .inl (Sys.allWoken_notify _ j k)
  · right
    intro k' hk'
    have : ((s.setDbS i ⟨Db.setRaw (s.dbAt i).dict k it, (s.dbAt i).time⟩).mapConns (notifyFn i k)).srv.dbs
        = (s.setDbS i ⟨Db.setRaw (s.dbAt i).dict k it, (s.dbAt i).time⟩).srv.dbs := rfl
    rw [this, setDbS_getD] at hk'
    simp only [hj, false_and, if_false] at hk'
    exact hk'

theorem inv_move (d : Nat) (args : List Arg) (cis : List CI) : Pres Inv (moveCmd d args cis) := by
  have B := KitBase.base (I := Inv) 0
  unfold moveCmd
  split
  · rename_i k dst
    simp only []
    split
    · exact Pres.pure _
    · split
      · exact Pres.pure _
      · -- two lazy reads, then the entry is put into the destination and its watchers are notified in one step
        refine getDb_bind _ (fun s hs => ?_)
        refine B.at_setDb_bind hs (fun nd => Reads.get nd _) ?_
        split
        · exact Pres.pure _
        · refine getDb_bind _ (fun s hs => ?_)
          refine B.at_setDb_bind hs (fun nd => Reads.get nd _) ?_
          split
          · exact Pres.pure _
          · rename_i it heq2
            have hit : it.value.isEmptyColl = false := (hs.1.dbAt d).get_snd heq2
            intro s1 h1
            exact inv_putNotify s1 h1 dst.toNat (ciAt cis k).key it hit
  · exact Pres.pure _

instance : Kit Inv where
  swap := inv_swap
  move := inv_move
  parkB := inv_parkB
  parkR := inv_parkR
  stay := inv_stay

theorem inv_whole : Whole Inv := Kit.whole (fun s c _ h => inv_updConn s c _ h (fun _ _ hp _ => hp))

theorem inv_stepEv (s : Sys) (e : Ev) (h : Inv s) : Inv (stepEv s e) := inv_whole.stepEv s e h

theorem inv_foldl (evs : List Ev) (s : Sys) (h : Inv s) : Inv (evs.foldl stepEv s) := inv_whole.foldl evs s h

theorem inv_runHistory (evs : List Ev) : Inv (runHistory evs) := inv_whole.runHistory inv_init evs

end FR.Conserve

/-! ## Part C: the stored list elements -/
namespace FR.Conserve
open FR FR.M FR.Db
set_option linter.unusedSimpArgs false
set_option linter.unusedSectionVars false

/-! ## the stored elements -/

/-- the elements of a stored value, if it is a list -/
def elemsOf : Value → List Bytes
  | .list l => l
  | _ => []

/-- all list elements of one database dictionary, in dict order -/
def dictElems (d : Dict) : List Bytes := d.flatMap fun q => elemsOf q.2.value

/-- all list elements stored in all lists of all databases -/
def stored (s : Sys) : List Bytes := s.srv.dbs.flatMap dictElems

/-- the list elements under key `k` (nothing if the key is missing or not a list) -/
def elemsAt (d : Dict) (k : Bytes) : List Bytes :=
  match d.lookup k with
  | some it => elemsOf it.value
  | none => []

theorem dictElems_append (a b : Dict) : dictElems (a ++ b) = dictElems a ++ dictElems b := by
  unfold dictElems; simp

theorem dictElems_cons (q : Bytes × Item) (d : Dict) : dictElems (q :: d) = elemsOf q.2.value ++ dictElems d := by
  unfold dictElems; simp

theorem erase_of_noentry {d : Dict} {k : Bytes} (h : ∀ q ∈ d, q.1 ≠ k) : erase d k = d := by
  unfold erase
  rw [List.filter_eq_self]
  intro q hq
  simpa using h q hq

theorem dictElems_split {d : Dict} (nd : NodupKeys d) (k : Bytes) :
    (dictElems d).Perm (elemsAt d k ++ dictElems (erase d k)) := by
  induction d with
  | nil => simp [dictElems, elemsAt, erase]
  | cons x xs ih =>
    obtain ⟨k', it'⟩ := x
    rw [nodup_cons] at nd
    by_cases hk : k' = k
    · subst hk
      have hno : ∀ q ∈ xs, q.1 ≠ k' := nd.1
      have h1 : elemsAt ((k', it') :: xs) k' = elemsOf it'.value := by
        unfold elemsAt; simp
      have h2 : erase ((k', it') :: xs) k' = xs := by
        have : erase ((k', it') :: xs) k' = erase xs k' := by
          unfold erase; simp
        rw [this, erase_of_noentry hno]
      rw [h1, h2, dictElems_cons]
    · have hb : (k == k') = false := by simpa using fun e => hk e.symm
      have h1 : elemsAt ((k', it') :: xs) k = elemsAt xs k := by
        unfold elemsAt; simp only [List.lookup_cons, hb]
      have h2 : erase ((k', it') :: xs) k = (k', it') :: erase xs k := by
        unfold erase
        have : ((k', it').1 != k) = true := by simpa using hk
        simp only [List.filter_cons, this, if_true]
      rw [h1, h2, dictElems_cons, dictElems_cons]
      have := ih nd.2
      refine (List.Perm.append_left _ this).trans ?_
      rw [← List.append_assoc, ← List.append_assoc]
      exact List.Perm.append_right _ List.perm_append_comm

theorem filter_map_set_ne (d : Dict) (k : Bytes) (it : Item) :
    (d.map (fun p => if p.1 == k then (k, it) else p)).filter (fun p => p.1 != k) = d.filter (fun p => p.1 != k) := by
  induction d with
  | nil => rfl
  | cons x xs ih =>
    simp only [beq_iff_eq] at ih
    by_cases hx : x.1 = k
    · simp [hx, ih]
    · have hb : (x.1 == k) = false := by simpa using hx
      simp [hb, hx, ih]

theorem erase_setRaw (d : Dict) (k : Bytes) (it : Item) : erase (setRaw d k it) k = erase d k := by
  unfold setRaw
  split
  · unfold erase
    exact filter_map_set_ne d k it
  · unfold erase
    rw [List.filter_append]
    simp

theorem elemsAt_setRaw (d : Dict) (k : Bytes) (it : Item) : elemsAt (setRaw d k it) k = elemsOf it.value := by
  unfold elemsAt; rw [lookup_setRaw_self]

theorem elemsAt_erase (d : Dict) (k : Bytes) : elemsAt (erase d k) k = [] := by
  unfold elemsAt; rw [lookup_erase_self]

theorem erase_erase' (d : Dict) (k : Bytes) : erase (erase d k) k = erase d k := erase_erase d k

theorem dictElems_setRaw {d : Dict} (nd : NodupKeys d) (k : Bytes) (it : Item) :
    (dictElems (setRaw d k it)).Perm (elemsOf it.value ++ dictElems (erase d k)) := by
  have := dictElems_split (nodup_setRaw k it nd) k
  rw [elemsAt_setRaw, erase_setRaw] at this
  exact this

/-! ## no key has a time to live -/

/-- no stored entry has an expiry time (true of every history without EXPIRE-family commands) -/
def NoTTLd (d : Dict) : Prop := ∀ q ∈ d, q.2.expireat = none
def NoTTL (s : Sys) : Prop := ∀ d ∈ s.srv.dbs, NoTTLd d

theorem NoTTL.dbAt {s : Sys} (h : NoTTL s) (i : Nat) : NoTTLd (s.dbAt i).dict := by
  show NoTTLd (s.srv.dbs.getD i [])
  rw [List.getD_eq_getElem?_getD]
  cases hi : s.srv.dbs[i]? with
  | none => intro q hq; cases hq
  | some d => exact h d (List.mem_of_getElem? hi)

theorem get_noTTL {db : Db} (h : NoTTLd db.dict) (k : Bytes) : db.get k = (db, db.dict.lookup k) := by
  unfold Db.get
  cases hl : db.dict.lookup k with
  | none => rfl
  | some it =>
    have : it.expireat = none := h _ (lookup_some_mem hl)
    simp [Db.expired, this]

/-! ## the database level -/

theorem flatMap_set {α β} (f : α → List β) (l : List α) (d : Nat) (x : α) (hd : d < l.length) :
    (l.set d x).flatMap f = (l.take d).flatMap f ++ f x ++ (l.drop (d + 1)).flatMap f := by
  induction l generalizing d with
  | nil => cases hd
  | cons y ys ih =>
    cases d with
    | zero => simp
    | succ d =>
      have hd' : d < ys.length := by simpa using hd
      simp only [List.set_cons_succ, List.flatMap_cons, List.take_succ_cons, List.drop_succ_cons]
      rw [ih d hd']
      simp only [List.append_assoc]

theorem flatMap_split {α β} (f : α → List β) (l : List α) (d : Nat) (hd : d < l.length) :
    l.flatMap f = (l.take d).flatMap f ++ f l[d] ++ (l.drop (d + 1)).flatMap f := by
  have := flatMap_set f l d l[d] hd
  rwa [List.set_getElem_self] at this

theorem stored_split (s : Sys) (d : Nat) (hd : d < s.srv.dbs.length) (db' : Db) :
    ∃ A B, stored s = A ++ dictElems (s.dbAt d).dict ++ B ∧ stored (s.setDbS d db') = A ++ dictElems db'.dict ++ B := by
  refine ⟨(s.srv.dbs.take d).flatMap dictElems, (s.srv.dbs.drop (d + 1)).flatMap dictElems, ?_, ?_⟩
  · have hdb : (s.dbAt d).dict = s.srv.dbs[d] := by
      show s.srv.dbs.getD d [] = _
      rw [List.getD_eq_getElem?_getD, List.getElem?_eq_getElem hd]; rfl
    rw [hdb]
    exact flatMap_split dictElems s.srv.dbs d hd
  · exact flatMap_set dictElems s.srv.dbs d db'.dict hd

theorem stored_mapConns (s : Sys) (g : Conn → Conn) : stored (s.mapConns g) = stored s := rfl

theorem stored_of_dbs {s s' : Sys} (h : s'.srv.dbs = s.srv.dbs) : stored s' = stored s := by
  unfold stored; rw [h]

/-! ## write-back of a list -/

theorem get_fst_noTTL {db : Db} (h : NoTTLd db.dict) (k : Bytes) : (db.get k).1 = db := by rw [get_noTTL h]
theorem get_snd_noTTL {db : Db} (h : NoTTLd db.dict) (k : Bytes) : (db.get k).2 = db.dict.lookup k := by rw [get_noTTL h]

theorem writeback_list_perm {db : Db} (nd : NodupKeys db.dict) (ht : NoTTLd db.dict) (ci : CI)
    (hm : ci.modified = true) (l' : List Bytes) (hv : ci.val = some (.list l')) :
    (dictElems (ci.writeback db).1.dict).Perm (l' ++ dictElems (erase db.dict ci.key)) := by
  unfold CI.writeback
  simp only [hm, if_true, hv, Value.isEmptyColl, List.isEmpty_iff]
  by_cases hl : l' = []
  · subst hl
    simp only [if_true, pop_eq, List.nil_append]
    exact List.Perm.refl _
  · simp only [hl, if_false]
    unfold Db.put
    simp only [get_fst_noTTL ht]
    exact dictElems_setRaw nd ci.key _

/-! ## BLPOP / BRPOP passes -/

theorem setDbS_get_noTTL (s : Sys) (d : Nat) (key : Bytes) (ht : NoTTLd (s.dbAt d).dict) :
    s.setDbS d ((s.dbAt d).get key).1 = s := by
  rw [get_fst_noTTL ht]; exact Sys.setDbS_self s d

theorem elemsAt_of_lookup {d : Dict} {k : Bytes} {it : Item} {l : List Bytes} (h : d.lookup k = some it)
    (hv : it.value = .list l) : elemsAt d k = l := by
  unfold elemsAt; rw [h]; simp only [hv, elemsOf]

theorem bpopPass_noTTL (d : Nat) (left first : Bool) (keys : List Bytes) (s : Sys) (ht : NoTTLd (s.dbAt d).dict) :
    (∃ k it l, k ∈ keys ∧ (s.dbAt d).dict.lookup k = some it ∧ it.value = .list l ∧
      bpopPass d left first keys s = (.ok (some (bpopReply left k l)), s.wbStep d (bpopCI left k it l))) ∨
    ((∀ r, (bpopPass d left first keys s).1 ≠ .ok (some r)) ∧ (bpopPass d left first keys s).2 = s) := by
  -- without TTLs a look-up changes nothing
  have look : ∀ key, s.looked d key = s := fun key => setDbS_get_noTTL s d key ht
  refine bpopPass_ind d left first (fun keys s' r => s' = s →
      (∃ k it l, k ∈ keys ∧ (s.dbAt d).dict.lookup k = some it ∧ it.value = .list l ∧
        r = (.ok (some (bpopReply left k l)), s.wbStep d (bpopCI left k it l))) ∨
      ((∀ r', r.1 ≠ .ok (some r')) ∧ r.2 = s))
    (fun _ e => .inr ⟨nofun, e⟩) ?_ ?_ ?_ keys s rfl
  · rintro key rest _ r _ ih rfl
    rcases ih (look key) with ⟨k, it, l, hk, h⟩ | h
    · exact .inl ⟨k, it, l, List.mem_cons_of_mem _ hk, h⟩
    · exact .inr h
  · rintro key rest _ it l hg hv rfl
    exact .inl ⟨key, it, l, List.mem_cons_self, (get_snd_noTTL ht key).symm.trans hg, hv, by rw [look key]⟩
  · rintro key rest _ it _ _ _ rfl
    exact .inr ⟨nofun, look key⟩

/-! ## events: wake-ups and time-outs -/

/-- the element handed over by a BLPOP / BRPOP reply `[key, element]` -/
def popElem : Reply → List Bytes
  | .arr [.bulk _, .bulk x] => [x]
  | _ => []

/-- the elements handed to clients by the pop replies emitted during an event -/
def delivered (out : List (Nat × Reply)) : List Bytes := out.flatMap fun p => popElem p.2

theorem begin_frEq (s : Sys) (clocks : List Int) (picks : List (List Bytes)) :
    FrEq s (s.beginEvent.withHints clocks picks) := ⟨rfl, rfl⟩

/-- the parked command is BLPOP or BRPOP (its pass is `bpopPass`) -/
def IsBpop (p : Parked) : Prop := ¬ (p.kind = "brpoplpush" ∧ ∃ a b, p.keys = [a, b])

theorem parkedPass_bpop (c : Nat) (p : Parked) (h : IsBpop p) :
    ∃ left, parkedPass c p = bpopPass p.db left false p.keys := by
  rcases parkedPass_cases c p with ⟨src, dst, hk, hkeys, _⟩ | ⟨_, he⟩ | ⟨_, he⟩
  · exact absurd ⟨hk, src, dst, hkeys⟩ h
  · exact ⟨true, he⟩
  · exact ⟨false, he⟩

theorem timeout_conserve (s : Sys) (c : Nat) :
    (stepEv s (.timeout c)).srv.dbs = s.srv.dbs ∧ delivered (stepEv s (.timeout c)).out = [] := by
  have hstep : stepEv s (.timeout c) = (timeoutConn c s.beginEvent).2 := rfl
  rw [hstep, timeoutConn_eq]
  cases hp : (s.beginEvent.conn c).parked with
  | none =>
    rw [if_neg (by simp)]
    have hf : ∀ msg, (M.fault msg s.beginEvent).2.srv = s.srv ∧ (M.fault msg s.beginEvent).2.out = [] := by
      intro msg
      have : (M.fault msg s.beginEvent).2 =
          (if s.beginEvent.fault.isNone then { s.beginEvent with fault := some msg } else s.beginEvent) := rfl
      rw [this]
      split <;> exact ⟨rfl, rfl⟩
    exact ⟨by rw [(hf _).1], by rw [(hf _).2]; rfl⟩
  | some p =>
    rw [if_pos Option.isSome_some]
    obtain ⟨_, h2, h3, _⟩ := Sys.updConn_emitS_facts s.beginEvent c unpark .nil (Sys.hasConn_of_parked hp)
      (fun _ => rfl) (fun _ => rfl)
    refine ⟨h3, ?_⟩
    rw [h2]
    split <;> rfl

theorem open_close_conserve (s : Sys) (c : Nat) :
    ((stepEv s (.open c)).srv.dbs = s.srv.dbs ∧ delivered (stepEv s (.open c)).out = []) ∧
    ((stepEv s (.close c)).srv.dbs = s.srv.dbs ∧ delivered (stepEv s (.close c)).out = []) ∧
    ((stepEv s (.gc c)).srv.dbs = s.srv.dbs ∧ delivered (stepEv s (.gc c)).out = []) :=
  ⟨⟨rfl, rfl⟩, ⟨rfl, rfl⟩, ⟨rfl, rfl⟩⟩

/-! ## a woken connection is served from its first non-empty key -/

/-- `k` is the first key of the parked pop that holds a live list; `x` is its head (BLPOP) or its last element (BRPOP) -/
theorem wake_serves_first_key (s : Sys) (c : Nat) (clocks : List Int) (p : Parked) (pre post : List Bytes)
    (k : Bytes) (it : Item) (l : List Bytes) (hd : s.DataInv)
    (hp : (s.conn c).parked = some p) (hb : IsBpop p) (hkeys : p.keys = pre ++ k :: post)
    (hpre : ∀ k' ∈ pre, ¬ HoldsList (s.dbAt p.db) k')
    (hk : (s.dbAt p.db).live k = some it) (hv : it.value = .list l) (hopen : (s.conn c).closed = false) :
    ((stepEv s (.wake c clocks)).conn c).parked = none ∧
    ∃ x, (stepEv s (.wake c clocks)).out = [(c, .arr [.bulk k, .bulk x])] ∧
      (if p.kind = "blpop" then l.head? = some x else l.getLast? = some x) := by
  generalize hs0 : s.beginEvent.withHints clocks [] = s0
  have hfr : FrEq s s0 := by rw [← hs0]; exact begin_frEq s clocks []
  have hout0 : s0.out = [] := by rw [← hs0]; rfl
  have hdb0 : s.dbAt p.db = s0.dbAt p.db := by rw [← hs0]; rfl
  have hp0 : (s0.conn c).parked = some p := by rw [hfr.conn c]; exact hp
  have hcl0 : (s0.conn c).closed = false := by rw [hfr.conn c]; exact hopen
  have hstep : stepEv s (.wake c clocks) = (wakeConn c s0).2 := by rw [← hs0]; rfl
  have hg0 : Good (s0.dbAt p.db).dict := hdb0 ▸ hd.dbAt _
  rw [hstep]
  rw [hdb0] at hk hpre
  have hd0 : p.db < s0.srv.dbs.length := by
    false_or_by_contra
    rw [Sys.dbAt_out_of_range s0 p.db (by omega)] at hk; cases hk
  obtain ⟨v, e⟩ := it
  obtain rfl : v = .list l := hv
  -- the pass
  obtain ⟨left, he, hleft⟩ : ∃ left, parkedPass c p = bpopPass p.db left false p.keys ∧
      (left = true ↔ p.kind = "blpop") := by
    rcases parkedPass_cases c p with ⟨src, dst, hk1, hkeys1, _⟩ | ⟨hk1, he⟩ | ⟨hk1, he⟩
    · exact absurd ⟨hk1, src, dst, hkeys1⟩ hb
    · exact ⟨true, he, by simp [hk1]⟩
    · exact ⟨false, he, by simp [hk1]⟩
  obtain ⟨x, rem, hx, hres⟩ := ListKeys.bpopPass_first p.db left s0 ⟨hd0, hg0.1, hg0.2⟩ pre k post l e hpre hk
  rw [← hkeys, ← he] at hres
  -- the turn hands over the reply of the pass
  have f := (framed_parkedPass c p).frame s0
  have hc1 : (parkedPass c p s0).2.HasConn c := (f.hasConn c).2 (Sys.hasConn_of_parked hp0)
  rw [wakeConn_eq, hp0]
  dsimp only
  rw [hres]
  refine ⟨wakeState_parked c p _ _ hc1, x, ?_, ?_⟩
  · rw [wakeState_out c p _ _ hc1, f.closed c, f.out, hcl0, hout0]; rfl
  · cases left
    · rw [if_neg (fun h => by cases hleft.2 h)]
      simp only [Bool.false_eq_true, if_false] at hx
      simp [hx]
    · rw [if_pos (hleft.1 rfl)]
      simp only [if_true] at hx
      simp [hx]

end FR.Conserve

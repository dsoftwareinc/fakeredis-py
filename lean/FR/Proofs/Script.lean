import FR
import FR.Proofs.System
import FR.Proofs.Runner
import FR.Proofs.Decimal
import FR.Proofs.ZSet
import FR.Proofs.Hex
/-! # The script bridge (C19): conversions, the gate, EVAL / SCRIPT, the hint codec

Lemmas on `FR/Sys/Process.lean`, section "Scripts".  `replyToLua` / `luaToReplyF` by cases, and the round trip: a reply
that converts to Lua (these are the error-free ones, `errFree_of_ok` / `ok_of_errFree`) converts back to itself, given
fuel for its `depth` (`roundtripF`); what is handed to Lua holds no Lua nil (`nilFree_of_replyToLua`).  The gate
`runGate` refuses in a script the commands of `forbiddenInScripts` (`sigs_noScript_iff`), also inside the nested runner
(`runWith_noScript_run`).  EVAL, EVALSHA and the SCRIPT subcommands are unfolded on the hints they consume.  The hint
codec: `LuaVal.ofBytes` parses back what `LuaVal.ser` writes (`ofBytes_ser`) for values whose floats are canonical
(`fltOk`; in particular for `noFlt`). -/
namespace FR
open M
set_option linter.unusedSimpArgs false

/-! ## redis → Lua -/

theorem replyToLua_bulk (b : Bytes) : replyToLua (.bulk b) = .ok (.str b) := by simp only [replyToLua]
theorem replyToLua_int (n : Int) : replyToLua (.int n) = .ok (.int n) := by simp only [replyToLua]
theorem replyToLua_status (s : Bytes) : replyToLua (.status s) = .ok (.table [] [(strBytes "ok", .str s)]) := by
  simp only [replyToLua]
theorem replyToLua_nil : replyToLua .nil = .ok (.bool false) := by simp only [replyToLua]
theorem replyToLua_err (e : Bytes) : replyToLua (.err e) = .error (bytesStr e) := by simp only [replyToLua]
theorem replyToLua_arr (xs : List Reply) : replyToLua (.arr xs) = (repliesToLua xs).map (LuaVal.table · []) := by
  simp only [replyToLua]
theorem repliesToLua_nil : repliesToLua [] = .ok [] := by simp only [repliesToLua]
theorem repliesToLua_cons_err {x : Reply} {e} (xs : List Reply) (h : replyToLua x = .error e) :
    repliesToLua (x :: xs) = .error e := by
  simp only [repliesToLua, h]
theorem repliesToLua_cons_ok {x : Reply} {v} (xs : List Reply) (h : replyToLua x = .ok v) :
    repliesToLua (x :: xs) = (repliesToLua xs).map (v :: ·) := by
  simp only [repliesToLua, h]

theorem repliesToLua_cons_ok_iff (x : Reply) (xs : List Reply) (vs : List LuaVal) :
    repliesToLua (x :: xs) = .ok vs ↔ ∃ v ws, vs = v :: ws ∧ replyToLua x = .ok v ∧ repliesToLua xs = .ok ws := by
  cases hx : replyToLua x with
  | error e => rw [repliesToLua_cons_err xs hx]; constructor <;> nofun
  | ok v =>
    rw [repliesToLua_cons_ok xs hx]
    cases repliesToLua xs with
    | error e => constructor <;> nofun
    | ok ws =>
      constructor
      · rintro ⟨⟩; exact ⟨v, ws, rfl, rfl, rfl⟩
      · rintro ⟨_, _, rfl, ⟨⟩, ⟨⟩⟩; rfl

theorem replyToLua_arr_ok_iff (xs : List Reply) (v : LuaVal) :
    replyToLua (.arr xs) = .ok v ↔ ∃ vs, v = .table vs [] ∧ repliesToLua xs = .ok vs := by
  rw [replyToLua_arr]
  cases repliesToLua xs with
  | error e => constructor <;> nofun
  | ok vs =>
    constructor
    · rintro ⟨⟩; exact ⟨vs, rfl, rfl⟩
    · rintro ⟨_, rfl, ⟨⟩⟩; rfl

theorem repliesToLua_ok_iff (xs : List Reply) (vs : List LuaVal) :
    repliesToLua xs = .ok vs ↔ xs.map replyToLua = vs.map .ok := by
  induction xs generalizing vs with
  | nil => rw [repliesToLua_nil]; cases vs <;> simp
  | cons x xs ih =>
    rw [repliesToLua_cons_ok_iff]
    cases vs with
    | nil => simp
    | cons w ws =>
      simp only [List.map_cons, List.cons.injEq, ← ih ws]
      constructor
      · rintro ⟨v, ws', ⟨rfl, rfl⟩, hx, hr⟩; exact ⟨hx, hr⟩
      · rintro ⟨hx, hr⟩; exact ⟨w, ws, ⟨rfl, rfl⟩, hx, hr⟩

theorem repliesToLua_ok_iff_get (xs : List Reply) (vs : List LuaVal) :
    repliesToLua xs = .ok vs ↔
      vs.length = xs.length ∧ ∀ (i : Nat) (h₁ : i < xs.length) (h₂ : i < vs.length), replyToLua xs[i] = .ok vs[i] := by
  rw [repliesToLua_ok_iff]
  constructor
  · intro h
    have hl : vs.length = xs.length := by
      have := congrArg List.length h
      simpa using this.symm
    refine ⟨hl, fun i h₁ h₂ => ?_⟩
    have := congrArg (fun l => l[i]?) h
    simpa [h₁, h₂] using this
  · rintro ⟨hl, h⟩
    apply List.ext_getElem
    · simp [hl]
    · intro i h₁ h₂
      simp at h₁ h₂
      simp [h i h₁ h₂]

/-! ## Lua → redis -/

theorem luaToReplyF_nil (f : Nat) (nested : Bool) : luaToReplyF (f + 1) nested .nil = .ok .nil := rfl
theorem luaToReplyF_false (f : Nat) (nested : Bool) : luaToReplyF (f + 1) nested (.bool false) = .ok .nil := rfl
theorem luaToReplyF_true (f : Nat) (nested : Bool) : luaToReplyF (f + 1) nested (.bool true) = .ok (.int 1) := rfl
theorem luaToReplyF_int (f : Nat) (nested : Bool) (n : Int) : luaToReplyF (f + 1) nested (.int n) = .ok (.int n) := rfl
theorem luaToReplyF_flt (f : Nat) (nested : Bool) (d : Dbl) :
    luaToReplyF (f + 1) nested (.flt d) = .ok (.int d.truncToInt) := rfl
theorem luaToReplyF_str (f : Nat) (nested : Bool) (b : Bytes) : luaToReplyF (f + 1) nested (.str b) = .ok (.bulk b) := rfl
theorem luaToReplyF_pystr (f : Nat) (nested : Bool) (b : Bytes) :
    luaToReplyF (f + 1) nested (.pystr b) = .ok (.bulk b) := rfl

theorem luaToReplyF_table (f : Nat) (nested : Bool) (arr : List LuaVal) (hash : List (Bytes × LuaVal)) :
    luaToReplyF (f + 1) nested (.table arr hash) =
      match hash.lookup (strBytes "ok") with
      | some v =>
        match luaToReplyF f true v with
        | .ok (.bulk m) => .ok (.status m)
        | .ok _ => .error Msgs.LUA_WRONG_NUMBER_ARGS_MSG
        | .error e => .error e
      | none =>
        match hash.lookup (strBytes "err") with
        | some v =>
          match luaToReplyF f true v with
          | .ok (.bulk m) => if nested then .ok (.err m) else .error (bytesStr m)
          | .ok _ => .error Msgs.LUA_WRONG_NUMBER_ARGS_MSG
          | .error e => .error e
        | none => (arr.mapM (luaToReplyF f true)).map .arr := rfl

theorem luaToReplyF_table_ok {f : Nat} {nested : Bool} {arr : List LuaVal} {hash : List (Bytes × LuaVal)} {v m}
    (h : hash.lookup (strBytes "ok") = some v) (hv : luaToReplyF f true v = .ok (.bulk m)) :
    luaToReplyF (f + 1) nested (.table arr hash) = .ok (.status m) := by
  rw [luaToReplyF_table]; simp only [h, hv]

theorem luaToReplyF_table_ok_bad {f : Nat} {nested : Bool} {arr : List LuaVal} {hash : List (Bytes × LuaVal)} {v r}
    (h : hash.lookup (strBytes "ok") = some v) (hv : luaToReplyF f true v = .ok r) (hr : ∀ m, r ≠ .bulk m) :
    luaToReplyF (f + 1) nested (.table arr hash) = .error Msgs.LUA_WRONG_NUMBER_ARGS_MSG := by
  rw [luaToReplyF_table]; simp only [h, hv]

theorem luaToReplyF_table_err {f : Nat} {nested : Bool} {arr : List LuaVal} {hash : List (Bytes × LuaVal)} {v m}
    (hok : hash.lookup (strBytes "ok") = none)
    (h : hash.lookup (strBytes "err") = some v) (hv : luaToReplyF f true v = .ok (.bulk m)) :
    luaToReplyF (f + 1) nested (.table arr hash) = if nested then .ok (.err m) else .error (bytesStr m) := by
  rw [luaToReplyF_table]; simp only [hok, h, hv]

theorem luaToReplyF_table_err_bad {f : Nat} {nested : Bool} {arr : List LuaVal} {hash : List (Bytes × LuaVal)} {v r}
    (hok : hash.lookup (strBytes "ok") = none)
    (h : hash.lookup (strBytes "err") = some v) (hv : luaToReplyF f true v = .ok r) (hr : ∀ m, r ≠ .bulk m) :
    luaToReplyF (f + 1) nested (.table arr hash) = .error Msgs.LUA_WRONG_NUMBER_ARGS_MSG := by
  rw [luaToReplyF_table]; simp only [hok, h, hv]

theorem luaToReplyF_table_plain {f : Nat} {nested : Bool} {arr : List LuaVal} {hash : List (Bytes × LuaVal)}
    (hok : hash.lookup (strBytes "ok") = none) (herr : hash.lookup (strBytes "err") = none) :
    luaToReplyF (f + 1) nested (.table arr hash) = (arr.mapM (luaToReplyF f true)).map .arr := by
  rw [luaToReplyF_table]; simp only [hok, herr]

/-- the Lua values that are neither strings nor tables; they convert to a non-bulk reply (`luaToReplyF_nonString`) -/
def LuaVal.isPlainNonString : LuaVal → Bool
  | .nil | .bool _ | .int _ | .flt _ => true
  | _ => false

theorem luaToReplyF_nonString {f : Nat} {v : LuaVal} (h : v.isPlainNonString = true) :
    ∃ r, luaToReplyF (f + 1) true v = .ok r ∧ ∀ m, r ≠ .bulk m := by
  cases v with
  | nil => exact ⟨_, rfl, fun m h => by cases h⟩
  | bool b => cases b <;> exact ⟨_, rfl, fun m h => by cases h⟩
  | int n => exact ⟨_, rfl, fun m h => by cases h⟩
  | flt d => exact ⟨_, rfl, fun m h => by cases h⟩
  | str b => cases h
  | pystr b => cases h
  | table a hsh => cases h

/-! ## arguments -/

theorem luaToArg_other (version : Nat) (v : LuaVal) (h : ∀ b, v ≠ .str b) (hi : ∀ n, v ≠ .int n) (hf : ∀ d, v ≠ .flt d) :
    luaToArg version v = .error (if version < 7 then Msgs.LUA_COMMAND_ARG_MSG6 else Msgs.LUA_COMMAND_ARG_MSG) := by
  cases v with
  | str b => exact absurd rfl (h b)
  | int n => exact absurd rfl (hi n)
  | flt d => exact absurd rfl (hf d)
  | nil => rfl
  | bool b => rfl
  | pystr b => rfl
  | table a hsh => rfl

/-! ## the gate, error-freeness, depth, round trip -/


mutual
def Reply.errFree : Reply → Bool
  | .err _ => false
  | .arr xs => Reply.errFreeL xs
  | _ => true
def Reply.errFreeL : List Reply → Bool
  | [] => true
  | x :: xs => x.errFree && Reply.errFreeL xs
end

mutual
/-- the fuel `luaToReplyF` needs to read the reply back; a status counts 2, it goes to Lua as the table `{ok = s}` -/
def Reply.depth : Reply → Nat
  | .status _ => 2
  | .arr xs => Reply.depthL xs + 1
  | _ => 1
def Reply.depthL : List Reply → Nat
  | [] => 0
  | x :: xs => max x.depth (Reply.depthL xs)
end

theorem lookup_ok_single (s : Bytes) : List.lookup (strBytes "ok") [(strBytes "ok", LuaVal.str s)] = some (.str s) := by
  simp [List.lookup]

theorem Reply.depth_pos (r : Reply) : 0 < r.depth := by
  cases r <;> simp only [Reply.depth] <;> omega

mutual
theorem roundtripF (r : Reply) (v : LuaVal) (fuel : Nat) (nested : Bool)
    (h : replyToLua r = .ok v) (hd : r.depth ≤ fuel) : luaToReplyF fuel nested v = .ok r := by
  have hpos := r.depth_pos
  obtain ⟨f, rfl⟩ : ∃ f, fuel = f + 1 := ⟨fuel - 1, by omega⟩
  match r, h, hd with
  | .nil, h, _ => rw [replyToLua_nil] at h; cases h; rfl
  | .int n, h, _ => rw [replyToLua_int] at h; cases h; rfl
  | .bulk b, h, _ => rw [replyToLua_bulk] at h; cases h; rfl
  | .status b, h, hd =>
    rw [replyToLua_status] at h; cases h
    simp only [Reply.depth] at hd
    obtain ⟨g, rfl⟩ : ∃ g, f = g + 1 := ⟨f - 1, by omega⟩
    exact luaToReplyF_table_ok (lookup_ok_single b) rfl
  | .err e, h, _ => rw [replyToLua_err] at h; cases h
  | .arr xs, h, hd =>
    obtain ⟨vs, rfl, hr⟩ := (replyToLua_arr_ok_iff xs v).1 h
    simp only [Reply.depth] at hd
    rw [luaToReplyF_table_plain rfl rfl, roundtripL xs vs f hr (by omega)]
    rfl
theorem roundtripL : (xs : List Reply) → (vs : List LuaVal) → (fuel : Nat) →
    repliesToLua xs = .ok vs → Reply.depthL xs ≤ fuel → vs.mapM (luaToReplyF fuel true) = .ok xs
  | [], vs, fuel, h, hd => by
    rw [repliesToLua_nil] at h; cases h; rfl
  | x :: xs, vs, fuel, h, hd => by
    obtain ⟨v, ws, rfl, hx, hr⟩ := (repliesToLua_cons_ok_iff x xs vs).1 h
    simp only [Reply.depthL] at hd
    rw [List.mapM_cons, roundtripF x v fuel true hx (by omega), roundtripL xs ws fuel hr (by omega)]
    rfl
end

mutual
theorem errFree_of_ok : (r : Reply) → (v : LuaVal) → replyToLua r = .ok v → r.errFree = true
  | .nil, _, _ => rfl
  | .int _, _, _ => rfl
  | .bulk _, _, _ => rfl
  | .status _, _, _ => rfl
  | .err e, v, h => by rw [replyToLua_err] at h; cases h
  | .arr xs, v, h => by
    obtain ⟨vs, _, hr⟩ := (replyToLua_arr_ok_iff xs v).1 h
    simp only [Reply.errFree]; exact errFreeL_of_ok xs vs hr
theorem errFreeL_of_ok : (xs : List Reply) → (vs : List LuaVal) → repliesToLua xs = .ok vs → Reply.errFreeL xs = true
  | [], _, _ => rfl
  | x :: xs, vs, h => by
    obtain ⟨v, ws, _, hx, hr⟩ := (repliesToLua_cons_ok_iff x xs vs).1 h
    simp only [Reply.errFreeL, errFree_of_ok x v hx, errFreeL_of_ok xs ws hr, Bool.and_self]
end

mutual
theorem ok_of_errFree : (r : Reply) → r.errFree = true → ∃ v, replyToLua r = .ok v
  | .nil, _ => ⟨_, replyToLua_nil⟩
  | .int _, _ => ⟨_, replyToLua_int _⟩
  | .bulk _, _ => ⟨_, replyToLua_bulk _⟩
  | .status _, _ => ⟨_, replyToLua_status _⟩
  | .err e, h => by simp [Reply.errFree] at h
  | .arr xs, h => by
    simp only [Reply.errFree] at h
    obtain ⟨vs, hvs⟩ := okL_of_errFree xs h
    exact ⟨_, by rw [replyToLua_arr, hvs]; rfl⟩
theorem okL_of_errFree : (xs : List Reply) → Reply.errFreeL xs = true → ∃ vs, repliesToLua xs = .ok vs
  | [], _ => ⟨_, repliesToLua_nil⟩
  | x :: xs, h => by
    simp only [Reply.errFreeL, Bool.and_eq_true] at h
    obtain ⟨v, hv⟩ := ok_of_errFree x h.1
    obtain ⟨vs, hvs⟩ := okL_of_errFree xs h.2
    exact ⟨_, by rw [repliesToLua_cons_ok xs hv, hvs]; rfl⟩
end

/-! ## EVAL / EVALSHA / SCRIPT -/

theorem nextPick_run_cons (p : List Bytes) (more : List (List Bytes)) (s : Sys) (h : s.picks = p :: more) :
    nextPick s = (some p, { s with picks := more }) := by
  simp only [nextPick, bind, StateT.bind, get, getThe, MonadStateOf.get, StateT.get, pure, StateT.pure, h, set, StateT.set]

theorem shaHint_run (sha : Bytes) (more : List (List Bytes)) (s : Sys) (h : s.picks = [strBytes "sha", sha] :: more) :
    shaHint s = (some sha, { s with picks := more }) := by
  simp only [shaHint, bind, StateT.bind, nextPick_run_cons _ _ s h, beq_self_eq_true, if_true]
  rfl

/-- the state in which the trace of an accepted EVAL runs -/
def Sys.cacheScript (s : Sys) (more : List (List Bytes)) (sha script : Bytes) : Sys :=
  { s with picks := more, srv := { s.srv with scripts := ZSet.dictSet s.srv.scripts sha script } }

theorem Sys.cacheScript_lookup (s : Sys) (more : List (List Bytes)) (sha script sha' : Bytes) :
    (s.cacheScript more sha script).srv.scripts.lookup sha' =
      if sha' = sha then some script else s.srv.scripts.lookup sha' :=
  ZSet.lookup_dictSet _ _ _ _

theorem evalBody_run (special : Special) (mode : Mode) (c : Nat) (script : Bytes) (numkeys : Int) (rest : List Bytes)
    (sha : Bytes) (more : List (List Bytes)) (s : Sys) (h : s.picks = [strBytes "sha", sha] :: more) :
    (evalBody special mode c script numkeys rest).run s =
      if numkeys > rest.length then (.error Msgs.TOO_MANY_KEYS_MSG, { s with picks := more })
      else if numkeys < 0 then (.error Msgs.NEGATIVE_KEYS_MSG, { s with picks := more })
      else (runTrace special mode c sha 100000).run (s.cacheScript more sha script) := by
  simp only [evalBody, StateT.run, bind, StateT.bind, shaHint_run sha more s h]
  split
  · rfl
  · split
    · rfl
    · rfl

theorem scriptBody_eval (special : Special) (mode : Mode) (c : Nat) (script : Bytes) (numkeys : Int) (rest : List Arg) :
    scriptBody special mode c "eval" (.raw script :: .int numkeys :: rest) =
      evalBody special mode c script numkeys (Cmd.rawArgs rest) := by
  funext s
  simp only [scriptBody, bind, StateT.bind, get, getThe, MonadStateOf.get, StateT.get, pure, StateT.pure]

theorem scriptBody_evalsha_run (special : Special) (mode : Mode) (c : Nat) (sha : Bytes) (numkeys : Int) (rest : List Arg)
    (s : Sys) :
    (scriptBody special mode c "evalsha" (.raw sha :: .int numkeys :: rest)).run s =
      match s.srv.scripts.lookup sha with
      | none => (.error Msgs.NO_MATCHING_SCRIPT_MSG, s)
      | some script => (evalBody special mode c script numkeys (Cmd.rawArgs rest)).run s := by
  simp only [scriptBody, StateT.run, bind, StateT.bind, get, getThe, MonadStateOf.get, StateT.get, pure, StateT.pure]
  cases hL : List.lookup sha s.srv.scripts <;> rfl

theorem casematch_excl {sub : Bytes} {a b : String} (ha : casematch sub a = true) (hab : strBytes a ≠ strBytes b) :
    casematch sub b = false := by
  unfold casematch at *
  rw [eq_of_beq ha]
  simpa using hab

theorem scriptBody_load_run (special : Special) (mode : Mode) (c : Nat) (sub src h : Bytes) (more : List (List Bytes))
    (s : Sys) (hsub : casematch sub "load" = true) (hp : s.picks = [strBytes "sha", h] :: more) :
    (scriptBody special mode c "script" [.raw sub, .raw src]).run s = (.ok (.bulk h), s.cacheScript more h src) := by
  simp only [scriptBody, StateT.run, bind, StateT.bind, get, getThe, MonadStateOf.get, StateT.get, pure, StateT.pure,
    hsub, if_true, Cmd.rawArgs, shaHint_run h more s hp]
  rfl

theorem scriptBody_exists_run (special : Special) (mode : Mode) (c : Nat) (sub : Bytes) (hs : List Bytes)
    (s : Sys) (hsub : casematch sub "exists" = true) (hv : s.srv.version ≥ 7 → hs ≠ []) :
    (scriptBody special mode c "script" (.raw sub :: hs.map .raw)).run s =
      (.ok (.arr (hs.map fun h => .int (if (s.srv.scripts.lookup h).isSome then 1 else 0))), s) := by
  have hl : casematch sub "load" = false := casematch_excl hsub (by rw [strBytes_eq, strBytes_eq]; decide)
  have hc : (decide (s.srv.version ≥ 7) && hs.isEmpty) = false := by
    cases hs with
    | nil => simp at hv; simp; omega
    | cons a l => simp
  simp only [scriptBody, StateT.run, bind, StateT.bind, get, getThe, MonadStateOf.get, StateT.get, pure, StateT.pure,
    hsub, hl, if_true, rawArgs_map_raw, hc, Bool.false_eq_true, if_false]

theorem scriptBody_exists_noargs7 (special : Special) (mode : Mode) (c : Nat) (sub : Bytes)
    (s : Sys) (hsub : casematch sub "exists" = true) (hv : s.srv.version ≥ 7) :
    (scriptBody special mode c "script" [.raw sub]).run s =
      (.error (Msgs.fmt1 Msgs.WRONG_ARGS_MSG "script|exists"), s) := by
  have hl : casematch sub "load" = false := casematch_excl hsub (by rw [strBytes_eq, strBytes_eq]; decide)
  simp only [scriptBody, StateT.run, bind, StateT.bind, get, getThe, MonadStateOf.get, StateT.get, pure, StateT.pure,
    hsub, hl, if_true, Cmd.rawArgs, hv, List.isEmpty_nil, decide_true, Bool.and_self, Bool.false_eq_true, if_false]

/-- the argument list of SCRIPT FLUSH the code accepts -/
def flushArgOk (raw : List Bytes) : Prop :=
  raw = [] ∨ ∃ a, raw = [a] ∧ (casenorm a = strBytes "sync" ∨ casenorm a = strBytes "async")

theorem scriptBody_flush_run (special : Special) (mode : Mode) (c : Nat) (sub : Bytes) (raw : List Bytes)
    (s : Sys) (hsub : casematch sub "flush" = true) (hraw : flushArgOk raw) :
    (scriptBody special mode c "script" (.raw sub :: raw.map .raw)).run s =
      (.ok .ok, { s with srv := { s.srv with scripts := [] } }) := by
  have hl : casematch sub "load" = false := casematch_excl hsub (by rw [strBytes_eq, strBytes_eq]; decide)
  have he : casematch sub "exists" = false := casematch_excl hsub (by rw [strBytes_eq, strBytes_eq]; decide)
  have hc : (decide (raw.length > 1) || (raw.length == 1 && casenorm (raw.headD []) != strBytes "sync" &&
      casenorm (raw.headD []) != strBytes "async")) = false := by
    rcases hraw with rfl | ⟨a, rfl, h | h⟩
    · rfl
    · simp [h]
    · simp [h]
  simp only [scriptBody, StateT.run, bind, StateT.bind, get, getThe, MonadStateOf.get, StateT.get, pure, StateT.pure,
    hsub, hl, he, if_true, rawArgs_map_raw, hc, Bool.false_eq_true, if_false]
  rfl

/-! ## what is handed to Lua never contains a Lua nil -/

mutual
/-- no `nil` in any array part (a Lua table cannot hold one: the array would end there) -/
def LuaVal.nilFree : LuaVal → Bool
  | .nil => false
  | .table arr hash => LuaVal.nilFreeL arr && LuaVal.nilFreeH hash
  | _ => true
def LuaVal.nilFreeL : List LuaVal → Bool
  | [] => true
  | x :: xs => x.nilFree && LuaVal.nilFreeL xs
def LuaVal.nilFreeH : List (Bytes × LuaVal) → Bool
  | [] => true
  | (_, v) :: rest => v.nilFree && LuaVal.nilFreeH rest
end

mutual
theorem nilFree_of_replyToLua : (r : Reply) → (v : LuaVal) → replyToLua r = .ok v → v.nilFree = true
  | .nil, v, h => by rw [replyToLua_nil] at h; cases h; rfl
  | .int _, v, h => by rw [replyToLua_int] at h; cases h; rfl
  | .bulk _, v, h => by rw [replyToLua_bulk] at h; cases h; rfl
  | .status _, v, h => by rw [replyToLua_status] at h; cases h; rfl
  | .err e, v, h => by rw [replyToLua_err] at h; cases h
  | .arr xs, v, h => by
    obtain ⟨vs, rfl, hr⟩ := (replyToLua_arr_ok_iff xs v).1 h
    simp only [LuaVal.nilFree, nilFreeL_of_repliesToLua xs vs hr, LuaVal.nilFreeH, Bool.and_self]
theorem nilFreeL_of_repliesToLua : (xs : List Reply) → (vs : List LuaVal) → repliesToLua xs = .ok vs →
    LuaVal.nilFreeL vs = true
  | [], vs, h => by rw [repliesToLua_nil] at h; cases h; rfl
  | x :: xs, vs, h => by
    obtain ⟨v, ws, rfl, hx, hr⟩ := (repliesToLua_cons_ok_iff x xs vs).1 h
    simp only [LuaVal.nilFreeL, nilFree_of_replyToLua x v hx, nilFreeL_of_repliesToLua xs ws hr, Bool.and_self]
end

section Codec
open LuaVal

/-! ## the hint codec -/

theorem takeUntil_append (c : UInt8) (x r : Bytes) (h : c ∉ x) : takeUntil c (x ++ c :: r) = (x, r) := by
  induction x with
  | nil => simp [takeUntil]
  | cons a x ih =>
    have ha : (a == c) = false := by
      simp only [List.mem_cons, not_or] at h
      simpa using fun e => h.1 e.symm
    simp only [List.cons_append, takeUntil, ha, Bool.false_eq_true, if_false]
    rw [ih (fun hm => h (List.mem_cons_of_mem _ hm))]

theorem hexBytes_no (b : Bytes) (c : UInt8) (hc : c.toNat = 59 ∨ c.toNat = 61 ∨ c.toNat = 44 ∨ c.toNat = 124 ∨ c.toNat = 125) :
    c ∉ hexBytes b := by
  intro h
  have := hexBytes_not_mem b c h
  omega

theorem takeUntil_hex (c : UInt8) (k r : Bytes) (hc : c.toNat = 59 ∨ c.toNat = 61) :
    takeUntil c (hexBytes k ++ c :: r) = (hexBytes k, r) :=
  takeUntil_append c _ r (hexBytes_no k c (by omega))

/-! ### unfolding lemmas of the parser -/

theorem parse_nil (fuel : Nat) (r : Bytes) : parse (fuel + 1) (78 :: r) = some (.nil, r) := by
  simp only [parse]
theorem parse_true (fuel : Nat) (r : Bytes) : parse (fuel + 1) (84 :: r) = some (.bool true, r) := by
  simp only [parse]
theorem parse_false (fuel : Nat) (r : Bytes) : parse (fuel + 1) (70 :: r) = some (.bool false, r) := by
  simp only [parse]
theorem parse_int (fuel : Nat) (r : Bytes) : parse (fuel + 1) (73 :: r) =
    (parseCanonInt (takeUntil 59 r).1).map fun n => (.int n, (takeUntil 59 r).2) := by
  simp only [parse]
theorem parse_flt (fuel : Nat) (r : Bytes) : parse (fuel + 1) (68 :: r) =
    if (takeUntil 59 r).1.all isDigit && !(takeUntil 59 r).1.isEmpty
    then some (.flt (Dbl.ofBits (UInt64.ofNat (digitsVal (takeUntil 59 r).1))), (takeUntil 59 r).2) else none := by
  simp only [parse]
theorem parse_str (fuel : Nat) (r : Bytes) : parse (fuel + 1) (83 :: r) =
    (fromHex (bytesStr (takeUntil 59 r).1)).map fun x => (.str x, (takeUntil 59 r).2) := by
  simp only [parse]
theorem parse_pystr (fuel : Nat) (r : Bytes) : parse (fuel + 1) (85 :: r) =
    (fromHex (bytesStr (takeUntil 59 r).1)).map fun x => (.pystr x, (takeUntil 59 r).2) := by
  simp only [parse]
theorem parse_table (fuel : Nat) (r : Bytes) : parse (fuel + 1) (123 :: r) =
    match parse.arrLoop fuel (r.length + 2) r [] with
    | some (arr, r1) => (parse.hashLoop fuel (r.length + 2) r1 []).map fun (h, r2) => (.table arr h, r2)
    | none => none := by
  simp only [parse]
  rfl

theorem arrLoop_end (fuel f : Nat) (r : Bytes) (acc) :
    parse.arrLoop fuel (f + 1) (124 :: r) acc = some (acc.reverse, r) := by
  simp only [parse.arrLoop]
theorem arrLoop_comma (fuel f : Nat) (r : Bytes) (acc) :
    parse.arrLoop fuel (f + 1) (44 :: r) acc = parse.arrLoop fuel f r acc := by
  simp only [parse.arrLoop]
theorem arrLoop_elem (fuel f : Nat) (x : UInt8) (t : Bytes) (acc) (h1 : x ≠ 124) (h2 : x ≠ 44) :
    parse.arrLoop fuel (f + 1) (x :: t) acc =
      match parse fuel (x :: t) with
      | some (v, r) => parse.arrLoop fuel f r (v :: acc)
      | none => none := by
  rw [parse.arrLoop.eq_def]
  simp only
  split
  · rename_i heq; cases heq; exact absurd rfl h1
  · rename_i heq; cases heq; exact absurd rfl h2
  · rfl

theorem hashLoop_end (fuel f : Nat) (r : Bytes) (acc) :
    parse.hashLoop fuel (f + 1) (125 :: r) acc = some (acc.reverse, r) := by
  simp only [parse.hashLoop]
theorem hashLoop_comma (fuel f : Nat) (r : Bytes) (acc) :
    parse.hashLoop fuel (f + 1) (44 :: r) acc = parse.hashLoop fuel f r acc := by
  simp only [parse.hashLoop]
theorem hashLoop_elem (fuel f : Nat) (x : UInt8) (t : Bytes) (acc) (h1 : x ≠ 125) (h2 : x ≠ 44) :
    parse.hashLoop fuel (f + 1) (x :: t) acc =
      match fromHex (bytesStr (takeUntil 61 (x :: t)).1), parse fuel (takeUntil 61 (x :: t)).2 with
      | some k', some (v, r') => parse.hashLoop fuel f r' ((k', v) :: acc)
      | _, _ => none := by
  rw [parse.hashLoop.eq_def]
  simp only
  split
  · rename_i heq; cases heq; exact absurd rfl h1
  · rename_i heq; cases heq; exact absurd rfl h2
  · rfl

/-! ### the round trip -/

mutual
/-- every float is in the canonical representation `Dbl.ofBits` produces -/
def LuaVal.fltOk : LuaVal → Prop
  | .flt d => Dbl.ofBits d.toBits = d
  | .table arr hash => LuaVal.fltOkL arr ∧ LuaVal.fltOkH hash
  | _ => True
def LuaVal.fltOkL : List LuaVal → Prop
  | [] => True
  | x :: xs => x.fltOk ∧ LuaVal.fltOkL xs
def LuaVal.fltOkH : List (Bytes × LuaVal) → Prop
  | [] => True
  | (_, v) :: rest => v.fltOk ∧ LuaVal.fltOkH rest
end

theorem ser_head (v : LuaVal) : ∃ a t, v.ser = a :: t ∧ a ≠ 124 ∧ a ≠ 44 ∧ a ≠ 125 := by
  cases v with
  | nil => exact ⟨78, [], by simp only [ser], by decide, by decide, by decide⟩
  | bool b => cases b
              · exact ⟨70, [], by simp only [ser], by decide, by decide, by decide⟩
              · exact ⟨84, [], by simp only [ser], by decide, by decide, by decide⟩
  | int n => exact ⟨73, _, by simp only [ser]; rfl, by decide, by decide, by decide⟩
  | flt d => exact ⟨68, _, by simp only [ser]; rfl, by decide, by decide, by decide⟩
  | str b => exact ⟨83, _, by simp only [ser]; rfl, by decide, by decide, by decide⟩
  | pystr b => exact ⟨85, _, by simp only [ser]; rfl, by decide, by decide, by decide⟩
  | table a h => exact ⟨123, _, by simp only [ser]; rfl, by decide, by decide, by decide⟩

theorem serList_cons2 (x y : LuaVal) (ys : List LuaVal) :
    serList (x :: y :: ys) = x.ser ++ 44 :: serList (y :: ys) := by
  rw [serList]
  intro h; cases h
theorem serList_single (x : LuaVal) : serList [x] = x.ser := by rw [serList]
theorem serHash_cons2 (k : Bytes) (v : LuaVal) (p : Bytes × LuaVal) (ps : List (Bytes × LuaVal)) :
    serHash ((k, v) :: p :: ps) = hexBytes k ++ 61 :: v.ser ++ 44 :: serHash (p :: ps) := by
  rw [serHash, strBytes_toHex]
  intro h; cases h
theorem serHash_single (k : Bytes) (v : LuaVal) : serHash [(k, v)] = hexBytes k ++ 61 :: v.ser := by
  rw [serHash, strBytes_toHex]

theorem not_mem_intBytes_59 (n : Int) : (59 : UInt8) ∉ intBytes n := by
  unfold intBytes
  have hd : (59 : UInt8) ∉ natDigits n.natAbs := by
    intro h
    have := natDigits_isDigit_of_mem h
    revert this; decide
  split
  · intro h
    rcases List.mem_cons.1 h with h | h
    · revert h; decide
    · exact hd h
  · exact hd

theorem not_mem_natDigits_59 (n : Nat) : (59 : UInt8) ∉ natDigits n := by
  intro h
  have := natDigits_isDigit_of_mem h
  revert this; decide

theorem hexBytes_head_ne (k : Bytes) (t : Bytes) :
    ∃ a u, hexBytes k ++ 61 :: t = a :: u ∧ a ≠ 125 ∧ a ≠ 44 := by
  cases hk : hexBytes k with
  | nil => exact ⟨61, t, rfl, by decide, by decide⟩
  | cons a u =>
    refine ⟨a, u ++ 61 :: t, rfl, ?_, ?_⟩
    · intro e
      exact hexBytes_no k a (by subst e; decide) (by rw [hk]; exact List.mem_cons_self)
    · intro e
      exact hexBytes_no k a (by subst e; decide) (by rw [hk]; exact List.mem_cons_self)

theorem ser_length_pos (v : LuaVal) : 0 < v.ser.length := by
  obtain ⟨a, t, h, _⟩ := ser_head v
  rw [h]; simp

theorem serList_count (xs : List LuaVal) : 2 * xs.length ≤ (serList xs).length + 1 := by
  induction xs with
  | nil => simp
  | cons x xs ih =>
    have := ser_length_pos x
    cases xs with
    | nil => rw [serList_single]; simp only [List.length_cons, List.length_nil]; omega
    | cons y ys =>
      rw [serList_cons2]
      simp only [List.length_cons, List.length_append] at ih ⊢
      omega

theorem serHash_count (hs : List (Bytes × LuaVal)) : 2 * hs.length ≤ (serHash hs).length + 1 := by
  induction hs with
  | nil => simp
  | cons p ps ih =>
    obtain ⟨k, v⟩ := p
    have := ser_length_pos v
    cases ps with
    | nil => rw [serHash_single]; simp only [List.length_cons, List.length_nil, List.length_append]; omega
    | cons q qs =>
      rw [serHash_cons2]
      simp only [List.length_cons, List.length_append] at ih ⊢
      omega

/-- a float comes back as the canonical representation of its bit pattern -/
theorem parse_ser_flt (f : Nat) (d : Dbl) (rest : Bytes) :
    parse (f + 1) ((LuaVal.flt d).ser ++ rest) = some (.flt (Dbl.ofBits d.toBits), rest) := by
  have hne : (natDigits d.toBits.toNat).isEmpty = false := List.isEmpty_eq_false_iff.2 (natDigits_ne_nil _)
  simp only [ser, List.cons_append, List.append_assoc, List.nil_append, parse_flt,
    takeUntil_append 59 _ rest (not_mem_natDigits_59 _), natDigits_all_isDigit, hne, Bool.not_false,
    Bool.and_self, if_true, digitsVal_natDigits, UInt64.ofNat_toNat]

/-- one turn of the array loop: an element that `parse` reads back is consumed and pushed -/
theorem arrLoop_ser_elem {fuel : Nat} {x : LuaVal} {r : Bytes} (hp : parse fuel (x.ser ++ r) = some (x, r))
    (f : Nat) (acc : List LuaVal) :
    parse.arrLoop fuel (f + 1) (x.ser ++ r) acc = parse.arrLoop fuel f r (x :: acc) := by
  obtain ⟨a, t, hat, h1, h2, _⟩ := ser_head x
  rw [hat, List.cons_append] at hp ⊢
  rw [arrLoop_elem _ _ _ _ _ h1 h2, hp]

/-- one turn of the hash loop: `key=value`, with a value that `parse` reads back, is consumed and pushed -/
theorem hashLoop_ser_elem {fuel : Nat} {v : LuaVal} {r : Bytes} (hp : parse fuel (v.ser ++ r) = some (v, r))
    (f : Nat) (k : Bytes) (acc : List (Bytes × LuaVal)) :
    parse.hashLoop fuel (f + 1) (hexBytes k ++ 61 :: (v.ser ++ r)) acc = parse.hashLoop fuel f r ((k, v) :: acc) := by
  obtain ⟨a, u, hau, h1, h2⟩ := hexBytes_head_ne k (v.ser ++ r)
  rw [hau, hashLoop_elem _ _ _ _ _ h1 h2, ← hau, takeUntil_hex 61 k _ (Or.inr rfl)]
  simp only [fromHex_bytesStr_hexBytes, hp]

mutual
theorem parse_ser (v : LuaVal) (hv : v.fltOk) (fuel : Nat) (rest : Bytes) (hl : v.ser.length ≤ fuel) :
    parse fuel (v.ser ++ rest) = some (v, rest) := by
  -- a serialisation is not empty, so there is fuel for the first byte
  have hpos := ser_length_pos v
  obtain ⟨f, rfl⟩ : ∃ f, fuel = f + 1 := ⟨fuel - 1, by omega⟩
  match v, hv, hl with
  | .nil, _, _ => simp only [ser, List.cons_append, List.nil_append, parse_nil]
  | .bool true, _, _ => simp only [ser, List.cons_append, List.nil_append, parse_true]
  | .bool false, _, _ => simp only [ser, List.cons_append, List.nil_append, parse_false]
  | .int n, _, _ =>
    simp only [ser, List.cons_append, List.append_assoc, List.nil_append, parse_int,
      takeUntil_append 59 _ rest (not_mem_intBytes_59 n), parseCanonInt_intBytes, Option.map_some]
  | .flt d, hd, _ =>
    have hd' : Dbl.ofBits d.toBits = d := by simpa only [LuaVal.fltOk] using hd
    rw [parse_ser_flt, hd']
  | .str b, _, _ =>
    simp only [ser, strBytes_toHex, List.cons_append, List.append_assoc, List.nil_append, parse_str,
      takeUntil_hex 59 b rest (Or.inl rfl), fromHex_bytesStr_hexBytes, Option.map_some]
  | .pystr b, _, _ =>
    simp only [ser, strBytes_toHex, List.cons_append, List.append_assoc, List.nil_append, parse_pystr,
      takeUntil_hex 59 b rest (Or.inl rfl), fromHex_bytesStr_hexBytes, Option.map_some]
  | .table arr hash, hd, hl =>
    simp only [ser, List.length_cons, List.length_append, List.length_nil] at hl
    have hd' : LuaVal.fltOkL arr ∧ LuaVal.fltOkH hash := by simpa only [LuaVal.fltOk] using hd
    have e : (LuaVal.table arr hash).ser ++ rest =
        123 :: (serList arr ++ 124 :: (serHash hash ++ 125 :: rest)) := by
      simp only [ser, List.cons_append, List.append_assoc, List.nil_append]
    have hA := serList_count arr
    have hH := serHash_count hash
    rw [e, parse_table,
      arrLoop_ser arr hd'.1 f _ (serHash hash ++ 125 :: rest) [] (by omega)
        (by simp only [List.length_append, List.length_cons]; omega)]
    simp only [List.reverse_nil, List.nil_append]
    rw [hashLoop_ser hash hd'.2 f _ rest [] (by omega)
        (by simp only [List.length_append, List.length_cons]; omega)]
    rfl
theorem arrLoop_ser : (xs : List LuaVal) → LuaVal.fltOkL xs → ∀ (fuel f : Nat) (rest : Bytes) (acc : List LuaVal),
    (serList xs).length ≤ fuel → 2 * xs.length + 1 ≤ f →
    parse.arrLoop fuel f (serList xs ++ 124 :: rest) acc = some (acc.reverse ++ xs, rest)
  | [], _, fuel, f, rest, acc, hl, hf => by
    obtain ⟨f', rfl⟩ : ∃ f', f = f' + 1 := ⟨f - 1, by omega⟩
    simp only [serList, List.nil_append, arrLoop_end, List.append_nil]
  | x :: xs, hd, fuel, f, rest, acc, hl, hf => by
    have hd' : x.fltOk ∧ LuaVal.fltOkL xs := by simpa only [LuaVal.fltOkL] using hd
    simp only [List.length_cons] at hf
    obtain ⟨f', rfl⟩ : ∃ f', f = f' + 2 := ⟨f - 2, by omega⟩
    cases xs with
    | nil =>
      rw [serList_single] at hl ⊢
      rw [arrLoop_ser_elem (parse_ser x hd'.1 fuel _ hl), arrLoop_end, List.reverse_cons]
    | cons y ys =>
      rw [serList_cons2] at hl ⊢
      simp only [List.length_append, List.length_cons] at hl hf
      rw [List.append_assoc, List.cons_append, arrLoop_ser_elem (parse_ser x hd'.1 fuel _ (by omega)), arrLoop_comma,
        arrLoop_ser (y :: ys) hd'.2 fuel f' rest (x :: acc) (by omega) (by simp only [List.length_cons]; omega),
        List.reverse_cons, List.append_assoc]
      rfl
theorem hashLoop_ser : (hs : List (Bytes × LuaVal)) → LuaVal.fltOkH hs →
    ∀ (fuel f : Nat) (rest : Bytes) (acc : List (Bytes × LuaVal)),
    (serHash hs).length ≤ fuel → 2 * hs.length + 1 ≤ f →
    parse.hashLoop fuel f (serHash hs ++ 125 :: rest) acc = some (acc.reverse ++ hs, rest)
  | [], _, fuel, f, rest, acc, hl, hf => by
    obtain ⟨f', rfl⟩ : ∃ f', f = f' + 1 := ⟨f - 1, by omega⟩
    simp only [serHash, List.nil_append, hashLoop_end, List.append_nil]
  | (k, v) :: ps, hd, fuel, f, rest, acc, hl, hf => by
    have hd' : v.fltOk ∧ LuaVal.fltOkH ps := by simpa only [LuaVal.fltOkH] using hd
    simp only [List.length_cons] at hf
    obtain ⟨f', rfl⟩ : ∃ f', f = f' + 2 := ⟨f - 2, by omega⟩
    cases ps with
    | nil =>
      rw [serHash_single] at hl ⊢
      simp only [List.length_append, List.length_cons] at hl
      rw [List.append_assoc, List.cons_append, hashLoop_ser_elem (parse_ser v hd'.1 fuel _ (by omega)), hashLoop_end,
        List.reverse_cons]
    | cons p ps =>
      rw [serHash_cons2] at hl ⊢
      simp only [List.length_append, List.length_cons] at hl hf
      rw [List.append_assoc, List.cons_append, List.append_assoc, List.cons_append,
        hashLoop_ser_elem (parse_ser v hd'.1 fuel _ (by omega)), hashLoop_comma,
        hashLoop_ser (p :: ps) hd'.2 fuel f' rest ((k, v) :: acc) (by omega) (by simp only [List.length_cons]; omega),
        List.reverse_cons, List.append_assoc]
      rfl
end

theorem ofBytes_ser (v : LuaVal) (h : v.fltOk) : LuaVal.ofBytes v.ser = some v := by
  unfold LuaVal.ofBytes
  have := parse_ser v h (v.ser.length + 1) [] (by omega)
  rw [List.append_nil] at this
  rw [this]

mutual
def LuaVal.noFlt : LuaVal → Bool
  | .flt _ => false
  | .table arr hash => LuaVal.noFltL arr && LuaVal.noFltH hash
  | _ => true
def LuaVal.noFltL : List LuaVal → Bool
  | [] => true
  | x :: xs => x.noFlt && LuaVal.noFltL xs
def LuaVal.noFltH : List (Bytes × LuaVal) → Bool
  | [] => true
  | (_, v) :: rest => v.noFlt && LuaVal.noFltH rest
end

mutual
theorem fltOk_of_noFlt : (v : LuaVal) → v.noFlt = true → v.fltOk
  | .nil, _ | .bool _, _ | .int _, _ | .str _, _ | .pystr _, _ => by simp only [LuaVal.fltOk]
  | .flt d, h => by simp [LuaVal.noFlt] at h
  | .table arr hash, h => by
    simp only [LuaVal.noFlt, Bool.and_eq_true] at h
    simp only [LuaVal.fltOk]
    exact ⟨fltOkL_of_noFlt arr h.1, fltOkH_of_noFlt hash h.2⟩
theorem fltOkL_of_noFlt : (xs : List LuaVal) → LuaVal.noFltL xs = true → LuaVal.fltOkL xs
  | [], _ => by simp only [LuaVal.fltOkL]
  | x :: xs, h => by
    simp only [LuaVal.noFltL, Bool.and_eq_true] at h
    simp only [LuaVal.fltOkL]
    exact ⟨fltOk_of_noFlt x h.1, fltOkL_of_noFlt xs h.2⟩
theorem fltOkH_of_noFlt : (hs : List (Bytes × LuaVal)) → LuaVal.noFltH hs = true → LuaVal.fltOkH hs
  | [], _ => by simp only [LuaVal.fltOkH]
  | (k, v) :: ps, h => by
    simp only [LuaVal.noFltH, Bool.and_eq_true] at h
    simp only [LuaVal.fltOkH]
    exact ⟨fltOk_of_noFlt v h.1, fltOkH_of_noFlt ps h.2⟩
end

end Codec

end FR
